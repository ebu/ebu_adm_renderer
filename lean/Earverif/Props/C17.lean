/-
C17 — Unfinished or truncated BW64 files are never misread.

Property theorems about the byte-level models (`unclosedFile`, `closedFile`, `readFile`).
-/
import Earverif.Proofs.C17

namespace Earverif.Bw64

/-- Any byte string that consists of a RIFF/WAVE
header, well-formed chunks `cs` (none of them a placeholder header), then the eight bytes `data` + `0xFFFFFFFF` and
*anything whatsoever* after them (`rest`: no bytes, fewer than 2^32 - 1, exactly 2^32 - 1, more; any content) is
rejected by the reader with "data chunk size has not been set; the file was not closed properly"
(the `elif` of the size correction in `_read_chunk_header`, `isPlaceholder` in the model). -/
theorem riff_placeholder_rejected (cs : List Chunk) (hok : ∀ c ∈ cs, c.OK none) (s4 rest f : Bytes) (hs : s4.length = 4)
    (hf : f = idRIFF ++ (s4 ++ (idWAVE ++ (encAll cs ++ (idData ++ (ffff ++ rest)))))) :
    readFile f = .error .dataPlaceholder := by
  obtain ⟨fuel, h⟩ := riff_walk cs hok s4 _ f hs hf
  have hh := readChunkHeader_placeholder (f := f) (pre := idRIFF ++ (s4 ++ idWAVE) ++ encAll cs) (rest := rest)
    (by rw [hf]; simp)
  rw [List.length_append, show (idRIFF ++ (s4 ++ idWAVE)).length = 12 by simp [idRIFF, idWAVE, hs]] at hh
  rw [h, readChunks_placeholder hh]
  rfl

theorem unclosedFile_chunks (fmt : Fmt) (c0 : Option (List ChnaEntry)) (a0 b0 : Option Bytes) (force : Bool)
    (ops : List WOp) (hc0 : ChnaOK c0) (ha0 : BytesOK a0) (hb0 : BytesOK b0) :
    unclosedFile fmt c0 a0 b0 force ops = idRIFF ++ (ffff ++ (idWAVE ++
      (encAll ([junkC] ++ fmtC fmt :: preC c0 a0 b0) ++ (idData ++ (ffff ++ dataOf ops))))) ∧
    (∀ c ∈ [junkC] ++ fmtC fmt :: preC c0 a0 b0, c.OK none) ∧
    NoId idData ([junkC] ++ fmtC fmt :: preC c0 a0 b0) := by
  have hF : ∀ x ∈ [junkC], x.id = idJUNK := List.forall_mem_singleton.2 rfl
  refine ⟨?_, ?_, bodiesOf_eq_nil.1 (by simp (decide := true) [preC, bodiesOf_optChnaC, bodiesOf_optMetaC, junkC, fmtC])⟩
  · rw [unclosedFile_layout, preB_eq, head0, fmtChunk_eq, junkChunk_eq]; simp
  · simp only [List.forall_mem_append, List.forall_mem_singleton, List.forall_mem_cons]
    exact ⟨junkC_ok, fmtC_ok none (fun _ hd => nomatch hd) fmt, preC_ok none (fun _ hd => nomatch hd) hc0 ha0 hb0⟩

/-- **C17 (unfinished files).**  The buffer left behind by a writer that was never closed — after any
history of `write` and setter calls, whatever chunks were given to the constructor or are still pending,
with or without `forceBw64` (an unclosed buffer always starts with `RIFF`: only `close()` rewrites the header),
and **any amount of data** — is rejected by the reader: the `data` header still carries the placeholder size
`0xFFFFFFFF`, which `_read_chunk_header` refuses in a plain RIFF file ("data chunk size has not been set; the
file was not closed properly").  Without that test the verdict would depend on the placeholder chunk ending after
the end of the file, which fails from `2^32 - 1` data bytes on; harness/c17.py runs those sizes on the real code as
sparse files (`big_unclosed_probe`). -/
theorem C17_unclosed (fmt : Fmt) (c0 : Option (List ChnaEntry)) (a0 b0 : Option Bytes) (force : Bool)
    (ops : List WOp) (hc0 : ChnaOK c0) (ha0 : BytesOK a0) (hb0 : BytesOK b0) :
    readFile (unclosedFile fmt c0 a0 b0 force ops) = .error .dataPlaceholder := by
  obtain ⟨hf, hok, -⟩ := unclosedFile_chunks fmt c0 a0 b0 force ops hc0 ha0 hb0
  exact riff_placeholder_rejected _ hok ffff (dataOf ops) _ rfl hf

/-- Every prefix (the whole string included) of a plain RIFF file whose chunks
`cs` contain no `data` chunk and are followed by the placeholder `data` header is rejected.  (Which error it is
is not stated; the proof goes through them: cut inside the 12-byte header `struct.error`; inside a chunk of `cs`
"chunk ends after the end of the file" or, inside a chunk header, "required chunk data not found"; inside the
placeholder header the same; anywhere after it "data chunk size has not been set".) -/
theorem riff_placeholder_prefix_rejected (cs : List Chunk) (hok : ∀ c ∈ cs, c.OK none) (hno : NoId idData cs)
    (s4 rest f : Bytes) (hs : s4.length = 4)
    (hf : f = idRIFF ++ (s4 ++ (idWAVE ++ (encAll cs ++ (idData ++ (ffff ++ rest)))))) (k : Nat) :
    ∃ e, readFile (f.take k) = .error e := by
  by_cases hk12 : k < 12
  · exact ⟨.struct, by simp only [readFile, readHead_riff_short hf hs hk12]⟩
  have h12 : (idRIFF ++ (s4 ++ idWAVE)).length = 12 := by simp [idRIFF, idWAVE, hs]
  have hf' : f = (idRIFF ++ (s4 ++ idWAVE)) ++ (encAll cs ++ (idData ++ (ffff ++ rest))) := by rw [hf]; simp
  have hfk : f.take k = (idRIFF ++ (s4 ++ idWAVE)) ++ (encAll cs ++ (idData ++ (ffff ++ rest))).take (k - 12) := by
    rw [hf', List.take_append, List.take_of_length_le (by omega), h12]
  have hhead : readHead (f.take k) = .ok (idRIFF, none, 12) :=
    readHead_riff (s4 := s4) (rest := (encAll cs ++ (idData ++ (ffff ++ rest))).take (k - 12)) (by rw [hfk]; simp) hs
  by_cases hk1 : k - 12 < (encAll cs).length
  · -- cut inside the chunks before the data header
    rcases walk_cut none cs hok hf' (by omega) (k := k) (by omega) (by omega) with he | ⟨A', tail', w, hw, hg, hsub⟩
    · rw [h12] at he
      exact ⟨.chunkEnd, by simp only [readFile, hhead, he]⟩
    · rw [h12] at hw
      simp only [readFile, hhead, hw]
      exact ⟨_, finishRead_noData (((hsub _ none (bodiesOf_eq_nil.2 hno)).elim id id).lookup_none _ [])⟩
  · -- every chunk of `cs` is complete; `m` bytes of the placeholder header and what follows remain
    have hfk' : f.take k = (idRIFF ++ (s4 ++ idWAVE)) ++
        (encAll cs ++ (idData ++ (ffff ++ rest)).take (k - 12 - (encAll cs).length)) := by
      rw [hfk, List.take_append, List.take_of_length_le (by omega)]
    generalize k - 12 - (encAll cs).length = m at hfk'
    by_cases hm : m < 8
    · -- cut inside the placeholder header: all chunks walked, EOF, no data chunk
      have hlen : (f.take k).length = 12 + (encAll cs).length + ((idData ++ (ffff ++ rest)).take m).length := by
        rw [hfk']; simp only [List.length_append, h12]; omega
      have : ((idData ++ (ffff ++ rest)).take m).length ≤ m := by simp only [List.length_take]; omega
      obtain ⟨fuel, h⟩ := riff_walk cs hok s4 ((idData ++ (ffff ++ rest)).take m) (f.take k) hs (by rw [hfk']; simp)
      rw [h, readChunks_eof (by omega)]
      exact ⟨_, finishRead_noData (by rw [tlookup_walkTable_absent _ _ hno]; rfl)⟩
    · -- the placeholder header is complete
      refine ⟨_, riff_placeholder_rejected cs hok s4 (rest.take (m - 8)) _ hs ?_⟩
      rw [hfk', show idData ++ (ffff ++ rest) = (idData ++ ffff) ++ rest by simp, List.take_append,
        List.take_of_length_le (show (idData ++ ffff).length ≤ m by simp [idData, ffff]; omega)]
      simp [idData, ffff]

/-- **C17 (unfinished files, truncated as well).**  Every prefix of the buffer of a writer that was never closed —
what is on disk after a crash that also lost the tail of the buffer — is rejected. -/
theorem C17_unclosed_prefix (fmt : Fmt) (c0 : Option (List ChnaEntry)) (a0 b0 : Option Bytes) (force : Bool)
    (ops : List WOp) (hc0 : ChnaOK c0) (ha0 : BytesOK a0) (hb0 : BytesOK b0) (k : Nat) :
    ∃ e, readFile ((unclosedFile fmt c0 a0 b0 force ops).take k) = .error e := by
  obtain ⟨hf, hok, hno⟩ := unclosedFile_chunks fmt c0 a0 b0 force ops hc0 ha0 hb0
  exact riff_placeholder_prefix_rejected _ hok hno ffff (dataOf ops) _ rfl hf k

/-- `C17_unclosed` read at the sizes where the placeholder `0xFFFFFFFF` describes a chunk that ends at or inside
the file: with `2^32 - 1` or more data bytes the unfinished file is rejected like any other.  (On the real code the
same sizes are run as sparse files on every check, `big_unclosed_probe`.) -/
theorem unclosed_rejected_any_size (fmt : Fmt) (c0 : Option (List ChnaEntry)) (a0 b0 : Option Bytes) (force : Bool)
    (ops : List WOp) (hc0 : ChnaOK c0) (ha0 : BytesOK a0) (hb0 : BytesOK b0)
    (_hdata : 2 ^ 32 - 1 ≤ (dataOf ops).length) :
    readFile (unclosedFile fmt c0 a0 b0 force ops) = .error .dataPlaceholder :=
  C17_unclosed fmt c0 a0 b0 force ops hc0 ha0 hb0

/-- `closedFile_chunks` with the header part `pre` (12 bytes for RIFF, 48 for BW64 including the ds64 chunk) seen from
the reader: `_read_riff_chunk`/`_read_ds64_chunk` accept it exactly when it is complete. -/
theorem closedFile_written (fmt : Fmt) (c0 : Option (List ChnaEntry)) (a0 b0 : Option Bytes) (force : Bool)
    (ops : List WOp)
    (hc0 : ChnaOK c0) (hcF : ChnaOK (pendChna c0 ops))
    (ha0 : BytesOK a0) (haF : BytesOK (pendAxml a0 ops))
    (hb0 : BytesOK b0) (hbF : BytesOK (pendBext b0 ops))
    (hdata : (dataOf ops).length < 2 ^ 63) :
    ∃ (pre : Bytes) (F : List Chunk) (ds : Option Ds64) (ff : Bytes) (sz : Nat),
      closedFile fmt c0 a0 b0 force ops = pre ++ encAll (F ++ bodyC fmt c0 a0 b0 sz (dataOf ops)
        (pad (dataOf ops).length) (pendChna c0 ops) (pendAxml a0 ops) (pendBext b0 ops)) ∧
      (∀ x ∈ F, x.id = idJUNK) ∧
      (∀ x ∈ F ++ bodyC fmt c0 a0 b0 sz (dataOf ops) (pad (dataOf ops).length) (pendChna c0 ops)
        (pendAxml a0 ops) (pendBext b0 ops), x.OK ds) ∧
      (∀ d, ds = some d → d.dataSize = (dataOf ops).length) ∧
      12 ≤ pre.length ∧
      (∀ k, pre.length ≤ k → readHead ((closedFile fmt c0 a0 b0 force ops).take k) = .ok (ff, ds, pre.length)) ∧
      (∀ k, k < pre.length → readHead ((closedFile fmt c0 a0 b0 force ops).take k) = .error .struct) := by
  obtain ⟨pre, F, ds, ff, sz, hf, hF, hok, hh⟩ := closedFile_chunks fmt c0 a0 b0 force ops hc0 hcF ha0 haF hb0 hbF hdata
  refine ⟨pre, F, ds, ff, sz, hf, hF, hok, hh.dataSize, hh.length_ge, ?_, ?_⟩
  · intro k hk
    rw [hf, List.take_append, List.take_of_length_le hk]
    exact hh.readHead_eq _
  · intro k hk
    rw [hf]
    exact hh.readHead_take _ hk

/-- **C17 (truncated files).**  For every finalised file the writer model produces (same quantifier as
`C09_roundtrip`) and every cut position `k` before its end, the reader either rejects the first `k` bytes
or accepts them with the original format, the original frame count, exactly the original sample bytes, and
each of chna / axml / bext either absent or identical to what the complete file holds — never another frame
count, never a partial chunk. -/
theorem C17_truncation (fmt : Fmt) (c0 : Option (List ChnaEntry)) (a0 b0 : Option Bytes) (force : Bool)
    (ops : List WOp)
    (hfmt : FmtOK fmt)
    (hc0 : ChnaOK c0) (hcF : ChnaOK (pendChna c0 ops))
    (ha0 : BytesOK a0) (haF : BytesOK (pendAxml a0 ops))
    (hb0 : BytesOK b0) (hbF : BytesOK (pendBext b0 ops))
    (hframes : (dataOf ops).length % fmt.blockAlign = 0)
    (hdata : (dataOf ops).length < 2 ^ 63)
    (k : Nat) (hk : k < (closedFile fmt c0 a0 b0 force ops).length) :
    TruncOK ⟨1, fmt.channels, fmt.rate, fmt.bits⟩ ((dataOf ops).length / fmt.blockAlign) (dataOf ops)
      (effChna c0 (pendChna c0 ops)) (effMeta a0 (pendAxml a0 ops)) (effMeta b0 (pendBext b0 ops))
      (readFile ((closedFile fmt c0 a0 b0 force ops).take k)) := by
  obtain ⟨pre, F, ds, ff, sz, hf, hF, hok, hds, hpre, hhead, hshort⟩ :=
    closedFile_written fmt c0 a0 b0 force ops hc0 hcF ha0 haF hb0 hbF hdata
  by_cases hkp : k < pre.length
  · simp only [readFile, hshort k hkp]
    trivial
  · simp only [readFile, hhead k (by omega)]
    exact trunc_body (ff := ff) hfmt hc0 hcF hf hF hok hds hframes (by omega) k (by omega) hk

/-! ### non-vacuity and concrete behaviour of the model on unfinished / truncated files -/

example : ChnaOK none ∧ BytesOK (some exAxml) ∧ BytesOK none :=
  ⟨trivial, by show exAxml.length < 2 ^ 32; decide, trivial⟩

set_option maxRecDepth 100000 in
/-- an unfinished file (odd axml at open, one write, bext pending; forceBw64 either way) is rejected -/
example : readFile (unclosedFile exFmt none (some exAxml) none true [.write exData, .setBext (some exBext)])
      = .error .dataPlaceholder ∧
    readFile (unclosedFile exFmt none (some exAxml) none false [.write exData, .setBext (some exBext)])
      = .error .dataPlaceholder := by decide +kernel

set_option maxRecDepth 100000 in
/-- prefixes of that unfinished file: cut in the RIFF header, inside the axml body, inside the data header, after it -/
example :
    let f := unclosedFile exFmt none (some exAxml) none true [.write exData, .setBext (some exBext)]
    f.length = 101 ∧ readFile (f.take 11) = .error .struct ∧ readFile (f.take 82) = .error .chunkEnd ∧
    readFile (f.take 75) = .error .missingChunk ∧ readFile (f.take 91) = .error .missingChunk ∧
    readFile (f.take 92) = .error .dataPlaceholder ∧ readFile (f.take 100) = .error .dataPlaceholder := by decide +kernel

/-- a crafted plain RIFF file: header, `fmt `, `data` + 0xFFFFFFFF + two sample bytes -/
def exCrafted (rest : Bytes) : Bytes :=
  idRIFF ++ (le 4 0 ++ (idWAVE ++ (encAll [fmtC ⟨1, 48000, 16⟩] ++ (idData ++ (ffff ++ rest)))))

set_option maxRecDepth 100000 in
/-- the model computes on it: rejected with the new error whatever follows the header (nothing, one frame); with the
size field one less (0xFFFFFFFE) it is the old "chunk ends after the end of the file"; with the header cut short the
file has no data chunk; and the same eight bytes in a BW64 file (where the writer's `close()` leaves them) are fine -/
example : readFile (exCrafted []) = .error .dataPlaceholder ∧ readFile (exCrafted [1, 2]) = .error .dataPlaceholder ∧
    readFile (idRIFF ++ (le 4 0 ++ (idWAVE ++ (encAll [fmtC ⟨1, 48000, 16⟩] ++ (idData ++ (le 4 4294967294 ++ [1, 2]))))))
      = .error .chunkEnd ∧
    readFile ((exCrafted []).take 43) = .error .missingChunk ∧
    readFile (closedFile ⟨1, 48000, 16⟩ none none none true [.write [1, 2]]) =
      .ok (⟨idBW64, ⟨1, 1, 48000, 16⟩, 1, [1, 2], none, none, none⟩, []) ∧
    readAt (closedFile ⟨1, 48000, 16⟩ none none none true [.write [1, 2]]) 72 8 = idData ++ ffff := by decide +kernel

/-- a finalised RIFF file: 12 + 36 + 24, axml 8+3+1 at open, data 8+9+1, bext 8+5+1 late: 116 bytes -/
def exFile : Bytes := closedFile exFmt none (some exAxml) none false [.write exData, .setBext (some exBext)]

set_option maxRecDepth 100000 in
example : exFile.length = 116 := by decide +kernel

set_option maxRecDepth 100000 in
/-- cut inside the late bext chunk: rejected; cut right after the data chunk's pad byte: accepted with the
original frames and without bext; cut before the data chunk's pad byte: accepted with a warning;
cut inside the data: rejected; cut inside the bext header: accepted without bext; cut inside the data header: rejected (no data chunk);
cut inside the RIFF header: rejected -/
example :
    readFile (exFile.take 110) = .error .chunkEnd ∧
    readFile (exFile.take 102) = .ok (⟨idRIFF, ⟨1, 3, 48000, 24⟩, 1, exData, none, some exAxml, none⟩, []) ∧
    readFile (exFile.take 101) = .ok (⟨idRIFF, ⟨1, 3, 48000, 24⟩, 1, exData, none, some exAxml, none⟩, [.dataPad]) ∧
    readFile (exFile.take 100) = .error .chunkEnd ∧
    readFile (exFile.take 106) = .ok (⟨idRIFF, ⟨1, 3, 48000, 24⟩, 1, exData, none, some exAxml, none⟩, []) ∧
    readFile (exFile.take 90) = .error .missingChunk ∧
    readFile (exFile.take 10) = .error .struct := by decide +kernel

end Earverif.Bw64
