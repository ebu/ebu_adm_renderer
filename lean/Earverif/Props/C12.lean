/- C12 — loudspeaker gains vary continuously with source direction.  Over ℝ, for every loudspeaker position matrix:

   * piecewise: each handler and wrapper is continuous on its acceptance set (`triplet_continuousOn`, `stereo_continuousOn`,
     `downmix_continuousOn`), and on a shared edge the pair of gains is determined (`edge_unique`, `edge_exists`,
     `triplet_on_edge`, `edge_agreement`; the quad and the n-gon on their edges) — Proofs/C12Paste.lean;
   * pasting along the first-accept loop: `firstAccept_continuousOn` and, when the handlers agree only up to `η` on the overlaps
     (the code's acceptance slack −1e-11), `firstAccept_jump_bound`; both on the model's `PointSourcePanner.handle`
     (`panner_continuousOn_of_regions`, `panner_jump_bound_of_regions`);
   * slack 0 (the idealisation "exact acceptance"): an all-triplet panner, the virtual n-gon, and panners of both are continuous
     on the union of their cones under the combinatorial hypotheses `MeetInSharedFace` / `MeetInOuterFace`
     (`panner_continuousOn_triplets_partial`, `ngon_handle_continuousOn`, `panner_continuousOn_tri_ngon_partial`; lemmas in
     Proofs/C12Ngon.lean);
   * the code's slack: where two triplets both accept their outputs differ by `O(1e-11)` (`triplet_sliver_bound`; any
     arrangement: `pair_gain_bound`, `pair_out_bound`, Proofs/C12Faces.lean), so a panner of triplets is continuous up to
     jumps of that size (`panner_jump_bound_triplets`);
   * the regenerated tables: `faces_tables_ok` — the kernel decides, in exact integer arithmetic, that every pair of triplet
     cells of each nominal layout is separated strictly by a plane through its shared positions, with the constants `alpha`,
     `kappa` (certificate `Gen/C12_Faces.lean`, checker `Model/PointSourceFaces.lean`, soundness `Faces.faces_sound`); hence the
     `tables_*` instances.  In `tables_triplet_panner_jump_bound` the jump is `45(3·alpha+1)·kappa·1e-11`; no theorem bounds
     `alpha`, `kappa`: with the literal values of the regenerated certificates (at most 5 and 30) it is below `2.2e-7`;
   * the quad on the cone of its corners: under C05's sign certificate the pan value `GainCalc.quadRoot` selects is the root
     in [0, 1] (`axis_unique_root`), hence continuous (`continuousOn_of_unique_zero`), and so is `QuadRegion.handle`
     (`quad_handle_continuousOn_cone_partial`, `tables_quad_continuousOn_cone_partial`).

   PARTIAL: `C12_partial` is a conjunction of 44 of these theorems under one name (of the names harness/c12.py audits, `axis_unique_root`,
   `continuousOn_of_unique_zero`, `unit_root_unique`, `quad_two_valued_witness`, `tripletTR_regions`, `Faces.faces_sound` stand beside
   it, as do the lemmas between the theorems).  NOT proved: (a) the GLOBAL statement for a whole layout's panner:
   every nominal layout has QuadRegions, and the quad is only shown continuous on its corner cone — its acceptance set under
   the code's tolerances (roots in (−1e-10, 1+1e-10), strict sign test) is larger and not closed, and the agreement of a quad
   with its neighbours on shared edges is proved only given the roots (`quad_edge_agreement`), so quads are not inside the
   pasted panner; (b) for n-gons the code's slack −1e-11 (the n-gon theorems, and `tables_tri_ngon_continuousOn` — the Triplet and
   VirtualNgon regions of every nominal layout as one panner — are at slack 0; the sliver bound is proved for Triplet regions
   only); (c) coverage is C05's (`cover_layouts`), not repeated here.  (a) and (b)
   are searched by harness/c12.py (bisection to 1e-9 rad on the real panner). -/
import Earverif.Props.C05
import Earverif.Proofs.C12Paste
import Earverif.Proofs.C12Ngon
import Earverif.Proofs.C12Faces
import Earverif.Gen.C12_Faces
import Mathlib.Analysis.SpecialFunctions.Pow.Continuity
import Mathlib.Topology.Algebra.Order.Field
import Mathlib.Tactic.FinCases
import Mathlib.Tactic.FunProp
import Mathlib.Topology.Order.Compact
import Mathlib.Topology.Compactness.Compact

namespace Earverif.PointSource

open Set Filter

/-- `firstAccept_paste` (Proofs/C12Paste.lean, described there) under the name the property list uses -/
theorem firstAccept_continuousOn {X Y : Type} [TopologicalSpace X] [TopologicalSpace Y] (S : Set X)
    (rs : List (Set X × (X → Y))) (d : Y)
    (hcl : ∀ r ∈ rs, ∃ C, IsClosed C ∧ r.1 = C ∩ S)
    (hc : ∀ r ∈ rs, ContinuousOn r.2 r.1)
    (hag : ∀ r ∈ rs, ∀ r' ∈ rs, ∀ p, p ∈ r.1 → p ∈ r'.1 → r.2 p = r'.2 p) :
    ContinuousOn (fun p => (firstAccept (candidates rs p)).getD d) (accUnion rs) ∧
      (∀ r ∈ rs, ∀ p ∈ r.1, firstAccept (candidates rs p) = some (r.2 p)) ∧
      (∀ p, p ∉ accUnion rs → firstAccept (candidates rs p) = none) :=
  firstAccept_paste S rs d hcl hc hag

/-- quantitative pasting.  As `firstAccept_continuousOn`, but the handlers only
    agree up to `η` on the overlaps (`dist (g_i p) (g_j p) ≤ η` on `A_i ∩ A_j`) — the situation of the real code, whose
    acceptance slack −1e-11 makes neighbouring regions overlap in slivers.  Then around every point `x` of the union the
    first-accept function varies by at most `η + δ`, for every `δ > 0`: its jumps are bounded by `η`. -/
theorem firstAccept_jump_bound {X Y : Type} [TopologicalSpace X] [PseudoMetricSpace Y] (S : Set X)
    (rs : List (Set X × (X → Y))) (d : Y) (η : ℝ)
    (hcl : ∀ r ∈ rs, ∃ C, IsClosed C ∧ r.1 = C ∩ S)
    (hc : ∀ r ∈ rs, ContinuousOn r.2 r.1)
    (hη : ∀ r ∈ rs, ∀ r' ∈ rs, ∀ p, p ∈ r.1 → p ∈ r'.1 → dist (r.2 p) (r'.2 p) ≤ η) :
    ∀ x ∈ accUnion rs, ∀ δ > 0, ∀ᶠ y in nhdsWithin x (accUnion rs),
      dist ((firstAccept (candidates rs y)).getD d) ((firstAccept (candidates rs x)).getD d) ≤ η + δ := by
  intro x hx δ hδ
  obtain ⟨r0, hr0, hx0, hFx⟩ := firstAccept_candidates_some rs x hx
  have hxS : x ∈ S := by
    obtain ⟨C, _, hCe⟩ := hcl r0 hr0
    rw [hCe] at hx0; exact hx0.2
  have hev : ∀ r ∈ rs, ∀ᶠ y in nhdsWithin x (accUnion rs), y ∈ r.1 → (x ∈ r.1 ∧ dist (r.2 y) (r.2 x) < δ) := by
    intro r hr
    by_cases hxr : x ∈ r.1
    · have hcont := hc r hr x hxr
      have h1 : ∀ᶠ y in nhdsWithin x r.1, dist (r.2 y) (r.2 x) < δ := hcont (Metric.ball_mem_nhds _ hδ)
      rw [eventually_nhdsWithin_iff] at h1
      refine nhdsWithin_le_nhds ?_
      filter_upwards [h1] with y hy hyr
      exact ⟨hxr, hy hyr⟩
    · obtain ⟨C, hC, hCe⟩ := hcl r hr
      have hxC : x ∉ C := fun h => hxr (by rw [hCe]; exact ⟨h, hxS⟩)
      refine nhdsWithin_le_nhds ?_
      filter_upwards [hC.isOpen_compl.mem_nhds hxC] with y hy hyr
      rw [hCe] at hyr
      exact absurd hyr.1 hy
  have hall := (Filter.eventually_all_finite (List.finite_toSet rs)).mpr hev
  filter_upwards [hall, self_mem_nhdsWithin] with y hy hyU
  obtain ⟨r, hr, hyr, hFy⟩ := firstAccept_candidates_some rs y hyU
  obtain ⟨hxr, hd⟩ := hy r hr hyr
  rw [hFy, hFx]
  simp only [Option.getD_some]
  calc dist (r.2 y) (r0.2 x) ≤ dist (r.2 y) (r.2 x) + dist (r.2 x) (r0.2 x) := dist_triangle _ _ _
    _ ≤ δ + η := add_le_add hd.le (hη r hr r0 hr0 x hxr hx0)
    _ = η + δ := add_comm _ _

/-- non-vacuity of the pasting hypotheses: `x ↦ max x 0` pasted from `0` on `(-∞, 0]` and `x` on `[0, ∞)` -/
example : let rs : List (Set ℝ × (ℝ → ℝ)) := [(Iic 0, fun _ => 0), (Ici 0, fun x => x)]
    (∀ r ∈ rs, ∃ C, IsClosed C ∧ r.1 = C ∩ univ) ∧ (∀ r ∈ rs, ContinuousOn r.2 r.1) ∧
      (∀ r ∈ rs, ∀ r' ∈ rs, ∀ p, p ∈ r.1 → p ∈ r'.1 → r.2 p = r'.2 p) ∧
      firstAccept (candidates rs 2) = some 2 := by
  intro rs
  refine ⟨?_, ?_, ?_, ?_⟩
  · intro r hr
    simp only [rs, List.mem_cons, List.mem_nil_iff, or_false] at hr
    rcases hr with rfl | rfl
    · exact ⟨Iic 0, isClosed_Iic, by simp⟩
    · exact ⟨Ici 0, isClosed_Ici, by simp⟩
  · intro r hr
    simp only [rs, List.mem_cons, List.mem_nil_iff, or_false] at hr
    rcases hr with rfl | rfl
    · exact continuousOn_const
    · exact continuousOn_id
  · intro r hr r' hr' p hp hp'
    simp only [rs, List.mem_cons, List.mem_nil_iff, or_false] at hr hr'
    rcases hr with rfl | rfl <;> rcases hr' with rfl | rfl <;> simp only [mem_Iic, mem_Ici] at hp hp' ⊢ <;> linarith
  · have h : ¬ ((2 : ℝ) ≤ 0) := by norm_num
    simp [rs, candidates, firstAccept, h]

/-- For GIVEN pan values `x`, `y` the only test `QuadRegion.handle` makes on the direction is the strict inequality
    `pvs·positions·p > 0`: an OPEN half-space.  Whether the quad's true acceptance set (directions for which
    `pan_axis` finds a root in `(−1e-10, 1+1e-10)` on both axes, with the roots `np.roots` happens to select, and the
    sign test passes) is closed in the directions ≠ 0 depends on that root selection, which is a parameter of the model:
    NOT proved (and for non-planar quads the selected root is not even a continuous function of the direction:
    `quad_two_valued_witness`). -/
theorem quad_accept_isOpen_of_roots (q : QuadRegion ℝ) (x y : ℝ) :
    IsOpen {p : Vec3 ℝ | q.handle (some x) (some y) p ≠ none} := by
  set v := comb (scatter (zeros 4) q.order (QuadRegion.weights x y)) q.positions with hv
  have : {p : Vec3 ℝ | q.handle (some x) (some y) p ≠ none} = {p | 0 < dot3 v p} := by
    ext p
    simp only [mem_ofPred_eq, QuadRegion.handle, ← hv, zero_real]
    by_cases h : dot3 v p ≤ 0
    · simp [h, not_lt.mpr h]
    · simp [h, not_le.mp h]
  rw [this]
  obtain ⟨v0, v1, v2⟩ := v
  simp only [dot3]
  exact isOpen_lt continuous_const (by fun_prop)

/-- answer of region number `k` of a panner at `p` (`None` if it rejects); `ρ p` = the quad roots at `p` -/
noncomputable def regionAnswer (regions : List (Region ℝ)) (n : Nat) (ρ : Vec3 ℝ → Nat → Option ℝ × Option ℝ) (k : Nat)
    (p : Vec3 ℝ) : Option (List ℝ) :=
  (PointSourcePanner.results regions n (ρ p) p).getD k none

theorem results_eq_range (regions : List (Region ℝ)) (n : Nat) (ρ : Vec3 ℝ → Nat → Option ℝ × Option ℝ) (p : Vec3 ℝ) :
    PointSourcePanner.results regions n (ρ p) p = (List.range regions.length).map fun k => regionAnswer regions n ρ k p := by
  have hlen : (PointSourcePanner.results regions n (ρ p) p).length = regions.length := by
    simp [PointSourcePanner.results]
  rw [← hlen]
  exact (range_map_getD _ none).symm

noncomputable def pannerRegions (regions : List (Region ℝ)) (n : Nat) (ρ : Vec3 ℝ → Nat → Option ℝ × Option ℝ)
    (S : Set (Vec3 ℝ)) (c : Nat) : List (Set (Vec3 ℝ) × (Vec3 ℝ → ℝ)) :=
  (List.range regions.length).map fun k =>
    ({p | regionAnswer regions n ρ k p ≠ none} ∩ S, fun p => ((regionAnswer regions n ρ k p).map (·.getD c 0)).getD 0)

theorem pannerRegions_union (regions : List (Region ℝ)) (n : Nat) (ρ : Vec3 ℝ → Nat → Option ℝ × Option ℝ)
    (S : Set (Vec3 ℝ)) (c : Nat) :
    accUnion (pannerRegions regions n ρ S c) = {p | p ∈ S ∧ ∃ k < regions.length, regionAnswer regions n ρ k p ≠ none} := by
  ext p
  simp only [accUnion, pannerRegions, List.mem_map, List.mem_range, mem_ofPred_eq]
  constructor
  · rintro ⟨r, ⟨k, hk, rfl⟩, hp⟩; exact ⟨hp.2, k, hk, hp.1⟩
  · rintro ⟨hS, k, hk, hp⟩; exact ⟨_, ⟨k, hk, rfl⟩, hp, hS⟩

theorem panner_eq_candidates (regions : List (Region ℝ)) (n : Nat) (ρ : Vec3 ℝ → Nat → Option ℝ × Option ℝ)
    (S : Set (Vec3 ℝ)) (c : Nat) (p : Vec3 ℝ) (hS : p ∈ S) :
    (PointSourcePanner.handle regions n (ρ p) p).map (·.getD c 0) =
      firstAccept (candidates (pannerRegions regions n ρ S c) p) := by
  simp only [PointSourcePanner.handle, firstAccept_map, results_eq_range, List.map_map]
  congr 1
  simp only [pannerRegions, candidates, List.map_map]
  apply List.map_congr_left
  intro k _
  simp only [Function.comp]
  by_cases hk : regionAnswer regions n ρ k p = none
  · have : p ∉ ({p | regionAnswer regions n ρ k p ≠ none} ∩ S) := fun hm => hm.1 hk
    rw [if_neg this, hk]; rfl
  · have : p ∈ ({p | regionAnswer regions n ρ k p ≠ none} ∩ S) := ⟨hk, hS⟩
    rw [if_pos this]
    obtain ⟨v, hv⟩ := Option.ne_none_iff_exists'.mp hk
    rw [hv]; rfl

/-- `firstAccept_continuousOn` transported to the model of `PointSourcePanner.handle`, for ANY list of regions
    (triplets, n-gons, quads with root selection `ρ`) and the code's own thresholds, per output channel `c`.
    (For triplets the first two hypotheses are `triplet_accept_isClosed` / `triplet_continuousOn`; the third holds
    exactly only for slack 0 — `shared_face_agreement` — and up to `C·1e-11` for the code — `triplet_sliver_bound`,
    for which see `panner_jump_bound_of_regions`.) -/
theorem panner_continuousOn_of_regions (regions : List (Region ℝ)) (n : Nat)
    (ρ : Vec3 ℝ → Nat → Option ℝ × Option ℝ) (S : Set (Vec3 ℝ)) (c : Nat)
    (hcl : ∀ k < regions.length, ∃ C, IsClosed C ∧ {p | regionAnswer regions n ρ k p ≠ none} ∩ S = C ∩ S)
    (hc : ∀ k < regions.length, ContinuousOn (fun p => ((regionAnswer regions n ρ k p).map (·.getD c 0)).getD 0)
      ({p | regionAnswer regions n ρ k p ≠ none} ∩ S))
    (hag : ∀ k < regions.length, ∀ j < regions.length, ∀ p ∈ S, regionAnswer regions n ρ k p ≠ none →
      regionAnswer regions n ρ j p ≠ none →
      (regionAnswer regions n ρ k p).map (·.getD c 0) = (regionAnswer regions n ρ j p).map (·.getD c 0)) :
    ContinuousOn (fun p => ((PointSourcePanner.handle regions n (ρ p) p).map (·.getD c 0)).getD 0)
      {p | p ∈ S ∧ ∃ k < regions.length, regionAnswer regions n ρ k p ≠ none} := by
  have main := firstAccept_paste S (pannerRegions regions n ρ S c) 0
    (List.forall_mem_map.mpr fun k hk => hcl k (List.mem_range.mp hk))
    (List.forall_mem_map.mpr fun k hk => hc k (List.mem_range.mp hk))
    (List.forall_mem_map.mpr fun k hk => List.forall_mem_map.mpr fun j hj p hp hp' => by
      simp only [hag k (List.mem_range.mp hk) j (List.mem_range.mp hj) p hp.2 hp.1 hp'.1])
  rw [pannerRegions_union] at main
  refine main.1.congr ?_
  intro p hp
  simp only [panner_eq_candidates regions n ρ S c p hp.1]

/-- quantitative version ("continuous up to jumps of η"): as `panner_continuousOn_of_regions`, but two regions that both
    accept may differ by up to `η` on channel `c` (for the code's slack: `η = C·1e-11` on the slivers between edge-sharing
    triplets, `triplet_sliver_bound`). -/
theorem panner_jump_bound_of_regions (regions : List (Region ℝ)) (n : Nat)
    (ρ : Vec3 ℝ → Nat → Option ℝ × Option ℝ) (S : Set (Vec3 ℝ)) (c : Nat) (η : ℝ)
    (hcl : ∀ k < regions.length, ∃ C, IsClosed C ∧ {p | regionAnswer regions n ρ k p ≠ none} ∩ S = C ∩ S)
    (hc : ∀ k < regions.length, ContinuousOn (fun p => ((regionAnswer regions n ρ k p).map (·.getD c 0)).getD 0)
      ({p | regionAnswer regions n ρ k p ≠ none} ∩ S))
    (hη : ∀ k < regions.length, ∀ j < regions.length, ∀ p ∈ S, regionAnswer regions n ρ k p ≠ none →
      regionAnswer regions n ρ j p ≠ none →
      |((regionAnswer regions n ρ k p).map (·.getD c 0)).getD 0 - ((regionAnswer regions n ρ j p).map (·.getD c 0)).getD 0| ≤ η) :
    let U := {p | p ∈ S ∧ ∃ k < regions.length, regionAnswer regions n ρ k p ≠ none}
    let G := fun p => ((PointSourcePanner.handle regions n (ρ p) p).map (·.getD c 0)).getD 0
    ∀ x ∈ U, ∀ δ > 0, ∀ᶠ y in nhdsWithin x U, |G y - G x| ≤ η + δ := by
  intro U G x hx δ hδ
  have main := firstAccept_jump_bound S (pannerRegions regions n ρ S c) 0 η
    (List.forall_mem_map.mpr fun k hk => hcl k (List.mem_range.mp hk))
    (List.forall_mem_map.mpr fun k hk => hc k (List.mem_range.mp hk))
    (List.forall_mem_map.mpr fun k hk => List.forall_mem_map.mpr fun j hj p hp hp' => by
      rw [Real.dist_eq]
      exact hη k (List.mem_range.mp hk) j (List.mem_range.mp hj) p hp.2 hp.1 hp'.1)
  rw [pannerRegions_union] at main
  have hx' := main x hx δ hδ
  filter_upwards [hx', self_mem_nhdsWithin] with y hy hyU
  rw [Real.dist_eq] at hy
  simp only [G, panner_eq_candidates regions n ρ S c y hyU.1, panner_eq_candidates regions n ρ S c x hx.1]
  exact hy

def exP : Mat3 ℝ := ((1, 0, 0), (0, 1, 0), (0, 0, 1))
/-- the neighbour of `exP` across the edge e₁ e₂ (third loudspeaker mirrored: α = β = 0, γ = 1) -/
def exQ : Mat3 ℝ := ((1, 0, 0), (0, 1, 0), (0, 0, -1))

theorem pv_exP (p : Vec3 ℝ) : Triplet.pv exP p = p := by
  obtain ⟨x, y, z⟩ := p
  simp [Triplet.pv, vecMat, inv3, det3, exP]

theorem pv_exQ (p : Vec3 ℝ) : Triplet.pv exQ p = (p.1, p.2.1, -p.2.2) := by
  obtain ⟨x, y, z⟩ := p
  simp [Triplet.pv, vecMat, inv3, det3, exQ]

theorem ex_meet : MeetInSharedFace ([0, 1, 2], exP) ([0, 1, 3], exQ) ∧
    MeetInSharedFace ([0, 1, 3], exQ) ([0, 1, 2], exP) := by
  have h : MeetInSharedFace ([0, 1, 2], exP) ([0, 1, 3], exQ) := by
    intro p hp ha ha'
    simp only [Triplet.acceptsE, pv_exP, pv_exQ] at ha ha'
    obtain ⟨x, y, z⟩ := p
    simp only at ha ha'
    have hz : z = 0 := by linarith [ha.2.2, ha'.2.2]
    subst hz
    exact ⟨0, 1, 0, 1, x, y, by decide, by decide, ha.1, ha.2.1, by simp [edgePoint, row, exP, add3, smul3],
      by simp [row, exP, exQ], by simp [chanAt], Or.inr ⟨by simp [row, exP, exQ], by simp [chanAt]⟩⟩
  exact ⟨h, h.symm⟩

/-- a two-triplet panner satisfying every hypothesis of `panner_continuousOn_triplets_partial`; the direction
    `(1, 1, 0)` lies on the shared edge, in both cones -/
example : let regions : List TRegion := [([0, 1, 2], exP), ([0, 1, 3], exQ)]
    (∀ r ∈ regions, det3 r.2 ≠ 0) ∧ (∀ r ∈ regions, r.chOk) ∧
      (∀ r ∈ regions, ∀ r' ∈ regions, r ≠ r' → MeetInSharedFace r r') ∧
      ((1 : ℝ), (1 : ℝ), (0 : ℝ)) ∈ TRegion.cone ([0, 1, 2], exP) ∧ ((1 : ℝ), (1 : ℝ), (0 : ℝ)) ∈ TRegion.cone ([0, 1, 3], exQ) := by
  intro regions
  refine ⟨?_, ?_, ?_, ?_, ?_⟩
  · intro r hr
    simp only [regions, List.mem_cons, List.mem_nil_iff, or_false] at hr
    rcases hr with rfl | rfl <;> norm_num [det3, exP, exQ]
  · intro r hr
    simp only [regions, List.mem_cons, List.mem_nil_iff, or_false] at hr
    rcases hr with rfl | rfl
    · exact ⟨0, 1, 2, rfl, by decide, by decide, by decide⟩
    · exact ⟨0, 1, 3, rfl, by decide, by decide, by decide⟩
  · intro r hr r' hr' hne
    simp only [regions, List.mem_cons, List.mem_nil_iff, or_false] at hr hr'
    rcases hr with rfl | rfl <;> rcases hr' with rfl | rfl
    · exact absurd rfl hne
    · exact ex_meet.1
    · exact ex_meet.2
    · exact absurd rfl hne
  · refine ⟨?_, by simp⟩
    simp only [mem_ofPred_eq, Triplet.acceptsE, pv_exP]; norm_num
  · refine ⟨?_, by simp⟩
    simp only [mem_ofPred_eq, Triplet.acceptsE, pv_exQ]; norm_num

theorem exQ_opposite : oppositeTriplet exP 0 0 1 = exQ := by
  simp [oppositeTriplet, exP, exQ, comb3, add3, smul3]

/-- a direction INSIDE the sliver (5e-12 below the shared edge: outside the exact cone of `exP`, inside the slack)
    satisfies every hypothesis of `triplet_sliver_bound`: both triplets answer -/
example : let p : Vec3 ℝ := (1, 0, -(5 / 1000000000000))
    det3 exP ≠ 0 ∧ nsq exP.1 + nsq exP.2.1 + nsq exP.2.2 ≤ 4 ∧
      nsq exP.1 + nsq exP.2.1 + nsq (comb3 0 0 (-1) exP) ≤ 4 ∧ 3 / 4 ≤ nsq p ∧
      (∃ g, Triplet.handle exP p = some g) ∧ (∃ g', Triplet.handle (oppositeTriplet exP 0 0 1) p = some g') ∧
      ¬ Triplet.acceptsE 0 exP p := by
  intro p
  have hP : Triplet.accepts exP p := by
    rw [← acceptsE_eps]; simp only [Triplet.acceptsE, pv_exP, tripletEps_real, p]; norm_num
  have hQ : Triplet.accepts exQ p := by
    rw [← acceptsE_eps]; simp only [Triplet.acceptsE, pv_exQ, tripletEps_real, p]; norm_num
  refine ⟨by norm_num [det3, exP], by norm_num [nsq, exP], by norm_num [nsq, exP, comb3, add3, smul3],
    by norm_num [nsq, p], ⟨Triplet.gains exP p, by simp [Triplet.handle, hP]⟩,
    ⟨Triplet.gains exQ p, by rw [exQ_opposite]; simp [Triplet.handle, hQ]⟩, ?_⟩
  simp only [Triplet.acceptsE, pv_exP, p]; norm_num

theorem nsq_ne_zero {p : Vec3 ℝ} (h : 3 / 4 ≤ nsq p) : p ≠ (0, 0, 0) := by
  rintro rfl
  simp [nsq] at h
  linarith

theorem isClosed_nsq_ge : IsClosed {p : Vec3 ℝ | 3 / 4 ≤ nsq p} := by
  simp only [nsq]
  exact isClosed_le continuous_const (by fun_prop)

theorem triplet_answer (ch : List Nat) (P : Mat3 ℝ) (n : Nat) (roots : Option ℝ × Option ℝ) (p : Vec3 ℝ) :
    (remap (Region.triplet ch P).channels n ((Region.triplet ch P).handle roots p) ≠ none ↔ Triplet.handle P p ≠ none) ∧
      (Triplet.handle P p ≠ none → remap (Region.triplet ch P).channels n ((Region.triplet ch P).handle roots p) =
        some (tripletOut n (ch, P) p)) := by
  simp only [Region.channels, Region.handle, remap, tripletOut]
  cases h : Triplet.handle P p with
  | none => simp
  | some g => simp [← (triplet_handle_eq_some.mp h).2]

theorem regionAnswer_getElem (regs : List (Region ℝ)) (n : Nat) (ρ : Vec3 ℝ → Nat → Option ℝ × Option ℝ) (k : Nat)
    (hk : k < regs.length) (p : Vec3 ℝ) :
    regionAnswer regs n ρ k p = remap regs[k].channels n (regs[k].handle (ρ p k) p) :=
  getD_of_getElem? none (Cover.results_getElem? regs n (ρ p) p k hk)

/-- end to end for a whole list of triplets, the code's own threshold −1e-11, on the model's
    `PointSourcePanner.handle`: invertible triplets any two of which, where both return a result at a direction of norm about
    1, differ by at most `η` on every output channel (`pair_out_bound`: `η = 45·(3α+1)·κ·1e-11` from a separating plane).
    Then every output channel's gain varies, near every direction accepted by some triplet, by at most `η + δ` for every
    `δ > 0`: the composed function is continuous up to jumps of `η`. -/
theorem panner_jump_bound_triplets (regions : List TRegion) (n : Nat) (η : ℝ)
    (hdet : ∀ r ∈ regions, det3 r.2 ≠ 0)
    (hpair : ∀ r ∈ regions, ∀ r' ∈ regions, ∀ p, 3 / 4 ≤ nsq p → Triplet.handle r.2 p ≠ none →
      Triplet.handle r'.2 p ≠ none → ∀ c, |(tripletOut n r p).getD c 0 - (tripletOut n r' p).getD c 0| ≤ η)
    (ρ : Vec3 ℝ → Nat → Option ℝ × Option ℝ) (c : Nat) :
    let regs := regions.map fun r => Region.triplet r.1 r.2
    let S := {p : Vec3 ℝ | 3 / 4 ≤ nsq p}
    let U := {p | p ∈ S ∧ ∃ k < regs.length, regionAnswer regs n ρ k p ≠ none}
    let G := fun p => ((PointSourcePanner.handle regs n (ρ p) p).map (·.getD c 0)).getD 0
    ∀ x ∈ U, ∀ δ > 0, ∀ᶠ y in nhdsWithin x U, |G y - G x| ≤ η + δ := by
  intro regs S
  have hlen : regs.length = regions.length := by simp [regs]
  have key : ∀ k (hk : k < regions.length), ∀ p,
      (regionAnswer regs n ρ k p ≠ none ↔ Triplet.handle regions[k].2 p ≠ none) ∧
        (Triplet.handle regions[k].2 p ≠ none → regionAnswer regs n ρ k p = some (tripletOut n regions[k] p)) := by
    intro k hk p
    have hk' : k < regs.length := by rw [hlen]; exact hk
    rw [regionAnswer_getElem regs n ρ k hk' p]
    have : regs[k] = Region.triplet regions[k].1 regions[k].2 := by simp [regs]
    rw [this]
    exact triplet_answer _ _ _ _ _
  apply panner_jump_bound_of_regions regs n ρ S c η
  · intro k hk
    rw [hlen] at hk
    have hcl := triplet_accept_isClosed_code (regions[k]).2
    refine ⟨_, hcl, ?_⟩
    ext p
    have := (key k hk p).1
    simp only [mem_inter_iff, mem_ofPred_eq, this]
  · intro k hk
    rw [hlen] at hk
    refine ((tripletOut_continuousOn_ne n c regions[k] (hdet _ (List.getElem_mem hk))).mono ?_).congr ?_
    · intro p hp; exact nsq_ne_zero hp.2
    · intro p hp
      have := (key k hk p).2 ((key k hk p).1.mp hp.1)
      simp only [this, Option.map_some, Option.getD_some]
  · intro k hk j hj p hpS hk' hj'
    rw [hlen] at hk hj
    have a0 := (key k hk p).1.mp hk'
    have a1 := (key j hj p).1.mp hj'
    rw [(key k hk p).2 a0, (key j hj p).2 a1]
    simp only [Option.map_some, Option.getD_some]
    exact hpair _ (List.getElem_mem hk) _ (List.getElem_mem hj) p hpS a0 a1 c

/-- end to end, for the code's own threshold −1e-11, on the model's `PointSourcePanner.handle`: a panner made of two
    invertible triplets sharing the edge `u v` (`P = (u, v, w)` on channels `cu cv cw`, `Q = (u, v, w')` on `cu cv cw'`,
    `w' = α·u + β·v − γ·w`, `γ > 0`; four distinct channels; loudspeaker positions of norm about 1).  On directions of
    norm about 1 (`‖p‖² ≥ 3/4`) every output channel's gain varies, near every direction accepted by one of the
    triplets, by at most `η + δ` for every `δ > 0`, where `η = 15/2 · max(|α|, |β|, γ+1) · max(1, 1/γ) · 1e-11`:
    the composed function is continuous up to jumps of `η`. -/
theorem two_triplet_panner_jump_bound (P : Mat3 ℝ) (hd : det3 P ≠ 0) (α β γ : ℝ) (hγ : 0 < γ)
    (hrows : nsq P.1 + nsq P.2.1 + nsq P.2.2 ≤ 4)
    (hrows' : nsq P.1 + nsq P.2.1 + nsq (comb3 α β (-γ) P) ≤ 4)
    (cu cv cw cw' n c : Nat) (huw : cu ≠ cw) (huw' : cu ≠ cw') (hvw : cv ≠ cw) (hvw' : cv ≠ cw')
    (hww' : cw ≠ cw') (ρ : Vec3 ℝ → Nat → Option ℝ × Option ℝ) :
    let regions := [Region.triplet [cu, cv, cw] P, Region.triplet [cu, cv, cw'] (oppositeTriplet P α β γ)]
    let S := {p : Vec3 ℝ | 3 / 4 ≤ nsq p}
    let η := 15 / 2 * (max (max |α| |β|) (γ + 1) * max 1 (1 / γ)) * (1 / 100000000000)
    let U := {p | p ∈ S ∧ ∃ k < regions.length, regionAnswer regions n ρ k p ≠ none}
    let G := fun p => ((PointSourcePanner.handle regions n (ρ p) p).map (·.getD c 0)).getD 0
    ∀ x ∈ U, ∀ δ > 0, ∀ᶠ y in nhdsWithin x U, |G y - G x| ≤ η + δ := by
  intro regions S η
  have hdQ := det3_opposite_ne hd α β hγ.ne'
  have hη0 : 0 ≤ η := by
    have h1 : (1 : ℝ) ≤ max (max |α| |β|) (γ + 1) := le_trans (by linarith) (le_max_right _ _)
    have h2 : (1 : ℝ) ≤ max 1 (1 / γ) := le_max_left _ _
    have : 0 ≤ max (max |α| |β|) (γ + 1) * max 1 (1 / γ) := mul_nonneg (by linarith) (by linarith)
    simp only [η]; positivity
  have hself : ∀ x : ℝ, |x - x| ≤ η := fun x => by rw [sub_self, abs_zero]; exact hη0
  -- the pair bound: channel by channel, `triplet_sliver_bound` on `cu`, `cv`, and on `cw`, `cw'` against 0
  have cross : ∀ p, 3 / 4 ≤ nsq p → Triplet.handle P p ≠ none → Triplet.handle (oppositeTriplet P α β γ) p ≠ none → ∀ c,
      |(tripletOut n ([cu, cv, cw], P) p).getD c 0 - (tripletOut n ([cu, cv, cw'], oppositeTriplet P α β γ) p).getD c 0| ≤ η := by
    intro p hpS a0 a1 c
    obtain ⟨g, hg⟩ := Option.ne_none_iff_exists'.mp a0
    obtain ⟨g', hg'⟩ := Option.ne_none_iff_exists'.mp a1
    obtain ⟨m0, m1, m2, m3⟩ := triplet_sliver_bound P hd α β γ hγ p g g' hrows hrows' hpS hg hg'
    simp only [tripletOut, (triplet_handle_eq_some.mp hg).2, (triplet_handle_eq_some.mp hg').2, vecList, scatter3_getD]
    -- channel `cw` is fed by `P` alone, `cw'` by `Q` alone (against 0); on any other channel both read `cv`, else `cu`, else 0
    by_cases hw : c = cw ∧ cw < n
    · rw [if_pos hw, if_neg fun h => hww' (hw.1.symm.trans h.1), if_neg fun h => hvw (h.1.symm.trans hw.1),
        if_neg fun h => huw (h.1.symm.trans hw.1)]
      exact m2
    rw [if_neg hw]
    by_cases hw' : c = cw' ∧ cw' < n
    · rw [if_pos hw', if_neg fun h => hvw' (h.1.symm.trans hw'.1), if_neg fun h => huw' (h.1.symm.trans hw'.1)]
      exact m3
    rw [if_neg hw']
    by_cases hv : c = cv ∧ cv < n
    · rw [if_pos hv, if_pos hv]; exact m1
    rw [if_neg hv, if_neg hv]
    by_cases hu : c = cu ∧ cu < n
    · rw [if_pos hu, if_pos hu]; exact m0
    · rw [if_neg hu, if_neg hu]; exact hself 0
  refine panner_jump_bound_triplets [([cu, cv, cw], P), ([cu, cv, cw'], oppositeTriplet P α β γ)] n η ?_ ?_ ρ c
  · intro r hr
    simp only [List.mem_cons, List.mem_nil_iff, or_false] at hr
    rcases hr with rfl | rfl
    · exact hd
    · exact hdQ
  · intro r hr r' hr' p hp hx hy c
    simp only [List.mem_cons, List.mem_nil_iff, or_false] at hr hr'
    rcases hr with rfl | rfl <;> rcases hr' with rfl | rfl
    · exact hself _
    · exact cross p hp hx hy c
    · rw [abs_sub_comm]; exact cross p hp hy hx c
    · exact hself _

/-- the hypotheses of `two_triplet_panner_jump_bound` are satisfiable: the standard basis triplet and its mirror image
    across the edge e₁ e₂, on channels 0 1 2 / 0 1 3 (a direction inside the sliver, accepted by both, is exhibited in
    the example above) -/
example (ρ : Vec3 ℝ → Nat → Option ℝ × Option ℝ) (c : Nat) :=
  two_triplet_panner_jump_bound exP (by norm_num [det3, exP]) 0 0 1 (by norm_num) (by norm_num [nsq, exP])
    (by norm_num [nsq, exP, comb3, add3, smul3]) 0 1 2 3 4 c (by decide) (by decide) (by decide) (by decide) (by decide) ρ

/-- the n-gon at slack 0.  A virtual n-gon whose inner triplets `(o_i, o_{i+1}, centre)` are invertible, carry the
    local channels `[o_i, o_{i+1}, m]`, have a positive centre downmix, and any two of which meet only in a shared face
    (an edge `o_i`–centre, or the centre alone): every output coordinate of the handler (first accepting inner triplet, then
    `mix`) is a continuous function of the direction on the union of the inner cones — its acceptance set — and there the
    handler's answer is the mixed answer of ANY inner triplet containing the direction.
    IDEALISED like `panner_continuousOn_triplets_partial`: slack 0 instead of the code's −1e-11 (`ngon_handleE_eps`). -/
theorem ngon_handle_continuousOn (g : VirtualNgon ℝ)
    (hdet : ∀ r ∈ g.regions, det3 r.2 ≠ 0) (hch : ∀ r ∈ g.regions, InnerChOk g.centreDownmix.length r)
    (hcd : ∀ d ∈ g.centreDownmix, 0 < d)
    (hface : ∀ r ∈ g.regions, ∀ r' ∈ g.regions, r ≠ r' → MeetInSharedFace r r') :
    (∀ c, ContinuousOn (fun p => ((g.handleE 0 p).map (·.getD c 0)).getD 0) {p | ∃ r ∈ g.regions, p ∈ TRegion.cone r}) ∧
    (∀ r ∈ g.regions, ∀ p ∈ TRegion.cone r, g.handleE 0 p =
      some (VirtualNgon.mix g.centreDownmix (tripletOut (g.centreDownmix.length + 1) r p))) ∧
    (∀ p, p ≠ (0, 0, 0) → (¬ ∃ r ∈ g.regions, p ∈ TRegion.cone r) → g.handleE 0 p = none) := by
  simp only [ngon_handleE_cells, ngonCells]
  exact cellPanner_continuousOn g.regions (fun r => (r.2, ngonOut g.centreDownmix r.1)) g.centreDownmix.length
    (fun r _ p => mix_length _ _ (tripletOut_length _ _ _))
    (fun r hr c => mix_tripletOut_continuousOn _ hcd r (hch r hr) (hdet r hr) c) fun r hr r' hr' p hp hp' c => by
      by_cases e : r = r'
      · rw [e]
      · exact congrArg (·.getD c 0) (ngonOut_eq_of_faces g.centreDownmix r r' (hdet r hr) (hdet r' hr') (hch r hr).chOk
          (hch r' hr').chOk (hface r hr r' hr' e) p hp hp')

/-- a panner of triplets and n-gons at slack 0 (`pannerTNE 0`; `pannerTNE_eps`: with the code's −1e-11 it is the model's
    `PointSourcePanner.handle`).  Every region is a well-formed Triplet or VirtualNgon (`Region.tnOk`: invertible cells,
    distinct channels, positive centre downmix, the inner triplets of one n-gon meet only in shared faces) and two cells of
    DIFFERENT regions meet only in a shared vertex / edge of real loudspeakers on the same output channels
    (`MeetInOuterFace`).  Then every output channel's gain is a continuous function of the direction on the union of all
    cones, and there the panner's answer is the answer of ANY cell containing the direction.
    Missing for the property: the code's slack −1e-11 (slivers, `triplet_sliver_bound`), QuadRegions, coverage (C05). -/
theorem panner_continuousOn_tri_ngon_partial (regions : List (Region ℝ)) (n : Nat)
    (hok : ∀ R ∈ regions, R.tnOk)
    (hcross : ∀ R ∈ regions, ∀ R' ∈ regions, R ≠ R' → ∀ X ∈ R.tcells, ∀ Y ∈ R'.tcells, MeetInOuterFace R X R' Y) :
    (∀ c, ContinuousOn (fun p => ((pannerTNE 0 regions n p).map (·.getD c 0)).getD 0)
      {p | ∃ R ∈ regions, ∃ X ∈ R.tcells, p ∈ TRegion.cone X}) ∧
    (∀ R ∈ regions, ∀ X ∈ R.tcells, ∀ p ∈ TRegion.cone X,
      pannerTNE 0 regions n p = some (R.outMap n X.1 (Triplet.gains X.2 p))) ∧
    (∀ p, p ≠ (0, 0, 0) → (¬ ∃ R ∈ regions, ∃ X ∈ R.tcells, p ∈ TRegion.cone X) → pannerTNE 0 regions n p = none) := by
  have main := cellPanner_continuousOn (regions.flatMap (Region.cells n)) (fun C => C) n
    (hlen := by
      intro C hC p
      obtain ⟨R, hR, X, _, rfl⟩ := (mem_cells_iff n regions C).mp hC
      exact outMap_length n R (hok R hR) _ _)
    (hcont := by
      intro C hC c
      obtain ⟨R, hR, X, hX, rfl⟩ := (mem_cells_iff n regions C).mp hC
      have hRok := hok R hR
      cases R with
      | quad ch q => exact hRok.elim
      | triplet ch P =>
        simp only [Region.tcells, List.mem_singleton] at hX
        subst hX
        exact tripletOut_continuousOn n c (ch, P) hRok.1
      | ngon ch g =>
        obtain ⟨hdet, hch, hcd, _, hlen, hnd⟩ := hRok
        simp only [Region.tcells] at hX
        -- the outer remap read at channel `c` is coordinate `ch.idxOf c` of the inner answer, or 0
        simp only [GainCell.out, Region.outMap, scatter_zeros_getD, hnd, ngonOut_length, hlen]
        by_cases hc : c ∈ ch ∧ c < n
        · simp only [hc, and_self, if_true]
          exact mix_tripletOut_continuousOn g.centreDownmix hcd X (hch X hX) (hdet X hX) (ch.idxOf c)
        · simp only [hc, if_false]; exact continuousOn_const)
    (hagree := by
      intro C hC C' hC' p hp hp' c
      obtain ⟨R, hR, X, hX, rfl⟩ := (mem_cells_iff n regions C).mp hC
      obtain ⟨R', hR', Y, hY, rfl⟩ := (mem_cells_iff n regions C').mp hC'
      have hRok := hok R hR
      have hRok' := hok R' hR'
      simp only [GainCell.out]
      by_cases e : R = R'
      · subst e
        cases R with
        | quad ch q => exact hRok.elim
        | triplet ch P =>
          simp only [Region.tcells, List.mem_singleton] at hX hY
          rw [hX, hY]
        | ngon ch g =>
          obtain ⟨hdet, hch, _, hface, _, _⟩ := hRok
          simp only [Region.tcells] at hX hY
          by_cases e' : X = Y
          · rw [e']
          · exact congrArg (fun v => (scatter (zeros n) ch v).getD c 0) (ngonOut_eq_of_faces g.centreDownmix X Y (hdet X hX)
              (hdet Y hY) (hch X hX).chOk (hch Y hY).chOk (hface X hX Y hY e') p hp hp')
      · exact agree_of_outerFace (cell_edgeOut n R hRok X hX) (cell_edgeOut n R' hRok' Y hY) (hcross R hR R' hR' e X hX Y hY) p
          hp.2 hp.1 hp'.1 c)
  have hU : {p | ∃ C ∈ regions.flatMap (Region.cells n), p ∈ C.cone} =
      {p | ∃ R ∈ regions, ∃ X ∈ R.tcells, p ∈ TRegion.cone X} := by
    ext p
    simp only [mem_ofPred_eq, List.mem_flatMap, Region.cells, List.mem_map]
    exact ⟨fun ⟨_, ⟨R, hR, X, hX, rfl⟩, hp⟩ => ⟨R, hR, X, hX, hp⟩, fun ⟨R, hR, X, hX, hp⟩ => ⟨_, ⟨R, hR, X, hX, rfl⟩, hp⟩⟩
  simp only [List.map_id'] at main
  simp only [pannerTNE_cells]
  rw [← hU]
  exact ⟨main.1, fun R hR X hX p hp => main.2.1 _ ((mem_cells_iff n regions _).mpr ⟨R, hR, X, hX, rfl⟩) p hp,
    fun p hp hnone => main.2.2 p hp fun h => hnone ((Set.ext_iff.mp hU p).mp h)⟩

open Faces in
theorem Faces.facesTablesOk_cons (K : Nat) (l : RawLayout) (ls : List RawLayout) (c : FacesCert) (cs : List FacesCert) :
    facesTablesOk K (l :: ls) (c :: cs) = (facesCertOk K l c && facesTablesOk K ls cs) := by
  simp [facesTablesOk, Bool.and_left_comm]

open Faces in
/-- Table obligation: for each of the ten nominal layouts the regenerated certificate (`Gen/C12_Faces.lean`, from the real
    configured panner) passes `Faces.facesCertOk` against the regenerated region table: every pair of triplet cells
    (Triplet regions, inner triplets of the n-gons) is separated strictly by a plane through their shared positions
    (exact integer arithmetic on the binary64 coordinates), with the constants `alpha`, `kappa` of the sliver bound. -/
theorem faces_tables_ok :
    facesTablesOk Earverif.Gen.C05Cover.scaleExp Earverif.Gen.C05.layouts Earverif.Gen.C12Faces.faces = true := by
  -- one kernel evaluation per layout, for the reason given at `exact_tables_ok`
  simp only [Earverif.Gen.C05.layouts, Earverif.Gen.C12Faces.faces, facesTablesOk_cons, Bool.and_eq_true]
  and_intros <;> decide +kernel

open Faces in
theorem faces_spec_of_tables (l : RawLayout) (hl : l ∈ Earverif.Gen.C05.layouts) :
    ∃ cert ∈ Earverif.Gen.C12Faces.faces, CertSpec Earverif.Gen.C05Cover.scaleExp l cert := by
  obtain ⟨cert, hc, hok⟩ := Cover.exists_of_all_zip faces_tables_ok hl
  exact ⟨cert, hc, facesCertOk_sound _ _ _ hok⟩

noncomputable def tripletTR1 (r : RawRegion) : Option TRegion :=
  if r.kind == 0 then
    match r.pos with
    | [a, b, d] => some (r.ch, ((p3 a : Vec3 ℝ), p3 b, p3 d))
    | _ => none
  else none

noncomputable def tripletTR (l : RawLayout) : List TRegion := l.regions.filterMap tripletTR1

theorem tripletTR_regions (l : RawLayout) :
    (tripletTR l).map (fun r => Region.triplet r.1 r.2) =
      l.regions.filterMap (fun r => if r.kind == 0 then RawRegion.toRegion (α := ℝ) r else none) := by
  unfold tripletTR
  rw [List.map_filterMap]
  apply List.filterMap_congr
  intro r _
  unfold tripletTR1 RawRegion.toRegion
  by_cases k0 : r.kind = 0
  · have k0' : (r.kind == 0) = true := by simpa using k0
    simp only [k0]
    match r.pos with
    | [] => rfl
    | [_] => rfl
    | [_, _] => rfl
    | [_, _, _] => rfl
    | _ :: _ :: _ :: _ :: _ => rfl
  · have k0' : (r.kind == 0) = false := by simpa using k0
    simp only [k0', Bool.false_eq_true, if_false, Option.map_none]

open Faces in
theorem tripletTR_cell {l : RawLayout} {X : TRegion} (hX : X ∈ tripletTR l) :
    ∃ k r, l.regions[k]? = some r ∧ r.kind = 0 ∧ tableCell l k 0 = some X := by
  obtain ⟨r, hr, hX⟩ := List.mem_filterMap.mp hX
  obtain ⟨k, hk⟩ := List.mem_iff_getElem?.mp hr
  unfold tripletTR1 at hX
  split_ifs at hX with k0
  have k0 : r.kind = 0 := by simpa using k0
  split at hX
  · rename_i a b d hpos
    rw [← Option.some.inj hX]
    exact ⟨k, r, hk, k0, tableCell_triplet hk k0 hpos⟩
  · exact absurd hX (by simp)

open Faces in
/-- what a certificate gives for two Triplet regions of a nominal layout (the statement says SOME certificate of the ten — the
    proof takes the one at the layout's index, the conclusion does not record that: formally the `η` of
    `tables_triplet_panner_jump_bound` is any of the ten) -/
theorem tables_triplet_pair (l : RawLayout) (hl : l ∈ Earverif.Gen.C05.layouts) :
    ∃ cert ∈ Earverif.Gen.C12Faces.faces, 1 ≤ cert.kappa ∧
      (∀ X ∈ tripletTR l, det3 X.2 ≠ 0 ∧ X.chOk ∧ X.rowsOk) ∧
      (∀ X ∈ tripletTR l, ∀ Y ∈ tripletTR l, X ≠ Y →
        MeetInSharedFace X Y ∧ (PairData X Y cert.alpha cert.kappa ∨ PairData Y X cert.alpha cert.kappa)) := by
  obtain ⟨cert, hcert, hs⟩ := faces_spec_of_tables l hl
  refine ⟨cert, hcert, hs.kappa1, ?_, ?_⟩
  · intro X hX
    obtain ⟨k, r, _, _, ht⟩ := tripletTR_cell hX
    obtain ⟨c, hc, _, _, rfl⟩ := cell_of_table hs ht
    exact ⟨(hs.cellsOk c hc).det, (hs.cellsOk c hc).chOk, (hs.cellsOk c hc).rowsOk⟩
  · intro X hX Y hY hne
    obtain ⟨k, r, hr, k0, ht⟩ := tripletTR_cell hX
    obtain ⟨k', r', hr', k0', ht'⟩ := tripletTR_cell hY
    have hkk : k ≠ k' := by
      intro e; subst e
      rw [ht] at ht'
      exact hne (Option.some.inj ht')
    obtain ⟨c, c', hF⟩ := faces_facts hs ht ht' (Or.inl hkk)
    obtain rfl := hF.eqX
    obtain rfl := hF.eqY
    have kc := cell_kind_zero hs hF.mem (by rw [hF.idx.1]; exact hr) k0
    have kc' := cell_kind_zero hs hF.mem' (by rw [hF.idx'.1]; exact hr') k0'
    exact ⟨meet_of_outer (hs.cellsOk c hF.mem) (hs.cellsOk c' hF.mem') kc kc' (hF.outer hkk), hF.data kc kc'⟩

/-- the triplet regions of the ten nominal layouts meet only in shared faces (0+2+0, 0+5+0 and 0+7+0 have no Triplet region: for
    them this and the two theorems below say nothing, their regions are n-gons and quads; the hypothesis of
    `panner_continuousOn_triplets_partial`, decided by the kernel on the regenerated tables): every Triplet region is invertible
    with three distinct channels, and the exact cones of any two Triplet regions of one layout have only a shared loudspeaker /
    a shared edge (or nothing) in common, on the same output channels. -/
theorem tables_triplet_pairs_meet_in_faces (l : RawLayout) (hl : l ∈ Earverif.Gen.C05.layouts) :
    (∀ X ∈ tripletTR l, det3 X.2 ≠ 0 ∧ X.chOk) ∧
    (∀ X ∈ tripletTR l, ∀ Y ∈ tripletTR l, X ≠ Y → MeetInSharedFace X Y) := by
  obtain ⟨cert, _, _, h1, h2⟩ := tables_triplet_pair l hl
  exact ⟨fun X hX => ⟨(h1 X hX).1, (h1 X hX).2.1⟩, fun X hX Y hY hne => (h2 X hX Y hY hne).1⟩

/-- the Triplet regions of every nominal layout, as a panner at slack 0, are continuous on the union of their
    cones (instance of `panner_continuousOn_triplets_partial` with every hypothesis discharged from the tables) -/
theorem tables_triplet_panner_continuousOn (l : RawLayout) (hl : l ∈ Earverif.Gen.C05.layouts) (c : Nat) :
    ContinuousOn (fun p => ((tripletPannerE 0 (tripletTR l) l.nInner p).map (·.getD c 0)).getD 0)
      {p | ∃ r ∈ tripletTR l, p ∈ r.cone} := by
  obtain ⟨h1, h2⟩ := tables_triplet_pairs_meet_in_faces l hl
  exact (panner_continuousOn_triplets_partial (tripletTR l) l.nInner (fun r hr => (h1 r hr).1) (fun r hr => (h1 r hr).2) h2).1 c

/-- the triplet regions of a nominal layout with the code's threshold −1e-11: on the model's `PointSourcePanner.handle`
    over the Triplet regions of the regenerated table (`tripletTR_regions`: they are the modelled panner's Triplet regions),
    every output channel is continuous up to jumps of `η = 45·(3·alpha+1)·kappa·1e-11`, `alpha`, `kappa` the kernel-checked
    constants of a certificate of `Gen/C12_Faces.lean` (which: see `tables_triplet_pair`) — whatever the row order of the triplets, and including the slivers around shared vertices.  QuadRegions and n-gons are not in this panner. -/
theorem tables_triplet_panner_jump_bound (l : RawLayout) (hl : l ∈ Earverif.Gen.C05.layouts)
    (ρ : Vec3 ℝ → Nat → Option ℝ × Option ℝ) (c : Nat) :
    ∃ cert ∈ Earverif.Gen.C12Faces.faces,
      let η : ℝ := 45 * ((3 * (cert.alpha : ℝ) + 1) * (cert.kappa : ℝ)) * (1 / 100000000000)
      let regs := (tripletTR l).map fun r => Region.triplet r.1 r.2
      let S := {p : Vec3 ℝ | 3 / 4 ≤ nsq p}
      let U := {p | p ∈ S ∧ ∃ k < regs.length, regionAnswer regs l.nInner ρ k p ≠ none}
      let G := fun p => ((PointSourcePanner.handle regs l.nInner (ρ p) p).map (·.getD c 0)).getD 0
      ∀ x ∈ U, ∀ δ > 0, ∀ᶠ y in nhdsWithin x U, |G y - G x| ≤ η + δ := by
  obtain ⟨cert, hcert, hk1, h1, h2⟩ := tables_triplet_pair l hl
  refine ⟨cert, hcert, ?_⟩
  intro η
  have hκ1 : (1 : ℝ) ≤ (cert.kappa : ℝ) := by exact_mod_cast hk1
  have hα0 : (0 : ℝ) ≤ (cert.alpha : ℝ) := Nat.cast_nonneg _
  have hη0 : 0 ≤ η := by
    simp only [η]; positivity
  apply panner_jump_bound_triplets (tripletTR l) l.nInner η (fun r hr => (h1 r hr).1)
  intro X hX Y hY p hp hx hy c'
  by_cases e : X = Y
  · rw [e]; simpa using hη0
  · obtain ⟨_, hd⟩ := h2 X hX Y hY e
    rcases hd with hd | hd
    · exact pair_out_bound l.nInner X Y (h1 X hX).2.1 (h1 Y hY).2.1 (h1 X hX).2.2 (h1 Y hY).2.2 _ _ hκ1 hα0 hd p hp hx hy c'
    · rw [abs_sub_comm]
      exact pair_out_bound l.nInner Y X (h1 Y hY).2.1 (h1 X hX).2.1 (h1 Y hY).2.2 (h1 X hX).2.2 _ _ hκ1 hα0 hd p hp hy hx c'

open Faces in
/-- every virtual n-gon of the ten nominal layouts is continuous on its acceptance set (slack 0): instance of
    `ngon_handle_continuousOn` with every hypothesis discharged from the regenerated tables (`ngonOf r` is the VirtualNgon
    `RawRegion.toRegion` builds). -/
theorem tables_ngon_continuousOn (l : RawLayout) (hl : l ∈ Earverif.Gen.C05.layouts) (r : RawRegion) (hr : r ∈ l.regions)
    (k1 : r.kind = 1) (c : Nat) :
    ContinuousOn (fun p => (((ngonOf r).handleE 0 p).map (·.getD c 0)).getD 0)
      {p | ∃ X ∈ (ngonOf r).regions, p ∈ TRegion.cone X} := by
  obtain ⟨cert, _, hs⟩ := faces_spec_of_tables l hl
  obtain ⟨k, hk⟩ := List.mem_iff_getElem?.mp hr
  obtain ⟨_, h2, h3, h4, h5, _, _⟩ := ngon_table hs hk k1
  exact (ngon_handle_continuousOn (ngonOf r) h2 h3 h4 h5).1 c

open Faces in
/-- the triplet and n-gon regions of every nominal layout, as a panner at slack 0, are continuous on the union of their
    cones: instance of `panner_continuousOn_tri_ngon_partial` on the modelled panner's own Triplet and VirtualNgon regions
    (`Faces.tnRegions`: `RawRegion.toRegion` of the regenerated table, QuadRegions left out; at the code's slack — not at the
    slack 0 of this theorem — `pannerTNE_eps` with `Faces.tnRegions_noQuad` would make this panner the model's
    `PointSourcePanner.handle` on them: the two have not been composed), every
    hypothesis — including `MeetInOuterFace` for every triplet cell against every n-gon cell — discharged from the
    kernel-checked certificate. -/
theorem tables_tri_ngon_continuousOn (l : RawLayout) (hl : l ∈ Earverif.Gen.C05.layouts) (c : Nat) :
    ContinuousOn (fun p => ((pannerTNE 0 (tnRegions l) l.nInner p).map (·.getD c 0)).getD 0)
      {p | ∃ R ∈ tnRegions l, ∃ X ∈ R.tcells, p ∈ TRegion.cone X} := by
  obtain ⟨cert, _, hs⟩ := faces_spec_of_tables l hl
  obtain ⟨hok, hcross⟩ := tnRegions_ok hs
  exact (panner_continuousOn_tri_ngon_partial (tnRegions l) l.nInner hok hcross).1 c

section QuadCone
open Cover Topology

/-- a function selected as THE zero in `[0, 1]` of a jointly continuous family is continuous -/
theorem continuousOn_of_unique_zero {X : Type} [TopologicalSpace X] (K : Set X) (F : X → ℝ → ℝ)
    (hF : Continuous fun z : X × ℝ => F z.1 z.2) (x : X → ℝ)
    (hx : ∀ p ∈ K, x p ∈ Icc (0 : ℝ) 1 ∧ F p (x p) = 0)
    (huniq : ∀ p ∈ K, ∀ t ∈ Icc (0 : ℝ) 1, F p t = 0 → t = x p) : ContinuousOn x K := by
  intro p0 hp0
  rw [ContinuousWithinAt, tendsto_nhds]
  intro U hU hxU
  -- the compact set of parameters away from U
  set C : Set ℝ := Icc 0 1 \ U with hC
  have hCc : IsCompact C := isCompact_Icc.diff hU
  set N : Set (X × ℝ) := {z | F z.1 z.2 ≠ 0} with hN
  have hNo : IsOpen N := isOpen_ne_fun hF continuous_const
  have hsub : ({p0} : Set X) ×ˢ C ⊆ N := by
    rintro ⟨p, t⟩ ⟨hp, ht⟩
    simp only [mem_singleton_iff] at hp
    subst hp
    intro h0
    have := huniq p hp0 t ht.1 h0
    exact ht.2 (this ▸ hxU)
  obtain ⟨u, v, hu, _, hpu, hCv, huv⟩ := generalized_tube_lemma isCompact_singleton hCc hNo hsub
  have hmem : u ∈ 𝓝 p0 := hu.mem_nhds (hpu rfl)
  filter_upwards [nhdsWithin_le_nhds hmem, self_mem_nhdsWithin] with p hpu' hpK
  by_contra hnot
  have hxp := hx p hpK
  have : x p ∈ C := ⟨hxp.1, hnot⟩
  exact huv (mk_mem_prod hpu' (hCv this)) hxp.2

/-- under the sign conditions of `roots_in_unit_pos` the root in `[0, 1]` is unique -/
theorem unit_root_unique (A B C : ℝ) (hm : A * eps ^ 2 - B * eps + C ≤ 0)
    (hp : 0 ≤ A * (1 + eps) ^ 2 + B * (1 + eps) + C) (hne : ¬(A = 0 ∧ B = 0 ∧ C = 0))
    (t1 t2 : ℝ) (h1 : 0 ≤ t1) (h1' : t1 ≤ 1) (h2 : 0 ≤ t2) (h2' : t2 ≤ 1)
    (hf1 : A * t1 ^ 2 + B * t1 + C = 0) (hf2 : A * t2 ^ 2 + B * t2 + C = 0) : t1 = t2 := by
  by_contra hne12
  have he := eps_pos
  have hd : t1 - t2 ≠ 0 := sub_ne_zero.mpr hne12
  -- B = −A (t1 + t2), C = A t1 t2
  have hB : B = -A * (t1 + t2) := by
    have : (t1 - t2) * (A * (t1 + t2) + B) = 0 := by linear_combination hf1 - hf2
    have := (mul_eq_zero.mp this).resolve_left hd
    linarith
  have hCc : C = A * (t1 * t2) := by
    rw [hB] at hf1; linear_combination hf1
  have e1 : A * eps ^ 2 - B * eps + C = A * ((eps + t1) * (eps + t2)) := by rw [hB, hCc]; ring
  have e2 : A * (1 + eps) ^ 2 + B * (1 + eps) + C = A * ((1 + eps - t1) * (1 + eps - t2)) := by rw [hB, hCc]; ring
  rw [e1] at hm
  rw [e2] at hp
  have p1 : 0 < (eps + t1) * (eps + t2) := mul_pos (by linarith) (by linarith)
  have p2 : 0 < (1 + eps - t1) * (1 + eps - t2) := mul_pos (by linarith) (by linarith)
  have hA1 : A ≤ 0 := by
    by_contra h; rw [not_le] at h
    have := mul_pos h p1; linarith
  have hA2 : 0 ≤ A := by
    by_contra h; rw [not_le] at h
    have := mul_neg_of_neg_of_pos h p2; linarith
  have hA : A = 0 := le_antisymm hA1 hA2
  exact hne ⟨hA, by rw [hB, hA]; ring, by rw [hCc, hA]; ring⟩

def cornerCone (a b c d : Vec3 ℝ) : Set (Vec3 ℝ) :=
  {p | p ≠ (0, 0, 0) ∧ ∃ ga gb gc gd : ℝ, 0 ≤ ga ∧ 0 ≤ gb ∧ 0 ≤ gc ∧ 0 ≤ gd ∧ p = comb4 ga gb gc gd a b c d}

noncomputable def panEval (a b c d p : Vec3 ℝ) (t : ℝ) : ℝ :=
  (QuadRegion.panPoly a b c d p).1 * t ^ 2 + (QuadRegion.panPoly a b c d p).2.1 * t + (QuadRegion.panPoly a b c d p).2.2

theorem continuous_panEval (a b c d : Vec3 ℝ) : Continuous fun z : Vec3 ℝ × ℝ => panEval a b c d z.1 z.2 := by
  obtain ⟨a0, a1, a2⟩ := a
  obtain ⟨b0, b1, b2⟩ := b
  obtain ⟨c0, c1, c2⟩ := c
  obtain ⟨d0, d1, d2⟩ := d
  simp only [panEval, QuadRegion.panPoly, dot3, cross3, add3, sub3]
  fun_prop

/-- One pan axis on the corner cone: the pan value `quadRoot` selects is THE root in `[0, 1]` of the axis' quadratic. -/
theorem axis_unique_root (a b c d : Vec3 ℝ) (s : ℝ) (hs : s = 1 ∨ s = -1)
    (hD1 : 0 < s * det3 (a, b, c)) (hD2 : 0 < s * det3 (a, b, d)) (hD3 : 0 < s * det3 (a, c, d))
    (hD4 : 0 < s * det3 (b, c, d)) (hax : AxisSigns s a b c d) (p : Vec3 ℝ) (hp : p ∈ cornerCone a b c d) :
    ∃ x, GainCalc.quadRoot (QuadRegion.panPoly a b c d p) = some x ∧ x ∈ Icc (0 : ℝ) 1 ∧ panEval a b c d p x = 0 ∧
      ∀ t ∈ Icc (0 : ℝ) 1, panEval a b c d p t = 0 → t = x := by
  obtain ⟨hp0, ga, gb, gc, gd, ha, hb, hc, hd, rfl⟩ := hp
  -- `s·(A, B, C)` has the roots of `(A, B, C)` and the sign pattern, of which `unit_root_unique` uses the two outer values
  have hs0 := pm_ne_zero hs
  have hsig := axis_signs a b c d s ga gb gc gd ha hb hc hd
    (by rintro ⟨rfl, rfl, rfl, rfl⟩; exact hp0 (comb4_zero a b c d)) hD1 hD2 hD3 hD4 hax
  obtain ⟨x, hx, hx0, hx1, hfx⟩ := quadRoot_of_unitSigns hs0 hsig
  exact ⟨x, hx, ⟨hx0, hx1⟩, hfx, fun t ht hft => unit_root_unique _ _ _ hsig.lo hsig.hi hsig.ne_zero t x ht.1 ht.2 hx0 hx1
    ((smul_root_iff hs0 _ _ _ t).mpr hft) ((smul_root_iff hs0 _ _ _ x).mpr hfx)⟩

noncomputable def panValue (a b c d p : Vec3 ℝ) : ℝ := (GainCalc.quadRoot (QuadRegion.panPoly a b c d p)).getD 0

theorem panValue_continuousOn (a b c d : Vec3 ℝ) (s : ℝ) (hs : s = 1 ∨ s = -1)
    (hD1 : 0 < s * det3 (a, b, c)) (hD2 : 0 < s * det3 (a, b, d)) (hD3 : 0 < s * det3 (a, c, d))
    (hD4 : 0 < s * det3 (b, c, d)) (hax : AxisSigns s a b c d) :
    ContinuousOn (panValue a b c d) (cornerCone a b c d) ∧
      ∀ p ∈ cornerCone a b c d, GainCalc.quadRoot (QuadRegion.panPoly a b c d p) = some (panValue a b c d p) ∧
        panValue a b c d p ∈ Icc (0 : ℝ) 1 := by
  have key : ∀ p ∈ cornerCone a b c d, GainCalc.quadRoot (QuadRegion.panPoly a b c d p) = some (panValue a b c d p) ∧
      panValue a b c d p ∈ Icc (0 : ℝ) 1 ∧ panEval a b c d p (panValue a b c d p) = 0 ∧
      ∀ t ∈ Icc (0 : ℝ) 1, panEval a b c d p t = 0 → t = panValue a b c d p := by
    intro p hp
    obtain ⟨x, hx, hxI, hfx, hu⟩ := axis_unique_root a b c d s hs hD1 hD2 hD3 hD4 hax p hp
    have : panValue a b c d p = x := by simp [panValue, hx]
    rw [this]
    exact ⟨hx, hxI, hfx, hu⟩
  refine ⟨?_, fun p hp => ⟨(key p hp).1, (key p hp).2.1⟩⟩
  exact continuousOn_of_unique_zero _ (panEval a b c d) (continuous_panEval a b c d) _
    (fun p hp => ⟨(key p hp).2.1, (key p hp).2.2.1⟩) (fun p hp => (key p hp).2.2.2)

theorem cornerCone_rot (a b c d : Vec3 ℝ) : cornerCone b c d a = cornerCone a b c d := by
  ext p
  simp only [cornerCone, mem_ofPred_eq]
  constructor
  · rintro ⟨hp, gb, gc, gd, ga, hb, hc, hd, ha, rfl⟩
    exact ⟨hp, ga, gb, gc, gd, ha, hb, hc, hd, comb4_rot ga gb gc gd a b c d⟩
  · rintro ⟨hp, ga, gb, gc, gd, ha, hb, hc, hd, rfl⟩
    exact ⟨hp, gb, gc, gd, ga, hb, hc, hd, ha, (comb4_rot ga gb gc gd a b c d).symm⟩

noncomputable def bilGain (k : Nat) (x y : ℝ) : ℝ :=
  (QuadRegion.weights x y).getD k 0 / Real.sqrt (sumsq (QuadRegion.weights x y))

/-- the four bilinear weights add up to 1, so their squares add up to at least 1/4 -/
theorem sumsq_weights_pos (x y : ℝ) : 0 < sumsq (QuadRegion.weights x y) := by
  simp only [QuadRegion.weights, sumsq, one_real, zero_real, add_zero]
  have key : ∀ w1 w2 w3 w4 : ℝ, w1 + w2 + w3 + w4 = 1 → 0 < w1 * w1 + (w2 * w2 + (w3 * w3 + w4 * w4)) := by
    intro w1 w2 w3 w4 h
    have h2 : (w1 + w2 + w3 + w4) * (w1 + w2 + w3 + w4) = 1 := by rw [h, mul_one]
    linarith [mul_self_nonneg (w1 - w2), mul_self_nonneg (w1 - w3), mul_self_nonneg (w1 - w4), mul_self_nonneg (w2 - w3),
      mul_self_nonneg (w2 - w4), mul_self_nonneg (w3 - w4)]
  exact key _ _ _ _ (by ring)

/-- the bilinear quad on the cone of its corners (ordered corners `a b c d` with the sign certificate `QuadSigns`,
    closed-form root selection `GainCalc.quadRoot`): both pan values are found, lie in `[0, 1]` and are continuous functions
    of the direction, hence so are the four normalised bilinear gains; and the handler's final sign test passes.
    PARTIAL: the quad's acceptance set under the code's tolerances (roots in `(−1e-10, 1+1e-10)`, strict sign test) is
    larger than the corner cone and not closed, so this is continuity on the cone only — enough to know that the quad has no
    jump INSIDE its own cell; the pasting with its neighbours is not proved. -/
theorem quad_cone_continuousOn_partial (a b c d : Vec3 ℝ) (hsig : QuadSigns a b c d) :
    ContinuousOn (panValue a b c d) (cornerCone a b c d) ∧ ContinuousOn (panValue b c d a) (cornerCone a b c d) ∧
    (∀ k, ContinuousOn (fun p => bilGain k (panValue a b c d p) (panValue b c d a p)) (cornerCone a b c d)) ∧
    (∀ p ∈ cornerCone a b c d,
      GainCalc.quadRoot (QuadRegion.panPoly a b c d p) = some (panValue a b c d p) ∧
      GainCalc.quadRoot (QuadRegion.panPoly b c d a p) = some (panValue b c d a p) ∧
      panValue a b c d p ∈ Icc (0 : ℝ) 1 ∧ panValue b c d a p ∈ Icc (0 : ℝ) 1) := by
  obtain ⟨s, s', hs, hD1, hD2, hD3, hD4, _, _, _, _, hax, hay⟩ := hsig
  obtain ⟨cx, kx⟩ := panValue_continuousOn a b c d s hs hD1 hD2 hD3 hD4 hax
  obtain ⟨cy, ky⟩ := panValue_continuousOn b c d a s hs hD4 (by rw [det3_rot a b c]; exact hD1)
    (by rw [det3_rot a b d]; exact hD2) (by rw [det3_rot a c d]; exact hD3) hay
  rw [cornerCone_rot] at cy ky
  refine ⟨cx, cy, ?_, fun p hp => ⟨(kx p hp).1, (ky p hp).1, (kx p hp).2, (ky p hp).2⟩⟩
  intro k
  unfold bilGain
  have hw : ∀ j, ContinuousOn (fun p => (QuadRegion.weights (panValue a b c d p) (panValue b c d a p)).getD j 0)
      (cornerCone a b c d) := by
    intro j
    simp only [QuadRegion.weights, one_real]
    have c1 : ContinuousOn (fun p => 1 - panValue a b c d p) (cornerCone a b c d) := continuousOn_const.sub cx
    have c2 : ContinuousOn (fun p => 1 - panValue b c d a p) (cornerCone a b c d) := continuousOn_const.sub cy
    match j with
    | 0 => simp only [List.getD_cons_zero]; exact c1.mul c2
    | 1 => simp only [List.getD_cons_succ, List.getD_cons_zero]; exact cx.mul c2
    | 2 => simp only [List.getD_cons_succ, List.getD_cons_zero]; exact cx.mul cy
    | 3 => simp only [List.getD_cons_succ, List.getD_cons_zero]; exact c1.mul cy
    | n + 4 => simp only [List.getD_cons_succ, List.getD_nil]; exact continuousOn_const
  have hss : ContinuousOn (fun p => sumsq (QuadRegion.weights (panValue a b c d p) (panValue b c d a p)))
      (cornerCone a b c d) :=
    continuousOn_sumsq _ 4 _ (fun p => by simp [QuadRegion.weights]) hw
  refine (hw k).div (Real.continuous_sqrt.comp_continuousOn hss) ?_
  intro p hp
  exact (Real.sqrt_pos.mpr (sumsq_weights_pos _ _)).ne'

theorem posCone_subset {o : List Nat} (ho : isPermOfRange o 4 = true) (q0 q1 q2 q3 : Vec3 ℝ) :
    cornerCone q0 q1 q2 q3 ⊆ cornerCone ([q0, q1, q2, q3].getD (o.getD 0 0) zero3) ([q0, q1, q2, q3].getD (o.getD 1 0) zero3)
      ([q0, q1, q2, q3].getD (o.getD 2 0) zero3) ([q0, q1, q2, q3].getD (o.getD 3 0) zero3) := by
  rintro p ⟨hp, g0, g1, g2, g3, h0, h1, h2, h3, rfl⟩
  exact ⟨hp, _, _, _, _, getD_nonneg g0 g1 g2 g3 h0 h1 h2 h3 _, getD_nonneg g0 g1 g2 g3 h0 h1 h2 h3 _,
    getD_nonneg g0 g1 g2 g3 h0 h1 h2 h3 _, getD_nonneg g0 g1 g2 g3 h0 h1 h2 h3 _, cone_reorder ho q0 q1 q2 q3 g0 g1 g2 g3⟩

/-- PARTIAL (see `quad_cone_continuousOn_partial`): positions `q0 q1 q2 q3`, vertex order `o` a permutation, ordered corners with the
    sign certificate.  On the cone of non-negative combinations of the four positions (origin removed) the handler returns
    a result, and every output coordinate is a continuous function of the direction. -/
theorem quad_handle_continuousOn_cone_partial (q0 q1 q2 q3 : Vec3 ℝ) (o : List Nat) (ho : isPermOfRange o 4 = true)
    (hsig : QuadSigns ([q0, q1, q2, q3].getD (o.getD 0 0) zero3) ([q0, q1, q2, q3].getD (o.getD 1 0) zero3)
      ([q0, q1, q2, q3].getD (o.getD 2 0) zero3) ([q0, q1, q2, q3].getD (o.getD 3 0) zero3)) (j : Nat) :
    let q : QuadRegion ℝ := ⟨[q0, q1, q2, q3], o⟩
    (∀ p ∈ cornerCone q0 q1 q2 q3, q.handle (GainCalc.quadRoot (q.polys p).1) (GainCalc.quadRoot (q.polys p).2) p ≠ none) ∧
    ContinuousOn (fun p => ((q.handle (GainCalc.quadRoot (q.polys p).1) (GainCalc.quadRoot (q.polys p).2) p).map
      (·.getD j 0)).getD 0) (cornerCone q0 q1 q2 q3) := by
  intro q
  set a := [q0, q1, q2, q3].getD (o.getD 0 0) zero3 with ha
  set b := [q0, q1, q2, q3].getD (o.getD 1 0) zero3 with hb
  set c := [q0, q1, q2, q3].getD (o.getD 2 0) zero3 with hc
  set d := [q0, q1, q2, q3].getD (o.getD 3 0) zero3 with hd
  obtain ⟨cx, cy, cg, hroots⟩ := quad_cone_continuousOn_partial a b c d hsig
  have hsub := posCone_subset ho q0 q1 q2 q3
  have hacc : ∀ p ∈ cornerCone q0 q1 q2 q3,
      q.handle (GainCalc.quadRoot (q.polys p).1) (GainCalc.quadRoot (q.polys p).2) p ≠ none := by
    rintro p ⟨hp, g0, g1, g2, g3, h0, h1, h2, h3, hpe⟩
    exact quad_accepts q0 q1 q2 q3 o ho hsig g0 g1 g2 g3 p h0 h1 h2 h3 hp hpe
  refine ⟨hacc, ?_⟩
  obtain ⟨hlen, _, hnd⟩ := isPermOfRange_parts ho
  have hval : ∀ p ∈ cornerCone q0 q1 q2 q3,
      ((q.handle (GainCalc.quadRoot (q.polys p).1) (GainCalc.quadRoot (q.polys p).2) p).map (·.getD j 0)).getD 0 =
        if j ∈ o ∧ j < 4 then bilGain (o.idxOf j) (panValue a b c d p) (panValue b c d a p) else 0 := by
    intro p hp
    obtain ⟨rx, ry, _, _⟩ := hroots p (hsub hp)
    have hpx : (q.polys p).1 = QuadRegion.panPoly a b c d p := rfl
    have hpy : (q.polys p).2 = QuadRegion.panPoly b c d a p := rfl
    have hne := hacc p hp
    rw [hpx, hpy, rx, ry] at hne ⊢
    obtain ⟨out, hout⟩ := Option.ne_none_iff_exists'.mp hne
    rw [hout, quad_out_eq q p _ _ out ho hout]
    simp only [Option.map_some, Option.getD_some]
    rw [scatter_zeros_getD 4 o _ hnd (by simp [QuadRegion.weights, hlen]) j]
    by_cases hj : j ∈ o ∧ j < 4
    · simp only [hj, and_self, if_true, bilGain, getD_map_div]
    · simp only [hj, if_false]
  refine ContinuousOn.congr ?_ hval
  by_cases hj : j ∈ o ∧ j < 4
  · simp only [hj, and_self, if_true]
    exact (cg (o.idxOf j)).mono hsub
  · simp only [hj, if_false]
    exact continuousOn_const

theorem tables_quad_signs (l : RawLayout) (hl : l ∈ Earverif.Gen.C05.layouts) (r : RawRegion) (hr : r ∈ l.regions)
    (hk : r.kind = 2) (q0 q1 q2 q3 : P3) (hpos : r.pos = [q0, q1, q2, q3]) :
    isPermOfRange r.order 4 = true ∧
    QuadSigns ([(p3 q0 : Vec3 ℝ), p3 q1, p3 q2, p3 q3].getD (r.order.getD 0 0) zero3)
      ([(p3 q0 : Vec3 ℝ), p3 q1, p3 q2, p3 q3].getD (r.order.getD 1 0) zero3)
      ([(p3 q0 : Vec3 ℝ), p3 q1, p3 q2, p3 q3].getD (r.order.getD 2 0) zero3)
      ([(p3 q0 : Vec3 ℝ), p3 q1, p3 q2, p3 q3].getD (r.order.getD 3 0) zero3) := by
  have h := quad_tables_ok
  unfold quadTablesOk at h
  rw [List.all_eq_true] at h
  have h2 := h l hl
  rw [List.all_eq_true] at h2
  exact quadRegionOk_sound _ r hk (h2 r hr) q0 q1 q2 q3 hpos

/-- every QuadRegion of the ten nominal layouts, with the closed-form root selection, is continuous on the cone of its
    corners (instance of `quad_handle_continuousOn_cone_partial`; the sign certificate is `quad_tables_ok`). -/
theorem tables_quad_continuousOn_cone_partial (l : RawLayout) (hl : l ∈ Earverif.Gen.C05.layouts) (r : RawRegion)
    (hr : r ∈ l.regions) (hk : r.kind = 2) (q0 q1 q2 q3 : P3) (hpos : r.pos = [q0, q1, q2, q3]) (j : Nat) :
    let q : QuadRegion ℝ := ⟨r.pos.map p3, r.order⟩
    ContinuousOn (fun p => ((q.handle (GainCalc.quadRoot (q.polys p).1) (GainCalc.quadRoot (q.polys p).2) p).map
      (·.getD j 0)).getD 0) (cornerCone (p3 q0) (p3 q1) (p3 q2) (p3 q3)) := by
  obtain ⟨hperm, hsig⟩ := tables_quad_signs l hl r hr hk q0 q1 q2 q3 hpos
  have := (quad_handle_continuousOn_cone_partial (p3 q0) (p3 q1) (p3 q2) (p3 q3) r.order hperm hsig j).2
  simpa [hpos] using this

/-- non-vacuity of `continuousOn_of_unique_zero`: `F p t = t − p` on `K = [0, 1]`, selected zero `x p = p` -/
example : (Continuous fun z : ℝ × ℝ => z.2 - z.1) ∧ (∀ p ∈ Icc (0 : ℝ) 1, p ∈ Icc (0 : ℝ) 1 ∧ p - p = 0) ∧
    (∀ p ∈ Icc (0 : ℝ) 1, ∀ t ∈ Icc (0 : ℝ) 1, t - p = 0 → t = p) :=
  ⟨by fun_prop, fun p hp => ⟨hp, sub_self p⟩, fun p _ t _ h => by linarith⟩

/-- non-vacuity of `unit_root_unique`: `f(t) = t − 1/2` -/
example : (0 : ℝ) * eps ^ 2 - 1 * eps + (-1 / 2) ≤ 0 ∧ (0 : ℝ) ≤ 0 * (1 + eps) ^ 2 + 1 * (1 + eps) + (-1 / 2) ∧
    ¬((0 : ℝ) = 0 ∧ (1 : ℝ) = 0 ∧ (-1 / 2 : ℝ) = 0) := by
  have := eps_pos
  refine ⟨by linarith, by linarith, by norm_num⟩

/-- the hypotheses of `quad_handle_continuousOn_cone_partial` are met by every QuadRegion of the ten regenerated tables
    (`quad_tables_ok`), and each of its four corners is a direction of the cone -/
example (l : RawLayout) (hl : l ∈ Earverif.Gen.C05.layouts) (r : RawRegion) (hr : r ∈ l.regions) (hk : r.kind = 2)
    (q0 q1 q2 q3 : P3) (hpos : r.pos = [q0, q1, q2, q3]) :
    isPermOfRange r.order 4 = true ∧
    QuadSigns ([(p3 q0 : Vec3 ℝ), p3 q1, p3 q2, p3 q3].getD (r.order.getD 0 0) zero3)
      ([(p3 q0 : Vec3 ℝ), p3 q1, p3 q2, p3 q3].getD (r.order.getD 1 0) zero3)
      ([(p3 q0 : Vec3 ℝ), p3 q1, p3 q2, p3 q3].getD (r.order.getD 2 0) zero3)
      ([(p3 q0 : Vec3 ℝ), p3 q1, p3 q2, p3 q3].getD (r.order.getD 3 0) zero3) ∧
    ((p3 q0 : Vec3 ℝ) ≠ (0, 0, 0) → (p3 q0 : Vec3 ℝ) ∈ cornerCone (p3 q0) (p3 q1) (p3 q2) (p3 q3)) := by
  obtain ⟨hperm, hsig⟩ := tables_quad_signs l hl r hr hk q0 q1 q2 q3 hpos
  refine ⟨hperm, hsig, fun hne => ⟨hne, 1, 0, 0, 0, by norm_num, le_refl _, le_refl _, le_refl _, ?_⟩⟩
  obtain ⟨x, y, z⟩ := (p3 q0 : Vec3 ℝ)
  simp [comb4, add3, smul3]

end QuadCone

theorem outer_of_meet_triplets (X Y : TRegion) (h : MeetInSharedFace X Y) :
    MeetInOuterFace (Region.triplet X.1 X.2) X (Region.triplet Y.1 Y.2) Y :=
  (meetInSharedFace_iff_outer X Y).mp h

/-- a two-region panner (the standard basis triplet and its mirror image, channels 0 1 2 / 0 1 3) satisfying every
    hypothesis of `panner_continuousOn_tri_ngon_partial`; for VirtualNgon regions the hypotheses are met by every n-gon of
    the ten regenerated tables (`Faces.ngon_table`, used by `tables_ngon_continuousOn`) -/
example : let regions : List (Region ℝ) := [Region.triplet [0, 1, 2] exP, Region.triplet [0, 1, 3] exQ]
    (∀ R ∈ regions, R.tnOk) ∧
      (∀ R ∈ regions, ∀ R' ∈ regions, R ≠ R' → ∀ X ∈ R.tcells, ∀ Y ∈ R'.tcells, MeetInOuterFace R X R' Y) := by
  intro regions
  refine ⟨?_, ?_⟩
  · intro R hR
    simp only [regions, List.mem_cons, List.mem_nil_iff, or_false] at hR
    rcases hR with rfl | rfl
    · exact ⟨by norm_num [det3, exP], 0, 1, 2, rfl, by decide, by decide, by decide⟩
    · exact ⟨by norm_num [det3, exQ], 0, 1, 3, rfl, by decide, by decide, by decide⟩
  · intro R hR R' hR' hne X hX Y hY
    simp only [regions, List.mem_cons, List.mem_nil_iff, or_false] at hR hR'
    rcases hR with rfl | rfl <;> rcases hR' with rfl | rfl
    · exact absurd rfl hne
    · simp only [Region.tcells, List.mem_singleton] at hX hY
      subst hX hY
      exact outer_of_meet_triplets _ _ ex_meet.1
    · simp only [Region.tcells, List.mem_singleton] at hX hY
      subst hX hY
      exact outer_of_meet_triplets _ _ ex_meet.2
    · exact absurd rfl hne

/-- the data of the quantitative bound for the standard basis triplet and its mirror image: plane `z = 0`, the third rows
    are `far`, `κ = 2`, `α = 1` (on the regenerated tables the data come from the certificate: `tables_triplet_pair`) -/
example : PairData ([0, 1, 2], exP) ([0, 1, 3], exQ) 1 2 := by
  refine ⟨by norm_num [det3, exP], by norm_num [det3, exQ], (0, 0, 1), id, fun j => j = 2, fun _ _ h => h, ?_, ?_, ?_, ?_, ?_, ?_⟩
  · intro j hj
    fin_cases j
    · exact ⟨rfl, rfl⟩
    · exact ⟨rfl, rfl⟩
    · exact absurd rfl hj
  · intro i; fin_cases i <;> norm_num [row, exP, dot3]
  · intro j; fin_cases j <;> norm_num [row, exQ, dot3]
  · intro j hj; subst hj; norm_num [row, exQ, dot3]
  · intro j hj; subst hj
    simp only [Fin.sum_univ_three]
    norm_num [row, exP, exQ, dot3]
  · intro j hj i; subst hj
    rw [pv_exP]
    fin_cases i <;> norm_num [row, exQ, coord]

/-- every n-gon of the nominal tables: the virtual centre is a direction of its acceptance set -/
example (l : RawLayout) (hl : l ∈ Earverif.Gen.C05.layouts) (r : RawRegion) (hr : r ∈ l.regions) (k1 : r.kind = 1)
    (X : TRegion) (hX : X ∈ (Faces.ngonOf r).regions) : X.2.2.2 ∈ TRegion.cone X := by
  obtain ⟨cert, _, hs⟩ := faces_spec_of_tables l hl
  obtain ⟨k, hk⟩ := List.mem_iff_getElem?.mp hr
  obtain ⟨_, h2, _, _, _, _, _⟩ := Faces.ngon_table hs hk k1
  have hd := h2 X hX
  have e0 := pv_row X.2 hd 2 0
  have e1 := pv_row X.2 hd 2 1
  have e2 := pv_row X.2 hd 2 2
  simp only [row, coord] at e0 e1 e2
  refine ⟨⟨by rw [e0]; simp, by rw [e1]; simp, by rw [e2]; simp⟩, ?_⟩
  intro h0
  apply hd
  obtain ⟨ch, a, b, c⟩ := X
  simp only at h0
  subst h0
  simp [det3]

-- the hypotheses of `edge_unique`, `triplet_continuousOn` and `stereo_continuousOn` are satisfiable
example : cross3 ((1 : ℝ), 0, 0) (0, 1, 0) ≠ (0, 0, 0) := by norm_num [cross3]
example : ((1 : ℝ), 1, 0) ∈ {p | Triplet.pv (((1 : ℝ), 0, 0), (0, 1, 0), (0, 0, 1)) p ≠ (0, 0, 0)} := by
  simp [Triplet.pv, vecMat, inv3, det3]
example : ((1 : ℝ), 0, 0, 0, 0) ∈ stereoDomain := by simp [stereoDomain]

/-- PARTIAL (see the header): the conjunction of what is proved. -/
theorem C12_partial :
    (type_of% @edge_unique) ∧ (type_of% @edge_exists) ∧ (type_of% @triplet_on_edge) ∧ (type_of% @edge_agreement) ∧
    (type_of% @triplet_continuousOn) ∧ (type_of% @triplet_handle_continuousOn) ∧ (type_of% @stereo_continuousOn) ∧
    (type_of% @downmix_continuousOn) ∧ (type_of% @quad_on_edge) ∧ (type_of% @quad_edge_agreement) ∧
    (type_of% @quad_edge_agreement') ∧ (type_of% @ngon_candidate_on_edge) ∧ (type_of% @ngon_on_edge) ∧
    (type_of% @firstAccept_eq_of_agree) ∧ (type_of% @firstAccept_continuousOn) ∧ (type_of% @firstAccept_jump_bound) ∧
    (type_of% @panner_continuousOn_of_regions) ∧ (type_of% @triplet_accept_isClosed) ∧
    (type_of% @triplet_accept_isClosed_code) ∧ (type_of% @ngon_accept_isClosed) ∧
    (type_of% @quad_accept_isOpen_of_roots) ∧ (type_of% @tripletPannerE_eps) ∧ (type_of% @shared_face_agreement) ∧
    (type_of% @panner_continuousOn_triplets_partial) ∧ (type_of% @triplet_sliver_bound_general) ∧
    (type_of% @triplet_sliver_bound) ∧ (type_of% @panner_jump_bound_of_regions) ∧
    (type_of% @two_triplet_panner_jump_bound) ∧ (type_of% @ngon_handleE_eps) ∧ (type_of% @ngon_handle_continuousOn) ∧
    (type_of% @pannerTNE_eps) ∧ (type_of% @panner_continuousOn_tri_ngon_partial) ∧ (type_of% @pair_gain_bound) ∧
    (type_of% @pair_out_bound) ∧ (type_of% @panner_jump_bound_triplets) ∧ (type_of% @faces_tables_ok) ∧
    (type_of% @tables_triplet_pairs_meet_in_faces) ∧ (type_of% @tables_triplet_panner_continuousOn) ∧
    (type_of% @tables_triplet_panner_jump_bound) ∧ (type_of% @tables_ngon_continuousOn) ∧
    (type_of% @tables_tri_ngon_continuousOn) ∧
    (type_of% @quad_cone_continuousOn_partial) ∧ (type_of% @quad_handle_continuousOn_cone_partial) ∧
    (type_of% @tables_quad_continuousOn_cone_partial) :=
  ⟨@edge_unique, @edge_exists, @triplet_on_edge, @edge_agreement, @triplet_continuousOn,
    @triplet_handle_continuousOn, @stereo_continuousOn, @downmix_continuousOn, @quad_on_edge, @quad_edge_agreement,
    @quad_edge_agreement', @ngon_candidate_on_edge, @ngon_on_edge, @firstAccept_eq_of_agree,
    @firstAccept_continuousOn, @firstAccept_jump_bound, @panner_continuousOn_of_regions, @triplet_accept_isClosed,
    @triplet_accept_isClosed_code, @ngon_accept_isClosed, @quad_accept_isOpen_of_roots, @tripletPannerE_eps,
    @shared_face_agreement, @panner_continuousOn_triplets_partial, @triplet_sliver_bound_general,
    @triplet_sliver_bound, @panner_jump_bound_of_regions, @two_triplet_panner_jump_bound, @ngon_handleE_eps,
    @ngon_handle_continuousOn, @pannerTNE_eps, @panner_continuousOn_tri_ngon_partial, @pair_gain_bound, @pair_out_bound,
    @panner_jump_bound_triplets, @faces_tables_ok, @tables_triplet_pairs_meet_in_faces,
    @tables_triplet_panner_continuousOn, @tables_triplet_panner_jump_bound, @tables_ngon_continuousOn,
    @tables_tri_ngon_continuousOn,
    @quad_cone_continuousOn_partial, @quad_handle_continuousOn_cone_partial, @tables_quad_continuousOn_cone_partial⟩

end Earverif.PointSource
