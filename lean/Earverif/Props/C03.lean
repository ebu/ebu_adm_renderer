/-
C03 — rendered audio equals the metadata-defined time-varying gains, zero latency.

First part (namespace `Timeline`): one `BlockProcessingChannel` against the sample-by-sample specification `gainAt`
(`Proofs/C03{Ceil,Bpc,Gain}.lean`; the DirectSpeakers/HOA interpreters and the loop over a renderer's channels are in
`Proofs/C03{Fixed,Chans}.lean` and are used by `Proofs/C02Render.lean`), then the composed renderer models
`renderAll` / `renderAllOS` (`Model/{Renderer,OverlapSave}.lean`) against `RenderSpec.out` through the refinement theorems
of `Proofs/C02{Render,OverlapSave}.lean`, and linearity in the input (`Proofs/C03Linear.lean`).
Second part (namespace `RendererTS`): the same for items with track specs (`Model/RendererTS.lean`,
`Proofs/C02RenderTS.lean`, `Proofs/C03LinearTS.lean`).
-/
import Earverif.Proofs.C03Gain
import Earverif.Proofs.C02Render
import Earverif.Proofs.C02RenderTS
import Earverif.Proofs.C02OverlapSave
import Earverif.Proofs.C03Linear
import Earverif.Proofs.C03LinearTS
namespace Earverif.Timeline
open Earverif.Stream Earverif.RenderSpec

section
variable {V : Type} [RMod V] [LawfulRMod V]

/-- A timeline in the property's quantifier: the interpreter accepts all of it (no overlapping /
out-of-order blocks, rtime and duration paired, block inside the object, interpolationLength not
longer than the block); durations and interpolation lengths are not negative; the first block does
not start before time zero (otherwise the real code raises "metadata underrun"). -/
structure ObjAccepted (sr : Nat) (blocks : List (MetaBlock V)) : Prop where
  interp_ok : ∃ all, interpAll (interpObject sr) {} blocks = .ok all
  nonneg : ∀ m ∈ blocks, NonNegBlock m
  start_nonneg : ∀ m ms, blocks = m :: ms → 0 ≤ (blockTimes m).1

/-- `BlockProcessingChannel` with `InterpretObjectMetadata`, fed the item's
sample stream in ANY partition (`ios` = the successive `(input block, rows to add into)` pairs,
empty blocks allowed), for an accepted timeline: no exception is raised (in particular no
"metadata underrun"), and the concatenated result adds `x[s] · gainAt(s)` to row `s` — a function
of the concatenated stream only.  `gainAt` is the sample-by-sample specification of
`Model/RenderSpec.lean` (constant / linear ramp / silence).  (One channel on its own; the composed theorems below use the
same fact for a channel inside a renderer, `Renderer.obj_accepted_spec` with `chans_subRun_spec`.) -/
theorem bpc_eq_gainAt (sr : Nat) (blocks : List (MetaBlock V)) (hacc : ObjAccepted sr blocks)
    (ios : List (List Rat × List V)) (hlen : ∀ io ∈ ios, io.2.length = io.1.length) :
    ∃ b' outs, Bpc.run (interpObject sr) GainKern.upd ⟨blocks, {}, []⟩ 0 ios = .ok (b', outs) ∧
      outs.map List.length = ios.map (·.2.length) ∧
      outs.flatten =
        mapRows (fun j x o => o + RMod.smul x (gainAt sr (objTimeline none blocks) j).row)
          (ios.map (·.1)).flatten (ios.map (·.2)).flatten := by
  obtain ⟨all, hall⟩ := hacc.interp_ok
  have hst : StOK ({} : IState V) := ⟨rfl, Or.inl rfl⟩
  obtain ⟨h1, h2, _⟩ := obj_all_spec blocks {} all hall hst hacc.nonneg
  have hch : ChainLB 0 all := h2 0 (start_lb sr blocks hacc.start_nonneg)
  obtain ⟨b', hrun, _⟩ := bpc_run_spec (interpObject sr) interpObject_yield_le_two GainKern.upd hch ios
    ⟨blocks, {}, []⟩ 0 (bpcInv_init _ _ _ hall hch)
  obtain ⟨hl, hf⟩ := runSpec_flatten GainKern.upd all ios 0 hlen
  refine ⟨b', _, hrun, hl, ?_⟩
  rw [hf]
  apply mapRows_congr
  intro j x o _
  rw [h1]
  simp only [statePrev, Int.zero_add]

/-- `bpc_eq_gainAt` read at one row: for any partition, row `s` of the
concatenated result is the old row plus `x[s] · gainAt(s)` — the sample `x[s]` itself, i.e. zero latency on
the gain path (`C03_direct_zero_latency` at the level of one channel). -/
theorem C03_gain_timeline (sr : Nat) (blocks : List (MetaBlock V)) (hacc : ObjAccepted sr blocks)
    (ios : List (List Rat × List V)) (hlen : ∀ io ∈ ios, io.2.length = io.1.length) (s : Nat) (x : Rat) (o : V)
    (hx : (ios.map (·.1)).flatten[s]? = some x) (ho : (ios.map (·.2)).flatten[s]? = some o) :
    ∃ b' outs, Bpc.run (interpObject sr) GainKern.upd ⟨blocks, {}, []⟩ 0 ios = .ok (b', outs) ∧
      outs.flatten[s]? = some (o + RMod.smul x (gainAt sr (objTimeline none blocks) s).row) := by
  obtain ⟨b', outs, h1, _, h3⟩ := bpc_eq_gainAt sr blocks hacc ios hlen
  refine ⟨b', outs, h1, ?_⟩
  rw [h3]
  simp only [getElem?_mapRows, ho, hx, Option.map_some]

omit [RMod V] [LawfulRMod V] in
/-- Silence is specified exactly where no block of the timeline covers the sample. -/
theorem gainAt_silent_iff {G : Type} (sr : Nat) (tl : List (SpecBlock G)) (s : Int) :
    (∃ g, gainAt sr tl s = g ∧ (match g with | .silent => True | _ => False)) ↔
      ∀ b ∈ tl, b.covers sr s = false := by
  induction tl with
  | nil => simp [gainAt]
  | cons b tl ih =>
    rw [gainAt_cons]
    by_cases hc : b.covers sr s = true
    · rw [if_pos hc]
      constructor
      · rintro ⟨g, hg, hm⟩
        rw [gainAt_single sr b s hc] at hg
        split at hg <;> (try split at hg) <;> subst hg <;> exact hm.elim
      · intro h; have := h b List.mem_cons_self; rw [hc] at this; cases this
    · rw [if_neg hc]
      simp only [Bool.not_eq_true] at hc
      rw [ih]
      simp [hc]

/-- On the specification side: where no block of a timeline covers sample `s`, `gainAt` is silence, so a term
`x · gainAt(s)` adds nothing. -/
theorem C03_silence_outside_blocks (sr : Nat) (tl : List (SpecBlock V)) (s : Int) (x : Rat) (o : V)
    (h : ∀ b ∈ tl, b.covers sr s = false) : o + RMod.smul x (gainAt sr tl s).row = o := by
  obtain ⟨g, hg, hm⟩ := (gainAt_silent_iff sr tl s).mpr h
  rw [hg]
  cases g with
  | silent => exact silent_row x o
  | const _ => cases hm
  | ramp _ _ _ => cases hm

omit [LawfulRMod V] in
/-- Two channels sharing the output rows, as in `ObjectRenderer.render`: the
second channel adds to what the first produced; row `s` ends up as `o + x_a·g_a + x_b·g_b`.  (Component-level identity;
the clause "exact sum over items, linear in the input audio" for whole sessions is `C03_render_formula(_os)` — every
term is a `sumV` over the items — together with `C03_linear_in_input` below.) -/
theorem C03_sum_of_items_linear (ga gb : Nat → V) (xa xb : List Rat) (os : List V) (s : Nat) (a b : Rat) (o : V)
    (ha : xa[s]? = some a) (hb : xb[s]? = some b) (ho : os[s]? = some o) :
    (mapRows (fun j x o => o + RMod.smul x (gb j)) xb (mapRows (fun j x o => o + RMod.smul x (ga j)) xa os))[s]? =
      some (o + RMod.smul a (ga s) + RMod.smul b (gb s)) := by
  simp only [getElem?_mapRows, ho, ha, hb, Option.map_some]

end

section Composed
open Earverif.Renderer
variable {V : Type} [RMod V] [LawfulRMod V]

omit [RMod V] [LawfulRMod V] in
/-- The composed theorems go through `Renderer.obj_accepted_spec` (`Proofs/C02Render.lean`), stated with the copy
`ObjAccepted'` of this file's `ObjAccepted` (that file is imported here, not the other way round): the two agree. -/
theorem objAccepted_iff (sr : Nat) (blocks : List (MetaBlock (V × V))) :
    ObjAccepted sr blocks ↔ ObjAccepted' sr blocks :=
  ⟨fun h => ⟨h.interp_ok, h.nonneg, h.start_nonneg⟩, fun h => ⟨h.interp_ok, h.nonneg, h.start_nonneg⟩⟩

/-- DirectSpeakers part of the specified output at sample `s`. -/
def dsPart (c : Cfg V) (dss : List (DsItem V)) (x : List (List Rat)) (s : Nat) : V :=
  sumV (dss.map fun it => RMod.smul (xAt x it.track s) (gainAt c.sr (fixedTimeline it.blocks) s).row)

/-- HOA part of the specified output at sample `s`. -/
def hoaPart (c : Cfg V) (hoas : List (HoaItem V)) (x : List (List Rat)) (s : Nat) : V :=
  sumV (hoas.map fun it => (gainAt c.sr (fixedTimeline it.blocks) s).mat (it.tracks.map fun tr => xAt x tr s))

omit [RMod V] [LawfulRMod V] in
theorem range_map_spec (f : Nat → V) (n : Nat) :
    ((List.range n).map f).length = n ∧ ∀ s, s < n → ((List.range n).map f)[s]? = some (f s) :=
  ⟨by rw [List.length_map, List.length_range], fun s hs => by
    rw [List.getElem?_map, List.getElem?_range hs, Option.map_some]⟩

/-- Every output sample of the real pipeline's model, for any blocking:
`out[s] = direct(s) + Σ_k f[k]·diffuse(s + (N−1)//2 − k) + ds(s) + hoa(s)`, each term the exact sum over items of
input sample × `gainAt`. -/
theorem C03_render_formula (c : Cfg V) (objs : List (ObjItem V)) (dss : List (DsItem V)) (hoas : List (HoaItem V))
    (hok : SessionOK c objs dss hoas) (parts : List (List (List Rat))) :
    ∃ out, renderAll c objs dss hoas parts = .ok out ∧ out.length = parts.flatten.length ∧
      ∀ s, s < parts.flatten.length → out[s]? =
        some ((((objAt c.sr objs parts.flatten s).1 + specDiffuse c objs parts.flatten s) +
          dsPart c dss parts.flatten s) + hoaPart c hoas parts.flatten s) :=
  ⟨_, render_refines_spec c objs dss hoas hok parts, range_map_spec _ _⟩

/-- `C03_render_formula` for the renderer with the partitioned overlap-save FFT convolver
inside `ObjectRenderer` (`renderAllOS`, `Model/OverlapSave.lean`; via `render_refines_spec_os_ok`), for a non-empty
decorrelation filter: in particular the diffuse term of every output sample is `specDiffuse`, the decorrelation FIR
with its group delay compensated (`C03_diffuse_group_delay`), although the code computes it block-wise by circular
convolutions of length `2·block_size` behind a `block_size` adapter delay. -/
theorem C03_render_formula_os (c : Cfg V) (objs : List (ObjItem V)) (dss : List (DsItem V)) (hoas : List (HoaItem V))
    (hok : SessionWF c objs dss hoas) (parts : List (List (List Rat))) :
    ∃ out, renderAllOS c objs dss hoas parts = .ok out ∧ out.length = parts.flatten.length ∧
      ∀ s, s < parts.flatten.length → out[s]? =
        some ((((objAt c.sr objs parts.flatten s).1 + specDiffuse c objs parts.flatten s) +
          dsPart c dss parts.flatten s) + hoaPart c hoas parts.flatten s) :=
  ⟨_, render_refines_spec_os_ok c objs dss hoas hok.ok hok.taps_ne hok.index parts, range_map_spec _ _⟩

omit [RMod V] [LawfulRMod V] in
theorem inputOK_of_shape (c : Cfg V) (x y : List (List Rat)) (h : SameShape c.n_in x y) :
    InputOK c x ∧ InputOK c y ∧ InputOK c (addX x y) := by
  refine ⟨h.wx, h.wy, ?_⟩
  intro fr hfr
  obtain ⟨i, hi, rfl⟩ := List.getElem_of_mem hfr
  simp only [addX, List.length_zipWith] at hi
  simp only [addX, List.getElem_zipWith, List.length_zipWith]
  rw [h.wx _ (List.getElem_mem (by omega)), h.wy _ (List.getElem_mem (by omega)), Nat.min_self]

omit [RMod V] [LawfulRMod V] in
theorem inputOK_smulX (c : Cfg V) (a : Rat) (x : List (List Rat)) (h : InputOK c x) : InputOK c (smulX a x) := by
  intro fr hfr
  simp only [smulX, List.mem_map] at hfr
  obtain ⟨fr0, h0, rfl⟩ := hfr
  rw [List.length_map]; exact h fr0 h0

theorem out_add (c : Cfg V) (objs : List (ObjItem V)) (dss : List (DsItem V)) (hoas : List (HoaItem V))
    (x y : List (List Rat)) (h : SameShape c.n_in x y) :
    RenderSpec.out c objs dss hoas (addX x y) =
      List.zipWith (· + ·) (RenderSpec.out c objs dss hoas x) (RenderSpec.out c objs dss hoas y) := by
  simp only [RenderSpec.out, addX_length x y h.len, ← h.len]
  rw [List.zipWith_map_left, List.zipWith_map_right, List.zipWith_self]
  apply List.map_congr_left
  intro s _
  exact outAt_add c objs dss hoas x y h s

theorem out_smul (c : Cfg V) (objs : List (ObjItem V)) (dss : List (DsItem V)) (hoas : List (HoaItem V))
    (a : Rat) (x : List (List Rat)) :
    RenderSpec.out c objs dss hoas (smulX a x) = (RenderSpec.out c objs dss hoas x).map (RMod.smul a) := by
  simp only [RenderSpec.out, smulX, List.length_map, List.map_map]
  apply List.map_congr_left
  intro s _
  exact outAt_smul c objs dss hoas a x s

/-- "the output is the exact sum over items, linear in the input audio", for the renderer
model with the overlap-save convolver and ANY blockings (items reading one input track each; items with track specs:
`C03_linear_in_input_ts`): with the same items, rendering the sum of two inputs of the
same shape (in any blocking) gives the frame-wise sum of the two renderings (each in any blocking), and rendering `a·x`
gives `a` times the rendering of `x`.  (From `outAt_add`/`outAt_smul` on the specification through
`render_refines_spec_os_ok`.) -/
theorem C03_linear_in_input (c : Cfg V) (objs : List (ObjItem V)) (dss : List (DsItem V)) (hoas : List (HoaItem V))
    (hok : SessionWF c objs dss hoas) (px py pxy pa : List (List (List Rat))) (a : Rat)
    (hshape : SameShape c.n_in px.flatten py.flatten) (hsum : pxy.flatten = addX px.flatten py.flatten)
    (hscale : pa.flatten = smulX a px.flatten) :
    ∃ ox oy, renderAllOS c objs dss hoas px = .ok ox ∧ renderAllOS c objs dss hoas py = .ok oy ∧
      renderAllOS c objs dss hoas pxy = .ok (List.zipWith (· + ·) ox oy) ∧
      renderAllOS c objs dss hoas pa = .ok (ox.map (RMod.smul a)) := by
  have hr := render_refines_spec_os_ok c objs dss hoas hok.ok hok.taps_ne hok.index
  refine ⟨_, _, hr px, hr py, ?_, ?_⟩
  · rw [hr pxy, hsum, out_add c objs dss hoas _ _ hshape]
  · rw [hr pa, hscale, out_smul]

omit [LawfulRMod V] in
/-- The direct part of Objects, the DirectSpeakers part and the HOA part of output
sample `s` depend on the input only through input frame `s` (no latency, no look-ahead): two inputs that agree at
frame `s` give the same three terms. -/
theorem C03_direct_zero_latency (c : Cfg V) (objs : List (ObjItem V)) (dss : List (DsItem V)) (hoas : List (HoaItem V))
    (x y : List (List Rat)) (s : Nat) (h : x.getD s [] = y.getD s []) :
    (objAt c.sr objs x s).1 = (objAt c.sr objs y s).1 ∧ dsPart c dss x s = dsPart c dss y s ∧
      hoaPart c hoas x s = hoaPart c hoas y s := by
  have hx : ∀ tr, xAt x tr (s : Int) = xAt y tr (s : Int) := by
    intro tr; unfold xAt; rw [if_pos (by omega), if_pos (by omega), Int.toNat_natCast, h]
  refine ⟨?_, ?_, ?_⟩
  · unfold objAt; simp only [hx]
  · unfold dsPart; simp only [hx]
  · unfold hoaPart; simp only [hx]

omit [LawfulRMod V] in
/-- The diffuse term `specDiffuse` of the specification (the second term of `C03_render_formula(_os)`), written out: the
per-loudspeaker decorrelation filter `f` (length `N`) applied to the diffuse gain stream with its group delay
`(N − 1)//2` compensated, `Σ_{k<N} f[k] · diffuse(s + (N−1)//2 − k)`, `diffuse(t)` = diffuse half of
`Σ_items x[t]·gainAt(t)` (0 outside the input). Holds by definition. -/
theorem C03_diffuse_group_delay (c : Cfg V) (objs : List (ObjItem V)) (x : List (List Rat)) (s : Nat) :
    specDiffuse c objs x s =
      sumV ((List.range c.taps.length).map fun k =>
        RMod.pmul (c.taps.getD k 0) (objAt c.sr objs x ((s : Int) + ((c.taps.length - 1) / 2 : Nat) - k)).2) := rfl

end Composed

/-- Sample rate 10: `[0, 3/10)` gain 1; gap; `[1/2, 4/5)` gain 2; contiguous `[4/5, 13/10)` gain 3 with
jumpPosition and interpolationLength 1/4 (ramp 2→3 over samples 8..10, not aligned to samples). -/
def exBlocks : List (MetaBlock Rat) :=
  [ ⟨none, none, some 0, some (3/10), false, none, 1⟩,
    ⟨none, none, some (1/2), some (3/10), false, none, 2⟩,
    ⟨none, none, some (4/5), some (1/2), true, some (1/4), 3⟩ ]

theorem ok_of_toBool {ε α : Type} (e : Except ε α) (h : e.toBool = true) : ∃ a, e = .ok a := by
  cases e with
  | error _ => simp [Except.toBool] at h
  | ok a => exact ⟨a, rfl⟩

theorem exBlocks_accepted : ObjAccepted 10 exBlocks where
  interp_ok := ok_of_toBool _ (by decide +kernel)
  nonneg := by decide +kernel
  start_nonneg := by
    intro m ms h
    simp only [exBlocks] at h
    cases h
    decide +kernel

/-- The specified gains of the example at samples 0..13: constant, silence in the gap, ramp, constant, silence. -/
example : (List.range 14).map (fun s => (gainAt 10 (objTimeline none exBlocks) s).row) =
    [1, 1, 1, 0, 0, 2, 2, 2, 2, 12/5, 14/5, 3, 3, 0] := by decide +kernel

open Earverif.Renderer in
/-- One output channel (`V = Rat`), sample rate 10, `block_size = 2`, a 3-tap decorrelator (group delay 1). -/
def exCfg : Cfg Rat := ⟨10, 2, [1/4, 1/2, 1/4], 1⟩

/-- The Objects item: the timeline of `exBlocks` with `(direct, diffuse)` gains. -/
def exObjBlocks : List (MetaBlock (Rat × Rat)) :=
  [ ⟨none, none, some 0, some (3/10), false, none, (1, 0)⟩,
    ⟨none, none, some (1/2), some (3/10), false, none, (2, 1)⟩,
    ⟨none, none, some (4/5), some (1/2), true, some (1/4), (3, 0)⟩ ]

open Earverif.Renderer in
def exObjs : List (ObjItem Rat) := [⟨0, exObjBlocks⟩]

open Earverif.Renderer in
/-- A DirectSpeakers item on the same track: one block without timing (whole programme), gain 1/2. -/
def exDss : List (DsItem Rat) := [⟨0, [⟨none, none, none, none, false, none, 1/2⟩]⟩]

open Earverif.Renderer in
theorem exSession_ok : SessionOK exCfg exObjs exDss [] where
  block_size_pos := by decide
  objs_ok := by
    intro it hit
    simp only [exObjs, List.mem_cons, List.not_mem_nil, or_false] at hit
    subst hit
    refine ⟨ok_of_toBool _ (by decide +kernel), by decide +kernel, ?_⟩
    · intro m ms h
      simp only [exObjBlocks] at h
      cases h
      decide +kernel
  dss_ok := by
    intro it hit
    simp only [exDss, List.mem_cons, List.not_mem_nil, or_false] at hit
    subst hit
    refine ⟨ok_of_toBool _ (by decide +kernel), by decide +kernel, ?_⟩
    · intro m ms h
      cases h
      decide +kernel
  hoas_ok := by intro it hit; cases hit

open Earverif.Renderer in
/-- The model run on 14 input frames split as `[3, 0, 1, 10]` returns what the specification says (kernel-evaluated on
both sides), an instance of `render_refines_spec`. -/
example : renderAll exCfg exObjs exDss []
      [[[1], [2], [3]], [], [[4]], [[5], [6], [7], [8], [9], [10], [11], [12], [13], [14]]] =
    .ok (RenderSpec.out exCfg exObjs exDss []
      [[1], [2], [3], [4], [5], [6], [7], [8], [9], [10], [11], [12], [13], [14]]) :=
  render_refines_spec exCfg exObjs exDss [] exSession_ok _

open Earverif.Renderer in
/-- Non-vacuity of `SessionWF`: the example session is inside the stated quantifier (track 0 of a 1-channel input,
three taps). -/
theorem exSession_wf : SessionWF exCfg exObjs exDss [] where
  ok := exSession_ok
  index := ⟨by decide, by decide, (by intro it hit; cases hit), (by intro it hit; cases hit),
    (by intro it hit; cases hit)⟩
  taps_ne := by decide

open Earverif.Renderer in
/-- The same session through the model with the overlap-save convolver: an instance of `render_refines_spec_os_ok` /
`C03_render_formula_os`. -/
example : renderAllOS exCfg exObjs exDss []
      [[[1], [2], [3]], [], [[4]], [[5], [6], [7], [8], [9], [10], [11], [12], [13], [14]]] =
    .ok (RenderSpec.out exCfg exObjs exDss []
      [[1], [2], [3], [4], [5], [6], [7], [8], [9], [10], [11], [12], [13], [14]]) :=
  render_refines_spec_os_ok exCfg exObjs exDss [] exSession_wf.ok exSession_wf.taps_ne exSession_wf.index _

open Earverif.Renderer in
/-- The exception branches of `renderAllOS` (kernel-evaluated): a track outside the 1-channel input raises `IndexError`
on the first call; an HOA item without tracks raises the `np.stack` `ValueError`; a decode matrix with two columns for
an item with one track raises the `np.dot` `ValueError`. -/
example : renderAllOS exCfg [⟨1, exObjBlocks⟩] exDss [] [[[1], [2]]] = .error .trackIndex := by decide +kernel
open Earverif.Renderer in
example : renderAllOS exCfg exObjs exDss [⟨[], [⟨none, none, none, none, false, none, []⟩]⟩] [[[1], [2]]] =
    .error .emptyStack := by decide +kernel
open Earverif.Renderer in
example : renderAllOS exCfg exObjs exDss [⟨[0], [⟨none, none, none, none, false, none, [1, 2]⟩]⟩] [[[1], [2]]] =
    .error .dotShape := by decide +kernel

/-- An HOA item whose SECOND decode matrix (from sample 2 on) is mis-shaped, followed by an item with a track outside
the input. -/
def exBadHoas : List (Earverif.Renderer.HoaItem Rat) :=
  [⟨[0], [⟨none, none, some 0, some (1/5), false, none, [1]⟩, ⟨none, none, some (1/5), some 1, false, none, [1, 2]⟩]⟩,
   ⟨[1], [⟨none, none, none, none, false, none, [1]⟩]⟩]

open Earverif.Renderer in
/-- WHICH numpy exception such a session raises depends on the blocking (why `C02_block_independent_os_of_ok` compares
returned audio only): with a first call of one frame the second item's `IndexError` comes first; with a first call of
three frames the first item reaches its second matrix in that call and `np.dot` raises first.  A mis-shaped matrix that
is never reached (input and tail end before it becomes current) raises nothing. -/
example : renderAllOS exCfg [] [] exBadHoas [[[1]], [[2], [3]]] = .error .trackIndex ∧
    renderAllOS exCfg [] [] exBadHoas [[[1], [2], [3]]] = .error .dotShape := by decide +kernel
open Earverif.Renderer in
example : (renderAllOS exCfg [] []
    [⟨[0], [⟨none, none, some 0, some 1, false, none, [1]⟩, ⟨none, none, some 1, some 1, false, none, [1, 2]⟩]⟩]
    [[[1]], [[2], [3]]]).toBool = true := by decide +kernel

open Earverif.Renderer in
/-- Non-vacuity of `C03_linear_in_input`: two inputs of shape `(3, 1)`, their sum and a multiple. -/
example : SameShape exCfg.n_in [[1], [2], [3]] [[10], [0], [-5]] ∧
    addX [[1], [2], [3]] [[10], [0], [-5]] = [[11], [2], [-2]] ∧ smulX 3 [[1], [2], [3]] = [[3], [6], [9]] :=
  ⟨⟨rfl, by decide, by decide⟩, by decide +kernel, by decide +kernel⟩

end Earverif.Timeline

namespace Earverif.RendererTS
open Earverif.Stream Earverif.Timeline Earverif.Renderer Earverif.RenderSpec
open Earverif.TrackSpec (Spec Proc)

section
variable {V : Type} [RMod V] [LawfulRMod V]

/-- Every output sample of the model of the real pipeline *including the track
processors*, for any blocking:
`out[s] = Σ_obj direct_gains(s)·y_obj(s) + Σ_k f[k]·(Σ_obj diffuse_gains·y_obj)(s + (N−1)//2 − k)
          + Σ_ds gains(s)·y_ds(s) + Σ_hoa M(s)·(y_hoa,1(s), …, y_hoa,m(s))`,
where `y_item = sAt c spec_item x` is the literal meaning (C20) of the item's track spec — inputs summed, scaled by the
gains, delayed by the coefficient delays — and the gains are `gainAt` of the item's timeline (C03). -/
theorem C03_render_formula_ts (c : Cfg V) (objs : List (ObjItemTS V)) (dss : List (DsItemTS V))
    (hoas : List (HoaItemTS V)) (hok : SessionOKTS c objs dss hoas) (parts : List (List (List Rat))) :
    ∃ out, renderAllTS c objs dss hoas parts = .ok out ∧ out.length = parts.flatten.length ∧
      ∀ s, s < parts.flatten.length → out[s]? =
        some ((((objAtTS c objs parts.flatten s).1 + diffuseAtTS c objs parts.flatten s) +
          dsAtTS c dss parts.flatten s) + hoaAtTS c hoas parts.flatten s) :=
  ⟨_, render_eq_outTS c objs dss hoas hok parts, Earverif.Timeline.range_map_spec _ _⟩

/-- `C03_render_formula_ts` for the renderer with track processors AND the partitioned
overlap-save convolver (`renderAllTSOS`), for a non-empty decorrelation filter. -/
theorem C03_render_formula_ts_os (c : Cfg V) (objs : List (ObjItemTS V)) (dss : List (DsItemTS V))
    (hoas : List (HoaItemTS V)) (hok : SessionWFTS c objs dss hoas) (parts : List (List (List Rat))) :
    ∃ out, renderAllTSOS c objs dss hoas parts = .ok out ∧ out.length = parts.flatten.length ∧
      ∀ s, s < parts.flatten.length → out[s]? =
        some ((((objAtTS c objs parts.flatten s).1 + diffuseAtTS c objs parts.flatten s) +
          dsAtTS c dss parts.flatten s) + hoaAtTS c hoas parts.flatten s) :=
  ⟨_, render_eq_outTS_os_ok c objs dss hoas hok.ok hok.taps_ne hok.hoa_gains parts,
    Earverif.Timeline.range_map_spec _ _⟩

/-- `C03_linear_in_input` for items with TRACK SPECS (direct, silent, mix, gain, matrix coefficient with gain and delay,
nested), for the renderer model with the track processors and the overlap-save convolver.  (From the linearity of C20's
literal meaning — `TrackSpec.meaning_add` / `meaning_smul`, hence of every item stream `sAt` and of the specification
`outAtTS` — through `render_eq_outTS_os_ok`.) -/
theorem C03_linear_in_input_ts (c : Cfg V) (objs : List (ObjItemTS V)) (dss : List (DsItemTS V))
    (hoas : List (HoaItemTS V)) (hok : SessionWFTS c objs dss hoas) (px py pxy pa : List (List (List Rat))) (a : Rat)
    (hshape : SameShape c.n_in px.flatten py.flatten) (hsum : pxy.flatten = addX px.flatten py.flatten)
    (hscale : pa.flatten = smulX a px.flatten) :
    ∃ ox oy, renderAllTSOS c objs dss hoas px = .ok ox ∧ renderAllTSOS c objs dss hoas py = .ok oy ∧
      renderAllTSOS c objs dss hoas pxy = .ok (List.zipWith (· + ·) ox oy) ∧
      renderAllTSOS c objs dss hoas pa = .ok (ox.map (RMod.smul a)) := by
  have hr := render_eq_outTS_os_ok c objs dss hoas hok.ok hok.taps_ne hok.hoa_gains
  refine ⟨_, _, hr px, hr py, ?_, ?_⟩
  · rw [hr pxy, hsum, outTS_add c objs dss hoas _ _ hshape]
  · rw [hr pa, hscale, outTS_smul]

end

/-- Inside the input (`t < T`) the audio an item's gains are applied to is sample `t` of
`meaning(spec)(x)`: the direct, DirectSpeakers and HOA terms of output sample `s` use `meaning(spec_item)(x)(s)`
(zero latency on top of what the spec itself says); only the decorrelator's look-ahead reads beyond `T`, where the
input continues as silence (`get_tail`) and delayed inputs keep sounding. -/
theorem C03_item_audio_ts {V : Type} (c : Cfg V) (spec : Spec Rat) (x : List (List Rat)) (t : Nat) (ht : t < x.length) :
    sAt c spec x (t : Int) = (TrackSpec.meaning c.sr c.n_in spec x).getD t 0 :=
  sAt_eq_meaning c spec x t ht

/-- A matrix coefficient delay of `ms` milliseconds delays the item's audio, and
with it the item's whole contribution to every term of `C03_render_formula_ts`, by exactly
`d = round(fs·ms/1000)` samples (`TrackSpec.delaySamples`; C20 `delay_rounding`): at every time `τ` up to the end of
the tail, `y_delayed(τ) = y_undelayed(τ − d)` (silence for `τ < d`). -/
theorem C03_coefficient_delay_ts {V : Type} (c : Cfg V) (t : Spec Rat) (g : Option Rat) (ms : Rat)
    (x : List (List Rat)) (τ : Int) (hτ : τ < (x.length + c.overall_delay : Nat)) :
    sAt c (.matrix t g (some ms)) x τ =
      sAt c (.matrix t g none) x (τ - ((TrackSpec.delaySamples c.sr ms).toNat : Int)) :=
  sAt_delay c t g ms x τ hτ

/-- With `DirectTrackSpec(i)` the item's audio is input track `i`: the formula with track
specs specialises to `C03_render_formula`. -/
theorem C03_direct_spec_ts {V : Type} (c : Cfg V) (i : Nat) (hi : i < c.n_in) (x : List (List Rat)) (t : Int) :
    sAt c (.direct (i : Int)) x t = xAt x i t :=
  sAt_direct c i hi x t

/-- One output channel, sample rate 10, `block_size = 2`, 3-tap decorrelator, two input channels. -/
def exCfgTS : Cfg Rat := ⟨10, 2, [1/4, 1/2, 1/4], 2⟩

/-- `MixTrackSpec([Direct(0), MatrixCoefficient(Direct(1), gain 1/2, delay 200 ms = 2 samples)])` on the timeline of
`exObjBlocks`. -/
def exObjsTS : List (ObjItemTS Rat) :=
  [⟨.mix [.direct 0, .matrix (.direct 1) (some (1/2)) (some 200)], Earverif.Timeline.exObjBlocks⟩]

/-- `GainTrackSpec(MatrixCoefficient(Direct(1), delay 100 ms = 1 sample), 2)`, one untimed block, gain 1/2. -/
def exDssTS : List (DsItemTS Rat) :=
  [⟨.gain (.matrix (.direct 1) none (some 100)) 2, [⟨none, none, none, none, false, none, 1/2⟩]⟩]

/-- `MultiTrackProcessor([Direct(0), Silent])`, one untimed block with decode columns 1 and 5. -/
def exHoasTS : List (HoaItemTS Rat) :=
  [⟨[.direct 0, .silent], [⟨none, none, none, none, false, none, [1, 5]⟩]⟩]

theorem exSessionTS_ok : SessionOKTS exCfgTS exObjsTS exDssTS exHoasTS where
  block_size_pos := by decide
  objs_ok := by
    intro it hit
    simp only [exObjsTS, List.mem_cons, List.not_mem_nil, or_false] at hit
    subst hit
    exact Earverif.Timeline.exSession_ok.objs_ok ⟨0, Earverif.Timeline.exObjBlocks⟩ (by simp [Earverif.Timeline.exObjs])
  dss_ok := by
    intro it hit
    simp only [exDssTS, List.mem_cons, List.not_mem_nil, or_false] at hit
    subst hit
    exact Earverif.Timeline.exSession_ok.dss_ok ⟨0, [⟨none, none, none, none, false, none, 1/2⟩]⟩
      (by simp [Earverif.Timeline.exDss])
  hoas_ok := by
    intro it hit
    simp only [exHoasTS, List.mem_cons, List.not_mem_nil, or_false] at hit
    subst hit
    refine ⟨Earverif.Timeline.ok_of_toBool _ (by decide +kernel), by decide +kernel, ?_⟩
    · intro m ms h
      cases h
      decide +kernel
  specs_ok := by
    refine ⟨by decide +kernel, by decide +kernel, ?_⟩
    intro it hit
    simp only [exHoasTS, List.mem_cons, List.not_mem_nil, or_false] at hit
    subst hit
    exact ⟨by simp, by decide +kernel⟩

def exX : List (List Rat) :=
  [[1, 10], [2, 20], [3, 30], [4, 40], [5, 50], [6, 60], [7, 70], [8, 80], [9, 90], [10, 100], [11, 110],
   [12, 120], [13, 130], [14, 140]]

/-- The delays round to 2 and 1 samples. -/
example : TrackSpec.delaySamples 10 200 = 2 ∧ TrackSpec.delaySamples 10 100 = 1 := by decide +kernel

/-- The Objects item's audio: `x0(t) + x1(t − 2)/2`; after the last input frame (`t = 14, 15`) the delayed input is
still sounding (65, 70), then silence. -/
example : (List.range 18).map (fun t => sAt exCfgTS (.mix [.direct 0, .matrix (.direct 1) (some (1/2)) (some 200)]) exX t) =
    [1, 2, 8, 14, 20, 26, 32, 38, 44, 50, 56, 62, 68, 74, 65, 70, 0, 0] := by decide +kernel

/-- The specified output of the example (kernel-evaluated). -/
example : outTS exCfgTS exObjsTS exDssTS exHoasTS exX =
    [2, 14, 31, 34, 103/2, 129, 163, 192, 216, 1244/5, 2809/10, 1554/5, 337, 144] := by decide +kernel

/-- The model (processors, gain timelines, delay, decorrelator adapter, aligner, tail) run on the 14 frames split as
`[3, 0, 1, 10]` returns what the specification says: an instance of `render_refines_spec_ts` / `render_eq_outTS`. -/
example : renderAllTS exCfgTS exObjsTS exDssTS exHoasTS [exX.take 3, [], (exX.drop 3).take 1, exX.drop 4] =
    .ok (outTS exCfgTS exObjsTS exDssTS exHoasTS exX) :=
  render_eq_outTS exCfgTS exObjsTS exDssTS exHoasTS exSessionTS_ok _

/-- Non-vacuity of `SessionWFTS`: the HOA item has two specs and decode matrices with two columns; three taps. -/
theorem exSessionTS_wf : SessionWFTS exCfgTS exObjsTS exDssTS exHoasTS where
  ok := exSessionTS_ok
  hoa_gains := by
    intro it hit b hb
    simp only [exHoasTS, List.mem_cons, List.not_mem_nil, or_false] at hit
    subst hit
    simp only [List.mem_cons, List.not_mem_nil, or_false] at hb
    subst hb
    rfl
  taps_ne := by decide

/-- The same through the model with the overlap-save convolver: an instance of `render_eq_outTS_os_ok`. -/
example : renderAllTSOS exCfgTS exObjsTS exDssTS exHoasTS [exX.take 3, [], (exX.drop 3).take 1, exX.drop 4] =
    .ok (outTS exCfgTS exObjsTS exDssTS exHoasTS exX) :=
  render_eq_outTS_os_ok exCfgTS exObjsTS exDssTS exHoasTS exSessionTS_wf.ok exSessionTS_wf.taps_ne
    exSessionTS_wf.hoa_gains _

/-- The `np.dot` exception with track processors: a decode matrix with one column for an HOA item with two track
specs. -/
example : renderAllTSOS exCfgTS exObjsTS exDssTS
    [⟨[.direct 0, .silent], [⟨none, none, none, none, false, none, [1]⟩]⟩] [exX.take 3, exX.drop 3] =
    .error .dotShape := by decide +kernel

/-- Non-vacuity of `C03_linear_in_input_ts`: two inputs of shape `(3, 2)`, their sum and a multiple. -/
example : SameShape exCfgTS.n_in [[1, 0], [2, 1], [3, 0]] [[10, 1], [0, 0], [-5, 2]] ∧
    addX [[1, 0], [2, 1], [3, 0]] [[10, 1], [0, 0], [-5, 2]] = [[11, 1], [2, 1], [-2, 2]] ∧
    smulX 3 [[1, 0], [2, 1], [3, 0]] = [[3, 0], [6, 3], [9, 0]] :=
  ⟨⟨rfl, by decide, by decide⟩, by decide +kernel, by decide +kernel⟩

end Earverif.RendererTS

