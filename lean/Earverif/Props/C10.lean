/- C10 — DirectSpeakers: matching layouts pass through; never amplify; LFE stays separate.

   The theorem of the property is `geo_ds_total_and_bounded_layouts` (last part): on each of the ten BS.2051 layouts, for
   every block, `handleC` — the model in which nothing is captured — returns gains with all parts of the property, or
   fails in one of three documented ways; `passthrough_matrix_layouts` is the pass-through half.  The file leads up to it:
   1. table obligations, `decide +kernel` over the tables regenerated from /repo on every run (`Earverif.Gen.C10`:
      `rules` after symmetric expansion with the exact rational value of every float64 gain, `ituPacks`, the ten
      `layouts`, all common-definition DirectSpeakers `commonPacks`);
   2. the property for `handle` (`Model/DirectSpeakers.lean`: decision structure, geometric sub-results captured, under
      `GeoOk`) and for `handleFull` (`Model/DirectSpeakersGeom.lean`: bounds, candidate mask and closest loudspeaker
      computed, panner gains captured, under `PspOk`), from what holds at every exit (`ExitFacts`, `Proofs/C10`);
   3. the same for `handleC` (`Model/DirectSpeakersConcrete.lean`) over ℝ on any environment satisfying `envOkB`, and
      which calls it rejects; the ten environments `envs` built from the tables;
   4. why `PackConsistent` is a hypothesis (`rule_branch_ignores_frequency`); test vectors, one per exit and per model;
   5. totality and the whole property on the ten environments; the pass-through matrix.
   `Proofs/C10Angle`, `Proofs/C10Sqrt` and the last part of `Proofs/C10Geom` specify the modelled geometric helpers
   lemma by lemma (`inside_angle_range`, the square-root-free distance comparison, the polar screen edge lock); nothing
   here uses them, they are imported so that they are checked with the property.

   Float versus rational: the theorems are about the exact rational values of the float64 table entries and
   of the captured panner gains; finiteness / rounding of the final products is searched on the real code. -/
import Earverif.Proofs.C10
import Earverif.Proofs.C10Geom
import Earverif.Proofs.C10Angle
import Earverif.Proofs.C10Sqrt
import Earverif.Proofs.C10Concrete
import Earverif.Proofs.C10Total
import Earverif.Gen.C10_Tables

namespace Earverif.DS
open Earverif.Gen.C10

/-! ## table obligations -/

theorem rules_ok : ∀ r ∈ rules, ruleOk r = true :=
  List.all_eq_true.mp (by decide +kernel)

/-- Every rule of `panner.rules`: all gains ≥ 0 and Σ g² ≤ 1 + 2⁻⁴⁰. -/
theorem rules_power_le_one :
    ∀ r ∈ rules, (∀ p ∈ r.gains, 0 ≤ p.2) ∧ gainsSumSq r.gains ≤ slack := by
  intro r hr
  have := rules_ok r hr
  simp only [ruleOk, Bool.and_eq_true, List.all_eq_true, decide_eq_true_eq] at this
  exact this.1

/-- Every rule: an LFE input label (LFE1/LFE2) maps only to LFE output names, any other label only to
    non-LFE names. -/
theorem rules_lfe_separated :
    ∀ r ∈ rules, ∀ p ∈ r.gains, isLfeName p.1 = isLfeName r.label := by
  intro r hr p hp
  have := rules_ok r hr
  simp only [ruleOk, Bool.and_eq_true, List.all_eq_true, beq_iff_eq] at this
  exact this.2 p hp

/-- For each of the ten BS.2051 layouts `layout.is_lfe[i]` ⇔ `channel_names[i] ∈ {LFE1, LFE2}`. -/
theorem layouts_lfe_by_name : ∀ L ∈ layouts, layoutOk L = true :=
  List.all_eq_true.mp (by decide +kernel)

/-- One common-definition channel: there is at least one speakerLabel and every label's LFE-ness equals the
    frequency's (lowPass ≤ 200 Hz, no highPass), so that `is_lfe_channel` (`is_lfe(frequency) or any label is
    LFE1/LFE2`) is the LFE-ness of the first label. -/
def channelConsistent (c : CommonChannel) : Bool :=
  !c.labels.isEmpty &&
    c.labels.all (fun l => isLfeName (nominalSpeakerLabel l) == isLfeFreq c.lowPass c.highPass)

/-- One cell of the pass-through matrix: the first label's loudspeaker exists in `L` and the early exits
    (first applicable mapping rule, else label match) yield exactly its unit vector. -/
def passOk (L : Layout) (p : CommonPack) (c : CommonChannel) : Bool :=
  match c.labels with
  | [] => false
  | l :: _ =>
    L.names.contains (nominalSpeakerLabel l) &&
    (match earlyExit rules ituPacks L (c.block p.id 1 1 false) with
     | .ok (some (_, pv)) => pv == unitVec L.names.length (L.names.idxOf (nominalSpeakerLabel l))
     | _ => false)

/-- All cells; a pack that is not the ITU pack of `L` is skipped (that every layout has a pack is part of
    `pack_tables_ok`). -/
def passTable : Bool :=
  layouts.all fun L => commonPacks.all fun p =>
    (ituPacks.lookup p.id != some L.name) || p.channels.all (passOk L p)

/-- The table obligations that read the common definitions' speakerLabels and pack ids, in one evaluation: the kernel
    decodes each string literal once, and the three statements below share the labels and the `itu_packs` lookups. -/
theorem pack_tables_ok :
    (commonPacks.all (fun p => p.channels.all channelConsistent) && passTable) = true ∧
    bs2051NamedPacks.all (fun q => ituPacks.lookup q.1 == some q.2 && commonPacks.any (·.id == q.1)) = true ∧
    layouts.all (fun L => commonPacks.any fun p => ituPacks.lookup p.id == some L.name) = true := by
  decide +kernel

theorem common_packs_consistent :
    ∀ p ∈ commonPacks, ∀ c ∈ p.channels, channelConsistent c = true := by
  intro p hp c hc
  exact List.all_eq_true.mp (List.all_eq_true.mp (Bool.and_eq_true _ _ ▸ pack_tables_ok.1).1 p hp) c hc

/-- For every layout `L` and every common-definition pack whose ITU name (`itu_packs`) is `L`, every channel
    goes to the like-named loudspeaker with gain 1 and nowhere else. -/
theorem passthrough_table : passTable = true :=
  (Bool.and_eq_true _ _ ▸ pack_tables_ok.1).2

/-- Table obligation: the panner's own `itu_packs` dict agrees with the common definitions — every common-definition
    pack whose audioPackFormatName is a BS.2051 URN `urn:itu:bs:2051:<n>:pack:<name>_(<layout>)` (`bs2051NamedPacks`,
    read off the names alone) is listed in `itu_packs` with that layout, is one of `commonPacks`, and every one of the ten
    layouts has at least one pack. -/
theorem named_packs_in_itu_table :
    bs2051NamedPacks.all (fun q => ituPacks.lookup q.1 == some q.2 && commonPacks.any (·.id == q.1)) = true ∧
    layouts.all (fun L => commonPacks.any fun p => ituPacks.lookup p.id == some L.name) = true :=
  pack_tables_ok.2

/-- Non-vacuity of `passthrough_table`: every one of the ten layouts has a common-definition pack. -/
example : layouts.all (fun L => commonPacks.any fun p => ituPacks.lookup p.id == some L.name) = true :=
  named_packs_in_itu_table.2

/-! ## the decision structure (`handle`): geometric sub-results captured -/

/-- The property for `handle` on the real tables, all parts at once.  Of the geometric sub-results only "the closest
    loudspeaker is a candidate" is used, and for sign and power the assumption on the panner result. -/
theorem handle_facts {L : Layout} {b : Block} {g : Geo} (hL : layoutOk L = true)
    (hcl : ∀ c, g.closest = some c → (candidates L (isLfeChannel b) g.withinBounds)[c]? = some true)
    {e : Exit} {pv : List Rat} (h : handle rules ituPacks L b g = .ok (e, pv)) :
    pv.length = L.names.length ∧
    ((∀ x ∈ g.psp, 0 ≤ x) ∧ sumSq g.psp ≤ slack →
      (0 ≤ b.gain → 0 ≤ b.objectGain → ∀ x ∈ pv, 0 ≤ x) ∧
      sumSq pv ≤ (b.gain * objectGainOf b) * (b.gain * objectGainOf b) * slack) ∧
    (PackConsistent ituPacks b → ZeroOff L.isLfe (isLfeChannel b) pv) := by
  obtain ⟨pv0, h0, rfl⟩ := handle_ok h
  have hf := handleNoGain_facts rules_ok hL hcl h0
  refine ⟨(List.length_map _).trans hf.len, fun hp => ⟨nonneg_scale (hf.nonneg hp), ?_⟩,
    fun hc => zeroOff_map (by rw [zero_mul, zero_mul]) (hf.lfe hc)⟩
  rw [sumSq_scale, mul_comm]
  exact mul_le_mul_of_nonneg_left (hf.power hp) (mul_self_nonneg _)

/-- Gains are non-negative. -/
theorem ds_nonneg (L : Layout) (b : Block) (g : Geo) (hL : layoutOk L = true) (hg : GeoOk L b g)
    (hgain : 0 ≤ b.gain) (hog : 0 ≤ b.objectGain) (e : Exit) (pv : List Rat)
    (h : handle rules ituPacks L b g = .ok (e, pv)) : ∀ x ∈ pv, 0 ≤ x :=
  ((handle_facts hL hg.1 h).2.1 hg.2).1 hgain hog

/-- Never amplify: Σ g² ≤ (block gain × object gain)² · (1 + 2⁻⁴⁰). -/
theorem ds_power_le (L : Layout) (b : Block) (g : Geo) (hL : layoutOk L = true) (hg : GeoOk L b g)
    (e : Exit) (pv : List Rat) (h : handle rules ituPacks L b g = .ok (e, pv)) :
    sumSq pv ≤ (b.gain * objectGainOf b) * (b.gain * objectGainOf b) * slack :=
  ((handle_facts hL hg.1 h).2.1 hg.2).2

/-- An LFE channel (`is_lfe_channel`) reaches only LFE outputs (or nothing): zero gain at every non-LFE
    position of the layout. -/
theorem ds_lfe_in_only_lfe_out (L : Layout) (b : Block) (g : Geo) (hL : layoutOk L = true) (hg : GeoOk L b g)
    (hc : PackConsistent ituPacks b) (hlfe : isLfeChannel b = true) (e : Exit) (pv : List Rat)
    (h : handle rules ituPacks L b g = .ok (e, pv)) :
    ∀ i : Nat, L.isLfe[i]? = some false → pv[i]? = some 0 :=
  fun i hi => (handle_facts hL hg.1 h).2.2 hc i (by rw [hlfe]; exact hi)

/-- A non-LFE channel never reaches an LFE output: zero gain at every LFE position of the layout. -/
theorem ds_nonlfe_never_lfe_out (L : Layout) (b : Block) (g : Geo) (hL : layoutOk L = true) (hg : GeoOk L b g)
    (hc : PackConsistent ituPacks b) (hlfe : isLfeChannel b = false) (e : Exit) (pv : List Rat)
    (h : handle rules ituPacks L b g = .ok (e, pv)) :
    ∀ i : Nat, L.isLfe[i]? = some true → pv[i]? = some 0 :=
  fun i hi => (handle_facts hL hg.1 h).2.2 hc i (by rw [hlfe]; exact hi)

theorem ds_length (L : Layout) (b : Block) (g : Geo) (hL : layoutOk L = true) (hg : GeoOk L b g)
    (e : Exit) (pv : List Rat) (h : handle rules ituPacks L b g = .ok (e, pv)) :
    pv.length = L.names.length :=
  (handle_facts hL hg.1 h).1

/-- `PackConsistent` holds for every common-definition channel inside its pack (so the two LFE theorems
    apply to every block that valid ADM can put into a common-definition pack). -/
theorem common_channel_packConsistent (p : CommonPack) (hp : p ∈ commonPacks) (c : CommonChannel)
    (hc : c ∈ p.channels) (gain og : Rat) (mute : Bool) :
    PackConsistent ituPacks (c.block p.id gain og mute) := by
  have h := common_packs_consistent p hp c hc
  simp only [channelConsistent, Bool.and_eq_true, List.all_eq_true, beq_iff_eq] at h
  intro il _ l hl
  rw [h.2 l (List.mem_of_mem_head? hl)]
  -- `is_lfe_channel` = frequency rule or some label; every label agrees with the frequency rule
  show _ = (isLfeFreq c.lowPass c.highPass || c.labels.any fun l => isLfeName (nominalSpeakerLabel l))
  cases hf : isLfeFreq c.lowPass c.highPass
  · exact (List.any_eq_false.mpr fun x hx => by rw [h.2 x hx, hf]; exact Bool.false_ne_true).symm
  · rfl

/-- One cell of `passthrough_table`, for any gains: the early exits return the unit vector of the like-named
    loudspeaker (they do not look at the gains, so the cell evaluated with gains 1 decides all). -/
theorem passthrough_cell (L : Layout) (hL : L ∈ layouts) (p : CommonPack) (hp : p ∈ commonPacks)
    (hitu : ituPacks.lookup p.id = some L.name) (c : CommonChannel) (hc : c ∈ p.channels)
    (gain og : Rat) (mute : Bool) :
    ∃ l e, c.labels.head? = some l ∧ nominalSpeakerLabel l ∈ L.names ∧
      earlyExit rules ituPacks L (c.block p.id gain og mute) =
        .ok (some (e, unitVec L.names.length (L.names.idxOf (nominalSpeakerLabel l)))) := by
  have h := passthrough_table
  simp only [passTable, List.all_eq_true, Bool.or_eq_true, bne_iff_ne, ne_eq] at h
  have hcell := (h L hL p hp).resolve_left (fun hne => hne hitu) c hc
  unfold passOk at hcell
  split at hcell
  · cases hcell
  · rename_i l ls hlab
    simp only [Bool.and_eq_true] at hcell
    obtain ⟨hmem, hee⟩ := hcell
    split at hee
    · rename_i e pv hpv
      refine ⟨l, e, by rw [hlab]; rfl, List.contains_iff_mem.mp hmem, ?_⟩
      rw [← eq_of_beq hee]
      exact hpv
    · cases hee

/-- Pass-through: a channel of a common-definition pack whose ITU layout (`itu_packs`) is `L`, rendered to
    `L` (one of the ten BS.2051 layouts), whatever the position-dependent sub-results are, goes to the
    like-named loudspeaker with gain `block gain × object gain` (1 by default) and to no other. -/
theorem ds_passthrough (L : Layout) (hL : L ∈ layouts) (p : CommonPack) (hp : p ∈ commonPacks)
    (hitu : ituPacks.lookup p.id = some L.name) (c : CommonChannel) (hc : c ∈ p.channels)
    (gain og : Rat) (mute : Bool) (g : Geo) :
    ∃ l e, c.labels.head? = some l ∧ nominalSpeakerLabel l ∈ L.names ∧
      handle rules ituPacks L (c.block p.id gain og mute) g =
        .ok (e, (unitVec L.names.length (L.names.idxOf (nominalSpeakerLabel l))).map
              (fun x => x * gain * (if mute then 0 else og))) := by
  obtain ⟨l, e, hl, hmem, he⟩ := passthrough_cell L hL p hp hitu c hc gain og mute
  refine ⟨l, e, hl, hmem, ?_⟩
  unfold handle handleNoGain
  rw [he]
  rfl

/-- A block with none of the rejecting conditions gets gains: no positionOffset, `audioPackFormats` not the empty
    list, a speakerLabel whenever the block sits in an ITU common-definition pack, and a point-source result with one
    gain per non-LFE slot.  (Only this direction.) -/
theorem ds_errors_exact (L : Layout) (b : Block) (g : Geo)
    (hoff : b.hasPositionOffset = false) (hpacks : b.packs ≠ some [])
    (hlab : ∀ il, ituLayoutOf ituPacks b = .ok (some il) → b.labels ≠ [])
    (hpsp : ∃ q, scatter L.isLfe g.psp = some q) :
    ∃ e pv, handle rules ituPacks L b g = .ok (e, pv) := by
  obtain ⟨q, hq⟩ := hpsp
  obtain ⟨o, ho⟩ := earlyExit_ok (R := rules) (L := L) hpacks hlab
  suffices h : ∃ r, handleNoGain rules ituPacks L b g = .ok r by
    obtain ⟨⟨e, pv⟩, h⟩ := h
    exact ⟨e, scale b pv, by simp only [handle, h]⟩
  unfold handleNoGain
  simp only [hoff, Bool.false_eq_true, if_false, ho]
  cases o with
  | some r => exact ⟨r, rfl⟩
  | none =>
    -- after the label match only a panner result of the wrong length is an error
    simp only [lateExit, hq]
    repeat' split
    all_goals exact ⟨_, rfl⟩

theorem ds_rejects_position_offset (L : Layout) (b : Block) (g : Geo) (h : b.hasPositionOffset = true) :
    handle rules ituPacks L b g = .error .positionOffset := by
  simp [handle, handleNoGain, h]

/-! ## the geometry inside the model (`handleFull`)

`handleFull` computes `channels_within_bounds` (polar with `inside_angle_range`, pole rule, elevation and
distance bounds, polar screen edge lock; Cartesian bounds), the LFE-class candidate mask and
`closest_channel_index` (squared distances to the table positions, unique minimum within `tol`) itself.
What is left as a parameter: the Cartesian vector of the shifted position, the Cartesian screen
edge lock and the point-source gains (`PspOk`). -/

/-- The regenerated geometry table has an entry of the right shape for each of the ten layouts: `polarWithin` zips
    the three polar columns and `cartWithin` maps over `allo`, so a short column would silently drop channels from
    `withinBounds`. -/
def geomShapeOk (L : Layout) : Bool :=
  match geoms.lookup L.name with
  | some G =>
    let n := L.names.length
    G.az.length == n && G.el.length == n && G.dist.length == n && G.pos.length == n && G.allo.length == n
  | none => false

theorem geoms_cover_layouts : layouts.all geomShapeOk = true := by decide +kernel

/-- The only hypothesis left on the geometry: the point-source panner result. -/
def PspOk (gi : GeoIn) : Prop := (∀ x ∈ gi.psp, 0 ≤ x) ∧ sumSq gi.psp ≤ slack

theorem geo_ds_nonneg (L : Layout) (G : LayoutGeom) (b : Block) (gi : GeoIn) (hL : layoutOk L = true)
    (hp : PspOk gi) (hgain : 0 ≤ b.gain) (hog : 0 ≤ b.objectGain) (e : Exit) (pv : List Rat)
    (h : handleFull rules ituPacks L G b gi = .ok (e, pv)) : ∀ x ∈ pv, 0 ≤ x :=
  ds_nonneg L b _ hL (geoOf_ok hp.1 hp.2) hgain hog e pv h

theorem geo_ds_power_le (L : Layout) (G : LayoutGeom) (b : Block) (gi : GeoIn) (hL : layoutOk L = true)
    (hp : PspOk gi) (e : Exit) (pv : List Rat) (h : handleFull rules ituPacks L G b gi = .ok (e, pv)) :
    sumSq pv ≤ (b.gain * objectGainOf b) * (b.gain * objectGainOf b) * slack :=
  ds_power_le L b _ hL (geoOf_ok hp.1 hp.2) e pv h

/-- LFE channel ⇒ only LFE outputs, with NO hypothesis on the geometry: the closest-loudspeaker exit is
    covered by `closestIndex_is_candidate` on the masked candidate set. -/
theorem geo_ds_lfe_in_only_lfe_out (L : Layout) (G : LayoutGeom) (b : Block) (gi : GeoIn)
    (hL : layoutOk L = true) (hc : PackConsistent ituPacks b) (hlfe : isLfeChannel b = true)
    (e : Exit) (pv : List Rat) (h : handleFull rules ituPacks L G b gi = .ok (e, pv)) :
    ∀ i : Nat, L.isLfe[i]? = some false → pv[i]? = some 0 :=
  fun i hi => (handle_facts hL (fun _ => closestIndex_is_candidate) h).2.2 hc i (by rw [hlfe]; exact hi)

/-- Non-LFE channel ⇒ never an LFE output, with NO hypothesis on the geometry. -/
theorem geo_ds_nonlfe_never_lfe_out (L : Layout) (G : LayoutGeom) (b : Block) (gi : GeoIn)
    (hL : layoutOk L = true) (hc : PackConsistent ituPacks b) (hlfe : isLfeChannel b = false)
    (e : Exit) (pv : List Rat) (h : handleFull rules ituPacks L G b gi = .ok (e, pv)) :
    ∀ i : Nat, L.isLfe[i]? = some true → pv[i]? = some 0 :=
  fun i hi => (handle_facts hL (fun _ => closestIndex_is_candidate) h).2.2 hc i (by rw [hlfe]; exact hi)

theorem geo_ds_length (L : Layout) (G : LayoutGeom) (b : Block) (gi : GeoIn) (hL : layoutOk L = true)
    (e : Exit) (pv : List Rat) (h : handleFull rules ituPacks L G b gi = .ok (e, pv)) :
    pv.length = L.names.length :=
  (handle_facts hL (fun _ => closestIndex_is_candidate) h).1

/-- The `closest` exit, spelled out: the gain vector is the unit vector (× gains) of a loudspeaker `c` that
    is within the bounds, has the LFE class of the block, is at minimal distance among the candidates, and
    every other candidate is farther than `min_dist + tol`. -/
theorem geo_closest_exit (L : Layout) (G : LayoutGeom) (b : Block) (gi : GeoIn) (pv : List Rat)
    (h : handleFull rules ituPacks L G b gi = .ok (.closest, pv)) :
    ∃ c, pv = scale b (unitVec L.names.length c) ∧
      (withinBounds G gi.pos gi.tol)[c]? = some true ∧ L.isLfe[c]? = some (isLfeChannel b) ∧
      ∀ j, (candidates L (isLfeChannel b) (withinBounds G gi.pos gi.tol))[j]? = some true →
        sqDist ((positionsFor G gi.pos).getD c (0, 0, 0)) gi.cartPos
            ≤ sqDist ((positionsFor G gi.pos).getD j (0, 0, 0)) gi.cartPos ∧
        (j ≠ c → closeTo (sqDist ((positionsFor G gi.pos).getD c (0, 0, 0)) gi.cartPos) gi.tol
            (sqDist ((positionsFor G gi.pos).getD j (0, 0, 0)) gi.cartPos) = false) := by
  unfold handleFull at h
  obtain ⟨pv0, h0, rfl⟩ := handle_ok h
  rcases handleNoGain_ok h0 with he | hl
  · rcases earlyExit_some he with ⟨⟨⟩, _⟩ | ⟨⟨⟩, _⟩
  · rcases lateExit_ok hl with (⟨_, c, hc, rfl⟩ | ⟨⟨⟩, _⟩ | ⟨⟨⟩, _⟩) | ⟨⟨⟩, _⟩
    have hcs : closestIndex (positionsFor G gi.pos) gi.cartPos
        (candidates L (isLfeChannel b) (withinBounds G gi.pos gi.tol)) gi.tol = some c :=
      (Option.ite_none_right_eq_some.mp hc).2
    have hcl := candidates_same_class (closestIndex_is_candidate hcs)
    exact ⟨c, rfl, hcl.2, hcl.1, fun j hj =>
      ⟨closestIndex_is_min hcs j hj, fun hne => closestIndex_unique hcs j hj hne⟩⟩

/-- Pass-through with the geometry inside the model (it is never consulted). -/
theorem geo_ds_passthrough (L : Layout) (hL : L ∈ layouts) (G : LayoutGeom) (p : CommonPack) (hp : p ∈ commonPacks)
    (hitu : ituPacks.lookup p.id = some L.name) (c : CommonChannel) (hc : c ∈ p.channels)
    (gain og : Rat) (mute : Bool) (gi : GeoIn) :
    ∃ l e, c.labels.head? = some l ∧ nominalSpeakerLabel l ∈ L.names ∧
      handleFull rules ituPacks L G (c.block p.id gain og mute) gi =
        .ok (e, (unitVec L.names.length (L.names.idxOf (nominalSpeakerLabel l))).map
              (fun x => x * gain * (if mute then 0 else og))) :=
  ds_passthrough L hL p hp hitu c hc gain og mute _

/-! ## nothing captured (`handleC`): position glue and both fallback panners inside the model

The fallback panner of `handleC` is `point_source.configure(layout.without_lfe).handle` for polar blocks (the C05 model
walked over its regenerated table) and `AllocentricPanner(positions_for_layout(layout.without_lfe)).handle` for Cartesian
blocks (the C01/C13 model).  The theorems below are over ℝ and have NO hypothesis on any gain or geometric
sub-result: what is left are decidable table obligations (`envOkB`, discharged for the ten layouts by
`concrete_tables_ok`) and the sign of the block's own gains.  `handleC = .ok …` is the statement "the code returned
gains": a fallback panner that has no answer is an error of the model (`pspNone`), not a hypothesis. -/

/-- table obligations of one layout's environment: `is_lfe` ⇔ name is LFE1/LFE2 (C10 table), the C05 region table is
    well-formed (`RawLayout.wellFormed`, the C05 obligation), the allocentric fallback positions are pairwise
    distinct (the obligation of `allo_unit_power_distinct`, C01/C13) -/
def envOkB (E : CEnv) : Bool :=
  layoutOk E.L && E.psp.wellFormed && C13.distinctB (E.alloPsp.map ratP3)

noncomputable def slackR : ℝ := ((slack : Rat) : ℝ)

theorem slackR_ge_one : (1 : ℝ) ≤ slackR := by
  have := slack_ge_one
  unfold slackR
  exact_mod_cast this

/-- `ExitFacts` for real gain vectors; the panner assumption is gone (the panner is computed). -/
structure ExitFactsR (L : Layout) (lfe : Bool) (pv : List ℝ) (cons : Prop) : Prop where
  nonneg : GainCalc.Nonneg pv
  power : GainCalc.sumSq pv ≤ slackR
  lfe : cons → ZeroOff L.isLfe lfe pv
  len : pv.length = L.names.length

theorem ExitFactsR.of_rat {L : Layout} {lfe : Bool} {pvQ : List Rat} {cons : Prop}
    (h : ExitFacts L lfe pvQ cons True) : ExitFactsR L lfe (castV pvQ) cons :=
  ⟨castV_nonneg (h.nonneg trivial),
   by rw [sumSq_castV]; unfold slackR; exact_mod_cast h.power trivial,
   fun hc => zeroOff_map (by rw [GainCalc.k_real, Rat.cast_zero]) (h.lfe hc),
   (List.length_map _).trans h.len⟩

/-- the fallback panner of the concrete model: non-negative, Σ² ≤ 1, whenever it answers — polar blocks by the C05
    theorems over the well-formed table, Cartesian blocks by the C01/C13 theorems over the distinct positions -/
theorem fallbackC_contract (E : CEnv) (hE : envOkB E = true) (s : Shifted ℝ) (g : List ℝ)
    (h : fallbackC E s = .ok g) : GainCalc.Nonneg g ∧ GainCalc.sumSq g ≤ 1 := by
  simp only [envOkB, Bool.and_eq_true] at hE
  unfold fallbackC at h
  split at h
  · split at h
    · cases h
    · rename_i g' hg
      cases h
      exact pspHandle_nonneg_le_one E.psp hE.1.2 s.pan g hg
  · simp only at h
    split at h
    · cases h
    · rename_i st hst
      split at h
      · cases h
      · rename_i g' hg
        cases h
        exact (allo_fallback_contract E.alloPsp hE.2 st hst _ _ _ g hg).imp_right le_of_eq

section
variable {E : CEnv} {P : Conv.Params ℝ} {b : Block} {pos : PositionC} {tol : Rat} {e : Exit} {pv : List ℝ}

theorem handleNoGainC_facts (hE : envOkB E = true) (h : handleNoGainC rules ituPacks E P b pos tol = .ok (e, pv)) :
    ExitFactsR E.L (isLfeChannel b) pv (PackConsistent ituPacks b) := by
  have hL : layoutOk E.L = true := by
    simp only [envOkB, Bool.and_eq_true] at hE; exact hE.1.1
  rcases handleNoGainC_ok h with ⟨pvQ, he, rfl⟩ | ⟨s, _, hl⟩
  · exact .of_rat (earlyExit_facts rules_ok hL he True)
  · rcases lateExitC_ok hl with ⟨pvQ, hf, rfl⟩ | ⟨_, hlfe, g, hg, hsc⟩
    · exact .of_rat (hf.facts hL (fun c hc => (candidates_same_class
        (closestIndexC_is_candidate (Option.ite_none_right_eq_some.mp hc).2)).1) _ True)
    · obtain ⟨hn, hp⟩ := fallbackC_contract E hE s g hg
      obtain ⟨h1, h2, h3, h4⟩ := scatterC_spec _ _ _ hsc
      exact ⟨h1 hn, h2 ▸ le_trans hp slackR_ge_one, fun _ => hlfe ▸ h4, h3.trans (isLfe_length hL)⟩

/-- The property for `handleC` on an environment satisfying the table obligations, all parts at once. -/
theorem handleC_facts (hE : envOkB E = true) (h : handleC rules ituPacks E P b pos tol = .ok (e, pv)) :
    pv.length = E.L.names.length ∧
    (0 ≤ b.gain → 0 ≤ b.objectGain → ∀ x ∈ pv, 0 ≤ x) ∧
    (pv.map fun x => x * x).sum ≤ (gainR b * gainR b) * slackR ∧
    (PackConsistent ituPacks b → ZeroOff E.L.isLfe (isLfeChannel b) pv) := by
  obtain ⟨pv0, h0, rfl⟩ := handleC_ok h
  have hf := handleNoGainC_facts hE h0
  refine ⟨(List.length_map _).trans hf.len, scaleC_nonneg hf.nonneg, ?_,
    fun hc => zeroOff_map (by rw [zero_mul, zero_mul]) (hf.lfe hc)⟩
  rw [listSum_sq_scaleC, mul_comm]
  exact mul_le_mul_of_nonneg_left hf.power (mul_self_nonneg _)

end

/-- Gains are non-negative, nothing captured. -/
theorem geo_ds_nonneg_concrete (E : CEnv) (hE : envOkB E = true) (P : Conv.Params ℝ) (b : Block) (pos : PositionC)
    (tol : Rat) (hgain : 0 ≤ b.gain) (hog : 0 ≤ b.objectGain) (e : Exit) (pv : List ℝ)
    (h : handleC rules ituPacks E P b pos tol = .ok (e, pv)) : ∀ x ∈ pv, 0 ≤ x :=
  (handleC_facts hE h).2.1 hgain hog

/-- Never amplify, nothing captured: Σ g² ≤ (block gain × object gain)² · (1 + 2⁻⁴⁰); the slack is needed only
    for the mapping-rule exit (float64 roundings of the √ table values), the panner exits have Σ g² ≤ (…)². -/
theorem geo_ds_power_le_concrete (E : CEnv) (hE : envOkB E = true) (P : Conv.Params ℝ) (b : Block) (pos : PositionC)
    (tol : Rat) (e : Exit) (pv : List ℝ) (h : handleC rules ituPacks E P b pos tol = .ok (e, pv)) :
    (pv.map fun x => x * x).sum ≤ (gainR b * gainR b) * slackR :=
  (handleC_facts hE h).2.2.1

theorem geo_ds_power_le_concrete_point_source (E : CEnv) (hE : envOkB E = true) (P : Conv.Params ℝ) (b : Block)
    (pos : PositionC) (tol : Rat) (pv : List ℝ) (h : handleC rules ituPacks E P b pos tol = .ok (.pointSource, pv)) :
    (pv.map fun x => x * x).sum ≤ gainR b * gainR b := by
  obtain ⟨pv0, h0, rfl⟩ := handleC_ok h
  rw [listSum_sq_scaleC]
  suffices hp : GainCalc.sumSq pv0 ≤ 1 from mul_le_of_le_one_left (mul_self_nonneg _) hp
  rcases handleNoGainC_ok h0 with ⟨_, he, _⟩ | ⟨s, _, hl⟩
  · rcases earlyExit_some he with ⟨⟨⟩, _⟩ | ⟨⟨⟩, _⟩
  · rcases lateExitC_ok hl with ⟨_, ⟨⟨⟩, _⟩ | ⟨⟨⟩, _⟩ | ⟨⟨⟩, _⟩, _⟩ | ⟨_, _, g, hg, hsc⟩
    rw [(scatterC_spec _ _ _ hsc).2.1]
    exact (fallbackC_contract E hE s g hg).2

/-- LFE channel ⇒ only LFE outputs, nothing captured. -/
theorem geo_ds_lfe_in_only_lfe_out_concrete (E : CEnv) (hE : envOkB E = true) (P : Conv.Params ℝ) (b : Block)
    (pos : PositionC) (tol : Rat) (hc : PackConsistent ituPacks b) (hlfe : isLfeChannel b = true)
    (e : Exit) (pv : List ℝ) (h : handleC rules ituPacks E P b pos tol = .ok (e, pv)) :
    ∀ i : Nat, E.L.isLfe[i]? = some false → pv[i]? = some 0 :=
  fun i hi => (handleC_facts hE h).2.2.2 hc i (by rw [hlfe]; exact hi)

/-- Non-LFE channel ⇒ never an LFE output, nothing captured (in particular the fallback panner's gains go to the
    non-LFE slots only). -/
theorem geo_ds_nonlfe_never_lfe_out_concrete (E : CEnv) (hE : envOkB E = true) (P : Conv.Params ℝ) (b : Block)
    (pos : PositionC) (tol : Rat) (hc : PackConsistent ituPacks b) (hlfe : isLfeChannel b = false)
    (e : Exit) (pv : List ℝ) (h : handleC rules ituPacks E P b pos tol = .ok (e, pv)) :
    ∀ i : Nat, E.L.isLfe[i]? = some true → pv[i]? = some 0 :=
  fun i hi => (handleC_facts hE h).2.2.2 hc i (by rw [hlfe]; exact hi)

theorem geo_ds_length_concrete (E : CEnv) (hE : envOkB E = true) (P : Conv.Params ℝ) (b : Block) (pos : PositionC)
    (tol : Rat) (e : Exit) (pv : List ℝ) (h : handleC rules ituPacks E P b pos tol = .ok (e, pv)) :
    pv.length = E.L.names.length :=
  (handleC_facts hE h).1

/-- Pass-through with nothing captured (position and panners are never consulted): the gains are the rational
    unit vector × block gain × object gain, as real numbers. -/
theorem geo_ds_passthrough_concrete (E : CEnv) (hL : E.L ∈ layouts) (P : Conv.Params ℝ) (p : CommonPack)
    (hp : p ∈ commonPacks) (hitu : ituPacks.lookup p.id = some E.L.name) (c : CommonChannel) (hc : c ∈ p.channels)
    (gain og : Rat) (mute : Bool) (pos : PositionC) (tol : Rat) :
    ∃ l e, c.labels.head? = some l ∧ nominalSpeakerLabel l ∈ E.L.names ∧
      handleC rules ituPacks E P (c.block p.id gain og mute) pos tol =
        .ok (e, scaleC (c.block p.id gain og mute)
              (castV (unitVec E.L.names.length (E.L.names.idxOf (nominalSpeakerLabel l))))) := by
  obtain ⟨l, e, hl, hmem, he⟩ := passthrough_cell E.L hL p hp hitu c hc gain og mute
  refine ⟨l, e, hl, hmem, ?_⟩
  unfold handleC handleNoGainC
  rw [he]
  rfl

/-! ### which blocks the concrete model rejects -/

/-- **The documented rejections** of `DirectSpeakersPanner.handle` (nothing else is an outcome on the ten layouts):
    * `ValueError`: the object carries a positionOffset;
    * `IndexError`: `audioPackFormats` is the empty list;
    * `IndexError`: the last pack is an ITU common-definition pack and the block has no speakerLabel. -/
def Documented (b : Block) : CError → Prop
  | .ds .positionOffset => b.hasPositionOffset = true
  | .ds .emptyPackList => b.packs = some []
  | .ds .noLabelInItuPack => b.labels = [] ∧ ∃ il, ituLayoutOf ituPacks b = .ok (some il)
  | _ => False

/-- the three documented rejections, as hypotheses -/
structure Accepted (b : Block) : Prop where
  noOffset : b.hasPositionOffset = false
  packs : b.packs ≠ some []
  label : ∀ il, ituLayoutOf ituPacks b = .ok (some il) → b.labels ≠ []

theorem Accepted.not_documented {b : Block} (hb : Accepted b) : ∀ err, ¬ Documented b err
  | .ds .positionOffset, hd => Bool.false_ne_true (hb.noOffset.symm.trans hd)
  | .ds .emptyPackList, hd => hb.packs hd
  | .ds .noLabelInItuPack, ⟨hl, il, hil⟩ => hb.label il hil hl

theorem fallbackC_cart_total (E : CEnv) (hE : envOkB E = true) (hne : E.alloPsp ≠ [])
    (hcount : E.alloPsp.length = (E.L.isLfe.filter (!·)).length) (s : Shifted ℝ)
    (hs : s.polar = false) : ∃ g, fallbackC E s = .ok g ∧ g.length = (E.L.isLfe.filter (!·)).length := by
  simp only [envOkB, Bool.and_eq_true] at hE
  obtain ⟨_, hd⟩ := hE
  have hdist := C13.distinct_cast _ hd
  obtain ⟨st, hst, hts, hm⟩ := C13.speakerTree_spec _ hdist
  have hne' : (E.alloPsp.map ratP3).map C13.castP3 ≠ [] := by simpa using hne
  obtain ⟨r, hr⟩ := GainCalc.alloHandle_total ((E.alloPsp.map ratP3).map C13.castP3).length st s.pan.1 s.pan.2.1
    s.pan.2.2 (GainCalc.treeNonempty_of_spec _ hne' st hts hm)
  obtain ⟨_, _, hlen⟩ := GainCalc.allo_unit_power_distinct _ hdist st hst _ _ _ r hr
  refine ⟨r, ?_, by rw [← hcount]; simpa using hlen⟩
  unfold fallbackC
  simp only [hs, Bool.false_eq_true, if_false, map_toP3_cast3, hst, hr]

/-- The concrete model fails only in the documented ways wherever the screen edge lock succeeds and the fallback panner
    answers the shifted position with one gain per non-LFE slot. -/
theorem handleC_total {E : CEnv} {P : Conv.Params ℝ} {b : Block} {pos : PositionC} {tol : Rat}
    (hs : ∃ s, shift E P pos tol = .ok s ∧
      ∃ g, fallbackC E s = .ok g ∧ g.length = (E.L.isLfe.filter (!·)).length) :
    (∃ e pv, handleC rules ituPacks E P b pos tol = .ok (e, pv)) ∨
    (∃ err, handleC rules ituPacks E P b pos tol = .error err ∧ Documented b err) := by
  obtain ⟨s, hs, g, hg, hlen⟩ := hs
  unfold handleC
  cases h : handleNoGainC rules ituPacks E P b pos tol with
  | ok r => exact Or.inl ⟨r.1, scaleC b r.2, rfl⟩
  | error err =>
    refine Or.inr ⟨err, rfl, ?_⟩
    rcases handleNoGainC_error h with ⟨rfl, hoff⟩ | ⟨e, he, rfl⟩ | hsh | ⟨s', hs', hl⟩
    · exact hoff
    · rcases earlyExit_error he with ⟨rfl, hp⟩ | ⟨rfl, hl, il, hil⟩
      · exact hp
      · exact ⟨hl, il, hil⟩
    · rw [hs] at hsh; cases hsh
    · obtain rfl := Except.ok.inj (hs.symm.trans hs')
      obtain ⟨pv, hpv⟩ := scatterC_total E.L.isLfe g hlen
      rcases (lateExitC_error hl).2 with hf | ⟨g', hg', hsc, _⟩
      · rw [hg] at hf; cases hf
      · rw [hg] at hg'; cases hg'
        rw [hpv] at hsc; cases hsc

/-- Cartesian blocks without screenEdgeLock are never rejected by the fallback: `AllocentricPanner.handle` always answers
    (C01 `alloHandle_total`, C13 `speakerTree_spec`).  The polar path and Cartesian blocks with a screenEdgeLock need C05
    totality and the C19 conversion table and are covered on the ten layouts (`handleC_total_layouts`). -/
theorem handleC_total_cart_partial (E : CEnv) (hE : envOkB E = true) (hne : E.alloPsp ≠ [])
    (hcount : E.alloPsp.length = (E.L.isLfe.filter (!·)).length) (P : Conv.Params ℝ) (b : Block)
    (hoff : b.hasPositionOffset = false) (hpacks : b.packs ≠ some [])
    (hlab : ∀ il, ituLayoutOf ituPacks b = .ok (some il) → b.labels ≠ []) (x y z : Bound) (tol : Rat) :
    ∃ e pv, handleC rules ituPacks E P b (.cart x y z ⟨none, none⟩) tol = .ok (e, pv) :=
  (handleC_total ⟨_, by rw [shift, handleVectorCart_no_lock], fallbackC_cart_total E hE hne hcount _ rfl⟩).resolve_right
    fun ⟨err, _, hd⟩ => Accepted.not_documented ⟨hoff, hpacks, hlab⟩ err hd

/-- they reach the allocentric panner exactly when the block is not an LFE channel, no early exit applies and no
    loudspeaker of its class is within the bounds -/
theorem handleC_cart_point_source (E : CEnv) (hE : envOkB E = true) (hne : E.alloPsp ≠ [])
    (hcount : E.alloPsp.length = (E.L.isLfe.filter (!·)).length) (P : Conv.Params ℝ) (b : Block)
    (hoff : b.hasPositionOffset = false) (hearly : earlyExit rules ituPacks E.L b = .ok none)
    (hlfe : isLfeChannel b = false) (x y z : Bound) (tol : Rat)
    (hwb : (candidates E.L false (cartWithinC (E.G.allo.map cast3 : List (GainCalc.V3 ℝ)) ⟨(GainCalc.k x.value : ℝ), x.min, x.max⟩
      ⟨(GainCalc.k y.value : ℝ), y.min, y.max⟩ ⟨(GainCalc.k z.value : ℝ), z.min, z.max⟩ (GainCalc.k tol : ℝ))).any id = false) :
    ∃ pv, handleC rules ituPacks E P b (.cart x y z ⟨none, none⟩) tol = .ok (.pointSource, pv) := by
  suffices h : ∃ pv, handleNoGainC rules ituPacks E P b (.cart x y z ⟨none, none⟩) tol = .ok (.pointSource, pv) by
    obtain ⟨pv, h⟩ := h
    exact ⟨scaleC b pv, by simp only [handleC, h]⟩
  unfold handleNoGainC
  simp only [hoff, Bool.false_eq_true, if_false, hearly, shift, handleVectorCart_no_lock, hlfe]
  exact lateExitC_point_source hwb (fallbackC_cart_total E hE hne hcount _ rfl)

/-! ### the ten layouts: environments from the regenerated C10 and C05 tables -/

/-- the environment of every table layout (`mkEnv`: C10 `layouts`, `geoms`, `alloPsp`; C05 `layouts`) -/
def envs : List CEnv :=
  layouts.filterMap fun L => mkEnv layouts geoms alloPsp Earverif.Gen.C05.layouts L.name

theorem envs_mem (E : CEnv) (hE : E ∈ envs) : E.L ∈ layouts ∧ E.psp ∈ Earverif.Gen.C05.layouts := by
  simp only [envs, List.mem_filterMap] at hE
  obtain ⟨L0, _, hL⟩ := hE
  simp only [mkEnv, Option.bind_eq_bind, Option.bind_eq_some_iff, Option.some.injEq] at hL
  obtain ⟨L, hfL, G, _, a, _, T, hfT, rfl⟩ := hL
  exact ⟨List.mem_of_find?_eq_some hfL, List.mem_of_find?_eq_some hfT⟩

/-- Table obligations of the concrete theorems on the tables regenerated from the code on this run: all ten
    layouts have an environment, and every environment satisfies `envOkB`; moreover the number of allocentric
    fallback positions and the number of channels of the C05 panner equal the number of non-LFE slots. -/
theorem concrete_tables_ok :
    envs.map (fun E => E.L.name) = layouts.map (·.name) ∧ envs.length = 10 ∧ envs.all envOkB = true ∧
    envs.all (fun E => E.alloPsp.length == (E.L.isLfe.filter (!·)).length &&
      (if E.psp.stereo.isSome then 2 else E.psp.nReal) == (E.L.isLfe.filter (!·)).length) = true := by
  refine ⟨by decide +kernel, by decide +kernel, List.all_eq_true.mpr fun E hE => ?_, by decide +kernel⟩
  -- the C05 region tables are well-formed by C05's own table obligation; the rest of `envOkB` is evaluated here
  have h : envs.all (fun E => layoutOk E.L && C13.distinctB (E.alloPsp.map ratP3)) = true := by decide +kernel
  have h1 := List.all_eq_true.mp h E hE
  have h2 := List.all_eq_true.mp PointSource.tables_wellFormed E.psp (envs_mem E hE).2
  simp only [Bool.and_eq_true] at h1
  simp only [envOkB, Bool.and_eq_true]
  exact ⟨⟨h1.1, h2⟩, h1.2⟩

/-- Table obligations of the totality theorems on the tables regenerated on this run: the representative screen
    edges are azimuths of [-180, 180] (`edgesOkB`) and every layout has an allocentric fallback position. -/
theorem total_tables_ok : envs.all (fun E => edgesOkB E && !E.alloPsp.isEmpty) = true := by decide +kernel

theorem envs_facts (E : CEnv) (hE : E ∈ envs) :
    envOkB E = true ∧ edgesOkB E = true ∧ E.alloPsp ≠ [] ∧
    E.alloPsp.length = (E.L.isLfe.filter (!·)).length ∧
    (if E.psp.stereo.isSome then 2 else E.psp.nReal) = (E.L.isLfe.filter (!·)).length ∧
    E.psp ∈ Earverif.Gen.C05.layouts := by
  have hok := List.all_eq_true.mp concrete_tables_ok.2.2.1 E hE
  have hsh := List.all_eq_true.mp concrete_tables_ok.2.2.2 E hE
  have ht := List.all_eq_true.mp total_tables_ok E hE
  simp only [Bool.and_eq_true, beq_iff_eq] at hsh
  simp only [Bool.and_eq_true, Bool.not_eq_eq_eq_not, Bool.not_true, List.isEmpty_eq_false_iff] at ht
  exact ⟨hok, ht.1, ht.2, hsh.1, hsh.2, (envs_mem E hE).2⟩

theorem geo_ds_nonneg_concrete_layouts (E : CEnv) (hE : E ∈ envs) (P : Conv.Params ℝ) (b : Block) (pos : PositionC)
    (tol : Rat) (hgain : 0 ≤ b.gain) (hog : 0 ≤ b.objectGain) (e : Exit) (pv : List ℝ)
    (h : handleC rules ituPacks E P b pos tol = .ok (e, pv)) : ∀ x ∈ pv, 0 ≤ x :=
  geo_ds_nonneg_concrete E (envs_facts E hE).1 P b pos tol hgain hog e pv h

theorem geo_ds_power_le_concrete_layouts (E : CEnv) (hE : E ∈ envs) (P : Conv.Params ℝ) (b : Block) (pos : PositionC)
    (tol : Rat) (e : Exit) (pv : List ℝ) (h : handleC rules ituPacks E P b pos tol = .ok (e, pv)) :
    (pv.map fun x => x * x).sum ≤ (gainR b * gainR b) * slackR :=
  geo_ds_power_le_concrete E (envs_facts E hE).1 P b pos tol e pv h

/-! ## without the hypothesis: what the mapping-rule branch does with a frequency-only LFE channel

The mapping-rule branch keys on the first speakerLabel only.  A block that claims to sit in a common-definition
ITU pack but carries an LFE frequency with a main-loudspeaker label is sent to that main loudspeaker: this is
why `PackConsistent` is a hypothesis of the two LFE theorems.  No common-definition channel is like that
(`common_packs_consistent`), and a common-definition pack cannot reference any other channel. -/

def inconsistentBlock : Block :=
  { labels := ["M+000"], lowPass := some 120, highPass := none, packs := some [("AP_00010003", true)],
    hasPositionOffset := false, gain := 1, objectGain := 1, objectMute := false }

theorem rule_branch_ignores_frequency :
    isLfeChannel inconsistentBlock = true ∧
    (layouts.find? (fun L => L.name == "0+5+0")).map
        (fun L => handle rules ituPacks L inconsistentBlock ⟨[], none, []⟩)
      = some (.ok (.rule, [0, 0, 1, 0, 0, 0])) := by decide +kernel

/-! ## non-vacuity: concrete blocks satisfying the hypotheses, one per exit (layout 0+5+0 / 0+2+0) -/

def L050 : Layout := ⟨"0+5+0", ["M+030", "M-030", "M+000", "LFE1", "M+110", "M-110"],
  [false, false, false, true, false, false]⟩
def L020 : Layout := ⟨"0+2+0", ["M+030", "M-030"], [false, false]⟩

def blk (labels : List String) (lowPass : Option Rat) (packs : Option (List (String × Bool))) (gain : Rat) : Block :=
  { labels := labels, lowPass := lowPass, highPass := none, packs := packs, hasPositionOffset := false,
    gain := gain, objectGain := 1, objectMute := false }

/-- an unlabelled non-LFE block outside any pack is none of the rejected kinds -/
theorem accepted_blk : Accepted (blk [] none none 1) :=
  ⟨rfl, by simp [blk], by intro il h; simp [ituLayoutOf, blk] at h⟩

example : L050 ∈ layouts ∧ L020 ∈ layouts := by decide +kernel

/-- rule exit: 22.2 `M+060` (URN label) rendered to 0+5+0 is split between M+030 and M+110 -/
example : (handle rules ituPacks L050
    (blk ["urn:itu:bs:2051:0:speaker:M+060"] none (some [("AP_00010009", true)]) 1) ⟨[], none, []⟩).toOption.map
      (fun r => (r.1, r.2.map (fun x => decide (0 < x))))
    = some (.rule, [true, false, false, false, true, false]) := by decide +kernel

/-- label exit with an LFE alias and a block gain -/
example : handle rules ituPacks L050 (blk ["LFEL"] (some 120) none (1 / 2)) ⟨[], none, []⟩
    = .ok (.label, [0, 0, 0, 1 / 2, 0, 0]) := by decide +kernel

/-- closest exit (non-LFE block, candidate mask excludes LFE1) -/
example : handle rules ituPacks L050 (blk ["foo"] none none 1) ⟨[true, true, true, true, false, false], some 2, []⟩
    = .ok (.closest, [0, 0, 1, 0, 0, 0]) := by decide +kernel

/-- LFE by frequency only, no usable label: sent to LFE1; discarded on 0+2+0 -/
example : handle rules ituPacks L050 (blk ["M+000"] (some 200) none 1) ⟨[false, false, false, false, false, false], none, []⟩
    = .ok (.lfeToLfe1, [0, 0, 0, 1, 0, 0]) := by decide +kernel
example : handle rules ituPacks L020 (blk ["LFE2"] none none 1) ⟨[false, false], none, []⟩
    = .ok (.lfeDiscarded, [0, 0]) := by decide +kernel

/-- point-source exit: the captured panner gains are scattered around the LFE slot -/
example : handle rules ituPacks L050 (blk [] (some 201) none 1)
      ⟨[false, false, false, false, false, false], none, [3 / 5, 0, 4 / 5, 0, 0]⟩
    = .ok (.pointSource, [3 / 5, 0, 4 / 5, 0, 0, 0]) := by decide +kernel

/-- the hypotheses are satisfiable on such inputs -/
example : GeoOk L050 (blk ["foo"] none none 1) ⟨[true, true, true, true, false, false], some 2, [3 / 5, 0, 4 / 5, 0, 0]⟩ := by
  refine ⟨?_, ?_, ?_⟩
  · intro c hc
    have : c = 2 := by simpa using hc.symm
    subst this; decide +kernel
  · decide +kernel
  · decide +kernel

example : PackConsistent ituPacks (blk ["foo"] (some 120) none 1) := by
  intro il h; simp [ituLayoutOf, blk] at h

/-- the URN parser on the corner cases of the regexp -/
example : [ "urn:itu:bs:2051:0:speaker:M+030", "urn:itu:bs:2051:12:speaker:LFER", "urn:itu:bs:2051::speaker:M+030",
            "urn:itu:bs:2051:0:speaker:M+030\n", "urn:itu:bs:2051:0:speaker:M+0\n30", "LFE", "lfe",
            "xurn:itu:bs:2051:0:speaker:M+030" ].map nominalSpeakerLabel
    = [ "M+030", "LFE2", "urn:itu:bs:2051::speaker:M+030", "M+030", "urn:itu:bs:2051:0:speaker:M+0\n30", "LFE1", "lfe",
        "xurn:itu:bs:2051:0:speaker:M+030" ] := by decide +kernel

/-! ### non-vacuity of the geometric model (layouts and positions from the regenerated tables) -/

def fullOn (lname : String) (b : Block) (gi : GeoIn) : Option (Except DsError (Exit × List Rat)) :=
  match layouts.find? (fun L => L.name == lname), geoms.lookup lname with
  | some L, some G => some (handleFull rules ituPacks L G b gi)
  | _, _ => none

def bnd (v : Rat) (lo hi : Option Rat := none) : Bound := ⟨v, lo, hi⟩
def tol5 : Rat := 1 / 100000

/-- closest exit: azimuth 10° with bounds [0°, 40°] on 0+5+0 → M+000 (M+030 is within bounds but farther) -/
example : fullOn "0+5+0" (blk ["foo"] none none 1)
    ⟨.polar (bnd 10 (some 0) (some 40)) (bnd 0) (bnd 1) ⟨none, none⟩, tol5, (-17365 / 100000, 98481 / 100000, 0), []⟩
    = some (.ok (.closest, [0, 0, 1, 0, 0, 0])) := by decide +kernel

/-- the LFE-class mask: an LFE-by-frequency block at the front with wide bounds (M+030, M-030, M+000 and LFE1
    are all within bounds, M+000 is closest) goes to LFE1, the only candidate of its class -/
example : fullOn "0+5+0" (blk [] (some 120) none 1)
    ⟨.polar (bnd 0 (some (-50)) (some 50)) (bnd 0 (some (-40)) (some 10)) (bnd 1) ⟨none, none⟩, tol5, (0, 1, 0), []⟩
    = some (.ok (.closest, [0, 0, 0, 1, 0, 0])) := by decide +kernel

/-- ... and the same position as a non-LFE block goes to M+000, never to LFE1 -/
example : fullOn "0+5+0" (blk [] none none 1)
    ⟨.polar (bnd 0 (some (-50)) (some 50)) (bnd 0 (some (-40)) (some 10)) (bnd 1) ⟨none, none⟩, tol5, (0, 1, 0), []⟩
    = some (.ok (.closest, [0, 0, 1, 0, 0, 0])) := by decide +kernel

/-- tie ⇒ none: straight ahead on 0+2+0 with bounds [-30°, 30°], M+030 and M-030 are equidistant, so the
    point-source gains are used -/
example : fullOn "0+2+0" (blk [] none none 1)
    ⟨.polar (bnd 0 (some (-30)) (some 30)) (bnd 0) (bnd 1) ⟨none, none⟩, tol5, (0, 1, 0), [3 / 5, 4 / 5]⟩
    = some (.ok (.pointSource, [3 / 5, 4 / 5])) := by decide +kernel

/-- polar screen edge lock: azimuth 0° locked to the left screen edge (29°) is within [20°, 40°] → M+030 -/
example : fullOn "0+5+0" (blk [] none none 1)
    ⟨.polar (bnd 0 (some 20) (some 40)) (bnd 0) (bnd 1) ⟨some "left", none⟩, tol5, (-48481 / 100000, 87462 / 100000, 0), []⟩
    = some (.ok (.closest, [1, 0, 0, 0, 0, 0])) := by decide +kernel

/-- Cartesian bounds: X ∈ [-1, 1] at Y = 1, Z = 0 near X = -0.45 on 9+10+3 → M+000 (as test_dist_bounds_cart) -/
example : (fullOn "9+10+3" (blk [] none none 1)
    ⟨.cart (bnd (-45 / 100) (some (-1)) (some 1)) (bnd 1) (bnd 0), tol5, (-45 / 100, 1, 0), []⟩).map
      (fun r => r.toOption.map (fun q => (q.1, q.2.idxOf 1)))
    = some (some (.closest, 2)) := by decide +kernel

/-! ### non-vacuity of the concrete theorems (real gains, environments from the regenerated tables) -/

theorem envs_L050 : envs.all (fun E => E.L.name != "0+5+0" || E.L == L050) = true := by decide +kernel

/-- the hypotheses of the `_concrete` theorems hold for the 0+5+0 environment of the tables (`envOkB` by
    `concrete_tables_ok`) and a block taking the label exit: the model returns the real gains `[0,0,0,½,0,0]` -/
example : (∃ E ∈ envs, E.L.name = "0+5+0") ∧ ∀ E ∈ envs, E.L.name = "0+5+0" → ∀ P : Conv.Params ℝ,
    handleC rules ituPacks E P (blk ["LFEL"] (some 120) none (1 / 2))
      (.polar (bnd 0) (bnd 0) (bnd 1) ⟨none, none⟩) tol5 = .ok (.label, ([0, 0, 0, 1 / 2, 0, 0] : List ℝ)) := by
  refine ⟨?_, ?_⟩
  · have h : "0+5+0" ∈ layouts.map (·.name) := by decide +kernel
    rw [← concrete_tables_ok.1] at h
    obtain ⟨E, hE, hn⟩ := List.mem_map.mp h
    exact ⟨E, hE, hn⟩
  · intro E hE hn P
    have h1 := List.all_eq_true.mp envs_L050 E hE
    have hL : E.L = L050 := by simpa [hn] using h1
    have he : earlyExit rules ituPacks L050 (blk ["LFEL"] (some 120) none (1 / 2))
        = .ok (some (.label, [0, 0, 0, 1, 0, 0])) := by decide +kernel
    have hoff : (blk ["LFEL"] (some 120) none (1 / 2)).hasPositionOffset = false := rfl
    simp only [handleC, handleNoGainC, hL, hoff, he, Bool.false_eq_true, if_false]
    simp [scaleC, castV, objectGainOf, blk]

/-- `handleC_total_cart_partial` on the ten layouts (shape obligations from `concrete_tables_ok`) -/
theorem handleC_total_cart_layouts_partial (E : CEnv) (hE : E ∈ envs) (P : Conv.Params ℝ) (b : Block)
    (hoff : b.hasPositionOffset = false) (hpacks : b.packs ≠ some [])
    (hlab : ∀ il, ituLayoutOf ituPacks b = .ok (some il) → b.labels ≠ []) (x y z : Bound) (tol : Rat) :
    ∃ e pv, handleC rules ituPacks E P b (.cart x y z ⟨none, none⟩) tol = .ok (e, pv) := by
  obtain ⟨hok, _, hne, hcA, _⟩ := envs_facts E hE
  exact handleC_total_cart_partial E hok hne hcA P b hoff hpacks hlab x y z tol

/-- the hypotheses of `handleC_total_cart_partial` are satisfiable: an unlabelled non-LFE block, on all ten layouts -/
example : ∀ E ∈ envs, ∀ P : Conv.Params ℝ, ∃ e pv,
    handleC rules ituPacks E P (blk [] none none 1) (.cart (bnd (1 / 2)) (bnd 1) (bnd 0) ⟨none, none⟩) tol5 = .ok (e, pv) :=
  fun E hE P => handleC_total_cart_layouts_partial E hE P _ rfl accepted_blk.packs accepted_blk.label _ _ _ _

theorem envs_L020 : envs.all (fun E => E.L.name != "0+2+0" ||
    (E.L == L020 && E.G.allo == [(-1, 1, 0), (1, 1, 0)] && E.alloPsp == [(-1, 1, 0), (1, 1, 0)])) = true := by
  decide +kernel

/-- non-vacuity on the panner exit: an unlabelled block straight ahead in allocentric coordinates on 0+2+0 (no
    loudspeaker within its degenerate bounds) reaches the allocentric panner; by `geo_ds_power_le_concrete_point_source`
    its gains then have Σ² ≤ 1 -/
example : ∀ E ∈ envs, E.L.name = "0+2+0" → ∀ P : Conv.Params ℝ, ∃ pv : List ℝ,
    handleC rules ituPacks E P (blk [] none none 1) (.cart (bnd 0) (bnd 1) (bnd 0) ⟨none, none⟩) tol5
      = .ok (.pointSource, pv) ∧ (pv.map fun x => x * x).sum ≤ 1 := by
  intro E hE hn P
  have h1 := List.all_eq_true.mp envs_L020 E hE
  simp only [hn, bne_self_eq_false, Bool.false_or, Bool.and_eq_true, beq_iff_eq] at h1
  obtain ⟨⟨hL, hallo⟩, _⟩ := h1
  obtain ⟨hok, _, hne, hcA, _⟩ := envs_facts E hE
  obtain ⟨pv, hpv⟩ := handleC_cart_point_source E hok hne hcA P
    (blk [] none none 1) rfl (by rw [hL]; decide +kernel) (by decide +kernel) (bnd 0) (bnd 1) (bnd 0) tol5
    (by
      rw [hL, hallo]
      simp only [candidates, cartWithinC, cartWithin1C, BoundC.lo, BoundC.hi, cast3, bnd, tol5, L020, List.map,
        Option.map, Option.getD, GainCalc.k_real]
      norm_num)
  refine ⟨pv, hpv, ?_⟩
  have := geo_ds_power_le_concrete_point_source E hok P _ _ _ pv hpv
  simpa [gainR, blk, objectGainOf] using this

/-! ## which calls are rejected: totality on the ten layouts, one statement for the whole property

`handleC` fails only in the documented ways (`Documented`): positionOffset, an empty audioPackFormats list, no
speakerLabel inside an ITU pack.  Neither fallback panner ever refuses (`pspNone`), the Cartesian screen edge lock never
asserts (`edgeLock`), the allocentric panner is always constructible (`speakerTree`), no gain vector has the wrong
length (`pspShape`).  Ingredients: C05 totality on the ten regenerated region tables
(`PointSource.pspHandle_total_layouts`, Props/C05.lean) — applicable because the polar panning position is
`cart az' el' 1`, of norm 1 (C01 `norm3_cart`), whatever the block's distance (the code pans the direction at unit
distance: with the block's distance a distance of 0 would give the zero vector and 0 / 0) —, totality and azimuth range of the C19
conversion on its regenerated table (`Conv.pointCartToPolar_total`, `polar_range_partial`, `pointPolarToCart_total`; the
conversion parameters are `Conv.RP fuel`, any fuel ≥ 1 — the driver runs fuel 4096), `compensate_az_range`, C01
`alloHandle_total` / C13 `speakerTree_spec`. -/

/-- `handleC` fails only in the documented ways, on the ten layouts, every block kind (polar and Cartesian positions,
    any distance, with bounds, with or without screenEdgeLock). -/
theorem handleC_total_layouts (E : CEnv) (hE : E ∈ envs) (m : Nat) (b : Block) (pos : PositionC) (tol : Rat) :
    (∃ e pv, handleC rules ituPacks E (Conv.RP (m + 1)) b pos tol = .ok (e, pv)) ∨
    (∃ err, handleC rules ituPacks E (Conv.RP (m + 1)) b pos tol = .error err ∧ Documented b err) := by
  obtain ⟨hok, hedges, hne, hcA, hcP, hmem⟩ := envs_facts E hE
  cases pos with
  | polar az el dist sel =>
    -- the panning position `cart az' el' 1` is not the zero vector
    refine handleC_total ⟨_, rfl, fallbackC_polar_total E hmem hcP _ rfl fun h0 => ?_⟩
    have := (cart_eq_zero_iff _ _ _).mp h0
    rw [GainCalc.k_real] at this
    norm_num at this
  | cart x y z sel =>
    obtain ⟨q, hq⟩ := handleVectorCart_total E hedges m
      ((GainCalc.k x.value : ℝ), (GainCalc.k y.value : ℝ), (GainCalc.k z.value : ℝ)) sel
    exact handleC_total ⟨_, by rw [shift, hq], fallbackC_cart_total E hok hne hcA _ rfl⟩

/-- A polar DirectSpeakers block is never rejected by the point-source panner on the ten layouts, for EVERY azimuth,
    elevation and distance (0 and negative included: the panner is given the direction at unit distance); the polar path
    does not use the conversion, so `P` is arbitrary. -/
theorem handleC_total_polar_layouts (E : CEnv) (hE : E ∈ envs) (P : Conv.Params ℝ) (b : Block) (hb : Accepted b)
    (az el dist : Bound) (sel : ScreenEdgeLock) (tol : Rat) :
    ∃ e pv, handleC rules ituPacks E P b (.polar az el dist sel) tol = .ok (e, pv) := by
  -- the polar branch never evaluates the conversion parameters: the two sides are the same term
  have hP : handleC rules ituPacks E P b (.polar az el dist sel) tol =
      handleC rules ituPacks E (Conv.RP 1) b (.polar az el dist sel) tol := rfl
  rw [hP]
  exact (handleC_total_layouts E hE 0 b _ tol).resolve_right fun ⟨err, _, hd⟩ => hb.not_documented err hd

/-- A Cartesian DirectSpeakers block is never rejected, with or without screenEdgeLock (totality of the C19 conversion on
    its table; `AllocentricPanner.handle` always answers). -/
theorem handleC_total_cart_layouts (E : CEnv) (hE : E ∈ envs) (m : Nat) (b : Block) (hb : Accepted b)
    (x y z : Bound) (sel : ScreenEdgeLock) (tol : Rat) :
    ∃ e pv, handleC rules ituPacks E (Conv.RP (m + 1)) b (.cart x y z sel) tol = .ok (e, pv) :=
  (handleC_total_layouts E hE m b _ tol).resolve_right fun ⟨err, _, hd⟩ => hb.not_documented err hd

/-- **The property in one statement, no panner hypothesis**: for every block (labels, frequency, packs, gains, polar or
    Cartesian position with bounds and screenEdgeLock) on each of the ten layouts, `handle` either returns gains — one
    per loudspeaker; non-negative when block gain and object gain are; total power ≤ (gain × object gain)² (1 + 2⁻⁴⁰);
    zero at every output of the other LFE class (an LFE channel reaches only LFE outputs, any other channel never an
    LFE output; for blocks in an ITU pack under `PackConsistent`, which holds for every common-definition channel:
    `common_channel_packConsistent`) — or fails in one of the three documented ways.  Over ℝ: finiteness of the binary64
    results is searched on the real code. -/
theorem geo_ds_total_and_bounded_layouts (E : CEnv) (hE : E ∈ envs) (m : Nat) (b : Block) (pos : PositionC)
    (tol : Rat) :
    match handleC rules ituPacks E (Conv.RP (m + 1)) b pos tol with
    | .ok (_, pv) =>
      pv.length = E.L.names.length ∧
      (0 ≤ b.gain → 0 ≤ b.objectGain → ∀ x ∈ pv, 0 ≤ x) ∧
      (pv.map fun x => x * x).sum ≤ (gainR b * gainR b) * slackR ∧
      (PackConsistent ituPacks b → ∀ i : Nat, E.L.isLfe[i]? = some (!isLfeChannel b) → pv[i]? = some 0)
    | .error err => Documented b err := by
  have hok := (envs_facts E hE).1
  split
  · rename_i e pv h
    exact handleC_facts hok h
  · rename_i err h
    rcases handleC_total_layouts E hE m b pos tol with ⟨e, pv, h'⟩ | ⟨err', h', hd⟩
    · rw [h] at h'; cases h'
    · rw [h] at h'; injection h' with h'; subst h'; exact hd

/-! ### test vectors: distance 0, behind the listener, a locked Cartesian block -/

example : Accepted (blk [] none none 1) := accepted_blk

/-- a polar block at distance 0 (`cart az el 0` is the zero vector; the panner is given the direction at unit distance)
    gets gains on all ten layouts; likewise one behind the listener at distance 1 -/
example : ∀ E ∈ envs, ∀ P : Conv.Params ℝ, ∃ e pv,
    handleC rules ituPacks E P (blk [] none none 1) (.polar (bnd 0) (bnd 0) (bnd 0) ⟨none, none⟩) tol5 = .ok (e, pv) :=
  fun E hE P => handleC_total_polar_layouts E hE P _ accepted_blk _ _ _ _ _
example : ∀ E ∈ envs, ∀ P : Conv.Params ℝ, ∃ e pv,
    handleC rules ituPacks E P (blk [] none none 1) (.polar (bnd 180) (bnd 0) (bnd 1) ⟨none, none⟩) tol5 = .ok (e, pv) :=
  fun E hE P => handleC_total_polar_layouts E hE P _ accepted_blk _ _ _ _ _
/-- a Cartesian block locked to the left screen edge, on all ten layouts, with the driver's conversion fuel -/
example : ∀ E ∈ envs, ∃ e pv,
    handleC rules ituPacks E (Conv.RP 4096) (blk [] none none 1)
      (.cart (bnd (1 / 2)) (bnd 1) (bnd 0) ⟨some "left", none⟩) tol5 = .ok (e, pv) :=
  fun E hE => handleC_total_cart_layouts E hE 4095 _ accepted_blk _ _ _ _ _

/-! ### pass-through: the whole (common-definition pack × same layout) matrix -/

/-- **Pass-through on the whole matrix, nothing captured**: for EVERY pair of a common-definition pack `p` and one of the
    ten layouts `E.L` such that `p` is the BS.2051 pack of that layout — by the panner's `itu_packs` table or by the
    pack's BS.2051 URN name —, every channel of `p`, any block gain / object gain / mute, any position and any conversion
    parameters: `handle` returns exactly the unit vector of the like-named loudspeaker × gain × object gain
    (`passthrough_table`, evaluated in `pack_tables_ok`). -/
theorem passthrough_matrix_layouts (E : CEnv) (hE : E ∈ envs) (P : Conv.Params ℝ) (p : CommonPack)
    (hp : p ∈ commonPacks)
    (hitu : ituPacks.lookup p.id = some E.L.name ∨ (p.id, E.L.name) ∈ bs2051NamedPacks)
    (c : CommonChannel) (hc : c ∈ p.channels) (gain og : Rat) (mute : Bool) (pos : PositionC) (tol : Rat) :
    ∃ l e, c.labels.head? = some l ∧ nominalSpeakerLabel l ∈ E.L.names ∧
      handleC rules ituPacks E P (c.block p.id gain og mute) pos tol =
        .ok (e, scaleC (c.block p.id gain og mute)
              (castV (unitVec E.L.names.length (E.L.names.idxOf (nominalSpeakerLabel l))))) := by
  have hitu' : ituPacks.lookup p.id = some E.L.name := by
    rcases hitu with h | h
    · exact h
    · have := List.all_eq_true.mp named_packs_in_itu_table.1 _ h
      simp only [Bool.and_eq_true, beq_iff_eq] at this
      exact this.1
  exact geo_ds_passthrough_concrete E (envs_mem E hE).1 P p hp hitu' c hc gain og mute pos tol

/-- non-vacuity: the 5.1 pack is named a BS.2051 pack of 0+5+0, and the matrix has a cell for every layout -/
example : ("AP_00010003", "0+5+0") ∈ bs2051NamedPacks := by decide +kernel
example : envs.all (fun E => commonPacks.any fun p => ituPacks.lookup p.id == some E.L.name) = true :=
  List.all_eq_true.mpr fun E hE => List.all_eq_true.mp named_packs_in_itu_table.2 E.L (envs_mem E hE).1

end Earverif.DS
