/-
C11 — HOA decoding is invariant to channel order and normalisation convention.

Property theorems about the model `Earverif/Model/Hoa.lean` (transliteration of `hoa.allrad_design`,
`HOADecoderDesign.design`, the `HOARenderer` routing and the norm/ACN helpers) over ℝ.
Two layers:
* abstract: `G` (panner on the t-design), `Y` (N3D harmonics of the pack's channels), the norm vectors, the per-order
  maxRE table and the gains are arbitrary; the hypothesis `NonDegenerate` (Proofs/C11.lean) says that every
  denominator of the computation is non-zero (over ℝ `x/0 = 0` would otherwise make the statements true where the
  `Float` model returns NaN); `nonDegenerate_of_indep` derives it from conditions on `G`, `Y` and the norm factors.
  The proofs of `design_norm_invariant`, `design_same_signals` and `design_unit_mean_power*` use it; `design_perm`
  (its equation), `design_linear_in_gains` and `design_mute_zero` only carry it, for the reason their docstrings give;
* concrete (`designPack`): `Y = sph_harm(…, norm_N3D)` from the model of `hoa.sph_harm` (closed-form Legendre
  recurrence), norm vectors from the model of `norm_N3D/SN3D/FuMa` — channels with `|degree| ≤ order`.

Not proved (searched on the real code instead): finiteness in binary64 (over ℝ every value is "finite"; the theorems
state where no division by zero happens); the panner `G_virt`, the t-design and the maxRE table are parameters; scipy's
`lpmv`/`factorial` are modelled in closed form and tied by the correspondence.
-/
import Earverif.Proofs.C11
import Earverif.Proofs.C11Sph
import Earverif.Gen.C11_Tables
import Mathlib.Tactic.FinCases

namespace Earverif.Hoa

variable {L C P : Nat}

/-- **Permuting the pack's channels permutes the decoder's columns and changes nothing else.**
`permV σ` lists the channels in another order (rows of `Y`, both norm vectors, the orders used for the maxRE
table and the gains all move together); for every option set, gains and mute flag, column `c` of the new
decoder is column `σ c` of the old one, and the permuted computation divides by zero nowhere either.
(The equality itself also holds without `hnd` over ℝ — there only because `x/0 = 0`; on `Float` both sides are then
NaN.) -/
theorem design_perm (σ : Equiv.Perm (Fin C)) (o : Opts) (G : Mat ℝ L P) (Y : Mat ℝ C P)
    (nN3D nrm : Vector ℝ C) (ord : Vector Nat C) (coef : Nat → ℝ) (gains : Vector ℝ C) (og : ℝ) (mute : Bool)
    (hnd : NonDegenerate o G Y nN3D nrm ord coef) :
    NonDegenerate o G (permV σ Y) (permV σ nN3D) (permV σ nrm) (permV σ ord) coef ∧
    ∀ (l : Fin L) (c : Fin C),
      (design o G (permV σ Y) (permV σ nN3D) (permV σ nrm) (permV σ ord) coef (permV σ gains) og mute).at l c
        = (design o G Y nN3D nrm ord coef gains og mute).at l (σ c) := by
  refine ⟨hnd.perm σ, fun l c => ?_⟩
  rw [design_eq, design_eq, wOpt_perm, designW_at, designW_at, d1_perm, meanPow_perm, permV_get]

theorem NonDegenerate.change_norm {o : Opts} {G : Mat ℝ L P} {Y : Mat ℝ C P} {nN3D nrm₁ : Vector ℝ C}
    {ord : Vector Nat C} {coef : Nat → ℝ} (h : NonDegenerate o G Y nN3D nrm₁ ord coef) (nrm₂ : Vector ℝ C)
    (h₂ : ∀ c : Fin C, nrm₂[c.1] ≠ 0) : NonDegenerate o G Y nN3D nrm₂ ord coef :=
  ⟨h.points, h.fro, h.hn3d, h₂, h.sumsq, fun ho => by
    rw [← meanPow_norm_free G Y nN3D nrm₁ nrm₂ _ h.hn3d h.hnrm h₂]; exact h.meanPow ho⟩

/-- **decoder₁ · diag(nrm₁) = decoder₂ · diag(nrm₂)** for any two conventions whose per-channel factors are
non-zero, everything else equal (options incl. maxRE, gains, mute). -/
theorem design_norm_invariant (o : Opts) (G : Mat ℝ L P) (Y : Mat ℝ C P) (nN3D nrm₁ nrm₂ : Vector ℝ C)
    (ord : Vector Nat C) (coef : Nat → ℝ) (gains : Vector ℝ C) (og : ℝ) (mute : Bool)
    (hnd : NonDegenerate o G Y nN3D nrm₁ ord coef) (h₂ : ∀ c : Fin C, nrm₂[c.1] ≠ 0)
    (l : Fin L) (c : Fin C) :
    (design o G Y nN3D nrm₁ ord coef gains og mute).at l c * nrm₁[c.1]
      = (design o G Y nN3D nrm₂ ord coef gains og mute).at l c * nrm₂[c.1] := by
  rw [design_eq, design_eq, designW_at, designW_at, meanPow_norm_free G Y nN3D nrm₁ nrm₂ _ hnd.hn3d hnd.hnrm h₂]
  have e := (d1_mul_norm G Y nN3D nrm₁ (wOpt (L := L) o coef ord) l c (hnd.hnrm c)).trans
    (d1_mul_norm G Y nN3D nrm₂ (wOpt (L := L) o coef ord) l c (h₂ c)).symm
  split
  · linear_combination
      (gains[c.1] * (if mute then 0 else og) / Real.sqrt (meanPow G Y nN3D nrm₂ (wOpt (L := L) o coef ord))) * e
  · linear_combination (gains[c.1] * (if mute then 0 else og)) * e

/-- **The same sound field gives identical loudspeaker signals in any two conventions** (N3D, SN3D, FuMa, …):
a sound field with N3D coefficients `x` reads `x c · nrm c / nN3D c` in the pack's convention; every
loudspeaker signal `Σ_c decoder[l,c] · (that)` is the same for both conventions. -/
theorem design_same_signals (o : Opts) (G : Mat ℝ L P) (Y : Mat ℝ C P) (nN3D nrm₁ nrm₂ : Vector ℝ C)
    (ord : Vector Nat C) (coef : Nat → ℝ) (gains : Vector ℝ C) (og : ℝ) (mute : Bool)
    (hnd : NonDegenerate o G Y nN3D nrm₁ ord coef) (h₂ : ∀ c : Fin C, nrm₂[c.1] ≠ 0)
    (x : Fin C → ℝ) (l : Fin L) :
    ∑ c, (design o G Y nN3D nrm₁ ord coef gains og mute).at l c * (x c * nrm₁[c.1] / nN3D[c.1])
      = ∑ c, (design o G Y nN3D nrm₂ ord coef gains og mute).at l c * (x c * nrm₂[c.1] / nN3D[c.1]) := by
  refine Finset.sum_congr rfl fun c _ => ?_
  linear_combination
    (x c / nN3D[c.1]) * design_norm_invariant o G Y nN3D nrm₁ nrm₂ ord coef gains og mute hnd h₂ l c

def ones (C : Nat) : Vector ℝ C := Vector.replicate C 1

/-- **Linear in the per-channel gains and the object gain**: the decoder is the unit-gain decoder with column
`c` multiplied by `gains[c] · (0 if muted else object gain)`.  (`_hnd`: no division by zero — not needed for the
algebra over ℝ, where `x/0 = 0`, but without it the `Float` model is NaN on both sides.) -/
theorem design_linear_in_gains (o : Opts) (G : Mat ℝ L P) (Y : Mat ℝ C P) (nN3D nrm : Vector ℝ C)
    (ord : Vector Nat C) (coef : Nat → ℝ) (gains : Vector ℝ C) (og : ℝ) (mute : Bool)
    (_hnd : NonDegenerate o G Y nN3D nrm ord coef) (l : Fin L) (c : Fin C) :
    (design o G Y nN3D nrm ord coef gains og mute).at l c
      = (design o G Y nN3D nrm ord coef (ones C) 1 false).at l c * (gains[c.1] * (if mute then 0 else og)) := by
  rw [design_eq, design_eq, designW_at, designW_at]
  simp [ones]

/-- **mute ⇒ 0** wherever the computation divides by zero nowhere (`_hnd`; there the unit-gain decoder is a real
number on `Float` too, so `· 0.0 = 0.0`; in the degenerate cases the real code returns `NaN · 0.0 = NaN`). -/
theorem design_mute_zero (o : Opts) (G : Mat ℝ L P) (Y : Mat ℝ C P) (nN3D nrm : Vector ℝ C)
    (ord : Vector Nat C) (coef : Nat → ℝ) (gains : Vector ℝ C) (og : ℝ)
    (hnd : NonDegenerate o G Y nN3D nrm ord coef) (l : Fin L) (c : Fin C) :
    (design o G Y nN3D nrm ord coef gains og true).at l c = 0 := by
  rw [design_linear_in_gains o G Y nN3D nrm ord coef gains og true hnd]
  simp

/-- `np.mean(np.sum(np.dot(D, K_v) ** 2, axis=0))` for a decoder `D`, with `K_v = diag(nrm/nN3D)·Y` the unit plane
waves from the `P` t-design directions encoded in the pack's convention — the quantity the code normalises. -/
noncomputable def meanPower (D : Mat ℝ L C) (Y : Mat ℝ C P) (nN3D nrm : Vector ℝ C) : ℝ :=
  (∑ p : Fin P, ∑ l : Fin L, (∑ c : Fin C, D.at l c * (nrm[c.1] / nN3D[c.1] * Y.at c p)) ^ 2) / (P : ℝ)

/-- Unit mean power **over the code's `P` sample directions** whenever the option `norm_mean_power` is on (any
maxRE setting) and no denominator is zero: the decoder for unit gains has mean power exactly 1. -/
theorem design_unit_mean_power_nmp (o : Opts) (ho : o.normMeanPower = true) (G : Mat ℝ L P) (Y : Mat ℝ C P)
    (nN3D nrm : Vector ℝ C) (ord : Vector Nat C) (coef : Nat → ℝ)
    (hnd : NonDegenerate o G Y nN3D nrm ord coef) :
    meanPower (design o G Y nN3D nrm ord coef (ones C) 1 false) Y nN3D nrm = 1 := by
  have hden := hnd.meanPow ho
  have hs := Real.sq_sqrt (meanPow_nonneg G Y nN3D nrm (wOpt (L := L) o coef ord))
  -- every entry is the weighted decoder's over `√(mean power)`, hence so is `decoder·K_v`
  have inner : ∀ (p : Fin P) (l : Fin L),
      ∑ c : Fin C, (design o G Y nN3D nrm ord coef (ones C) 1 false).at l c * (nrm[c.1] / nN3D[c.1] * Y.at c p)
        = dk G Y nN3D nrm (wOpt (L := L) o coef ord) l p
          / Real.sqrt (meanPow G Y nN3D nrm (wOpt (L := L) o coef ord)) := by
    intro p l
    rw [dk, Finset.sum_div]
    refine Finset.sum_congr rfl fun c _ => ?_
    rw [design_eq, designW_at, if_pos ho, ones, Vector.getElem_replicate, if_neg Bool.false_ne_true, mul_one, mul_one,
      div_mul_eq_mul_div]
  unfold meanPower
  simp only [inner, div_pow, hs, ← Finset.sum_div]
  rw [div_right_comm]
  simp only [sq]
  exact div_self hden

/-- **Unit mean power with default options** (`{}` = `HOADecoderDesign`'s defaults: mean-power normalisation on,
maxRE off): the mean **over the code's `P` sample directions** (the t-design points — a quadrature of the sphere,
not the sphere itself) of the summed squared loudspeaker signals for unit plane waves encoded in the pack's convention
is exactly 1, provided no denominator of the computation is zero. -/
theorem design_unit_mean_power (G : Mat ℝ L P) (Y : Mat ℝ C P) (nN3D nrm : Vector ℝ C) (ord : Vector Nat C)
    (coef : Nat → ℝ) (hnd : NonDegenerate {} G Y nN3D nrm ord coef) :
    meanPower (design {} G Y nN3D nrm ord coef (ones C) 1 false) Y nN3D nrm = 1 :=
  design_unit_mean_power_nmp {} rfl G Y nN3D nrm ord coef hnd

/-- `route` and `renderFrame` fill the output channels by the same recursion over the LFE flags: `z` into a flagged
slot, `g` of the next row into any other. Whatever does so leaves `z` in every flagged slot. -/
theorem lfe_slots {ρ β : Type} (F : List Bool → List ρ → Option (List β)) (z : β) (g : ρ → β)
    (htrue : ∀ t rows, F (true :: t) rows = (F t rows).map (z :: ·))
    (hfalse : ∀ t r rows, F (false :: t) (r :: rows) = (F t rows).map (g r :: ·))
    (hnone : ∀ t, F (false :: t) [] = none) : ∀ (lfe : List Bool) (rows : List ρ) (out : List β),
    F lfe rows = some out → ∀ j : Nat, lfe[j]? = some true → out[j]? = some z
  | [], _, out, h, j, hj => by simp at hj
  | true :: t, rows, out, h, j, hj => by
    rw [htrue, Option.map_eq_some_iff] at h
    obtain ⟨o', ho', rfl⟩ := h
    cases j with
    | zero => rfl
    | succ j => exact lfe_slots F z g htrue hfalse hnone t rows o' ho' j hj
  | false :: t, [], out, h, j, hj => by rw [hnone] at h; cases h
  | false :: t, r :: rows, out, h, j, hj => by
    rw [hfalse, Option.map_eq_some_iff] at h
    obtain ⟨o', ho', rfl⟩ := h
    cases j with
    | zero => simp at hj
    | succ j => exact lfe_slots F z g htrue hfalse hnone t rows o' ho' j hj

/-- **LFE rows are exactly zero**: whenever the routing succeeds, every output channel flagged LFE gets the
zero row. -/
theorem no_lfe_feed {α : Type} (zero : α) : ∀ (lfe : List Bool) (rows out : List (Vector α C)),
    route zero lfe rows = some out →
    ∀ j : Nat, lfe[j]? = some true → out[j]? = some (Vector.replicate C zero) :=
  lfe_slots (route zero) _ id (fun _ _ => rfl) (fun _ _ _ => rfl) (fun _ => rfl)

/-- **LFE outputs of the rendered signal are exactly zero, for every input** (`renderFrame` = one sample frame
through `HOARenderer.render` / `FixedMatrix.process`): whatever the decoder rows and whatever the input samples `x`
(any scalar type: also `Float` inputs that are NaN or infinite), every output channel flagged LFE carries the `0.0`
the output block was initialised with. -/
theorem render_lfe_zero {α : Type} [Scalar α] : ∀ (lfe : List Bool) (rows : List (Vector α C)) (x : Vector α C)
    (out : List α), renderFrame lfe rows x = some out →
    ∀ j : Nat, lfe[j]? = some true → out[j]? = some (Scalar.ofNat 0) :=
  fun lfe rows x => lfe_slots (renderFrame · · x) _ _ (fun _ _ => rfl) (fun _ _ _ => rfl) (fun _ => rfl) lfe rows

/-- **no LFE feed, composed**: the renderer output for the decoder `design` returns — any options, any pack, any gains,
any input frame — is `0` on every LFE channel; the non-LFE channels carry `Σ_c decoder[i,c]·x[c]` (`renderFrame`'s
definition), i.e. the rendered frame is the routed gain matrix of `no_lfe_feed` applied to the input. -/
theorem design_render_lfe_zero (o : Opts) (G : Mat ℝ L P) (Y : Mat ℝ C P) (nN3D nrm : Vector ℝ C)
    (ord : Vector Nat C) (coef : Nat → ℝ) (gains : Vector ℝ C) (og : ℝ) (mute : Bool) (lfe : List Bool)
    (x : Vector ℝ C) (out : List ℝ)
    (h : renderFrame lfe (design o G Y nN3D nrm ord coef gains og mute).toList x = some out) (j : Nat)
    (hj : lfe[j]? = some true) : out[j]? = some 0 := by
  have := render_lfe_zero lfe _ x out h j hj
  simpa using this

/-- `renderFrame` is `route` followed by the matrix–vector product: output `j` is `0 + Σ_c routed[j][c]·x[c]` on the
non-LFE channels and the untouched `0` on the LFE ones; it succeeds exactly when `route` does. -/
theorem renderFrame_eq_route (lfe : List Bool) (rows : List (Vector ℝ C)) (x : Vector ℝ C) :
    renderFrame lfe rows x = (route (0 : ℝ) lfe rows).map (·.map fun r => ∑ c : Fin C, r[c.1] * x[c.1]) := by
  induction lfe generalizing rows with
  | nil => cases rows <;> rfl
  | cons b t ih =>
    cases b with
    | true =>
      simp only [renderFrame, route, ih, Option.map_map]
      congr 1
      funext o
      simp only [Function.comp_apply, List.map_cons, Vector.getElem_replicate, zero_mul, Finset.sum_const_zero,
        scalar_ofNat, Nat.cast_zero]
    | false =>
      cases rows with
      | nil => rfl
      | cons r rows =>
        simp only [renderFrame, route, ih, Option.map_map]
        congr 1
        funext o
        simp only [Function.comp_apply, List.map_cons, scalar_ofNat, Nat.cast_zero, zero_add, finSum_eq]

/-- the entries of `xs` at the positions not flagged in `mask`, in order -/
def unmasked {β : Type} : List Bool → List β → List β
  | true :: bs, _ :: xs => unmasked bs xs
  | false :: bs, x :: xs => x :: unmasked bs xs
  | _, _ => []

/-- The non-LFE output channels carry the decoder rows, in order (nothing is lost or reordered). -/
theorem route_nonlfe_rows {α : Type} (zero : α) : ∀ (lfe : List Bool) (rows out : List (Vector α C)),
    route zero lfe rows = some out → unmasked lfe out = rows ∧ out.length = lfe.length
  | [], [], out, h => by simp [route] at h; subst h; simp [unmasked]
  | [], _ :: _, out, h => by simp [route] at h
  | true :: t, rows, out, h => by
    simp only [route, Option.map_eq_some_iff] at h
    obtain ⟨o', ho', rfl⟩ := h
    have := route_nonlfe_rows zero t rows o' ho'
    simp [unmasked, this]
  | false :: t, [], out, h => by simp [route] at h
  | false :: t, r :: rows, out, h => by
    simp only [route, Option.map_eq_some_iff] at h
    obtain ⟨o', ho', rfl⟩ := h
    have := route_nonlfe_rows zero t rows o' ho'
    simp [unmasked, this]

/-- The routing succeeds exactly when the decoder has one row per non-LFE channel (otherwise numpy raises). -/
theorem route_shape {α : Type} (zero : α) : ∀ (lfe : List Bool) (rows : List (Vector α C)),
    (route zero lfe rows).isSome ↔ (lfe.filter (· == false)).length = rows.length
  | [], [] => by simp [route]
  | [], _ :: _ => by simp [route]
  | true :: t, rows => by simpa [route] using route_shape zero t rows
  | false :: t, [] => by simp [route]
  | false :: t, r :: rows => by simpa [route] using route_shape zero t rows

theorem fact_pos : ∀ n, 0 < fact n
  | 0 => by simp [fact]
  | n + 1 => by simp [fact, fact_pos n]

theorem factSub_of_le {n m : Nat} (h : m ≤ n) : factSub n m = fact (n - m) := if_neg (Nat.not_lt.mpr h)

theorem factSub_of_gt {n m : Nat} (h : n < m) : factSub n m = 0 := if_pos h

theorem fumaFactor_isSome (n m : Nat) : (fumaFactor n m : Option ℝ).isSome = (fumaFactorSq n m).isSome := by
  unfold fumaFactor fumaFactorSq
  split <;> simp

theorem fumaFactor_spec (n m : Nat) (f : ℝ) (hf : fumaFactor n m = some f) :
    0 < f ∧ ∃ q, fumaFactorSq n m = some q ∧ f ^ 2 = (q.1 : ℝ) / (q.2 : ℝ) := by
  have s2 : Real.sqrt 2 ^ 2 = 2 := Real.sq_sqrt (by norm_num)
  have s3 : Real.sqrt 3 ^ 2 = 3 := Real.sq_sqrt (by norm_num)
  have s5 : Real.sqrt 5 ^ 2 = 5 := Real.sq_sqrt (by norm_num)
  have s45 : Real.sqrt (45 / 32) ^ 2 = 45 / 32 := Real.sq_sqrt (by norm_num)
  have s85 : Real.sqrt (8 / 5) ^ 2 = 8 / 5 := Real.sq_sqrt (by norm_num)
  unfold fumaFactor at hf
  split at hf <;> simp only [Option.some.injEq, reduceCtorEq] at hf <;> subst hf <;>
    simp only [scalar_sqrt, scalar_ofNat, Nat.cast_ofNat, Nat.cast_one] <;>
    refine ⟨by positivity, _, rfl, ?_⟩
  · rw [div_pow, s2]; norm_num  -- (0, 0): 1/√2
  · norm_num  -- (1, 0)
  · norm_num  -- (1, 1)
  · norm_num  -- (2, 0)
  · rw [div_pow, s3]; norm_num  -- (2, 1): 2/√3
  · rw [div_pow, s3]; norm_num  -- (2, 2): 2/√3
  · norm_num  -- (3, 0)
  · rw [s45]; norm_num  -- (3, 1): √(45/32)
  · rw [div_pow, s5]; norm_num  -- (3, 2): 3/√5
  · rw [s85]; norm_num  -- (3, 3): √(8/5)

/-- **The model's norm factors are the square roots of the rationals `n3dSq`, `sn3dSq`, `fumaSq`** (the same
rationals the regenerated tables are compared with). -/
theorem norms_sq (n m : Nat) :
    (normN3D n m : ℝ) ^ 2 = ((n3dSq n m).1 : ℝ) / ((n3dSq n m).2 : ℝ)
    ∧ (normSN3D n m : ℝ) ^ 2 = ((sn3dSq n m).1 : ℝ) / ((sn3dSq n m).2 : ℝ)
    ∧ ∀ x : ℝ, normFuMa n m = some x →
        ∃ q, fumaSq n m = some q ∧ x ^ 2 = (q.1 : ℝ) / (q.2 : ℝ) := by
  refine ⟨?_, normSN3D_sq n m, fun x hx => ?_⟩
  · rw [normN3D_eq, mul_pow, Real.sq_sqrt (Nat.cast_nonneg _), normSN3D_sq, ← mul_div_assoc, ← Nat.cast_mul]
    rfl
  · obtain ⟨f, hf, rfl⟩ := Option.map_eq_some_iff.mp hx
    obtain ⟨-, q, hq, hf2⟩ := fumaFactor_spec n m f hf
    refine ⟨((sn3dSq n m).1 * q.1, (sn3dSq n m).2 * q.2), by rw [fumaSq, hq, Option.map_some], ?_⟩
    rw [mul_pow, normSN3D_sq, hf2, div_mul_div_comm, Nat.cast_mul, Nat.cast_mul]
    rfl

/-- **All norm factors are positive for `|m| ≤ n`** (so the non-zero hypotheses of `design_norm_invariant` hold for
N3D, SN3D and, where defined, FuMa). -/
theorem norms_pos (n m : Nat) (h : m ≤ n) :
    (0 : ℝ) < normN3D n m ∧ (0 : ℝ) < normSN3D n m ∧ ∀ x : ℝ, normFuMa n m = some x → 0 < x := by
  have h1 : (0 : ℝ) < (factSub n m : ℝ) := by rw [factSub_of_le h]; exact_mod_cast fact_pos _
  have h2 : (0 : ℝ) < (fact (n + m) : ℝ) := by exact_mod_cast fact_pos _
  have hS : (0 : ℝ) < normSN3D n m := Real.sqrt_pos.mpr (div_pos h1 h2)
  refine ⟨?_, hS, fun x hx => ?_⟩
  · rw [normN3D_eq]
    exact mul_pos (Real.sqrt_pos.mpr (by positivity)) hS
  · obtain ⟨f, hf, rfl⟩ := Option.map_eq_some_iff.mp hx
    exact mul_pos hS (fumaFactor_spec n m f hf).1

/-- **`|degree| > order`: what the code computes** (`scipy.special.factorial` of a negative number is `0`):
`norm_N3D = norm_SN3D = 0` and `norm_FuMa` raises `KeyError`.  Nothing in the real code rejects such a channel
(no validator compares `degree` with `order`); `allrad_design` then evaluates `norm_N3D/norm = 0/0` for that channel,
whose decoder column is NaN; with `norm_mean_power` (the default) `np.dot(decoder, K_v)` carries the NaN into the mean
power and the whole decoder is NaN.  Such a pack violates `NonDegenerate.hn3d`, so none of the `design_*` theorems
speaks about it. -/
theorem norms_zero_of_gt (n m : Nat) (h : n < m) :
    (normN3D n m : ℝ) = 0 ∧ (normSN3D n m : ℝ) = 0 ∧ (normFuMa n m : Option ℝ) = none ∧
    n3dSq n m = (0, fact (n + m)) ∧ sn3dSq n m = (0, fact (n + m)) ∧ fumaSq n m = none := by
  -- every entry of the `convert` table has `m ≤ n`
  have hf : fumaFactorSq n m = none := by
    unfold fumaFactorSq
    split <;> first | rfl | omega
  have hf' : (fumaFactor n m : Option ℝ) = none := by
    rw [← Option.not_isSome_iff_eq_none, fumaFactor_isSome, hf]
    exact Bool.false_ne_true
  have hS : (normSN3D n m : ℝ) = 0 := by simp [normSN3D, factSub_of_gt h]
  refine ⟨by rw [normN3D_eq, hS, mul_zero], hS, by rw [normFuMa, hf', Option.map_none], ?_, ?_,
    by rw [fumaSq, hf, Option.map_none]⟩
  · rw [n3dSq, factSub_of_gt h, mul_zero]
  · rw [sn3dSq, factSub_of_gt h]

/-- **`sph_harm` is linear in its `norm` argument**: `K_v = sph_harm(…, norm=norm)` is `diag(norm/norm_N3D)·Y_virt`
(what `designW` uses for `K_v`), whenever the N3D factor is non-zero. -/
theorem sphHarm_rescale (nf nN : ℝ) (hN : nN ≠ 0) (n : Nat) (m : Int) (az el : ℝ) :
    sphHarm nf n m az el = nf / nN * sphHarm nN n m az el := by
  rw [← sphHarm_mul, div_mul_cancel₀ _ hN]

theorem sphHarm_fuma (n mm : Nat) (f x : ℝ) (hf : fumaFactor n mm = some f) (hx : normFuMa n mm = some x) (m : Int)
    (az el : ℝ) : sphHarm x n m az el = f * sphHarm (normSN3D n mm) n m az el := by
  rw [normFuMa, hf, Option.map_some] at hx
  rw [← Option.some.inj hx, mul_comm, sphHarm_mul]

theorem normDefined_iff (conv n m : Nat) :
    normDefined conv n m = true ↔ ∃ x : ℝ, normBy conv n m = some x := by
  unfold normDefined normBy
  split
  · simp
  · simp
  · rw [← fumaFactor_isSome, Option.isSome_iff_exists]
    simp [normFuMa]
  · simp

theorem normBy_pos (conv n m : Nat) (h : m ≤ n) (x : ℝ) (hx : normBy conv n m = some x) : 0 < x := by
  obtain ⟨h0, h1, h2⟩ := norms_pos n m h
  unfold normBy at hx
  split at hx
  · simp only [Option.some.injEq] at hx; subst hx; exact h0
  · simp only [Option.some.injEq] at hx; subst hx; exact h1
  · exact h2 x hx
  · simp at hx

theorem normVec_spec (conv : Nat) (ord : Vector Nat C) (deg : Vector Int C) (v : Vector ℝ C)
    (h : normVec conv ord deg = some v) (c : Fin C) : normBy conv ord[c.1] deg[c.1].natAbs = some v[c.1] := by
  unfold normVec at h
  split at h
  · rename_i hall
    simp only [Option.some.injEq] at h
    subst h
    rw [List.all_eq_true] at hall
    obtain ⟨x, hx⟩ := (normDefined_iff _ _ _).mp (hall c (List.mem_finRange c))
    simp [hx]
  · simp at h

theorem normVec_pos (conv : Nat) (ord : Vector Nat C) (deg : Vector Int C) (v : Vector ℝ C)
    (h : normVec conv ord deg = some v) (hdeg : ∀ c : Fin C, deg[c.1].natAbs ≤ ord[c.1]) (c : Fin C) :
    0 < v[c.1] :=
  normBy_pos conv _ _ (hdeg c) _ (normVec_spec conv ord deg v h c)

theorem n3dVec_pos (ord : Vector Nat C) (deg : Vector Int C) (hdeg : ∀ c : Fin C, deg[c.1].natAbs ≤ ord[c.1])
    (c : Fin C) : (0 : ℝ) < (n3dVec ord deg)[c.1] := by
  simp only [n3dVec, Vector.getElem_ofFn]
  exact (norms_pos _ _ (hdeg c)).1

/-- **a channel with `|degree| > order` makes `NonDegenerate` fail** (its N3D factor is `0`): such packs are outside
every `design_*` theorem; the real code returns NaN for them (see `norms_zero_of_gt`). -/
theorem degree_gt_order_degenerate (o : Opts) (G : Mat ℝ L P) (az el : Vector ℝ P) (nrm : Vector ℝ C)
    (ord : Vector Nat C) (deg : Vector Int C) (coef : Nat → ℝ) (c : Fin C) (h : ord[c.1] < deg[c.1].natAbs) :
    ¬ NonDegenerate o G (yVirt ord deg az el) (n3dVec ord deg) nrm ord coef := by
  intro hnd
  apply hnd.hn3d c
  rw [n3dVec, Vector.getElem_ofFn]
  exact (norms_zero_of_gt _ _ h).1

/-- **Channel order, concrete**: `designPack` computes everything between the pack's `(orders, degrees,
normalisation)` and the decoder — `norm_*`, `sph_harm` (→ `Y_virt`, `K_v`), `allrad_design`, maxRE, mean power, gains.
Listing the pack's channels in another order (orders, degrees and gains move together) permutes the decoder's columns
and changes nothing else; the element-wise evaluation of `norm_*` / `sph_harm` on the reordered arrays is part of the
statement, not a parameter. -/
theorem designPack_perm (σ : Equiv.Perm (Fin C)) (o : Opts) (G : Mat ℝ L P) (az el : Vector ℝ P) (conv : Nat)
    (ord : Vector Nat C) (deg : Vector Int C) (coef : Nat → ℝ) (gains : Vector ℝ C) (og : ℝ) (mute : Bool)
    (D : Mat ℝ L C) (hD : designPack o G az el conv ord deg coef gains og mute = some D)
    (hnd : ∀ nrm, normVec conv ord deg = some nrm →
      NonDegenerate o G (yVirt ord deg az el) (n3dVec ord deg) nrm ord coef) :
    ∃ D', designPack o G az el conv (permV σ ord) (permV σ deg) coef (permV σ gains) og mute = some D' ∧
      ∀ (l : Fin L) (c : Fin C), D'.at l c = D.at l (σ c) := by
  unfold designPack at hD ⊢
  rw [Option.map_eq_some_iff] at hD
  obtain ⟨nrm, hn, rfl⟩ := hD
  rw [normVec_perm, hn, yVirt_perm, n3dVec_perm]
  exact ⟨_, rfl, (design_perm σ o G _ _ nrm ord coef gains og mute (hnd nrm hn)).2⟩

/-- a sound field with N3D coefficients `x`, written in the pack's convention `conv` (`0` N3D, `1` SN3D, `2` FuMa):
coefficient `c` is `x c · norm_conv(n_c, |m_c|) / norm_N3D(n_c, |m_c|)` -/
noncomputable def encode (conv : Nat) (ord : Vector Nat C) (deg : Vector Int C) (x : Fin C → ℝ) (c : Fin C) : ℝ :=
  x c * ((normBy conv ord[c.1] deg[c.1].natAbs : Option ℝ).getD 0) / normN3D ord[c.1] deg[c.1].natAbs

theorem encode_of_normVec {conv : Nat} {ord : Vector Nat C} {deg : Vector Int C} {n : Vector ℝ C}
    (h : normVec conv ord deg = some n) (x : Fin C → ℝ) (c : Fin C) :
    encode conv ord deg x c = x c * n[c.1] / (n3dVec ord deg)[c.1] := by
  rw [encode, normVec_spec conv ord deg n h c, Option.getD_some, n3dVec, Vector.getElem_ofFn]

/-- **Normalisation convention, concrete**: for a pack whose channels satisfy `|degree| ≤ order`, the decoders
`designPack` designs for any two conventions for which the code's `norm` returns (N3D, SN3D; FuMa up to order 3)
give identical loudspeaker signals for the same sound field — with the model's own `norm_N3D`, `norm_SN3D`,
`norm_FuMa` (tied to the code's values by `tables_match_model` / `tables_normBy_sq`) and `sph_harm` inside. -/
theorem designPack_same_signals (o : Opts) (G : Mat ℝ L P) (az el : Vector ℝ P) (conv₁ conv₂ : Nat)
    (ord : Vector Nat C) (deg : Vector Int C) (coef : Nat → ℝ) (gains : Vector ℝ C) (og : ℝ) (mute : Bool)
    (hdeg : ∀ c : Fin C, deg[c.1].natAbs ≤ ord[c.1])
    (D₁ D₂ : Mat ℝ L C) (h₁ : designPack o G az el conv₁ ord deg coef gains og mute = some D₁)
    (h₂ : designPack o G az el conv₂ ord deg coef gains og mute = some D₂)
    (hnd : ∀ nrm, normVec conv₁ ord deg = some nrm →
      NonDegenerate o G (yVirt ord deg az el) (n3dVec ord deg) nrm ord coef)
    (x : Fin C → ℝ) (l : Fin L) :
    ∑ c, D₁.at l c * encode conv₁ ord deg x c = ∑ c, D₂.at l c * encode conv₂ ord deg x c := by
  obtain ⟨n₁, hn₁, rfl⟩ := Option.map_eq_some_iff.mp h₁
  obtain ⟨n₂, hn₂, rfl⟩ := Option.map_eq_some_iff.mp h₂
  simp only [encode_of_normVec hn₁, encode_of_normVec hn₂]
  exact design_same_signals o G (yVirt ord deg az el) (n3dVec ord deg) n₁ n₂ ord coef gains og mute
    (hnd n₁ hn₁) (fun c => (normVec_pos conv₂ ord deg n₂ hn₂ hdeg c).ne') x l

/-- `NonDegenerate` for a concrete pack from conditions on `G` and the sampled harmonics only: `|degree| ≤ order`
takes care of the norm factors. -/
theorem nonDegenerate_pack (o : Opts) (G : Mat ℝ L P) (az el : Vector ℝ P) (conv : Nat) (ord : Vector Nat C)
    (deg : Vector Int C) (coef : Nat → ℝ) (nrm : Vector ℝ C) (hn : normVec conv ord deg = some nrm)
    (hdeg : ∀ c : Fin C, deg[c.1].natAbs ≤ ord[c.1]) (hP : P ≠ 0) (hY : RowsIndependent (yVirt ord deg az el))
    (hD : ∃ l c, d0 G (yVirt ord deg az el) l c ≠ 0 ∧ wOf (wOpt (L := L) o coef ord) c ≠ 0)
    (hs : o.maxRE = true → o.maxREScale ≠ .none → (∑ c : Fin C, coef ord[c.1] * coef ord[c.1]) ≠ 0) :
    NonDegenerate o G (yVirt ord deg az el) (n3dVec ord deg) nrm ord coef :=
  nonDegenerate_of_indep o G _ _ nrm ord coef hP hY (fun c => (n3dVec_pos ord deg hdeg c).ne')
    (fun c => (normVec_pos conv ord deg nrm hn hdeg c).ne') hD hs

/-! ### Regenerated tables (`Gen/C11_Tables.lean`: the values `ear.core.hoa` returns, extracted by the harness) -/

/-- every squared norm factor extracted from the code is a positive rational -/
theorem tables_norms_positive :
    (Gen.n3dTable ++ Gen.sn3dTable ++ Gen.fumaTable ++ Gen.fumaFactorTable).all
      (fun e => decide (0 < e.2.2.1) && decide (0 < e.2.2.2)) = true := by
  decide +kernel

/-- `(n, |m|)` for `n ≤ N` -/
def keys (N : Nat) : List (Nat × Nat) :=
  (List.range (N + 1)).flatMap fun n => (List.range (n + 1)).map fun m => (n, m)

/-- the code's `norm_N3D`, `norm_SN3D` (orders 0..5) and `norm_FuMa` (orders 0..3) squared are exactly the model's
rationals, for every `(n, |m|)` -/
theorem tables_match_model :
    (Gen.n3dTable.map (fun e => (e.1, e.2.1)) = keys 5
      ∧ Gen.n3dTable.all (fun e => e.2.2.1 * (n3dSq e.1 e.2.1).2 == e.2.2.2 * (n3dSq e.1 e.2.1).1) = true)
    ∧ (Gen.sn3dTable.map (fun e => (e.1, e.2.1)) = keys 5
      ∧ Gen.sn3dTable.all (fun e => e.2.2.1 * (sn3dSq e.1 e.2.1).2 == e.2.2.2 * (sn3dSq e.1 e.2.1).1) = true)
    ∧ (Gen.fumaTable.map (fun e => (e.1, e.2.1)) = keys 3
      ∧ Gen.fumaTable.all (fun e => match fumaSq e.1 e.2.1 with
          | some q => e.2.2.1 * q.2 == e.2.2.2 * q.1
          | none => false) = true) := by
  decide +kernel

def lookup (t : List (Nat × Nat × Nat × Nat)) (n m : Nat) : Option (Nat × Nat) :=
  (t.find? fun e => e.1 == n && e.2.1 == m).map fun e => (e.2.2.1, e.2.2.2)

/-- the code's FuMa factors are its SN3D factors times the standard FuMa conversion factors
(1/√2, 1, 1, 1, 2/√3, 2/√3, 1, √(45/32), 3/√5, √(8/5)), squared -/
theorem table_fuma_is_sn3d_times_factor :
    Gen.fumaFactorTable.all (fun e => fumaFactorSq e.1 e.2.1 == some (e.2.2.1, e.2.2.2)) = true
    ∧ Gen.fumaTable.all (fun e =>
        match lookup Gen.sn3dTable e.1 e.2.1, fumaFactorSq e.1 e.2.1 with
        | some s, some f => e.2.2.1 * (s.2 * f.2) == e.2.2.2 * (s.1 * f.1)
        | _, _ => false) = true := by
  decide +kernel

/-- `to_acn` / `from_acn` as the code computes them on 0..35 agree with the model and are inverse to each other -/
theorem table_acn_inverse :
    Gen.fromAcnTable.map (fun e => e.1) = List.range 36
    ∧ Gen.fromAcnTable.all (fun e =>
        fromAcn e.1 == (e.2.1, e.2.2) && toAcn e.2.1 e.2.2 == (e.1 : Int)
          && Gen.toAcnTable.contains ((e.2.1 : Int), e.2.2, (e.1 : Int))) = true
    ∧ Gen.toAcnTable.all (fun e =>
        toAcn e.1 e.2.1 == e.2.2 && fromAcn e.2.2.toNat == (e.1.toNat, e.2.1) && decide (0 ≤ e.2.2 ∧ e.2.2 < 36)) = true
    ∧ Gen.toAcnTable.length = 36 := by
  decide +kernel

theorem le_of_keys {t : List (Nat × Nat × Nat × Nat)} {N : Nat} (hk : t.map (fun e => (e.1, e.2.1)) = keys N)
    {e : Nat × Nat × Nat × Nat} (he : e ∈ t) : e.2.1 ≤ e.1 := by
  have h : (e.1, e.2.1) ∈ keys N := hk ▸ List.mem_map.mpr ⟨e, he, rfl⟩
  simp only [keys, List.mem_flatMap, List.mem_map, List.mem_range, Prod.mk.injEq] at h
  obtain ⟨a, ha, b, hb, h1, h2⟩ := h
  omega

theorem sq_eq_of_cross {a b c d : Nat} {x : ℝ} (hx : 0 < x) (hx2 : x ^ 2 = (c : ℝ) / d) (hb : 0 < b)
    (h : a * d = b * c) : x ^ 2 = (a : ℝ) / b := by
  have hd : (d : ℝ) ≠ 0 := fun h0 => by rw [h0, div_zero] at hx2; exact (pow_pos hx 2).ne' hx2
  have hb' : (b : ℝ) ≠ 0 := by exact_mod_cast hb.ne'
  rw [hx2, div_eq_div_iff hd hb']
  exact_mod_cast (by rw [mul_comm c b, ← h, mul_comm] : c * b = a * d)

/-- **The regenerated tables are the squares of the model's `normBy`**: for every `(n, |m|)` with `n ≤ 5` (FuMa
`n ≤ 3`) the value the code's `norm_N3D` / `norm_SN3D` / `norm_FuMa` returns (as extracted into the tables), squared, is exactly
the square of what `normBy` (the function inside `designPack` and run by the driver) returns over ℝ, and it is positive —
the concrete conventions of the theorems are the code's. -/
theorem tables_normBy_sq :
    (∀ e ∈ Gen.n3dTable, ∃ x : ℝ, normBy 0 e.1 e.2.1 = some x ∧ 0 < x ∧ x ^ 2 = (e.2.2.1 : ℝ) / (e.2.2.2 : ℝ)) ∧
    (∀ e ∈ Gen.sn3dTable, ∃ x : ℝ, normBy 1 e.1 e.2.1 = some x ∧ 0 < x ∧ x ^ 2 = (e.2.2.1 : ℝ) / (e.2.2.2 : ℝ)) ∧
    (∀ e ∈ Gen.fumaTable, ∃ x : ℝ, normBy 2 e.1 e.2.1 = some x ∧ 0 < x ∧ x ^ 2 = (e.2.2.1 : ℝ) / (e.2.2.2 : ℝ)) := by
  obtain ⟨⟨k1, a1⟩, ⟨k2, a2⟩, ⟨k3, a3⟩⟩ := tables_match_model
  have pos := tables_norms_positive
  rw [List.all_eq_true] at pos a1 a2 a3
  have hpos : ∀ e ∈ Gen.n3dTable ++ Gen.sn3dTable ++ Gen.fumaTable ++ Gen.fumaFactorTable, 0 < e.2.2.2 :=
    fun e he => of_decide_eq_true (Bool.and_eq_true_iff.mp (pos e he)).2
  refine ⟨fun e he => ?_, fun e he => ?_, fun e he => ?_⟩
  · have hx := (norms_pos _ _ (le_of_keys k1 he)).1
    exact ⟨_, rfl, hx, sq_eq_of_cross hx (norms_sq e.1 e.2.1).1 (hpos e (by simp [he])) (beq_iff_eq.mp (a1 e he))⟩
  · have hx := (norms_pos _ _ (le_of_keys k2 he)).2.1
    exact ⟨_, rfl, hx, sq_eq_of_cross hx (norms_sq e.1 e.2.1).2.1 (hpos e (by simp [he])) (beq_iff_eq.mp (a2 e he))⟩
  · have h := a3 e he
    cases hq : fumaSq e.1 e.2.1 with
    | none => rw [hq] at h; exact absurd h Bool.false_ne_true
    | some q =>
      rw [hq] at h
      obtain ⟨f, hf, -⟩ := Option.map_eq_some_iff.mp hq
      obtain ⟨x, hx⟩ := (normDefined_iff 2 e.1 e.2.1).mp (by rw [normDefined, hf]; rfl)
      obtain ⟨q', hq', hx2⟩ := (norms_sq e.1 e.2.1).2.2 x hx
      obtain rfl : q = q' := Option.some.inj (hq.symm.trans hq')
      have hxpos := normBy_pos 2 _ _ (le_of_keys k3 he) x hx
      exact ⟨x, hx, hxpos, sq_eq_of_cross hxpos hx2 (hpos e (by simp [he])) (beq_iff_eq.mp h)⟩

/-! ### Non-vacuity: small concrete inputs satisfying the hypotheses -/

section examples

-- 2 loudspeakers, 2 channels, 2 virtual points: `G`, `Y` and two vectors of norm factors
def exG : Mat ℝ 2 2 := #v[#v[1, 0], #v[0, 1]]
def exY : Mat ℝ 2 2 := #v[#v[1, 1], #v[1, -1]]
def exN : Vector ℝ 2 := #v[1, 3]
def exS : Vector ℝ 2 := #v[1, 2]

/-- the hypotheses of `design_norm_invariant` / `design_same_signals` hold for concrete factors -/
example : (∀ c : Fin 2, exN[c.1] ≠ 0) ∧ (∀ c : Fin 2, exS[c.1] ≠ 0) := by
  constructor <;> intro c <;> fin_cases c <;> simp [exN, exS]

/-- a non-trivial permutation exists (swap of the two channels) and `permV` really reorders -/
example : permV (Equiv.swap (0 : Fin 2) 1) exS = #v[2, 1] := by
  simp [permV, ofFn_two, exS]

/-- the routing model on a 3-channel output with the middle channel LFE: succeeds, LFE row zero -/
example : route (0 : Int) [false, true, false] [#v[1, 2], #v[3, 4]] = some [#v[1, 2], #v[0, 0], #v[3, 4]] := by
  decide

def exOne : Vector ℝ 2 := #v[1, 1]

theorem exY_indep : RowsIndependent exY := by
  intro a h c
  have h0 := h 0
  have h1 := h 1
  simp only [Fin.sum_univ_two] at h0 h1
  dsimp only [exY, Mat.at, Fin.coe_ofNat_eq_mod, Nat.reduceMod, Vector.getElem_mk, List.getElem_toArray,
    List.getElem_cons_succ, List.getElem_cons_zero] at h0 h1
  fin_cases c
  · show a 0 = 0; linear_combination (h0 + h1) / 2
  · show a 1 = 0; linear_combination (h0 - h1) / 2

theorem ex_d0 : d0 exG exY 0 0 ≠ 0 := by
  simp [d0, Fin.sum_univ_two, Mat.at, exG, exY]

/-- **Non-vacuity of `NonDegenerate`** (hypothesis of every `design_*` theorem): the concrete 2×2×2 design
`G = I`, `Y = [[1,1],[1,-1]]`, unit norm factors, default options satisfies it — via `nonDegenerate_of_indep`
(`G·Yᵀ/P` has the non-zero entry `1/2` at `(0,0)`). -/
example : NonDegenerate {} exG exY exOne exOne #v[0, 1] (fun _ => 1) := by
  have h1 : ∀ c : Fin 2, exOne[c.1] ≠ 0 := by intro c; fin_cases c <;> simp [exOne]
  refine nonDegenerate_of_indep {} exG exY exOne exOne _ _ (by norm_num) exY_indep h1 h1 ⟨0, 0, ex_d0, ?_⟩ ?_
  · simp [wOpt, wOf]
  · intro h; simp at h

/-- … and with maxRE weights rescaled by `components` (the `sumsq` field is then a real condition) -/
example : NonDegenerate { maxRE := true, maxREScale := .components } exG exY exOne exOne #v[0, 1] (fun _ => 1) := by
  have h1 : ∀ c : Fin 2, exOne[c.1] ≠ 0 := by intro c; fin_cases c <;> simp [exOne]
  refine nonDegenerate_of_indep _ exG exY exOne exOne _ _ (by norm_num) exY_indep h1 h1 ⟨0, 0, ex_d0, ?_⟩ ?_
  · simp [wOpt, wOf, maxREWeights]
  · intro _ _; simp

/-- the routing / rendering model on a 3-channel output with the middle channel LFE: one frame `(1, 1)` -/
example : renderFrame [false, true, false] [(#v[1, 2] : Vector ℝ 2), #v[3, 4]] #v[1, 1] = some [3, 0, 7] := by
  simp [renderFrame, Fin.sum_univ_two]
  norm_num

noncomputable def pkAz : Vector ℝ 2 := #v[0, 0]
noncomputable def pkEl : Vector ℝ 2 := #v[0, Real.pi / 2]
def pkOrd : Vector Nat 2 := #v[0, 1]
def pkDeg : Vector Int 2 := #v[0, 0]

/-- the sampled harmonics of the pack `W, Z` (orders 0, 1; degrees 0, 0) at the horizon and at the zenith:
`Y_virt = [[1, 1], [0, √3]]` — `sph_harm` evaluated inside the model -/
theorem pkY : yVirt pkOrd pkDeg pkAz pkEl = #v[#v[1, 1], #v[0, Real.sqrt 3]] := by
  have Y := sphHarm_first_order_n3d
  simp only [yVirt, Mat.ofFn, ofFn_two]
  dsimp only [pkOrd, pkDeg, pkAz, pkEl, Fin.coe_ofNat_eq_mod, Nat.reduceMod, Vector.getElem_mk, List.getElem_toArray,
    List.getElem_cons_succ, List.getElem_cons_zero]
  simp only [Int.natAbs_zero, (Y _ _).1, (Y _ _).2.2.1, Real.sin_zero, Real.sin_pi_div_two, mul_zero, mul_one]

theorem pkY_indep : RowsIndependent (yVirt pkOrd pkDeg pkAz pkEl) := by
  rw [pkY]
  intro a h c
  have h0 := h 0
  have h1 := h 1
  simp only [Fin.sum_univ_two] at h0 h1
  dsimp only [Mat.at, Fin.coe_ofNat_eq_mod, Nat.reduceMod, Vector.getElem_mk, List.getElem_toArray,
    List.getElem_cons_succ, List.getElem_cons_zero] at h0 h1
  have a0 : a 0 = 0 := by linear_combination h0
  have h3 : Real.sqrt 3 ≠ 0 := by positivity
  fin_cases c
  · exact a0
  · exact (mul_eq_zero.mp (by linear_combination h1 - a0 : a 1 * Real.sqrt 3 = 0)).resolve_right h3

/-- the hypotheses of `designPack_perm` / `designPack_same_signals` for the pack `W, Z` with `G = I`, in N3D and SN3D:
the design exists, `|degree| ≤ order`, and no denominator is zero. -/
theorem pk_hyps (conv : Nat) (hc : conv = 0 ∨ conv = 1) :
    (∃ D, designPack {} exG pkAz pkEl conv pkOrd pkDeg (fun _ => 1) (ones 2) 1 false = some D) ∧
    (∀ c : Fin 2, pkDeg[c.1].natAbs ≤ pkOrd[c.1]) ∧
    ∀ nrm, normVec conv pkOrd pkDeg = some nrm →
      NonDegenerate {} exG (yVirt pkOrd pkDeg pkAz pkEl) (n3dVec pkOrd pkDeg) nrm pkOrd (fun _ => 1) := by
  have hdeg : ∀ c : Fin 2, pkDeg[c.1].natAbs ≤ pkOrd[c.1] := by decide
  have hdef : (List.finRange 2).all (fun c => normDefined conv pkOrd[c.1] pkDeg[c.1].natAbs) = true := by
    rcases hc with rfl | rfl <;> decide
  refine ⟨?_, hdeg, fun nrm hn => ?_⟩
  · unfold designPack normVec
    rw [if_pos hdef]
    exact ⟨_, rfl⟩
  · refine nonDegenerate_pack {} exG pkAz pkEl conv pkOrd pkDeg _ nrm hn hdeg (by norm_num) pkY_indep ⟨0, 0, ?_, ?_⟩ ?_
    · rw [pkY]; simp [d0, Fin.sum_univ_two, Mat.at, exG]
    · simp [wOpt, wOf]
    · intro h; simp at h

/-- Non-vacuity of `designPack_same_signals` and `designPack_perm`: the pack `W, Z` sampled at the horizon and the
zenith, `G = I`, in SN3D (`1`) and N3D (`0`). -/
example (x : Fin 2 → ℝ) (l : Fin 2) : ∃ D₁ D₂ : Mat ℝ 2 2,
    designPack {} exG pkAz pkEl 1 pkOrd pkDeg (fun _ => 1) (ones 2) 1 false = some D₁ ∧
    designPack {} exG pkAz pkEl 0 pkOrd pkDeg (fun _ => 1) (ones 2) 1 false = some D₂ ∧
    ∑ c, D₁.at l c * encode 1 pkOrd pkDeg x c = ∑ c, D₂.at l c * encode 0 pkOrd pkDeg x c := by
  obtain ⟨⟨D₁, h₁⟩, hdeg, hnd⟩ := pk_hyps 1 (Or.inr rfl)
  obtain ⟨⟨D₂, h₂⟩, -, -⟩ := pk_hyps 0 (Or.inl rfl)
  exact ⟨D₁, D₂, h₁, h₂, designPack_same_signals {} exG pkAz pkEl 1 0 pkOrd pkDeg _ _ 1 false hdeg D₁ D₂ h₁ h₂ hnd x l⟩

section firstOrder
open Real

noncomputable def foAz : Vector ℝ 6 := #v[0, π / 2, π, -(π / 2), 0, 0]
noncomputable def foEl : Vector ℝ 6 := #v[0, 0, 0, 0, π / 2, -(π / 2)]
def foOrd : Vector Nat 4 := #v[0, 1, 1, 1]
def foDeg : Vector Int 4 := #v[0, -1, 0, 1]
def foG : Mat ℝ 2 6 := #v[#v[1, 0, 0, 0, 0, 0], #v[0, 1, 0, 0, 0, 0]]

/-- `Y_virt` of the first-order pack on the octahedron, N3D (`design` always builds it with `norm_N3D`) -/
theorem foY : yVirt foOrd foDeg foAz foEl =
    #v[#v[1, 1, 1, 1, 1, 1], #v[0, √3, 0, -√3, 0, 0], #v[0, 0, 0, 0, √3, -√3], #v[√3, 0, -√3, 0, 0, 0]] := by
  have Y := sphHarm_first_order_n3d
  simp only [yVirt, Mat.ofFn, ofFn_four, ofFn_six]
  dsimp only [foOrd, foDeg, foAz, foEl, Fin.coe_ofNat_eq_mod, Nat.reduceMod, Vector.getElem_mk, List.getElem_toArray,
    List.getElem_cons_succ, List.getElem_cons_zero]
  simp only [Int.natAbs_zero, Int.natAbs_one, Int.natAbs_neg, (Y _ _).1, (Y _ _).2.1, (Y _ _).2.2.1, (Y _ _).2.2.2,
    sin_zero, cos_zero, sin_pi_div_two, cos_pi_div_two, sin_pi, cos_pi, sin_neg, cos_neg,
    abs_zero, abs_one, mul_zero, mul_one, mul_neg]

theorem foY_indep : RowsIndependent (yVirt foOrd foDeg foAz foEl) := by
  rw [foY]
  intro a h c
  -- the columns front, left, back, up
  have h0 := h 0
  have h1 := h 1
  have h2 := h 2
  have h4 := h 4
  simp only [Fin.sum_univ_four] at h0 h1 h2 h4
  dsimp only [Mat.at, Fin.coe_ofNat_eq_mod, Nat.reduceMod, Vector.getElem_mk, List.getElem_toArray,
    List.getElem_cons_succ, List.getElem_cons_zero] at h0 h1 h2 h4
  have h3 : (√3 : ℝ) ≠ 0 := by positivity
  have a0 : a 0 = 0 := by linear_combination (h0 + h2) / 2
  have a1 : a 1 = 0 := (mul_eq_zero.mp (by linear_combination h1 - a0 : a 1 * √3 = 0)).resolve_right h3
  have a2 : a 2 = 0 := (mul_eq_zero.mp (by linear_combination h4 - a0 : a 2 * √3 = 0)).resolve_right h3
  have a3 : a 3 = 0 := (mul_eq_zero.mp (by linear_combination h0 - a0 : a 3 * √3 = 0)).resolve_right h3
  fin_cases c
  · exact a0
  · exact a1
  · exact a2
  · exact a3

theorem fo_d0 : d0 foG (yVirt foOrd foDeg foAz foEl) 0 0 ≠ 0 := by
  rw [foY]; simp [d0, Fin.sum_univ_six, Mat.at, foG]

theorem foDeg_le : ∀ c : Fin 4, foDeg[c.1].natAbs ≤ foOrd[c.1] := by decide

/-- **`NonDegenerate` on a real first-order pack** (beyond the 2×2×2 toys): the pack `W, Y, Z, X` = (0,0), (1,−1), (1,0),
(1,1) sampled at the six octahedron directions (front, left, back, right, up, down; `sph_harm` evaluated inside the
model: `foY`), a 2×6 panner matrix, default options, in ANY convention whose norm vector is defined — via
`nonDegenerate_pack` (rows of `Y_virt` independent: `foY_indep`; `G·Yᵀ/6` has the entry `1/6` at `(0,0)`).  On the
real data (5200-point t-design, the layouts' `G_virt`) `NonDegenerate` is evidenced by the finiteness search only. -/
theorem fo_nonDegenerate (conv : Nat) (nrm : Vector ℝ 4) (hn : normVec conv foOrd foDeg = some nrm) :
    NonDegenerate {} foG (yVirt foOrd foDeg foAz foEl) (n3dVec foOrd foDeg) nrm foOrd (fun _ => 1) := by
  refine nonDegenerate_pack {} foG foAz foEl conv foOrd foDeg _ nrm hn foDeg_le (by norm_num) foY_indep
    ⟨0, 0, fo_d0, ?_⟩ ?_
  · simp [wOpt, wOf]
  · intro h; simp at h

/-- … for each of N3D (`0`), SN3D (`1`), FuMa (`2`) the norm vector exists and the design is non-degenerate -/
example (conv : Nat) (hc : conv = 0 ∨ conv = 1 ∨ conv = 2) :
    ∃ nrm : Vector ℝ 4, normVec conv foOrd foDeg = some nrm ∧
      NonDegenerate {} foG (yVirt foOrd foDeg foAz foEl) (n3dVec foOrd foDeg) nrm foOrd (fun _ => 1) := by
  have hdef : (List.finRange 4).all (fun c => normDefined conv foOrd[c.1] foDeg[c.1].natAbs) = true := by
    rcases hc with rfl | rfl | rfl <;> decide
  have : ∃ nrm : Vector ℝ 4, normVec conv foOrd foDeg = some nrm := by
    unfold normVec; rw [if_pos hdef]; exact ⟨_, rfl⟩
  obtain ⟨nrm, hn⟩ := this
  exact ⟨nrm, hn, fo_nonDegenerate conv nrm hn⟩

/-- … and with maxRE weights (per-order table `1, 1/2`) and mean-power normalisation -/
example (conv : Nat) (nrm : Vector ℝ 4) (hn : normVec conv foOrd foDeg = some nrm) :
    NonDegenerate { maxRE := true, normMeanPower := true } foG (yVirt foOrd foDeg foAz foEl) (n3dVec foOrd foDeg) nrm
      foOrd (fun n => if n = 0 then 1 else 1 / 2) := by
  refine nonDegenerate_pack _ foG foAz foEl conv foOrd foDeg _ nrm hn foDeg_le (by norm_num) foY_indep
    ⟨0, 0, fo_d0, ?_⟩ ?_
  · simp [wOpt, wOf, maxREWeights, foOrd]
  · intro _ h; simp at h

end firstOrder

/-- `|degree| > order` (order 1, degree 2 — accepted by every validator of the real code): both factors are `0` -/
example : (normN3D 1 2 : ℝ) = 0 ∧ (normSN3D 1 2 : ℝ) = 0 ∧ n3dSq 1 2 = (0, 6) :=
  ⟨(norms_zero_of_gt 1 2 (by norm_num)).1, (norms_zero_of_gt 1 2 (by norm_num)).2.1, by decide⟩

/-- norm factors of the first channels: N3D(1,1)² = 3/2, FuMa(0,0)² = 1/2 -/
example : n3dSq 1 1 = (3, 2) ∧ fumaSq 0 0 = some (1, 2) ∧ fumaSq 4 0 = none := by decide

end examples

end Earverif.Hoa
