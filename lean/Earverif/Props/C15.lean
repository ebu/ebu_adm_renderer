/-
C15 — Timing repair makes rounded metadata renderable and is idempotent.

Model: `Earverif/Model/TimingFix.lean` (transliteration of `ear/fileio/adm/timing_fixes.py` and of
the metadata interpreters' timing checks).

Hypotheses (`Hyp`), worked out from the code:
* either the channel is one block without rtime and duration, or every block has both;
* rtimes are *weakly* increasing.  Strictness is not needed: when rounding makes two rtimes equal
  the repair turns the first block into a zero-length block, which the interpreters accept
  (run on the real code: harness counter `feature:equal-rtimes-after-rounding`);
* the last rtime is strictly before the duration of every audioObject that has one.  At equality
  or beyond, `_clamp_blockFormat_end` raises `ValueError` (`excluded_start_at_object_end`).
Durations need not be positive for the repair itself (durations of all blocks but the last are
overwritten); acceptance by the renderer needs the last duration to be `≥ 0` (`HypAccept`,
`excluded_negative_last_duration`).  `audioObject.start` plays no role in the repair.

Excluded points, each run on the real code by `harness/c15.py` (distribution keys
`excluded-point:<hypothesis> => <what the code did>`):
* last rtime ≥ object duration            ⇒ `ValueError` from `fix_blockFormat_timings`
                                             (unless that block has duration ≤ 0 and ends inside)
* rtime xor duration                       ⇒ `AssertionError("not validated")` when the object has a
                                             duration (document validation rejects it earlier with
                                             `ValueError`), else untouched and rejected by the renderer
* several untimed / mixed timed+untimed    ⇒ repair runs, renderer: "overlapping blocks"
                                             (or its `assert not math.isinf` fails)
* decreasing rtimes                        ⇒ repair produces negative durations
* negative last duration, jumpPosition set ⇒ repair runs, renderer: "interpolation length is longer"
* ROUNDED TIMELINES WITH A SHORT BLOCK (inside the property's quantifier, recorded finding
  `rounded-short-block-collapse`): every `…_meets_hypotheses` theorem below needs exact durations
  longer than the rounding unit (`ExactValid.long`: `10^-k` for nearest, `2·10^-k` for floor / ceil /
  mixed).  A shorter last block can round onto the object's end; then the repair raises `ValueError`:
  `excluded_rounded_short_block` (k = 2: (0, 0.9951), (0.9951, 0.0098), object 1.0049), general form
  `fix_raises_when_last_block_outside_object` (`Proofs/C15Raise.lean`) / `fix_raises_rounded` (below).

-/
import Earverif.Proofs.C15
import Earverif.Proofs.C15Doc
import Earverif.Proofs.C15Raise
import Earverif.Proofs.C15Timeline
import Earverif.Proofs.RoundHalfEven


namespace Earverif.TimingFix

inductive Hyp (objs : List Obj) (bs : List Block) : Prop
  /-- every block has rtime and duration, rtimes weakly increasing, last rtime before the end of
  every object that has a duration -/
  | timed (ht : AllTimed bs) (hm : Mono bs)
      (hl : ∀ o ∈ objs, ∀ D, o.duration = some D → LastBelow D bs)
  /-- a single block without rtime and duration -/
  | untimed (b : Block) (hb : bs = [b]) (hu : Untimed b)

def HypAccept (objs : List Obj) (bs : List Block) : Prop :=
  LastNonneg bs ∧ ((∃ b ∈ bs, Untimed b) → ∀ o ∈ objs, ∀ D, o.duration = some D → 0 ≤ D)

/-- an untimed block lasts as long as the object, so its interpolation length is held against the duration of every
object (`ILokT b`, resp. `ILokU D b` for every object's `D`, as one clause) -/
def InterpOK (objs : List Obj) (b : Block) : Prop :=
  ∀ il, hasIL b = true → b.il = some il →
    match b.duration with
    | some d => il ≤ d
    | none => ∀ o ∈ objs, ∀ D, o.duration = some D → il ≤ D

/-- `stable` contains `contig`, `interp` and `within`; they are fields of their own because the property names them -/
structure Post (objs : List Obj) (bs out : List Block) : Prop where
  rel : RelP Same bs out
  contig : Contig out
  interp : ∀ b ∈ out, InterpOK objs b
  within : ∀ o ∈ objs, ∀ D, o.duration = some D → Within D out
  stable : Stable objs out
  accept : HypAccept objs bs → ∀ o ∈ objs, accepted o out = .ok

theorem fix_post (objs : List Obj) (bs : List Block) (h : Hyp objs bs) :
    ∃ out ws, fixTimings objs bs = .ok (out, ws) ∧ Post objs bs out := by
  cases h with
  | timed ht hm hl =>
    obtain ⟨out, ws, hok, hrel, hcontig, hil, hwithin, hlast⟩ := fix_timed objs bs ht hm hl
    have tout := rel_allTimed hrel ht
    exact ⟨out, ws, hok,
      { rel := hrel
        contig := hcontig
        interp := fun b hb il hi hs => by rw [(tout b hb).duration_eq]; exact hil b hb il hi hs
        within := hwithin
        stable := ⟨fun b hb => Or.inl (tout b hb), hcontig, fun b hb _ => hil b hb,
          fun o ho D hD => ⟨hwithin o ho D hD, fun b hb hu => (timed_not_untimed (tout b hb) hu).elim⟩⟩
        accept := fun ha o ho => accept_timed o out none tout hcontig (rel_mono hrel hm) (hlast ha.1) hil
          (hwithin o ho) (by cases out <;> trivial) }⟩
  | untimed b hb hu =>
    subst hb
    obtain ⟨b', ws, hok, hsame, hu', hil⟩ := fix_untimed objs b hu
    -- every clause about timed blocks holds of `[b']` for want of a timed block
    have nt : ∀ {p : Prop}, Timed b' → p := fun tx => (timed_not_untimed tx hu').elim
    exact ⟨[b'], ws, hok,
      { rel := ⟨hsame, trivial⟩
        contig := trivial
        interp := List.forall_mem_singleton.2 fun il hi hs => by
          rw [hu'.2]; exact fun o ho D hD => hil o ho D hD il hi hs
        within := fun o ho D hD => List.forall_mem_singleton.2 nt
        stable := ⟨List.forall_mem_singleton.2 (Or.inr hu'), trivial, List.forall_mem_singleton.2 nt,
          fun o ho D hD => ⟨List.forall_mem_singleton.2 nt, List.forall_mem_singleton.2 fun _ => hil o ho D hD⟩⟩
        accept := fun ha o ho => accept_untimed o b' hu' fun D hD =>
          ⟨hil o ho D hD, ha.2 ⟨b, List.mem_cons_self, hu⟩ o ho D hD⟩ }⟩

theorem post_of_ok {objs : List Obj} {bs out : List Block} {ws : List Warn} (h : Hyp objs bs)
    (hf : fixTimings objs bs = .ok (out, ws)) : Post objs bs out := by
  obtain ⟨out', ws', h1, h2⟩ := fix_post objs bs h
  rw [h1] at hf
  cases hf
  exact h2

theorem fix_ok (objs : List Obj) (bs : List Block) (h : Hyp objs bs) :
    ∃ out ws, fixTimings objs bs = .ok (out, ws) := by
  obtain ⟨out, ws, h1, _⟩ := fix_post objs bs h
  exact ⟨out, ws, h1⟩

/-- Block start times are unchanged (and so are block count, types, jumpPosition flags and the
presence of durations / interpolation lengths: `RelP Same`). -/
theorem fix_rtime_unchanged (objs : List Obj) (bs out : List Block) (ws : List Warn) (h : Hyp objs bs)
    (hf : fixTimings objs bs = .ok (out, ws)) :
    out.map (·.rtime) = bs.map (·.rtime) ∧ RelP Same bs out :=
  ⟨rel_rtimes (post_of_ok h hf).rel, (post_of_ok h hf).rel⟩

/-- Every channel's blocks are contiguous: each block ends where the next one starts
(`Contig`: `a.r + a.d = b.r` for neighbours; all blocks keep rtime and duration). -/
theorem fix_contiguous (objs : List Obj) (bs out : List Block) (ws : List Warn) (h : Hyp objs bs)
    (hf : fixTimings objs bs = .ok (out, ws)) :
    Contig out ∧ (AllTimed bs → AllTimed out) :=
  ⟨(post_of_ok h hf).contig, rel_allTimed (post_of_ok h hf).rel⟩

theorem fix_interp_le_duration (objs : List Obj) (bs out : List Block) (ws : List Warn) (h : Hyp objs bs)
    (hf : fixTimings objs bs = .ok (out, ws)) : ∀ b ∈ out, InterpOK objs b :=
  (post_of_ok h hf).interp

theorem fix_within_object (objs : List Obj) (bs out : List Block) (ws : List Warn) (h : Hyp objs bs)
    (hf : fixTimings objs bs = .ok (out, ws)) :
    ∀ o ∈ objs, ∀ D, o.duration = some D → ∀ b ∈ out, Timed b → b.r + b.d ≤ D :=
  (post_of_ok h hf).within

/-- The renderer's timing checks (`block_start_end` + the interpolation checks of
`InterpretObjectMetadata`) accept the repaired channel for every object referencing it.  `accepted` is
the compact per-channel transliteration in `Model/TimingFix.lean`; it is PROVED equal to the outcome of
the interpreter models C02/C03 use (`accepted_eq_interpreters`). -/
theorem fix_accepted_by_renderer (objs : List Obj) (bs out : List Block) (ws : List Warn)
    (h : Hyp objs bs) (ha : HypAccept objs bs) (hf : fixTimings objs bs = .ok (out, ws)) :
    ∀ o ∈ objs, accepted o out = .ok :=
  (post_of_ok h hf).accept ha

/-- The same clause stated on the interpreter models C02/C03 render with (`Model/Timeline.lean`), through
`accepted_eq_interpreters` (`Proofs/C15Timeline.lean`), at any sample rate: no block raises an exception (`errVerdict`
also sends `underrun` / `align` to `.ok`, but the interpreters never return those: `interpObject_raises`,
`interpFixed_raises`). -/
theorem fix_accepted_by_timeline_interpreters (sr : Nat) (objs : List Obj) (bs out : List Block)
    (ws : List Warn) (h : Hyp objs bs) (ha : HypAccept objs bs) (hf : fixTimings objs bs = .ok (out, ws)) :
    ∀ o ∈ objs,
      ((∀ b ∈ out, b.isObjects = true) → runObject sr {} (out.map (toMeta o)) = .ok) ∧
      ((∀ b ∈ out, b.isObjects = false) → runFixed sr {} (out.map (toMeta o)) = .ok) := by
  intro o ho
  have hacc := fix_accepted_by_renderer objs bs out ws h ha hf o ho
  exact ⟨fun hb => (accepted_ok_iff_object sr o out hb).1 hacc, fun hb => (accepted_ok_iff_fixed sr o out hb).1 hacc⟩

theorem fix_idempotent (objs : List Obj) (bs out : List Block) (ws : List Warn) (h : Hyp objs bs)
    (hf : fixTimings objs bs = .ok (out, ws)) :
    ∃ ws', fixTimings objs out = .ok (out, ws') :=
  ⟨[], stable_fix objs out (post_of_ok h hf).stable⟩

theorem fix_second_run_silent (objs : List Obj) (bs out out' : List Block) (ws ws' : List Warn)
    (h : Hyp objs bs) (hf : fixTimings objs bs = .ok (out, ws))
    (hf' : fixTimings objs out = .ok (out', ws')) : ws' = [] ∧ out' = out := by
  rw [stable_fix objs out (post_of_ok h hf).stable] at hf'
  cases hf'
  exact ⟨rfl, rfl⟩

/-! ## The deprecated reader option: `fix_blockFormat_durations` (duration pass only) -/

/-- `fix_blockFormat_timings` is the duration pass (= everything the reader option
`load_axml_doc(fix_block_format_durations=True)` runs), followed by the interpolationLength pass and
the clamp to the objects. -/
theorem fixTimings_eq_stages (objs : List Obj) (bs : List Block) :
    fixTimings objs bs =
      (match checkTimesForObjects objs (checkILs 0 (fixDurationsOnly bs).1).1 with
       | .error e => .error e
       | .ok r => .ok (r.1, (fixDurationsOnly bs).2 ++ (checkILs 0 (fixDurationsOnly bs).1).2 ++ r.2)) := rfl

/-- The reader option's repair on a channel whose blocks all have rtime and duration; no monotonicity or object
hypothesis is needed.  It does not look at interpolation lengths (except the silent "contracted below the
interpolation length" case) nor at audioObjects: `durationsOnly_leaves_interp_too_long`,
`durationsOnly_leaves_block_past_object`. -/
theorem fixDurationsOnly_spec (bs : List Block) (ht : AllTimed bs) :
    RelP Same bs (fixDurationsOnly bs).1 ∧
    (fixDurationsOnly bs).1.map (·.rtime) = bs.map (·.rtime) ∧
    Contig (fixDurationsOnly bs).1 ∧
    (LastNonneg bs → LastNonneg (fixDurationsOnly bs).1) ∧
    fixDurationsOnly (fixDurationsOnly bs).1 = ((fixDurationsOnly bs).1, []) := by
  obtain ⟨r1, c1⟩ := checkDurations_spec bs 0 ht
  exact ⟨r1, rel_rtimes r1, c1, checkDurations_lastNonneg bs 0,
    checkDurations_stable _ 0 (fun b hb => Or.inl (rel_allTimed r1 ht b hb)) c1⟩

theorem fixDurationsOnly_hyp (objs : List Obj) (bs : List Block) (h : Hyp objs bs) :
    (fixDurationsOnly bs).1.map (·.rtime) = bs.map (·.rtime) ∧ Contig (fixDurationsOnly bs).1 ∧
    fixDurationsOnly (fixDurationsOnly bs).1 = ((fixDurationsOnly bs).1, []) := by
  cases h with
  | timed ht _ _ =>
    obtain ⟨_, h2, h3, _, h5⟩ := fixDurationsOnly_spec bs ht
    exact ⟨h2, h3, h5⟩
  | untimed b hb _ => subst hb; exact ⟨rfl, trivial, rfl⟩

theorem fixTimings_after_durationsOnly (objs : List Obj) (bs : List Block) (ht : AllTimed bs) :
    fixTimings objs (fixDurationsOnly bs).1 =
      (match fixTimings objs bs with
       | .error e => .error e
       | .ok r => .ok (r.1, (checkILs 0 (fixDurationsOnly bs).1).2 ++
           (match checkTimesForObjects objs (checkILs 0 (fixDurationsOnly bs).1).1 with
            | .ok r' => r'.2 | .error _ => []))) := by
  have h := (fixDurationsOnly_spec bs ht).2.2.2.2
  rw [fixTimings_eq_stages objs (fixDurationsOnly bs).1, h, fixTimings_eq_stages objs bs]
  cases checkTimesForObjects objs (checkILs 0 (fixDurationsOnly bs).1).1 with
  | error e => rfl
  | ok r => simp

private def qq (n : Int) (d : Nat) : Rat := mkRat n d
private def obb (r d : Option Rat) (jp : Bool := false) (il : Option Rat := none) : Block := ⟨r, d, true, jp, il⟩

/-- verdict of the renderer on the fully repaired channel (`none`: the repair raised) -/
def acceptedAfterFix (o : Obj) (bs : List Block) : Option Verdict :=
  match fixTimings [o] bs with
  | .ok r => some (accepted o r.1)
  | .error _ => none

private def exIl : List Block :=
  [obb (some 0) (some (qq 33 100)) true (some (qq 1 2)), obb (some (qq 34 100)) (some (qq 33 100))]
private def exPast : List Block := [obb (some 0) (some (qq 1 2)), obb (some (qq 1 2)) (some (qq 51 100))]

/-- Inside `Hyp`/`HypAccept`: the first block is
expanded from 0.33 to 0.34 but its interpolationLength 0.5 stays; the renderer rejects the channel
("interpolation length is longer than block"), while after the full repair it is accepted. -/
theorem durationsOnly_leaves_interp_too_long :
    fixDurationsOnly exIl =
      ([obb (some 0) (some (qq 34 100)) true (some (qq 1 2)), obb (some (qq 34 100)) (some (qq 33 100))],
       [⟨.expanded, 0⟩]) ∧
    accepted ⟨none, none⟩ (fixDurationsOnly exIl).1 = .interpTooLong ∧
    acceptedAfterFix ⟨none, none⟩ exIl = some .ok := by decide +kernel

/-- The last block (0.5 + 0.51) ends after its
object (duration 1): untouched by the reader option, rejected by the renderer ("ends after object");
the full repair clamps it. -/
theorem durationsOnly_leaves_block_past_object :
    fixDurationsOnly exPast = (exPast, []) ∧
    accepted ⟨none, some 1⟩ (fixDurationsOnly exPast).1 = .endsAfterObject ∧
    acceptedAfterFix ⟨none, some 1⟩ exPast = some .ok := by decide +kernel

theorem Hyp.and_accept_of_timed {objs : List Obj} {bs : List Block} (ht : AllTimed bs) (hm : Mono bs)
    (hl : ∀ o ∈ objs, ∀ D, o.duration = some D → LastBelow D bs) (hn : LastNonneg bs) :
    Hyp objs bs ∧ HypAccept objs bs :=
  ⟨.timed ht hm hl, hn, fun ⟨x, hx, hu⟩ => (timed_not_untimed (ht x hx) hu).elim⟩

instance (b : Block) : Decidable (Timed b) := inferInstanceAs (Decidable (_ ∧ _))
instance (bs : List Block) : Decidable (AllTimed bs) := inferInstanceAs (Decidable (∀ b ∈ bs, Timed b))
instance (D : Rat) (bs : List Block) : Decidable (Within D bs) :=
  inferInstanceAs (Decidable (∀ b ∈ bs, Timed b → b.r + b.d ≤ D))

instance decMono : ∀ bs, Decidable (Mono bs)
  | [] | [_] => isTrue trivial
  | _ :: b :: rest => @instDecidableAnd _ _ _ (decMono (b :: rest))

instance decContig : ∀ bs, Decidable (Contig bs)
  | [] | [_] => isTrue trivial
  | _ :: b :: rest => @instDecidableAnd _ _ _ (decContig (b :: rest))

instance decLastBelow (D : Rat) : ∀ bs, Decidable (LastBelow D bs)
  | [] => isTrue trivial
  | [b] => inferInstanceAs (Decidable (b.r < D))
  | _ :: b :: rest => decLastBelow D (b :: rest)

instance decLastNonneg : ∀ bs, Decidable (LastNonneg bs)
  | [] => isTrue trivial
  | [b] => inferInstanceAs (Decidable (0 ≤ b.d))
  | _ :: b :: rest => decLastNonneg (b :: rest)

instance decLastOutside (D : Rat) : ∀ bs, Decidable (LastOutside D bs)
  | [] => isFalse id
  | [b] => inferInstanceAs (Decidable (D ≤ b.r ∧ 0 < b.d))
  | _ :: b :: rest => decLastOutside D (b :: rest)

/-- the form in which a concrete channel is checked: one closed proposition to evaluate -/
theorem Hyp.and_accept_of_eval {objs : List Obj} {bs : List Block}
    (h : AllTimed bs ∧ Mono bs ∧ (∀ D ∈ durations objs, LastBelow D bs) ∧ LastNonneg bs) :
    Hyp objs bs ∧ HypAccept objs bs :=
  Hyp.and_accept_of_timed h.1 h.2.1 (forall_durations.1 h.2.2.1) h.2.2.2

/-- both examples are inside the hypotheses of the headline theorems -/
example : Hyp [⟨none, none⟩] exIl ∧ HypAccept [⟨none, none⟩] exIl :=
  Hyp.and_accept_of_eval (by decide +kernel)
example : Hyp [⟨none, some 1⟩] exPast ∧ HypAccept [⟨none, some 1⟩] exPast :=
  Hyp.and_accept_of_eval (by decide +kernel)

/-! ## Written timelines meet the hypotheses

Whatever wrote the times of a valid exact timeline, every written value is within some `δ` of the exact
one (half a unit for rounding to nearest, one unit for truncation or rounding up, also when the
convention changes from value to value).  That alone suffices when the exact durations exceed `2δ`:
`perturbation_meets_hypotheses`.  The statements about particular roundings below are instances. -/

/-- `b` is the timed block `a` with rtime and duration each moved by at most `δ`
(type, jumpPosition and interpolationLength are unconstrained). -/
def Near (δ : Rat) (a b : Block) : Prop :=
  Timed a ∧ Timed b ∧ b.r - a.r ≤ δ ∧ a.r - b.r ≤ δ ∧ b.d - a.d ≤ δ ∧ a.d - b.d ≤ δ

/-- `o'` is `o` with its duration (if any) moved by at most `δ`; the start is unconstrained. -/
def NearObj (δ : Rat) (o o' : Obj) : Prop :=
  match o.duration, o'.duration with
  | some D, some D' => D' - D ≤ δ ∧ D - D' ≤ δ
  | none, none => True
  | _, _ => False

def RelO (δ : Rat) : List Obj → List Obj → Prop
  | [], [] => True
  | o :: os, o' :: os' => NearObj δ o o' ∧ RelO δ os os'
  | _, _ => False

theorem relO_back (δ : Rat) : ∀ {objs objs' : List Obj}, RelO δ objs objs' →
    ∀ o' ∈ objs', ∀ D', o'.duration = some D' → ∃ o ∈ objs, ∃ D, o.duration = some D ∧ D - D' ≤ δ
  | [], [], _, _, ho', _, _ => (List.not_mem_nil ho').elim
  | _ :: _, [], h, _, _, _, _ => h.elim
  | [], _ :: _, h, _, _, _, _ => h.elim
  | o :: os, p :: ps, h, o', ho', D', hD' => by
    rcases List.mem_cons.1 ho' with rfl | ho'
    · have hn := h.1
      unfold NearObj at hn
      rw [hD'] at hn
      cases hd : o.duration with
      | none => rw [hd] at hn; exact hn.elim
      | some D => rw [hd] at hn; exact ⟨o, List.mem_cons_self, D, hd, hn.2⟩
    · obtain ⟨o, ho, r⟩ := relO_back δ h.2 o' ho' D' hD'
      exact ⟨o, List.mem_cons_of_mem _ ho, r⟩

theorem near_mono (δ : Rat) {bs bs' : List Block} (h : RelP (Near δ) bs bs') :
    Contig bs → (∀ b ∈ bs, 2 * δ < b.d) → Mono bs' :=
  h.induction (motive := fun bs bs' => Contig bs → (∀ b ∈ bs, 2 * δ < b.d) → Mono bs')
    (fun _ _ => trivial) (fun _ _ _ _ _ => trivial)
    fun a a' as b b' bs h1 h2 ih hc hl => by
      obtain ⟨hla, hl⟩ := List.forall_mem_cons.1 hl
      refine ⟨?_, ih hc.2 hl⟩
      -- `b.r ≤ a.r + δ < a.r + a.d - δ = a'.r - δ ≤ b'.r`
      have := h1.2.2.1; have := h2.2.2.2.1; have := hc.1
      grind

theorem near_last (δ : Rat) (D D' : Rat) (hD : D - D' ≤ δ) {bs bs' : List Block}
    (h : RelP (Near δ) bs bs') : (∀ b ∈ bs, 2 * δ < b.d) → Within D bs → LastBelow D' bs' :=
  h.induction (motive := fun bs bs' => (∀ b ∈ bs, 2 * δ < b.d) → Within D bs → LastBelow D' bs')
    (fun _ _ => trivial)
    (fun a b h1 hl hw => by
      -- `b.r ≤ a.r + δ < a.r + a.d - δ ≤ D - δ ≤ D'`
      have := h1.2.2.1; have := List.forall_mem_singleton.1 hw h1.1; have := List.forall_mem_singleton.1 hl
      show b.r < D'; grind)
    fun _ _ _ _ _ _ _ _ ih hl hw => ih (List.forall_mem_cons.1 hl).2 (List.forall_mem_cons.1 hw).2

theorem near_lastNonneg (δ : Rat) (hδ : 0 ≤ δ) {bs bs' : List Block} (h : RelP (Near δ) bs bs') :
    (∀ b ∈ bs, 2 * δ < b.d) → LastNonneg bs' :=
  h.induction (motive := fun bs bs' => (∀ b ∈ bs, 2 * δ < b.d) → LastNonneg bs') (fun _ => trivial)
    (fun a b h1 hl => by
      have := h1.2.2.2.2.2; have := List.forall_mem_singleton.1 hl
      show 0 ≤ b.d; grind)
    fun _ _ _ _ _ _ _ _ ih hl => ih (List.forall_mem_cons.1 hl).2

/-- `δ` = one decimal unit covers every per-value mixture of nearest / floor / ceil -/
theorem perturbation_meets_hypotheses (δ : Rat) (hδ : 0 ≤ δ) (objs objs' : List Obj)
    (bs bs' : List Block) (hb : RelP (Near δ) bs bs') (ho : RelO δ objs objs') (hc : Contig bs)
    (hlong : ∀ b ∈ bs, 2 * δ < b.d) (hin : ∀ o ∈ objs, ∀ D, o.duration = some D → Within D bs) :
    Hyp objs' bs' ∧ HypAccept objs' bs' := by
  refine Hyp.and_accept_of_timed (fun b hm => let ⟨_, _, hp⟩ := hb.forall_mem b hm; hp.2.1) (near_mono δ hb hc hlong)
    (fun o' ho' D' hD' => ?_) (near_lastNonneg δ hδ hb hlong)
  obtain ⟨o, hmem, D, hD, hle⟩ := relO_back δ ho o' ho' D' hD'
  exact near_last δ D D' hle hb hlong (hin o hmem D hD)

/-- A rounding function with unit `e`: monotone, error at most `e/2` (so truncation and rounding up to `k`
decimals have unit `2·10^-k`). -/
structure Rounding (rnd : Rat → Rat) (e : Rat) : Prop where
  mono : ∀ x y, x ≤ y → rnd x ≤ rnd y
  err : ∀ x, rnd x - x ≤ e / 2 ∧ x - rnd x ≤ e / 2

def roundBlock (rnd : Rat → Rat) (b : Block) : Block :=
  { b with rtime := b.rtime.map rnd, duration := b.duration.map rnd, il := b.il.map rnd }
def roundObj (rnd : Rat → Rat) (o : Obj) : Obj := ⟨o.start.map rnd, o.duration.map rnd⟩

structure ExactValid (e : Rat) (objs : List Obj) (bs : List Block) : Prop where
  timed : AllTimed bs
  contig : Contig bs
  long : ∀ b ∈ bs, e < b.d
  inside : ∀ o ∈ objs, ∀ D, o.duration = some D → Within D bs

theorem roundBlock_r {rnd : Rat → Rat} {b : Block} (h : Timed b) : (roundBlock rnd b).r = rnd b.r := by
  show ((b.rtime.map rnd).getD 0) = rnd b.r
  rw [h.rtime_eq]; rfl

theorem roundBlock_d {rnd : Rat → Rat} {b : Block} (h : Timed b) : (roundBlock rnd b).d = rnd b.d := by
  show ((b.duration.map rnd).getD 0) = rnd b.d
  rw [h.duration_eq]; rfl

theorem roundBlock_timed {rnd : Rat → Rat} {b : Block} (h : Timed b) : Timed (roundBlock rnd b) :=
  ⟨(Option.isSome_map ..).trans h.1, (Option.isSome_map ..).trans h.2⟩

theorem Rounding.near {rnd : Rat → Rat} {e : Rat} (hr : Rounding rnd e) {b : Block} (h : Timed b) :
    Near (e / 2) b (roundBlock rnd b) := by
  refine ⟨h, roundBlock_timed h, ?_⟩
  rw [roundBlock_r h, roundBlock_d h]
  exact ⟨(hr.err _).1, (hr.err _).2, hr.err _⟩

theorem Rounding.relO {rnd : Rat → Rat} {e : Rat} (hr : Rounding rnd e) :
    ∀ objs : List Obj, RelO (e / 2) objs (objs.map (roundObj rnd))
  | [] => trivial
  | ⟨_, none⟩ :: os => ⟨trivial, hr.relO os⟩
  | ⟨_, some D⟩ :: os => ⟨hr.err D, hr.relO os⟩

/-- Rounding every time (rtimes, durations,
interpolation lengths, object starts and durations) of a valid exact timeline whose durations
exceed the rounding unit yields a channel meeting `Hyp` and `HypAccept`. -/
theorem rounding_meets_hypotheses (rnd : Rat → Rat) (e : Rat) (hr : Rounding rnd e)
    (objs : List Obj) (bs : List Block) (h : ExactValid e objs bs) :
    Hyp (objs.map (roundObj rnd)) (bs.map (roundBlock rnd)) ∧
    HypAccept (objs.map (roundObj rnd)) (bs.map (roundBlock rnd)) := by
  have h0 : 0 ≤ e / 2 := by have := hr.err 0; grind
  exact perturbation_meets_hypotheses (e / 2) h0 objs _ bs _ (RelP.map _ bs fun b hb => hr.near (h.timed b hb))
    (hr.relO objs) h.contig (fun b hb => by have := h.long b hb; grind) h.inside

/-! ### Writing with `k` decimals

`roundHalfEvenInt`, `decWith`, `roundHalfEven`, `floorDec`, `ceilDec` are defined in `Model/TimingFix.lean`
(the driver runs them against `harness/c15.py: rnd`). -/

/-- Round to `k` decimals: nearest multiple of `10^-k` (ties upwards).  The generator uses Python's
`round` (ties to even): `roundHalfEven` (Model/TimingFix.lean); both are instances of `Rounding`. -/
def roundDec (k : Nat) (x : Rat) : Rat :=
  ((x * (10 : Rat) ^ k + 1 / 2).floor : Rat) * ((10 : Rat) ^ k)⁻¹

theorem pow10_pos (k : Nat) : (0 : Rat) < (10 : Rat) ^ k := Rat.pow_pos (by decide)

theorem half_mul (e : Rat) : 1 / 2 * e = e / 2 := by grind
theorem one_mul_two (e : Rat) : 1 * e = 2 * e / 2 := by grind

/-- an integer rounding off by at most `c` gives a decimal `Rounding` with half unit `c·10^-k` -/
theorem decWith_rounding (rint : Rat → Int) (c e : Rat) (k : Nat) (hc : c * ((10 : Rat) ^ k)⁻¹ = e / 2)
    (hm : ∀ a b, a ≤ b → rint a ≤ rint b) (he : ∀ y, (rint y : Rat) - y ≤ c ∧ y - (rint y : Rat) ≤ c) :
    Rounding (decWith rint k) e := by
  have hp := pow10_pos k
  have hi : (0 : Rat) ≤ ((10 : Rat) ^ k)⁻¹ := Rat.le_of_lt (Rat.inv_pos.2 hp)
  refine ⟨fun x y h => ?_, fun x => ?_⟩
  · exact Rat.mul_le_mul_of_nonneg_right
      (Rat.intCast_le_intCast.2 (hm _ _ (Rat.mul_le_mul_of_nonneg_right h (Rat.le_of_lt hp)))) hi
  · have hx : x * (10 : Rat) ^ k * ((10 : Rat) ^ k)⁻¹ = x := by
      rw [Rat.mul_assoc, Rat.mul_inv_cancel _ (Rat.ne_of_gt hp), Rat.mul_one]
    have h1 := Rat.mul_le_mul_of_nonneg_right (he (x * (10 : Rat) ^ k)).1 hi
    have h2 := Rat.mul_le_mul_of_nonneg_right (he (x * (10 : Rat) ^ k)).2 hi
    rw [Rat.sub_eq_add_neg, Rat.add_mul, Rat.neg_mul, ← Rat.sub_eq_add_neg, hx, hc] at h1 h2
    exact ⟨h1, h2⟩

theorem floor_err (y : Rat) : ((y.floor : Int) : Rat) - y ≤ 0 ∧ y - ((y.floor : Int) : Rat) ≤ 1 := by
  obtain ⟨h1, h2⟩ := Ieee.floor_frac y
  constructor <;> grind

theorem ceil_err (y : Rat) : ((y.ceil : Int) : Rat) - y ≤ 1 ∧ y - ((y.ceil : Int) : Rat) ≤ 0 := by
  have h1 : y ≤ ((y.ceil : Int) : Rat) := Rat.le_ceil
  have h2 : ((y.ceil : Int) : Rat) < y + 1 := Rat.ceil_lt
  constructor <;> grind

theorem ceil_monotone {a b : Rat} (h : a ≤ b) : a.ceil ≤ b.ceil := by
  apply Rat.ceil_le_iff.mpr
  have : b ≤ ((b.ceil : Int) : Rat) := Rat.le_ceil
  grind

/-- for `a < b`: `rint a ≤ a + 1/2 < b + 1/2 ≤ rint b + 1` -/
theorem rint_mono_of_half (rint : Rat → Int)
    (h : ∀ y, (rint y : Rat) - y ≤ 1 / 2 ∧ y - (rint y : Rat) ≤ 1 / 2) (a b : Rat) (hab : a ≤ b) :
    rint a ≤ rint b := by
  by_cases e : a = b
  · rw [e]; exact Int.le_refl _
  · apply Int.lt_add_one_iff.1
    apply Rat.intCast_lt_intCast.1
    rw [Ieee.intCast_succ]
    have := (h a).1; have := (h b).2
    grind

theorem roundDec_rounding (k : Nat) : Rounding (roundDec k) ((10 : Rat) ^ k)⁻¹ := by
  have he : ∀ y : Rat, ((y + 1 / 2).floor : Rat) - y ≤ 1 / 2 ∧ y - ((y + 1 / 2).floor : Rat) ≤ 1 / 2 := fun y => by
    have := floor_err (y + 1 / 2)
    constructor <;> grind
  exact decWith_rounding (fun y => (y + 1 / 2).floor) (1 / 2) _ k (half_mul _) (rint_mono_of_half _ he) he

theorem roundDec_mono (k : Nat) (x y : Rat) (h : x ≤ y) : roundDec k x ≤ roundDec k y :=
  (roundDec_rounding k).mono x y h

theorem roundDec_err (k : Nat) (x : Rat) :
    roundDec k x - x ≤ ((10 : Rat) ^ k)⁻¹ / 2 ∧ x - roundDec k x ≤ ((10 : Rat) ^ k)⁻¹ / 2 :=
  (roundDec_rounding k).err x

/-- Python's `round` (half-even) to `k` decimals is a `Rounding` with unit `10^-k`.  This is the
function `harness/c15.py: rnd(x, k, "n")` applies (`round(Fraction)`), tied by the driver op `round`. -/
theorem roundHalfEven_rounding (k : Nat) : Rounding (roundHalfEven k) ((10 : Rat) ^ k)⁻¹ := by
  rw [roundHalfEven, roundHalfEvenInt_eq]
  exact decWith_rounding _ (1 / 2) _ k (half_mul _) (rint_mono_of_half _ Ieee.roundHalfEven_err) Ieee.roundHalfEven_err

/-- truncation (`math.floor`) to `k` decimals: a `Rounding` with unit `2·10^-k` (error up to one
decimal unit, always downwards) -/
theorem floorDec_rounding (k : Nat) : Rounding (floorDec k) (2 * ((10 : Rat) ^ k)⁻¹) :=
  decWith_rounding _ 1 _ k (one_mul_two _) (fun _ _ => Rat.floor_monotone)
    fun y => ⟨Rat.le_trans (floor_err y).1 (by decide), (floor_err y).2⟩

theorem ceilDec_rounding (k : Nat) : Rounding (ceilDec k) (2 * ((10 : Rat) ^ k)⁻¹) :=
  decWith_rounding _ 1 _ k (one_mul_two _) (fun _ _ => ceil_monotone)
    fun y => ⟨(ceil_err y).1, Rat.le_trans (ceil_err y).2 (by decide)⟩

theorem rounding_meets_hypotheses_dec (k : Nat) (objs : List Obj) (bs : List Block)
    (h : ExactValid ((10 : Rat) ^ k)⁻¹ objs bs) :
    Hyp (objs.map (roundObj (roundDec k))) (bs.map (roundBlock (roundDec k))) ∧
    HypAccept (objs.map (roundObj (roundDec k))) (bs.map (roundBlock (roundDec k))) :=
  rounding_meets_hypotheses _ _ (roundDec_rounding k) objs bs h

/-- The instance of `rounding_meets_hypotheses` for what the
generator's "nearest" convention does: every time of a valid exact timeline with durations above
`10^-k` written with Python's `round(x·10^k)/10^k` meets `Hyp` and `HypAccept`. -/
theorem roundHalfEven_meets_hypotheses (k : Nat) (objs : List Obj) (bs : List Block)
    (h : ExactValid ((10 : Rat) ^ k)⁻¹ objs bs) :
    Hyp (objs.map (roundObj (roundHalfEven k))) (bs.map (roundBlock (roundHalfEven k))) ∧
    HypAccept (objs.map (roundObj (roundHalfEven k))) (bs.map (roundBlock (roundHalfEven k))) :=
  rounding_meets_hypotheses _ _ (roundHalfEven_rounding k) objs bs h

theorem floorDec_meets_hypotheses (k : Nat) (objs : List Obj) (bs : List Block)
    (h : ExactValid (2 * ((10 : Rat) ^ k)⁻¹) objs bs) :
    Hyp (objs.map (roundObj (floorDec k))) (bs.map (roundBlock (floorDec k))) ∧
    HypAccept (objs.map (roundObj (floorDec k))) (bs.map (roundBlock (floorDec k))) :=
  rounding_meets_hypotheses _ _ (floorDec_rounding k) objs bs h

theorem ceilDec_meets_hypotheses (k : Nat) (objs : List Obj) (bs : List Block)
    (h : ExactValid (2 * ((10 : Rat) ^ k)⁻¹) objs bs) :
    Hyp (objs.map (roundObj (ceilDec k))) (bs.map (roundBlock (ceilDec k))) ∧
    HypAccept (objs.map (roundObj (ceilDec k))) (bs.map (roundBlock (ceilDec k))) :=
  rounding_meets_hypotheses _ _ (ceilDec_rounding k) objs bs h

/-! ### the generator's mixed convention: each value independently nearest / truncated / rounded up -/

/-- `y` is `x` written with `k` decimals by one of the three conventions of `harness/c15.py: rnd`
(`"n"`: Python `round`, half-even; `"f"`: `math.floor`; `"c"`: `math.ceil`) -/
def DecWritten (k : Nat) (x y : Rat) : Prop :=
  y = roundHalfEven k x ∨ y = floorDec k x ∨ y = ceilDec k x

theorem Rounding.err_le {rnd : Rat → Rat} {e u : Rat} (hr : Rounding rnd e) (hu : e / 2 ≤ u) (x : Rat) :
    rnd x - x ≤ u ∧ x - rnd x ≤ u :=
  ⟨Rat.le_trans (hr.err x).1 hu, Rat.le_trans (hr.err x).2 hu⟩

theorem decWritten_near (k : Nat) (x y : Rat) (h : DecWritten k x y) :
    y - x ≤ ((10 : Rat) ^ k)⁻¹ ∧ x - y ≤ ((10 : Rat) ^ k)⁻¹ := by
  have h1 : ((10 : Rat) ^ k)⁻¹ / 2 ≤ ((10 : Rat) ^ k)⁻¹ := by have := Rat.inv_pos.2 (pow10_pos k); grind
  have h2 : 2 * ((10 : Rat) ^ k)⁻¹ / 2 ≤ ((10 : Rat) ^ k)⁻¹ := by
    rw [← one_mul_two, Rat.one_mul]; exact Rat.le_refl
  rcases h with rfl | rfl | rfl
  · exact (roundHalfEven_rounding k).err_le h1 x
  · exact (floorDec_rounding k).err_le h2 x
  · exact (ceilDec_rounding k).err_le h2 x

/-- block `b` is the timed block `a` with rtime and duration each written with `k` decimals by any
of the three conventions (type, jumpPosition, interpolationLength unconstrained) -/
def WrittenBlock (k : Nat) (a b : Block) : Prop :=
  Timed a ∧ Timed b ∧ DecWritten k a.r b.r ∧ DecWritten k a.d b.d

def WrittenObj (k : Nat) (o o' : Obj) : Prop :=
  match o.duration, o'.duration with
  | some D, some D' => DecWritten k D D'
  | none, none => True
  | _, _ => False

def RelW (k : Nat) : List Obj → List Obj → Prop
  | [], [] => True
  | o :: os, o' :: os' => WrittenObj k o o' ∧ RelW k os os'
  | _, _ => False

theorem writtenBlock_near (k : Nat) (a b : Block) (h : WrittenBlock k a b) :
    Near ((10 : Rat) ^ k)⁻¹ a b :=
  ⟨h.1, h.2.1, (decWritten_near k _ _ h.2.2.1).1, (decWritten_near k _ _ h.2.2.1).2, decWritten_near k _ _ h.2.2.2⟩

theorem relW_relO (k : Nat) : ∀ {os os' : List Obj}, RelW k os os' → RelO ((10 : Rat) ^ k)⁻¹ os os'
  | [], [], _ => trivial
  | _ :: _, [], h => h.elim
  | [], _ :: _, h => h.elim
  | ⟨_, none⟩ :: _, ⟨_, none⟩ :: _, h => ⟨trivial, relW_relO k h.2⟩
  | ⟨_, some _⟩ :: _, ⟨_, some _⟩ :: _, h => ⟨decWritten_near k _ _ h.1, relW_relO k h.2⟩
  | ⟨_, none⟩ :: _, ⟨_, some _⟩ :: _, h => h.1.elim
  | ⟨_, some _⟩ :: _, ⟨_, none⟩ :: _, h => h.1.elim

/-- A valid exact timeline (contiguous, inside its objects)
whose durations exceed two decimal units, every rtime / duration / object duration written with `k`
decimals by *any* per-value choice of nearest (half-even), truncation or rounding up, meets `Hyp`
and `HypAccept`.  This is the generator's `conv = "mixed"` / `"ilceil"` class. -/
theorem mixed_rounding_meets_hypotheses (k : Nat) (objs objs' : List Obj) (bs bs' : List Block)
    (hb : RelP (WrittenBlock k) bs bs') (ho : RelW k objs objs') (hc : Contig bs)
    (hlong : ∀ b ∈ bs, 2 * ((10 : Rat) ^ k)⁻¹ < b.d)
    (hin : ∀ o ∈ objs, ∀ D, o.duration = some D → Within D bs) :
    Hyp objs' bs' ∧ HypAccept objs' bs' :=
  perturbation_meets_hypotheses _ (Rat.le_of_lt (Rat.inv_pos.2 (pow10_pos k))) objs objs' bs bs'
    (hb.mono (writtenBlock_near k _ _)) (relW_relO k ho) hc hlong hin

/-- the three conventions evaluated: 0.125 to two decimals is 0.12 (half-even; `roundDec` gives 0.13),
0.12 truncated, 0.13 rounded up; 0.135 → 0.14 (even); −0.125 → −0.12 -/
example : roundHalfEven 2 (mkRat 1 8) = mkRat 12 100 ∧ roundDec 2 (mkRat 1 8) = mkRat 13 100 ∧
    floorDec 2 (mkRat 1 8) = mkRat 12 100 ∧ ceilDec 2 (mkRat 1 8) = mkRat 13 100 ∧
    roundHalfEven 2 (mkRat 135 1000) = mkRat 14 100 ∧ roundHalfEven 2 (mkRat (-1) 8) = mkRat (-12) 100 := by
  decide +kernel

/-- Non-vacuity of `WrittenBlock`: thirds of a second, second rtime rounded up and its duration
truncated. -/
example : WrittenBlock 2 ⟨some (mkRat 1 3), some (mkRat 1 3), true, false, none⟩
    ⟨some (mkRat 34 100), some (mkRat 33 100), true, true, some (mkRat 34 100)⟩ := by
  refine ⟨⟨rfl, rfl⟩, ⟨rfl, rfl⟩, Or.inr (Or.inr ?_), Or.inr (Or.inl ?_)⟩ <;> decide +kernel

/-! ## Excluded points (the hypotheses cannot be dropped) and non-vacuity -/

-- the evaluations below compare `Except` values
deriving instance DecidableEq for Except

private def q (n : Int) (d : Nat) : Rat := mkRat n d
private def ob (r d : Option Rat) (jp : Bool := false) (il : Option Rat := none) : Block := ⟨r, d, true, jp, il⟩

/-- Last block starts exactly at the object's end (`last rtime = D`, not `<`): `ValueError`. -/
theorem excluded_start_at_object_end :
    fixTimings [⟨none, some (q 1 2)⟩] [ob (some 0) (some (q 1 2)), ob (some (q 1 2)) (some (q 1 2))]
      = .error .valueError := by decide +kernel

/-! ### Rounded timelines with a block not longer than the rounding unit: the repair raises

`ExactValid.long` (`e < b.d` for every block; `e = 10^-k` for nearest, `2·10^-k` for floor / ceil /
mixed) cannot be dropped from any `…_meets_hypotheses` theorem. -/

/-- the exact timeline of `excluded_rounded_short_block`: blocks (0, 0.9951), (0.9951, 0.0098) in an
object of duration 1.0049 -/
def shortExact : List Block := [ob (some 0) (some (q 9951 10000)), ob (some (q 9951 10000)) (some (q 98 10000))]
def shortObjs : List Obj := [⟨none, some (q 10049 10000)⟩]

/-- Recorded finding `rounded-short-block-collapse`.  A valid exact
timeline — all timed, contiguous, inside its object, durations positive, repaired without any change
by the model — whose last duration 0.0098 is not longer than the rounding unit 0.01.  Written with two
decimals by Python's `round` it becomes (0, 1.00), (1.00, 0.01) in an object of duration 1.00: the
last block starts at the object's end and `fix_blockFormat_timings` raises `ValueError` ("tried to
advance end … before the block start").  Run on the real code on every check
(`harness/c15.py: witness_case`). -/
theorem excluded_rounded_short_block :
    fixTimings shortObjs shortExact = .ok (shortExact, []) ∧
    accepted ⟨none, some (q 10049 10000)⟩ shortExact = .ok ∧
    shortExact.map (roundBlock (roundHalfEven 2)) = [ob (some 0) (some 1), ob (some 1) (some (q 1 100))] ∧
    shortObjs.map (roundObj (roundHalfEven 2)) = [⟨none, some 1⟩] ∧
    fixTimings (shortObjs.map (roundObj (roundHalfEven 2))) (shortExact.map (roundBlock (roundHalfEven 2)))
      = .error .valueError := by decide +kernel

/-- the exact timeline meets every clause of `ExactValid (10^-2)` except `long`: its last duration
0.0098 is positive but not above 0.01 -/
theorem shortExact_valid_but_short :
    AllTimed shortExact ∧ Contig shortExact ∧ (∀ b ∈ shortExact, 0 < b.d) ∧
    (∀ o ∈ shortObjs, ∀ D, o.duration = some D → Within D shortExact) ∧
    ¬ (∀ b ∈ shortExact, ((10 : Rat) ^ 2)⁻¹ < b.d) :=
  ⟨by decide +kernel, by decide +kernel, by decide +kernel, forall_durations.1 (by decide +kernel),
    by decide +kernel⟩

/-- The general form of the finding, for any way `rnd` of writing the
times: if the written last block starts at or after the written end of some object referencing the
channel and its written duration is positive, the repair of the written document raises `ValueError`
(instance of `fix_raises_when_last_block_outside_object`). -/
theorem fix_raises_rounded (rnd : Rat → Rat) (objs : List Obj) (bs : List Block) (ht : AllTimed bs)
    (o : Obj) (ho : o ∈ objs) (D : Rat) (hD : o.duration = some D)
    (hl : LastOutside (rnd D) (bs.map (roundBlock rnd))) :
    fixTimings (objs.map (roundObj rnd)) (bs.map (roundBlock rnd)) = .error .valueError :=
  fix_raises_when_last_block_outside_object _ _ (List.forall_mem_map.2 fun b hb => roundBlock_timed (ht b hb))
    (roundObj rnd o) (List.mem_map.2 ⟨o, ho, rfl⟩) (rnd D) (by rw [roundObj, hD]; rfl) hl

/-- non-vacuity: the hypotheses of `fix_raises_rounded` hold on the witness -/
example : AllTimed shortExact ∧ (⟨none, some (q 10049 10000)⟩ : Obj) ∈ shortObjs ∧
    LastOutside (roundHalfEven 2 (q 10049 10000)) (shortExact.map (roundBlock (roundHalfEven 2))) := by
  decide +kernel

/-- Negative last duration with a jumpPosition: the repair succeeds and changes nothing, the
interpreter rejects ("specified interpolation length is longer than block"). -/
theorem excluded_negative_last_duration :
    fixTimings [⟨none, none⟩] [ob (some 0) (some (q 1 2)), ob (some (q 1 2)) (some (q (-1) 2)) true]
      = .ok ([ob (some 0) (some (q 1 2)), ob (some (q 1 2)) (some (q (-1) 2)) true], []) ∧
    accepted ⟨none, none⟩ [ob (some 0) (some (q 1 2)), ob (some (q 1 2)) (some (q (-1) 2)) true]
      = .interpTooLong := by decide +kernel

/-- rtime without duration: `assert False, "not validated"`. -/
theorem excluded_rtime_xor_duration :
    fixTimings [⟨none, some 1⟩] [ob (some 0) none] = .error .assertion := by decide +kernel

/-- Two untimed blocks: untouched by the repair, rejected by the interpreter ("overlapping blocks"). -/
theorem excluded_two_untimed :
    fixTimings [⟨none, some 1⟩] [ob none none, ob none none] = .ok ([ob none none, ob none none], []) ∧
    accepted ⟨none, some 1⟩ [ob none none, ob none none] = .overlap := by decide +kernel

/-- Decreasing rtimes (0, 10, 5 with an object of duration 7): the first block is clamped to the
object and no longer meets the second one — contiguity is lost. -/
theorem excluded_decreasing_rtimes :
    fixTimings [⟨none, some 7⟩] [ob (some 0) (some 1), ob (some 10) (some 1), ob (some 5) (some 1)]
      = .ok ([ob (some 0) (some 7), ob (some 10) (some (-5)), ob (some 5) (some 1)],
             [⟨.expanded, 0⟩, ⟨.contracted, 1⟩, ⟨.endAdvanced, 0⟩]) := by decide +kernel

/-- Non-vacuity: a channel rounded to two decimals (thirds of a second) shared by two objects
meets `Hyp` and `HypAccept`; the model evaluates on it: the first block is expanded and its
interpolation length contracted, the last block is clamped twice. -/
private def exBlocks : List Block :=
  [ob (some 0) (some (q 33 100)) true (some (q 1 2)), ob (some (q 34 100)) (some (q 33 100)),
   ob (some (q 67 100)) (some (q 33 100))]
private def exObjs : List Obj := [⟨some 1, some (q 99 100)⟩, ⟨none, some (q 98 100)⟩]

example : Hyp exObjs exBlocks :=
  (Hyp.and_accept_of_eval (by decide +kernel)).1

example : HypAccept exObjs exBlocks :=
  (Hyp.and_accept_of_eval (objs := exObjs) (by decide +kernel)).2

example : fixTimings exObjs exBlocks =
    .ok ([ob (some 0) (some (q 34 100)) true (some (q 34 100)), ob (some (q 34 100)) (some (q 33 100)),
          ob (some (q 67 100)) (some (q 31 100))],
         [⟨.expanded, 0⟩, ⟨.ilContracted, 0⟩, ⟨.endAdvanced, 2⟩, ⟨.endAdvanced, 2⟩]) := by decide +kernel

example : accepted ⟨some 1, some (q 99 100)⟩ exBlocks = .interpTooLong := by decide +kernel

/-- the Timeline interpreter model evaluated (48 kHz): the unrepaired channel raises "interpolation
length is longer than block", the repaired one (see the example above) raises nothing -/
example : runObject 48000 {} (exBlocks.map (toMeta ⟨some 1, some (q 99 100)⟩)) = .interpTooLong ∧
    runObject 48000 {}
      ([ob (some 0) (some (q 34 100)) true (some (q 34 100)), ob (some (q 34 100)) (some (q 33 100)),
        ob (some (q 67 100)) (some (q 31 100))].map (toMeta ⟨some 1, some (q 99 100)⟩)) = .ok ∧
    (∀ b ∈ exBlocks, b.isObjects = true) := by decide +kernel

/-- Non-vacuity of the untimed case. -/
example : Hyp [⟨some 1, some 1⟩] [ob none none true (some 2)] :=
  Hyp.untimed _ rfl ⟨rfl, rfl⟩
example : fixTimings [⟨some 1, some 1⟩] [ob none none true (some 2)] =
    .ok ([ob none none true (some 1)], [⟨.ilReducedToObject, 0⟩]) := by decide +kernel

/-- Non-vacuity of `ExactValid`/`Rounding`: thirds of a second are a valid exact timeline for
the unit 1/100. -/
example : ExactValid (q 1 100) [⟨none, some 1⟩]
    [ob (some 0) (some (q 1 3)), ob (some (q 1 3)) (some (q 1 3)), ob (some (q 2 3)) (some (q 1 3))] :=
  ⟨by decide +kernel, by decide +kernel, by decide +kernel, forall_durations.1 (by decide +kernel)⟩

/-- Non-vacuity of `Near`: thirds of a second written with mixed conventions (second rtime
rounded up, its duration truncated; third rtime truncated, its duration rounded up). -/
example : RelP (Near (q 1 100))
    [ob (some 0) (some (q 1 3)), ob (some (q 1 3)) (some (q 1 3)), ob (some (q 2 3)) (some (q 1 3))]
    [ob (some 0) (some (q 33 100)), ob (some (q 34 100)) (some (q 33 100)) true (some (q 34 100)),
     ob (some (q 66 100)) (some (q 34 100))] := by
  refine ⟨?_, ?_, ?_, trivial⟩ <;> simp [Near, ob, Timed, Block.r, Block.d] <;> decide +kernel

/-! ## The whole document: which audioObjects clamp which audioChannelFormats -/

/-- Hypotheses on a document: the pack allocator finds a unique allocation for every audioObject
that has a duration (otherwise `AdmFormatRefError` escapes, `excluded_doc_conflicting_refs`), and
every audioChannelFormat meets `Hyp` for the audioObjects whose allocation contains it. -/
structure DocHyp (pairs : List (Obj × Option (List Nat))) (t : Table) : Prop where
  matcher : ∀ p ∈ pairs, p.1.duration.isSome = true → p.2.isSome = true
  chan : ∀ c, c < t.length → Hyp (objsFor pairs c) (Table.get t c)

/-- `fix_blockFormat_timings(adm)` on a document meeting `DocHyp` does not raise and leaves every
audioChannelFormat `c` in the state `Post` describes: rtimes unchanged, contiguous, interpolation lengths inside
their blocks, blocks inside every audioObject whose allocation contains `c`, stable.  The clause `Post.accept`
(accepted by the renderer's timing checks for each of these audioObjects) needs `HypAccept` of the channel as well
(last duration not negative), which is not part of `DocHyp`: `doc_fix_accepted`.  `pairs`, the matcher's answer for
each audioObject, is arbitrary here; the `objs` of each channel are computed from it (`objsFor`), and
`smallDoc_fix_post` takes `pairs` from the allocator model. -/
theorem doc_fix_post (pairs : List (Obj × Option (List Nat))) (t : Table) (h : DocHyp pairs t) :
    ∃ t' ws, docFix pairs t = .ok (t', ws) ∧ t'.length = t.length ∧
      ∀ c, c < t.length → Post (objsFor pairs c) (Table.get t c) (Table.get t' c) := by
  obtain ⟨r, hr⟩ := docFix_ok pairs t h.matcher (fun c hc => by
    obtain ⟨out, ws, h1, _⟩ := fix_post _ _ (h.chan c hc)
    exact ⟨_, h1⟩)
  refine ⟨r.1, r.2, hr, docFix_length pairs t r hr, ?_⟩
  intro c hc
  obtain ⟨ws, hw⟩ := docFix_channel pairs t r hr c
  exact post_of_ok (h.chan c hc) hw

/-- The acceptance clause for whole documents, with its extra hypothesis made
explicit: if every audioChannelFormat additionally meets `HypAccept` (last duration ≥ 0; rounded
timelines do: `…_meets_hypotheses`), then after the repair the renderer's timing checks accept every
audioChannelFormat for every audioObject whose allocation contains it. -/
theorem doc_fix_accepted (pairs : List (Obj × Option (List Nat))) (t : Table) (h : DocHyp pairs t)
    (ha : ∀ c, c < t.length → HypAccept (objsFor pairs c) (Table.get t c)) :
    ∃ t' ws, docFix pairs t = .ok (t', ws) ∧
      ∀ c, c < t.length → ∀ o ∈ objsFor pairs c, accepted o (Table.get t' c) = .ok := by
  obtain ⟨t', ws, h1, _, h3⟩ := doc_fix_post pairs t h
  exact ⟨t', ws, h1, fun c hc => (h3 c hc).accept (ha c hc)⟩

theorem doc_fix_idempotent_silent (pairs : List (Obj × Option (List Nat))) (t t' : Table) (ws : List DWarn)
    (h : DocHyp pairs t) (hf : docFix pairs t = .ok (t', ws)) : docFix pairs t' = .ok (t', []) := by
  have hl := docFix_length pairs t (t', ws) hf
  apply docFix_stable pairs t' h.matcher
  intro c hc
  obtain ⟨ws', hw⟩ := docFix_channel pairs t (t', ws) hf c
  exact (post_of_ok (h.chan c (by simp only at hl; omega)) hw).stable

/-- the same statements for the small document type, with the pairs computed by the allocator
model (`Doc.pairs`: `Model/SelectItems.lean: selectPackMapping` on the audioObject's own
audioPackFormat / audioTrackUID references) -/
theorem smallDoc_fix_post (d : Doc) (h : DocHyp d.pairs d.channels) :
    ∃ t' ws, d.fix = .ok (t', ws) ∧ t'.length = d.channels.length ∧
      (∀ c, c < d.channels.length → Post (objsFor d.pairs c) (Table.get d.channels c) (Table.get t' c)) ∧
      docFix d.pairs t' = .ok (t', []) := by
  obtain ⟨t', ws, h1, h2, h3⟩ := doc_fix_post d.pairs d.channels h
  exact ⟨t', ws, h1, h2, h3, doc_fix_idempotent_silent d.pairs d.channels t' ws h h1⟩

/-- The pack allocation of a selection state depends on the state only through the *last*
audioObject of its path: the renderer (`select_rendering_items`, object path `p`) pairs the leaf
audioObject with exactly the channels the repair's `ObjectChannelMatcher` (path `[leaf]`) clamps
against it. -/
theorem selectPackMapping_leaf (a : Adm.Adm) (st : Adm.State) (p : List Nat) (hp : st.objPath = some p) :
    Adm.selectPackMapping a st =
      Adm.selectPackMapping a { programme := none, content := none, objPath := some [p.getLastD 0] } := by
  simp [Adm.selectPackMapping, Adm.allocProblem, hp]

private def tb (r d : Rat) : Block := ⟨some r, some d, true, false, none⟩
/-- audioObject 0 (duration 1) references pack 0, which nests pack 1: channels 0 and 1; audioObject 1
(duration 0.9) references pack 1 only: channel 1; audioObject 2 has no duration and inconsistent
references (one track for a two-channel pack): the allocator is never asked about it. -/
private def exDoc : Doc :=
  ⟨[⟨none, some 1, [0], [some 0, some 1]⟩, ⟨some 5, some (mkRat 9 10), [1], [some 2]⟩, ⟨none, none, [0], [some 0]⟩],
   [⟨3, [0], [1]⟩, ⟨3, [1], []⟩], [⟨0, 0⟩, ⟨1, 1⟩, ⟨1, 1⟩],
   [[tb 0 (mkRat 1 2), tb (mkRat 1 2) (mkRat 6 10)], [tb 0 2]]⟩

example : exDoc.pairs.map (·.2) = [some [0, 1], some [1], none] := by decide +kernel
example : objsFor exDoc.pairs 0 = [⟨none, some 1⟩] ∧
    objsFor exDoc.pairs 1 = [⟨none, some 1⟩, ⟨some 5, some (mkRat 9 10)⟩] := by decide +kernel
/-- channel 0 is clamped to audioObject 0 (0.5 + 0.6 → 0.5 + 0.5), channel 1 to both (2 → 1 → 0.9) -/
example : exDoc.fix = .ok ([[tb 0 (mkRat 1 2), tb (mkRat 1 2) (mkRat 1 2)], [tb 0 (mkRat 9 10)]],
    [⟨0, ⟨.endAdvanced, 1⟩⟩, ⟨1, ⟨.endAdvanced, 0⟩⟩, ⟨1, ⟨.endAdvanced, 0⟩⟩]) := by decide +kernel

example : DocHyp exDoc.pairs exDoc.channels :=
  ⟨by decide +kernel, fun c hc => by
    have hc' : c = 0 ∨ c = 1 := by simp [exDoc] at hc; omega
    rcases hc' with rfl | rfl <;> exact (Hyp.and_accept_of_eval (by decide +kernel)).1⟩

/-- a document whose blocks have jumpPosition and interpolationLength: the first block is expanded
(0.33 → 0.34) and its interpolationLength 0.5 contracted to it; the last block (0.34 + 0.67) is
advanced to the end of its audioObject (start 2, duration 1) together with its interpolationLength -/
private def jb (r d il : Rat) : Block := ⟨some r, some d, true, true, some il⟩
private def exDoc2 : Doc :=
  ⟨[⟨some 2, some 1, [0], [some 0]⟩], [⟨3, [0], []⟩], [⟨0, 0⟩],
   [[jb 0 (mkRat 33 100) (mkRat 1 2), jb (mkRat 34 100) (mkRat 67 100) (mkRat 67 100)]]⟩

example : exDoc2.fix = .ok ([[jb 0 (mkRat 34 100) (mkRat 34 100), jb (mkRat 34 100) (mkRat 66 100) (mkRat 66 100)]],
    [⟨0, ⟨.expanded, 0⟩⟩, ⟨0, ⟨.ilContracted, 0⟩⟩, ⟨0, ⟨.endAdvanced, 1⟩⟩, ⟨0, ⟨.endAdvancedIl, 1⟩⟩]) ∧
    accepted ⟨some 2, some 1⟩ (Table.get exDoc2.channels 0) = .interpTooLong ∧
    accepted ⟨some 2, some 1⟩
      [jb 0 (mkRat 34 100) (mkRat 34 100), jb (mkRat 34 100) (mkRat 66 100) (mkRat 66 100)] = .ok := by
  decide +kernel

/-- it meets `DocHyp` and the extra hypothesis of `doc_fix_accepted` -/
example : DocHyp exDoc2.pairs exDoc2.channels ∧
    ∀ c, c < exDoc2.channels.length → HypAccept (objsFor exDoc2.pairs c) (Table.get exDoc2.channels c) := by
  have h : ∀ c, c < exDoc2.channels.length →
      Hyp (objsFor exDoc2.pairs c) (Table.get exDoc2.channels c) ∧
      HypAccept (objsFor exDoc2.pairs c) (Table.get exDoc2.channels c) := fun c hc => by
    have hc' : c = 0 := by simp [exDoc2] at hc; omega
    subst hc'
    exact Hyp.and_accept_of_eval (by decide +kernel)
  exact ⟨⟨by decide +kernel, fun c hc => (h c hc).1⟩, fun c hc => (h c hc).2⟩

/-- Excluded point of `DocHyp.matcher`: an audioObject *with* a duration whose references are
inconsistent (one audioTrackUID for a two-channel pack): `AdmFormatRefError` escapes from
`fix_blockFormat_timings` (run on the real code by the harness, outcome `error formatRef`). -/
theorem excluded_doc_conflicting_refs :
    (⟨[⟨none, some 1, [0], [some 0]⟩], [⟨3, [0, 1], []⟩], [⟨0, 0⟩], [[tb 0 1], [tb 0 1]]⟩ : Doc).fix
      = .error .formatRef := by decide +kernel

end Earverif.TimingFix
