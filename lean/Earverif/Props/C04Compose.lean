/-
C04 composed with C02/C03: the output file of `OfflineRenderDriver.run` has exactly as many frames as the
input file, and its sample codes are the quantised, gain-scaled, upmixed sample-by-sample specification of the
rendering, for every accepted session and every way the reader splits the input into blocks.

`FileRender.run` (glue model, C04) takes the blocks the renderer returned; `Renderer.renderAllOS`
(renderer model with the partitioned overlap-save convolver and the numpy exceptions, C02/C03) is what the renderer
returns (all `render` calls plus `get_tail`, concatenated).  The headline theorems (`file_frames_eq_input`,
`file_render_blocks_frames`, `file_samples_eq_spec`) are about that model; the `_fir` versions state the frame counts
for the renderer model with the direct-form FIR stand-in and totalised indexing (`renderAll`).
-/
import Earverif.Props.C04
import Earverif.Props.C02
import Earverif.Props.C18

namespace Earverif.FileRender
open Earverif.Renderer

/-- A renderer output row as the list of samples the glue model works on. -/
def rowList {n : Nat} (r : Earverif.Stream.Frame n) : List Rat := r.v.toList

/-- `file_frames_eq_input` for the FIR stand-in model (`renderAll`, `SessionOK`). -/
theorem file_frames_eq_input_fir {n : Nat} (c : Cfg (Earverif.Stream.Frame n))
    (objs : List (ObjItem (Earverif.Stream.Frame n))) (dss : List (DsItem (Earverif.Stream.Frame n)))
    (hoas : List (HoaItem (Earverif.Stream.Frame n)))
    (hok : SessionOK c objs dss hoas) (parts : List (List (List Rat)))
    (chans : List String) (hn : chans.length = n) (speakers gain f M) :
    ∃ out, renderAll c objs dss hoas parts = .ok out ∧
      (run chans speakers gain f M [out.map rowList]).frames.length = parts.flatten.length ∧
      ∀ fr ∈ (run chans speakers gain f M [out.map rowList]).frames,
        fr.length = (run chans speakers gain f M [out.map rowList]).nChannels := by
  obtain ⟨out, hout, hlen, -⟩ := C02_length_and_origin c objs dss hoas hok parts
  refine ⟨out, hout, ?_, ?_⟩
  · rw [run_frame_count]; simp [hlen]
  · apply run_channel_count
    intro b hb fr hfr
    simp only [List.mem_singleton] at hb
    subst hb
    simp only [List.mem_map] at hfr
    obtain ⟨r, -, rfl⟩ := hfr
    simp [rowList, hn]

end Earverif.FileRender

namespace Earverif.FileRenderLayout
open Earverif.FileRender Earverif.Cursor

/-! Three facts about `Cursor.Chain` (`Props/C18.lean`: consecutive non-empty ranges from `c` to `e`), for `fileParts_spec`. -/

theorem chain_le : ∀ (rs : List (Int × Int)) (c e : Int), Chain c rs e → c ≤ e := by
  intro rs
  induction rs with
  | nil => intro c e h; simp [Chain] at h; omega
  | cons r rs ih =>
    intro c e h
    obtain ⟨_, h2, h3⟩ := h
    have := ih _ _ h3
    omega

theorem chain_mem : ∀ (rs : List (Int × Int)) (c e : Int), Chain c rs e →
    ∀ r ∈ rs, c ≤ r.1 ∧ 0 < r.2 ∧ r.1 + r.2 ≤ e := by
  intro rs
  induction rs with
  | nil => intro c e _ r hr; simp at hr
  | cons r0 rs ih =>
    intro c e h r hr
    obtain ⟨h1, h2, h3⟩ := h
    rcases List.mem_cons.mp hr with rfl | hr
    · have := chain_le _ _ _ h3
      exact ⟨by omega, h2, by omega⟩
    · have := ih _ _ h3 r hr
      exact ⟨by omega, this.2.1, this.2.2⟩

theorem chain_flatten {α : Type} (input : List α) : ∀ (rs : List (Int × Int)) (c e : Int), 0 ≤ c → Chain c rs e →
    (rs.map fun r => (input.drop r.1.toNat).take r.2.toNat).flatten = (input.drop c.toNat).take (e - c).toNat := by
  intro rs
  induction rs with
  | nil => intro c e _ h; simp [Chain] at h; subst h; simp
  | cons r rs ih =>
    intro c e hc h
    obtain ⟨h1, h2, h3⟩ := h
    have hle := chain_le _ _ _ h3
    rw [List.map_cons, List.flatten_cons, ih (c + r.2) e (by omega) h3, h1]
    have e1 : (c + r.2).toNat = c.toNat + r.2.toNat := Int.toNat_add hc h2.le
    have e2 : (e - c).toNat = r.2.toNat + (e - (c + r.2)).toNat := by
      rw [← Int.toNat_add h2.le (Int.sub_nonneg_of_le hle)]
      congr 1
      omega
    rw [e1, e2, List.take_add, List.drop_drop]

/-- **The blocks of `iter_sample_blocks(blocksize)` tile the file** (from C18's `specIter_tiles`): for
`blocksize ≥ 1` their concatenation is the input, none is empty, none is longer than `blocksize`. -/
theorem fileParts_spec {α : Type} (bs : Nat) (hbs : 1 ≤ bs) (input : List α) :
    (fileParts bs input).flatten = input ∧ ∀ p ∈ fileParts bs input, p ≠ [] ∧ p.length ≤ bs := by
  have ht := specIter_tiles (input.length : Int) (bs : Int) (by omega) (input.length + 1) 0 (by omega) (by omega)
    (by omega)
  obtain ⟨_, hchain, hsz⟩ := ht
  constructor
  · unfold fileParts
    rw [chain_flatten input _ 0 _ (by omega) hchain]
    simp
  · intro p hp
    unfold fileParts at hp
    rw [List.mem_map] at hp
    obtain ⟨r, hr, rfl⟩ := hp
    have hm := chain_mem _ _ _ hchain r hr
    have hs := hsz r hr
    constructor
    · intro hnil
      have : ((input.drop r.1.toNat).take r.2.toNat).length = 0 := by rw [hnil]; rfl
      rw [List.length_take, List.length_drop] at this
      omega
    · rw [List.length_take]
      omega

/-- One `render` call per block, then exactly one `get_tail` call. -/
theorem renderCalls_length {S E : Type} (render : S → List (List Rat) → Except E (S × List (List Rat)))
    (getTail : S → Except E (List (List Rat))) : ∀ (parts : List (List (List Rat))) (st : S) (outs : List (List (List Rat))),
    renderCalls render getTail st parts = .ok outs → outs.length = parts.length + 1 := by
  intro parts
  induction parts with
  | nil =>
    intro st outs h
    simp only [renderCalls] at h
    split at h
    · cases h
    · cases h; rfl
  | cons b bs ih =>
    intro st outs h
    simp only [renderCalls] at h
    split at h
    · cases h
    · split at h
      · cases h
      · rename_i os hos
        cases h
        simp [ih _ _ hos]

/-! Non-vacuity of `fileParts_spec`: a length that is not a multiple of the block size, an exact multiple (no
empty trailing block), the empty file (no block at all: only `get_tail` is called). -/
example : fileParts 4 [0, 1, 2, 3, 4, 5, 6, 7, 8, 9] = [[0, 1, 2, 3], [4, 5, 6, 7], [8, 9]] := by decide +kernel
example : fileParts 2 [0, 1, 2, 3] = [[0, 1], [2, 3]] := by decide +kernel
example : fileParts 8192 ([] : List Nat) = [] := by decide +kernel

end Earverif.FileRenderLayout

namespace Earverif.FileRender
open Earverif.Renderer Earverif.FileRenderLayout

/-! ### The call sequence over any renderer

`renderCalls` does not know the renderer; neither does what is proved about it here: for a renderer whose `render` is
`r` (rows turned into sample lists by `row`) and whose `get_tail` is `r` on the block `tail`, the call sequence is the
generic session of `Proofs/C02Trace.lean` with the blocks kept apart. -/
section Calls
variable {σ ε W : Type} (row : W → List Rat) (r : σ → List (List Rat) → Except ε (σ × List W)) (tail : List (List Rat))

theorem renderCalls_eq_runG : ∀ (parts : List (List (List Rat))) (st : σ),
    renderCalls (fun st b => (r st b).map fun p => (p.1, p.2.map row)) (fun st => (r st tail).map fun p => p.2.map row)
        st parts =
      (runG r st (parts ++ [tail])).map fun p => p.2.map (·.map row) := by
  intro parts
  induction parts with
  | nil =>
    intro st
    simp only [renderCalls, List.nil_append, runG]
    cases r st tail <;> rfl
  | cons b bs ih =>
    intro st
    simp only [renderCalls, List.cons_append, runG]
    cases r st b with
    | error e => rfl
    | ok p =>
      have h := ih p.1
      simp only [Except.map] at h ⊢
      rw [h]
      cases runG r p.1 (bs ++ [tail]) <;> rfl

theorem renderCalls_of_ok (parts : List (List (List Rat))) (st : σ) (out : List W)
    (h : sessionG r tail st parts = .ok out) :
    ∃ outs, renderCalls (fun st b => (r st b).map fun p => (p.1, p.2.map row))
        (fun st => (r st tail).map fun p => p.2.map row) st parts = .ok outs ∧
      outs.flatten = out.map row ∧ ∀ b ∈ outs, ∀ fr ∈ b, ∃ w, fr = row w := by
  rw [renderCalls_eq_runG]
  rw [sessionG_eq_runG] at h
  cases hr : runG r st (parts ++ [tail]) with
  | error e => rw [hr] at h; cases h
  | ok p =>
    rw [hr] at h
    cases h
    refine ⟨_, rfl, by rw [List.map_flatten], fun b hb fr hfr => ?_⟩
    obtain ⟨o, -, rfl⟩ := List.mem_map.mp hb
    obtain ⟨w, -, rfl⟩ := List.mem_map.mp hfr
    exact ⟨w, rfl⟩

theorem renderCalls_of_error (parts : List (List (List Rat))) (st : σ) (e : ε)
    (h : sessionG r tail st parts = .error e) :
    renderCalls (fun st b => (r st b).map fun p => (p.1, p.2.map row))
      (fun st => (r st tail).map fun p => p.2.map row) st parts = .error e := by
  rw [renderCalls_eq_runG]
  rw [sessionG_eq_runG] at h
  cases hr : runG r st (parts ++ [tail]) with
  | error e' => rw [hr] at h; cases h; rfl
  | ok p => rw [hr] at h; cases h

end Calls

/-- `renderer.render(...)` of the C02/C03 renderer model as an entry point of `renderCalls`. -/
def mRender {n : Nat} (c : Cfg (Earverif.Stream.Frame n)) (st : RState (Earverif.Stream.Frame n))
    (b : List (List Rat)) : Except Earverif.Timeline.Err (RState (Earverif.Stream.Frame n) × List (List Rat)) :=
  match st.render c b with
  | .error e => .error e
  | .ok (st', o) => .ok (st', o.map rowList)

/-- `renderer.get_tail(...)`. -/
def mTail {n : Nat} (c : Cfg (Earverif.Stream.Frame n)) (st : RState (Earverif.Stream.Frame n)) :
    Except Earverif.Timeline.Err (List (List Rat)) :=
  match st.get_tail c with
  | .error e => .error e
  | .ok (_, t) => .ok (t.map rowList)

theorem rowList_length {n : Nat} (r : Earverif.Stream.Frame n) : (rowList r).length = n := by
  simp [rowList]

set_option smartUnfolding false in
theorem renderAll_calls {n : Nat} (c : Cfg (Earverif.Stream.Frame n)) (objs dss hoas)
    (parts : List (List (List Rat))) (out : List (Earverif.Stream.Frame n))
    (h : renderAll c objs dss hoas parts = .ok out) :
    ∃ outs, renderCalls (mRender c) (mTail c) (RState.init c objs dss hoas) parts = .ok outs ∧
      outs.flatten = out.map rowList ∧ ∀ b ∈ outs, ∀ fr ∈ b, fr.length = n := by
  -- the option: the next line needs `mRender c` = `fun st b => (st.render c b).map …`, `mTail c` likewise, `renderAll …` =
  -- `sessionG (RState.render c) …` by unfolding (as `run_eq_runG`, `Proofs/C02Trace.lean`)
  obtain ⟨outs, h1, h2, h3⟩ := renderCalls_of_ok rowList (RState.render c) _ parts _ out h
  refine ⟨outs, h1, h2, fun b hb fr hfr => ?_⟩
  obtain ⟨w, rfl⟩ := h3 b hb fr hfr
  exact rowList_length w

/-- `file_render_blocks_frames` for the FIR stand-in model (`renderAll`, `SessionOK`). -/
theorem file_render_blocks_frames_fir {n : Nat} (c : Cfg (Earverif.Stream.Frame n))
    (objs : List (ObjItem (Earverif.Stream.Frame n))) (dss : List (DsItem (Earverif.Stream.Frame n)))
    (hoas : List (HoaItem (Earverif.Stream.Frame n)))
    (hok : SessionOK c objs dss hoas) (input : List (List Rat)) (blocksize : Nat) (hbs : 1 ≤ blocksize)
    (chans : List String) (hn : chans.length = n) (speakers gain f M) :
    ∃ res, runFile (mRender c) (mTail c) (RState.init c objs dss hoas) blocksize chans speakers gain f M input
        = .ok res ∧
      res.frames.length = input.length ∧ res.nChannels = nChannels chans speakers ∧
      ∀ fr ∈ res.frames, fr.length = res.nChannels := by
  obtain ⟨out, hout, hlen, -⟩ := C02_length_and_origin c objs dss hoas hok (fileParts blocksize input)
  obtain ⟨outs, hcalls, hflat, hfr⟩ := renderAll_calls c objs dss hoas _ out hout
  refine ⟨run chans speakers gain f M outs, by simp only [runFile, hcalls], ?_, rfl,
    run_channel_count _ _ _ _ _ _ (hn ▸ hfr)⟩
  rw [run_frame_count, ← List.length_flatten, hflat, List.length_map, hlen, (fileParts_spec blocksize hbs input).1]

/-- `renderer.render(...)` of the C02/C03 renderer model (`Model/OverlapSave.lean`) as an entry point of `renderCalls`. -/
def mRenderOS {n : Nat} (c : Cfg (Earverif.Stream.Frame n)) (st : RStateOS (Earverif.Stream.Frame n))
    (b : List (List Rat)) :
    Except (ChkErr Earverif.Timeline.Err) (RStateOS (Earverif.Stream.Frame n) × List (List Rat)) :=
  match st.render c b with
  | .error e => .error e
  | .ok (st', o) => .ok (st', o.map rowList)

/-- `renderer.get_tail(...)`. -/
def mTailOS {n : Nat} (c : Cfg (Earverif.Stream.Frame n)) (st : RStateOS (Earverif.Stream.Frame n)) :
    Except (ChkErr Earverif.Timeline.Err) (List (List Rat)) :=
  match st.get_tail c with
  | .error e => .error e
  | .ok (_, t) => .ok (t.map rowList)

-- the option: as for `renderAll_calls` above
set_option smartUnfolding false in
theorem renderAllOS_calls {n : Nat} (c : Cfg (Earverif.Stream.Frame n)) (objs dss hoas)
    (parts : List (List (List Rat))) (out : List (Earverif.Stream.Frame n))
    (h : renderAllOS c objs dss hoas parts = .ok out) :
    ∃ outs, renderCalls (mRenderOS c) (mTailOS c) (RStateOS.init c objs dss hoas) parts = .ok outs ∧
      outs.flatten = out.map rowList ∧ ∀ b ∈ outs, ∀ fr ∈ b, fr.length = n := by
  obtain ⟨outs, h1, h2, h3⟩ := renderCalls_of_ok rowList (RStateOS.render c) _ parts _ out h
  refine ⟨outs, h1, h2, fun b hb fr hfr => ?_⟩
  obtain ⟨w, rfl⟩ := h3 b hb fr hfr
  exact rowList_length w

/-- **Frames out = frames in**, end to end on the two models: whatever the blocking of the input (`parts`, as produced
by `iter_sample_blocks(8192)`), if the session is inside the static conditions (`SessionWF`: accepted timelines, tracks
inside the input, decode matrices of the right width, ≥ 1 tap), the renderer succeeds and the file written from its
output has exactly `parts.flatten.length` frames, each with `nChannels` samples when the layout has `n` channels. -/
theorem file_frames_eq_input {n : Nat} (c : Cfg (Earverif.Stream.Frame n))
    (objs : List (ObjItem (Earverif.Stream.Frame n))) (dss : List (DsItem (Earverif.Stream.Frame n)))
    (hoas : List (HoaItem (Earverif.Stream.Frame n)))
    (hok : SessionWF c objs dss hoas) (parts : List (List (List Rat)))
    (chans : List String) (hn : chans.length = n) (speakers gain f M) :
    ∃ out, renderAllOS c objs dss hoas parts = .ok out ∧
      (run chans speakers gain f M [out.map rowList]).frames.length = parts.flatten.length ∧
      ∀ fr ∈ (run chans speakers gain f M [out.map rowList]).frames,
        fr.length = (run chans speakers gain f M [out.map rowList]).nChannels := by
  obtain ⟨out, hout, hlen, -⟩ := C02_length_and_origin_os c objs dss hoas hok parts
  refine ⟨out, hout, ?_, ?_⟩
  · rw [run_frame_count]; simp [hlen]
  · apply run_channel_count
    intro b hb fr hfr
    simp only [List.mem_singleton] at hb
    subst hb
    simp only [List.mem_map] at hfr
    obtain ⟨r, -, rfl⟩ := hfr
    simp [rowList, hn]

/-- The exact (unquantised) output frames: the specified rendering `RenderSpec.out` of the whole input, every sample
scaled by the output gain and routed / scaled by the speakers file's upmix matrix (`outBlock`). -/
def exactOut {n : Nat} (c : Cfg (Earverif.Stream.Frame n)) (objs : List (ObjItem (Earverif.Stream.Frame n)))
    (dss : List (DsItem (Earverif.Stream.Frame n))) (hoas : List (HoaItem (Earverif.Stream.Frame n)))
    (chans : List String) (speakers : Option (List Speaker)) (gain : Rat) (input : List (List Rat)) :
    List (List Rat) :=
  outBlock gain (speakers.map fun sp => upmix sp chans) ((RenderSpec.out c objs dss hoas input).map rowList)

/-- The file run on an accepted session, for any `M`: it succeeds, writes the quantised `exactOut` frames (as many as the
input has, `nChannels` samples each) and fails exactly on an overload of `exactOut`. -/
theorem file_run_spec {n : Nat} (c : Cfg (Earverif.Stream.Frame n))
    (objs : List (ObjItem (Earverif.Stream.Frame n))) (dss : List (DsItem (Earverif.Stream.Frame n)))
    (hoas : List (HoaItem (Earverif.Stream.Frame n)))
    (hok : SessionWF c objs dss hoas) (input : List (List Rat)) (blocksize : Nat) (hbs : 1 ≤ blocksize)
    (chans : List String) (hn : chans.length = n) (speakers : Option (List Speaker)) (gain : Rat) (f : Bool)
    (M : Int) :
    ∃ res, runFile (mRenderOS c) (mTailOS c) (RStateOS.init c objs dss hoas) blocksize chans speakers gain f M input
        = .ok res ∧
      res.frames = (exactOut c objs dss hoas chans speakers gain input).map (·.map (quantise M)) ∧
      res.frames.length = input.length ∧ res.nChannels = nChannels chans speakers ∧
      (∀ fr ∈ res.frames, fr.length = res.nChannels) ∧
      (res.failed = true ↔
        f = true ∧ ∃ fr ∈ exactOut c objs dss hoas chans speakers gain input, ∃ x ∈ fr, 1 < rabs x) := by
  have hout := render_refines_spec_os_ok c objs dss hoas hok.ok hok.taps_ne hok.index (fileParts blocksize input)
  rw [(fileParts_spec blocksize hbs input).1] at hout
  obtain ⟨outs, hcalls, hflat, hfr⟩ := renderAllOS_calls c objs dss hoas _ _ hout
  have hlen : ∀ b ∈ outs, ∀ fr ∈ b, fr.length = chans.length := hn ▸ hfr
  have hframes : (run chans speakers gain f M outs).frames =
      (exactOut c objs dss hoas chans speakers gain input).map (·.map (quantise M)) := by
    simp only [run, exactOut]
    rw [outBlock_flatten, hflat]
  refine ⟨run chans speakers gain f M outs, by simp only [runFile, hcalls], hframes, ?_, rfl,
    run_channel_count _ _ _ _ _ _ hlen, ?_⟩
  · rw [hframes]
    simp [exactOut, outBlock, RenderSpec.out]
  · rw [run_failed_iff_samples _ _ _ _ _ _ hlen, hflat]
    rfl

/-- The C04 sentence "samples equal the in-memory rendering of the selected programme scaled by the output gain and
routed and scaled as the speakers file says, to within one quantisation step" as one theorem from input audio and
metadata to file codes. For every session inside the static conditions (`SessionWF`), every input file content `input`
and every block size `≥ 1` (8192 in `OfflineRenderDriver`), the run — reading with `iter_sample_blocks(blocksize)` (C18's
specification), one `render` per block and one `get_tail` (the C02/C03 renderer model with the overlap-save convolver),
scaling, upmixing, monitoring and writing each returned block (`FileRender.run`) —
- raises no renderer exception and returns the result record `res` (the file has then been written completely; the real
  `run` afterwards raises "error: output overloaded" iff `res.failed`);
- writes exactly `input.length` frames of `nChannels` samples;
- writes, frame by frame, `quantise M` of the exact frames `exactOut` = `gain · U · RenderSpec.out(input)`: the renderer's
  block structure, the convolver's latency compensation and the tail have disappeared;
- every written code is within one quantisation step of the exact sample times `M` when that sample is inside full scale,
  and is `±M` (clipped) otherwise;
- **fails (`res.failed`) exactly when `fail_on_overload` is set and some sample of `exactOut` exceeds full scale in
  magnitude** (the property's last sentence, about the specified output of the whole input, not about renderer blocks).
`M > 0` is a free parameter: the code uses `M = 2^(bits−1) − 1` of the INPUT file's bit depth, which this model does not
carry. -/
theorem file_samples_eq_spec {n : Nat} (c : Cfg (Earverif.Stream.Frame n))
    (objs : List (ObjItem (Earverif.Stream.Frame n))) (dss : List (DsItem (Earverif.Stream.Frame n)))
    (hoas : List (HoaItem (Earverif.Stream.Frame n)))
    (hok : SessionWF c objs dss hoas) (input : List (List Rat)) (blocksize : Nat) (hbs : 1 ≤ blocksize)
    (chans : List String) (hn : chans.length = n) (speakers : Option (List Speaker)) (gain : Rat) (f : Bool)
    (M : Int) (hM : 0 < M) :
    ∃ res, runFile (mRenderOS c) (mTailOS c) (RStateOS.init c objs dss hoas) blocksize chans speakers gain f M input
        = .ok res ∧
      res.frames = (exactOut c objs dss hoas chans speakers gain input).map (·.map (quantise M)) ∧
      res.frames.length = input.length ∧ res.nChannels = nChannels chans speakers ∧
      (∀ fr ∈ res.frames, fr.length = res.nChannels) ∧
      (∀ fr ∈ exactOut c objs dss hoas chans speakers gain input, ∀ x ∈ fr,
        (-1 ≤ x → x ≤ 1 → ((quantise M x : Int) : Rat) - x * M < 1 ∧ x * M - ((quantise M x : Int) : Rat) < 1) ∧
        (1 < x → quantise M x = M) ∧ (x < -1 → quantise M x = -M)) ∧
      (res.failed = true ↔
        f = true ∧ ∃ fr ∈ exactOut c objs dss hoas chans speakers gain input, ∃ x ∈ fr, 1 < rabs x) := by
  obtain ⟨res, h1, h2, h3, h4, h5, h6⟩ :=
    file_run_spec c objs dss hoas hok input blocksize hbs chans hn speakers gain f M
  refine ⟨res, h1, h2, h3, h4, h5, fun fr _ x _ => ⟨fun hx1 hx2 => ?_, (quantise_clips M x).1, (quantise_clips M x).2⟩, h6⟩
  obtain ⟨q1, q2, -, -⟩ := quantise_within_step M hM x hx1 hx2
  exact ⟨q1, q2⟩

-- `hbs` is not used: nothing stated here depends on the block size being positive
set_option linter.unusedVariables false in
/-- **A speakers file without a `speakers` list = no speakers file, end to end** (`eye_identity` composed).
`load_output_layout` returns `n_channels = len(layout.channels)` and `upmix = eye(n_channels)` for such a file
(`load_output_layout_spec`) and `upmix = None` without a file; `runFile`'s `speakers = none` stands for both. For every
session inside `SessionWF`, every input and block size: on the blocks `outs` the renderer returns for the file, the
result record computed with `some (eye n)` (`runU`) IS the one `runFile … none …` returns, and the exact output frames
with `some (eye n)` are `exactOut … none …` of `file_samples_eq_spec`. -/
theorem file_eye_upmix_same {n : Nat} (c : Cfg (Earverif.Stream.Frame n))
    (objs : List (ObjItem (Earverif.Stream.Frame n))) (dss : List (DsItem (Earverif.Stream.Frame n)))
    (hoas : List (HoaItem (Earverif.Stream.Frame n)))
    (hok : SessionWF c objs dss hoas) (input : List (List Rat)) (blocksize : Nat) (hbs : 1 ≤ blocksize)
    (chans : List String) (hn : chans.length = n) (gain : Rat) (f : Bool) (M : Int) :
    ∃ outs, renderCalls (mRenderOS c) (mTailOS c) (RStateOS.init c objs dss hoas) (fileParts blocksize input) = .ok outs ∧
      runFile (mRenderOS c) (mTailOS c) (RStateOS.init c objs dss hoas) blocksize chans none gain f M input =
        .ok (run chans none gain f M outs) ∧
      runU chans.length (some (eye chans.length)) gain f M outs = run chans none gain f M outs ∧
      outBlock gain (some (eye chans.length)) ((RenderSpec.out c objs dss hoas input).map rowList) =
        exactOut c objs dss hoas chans none gain input := by
  have hout := render_refines_spec_os_ok c objs dss hoas hok.ok hok.taps_ne hok.index (fileParts blocksize input)
  obtain ⟨outs, hcalls, -, hfr⟩ := renderAllOS_calls c objs dss hoas _ _ hout
  refine ⟨outs, hcalls, by simp only [runFile, hcalls], run_eye_upmix chans gain f M _ (hn ▸ hfr), ?_⟩
  rw [outBlock_eye gain chans.length _ fun fr hfr => ?_]
  · rfl
  · obtain ⟨r, -, rfl⟩ := List.mem_map.mp hfr
    rw [rowList_length, hn]

/-- Part of `file_run_spec`. -/
theorem file_render_blocks_frames {n : Nat} (c : Cfg (Earverif.Stream.Frame n))
    (objs : List (ObjItem (Earverif.Stream.Frame n))) (dss : List (DsItem (Earverif.Stream.Frame n)))
    (hoas : List (HoaItem (Earverif.Stream.Frame n)))
    (hok : SessionWF c objs dss hoas) (input : List (List Rat)) (blocksize : Nat) (hbs : 1 ≤ blocksize)
    (chans : List String) (hn : chans.length = n) (speakers gain f M) :
    ∃ res, runFile (mRenderOS c) (mTailOS c) (RStateOS.init c objs dss hoas) blocksize chans speakers gain f M input
        = .ok res ∧
      res.frames.length = input.length ∧ res.nChannels = nChannels chans speakers ∧
      ∀ fr ∈ res.frames, fr.length = res.nChannels := by
  obtain ⟨res, h1, -, h3, h4, h5, -⟩ :=
    file_run_spec c objs dss hoas hok input blocksize hbs chans hn speakers gain f M
  exact ⟨res, h1, h3, h4, h5⟩

-- the option: as for `renderAll_calls` above
set_option smartUnfolding false in
/-- **A renderer exception aborts the call sequence**: when the session (`renderAllOS` on the blocks `parts`) raises,
e.g. `IndexError` for a track outside the input file's channels, `renderCalls` on the same blocks returns that exception;
`runFile`, which is `renderCalls` on `fileParts blocksize input`, then returns it and no result. -/
theorem file_render_raises {n : Nat} (c : Cfg (Earverif.Stream.Frame n))
    (objs : List (ObjItem (Earverif.Stream.Frame n))) (dss : List (DsItem (Earverif.Stream.Frame n)))
    (hoas : List (HoaItem (Earverif.Stream.Frame n))) (parts : List (List (List Rat))) (e)
    (h : renderAllOS c objs dss hoas parts = .error e) :
    renderCalls (mRenderOS c) (mTailOS c) (RStateOS.init c objs dss hoas) parts = .error e :=
  renderCalls_of_error rowList (RStateOS.render c) _ parts _ e h

/-! ### Non-vacuity of `SessionWF` at the frame type the theorems use, and the composed statement evaluated

A two-loudspeaker layout (`Frame 2`), one input channel, sample rate 10, `block_size = 2`, a one-tap decorrelation
filter; one DirectSpeakers item on track 0 with a single untimed block, gains `(1, 1/2)`. -/
def exCfgF : Cfg (Earverif.Stream.Frame 2) := ⟨10, 2, [⟨#v[1, 1]⟩], 1⟩
def exDssF : List (DsItem (Earverif.Stream.Frame 2)) := [⟨0, [⟨none, none, none, none, false, none, ⟨#v[1, 1/2]⟩⟩]⟩]

theorem exSessionF_wf : SessionWF exCfgF [] exDssF [] where
  ok :=
    { block_size_pos := by decide
      objs_ok := by intro it hit; cases hit
      dss_ok := by
        intro it hit
        simp only [exDssF, List.mem_cons, List.not_mem_nil, or_false] at hit
        subst hit
        refine ⟨⟨_, rfl⟩, by decide +kernel, ?_⟩
        · intro m ms h
          cases h
          decide +kernel
      hoas_ok := by intro it hit; cases hit }
  index :=
    { obj_tracks := by intro it hit; cases hit
      ds_tracks := by decide
      hoa_tracks := by intro it hit; cases hit
      hoa_nonempty := by intro it hit; cases hit
      hoa_gains := by intro it hit; cases hit }
  taps_ne := by decide

/-- The whole chain evaluated by the kernel on a three-frame file read in blocks of two frames (16-bit codes,
output gain 1/2, no speakers file): `input·(1, 1/2)·gain·32767`, truncated. -/
example : (runFile (mRenderOS exCfgF) (mTailOS exCfgF) (RStateOS.init exCfgF [] exDssF []) 2 ["M+030", "M-030"] none
    (1/2) false 32767 [[1], [-1/2], [1/4]]).toOption.map (·.frames) =
    some [[16383, 8191], [-8191, -4095], [4095, 2047]] := by decide +kernel

/-- The failure conjunct of `file_samples_eq_spec` evaluated: a loud frame (`3·(1, 1/2)·1/2 = (3/2, 3/4)`) with
`fail_on_overload` fails, the same file without the option does not, a quiet file with the option does not; the
overloaded sample is written clipped. -/
example : ((runFile (mRenderOS exCfgF) (mTailOS exCfgF) (RStateOS.init exCfgF [] exDssF []) 2 ["M+030", "M-030"] none
      (1/2) true 32767 [[1], [3], [1/4]]).toOption.map fun r => (r.failed, r.frames)) =
    some (true, [[16383, 8191], [32767, 24575], [4095, 2047]]) := by decide +kernel
example : (runFile (mRenderOS exCfgF) (mTailOS exCfgF) (RStateOS.init exCfgF [] exDssF []) 2 ["M+030", "M-030"] none
      (1/2) false 32767 [[1], [3], [1/4]]).toOption.map (·.failed) = some false := by decide +kernel
example : (runFile (mRenderOS exCfgF) (mTailOS exCfgF) (RStateOS.init exCfgF [] exDssF []) 2 ["M+030", "M-030"] none
      (1/2) true 32767 [[1], [-1/2], [1/4]]).toOption.map (·.failed) = some false := by decide +kernel
example : ∃ fr ∈ exactOut exCfgF [] exDssF [] ["M+030", "M-030"] none (1/2) [[1], [3], [1/4]], ∃ x ∈ fr, 1 < rabs x :=
  ⟨[3/2, 3/4], by decide +kernel, 3/2, by decide +kernel, by decide +kernel⟩

end Earverif.FileRender
