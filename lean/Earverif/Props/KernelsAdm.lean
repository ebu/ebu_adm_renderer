/-
Kernel ties, group `KernelsAdm` (see `harness/kernels.py` and the header of `Props/Kernels.lean`): `ear/fileio/adm/time_format.py`
and `ear/fileio/adm/generate_ids.py` (property C08).

`Earverif/Gen/KernelsAdm.lean` is regenerated on every run from the Python SOURCE of the functions below; each theorem here states
that the regenerated definition equals the hand-written model definition (`Model/TimeFormat.lean`, `Model/GenIds.lean`) that the
C08 theorems are about.  Strings are `List Char`; f-strings and `str.format` go through `Model/C08Digits.lean`
(`{x}` of a natural = `decStr`, `{x:02d}` = `decPad 2`, `{x:04X}` = `hexPad 4`; one-character literals are `[c]`, longer ones
`"..".toList`).  Where the model has no separate def for the translated piece, the theorem states the model function with the
translated def in place of its own expression.

Only core Lean.  Proof notes: `unfold` (not `simp only [f]`) on definitions that contain string literals - `simp` visiting
`"APR_".toList` evaluates the literal and takes seconds.  Where the source writes `… + '_' + …` the two sides differ by one
re-association (`(x ++ ['_']) ++ y` against `x ++ '_' :: y`): `List.append_assoc` is tried before `rfl`, because a failing `rfl`
evaluates the literal first.
-/
import Earverif.Gen.KernelsAdm
import Earverif.Model.TimeFormat
import Earverif.Model.GenIds

-- simp sets below carry lemmas that only a behaviour-preserving rewrite of the source needs
set_option linter.unusedSimpArgs false

namespace Earverif.Kernels
open Earverif Earverif.Digits

/-! ### C08 — time_format -/

theorem unparse_whole_part_eq_model (s : Nat) : Gen.unparse_whole_part s = TimeFormat.wholePart s := by
  simp only [Gen.unparse_whole_part, TimeFormat.wholePart, List.append_assoc, List.cons_append, List.nil_append]

theorem unparse_fractional_fmt_eq_model (n d : Nat) :
    TimeFormat.unparseFractional n d = Gen.unparse_fractional_fmt (TimeFormat.wholePart (n / d)) (n % d) d := by
  simp only [Gen.unparse_fractional_fmt, TimeFormat.unparseFractional, List.append_assoc, List.cons_append,
    List.nil_append]

/-- the right-hand side restates the formula (the model has no definition of its own for it); the tie to the model is
`parse_time_frac_eq_model` below, which uses this -/
theorem from_fraction_eq_model (q : Rat) (d : Nat) : Gen.from_fraction q d = (q * (d : Rat), d) := by
  first | rfl | (unfold Gen.from_fraction; rw [Rat.mul_comm])

theorem parse_time_frac_value (hh mm ss n d : Nat) :
    Gen.parse_time_frac hh mm ss n d =
      if n < d then some ((((((hh * 60 + mm) * 60 + ss) * d + n : Nat) : Rat) / (d : Rat)), d) else none := by
  simp only [Gen.parse_time_frac]
  by_cases hlt : n < d
  · have hd : (d : Rat) ≠ 0 := by
      intro h0
      have := Rat.natCast_eq_zero_iff.mp h0
      omega
    have hle : ¬ d ≤ n := by omega
    simp only [hlt, hle, not_true_eq_false, if_true, if_false, Rat.natCast_add, Rat.natCast_mul, Rat.natCast_ofNat]
    congr 2
    grind
  · have hle : d ≤ n := by omega
    simp only [hlt, hle, not_false_eq_true, if_true, if_false]

/-- the fractional branch of `parse_time` inside the model's `parseTail`: the `num` and `den` groups are `num`, `den` -/
theorem parse_time_frac_eq_model (hh mm ss : Nat) (r num rest den : List Char)
    (h1 : TimeFormat.digits1 r = some (num, 'S' :: rest)) (h2 : TimeFormat.digits1 rest = some (den, [])) :
    TimeFormat.parseTail ((hh * 60 + mm) * 60) ss r =
      (Gen.parse_time_frac hh mm ss (decNat num) (decNat den)).map fun p =>
        TimeFormat.Time.frac (Gen.from_fraction p.1 p.2).1.num.toNat (Gen.from_fraction p.1 p.2).2 := by
  rw [parse_time_frac_value]
  have hnum : ∀ k : Nat, ((k : Rat)).num.toNat = k := by intro k; simp
  simp only [TimeFormat.parseTail, h1, from_fraction_eq_model, Option.bind_eq_bind, Option.bind_some]
  rw [h2]
  simp only [Option.bind_some]
  split <;> rename_i h
  · have hd : ((decNat den : Nat) : Rat) ≠ 0 := by
      intro h0
      have := Rat.natCast_eq_zero_iff.mp h0
      omega
    simp only [Option.map_some, Rat.div_mul_cancel hd, hnum]
  · rfl

theorem parse_time_dec_eq_model (hh mm ss : Nat) (r num : List Char) (h1 : TimeFormat.digits1 r = some (num, [])) :
    TimeFormat.parseTail ((hh * 60 + mm) * 60) ss r =
      some (.dec (Gen.parse_time_dec hh mm
        (mkRat ((ss * 10 ^ num.length + decNat num : Nat) : Int) (10 ^ num.length)))) := by
  simp only [TimeFormat.parseTail, h1, Gen.parse_time_dec]
  rfl

/-! ### C08 — generate_ids: the ten id formats and the ten counter start values -/

theorem id_apr_eq_model (i : Nat) : Gen.id_apr i = GenIds.aprId i := by
  unfold Gen.id_apr GenIds.aprId
  first | rfl | (simp only [List.append_assoc]; rfl)
theorem id_aco_eq_model (i : Nat) : Gen.id_aco i = GenIds.acoId i := by
  unfold Gen.id_aco GenIds.acoId
  first | rfl | (simp only [List.append_assoc]; rfl)
theorem id_ao_eq_model (i : Nat) : Gen.id_ao i = GenIds.aoId i := by
  unfold Gen.id_ao GenIds.aoId
  first | rfl | (simp only [List.append_assoc]; rfl)
theorem id_avs_eq_model (i j : Nat) : Gen.id_avs i j = GenIds.avsId i j := by
  unfold Gen.id_avs GenIds.avsId
  first | exact List.append_assoc _ _ _ | rfl | (simp only [List.append_assoc]; rfl)
theorem id_ap_eq_model (t i : Nat) : Gen.id_ap t i = GenIds.apId t i := by
  unfold Gen.id_ap GenIds.apId
  first | rfl | (simp only [List.append_assoc]; rfl)
theorem id_ac_eq_model (t i : Nat) : Gen.id_ac t i = GenIds.acId t i := by
  unfold Gen.id_ac GenIds.acId
  first | rfl | (simp only [List.append_assoc]; rfl)
theorem id_ab_eq_model (t i b : Nat) : Gen.id_ab t i b = GenIds.abId t i b := by
  unfold Gen.id_ab GenIds.abId
  first | exact List.append_assoc _ _ _ | rfl | (simp only [List.append_assoc]; rfl)
theorem id_as_eq_model (t i : Nat) : Gen.id_as t i = GenIds.asId t i := by
  unfold Gen.id_as GenIds.asId
  first | rfl | (simp only [List.append_assoc]; rfl)
theorem id_at_eq_model (t i k : Nat) : Gen.id_at t i k = GenIds.atId t i k := by
  unfold Gen.id_at GenIds.atId
  first | exact List.append_assoc _ _ _ | rfl | (simp only [List.append_assoc]; rfl)
theorem id_atu_eq_model (i : Nat) : Gen.id_atu i = GenIds.atuId i := by
  unfold Gen.id_atu GenIds.atuId
  first | rfl | (simp only [List.append_assoc]; rfl)
theorem ids_start_apr_eq_model : Gen.ids_start_apr = GenIds.firstId := by first | rfl | decide
theorem ids_start_aco_eq_model : Gen.ids_start_aco = GenIds.firstId := by first | rfl | decide
theorem ids_start_ao_eq_model : Gen.ids_start_ao = GenIds.firstId := by first | rfl | decide
theorem ids_start_avs_eq_model : Gen.ids_start_avs = 1 := by first | rfl | decide
theorem ids_start_ap_eq_model : Gen.ids_start_ap = GenIds.firstId := by first | rfl | decide
theorem ids_start_ac_eq_model : Gen.ids_start_ac = GenIds.firstId := by first | rfl | decide
theorem ids_start_ab_eq_model : Gen.ids_start_ab = 1 := by first | rfl | decide
theorem ids_start_as_eq_model : Gen.ids_start_as = GenIds.firstId := by first | rfl | decide
theorem ids_start_at_eq_model : Gen.ids_start_at = 1 := by first | rfl | decide
theorem ids_start_atu_eq_model : Gen.ids_start_atu = 1 := by first | rfl | decide

/-- The ten start values, tied to the model's `generateIds` itself (not to a restated literal): with the counters of
`generate_ids` starting where the source says, the model's output is what it is. -/
theorem ids_starts_generate (x : GenIds.Input) (h : x.unlinkedTracks = 0) :
    GenIds.generateIds x = some {
      programmes := (List.range' Gen.ids_start_apr x.nProgrammes).map GenIds.aprId
      contents := (List.range' Gen.ids_start_aco x.nContents).map GenIds.acoId
      objects := (GenIds.enumFrom Gen.ids_start_ao x.objects).map fun p => GenIds.aoId p.1
      avs := (GenIds.enumFrom Gen.ids_start_ao x.objects).map fun p =>
        (List.range' Gen.ids_start_avs p.2).map (GenIds.avsId p.1)
      packs := (GenIds.enumFrom Gen.ids_start_ap x.packs).map fun p => GenIds.apId p.2 p.1
      channels := (GenIds.enumFrom Gen.ids_start_ac x.channels).map fun p => GenIds.acId p.2.1 p.1
      blocks := (GenIds.enumFrom Gen.ids_start_ac x.channels).map fun p =>
        (List.range' Gen.ids_start_ab p.2.2).map (GenIds.abId p.2.1 p.1)
      streams := (GenIds.enumFrom Gen.ids_start_as x.streams).map fun p => GenIds.asId p.2.1 p.1
      tracks := (GenIds.enumFrom Gen.ids_start_as x.streams).map fun p =>
        (List.range' Gen.ids_start_at p.2.2).map (GenIds.atId p.2.1 p.1)
      trackUIDs := (List.range' Gen.ids_start_atu x.nTrackUIDs).map GenIds.atuId } := by
  unfold GenIds.generateIds
  rw [if_neg (by simp [h])]
  rfl

-- the hypothesis `h` of `ids_starts_generate` is satisfiable
example : (⟨2, 1, [1, 0], [3], [(1, 2)], [(1, 1)], 0, 2⟩ : GenIds.Input).unlinkedTracks = 0 := rfl

end Earverif.Kernels
