/-
C13 — Zone exclusion silences excluded loudspeakers; channel lock selects one.

Property theorems.  Models: `Earverif/Model/Zone.lean`, `Earverif/Model/ChannelLock.lean`,
`Earverif/Model/CartLock.lean` (`renderCartLock`, `renderPolarLock`: the two paths of
`GainCalc.render` for a point object with zone exclusion and channel lock, in the order the
real code uses); helper lemmas: `Earverif/Proofs/C13*.lean`;
per-layout tables regenerated from /repo on every run: `Earverif/Gen/C13_Tables.lean` (+ C05's region tables and
C01's `LayoutTable`s for sections 12 / 13, where the polar `pan` is the concrete C05 panner / the concrete
`PolarExtentHandler.handle(·, 0, 0, 0)` of C01 around it).  Sections 5 and 8 hold the identity cases of screen scaling
(`screen_identity`, `screen_position_identity`, `compensate_identity_*`), modelled in `Model/ChannelLock.lean` (5) and
`Model/CartLock.lean` (8).
Theorems of `Props/C05` (`PointSource.quad_corner`, `tables_wellFormed`, `pspHandle_exact_at_speaker_layouts`) arrive
through `Proofs/C13Extent` → `Proofs/C01Psp`.

Wording: "zones full" means *full on the polar path; Cartesian: exactly characterised plus the
recorded counter-example* (`cart_reset_characterised`, `cart_zone_not_silent_witness`).
"Within maxDistance" is, in the code and in every statement here, the strict comparison
`distance < maxDistance + 1e-5` on the unweighted distance.
-/
import Earverif.Proofs.C13Zone
import Earverif.Proofs.C13Lock
import Earverif.Gen.C13_Tables
import Earverif.Proofs.C13Real
import Earverif.Proofs.C13Allo
import Earverif.Proofs.C13CartLock
import Earverif.Proofs.C13Polar
import Earverif.Proofs.C13LockReal
import Earverif.Proofs.C13PolarLock
import Earverif.Proofs.C13Extent
import Earverif.Gen.C01_Tables
import Earverif.Proofs.C13ZoneSpec
import Earverif.Proofs.C13AngleRange

namespace Earverif.C13
open Earverif.Zone Earverif.Zone.Scalar Earverif.Zone.ScalarSqrt Earverif.Lock Earverif.CartLock

/-! ## 1. Priority-group structures and the downmix matrix -/

/-- The structural facts about `ZoneExclusionDownmix.channel_groups` that the theorems need:
one group list per channel; members are channel indices; no group repeats a member; and the
groups of a channel together cover every channel (they partition the layout in the real
code, so whenever some loudspeaker is left there is a usable group).  C01 checks the same tables with its own
`GainCalc.groupsOk`, which asks for the partition; no lemma relates the two. -/
def groupsOK (n : Nat) (gs : List (List (List Nat))) : Bool :=
  gs.length == n &&
  gs.all fun g =>
    g.all (fun grp => grp.all (· < n) && nodupB grp) &&
    (List.range n).all fun j => g.any fun grp => grp.contains j

def someNotAll (mask : List Bool) : Prop := mask.all id = false ∧ mask.all (fun b => !b) = false

instance (mask : List Bool) : Decidable (someNotAll mask) := by unfold someNotAll; infer_instance

theorem groupsOK_row {n : Nat} {gs : List (List (List Nat))} (h : groupsOK n gs = true) :
    gs.length = n ∧ ∀ g ∈ gs,
      (∀ grp ∈ g, (∀ x ∈ grp, x < n) ∧ nodupB grp = true) ∧
      ∀ j, j < n → ∃ grp ∈ g, j ∈ grp := by
  simp only [groupsOK, Bool.and_eq_true, beq_iff_eq, List.all_eq_true, decide_eq_true_eq,
    List.any_eq_true, List.contains_eq_mem, List.mem_range] at h
  refine ⟨h.1, fun g hg => ⟨fun grp hgrp => ?_, fun j hj => ?_⟩⟩
  · exact (h.2 g hg).1 grp hgrp
  · exact (h.2 g hg).2 j hj

theorem exists_not_excluded : ∀ (mask : List Bool), mask.all id = false →
    ∃ j, j < mask.length ∧ isExcl mask j = false
  | [], h => nomatch h
  | false :: m, _ => ⟨0, Nat.succ_pos m.length, rfl⟩
  | true :: m, h =>
    let ⟨j, hj, hje⟩ := exists_not_excluded m h
    ⟨j + 1, Nat.succ_lt_succ hj, hje⟩

/-- With covering groups the `for … else: assert False` is never reached. -/
theorem downmixRow_defined {α : Type} [Scalar α] (n : Nat) (mask : List Bool) (j : Nat)
    (hje : isExcl mask j = false) (g : List (List Nat)) (h : ∃ grp ∈ g, j ∈ grp) :
    (downmixRow (α := α) n mask g).isSome := by
  obtain ⟨grp, hgrp, hj⟩ := h
  rw [downmixRow_eq_find?, Option.isSome_map, List.find?_isSome]
  exact ⟨grp, hgrp, by simpa using ⟨j, hj, hje⟩⟩

theorem downmix_defined (n : Nat) (gs : List (List (List Nat))) (mask : List Bool)
    (hg : groupsOK n gs = true) (hlen : mask.length = n) :
    ∃ D : List (List Rat), downmixForExcluded n gs mask = some D ∧ D.length = n := by
  obtain ⟨hgl, hrows⟩ := groupsOK_row hg
  unfold downmixForExcluded
  rw [if_neg (by rw [hlen, bne_self_eq_false]; exact Bool.false_ne_true)]
  split
  · exact ⟨eye n, rfl, by simp [eye]⟩
  · rename_i htriv
    have hnall : mask.all id = false := (Bool.or_eq_false_iff.mp (Bool.not_eq_true _ ▸ htriv)).1
    obtain ⟨j, hj, hje⟩ := exists_not_excluded mask hnall
    obtain ⟨D, hD⟩ := mapM_some_of_forall (downmixRow (α := Rat) n mask) gs fun g hgm =>
      Option.isSome_iff_exists.mp (downmixRow_defined n mask j hje g ((hrows g hgm).2 j (by omega)))
    exact ⟨D, mapOpt_eq_mapM _ _ ▸ hD, by rw [mapM_some_length hD]; omega⟩

theorem eye_row_sum (n i : Nat) (hi : i < n) :
    sumList ((List.range n).map fun j => if i == j then (1 : Rat) else 0) = 1 := by
  rw [sumList_rat, ← indRow_singleton, indRow_singleton_sum n i hi]

/-- Over the rationals: the entries of a row are `1/k` on `k` distinct channels. -/
theorem downmix_rows_sum_one (n : Nat) (gs : List (List (List Nat))) (mask : List Bool)
    (hg : groupsOK n gs = true) (D : List (List Rat)) (hD : downmixForExcluded n gs mask = some D) :
    ∀ row ∈ D, sumList row = 1 := by
  obtain ⟨hgl, hrows⟩ := groupsOK_row hg
  intro row hrow
  rcases downmixForExcluded_rows hD row hrow with ⟨_, i, hi, rfl⟩ | ⟨_, g, hgm, grp, hgrp, hnotall, rfl⟩
  · simpa using eye_row_sum n i hi
  · obtain ⟨hlt, hnd⟩ := (hrows g hgm).1 grp hgrp
    exact groupRow_sum_rat n _ (nodupB_filter grp _ hnd) (fun x hx => hlt x (List.mem_filter.mp hx).1)
      (notExcluded_pos mask grp hnotall)

theorem downmix_nonneg (n : Nat) (gs : List (List (List Nat))) (mask : List Bool)
    (D : List (List Rat)) (hD : downmixForExcluded n gs mask = some D) :
    ∀ row ∈ D, ∀ x ∈ row, (0 : Rat) ≤ x := by
  intro row hrow x hx
  rcases downmixForExcluded_rows hD row hrow with ⟨_, i, _, rfl⟩ | ⟨_, g, _, grp, _, _, rfl⟩
  · obtain ⟨j, _, rfl⟩ := List.mem_map.mp hx
    by_cases h : (i == j) = true <;> simp [h]
  · exact indRow_nonneg n _ (c := 1 / ((notExcluded mask grp).length : Rat)) (by positivity) x hx

theorem downmix_excluded_col_zero {α : Type} [Scalar α] (n : Nat) (gs : List (List (List Nat)))
    (mask : List Bool) (hsna : someNotAll mask)
    (D : List (List α)) (hD : downmixForExcluded n gs mask = some D)
    (j : Nat) (hj : isExcl mask j = true) :
    ∀ row ∈ D, row.getD j zero = zero := by
  intro row hrow
  rcases downmixForExcluded_rows hD row hrow with ⟨ht, _⟩ | ⟨_, g, _, grp, _, _, rfl⟩
  · rw [hsna.1, hsna.2] at ht; exact absurd ht (by decide)
  · exact groupRow_getD_of_not_mem n _ j (not_mem_notExcluded mask grp j hj)

/-! ## 2. Excluded loudspeakers get exactly zero gain -/

/-- **Polar path.** When the zone list excludes some but not all loudspeakers, the direct and
the diffuse gain of every excluded loudspeaker `j` are exactly zero — for every output of the
extent/point-source panner (`pans`), every divergence weighting `dg`, gain and diffuseness,
in any scalar type satisfying `ZeroLaws`.  (`renderPolar` is run, over `Float`, against the real
`render` on per-position gains and divergence weights captured inside the real call: driver op
`rp`; with channel lock it is the tail of `renderPolarLock`, section 10.) -/
theorem polar_excluded_gain_zero {α : Type} [ScalarSqrt α] (hz : ZeroLaws α)
    (n : Nat) (gs : List (List (List Nat))) (mask : List Bool) (hsna : someNotAll mask)
    (pans : List (List α)) (dg : List α) (gain diffuse : α)
    (j : Nat) (hj : j < n) (hex : isExcl mask j = true)
    (out : List α × List α) (hr : renderPolar n gs mask pans dg gain diffuse = some out) :
    out.1[j]? = some zero ∧ out.2[j]? = some zero := by
  obtain ⟨D, hD, rfl⟩ := renderPolar_eq_some.mp hr
  apply finishGains_zero hz
  exact applyDownmix_zero hz n _ D j hj (downmix_excluded_col_zero n gs mask hsna D hD j hex)

/-- … and with well-formed groups the downmix matrix of the polar render is defined, so the statement above is not
vacuous. -/
theorem polar_render_defined (n : Nat) (gs : List (List (List Nat))) (mask : List Bool)
    (hg : groupsOK n gs = true) (hlen : mask.length = n) :
    ∃ D : List (List Rat), downmixForExcluded n gs mask = some D := by
  obtain ⟨D, hD, _⟩ := downmix_defined n gs mask hg hlen
  exact ⟨D, hD⟩

/-- **Cartesian path, final mask.** Every loudspeaker in the mask that `render` actually uses
(`allocentric.get_excluded(…)`) has exactly zero direct and diffuse gain. -/
theorem cart_excluded_gain_zero_on_final_mask {α : Type} [ScalarSqrt α] (hz : ZeroLaws α)
    (final : List Bool) (pans : List (List α)) (dg : List α) (gain diffuse : α)
    (j : Nat) (hex : final[j]? = some true) :
    (renderCart final pans dg gain diffuse).1[j]? = some zero ∧
    (renderCart final pans dg gain diffuse).2[j]? = some zero := by
  unfold renderCart
  apply finishGains_zero hz
  apply powerSum_zero hz _ _ _ j (List.getElem?_eq_some_iff.mp hex).1
  intro row hrow
  simp only [List.mem_map] at hrow
  obtain ⟨g, _, rfl⟩ := hrow
  exact scatter_getD final g j hex

/-- **Cartesian path, characterisation of the reset.** A loudspeaker `j` excluded by the zone
list is missing from the final mask *exactly when* the row extension of the zone mask covers
every loudspeaker; in that case the final mask is empty (nothing at all is excluded).
Otherwise the final mask contains the zone mask. -/
theorem cart_reset_characterised {α : Type} [Scalar α] (pos : List (P3 α)) (mask : List Bool)
    (hlen : pos.length = mask.length) (j : Nat) (hj : isExcl mask j = true) :
    (isExcl (alloExcluded pos mask) j = false ↔ (alloExtend pos mask).all id = true) ∧
    ((alloExtend pos mask).all id = true → alloExcluded pos mask = (alloExtend pos mask).map fun _ => false) ∧
    ((alloExtend pos mask).all id = false → alloExcluded pos mask = alloExtend pos mask) ∧
    isExcl (alloExtend pos mask) j = true := by
  have hmono : isExcl (alloExtend pos mask) j = true := alloExtendFrom_mono pos pos 0 mask hlen j hj
  refine ⟨⟨fun h => ?_, fun h => ?_⟩, fun h => ?_, fun h => ?_, hmono⟩
  · by_cases hall : (alloExtend pos mask).all id = true
    · exact hall
    · rw [alloExcluded_of_not_all (Bool.not_eq_true _ ▸ hall), hmono] at h
      exact Bool.noConfusion h
  · rw [alloExcluded_of_all h]
    exact isExcl_map_false _ j
  · exact alloExcluded_of_all h
  · exact alloExcluded_of_not_all h

/-! ## 3. The regenerated layout tables -/

def ratOfPair (p : Int × Nat) : Rat := mkRat p.1 p.2

def spkOf (r : List (Int × Nat)) : Spk Rat :=
  match r with
  | [x, y, z, a, e] => ⟨ratOfPair x, ratOfPair y, ratOfPair z, ratOfPair a, ratOfPair e⟩
  | _ => ⟨0, 0, 0, 0, 0⟩

/-- a table row as a position (a row that is not a triple gives zeros; `norm_tables_match` compares `norm` with C05's
table, nothing else states that the tables have no such row) -/
def p3Of (r : List (Int × Nat)) : P3 Rat :=
  match r with
  | [x, y, z] => ⟨ratOfPair x, ratOfPair y, ratOfPair z⟩
  | _ => ⟨0, 0, 0⟩

def azelOf (r : List (Int × Nat)) : Rat × Rat :=
  match r with
  | [a, e] => (ratOfPair a, ratOfPair e)
  | _ => (0, 0)

/-- **Table obligation.** The priority groups that the real `ZoneExclusionDownmix` computes
for each of the ten BS.2051 layouts (regenerated on every run) are well-formed, and all
per-layout tables have one row per channel. -/
theorem tables_groups_ok :
    Gen.C13.layouts.all (fun L =>
      groupsOK L.n L.groups && L.spk.length == L.n && L.allo.length == L.n &&
      L.azel.length == L.n && L.prio.length == L.n &&
      -- every channel's first group is the channel itself (`assert channel_groups_for_i[0] == [i]`)
      (List.range L.n).all (fun i => (L.groups.getD i []).head? == some [i])) = true := by
  decide +kernel

/-- **Table obligation.** The model's priority order (`np.lexsort` key: |elevation|, elevation,
|azimuth|, azimuth) reproduces `channel_priority` of the real handlers on every layout. -/
theorem tables_priorities_ok :
    Gen.C13.layouts.all (fun L => priorities (L.azel.map azelOf) == L.prio) = true := by
  decide +kernel

/-- **Counter-example (known finding `cartesian-zone-extend-reset`).** Layout 0+7+0,
Cartesian zone `x ≤ 0.9` (everything except M-090): the zone list excludes six of the seven
loudspeakers; M+090 sits on the side wall, so its row — which contains M-090 — is added, the
extension covers every loudspeaker and the mask is reset: nothing is excluded and the panner's
gains reach the zone-excluded loudspeakers unchanged. The property as stated is false here. -/
theorem cart_zone_not_silent_witness :
    let L := Gen.C13.L_0_7_0
    let zones : List (Zone Rat) := [.cart (-1) (mkRat 9 10) (-1) 1 (-1) 1]
    let mask := [true, true, true, true, false, true, true]
    getExcluded 4 (L.spk.map spkOf) zones = some mask ∧
    someNotAll mask ∧
    alloExtend (L.allo.map p3Of) mask = [true, true, true, true, true, true, true] ∧
    alloExcluded (L.allo.map p3Of) mask = [false, false, false, false, false, false, false] ∧
    scatter (alloExcluded (L.allo.map p3Of) mask) [1, 2, 3, 4, 5, 6, (7 : Rat)] = [1, 2, 3, 4, 5, 6, 7] := by
  decide +kernel

/-! ## 4. Channel lock -/

/-- No `maxDistance`, exact arithmetic: `lockSelect_none_spec` of `Proofs/C13Lock.lean` at ℚ. -/
theorem lock_returns_speaker_position (tol : Rat) (htol : 0 < tol) (cands : List (Cand Rat))
    (hne : cands ≠ []) :
    ∃ c ∈ cands, lockSelect tol none cands = .locked c.idx ∧
      ∃ m ∈ cands, (∀ c' ∈ cands, m.dw ≤ c'.dw) ∧ c.dw < m.dw + tol ∧
        ∀ c' ∈ cands, c'.dw < m.dw + tol → c.prio ≤ c'.prio :=
  lockSelect_none_spec (fun _ _ => decide_eq_true_iff) tol (fun a => lt_add_of_pos_right a htol) cands hne

theorem lock_limit (tol : Rat) (htol : 0 < tol) (md : Rat) (cands : List (Cand Rat)) :
    let poss := cands.filter fun (c : Cand Rat) => decide (c.d < md + tol)
    (poss = [] ∧ lockSelect tol (some md) cands = .unchanged) ∨
    (∃ c ∈ cands, c.d < md + tol ∧ lockSelect tol (some md) cands = .locked c.idx ∧
      ∃ m ∈ poss, (∀ c' ∈ poss, m.dw ≤ c'.dw) ∧ c.dw < m.dw + tol ∧
        ∀ c' ∈ poss, c'.dw < m.dw + tol → c.prio ≤ c'.prio) := by
  intro poss
  have e : lockSelect tol (some md) cands = lockSelect tol none poss := lockSelect_some_eq tol md cands
  by_cases hp : poss = []
  · left
    refine ⟨hp, ?_⟩
    rw [e, hp]; rfl
  · right
    obtain ⟨c, hc, hsel, m, hm, h1, h2, h3⟩ :=
        lockSelect_none_spec (fun _ _ => decide_eq_true_iff) tol (fun a => lt_add_of_pos_right a htol) poss hp
    have hc' := List.mem_filter.mp hc
    exact ⟨c, hc'.1, by simpa using hc'.2, by rw [e]; exact hsel, m, hm, h1, h2, h3⟩

/-- Any scalar type, in particular the `Float` instance that is run against numpy. -/
theorem lock_index_valid {α : Type} [ScalarSqrt α] (allo : Bool) (pos : List (P3 α)) (prio : List Nat)
    (excluded : List Bool) (p : P3 α) (lock : Option (Option α)) (i : Nat)
    (h : lockHandle allo pos prio excluded p lock = .locked i) :
    i < pos.length ∧ isExcl excluded i = false := by
  cases lock with
  | none => cases h
  | some maxD =>
    obtain ⟨c, hc, rfl⟩ := lockSelect_locked_mem _ _ _ i h
    obtain ⟨j, hj, hex, rfl⟩ := mem_lockCands.mp hc
    exact ⟨hj, hex⟩

/-- **Nearest, ties by priority — on what renders (over ℝ).** Whenever the handler that
`renderCartLock` / `renderPolarLock` execute (`lockHandle`, allocentric or egocentric) locks to
loudspeaker `i`, that loudspeaker is the one the documented rule selects (`NearestByRule`). -/
theorem lockHandle_nearest (allo : Bool) (pos : List (P3 ℝ)) (prio : List Nat) (excluded : List Bool) (p : P3 ℝ)
    (maxD : Option ℝ) (i : Nat) (h : lockHandle allo pos prio excluded p (some maxD) = .locked i) :
    NearestByRule allo pos prio excluded p maxD i := by
  rcases lockHandle_spec allo pos prio excluded p maxD with ⟨_, hu⟩ | ⟨i', hc, hsel, rest⟩
  · rw [hu] at h; exact LockOut.noConfusion h
  · rw [hsel] at h
    injection h with h
    subst h
    exact ⟨hc, rest⟩

/-- **"… or rendered exactly as if unlocked", first half**: the handler returns the position
unchanged exactly when no loudspeaker is a candidate. -/
theorem lockHandle_unchanged_iff (allo : Bool) (pos : List (P3 ℝ)) (prio : List Nat) (excluded : List Bool) (p : P3 ℝ)
    (maxD : Option ℝ) :
    lockHandle allo pos prio excluded p (some maxD) = .unchanged ↔ ∀ j, ¬ LockCandidate pos excluded p maxD j := by
  rcases lockHandle_spec allo pos prio excluded p maxD with ⟨hno, hu⟩ | ⟨i', hc, hsel, _⟩
  · exact ⟨fun _ => hno, fun _ => hu⟩
  · constructor
    · intro h; rw [hsel] at h; exact LockOut.noConfusion h
    · intro h; exact absurd hc (h i')

/-- Over ℝ the `ValueError` of the empty `argmin` cannot happen (the tolerance is positive). -/
theorem lockHandle_never_error (allo : Bool) (pos : List (P3 ℝ)) (prio : List Nat) (excluded : List Bool) (p : P3 ℝ)
    (lock : Option (Option ℝ)) : lockHandle allo pos prio excluded p lock ≠ .error := by
  cases lock with
  | none => intro h; exact LockOut.noConfusion h
  | some maxD =>
    rcases lockHandle_spec allo pos prio excluded p maxD with ⟨_, hu⟩ | ⟨i', _, hsel, _⟩
    · rw [hu]; intro h; exact LockOut.noConfusion h
    · rw [hsel]; intro h; exact LockOut.noConfusion h

theorem lockHandle_no_limit_locks (allo : Bool) (pos : List (P3 ℝ)) (prio : List Nat) (excluded : List Bool) (p : P3 ℝ)
    (j : Nat) (hj : j < pos.length) (hex : isExcl excluded j = false) :
    ∃ i, lockHandle allo pos prio excluded p (some none) = .locked i := by
  rcases lockHandle_spec allo pos prio excluded p none with ⟨hno, _⟩ | ⟨i', _, hsel, _⟩
  · exact absurd ⟨hj, hex, fun md h => by simp at h⟩ (hno j)
  · exact ⟨i', hsel⟩

/-- The unit gain vector `e_i` over any scalar; over ℝ the later sections write `unitR` (`Proofs/C13PolarLock.lean`). -/
def unitVec {α : Type} [Scalar α] (n i : Nat) : List α :=
  (List.range n).map fun j => if j == i then one else zero

/-- **`_partial`: "reproduced by exactly one loudspeaker", any scalar type, total `pan`.** *Hypothesis* `hexact`: the
panner `pan` is exact at loudspeaker positions (`pan(position of i) = e_i`; over ℝ: `allo_exact_at_speaker`,
`pspHandle_exact_at_norm`).  Under it, a locked object is panned to the unit vector of a non-excluded loudspeaker of
the layout, so exactly that one loudspeaker is non-zero. -/
theorem lock_one_speaker_partial {α : Type} [ScalarSqrt α] (pan : P3 α → List α)
    (allo : Bool) (pos : List (P3 α)) (prio : List Nat) (excluded : List Bool) (p : P3 α)
    (maxD : Option α) (i : Nat)
    (hexact : ∀ k (c : P3 α), pos[k]? = some c → pan c = unitVec pos.length k)
    (h : lockHandle allo pos prio excluded p (some maxD) = .locked i) :
    ∃ c, pos[i]? = some c ∧ isExcl excluded i = false ∧ pan c = unitVec pos.length i ∧
      (pan c)[i]? = some one ∧ ∀ j, j < pos.length → j ≠ i → (pan c)[j]? = some zero := by
  obtain ⟨hi, hex⟩ := lock_index_valid allo pos prio excluded p (some maxD) i h
  refine ⟨pos[i], List.getElem?_eq_getElem hi, hex, hexact i _ (List.getElem?_eq_getElem hi), ?_, ?_⟩
  · rw [hexact i _ (List.getElem?_eq_getElem hi)]
    unfold unitVec
    rw [List.getElem?_map, List.getElem?_range hi]; simp
  · intro j hj hne
    rw [hexact i _ (List.getElem?_eq_getElem hi)]
    unfold unitVec
    rw [List.getElem?_map, List.getElem?_range hj]; simp [hne]

/-! ## 5. Screen scaling -/

/-- `np.interp` on a table whose `yp` equals its `xp` is the identity inside the table.  (`_hab`, `_hbc`, `_hcd` say that
the table is ascending, as `np.interp` expects; the proof needs `a ≤ x ≤ d` only.) -/
theorem interp4_identity (a b c d x : Rat) (_hab : a ≤ b) (_hbc : b ≤ c) (_hcd : c ≤ d) (hax : a ≤ x) (hxd : x ≤ d) :
    interp4 a b c d a b c d x = x := by
  unfold interp4 interp4.seg
  simp only [rat_lt, rat_le, rat_eq, rat_add, rat_sub, rat_mul, rat_div]
  -- in the segment `[p, q)` holding `x` (so `p < q`) the value is `(q - p) / (q - p) * (x - p) + p = x`; at `x = d` it is `d`
  grind

/-- **Identity.** If the reference screen edges equal the reproduction screen edges (and are
sorted, as `interp_sorted` asserts), `scale_az_el` is the identity on `[−180,180] × [−90,90]`.
Exact arithmetic; in binary64 `(x − a) + a` may differ from `x` in the last bit. -/
theorem screen_identity (e : Edges Rat)
    (h1 : -180 ≤ e.right) (h2 : e.right ≤ e.left) (h3 : e.left ≤ 180)
    (h4 : -90 ≤ e.bottom) (h5 : e.bottom ≤ e.top) (h6 : e.top ≤ 90)
    (az el : Rat) (ha1 : -180 ≤ az) (ha2 : az ≤ 180) (he1 : -90 ≤ el) (he2 : el ≤ 90) :
    scaleAzEl e e az el = some (az, el) := by
  unfold scaleAzEl
  simp only [rat_le, rat_sub, rat_zero, rat_ofNat]
  simp only [Nat.cast_ofNat, zero_sub]
  rw [interp4_identity (-180) e.right e.left 180 az h1 h2 h3 ha1 ha2,
      interp4_identity (-90) e.bottom e.top 90 el h4 h5 h6 he1 he2]
  simp [h1, h2, h3, h4, h5, h6]

/-- **Identity for the whole polar `screenRef` step.** `ScreenScaleHandler.handle` on a polar block
is `scale_position`: `cart(*scale_az_el(azimuth(p), elevation(p)), |p|)`.  With reference screen =
reproduction screen it returns `p` itself, *given* that the conversions round-trip at `p`
(`cart(azimuth(p), elevation(p), |p|) = p` — property C19's subject; the conversions are
parameters of the model) and that `azimuth`/`elevation` land in `[−180,180] × [−90,90]` (the ranges
of `arctan2`).  In floats the round trip holds to ~1e-16, hence the `1e-7` of the search. -/
theorem screen_position_identity (azimuth elevation norm : P3 Rat → Rat) (cart : Rat → Rat → Rat → P3 Rat)
    (e : Edges Rat)
    (h1 : -180 ≤ e.right) (h2 : e.right ≤ e.left) (h3 : e.left ≤ 180)
    (h4 : -90 ≤ e.bottom) (h5 : e.bottom ≤ e.top) (h6 : e.top ≤ 90) (p : P3 Rat)
    (ha1 : -180 ≤ azimuth p) (ha2 : azimuth p ≤ 180) (he1 : -90 ≤ elevation p) (he2 : elevation p ≤ 90)
    (hround : cart (azimuth p) (elevation p) (norm p) = p) :
    scalePosition azimuth elevation norm cart e e p = some p ∧
    screenHandlePolar azimuth elevation norm cart true e (some e) p = some p ∧
    screenHandlePolar azimuth elevation norm cart false e (some e) p = some p := by
  have h : scalePosition azimuth elevation norm cart e e p = some p := by
    unfold scalePosition
    rw [screen_identity e h1 h2 h3 h4 h5 h6 _ _ ha1 ha2 he1 he2]
    simp [hround]
  exact ⟨h, h, rfl⟩

-- non-vacuity: conversions that round-trip at the point (any would do; here constants), default screen edges
example : scalePosition (fun _ => (10 : Rat)) (fun _ => -80) (fun _ => 1) (fun _ _ _ => ⟨1, 2, 3⟩)
    (⟨29, -29, -35 / 2, 35 / 2⟩ : Edges Rat) ⟨29, -29, -35 / 2, 35 / 2⟩ ⟨1, 2, 3⟩ = some ⟨1, 2, 3⟩ :=
  (screen_position_identity _ _ _ _ _ (by decide +kernel) (by decide +kernel) (by decide +kernel) (by decide +kernel)
    (by decide +kernel) (by decide +kernel) _ (by decide +kernel) (by decide +kernel) (by decide +kernel)
    (by decide +kernel) rfl).1

/-! ## 6. The zero laws hold in the reals; non-vacuity -/

theorem zero_laws_real : ZeroLaws ℝ where
  mul_zero x := by show x * 0 = (0 : ℝ); simp
  zero_mul x := by show 0 * x = (0 : ℝ); simp
  add_zero_zero := by show (0 : ℝ) + 0 = 0; simp
  sqrt_zero := Real.sqrt_zero
  nan_zero := rfl

/-! Non-vacuity: concrete inputs satisfying the hypotheses. -/

-- groups of the real 0+5+0 layout are well-formed; a some-but-not-all mask; the matrix exists
example : groupsOK Gen.C13.L_0_5_0.n Gen.C13.L_0_5_0.groups = true := by decide +kernel
example : someNotAll [true, false, false, true, false] := by decide
example : ∃ D : List (List Rat), downmixForExcluded 5 Gen.C13.L_0_5_0.groups [true, false, false, true, false] = some D :=
  polar_render_defined 5 _ _ (by decide +kernel) rfl
-- M+030 and M+110 excluded on 0+5+0: their energy goes to M+000 and M-110 respectively:
example : downmixForExcluded (α := Rat) 5 Gen.C13.L_0_5_0.groups [true, false, false, true, false] =
    some [[0, 0, 1, 0, 0], [0, 1, 0, 0, 0], [0, 0, 1, 0, 0], [0, 0, 0, 0, 1], [0, 0, 0, 0, 1]] := by decide +kernel
-- the polar theorem applies to a defined render over ℝ
example : ∃ out, renderPolar (α := ℝ) 2 [[[0], [1]], [[1], [0]]] [true, false] [[1, 0]] [1] 1 0 = some out :=
  ⟨_, rfl⟩
-- channel lock: two loudspeakers at equal distance, the lower priority value wins
example : lockSelect (1 / 100000 : Rat) none [⟨0, 1, 1, 3⟩, ⟨1, 1, 1, 2⟩, ⟨2, 2, 2, 0⟩] = .locked 1 := by decide +kernel
-- … and a distance limit that nobody meets leaves the position unchanged
example : lockSelect (1 / 100000 : Rat) (some (1 / 2)) [⟨0, 1, 1, 3⟩, ⟨1, 1, 1, 2⟩] = .unchanged := by decide +kernel
-- default screen edges (about ±29°, ±17.5°) satisfy the hypotheses of `screen_identity`
example : scaleAzEl (⟨29, -29, -35 / 2, 35 / 2⟩ : Edges Rat) ⟨29, -29, -35 / 2, 35 / 2⟩ 10 (-80) = some (10, -80) := by
  decide +kernel
-- … and scaling is not the identity for different screens
example : scaleAzEl (⟨29, -29, -35 / 2, 35 / 2⟩ : Edges Rat) ⟨58, -58, -35, 35⟩ 10 5 = some (20, 10) := by
  decide +kernel
-- the row extension that does not cover everything keeps the zone mask (0+7+0, M+000 only is left)
example : alloExcluded (Gen.C13.L_0_7_0.allo.map p3Of) [true, true, false, true, true, true, true] =
    [true, true, false, true, true, true, true] := by decide +kernel

/-! ## 7. The Cartesian path composed: zone mask → row extension → lock → allocentric panner -/

theorem renderCartLock_eq_some {α : Type} [GainCalc.Scalar α] [ScalarSqrt α] {fuel : Nat}
    {spks : List (Spk α)} {allo : List (P3 α)} {prio : List Nat} {zones : List (Zone α)} {p : P3 α}
    {lock : Option (Option α)} {gain diffuse : α} {final : List Bool} {lk : LockOut} {out : List α × List α} :
    renderCartLock fuel spks allo prio zones p lock gain diffuse = some (final, lk, out) ↔
    ∃ zmask, getExcluded fuel spks zones = some zmask ∧ final = alloExcluded allo zmask ∧
      lk = lockHandle true allo prio final p lock ∧
      ∃ q st g, lockedPosition allo p lk = some q ∧ speakerTree (keep final allo) = some st ∧
        GainCalc.alloHandle (keep final allo).length st q.x q.y q.z = some g ∧
        out = renderCart final [g] [Scalar.one] gain diffuse := by
  unfold renderCartLock
  simp only [Option.bind_eq_some_iff, Option.some.injEq, Prod.mk.injEq]
  constructor
  · rintro ⟨zmask, hz, q, hq, st, hst, g, hg, rfl, rfl, rfl⟩
    exact ⟨zmask, hz, rfl, rfl, q, st, g, hq, hst, hg, rfl⟩
  · rintro ⟨zmask, hz, rfl, rfl, q, st, g, hq, hst, hg, rfl⟩
    exact ⟨zmask, hz, q, hq, st, hst, g, hg, rfl, rfl, rfl⟩

theorem renderCartLock_parts {α : Type} [GainCalc.Scalar α] [ScalarSqrt α] (fuel : Nat)
    (spks : List (Spk α)) (allo : List (P3 α)) (prio : List Nat) (zones : List (Zone α)) (p : P3 α)
    (lock : Option (Option α)) (gain diffuse : α) (final : List Bool) (lk : LockOut) (out : List α × List α)
    (h : renderCartLock fuel spks allo prio zones p lock gain diffuse = some (final, lk, out)) :
    ∃ zmask, getExcluded fuel spks zones = some zmask ∧ final = alloExcluded allo zmask ∧
      lk = lockHandle true allo prio final p lock ∧
      ∃ g, out = renderCart final [g] [Scalar.one] gain diffuse := by
  obtain ⟨zmask, hz, hfin, hlk, _, _, g, _, _, _, hout⟩ := renderCartLock_eq_some.mp h
  exact ⟨zmask, hz, hfin, hlk, g, hout⟩

/-- **The locked loudspeaker is never in the final exclusion mask.** In the composed Cartesian
path the lock handler receives the *final* mask (`allocentric.get_excluded` of the zone mask),
so whenever it locks, the chosen loudspeaker `i` is a loudspeaker of the layout that the panner
keeps (`positions[~excluded]` contains it) — it actually receives the gain.  Any scalar type. -/
theorem cart_lock_target_not_excluded {α : Type} [GainCalc.Scalar α] [ScalarSqrt α] (fuel : Nat)
    (spks : List (Spk α)) (allo : List (P3 α)) (prio : List Nat) (zones : List (Zone α)) (p : P3 α)
    (lock : Option (Option α)) (gain diffuse : α) (final : List Bool) (i : Nat) (out : List α × List α)
    (h : renderCartLock fuel spks allo prio zones p lock gain diffuse = some (final, .locked i, out)) :
    ∃ zmask, getExcluded fuel spks zones = some zmask ∧ final = alloExcluded allo zmask ∧
      lockHandle true allo prio final p lock = .locked i ∧ i < allo.length ∧ isExcl final i = false := by
  obtain ⟨zmask, hz, hfin, hlk, _⟩ := renderCartLock_parts fuel spks allo prio zones p lock gain diffuse final _ out h
  obtain ⟨hi, hex⟩ := lock_index_valid true allo prio final p lock i hlk.symm
  exact ⟨zmask, hz, hfin, hlk.symm, hi, hex⟩

/-- **The allocentric panner is exact at every loudspeaker, for every set of pairwise distinct
positions**: `_speaker_tree` never asserts on them and `AllocentricPanner(positions).handle` at
`positions[k]` returns `e_k` (each balance pan sees an exact key match and returns (1, 1) on the
single plane / row / column).  This covers the grids of the ten layouts and of every subset
`positions[~excluded]` of them. -/
theorem allo_exact_at_speaker (ps : List (P3 ℝ)) (hd : Distinct ps) (k : Nat) (c : P3 ℝ) (hk : ps[k]? = some c) :
    ∃ st, speakerTree ps = some st ∧
      GainCalc.alloHandle ps.length st c.x c.y c.z = some ((List.replicate ps.length (0 : ℝ)).set k 1) := by
  obtain ⟨st, hst, hts, hm⟩ := speakerTree_spec ps hd
  refine ⟨st, hst, ?_⟩
  have hl : (⟨k, c.x, c.y, c.z⟩ : GainCalc.Leaf ℝ) ∈ leaves st := (hm _).mpr ⟨k, c, hk, rfl⟩
  exact alloHandle_at ps.length st hts ⟨k, c.x, c.y, c.z⟩ hl

theorem renderCart_at_kept {allo : List (P3 ℝ)} (hdist : Distinct allo) {final : List Bool}
    (hfl : final.length = allo.length) {i : Nat} (hi : i < allo.length) (hex : isExcl final i = false)
    (gain diffuse : ℝ) :
    ∃ st g, speakerTree (keep final allo) = some st ∧
      GainCalc.alloHandle (keep final allo).length st allo[i].x allo[i].y allo[i].z = some g ∧
      renderCart final [g] [Scalar.one] gain diffuse =
        (((List.replicate allo.length (0 : ℝ)).set i 1).map (fun v => v * gain * Real.sqrt (1 - diffuse)),
         ((List.replicate allo.length (0 : ℝ)).set i 1).map (fun v => v * gain * Real.sqrt diffuse)) := by
  have hfi : final[i]? = some false := (isExcl_false_iff (by omega)).mp hex
  obtain ⟨st, hst, hpan⟩ := allo_exact_at_speaker (keep final allo) (distinct_keep final allo hdist) (rank final i)
    allo[i] (keep_getElem final allo i _ hfi (List.getElem?_eq_getElem hi))
  refine ⟨st, _, hst, hpan, ?_⟩
  obtain ⟨h1, h2⟩ := renderCart_unit final i hfi gain diffuse
  rw [keep_length final allo hfl, ← hfl]
  exact Prod.ext h1 h2

/-- **Cartesian channel lock: exactly one loudspeaker, no panner hypothesis.** Whenever the
composed Cartesian path locks (with or without `maxDistance`, with any zone list), the rendered
gains are those of the unit vector of the locked loudspeaker `i`: direct `gain·√(1−diffuse)`
and diffuse `gain·√diffuse` at `i`, exactly 0 everywhere else — `i` is not excluded, and `i` is
the loudspeaker the documented rule selects among the loudspeakers left by the final mask
(`NearestByRule`).
Hypotheses: the allocentric positions are pairwise distinct (table obligation
`tables_allo_ok`) and there is one nominal position per allocentric position. -/
theorem cart_lock_one_speaker (fuel : Nat) (spks : List (Spk ℝ)) (allo : List (P3 ℝ)) (prio : List Nat)
    (zones : List (Zone ℝ)) (p : P3 ℝ) (lock : Option (Option ℝ)) (gain diffuse : ℝ)
    (final : List Bool) (i : Nat) (d f : List ℝ)
    (hdist : Distinct allo) (hlen : spks.length = allo.length)
    (h : renderCartLock fuel spks allo prio zones p lock gain diffuse = some (final, .locked i, (d, f))) :
    isExcl final i = false ∧ i < allo.length ∧
    d = ((List.replicate allo.length (0 : ℝ)).set i 1).map (fun v => v * gain * Real.sqrt (1 - diffuse)) ∧
    f = ((List.replicate allo.length (0 : ℝ)).set i 1).map (fun v => v * gain * Real.sqrt diffuse) ∧
    ∃ maxD, lock = some maxD ∧ NearestByRule true allo prio final p maxD i := by
  obtain ⟨zmask, hz, hfin, hlk, q, st, g, hq, hst, hg, hout⟩ := renderCartLock_eq_some.mp h
  obtain ⟨hi, hex⟩ := lock_index_valid true allo prio final p lock i hlk.symm
  have hzl : zmask.length = allo.length := by rw [getExcluded_length fuel spks zones zmask hz, hlen]
  have hfl : final.length = allo.length := by rw [hfin, alloExcluded_length allo zmask hzl.symm, hzl]
  obtain ⟨st', g', hst', hg', hr⟩ := renderCart_at_kept hdist hfl hi hex gain diffuse
  obtain rfl : allo[i] = q := Option.some.inj ((List.getElem?_eq_getElem hi).symm.trans hq)
  obtain rfl := Option.some.inj (hst.symm.trans hst')
  obtain rfl := Option.some.inj (hg.symm.trans hg')
  obtain ⟨rfl, rfl⟩ := Prod.mk.inj (hout.trans hr)
  refine ⟨hex, hi, rfl, rfl, ?_⟩
  cases lock with
  | none => exact LockOut.noConfusion hlk
  | some maxD => exact ⟨maxD, rfl, lockHandle_nearest true allo prio final p maxD i hlk.symm⟩

/-- **"… or rendered exactly as if unlocked" (Cartesian).** When the lock handler leaves the
position unchanged (no loudspeaker left within `maxDistance + 1e-5`), the whole Cartesian
render — masks and both gain vectors — is the render of the same block without `channelLock`.
Any scalar type (in particular the `Float` instance that runs against numpy). -/
theorem cart_lock_unchanged_renders_as_unlocked {α : Type} [GainCalc.Scalar α] [ScalarSqrt α] (fuel : Nat)
    (spks : List (Spk α)) (allo : List (P3 α)) (prio : List Nat) (zones : List (Zone α)) (p : P3 α)
    (lock : Option (Option α)) (gain diffuse : α) (final : List Bool) (out : List α × List α)
    (h : renderCartLock fuel spks allo prio zones p lock gain diffuse = some (final, .unchanged, out)) :
    renderCartLock fuel spks allo prio zones p none gain diffuse = some (final, .unchanged, out) := by
  obtain ⟨zmask, hz, hfin, _, rest⟩ := renderCartLock_eq_some.mp h
  exact renderCartLock_eq_some.mpr ⟨zmask, hz, hfin, rfl, rest⟩

/-- **Cartesian channel lock with a distance limit, composed.** With `maxDistance = md` the
Cartesian render is either the unlocked render (exactly when no loudspeaker left by the final
mask is at unweighted distance `< md + 1e-5`), or the unit vector of the loudspeaker the
documented rule selects among those within that limit. -/
theorem cart_lock_limit (fuel : Nat) (spks : List (Spk ℝ)) (allo : List (P3 ℝ)) (prio : List Nat)
    (zones : List (Zone ℝ)) (p : P3 ℝ) (md gain diffuse : ℝ) (final : List Bool) (lk : LockOut) (d f : List ℝ)
    (hdist : Distinct allo) (hlen : spks.length = allo.length)
    (h : renderCartLock fuel spks allo prio zones p (some (some md)) gain diffuse = some (final, lk, (d, f))) :
    (lk = .unchanged ∧ (∀ j, ¬ LockCandidate allo final p (some md) j) ∧
      renderCartLock fuel spks allo prio zones p none gain diffuse = some (final, .unchanged, (d, f))) ∨
    (∃ i, lk = .locked i ∧ NearestByRule true allo prio final p (some md) i ∧ spkDist allo p i < md + 1e-5 ∧
      d = ((List.replicate allo.length (0 : ℝ)).set i 1).map (fun v => v * gain * Real.sqrt (1 - diffuse)) ∧
      f = ((List.replicate allo.length (0 : ℝ)).set i 1).map (fun v => v * gain * Real.sqrt diffuse)) := by
  obtain ⟨zmask, _, _, hlk, _⟩ := renderCartLock_parts fuel spks allo prio zones p _ gain diffuse final lk (d, f) h
  cases lk with
  | error => exact absurd hlk.symm (lockHandle_never_error true allo prio final p _)
  | unchanged =>
    left
    exact ⟨rfl, (lockHandle_unchanged_iff true allo prio final p (some md)).mp hlk.symm,
      cart_lock_unchanged_renders_as_unlocked fuel spks allo prio zones p _ gain diffuse final (d, f) h⟩
  | locked i =>
    right
    obtain ⟨_, _, hd, hf, maxD, hm, hn⟩ :=
      cart_lock_one_speaker fuel spks allo prio zones p _ gain diffuse final i d f hdist hlen h
    simp only [Option.some.injEq] at hm
    subst hm
    exact ⟨i, rfl, hn, hn.1.2.2 md rfl, hd, hf⟩

/-- **Cartesian silence, composed.** In the composed Cartesian path (`renderCartLock`, with or
without channel lock), a loudspeaker `j` excluded by the zone list has exactly zero direct and
diffuse gain whenever the row extension of the zone mask does not cover every loudspeaker — the
exact complement of the recorded counter-example (`cart_reset_characterised`). -/
theorem cart_lock_excluded_gain_zero {α : Type} [GainCalc.Scalar α] [ScalarSqrt α] (hz : ZeroLaws α) (fuel : Nat)
    (spks : List (Spk α)) (allo : List (P3 α)) (prio : List Nat) (zones : List (Zone α)) (p : P3 α)
    (lock : Option (Option α)) (gain diffuse : α) (final : List Bool) (lk : LockOut) (d f : List α)
    (zmask : List Bool) (hlen : spks.length = allo.length)
    (h : renderCartLock fuel spks allo prio zones p lock gain diffuse = some (final, lk, (d, f)))
    (hzm : getExcluded fuel spks zones = some zmask)
    (j : Nat) (hj : isExcl zmask j = true) (hnot : (alloExtend allo zmask).all id = false) :
    d[j]? = some zero ∧ f[j]? = some zero := by
  obtain ⟨zmask', hz', hfin, _, g, hout⟩ := renderCartLock_parts fuel spks allo prio zones p lock gain diffuse final lk (d, f) h
  rw [hzm] at hz'
  simp only [Option.some.injEq] at hz'
  subst hz'
  have hzl : allo.length = zmask.length := by rw [getExcluded_length fuel spks zones zmask hzm, hlen]
  obtain ⟨_, _, hkeep, hmono⟩ := cart_reset_characterised allo zmask hzl j hj
  have hfj : final[j]? = some true := by
    rw [hfin, hkeep hnot]; exact isExcl_true_iff.mp hmono
  have := cart_excluded_gain_zero_on_final_mask hz final [g] [Scalar.one] gain diffuse j hfj
  rw [← hout] at this
  exact this

/-- **The composed Cartesian path with a lock and no distance limit is defined and locks**
(non-vacuity of `cart_lock_one_speaker` / `cart_lock_target_not_excluded` for every layout with
pairwise distinct allocentric positions, every zone list whose mask is computed, every position):
`allocentric.get_excluded` never excludes everything, so a candidate is always left. -/
theorem cart_lock_defined (fuel : Nat) (spks : List (Spk ℝ)) (allo : List (P3 ℝ)) (prio : List Nat)
    (zones : List (Zone ℝ)) (p : P3 ℝ) (gain diffuse : ℝ) (zmask : List Bool)
    (hz : getExcluded fuel spks zones = some zmask) (hdist : Distinct allo) (hlen : spks.length = allo.length)
    (hn : 0 < allo.length) :
    ∃ i d f, renderCartLock fuel spks allo prio zones p (some none) gain diffuse =
      some (alloExcluded allo zmask, .locked i, (d, f)) := by
  have hzl : zmask.length = allo.length := by rw [getExcluded_length fuel spks zones zmask hz, hlen]
  have hfl : (alloExcluded allo zmask).length = allo.length := by rw [alloExcluded_length allo zmask hzl.symm, hzl]
  have hcand : ∃ j, j < allo.length ∧ isExcl (alloExcluded allo zmask) j = false := by
    by_cases hall : (alloExtend allo zmask).all id = true
    · exact ⟨0, hn, by rw [alloExcluded_of_all hall]; exact isExcl_map_false _ 0⟩
    · have hall' : (alloExtend allo zmask).all id = false := Bool.not_eq_true _ ▸ hall
      have e := alloExcluded_of_not_all hall'
      obtain ⟨j, hj, hje⟩ := exists_not_excluded _ hall'
      rw [e]
      refine ⟨j, ?_, hje⟩
      rw [← hfl, e]; exact hj
  obtain ⟨j, hj, hje⟩ := hcand
  obtain ⟨i, hl⟩ := lockHandle_no_limit_locks true allo prio (alloExcluded allo zmask) p j hj hje
  obtain ⟨hi, hex⟩ := lock_index_valid true allo prio _ p _ i hl
  obtain ⟨st, g, hst, hg, hr⟩ := renderCart_at_kept hdist hfl hi hex gain diffuse
  exact ⟨i, _, _, renderCartLock_eq_some.mpr
    ⟨zmask, hz, rfl, hl.symm, allo[i], st, g, List.getElem?_eq_getElem hi, hst, hg, hr.symm⟩⟩

/-- **Table obligation.** For each of the ten layouts the allocentric positions are pairwise
distinct, and the model's `_speaker_tree` on them (exact rational arithmetic) reproduces the
grid the real `AllocentricPanner` built (regenerated on every run). -/
theorem tables_allo_ok :
    Gen.C13.layouts.all (fun L =>
      distinctB (L.allo.map p3Of) &&
      ((speakerTree (L.allo.map p3Of)).map fun t => t.map fun pl => pl.map fun row => row.map (·.idx)) == some L.tree)
      = true := by
  decide +kernel

theorem distinct_allo_layouts (L : Gen.C13.Layout) (hL : L ∈ Gen.C13.layouts) :
    Distinct ((L.allo.map p3Of).map castP3) := by
  have h := tables_allo_ok
  rw [List.all_eq_true] at h
  exact distinct_cast _ (Bool.and_eq_true_iff.mp (h L hL)).1

theorem allo_exact_at_speaker_layouts (L : Gen.C13.Layout) (hL : L ∈ Gen.C13.layouts) (k : Nat) (c : P3 ℝ)
    (hk : ((L.allo.map p3Of).map castP3)[k]? = some c) :
    ∃ st, speakerTree ((L.allo.map p3Of).map castP3) = some st ∧
      GainCalc.alloHandle ((L.allo.map p3Of).map castP3).length st c.x c.y c.z =
        some ((List.replicate ((L.allo.map p3Of).map castP3).length (0 : ℝ)).set k 1) :=
  allo_exact_at_speaker _ (distinct_allo_layouts L hL) k c hk

/-! ## 8. Cartesian screen scaling: `compensate_position` -/

/-- Layouts without U+045: `compensate_position` does nothing, so the Cartesian `screenRef` path is
`point_polar_to_cart ∘ scale_az_el ∘ point_cart_to_polar` (the conversions are C19's subject). -/
theorem compensate_identity_without_U045 {α : Type} [Scalar α] (az el : α) :
    compensatePosition false az el = (az, el) := rfl

/-- Layouts with U+045: at elevation 0 (and 90) the compensation table is the identity table, so
azimuths in [−180, 180] are unchanged; the elevation is never changed. -/
theorem compensate_identity_at_el0 (az : Rat) (h1 : -180 ≤ az) (h2 : az ≤ 180) :
    compensatePosition true az 0 = (az, 0) ∧ compensatePosition true az 90 = (az, 90) := by
  have e0 : interp3 (0 : Rat) 30 90 30 (30 * (30 / 45)) 30 0 = 30 := by decide +kernel
  have e90 : interp3 (0 : Rat) 30 90 30 (30 * (30 / 45)) 30 90 = 30 := by decide +kernel
  have k := interp4_identity (-180) (-30) 30 180 az (by decide +kernel) (by decide +kernel) (by decide +kernel) h1 h2
  constructor
  · simp only [compensatePosition, ↓reduceIte, rat_ofNat, rat_sub, rat_zero, rat_mul, rat_div, Nat.cast_ofNat,
      Nat.cast_zero, zero_sub, e0, k]
  · simp only [compensatePosition, ↓reduceIte, rat_ofNat, rat_sub, rat_zero, rat_mul, rat_div, Nat.cast_ofNat,
      Nat.cast_zero, zero_sub, e90, k]

/-- … and it is not the identity in between: at elevation 30 the ±30° table points move to ±20°. -/
example : compensatePosition true (30 : Rat) 30 = (20, 30) := by decide +kernel

/-! ## 9. The C05 point-source panner: positions as its vectors, every loudspeaker a vertex -/

/-- a position as the C05 model's vector; `GainCalc.V3 ℝ` is the same type `ℝ × ℝ × ℝ`, so `vec3 p` is also what
`GainCalc.norm3`, `GainCalc.InPointClass` and `GainCalc.polarPointPan` take -/
def vec3 (p : P3 ℝ) : PointSource.Vec3 ℝ := (p.x, p.y, p.z)

/-- **Table obligation, reused from C05 by import** (`PointSource.tables_wellFormed`): in every
regenerated layout each loudspeaker of the inner panner is a vertex of at least one region. -/
theorem polar_tables_every_speaker_is_vertex :
    Earverif.Gen.C05.layouts.all PointSource.RawLayout.covered = true := by
  have h := PointSource.tables_wellFormed
  rw [List.all_eq_true] at h ⊢
  intro l hl
  have := h l hl
  simp only [PointSource.RawLayout.wellFormed, Bool.and_eq_true] at this
  exact this.1.1.2

/-! ## 10. The polar path composed in the real order: lock (all loudspeakers) → pan → zone downmix

"Locked ⇒ exactly one loudspeaker, the nearest by the rule" is stated here for several answers to "what is `pan`".
The two to build on: `polar_lock_one_speaker` (any `pan` that answers `e_k` at loudspeaker `k`) and
`polar_lock_one_speaker_layouts_extent` (section 13: the ten regenerated layouts, the real `pan`, no hypothesis).
Between them `pan` is the C05 panner: on any region list, first accepting region a triplet / a quad
(`polar_lock_one_speaker_partial`, `_quad_partial`); on a C05 table, exactness at `k` assumed (`_layouts_partial`); on
the ten tables (section 12: `_layouts`, and `_layouts_tables` with the layout's own `prio` and `groups`).  When the zones
exclude the locked loudspeaker: `polar_lock_with_zones_characterised`.  None of them models float rounding (the float
panner leaves ~1e-17 residues on other loudspeakers). -/

/-- **Table obligation (channel lock).** Evaluated on each of the ten regenerated layouts: any two different
loudspeakers are at least `1e-5` apart, in the egocentric handler's distance on `layout.norm_positions`
(`separatedB false`) and in the allocentric handler's weighted distance (`separatedB true`); `norm_positions` has one
entry per loudspeaker; the priorities are pairwise different (`nodupB`).  Separation is the hypothesis of
`lock_at_speaker_table`, different priorities that of `nearestByRule_unique`; the theorems of this file take from it
the separation (`separated_layouts`, for the witness on 0+5+0) and `L.norm.length = L.n` (`norm_length_layouts`). -/
theorem tables_lock_ok :
    Gen.C13.layouts.all (fun L =>
      separatedB false (L.norm.map p3Of) && separatedB true (L.allo.map p3Of) &&
      L.norm.length == L.n && nodupB L.prio) = true := by
  have h : Gen.C13.layouts.all (fun L =>
      separatedLowerB false (L.norm.map p3Of) && separatedLowerB true (L.allo.map p3Of) &&
      L.norm.length == L.n && nodupB L.prio) = true := by
    decide +kernel
  rw [List.all_eq_true] at h ⊢
  intro L hL
  have hL := h L hL
  simp only [Bool.and_eq_true] at hL ⊢
  exact ⟨⟨⟨separatedB_of_lower _ _ hL.1.1.1, separatedB_of_lower _ _ hL.1.1.2⟩, hL.1.2⟩, hL.2⟩

theorem separated_layouts {L : Gen.C13.Layout} (hL : L ∈ Gen.C13.layouts) :
    separatedB false (L.norm.map p3Of) = true ∧ separatedB true (L.allo.map p3Of) = true := by
  have h := List.all_eq_true.mp tables_lock_ok L hL
  simp only [Bool.and_eq_true] at h
  exact h.1.1

theorem downmix_row_spec {n : Nat} {gs : List (List (List Nat))} {mask : List Bool} {D : List (List ℝ)}
    (hD : downmixForExcluded n gs mask = some D) (hg : groupsOK n gs = true) {k : Nat} (hk : k < n) :
    ∃ row, D[k]? = some row ∧ row.length = n ∧ (∀ v ∈ row, 0 ≤ v) ∧ row.sum = 1 ∧
      (someNotAll mask → ∀ j, isExcl mask j = true → row.getD j 0 = 0) ∧
      ((isExcl mask k = false ∧ (gs.getD k []).head? = some [k]) ∨ ¬ someNotAll mask → row = unitR n k) := by
  obtain ⟨hgl, hrows⟩ := groupsOK_row hg
  obtain ⟨row, hrow, hrl, hcase⟩ := downmix_row_real hD hgl hk
  refine ⟨row, hrow, hrl, ?_⟩
  rcases hcase with ⟨htriv, rfl⟩ | ⟨hnt, grp, hgrp, hnotall, hdr, rfl⟩
  · refine ⟨unitR_nonneg _ _, unitR_sum _ _ hk, fun hsna => ?_, fun _ => rfl⟩
    rw [hsna.1, hsna.2] at htriv
    exact absurd htriv (by decide)
  · obtain ⟨hlt, hnd⟩ := (hrows _ (getD_mem [] (by omega))).1 grp hgrp
    refine ⟨groupRow_nonneg _ _, ?_, fun _ j hj => groupRow_excluded_zero _ mask grp j hj, ?_⟩
    · exact groupRow_sum _ _ (nodupB_filter grp _ hnd) (fun x hx => hlt x (List.mem_filter.mp hx).1)
        (notExcluded_pos mask grp hnotall)
    · rintro (⟨hne, hhead⟩ | hns)
      · cases hgk : gs.getD k [] with
        | nil => rw [hgk] at hhead; cases hhead
        | cons g0 rest =>
          rw [hgk] at hhead hdr
          obtain rfl := Option.some.inj hhead
          rw [downmixRow_self n mask k rest hne] at hdr
          exact (Option.some.inj hdr).symm
      · exact absurd (Bool.or_eq_false_iff.mp hnt) hns

/-- **Polar channel lock with zone exclusion, characterised (lock → pan → zone downmix).**
Whenever the composed polar path (`renderPolarLock`, the order of `GainCalc.render`) locks to
loudspeaker `k` — *Hypothesis* `hexact`: the panner returns `e_k` at the position of that
loudspeaker (C05's exactness at a vertex; see `polar_lock_one_speaker_partial`) — then

* `k` is the loudspeaker the documented rule selects among ALL loudspeakers of the layout (the
  polar lock is called without the exclusion mask): `NearestByRule … (replicate n false) …`;
* the rendered gains are `√row · gain · √(1−diffuse)` / `√row · gain · √diffuse`, where `row` is
  row `k` of `downmix_for_excluded(zone mask)`; the row is non-negative and sums to 1 (the power
  is preserved: `polar_lock_power`);
* when some but not all loudspeakers are excluded, the row and both gains are exactly 0 at every
  excluded loudspeaker;
* if `k` itself is not excluded (its first group is `[k]`: `tables_groups_ok`), or the mask is
  empty/full, the row is `e_k`: exactly one loudspeaker, the nearest.

So the property's "exactly one loudspeaker" fails on the polar path exactly when the locked
loudspeaker is excluded and its replacement group has more than one non-excluded member (known
finding `polar-lock-zone-downmix`, witness `polar_lock_zone_two_speakers_witness`). -/
theorem polar_lock_with_zones_characterised (fuel : Nat) (spks : List (Spk ℝ)) (norm : List (P3 ℝ)) (prio : List Nat)
    (groups : List (List (List Nat))) (zones : List (Zone ℝ)) (pan : P3 ℝ → Option (List ℝ)) (p : P3 ℝ)
    (lock : Option (Option ℝ)) (gain diffuse : ℝ) (zmask : List Bool) (k : Nat) (d f : List ℝ)
    (hg : groupsOK norm.length groups = true)
    (hexact : ∀ c, norm[k]? = some c → pan c = some (unitR norm.length k))
    (h : renderPolarLock fuel spks norm prio groups zones pan p lock gain diffuse = some (zmask, .locked k, (d, f))) :
    (∃ maxD, lock = some maxD ∧ NearestByRule false norm prio (List.replicate norm.length false) p maxD k) ∧
    ∃ D row, downmixForExcluded norm.length groups zmask = some D ∧ D[k]? = some row ∧ row.length = norm.length ∧
      d = row.map (fun v => Real.sqrt v * gain * Real.sqrt (1 - diffuse)) ∧
      f = row.map (fun v => Real.sqrt v * gain * Real.sqrt diffuse) ∧
      (∀ v ∈ row, 0 ≤ v) ∧ row.sum = 1 ∧
      (someNotAll zmask → ∀ j, isExcl zmask j = true → row.getD j 0 = 0 ∧ d.getD j 0 = 0 ∧ f.getD j 0 = 0) ∧
      ((isExcl zmask k = false ∧ (groups.getD k []).head? = some [k]) ∨ ¬ someNotAll zmask →
        row = unitR norm.length k) := by
  obtain ⟨hlk, q, g, hq, hpan, hzm, hr⟩ := renderPolarLock_eq_some.mp h
  have hl := hlk.symm
  obtain ⟨hk, _⟩ := lock_index_valid false norm prio _ p lock k hl
  obtain rfl := Option.some.inj ((hexact q hq).symm.trans hpan)
  refine ⟨?_, ?_⟩
  · cases lock with
    | none => exact LockOut.noConfusion hl
    | some maxD => exact ⟨maxD, rfl, lockHandle_nearest false norm prio _ p maxD k hl⟩
  obtain ⟨D, hD, _⟩ := renderPolar_eq_some.mp hr
  obtain ⟨row, hrow, hrl, h0, hs, hz, hu⟩ := downmix_row_spec hD hg hk
  have hout := renderPolar_unit norm.length k groups zmask D row hD hrow hrl hk gain diffuse
  rw [hr] at hout
  obtain ⟨hd, hf⟩ := Prod.mk.inj (Option.some.inj hout)
  refine ⟨D, row, hD, hrow, hrl, hd, hf, h0, hs, fun hsna j hj => ⟨hz hsna j hj, ?_, ?_⟩, hu⟩
  · rw [hd, getD_map_of_eq _ row j (d := 0) (by simp), hz hsna j hj]; simp
  · rw [hf, getD_map_of_eq _ row j (d := 0) (by simp), hz hsna j hj]; simp

/-- **Power is preserved through lock, pan and zone downmix**: `Σ direct² + Σ diffuse² = gain²`
(for `0 ≤ diffuse ≤ 1`), whatever the zone list does to the locked loudspeaker. -/
theorem polar_lock_power (fuel : Nat) (spks : List (Spk ℝ)) (norm : List (P3 ℝ)) (prio : List Nat)
    (groups : List (List (List Nat))) (zones : List (Zone ℝ)) (pan : P3 ℝ → Option (List ℝ)) (p : P3 ℝ)
    (lock : Option (Option ℝ)) (gain diffuse : ℝ) (zmask : List Bool) (k : Nat) (d f : List ℝ)
    (hg : groupsOK norm.length groups = true)
    (hexact : ∀ c, norm[k]? = some c → pan c = some (unitR norm.length k))
    (h : renderPolarLock fuel spks norm prio groups zones pan p lock gain diffuse = some (zmask, .locked k, (d, f)))
    (hd0 : 0 ≤ diffuse) (hd1 : diffuse ≤ 1) :
    (d.map fun x => x * x).sum + (f.map fun x => x * x).sum = gain * gain := by
  obtain ⟨_, D, row, _, _, _, hd, hf, h0, hs, _, _⟩ :=
    polar_lock_with_zones_characterised fuel spks norm prio groups zones pan p lock gain diffuse zmask k d f hg hexact h
  rw [hd, hf]
  exact power_of_row row gain diffuse h0 hs hd0 hd1

theorem unitR_map_sqrt (n k : Nat) (a b : ℝ) :
    (unitR n k).map (fun v => Real.sqrt v * a * b) = (unitR n k).map (fun v => v * a * b) := by
  apply List.map_congr_left
  intro v hv
  rcases unitR_mem n k v hv with rfl | rfl
  · rw [Real.sqrt_zero]
  · rw [Real.sqrt_one]

/-- **Polar channel lock: exactly one loudspeaker, the nearest** — whenever the locked loudspeaker
is not itself excluded by the zone list (in particular with no `zoneExclusion`, where the mask is
all-false).  *Hypothesis* `hexact` as in `polar_lock_with_zones_characterised`. -/
theorem polar_lock_one_speaker (fuel : Nat) (spks : List (Spk ℝ)) (norm : List (P3 ℝ)) (prio : List Nat)
    (groups : List (List (List Nat))) (zones : List (Zone ℝ)) (pan : P3 ℝ → Option (List ℝ)) (p : P3 ℝ)
    (lock : Option (Option ℝ)) (gain diffuse : ℝ) (zmask : List Bool) (k : Nat) (d f : List ℝ)
    (hg : groupsOK norm.length groups = true)
    (hexact : ∀ c, norm[k]? = some c → pan c = some (unitR norm.length k))
    (h : renderPolarLock fuel spks norm prio groups zones pan p lock gain diffuse = some (zmask, .locked k, (d, f)))
    (hne : isExcl zmask k = false) (hhead : (groups.getD k []).head? = some [k]) :
    k < norm.length ∧
    d = (unitR norm.length k).map (fun v => v * gain * Real.sqrt (1 - diffuse)) ∧
    f = (unitR norm.length k).map (fun v => v * gain * Real.sqrt diffuse) ∧
    ∃ maxD, lock = some maxD ∧ NearestByRule false norm prio (List.replicate norm.length false) p maxD k := by
  obtain ⟨hn, D, row, _, _, _, hd, hf, _, _, _, hunit⟩ :=
    polar_lock_with_zones_characterised fuel spks norm prio groups zones pan p lock gain diffuse zmask k d f hg hexact h
  have hrow := hunit (Or.inl ⟨hne, hhead⟩)
  subst hrow
  obtain ⟨maxD, hm, hnr⟩ := hn
  refine ⟨hnr.1.1, ?_, ?_, maxD, hm, hnr⟩
  · rw [hd]; exact unitR_map_sqrt norm.length k gain _
  · rw [hf]; exact unitR_map_sqrt norm.length k gain _

/-- **"… or rendered exactly as if unlocked" (polar).** When the lock handler leaves the position
unchanged, the whole polar render is the render of the same block without `channelLock`.
Any scalar type. -/
theorem polar_lock_unchanged_renders_as_unlocked {α : Type} [ScalarSqrt α] (fuel : Nat)
    (spks : List (Spk α)) (norm : List (P3 α)) (prio : List Nat) (groups : List (List (List Nat)))
    (zones : List (Zone α)) (pan : P3 α → Option (List α)) (p : P3 α) (lock : Option (Option α)) (gain diffuse : α)
    (zmask : List Bool) (out : List α × List α)
    (h : renderPolarLock fuel spks norm prio groups zones pan p lock gain diffuse = some (zmask, .unchanged, out)) :
    renderPolarLock fuel spks norm prio groups zones pan p none gain diffuse = some (zmask, .unchanged, out) := by
  obtain ⟨hlk, rest⟩ := renderPolarLock_eq_some.mp h
  exact renderPolarLock_eq_some.mpr ⟨rfl, rest⟩

/-- **Polar channel lock with a distance limit, composed** (no panner hypothesis): with
`maxDistance = md` the polar render is either the unlocked render — exactly when no loudspeaker of
the layout is at distance `< md + 1e-5` — or it is locked to the loudspeaker the documented rule
selects among those within that limit (then `polar_lock_with_zones_characterised` applies). -/
theorem polar_lock_limit (fuel : Nat) (spks : List (Spk ℝ)) (norm : List (P3 ℝ)) (prio : List Nat)
    (groups : List (List (List Nat))) (zones : List (Zone ℝ)) (pan : P3 ℝ → Option (List ℝ)) (p : P3 ℝ)
    (md gain diffuse : ℝ) (zmask : List Bool) (lk : LockOut) (out : List ℝ × List ℝ)
    (h : renderPolarLock fuel spks norm prio groups zones pan p (some (some md)) gain diffuse = some (zmask, lk, out)) :
    (lk = .unchanged ∧ (∀ j, ¬ LockCandidate norm (List.replicate norm.length false) p (some md) j) ∧
      renderPolarLock fuel spks norm prio groups zones pan p none gain diffuse = some (zmask, .unchanged, out)) ∨
    (∃ i, lk = .locked i ∧ NearestByRule false norm prio (List.replicate norm.length false) p (some md) i ∧
      spkDist norm p i < md + 1e-5) := by
  obtain ⟨hlk, _⟩ := renderPolarLock_eq_some.mp h
  cases lk with
  | error => exact absurd hlk.symm (lockHandle_never_error false norm prio _ p _)
  | unchanged =>
    left
    exact ⟨rfl, (lockHandle_unchanged_iff false norm prio _ p (some md)).mp hlk.symm,
      polar_lock_unchanged_renders_as_unlocked fuel spks norm prio groups zones pan p _ gain diffuse zmask out h⟩
  | locked i =>
    right
    have hn := lockHandle_nearest false norm prio _ p (some md) i hlk.symm
    exact ⟨i, rfl, hn, hn.1.2.2 md rfl⟩

/-- **`_partial`: polar lock composed with the C05 panner, first accepting region a triplet.**
`renderPolarLock` with `PointSourcePanner.handle` as the panner locks to loudspeaker `i`, which
the zone list does not exclude.  *Remaining hypothesis* (`hpre`, `hvert`): the first region of
the panner that accepts the direction of loudspeaker `i` is a triplet (invertible, distinct
channels) that has `i` as a vertex at exactly that position — then the panner returns `e_i`
(C05 `triplet_exact_at_vertex`) and the render is the unit vector of the nearest loudspeaker. -/
theorem polar_lock_one_speaker_partial
    (regions : List (PointSource.Region ℝ)) (roots : Nat → Option ℝ × Option ℝ)
    (fuel : Nat) (spks : List (Spk ℝ)) (norm : List (P3 ℝ)) (prio : List Nat)
    (groups : List (List (List Nat))) (zones : List (Zone ℝ)) (p : P3 ℝ)
    (lock : Option (Option ℝ)) (gain diffuse : ℝ) (zmask : List Bool) (i : Nat) (d f : List ℝ)
    (hg : groupsOK norm.length groups = true)
    (h : renderPolarLock fuel spks norm prio groups zones
      (fun q => PointSource.PointSourcePanner.handle regions norm.length roots (vec3 q)) p lock gain diffuse =
        some (zmask, .locked i, (d, f)))
    (hne : isExcl zmask i = false) (hhead : (groups.getD i []).head? = some [i])
    (k : Nat) (hk : k < regions.length) (c0 c1 c2 : Nat) (P : PointSource.Mat3 ℝ)
    (hreg : regions[k] = .triplet [c0, c1, c2] P) (hdet : PointSource.det3 P ≠ 0)
    (d01 : c0 ≠ c1) (d02 : c0 ≠ c2) (d12 : c1 ≠ c2)
    (hpre : ∀ c, norm[i]? = some c → ∀ j, ∀ hj : j < k, regions[j].handle (roots j) (vec3 c) = none)
    (hvert : ∀ c, norm[i]? = some c →
      (c0 = i ∧ P.1 = vec3 c) ∨ (c1 = i ∧ P.2.1 = vec3 c) ∨ (c2 = i ∧ P.2.2 = vec3 c)) :
    i < norm.length ∧
    d = (unitR norm.length i).map (fun v => v * gain * Real.sqrt (1 - diffuse)) ∧
    f = (unitR norm.length i).map (fun v => v * gain * Real.sqrt diffuse) ∧
    ∃ maxD, lock = some maxD ∧ NearestByRule false norm prio (List.replicate norm.length false) p maxD i := by
  apply polar_lock_one_speaker fuel spks norm prio groups zones _ p lock gain diffuse zmask i d f hg ?_ h hne hhead
  intro c hc
  obtain ⟨e1, e2, e3⟩ := PointSource.triplet_exact_at_vertex P hdet
  obtain ⟨s1, s2, s3⟩ := scatter_triplet_unit norm.length c0 c1 c2 d01 d02 d12
  show PointSource.PointSourcePanner.handle regions norm.length roots (vec3 c) = some (unitR norm.length i)
  apply panner_first_accept regions norm.length roots (vec3 c) k hk _ (hpre c hc)
  rw [hreg]
  simp only [PointSource.Region.channels, PointSource.Region.handle, PointSource.remap, unitR]
  rcases hvert c hc with ⟨rfl, hv⟩ | ⟨rfl, hv⟩ | ⟨rfl, hv⟩
  · rw [← hv, e1]; simp [PointSource.vecList, s1]
  · rw [← hv, e2]; simp [PointSource.vecList, s2]
  · rw [← hv, e3]; simp [PointSource.vecList, s3]

/-- **`_partial`: polar lock composed with the C05 panner, first accepting region a quad.** Same
statement when the first region accepting the direction of the locked loudspeaker `i` is a
quadrilateral whose selected roots put that direction at pan-square corner `m` (`quad_corner` of
C05; the roots come from `np.roots`, a parameter of the C05 model) and channel number `order[m]`
of the region is `i`. -/
theorem polar_lock_one_speaker_quad_partial
    (regions : List (PointSource.Region ℝ)) (roots : Nat → Option ℝ × Option ℝ)
    (fuel : Nat) (spks : List (Spk ℝ)) (norm : List (P3 ℝ)) (prio : List Nat)
    (groups : List (List (List Nat))) (zones : List (Zone ℝ)) (p : P3 ℝ)
    (lock : Option (Option ℝ)) (gain diffuse : ℝ) (zmask : List Bool) (i : Nat) (d f : List ℝ)
    (hg : groupsOK norm.length groups = true)
    (h : renderPolarLock fuel spks norm prio groups zones
      (fun q => PointSource.PointSourcePanner.handle regions norm.length roots (vec3 q)) p lock gain diffuse =
        some (zmask, .locked i, (d, f)))
    (hne : isExcl zmask i = false) (hhead : (groups.getD i []).head? = some [i])
    (k : Nat) (hk : k < regions.length) (a b c d' : Nat) (Q : PointSource.QuadRegion ℝ)
    (hreg : regions[k] = .quad [a, b, c, d'] Q)
    (dab : a ≠ b) (dac : a ≠ c) (dad : a ≠ d') (dbc : b ≠ c) (dbd : b ≠ d') (dcd : c ≠ d')
    (ho : PointSource.isPermOfRange Q.order 4 = true)
    (x y : ℝ) (m : Nat) (hroots : roots k = (some x, some y))
    (hm : (x, y, m) ∈ [((0 : ℝ), (0 : ℝ), 0), (1, 0, 1), (1, 1, 2), (0, 1, 3)])
    (hchan : [a, b, c, d'].getD (Q.order.getD m 0) 0 = i)
    (hacc : ∀ q, norm[i]? = some q → ∃ out, Q.handle (some x) (some y) (vec3 q) = some out)
    (hpre : ∀ q, norm[i]? = some q → ∀ j, ∀ hj : j < k, regions[j].handle (roots j) (vec3 q) = none) :
    i < norm.length ∧
    d = (unitR norm.length i).map (fun v => v * gain * Real.sqrt (1 - diffuse)) ∧
    f = (unitR norm.length i).map (fun v => v * gain * Real.sqrt diffuse) ∧
    ∃ maxD, lock = some maxD ∧ NearestByRule false norm prio (List.replicate norm.length false) p maxD i := by
  apply polar_lock_one_speaker fuel spks norm prio groups zones _ p lock gain diffuse zmask i d f hg ?_ h hne hhead
  intro q hq
  obtain ⟨out, hacc⟩ := hacc q hq
  have hout := PointSource.quad_corner Q (vec3 q) x y m out ho hm hacc
  have hlt : Q.order.getD m 0 < 4 := by
    have hm4 : m < 4 := by
      simp only [List.mem_cons, Prod.mk.injEq, List.mem_nil_iff, or_false] at hm
      rcases hm with ⟨_, _, rfl⟩ | ⟨_, _, rfl⟩ | ⟨_, _, rfl⟩ | ⟨_, _, rfl⟩ <;> omega
    simp only [PointSource.isPermOfRange, Bool.and_eq_true, beq_iff_eq, List.all_eq_true, decide_eq_true_eq] at ho
    exact ho.1.2 _ (getD_mem 0 (by omega))
  show PointSource.PointSourcePanner.handle regions norm.length roots (vec3 q) = some (unitR norm.length i)
  apply panner_first_accept regions norm.length roots (vec3 q) k hk _ (hpre q hq)
  rw [hreg]
  simp only [PointSource.Region.channels, PointSource.Region.handle, PointSource.remap, hroots, hacc, hout,
    Option.map_some]
  exact congrArg some ((scatter_unit_nodup norm.length [a, b, c, d'] _
    (by simp [dab, dac, dad, dbc, dbd, dcd]) hlt).trans (by rw [hchan]; rfl))

/-- **`_partial`: `polar_lock_one_speaker` with `pan` the concrete point-source panner of C01/C05 on a table `l`**
(`GainCalc.pspHandle l`: region table, first accepting region, downmix / stereo wrappers, quad pan values by the closed
form `quadRoot`).  *Hypothesis* `hvertex`: at the position of the locked loudspeaker `k` that panner answers `e_k`
(for the ten regenerated tables: `pspHandle_exact_at_norm`). -/
theorem polar_lock_one_speaker_layouts_partial (l : PointSource.RawLayout)
    (fuel : Nat) (spks : List (Spk ℝ)) (norm : List (P3 ℝ)) (prio : List Nat)
    (groups : List (List (List Nat))) (zones : List (Zone ℝ)) (p : P3 ℝ)
    (lock : Option (Option ℝ)) (gain diffuse : ℝ) (zmask : List Bool) (k : Nat) (d f : List ℝ)
    (hg : groupsOK norm.length groups = true)
    (h : renderPolarLock fuel spks norm prio groups zones (fun q => GainCalc.pspHandle l (vec3 q)) p lock gain diffuse =
      some (zmask, .locked k, (d, f)))
    (hne : isExcl zmask k = false) (hhead : (groups.getD k []).head? = some [k])
    (hvertex : ∀ c, norm[k]? = some c → GainCalc.pspHandle l (vec3 c) = some (unitR norm.length k)) :
    k < norm.length ∧
    d = (unitR norm.length k).map (fun v => v * gain * Real.sqrt (1 - diffuse)) ∧
    f = (unitR norm.length k).map (fun v => v * gain * Real.sqrt diffuse) ∧
    ∃ maxD, lock = some maxD ∧ NearestByRule false norm prio (List.replicate norm.length false) p maxD k :=
  polar_lock_one_speaker fuel spks norm prio groups zones _ p lock gain diffuse zmask k d f hg hvertex h hne hhead

/-! ## 11. Witnesses on the regenerated tables; non-vacuity of the composed theorems -/

/-! The witnesses and non-vacuity examples of the polar path are evaluated on the regenerated 0+5+0 table: five
loudspeakers, M+000 at index 2 with `norm_position` (0, 1, 0); an object there locks to M+000. -/

theorem norm050_length : ((Gen.C13.L_0_5_0.norm.map p3Of).map castP3).length = 5 := by simp [Gen.C13.L_0_5_0]

theorem norm050_two_rat : (Gen.C13.L_0_5_0.norm.map p3Of)[2]'(by decide) = ⟨0, 1, 0⟩ := by decide +kernel

theorem norm050_two : ((Gen.C13.L_0_5_0.norm.map p3Of).map castP3)[2]? = some (⟨0, 1, 0⟩ : P3 ℝ) := by
  have h2 := norm050_two_rat
  rw [List.getElem?_map, List.getElem?_eq_getElem (by decide), h2]; simp [castP3]

theorem lock050_two : lockHandle false ((Gen.C13.L_0_5_0.norm.map p3Of).map castP3) Gen.C13.L_0_5_0.prio
    (List.replicate ((Gen.C13.L_0_5_0.norm.map p3Of).map castP3).length false) ⟨0, 1, 0⟩ (some none) = .locked 2 := by
  have h2 := norm050_two_rat
  have hl := lock_at_speaker_table false (Gen.C13.L_0_5_0.norm.map p3Of)
    (separated_layouts (List.mem_of_getElem? (i := 1) rfl)).1 Gen.C13.L_0_5_0.prio
    (List.replicate 5 false) 2 (by decide) (isExcl_replicate_false 5 2)
  have hc : castP3 ⟨0, 1, 0⟩ = (⟨0, 1, 0⟩ : P3 ℝ) := by simp [castP3]
  rw [h2, hc] at hl
  rw [norm050_length]; exact hl

theorem groups050_ok :
    groupsOK ((Gen.C13.L_0_5_0.norm.map p3Of).map castP3).length Gen.C13.L_0_5_0.groups = true := by
  rw [norm050_length]; decide +kernel

theorem exact050_two {pan : P3 ℝ → Option (List ℝ)} (hpan : pan ⟨0, 1, 0⟩ = some (unitR 5 2)) (c : P3 ℝ)
    (hc : ((Gen.C13.L_0_5_0.norm.map p3Of).map castP3)[2]? = some c) :
    pan c = some (unitR ((Gen.C13.L_0_5_0.norm.map p3Of).map castP3).length 2) := by
  rw [norm050_two] at hc
  rw [← Option.some.inj hc, norm050_length]; exact hpan

/-- **Counter-example (known finding `polar-lock-zone-downmix`).** Layout 0+5+0, polar object at
azimuth 0, elevation 0, distance 1 (`cart(0, 0, 1) = (0, 1, 0)`, the position of M+000), channel
lock without `maxDistance`, `zoneExclusion = [PolarZone(-10, 10, -10, 10)]`.
Exact arithmetic on the regenerated table: the zone list excludes exactly M+000 (index 2), whose
`norm_position` is `(0, 1, 0)`, and row 2 of the downmix matrix is `[1/2, 1/2, 0, 0, 0]`.
Over ℝ, for every zone list with that mask and every panner that is exact at M+000: the lock
selects M+000 (distance 0; all other loudspeakers are ≥ `1e-5` away) and the render is
`√½·gain` on M+030 **and** M-030 and 0 on the locked loudspeaker — two loudspeakers, not one.
The real renderer gives direct gains `[0.7071…, 0.7071…, 0, 0, 0]` on this input (evaluated on
every run by `harness/c13_search.py: _probe_witness_polar`). -/
theorem polar_lock_zone_two_speakers_witness :
    let L := Gen.C13.L_0_5_0
    let mask := [false, false, true, false, false]
    (getExcluded 4 (L.spk.map spkOf) [Zone.polar (-10 : Rat) 10 (-10) 10] = some mask ∧ someNotAll mask ∧
      (L.norm.map p3Of)[2]? = some ⟨0, 1, 0⟩ ∧
      (downmixForExcluded (α := Rat) 5 L.groups mask).map (fun D => D[2]?) = some (some [1 / 2, 1 / 2, 0, 0, 0])) ∧
    ∀ (fuel : Nat) (spks : List (Spk ℝ)) (zones : List (Zone ℝ)) (pan : P3 ℝ → Option (List ℝ)) (gain diffuse : ℝ),
      getExcluded fuel spks zones = some mask →
      pan ⟨0, 1, 0⟩ = some (unitR 5 2) →
      renderPolarLock fuel spks ((L.norm.map p3Of).map castP3) L.prio L.groups zones pan ⟨0, 1, 0⟩ (some none)
          gain diffuse =
        some (mask, .locked 2,
          ([Real.sqrt (1 / 2) * gain * Real.sqrt (1 - diffuse), Real.sqrt (1 / 2) * gain * Real.sqrt (1 - diffuse),
            0, 0, 0],
           [Real.sqrt (1 / 2) * gain * Real.sqrt diffuse, Real.sqrt (1 / 2) * gain * Real.sqrt diffuse,
            0, 0, 0])) := by
  intro L mask
  refine ⟨by decide +kernel, ?_⟩
  intro fuel spks zones pan gain diffuse hz hpan
  have hlen : ((L.norm.map p3Of).map castP3).length = 5 := norm050_length
  have hl : lockHandle false ((L.norm.map p3Of).map castP3) L.prio (List.replicate 5 false) ⟨0, 1, 0⟩ (some none) =
      .locked 2 := by
    have := lock050_two
    rwa [norm050_length] at this
  have hq : ((L.norm.map p3Of).map castP3)[2]? = some (⟨0, 1, 0⟩ : P3 ℝ) := norm050_two
  have hDq : downmixForExcluded (α := Rat) 5 L.groups mask =
      some [[1, 0, 0, 0, 0], [0, 1, 0, 0, 0], [1 / 2, 1 / 2, 0, 0, 0], [0, 0, 0, 1, 0], [0, 0, 0, 0, 1]] := by
    decide +kernel
  have hD := downmixForExcluded_cast 5 L.groups mask
  rw [hDq] at hD
  have hr := renderPolar_unit 5 2 L.groups mask _ (castRow [1 / 2, 1 / 2, 0, 0, 0]) hD (by rfl) (by simp [castRow]) (by decide) gain diffuse
  unfold renderPolarLock
  simp only [hlen, hl, lockedPosition, hq, Option.bind_some, hpan, hz, hr]
  simp [castRow]

/-- the witness satisfies the hypotheses of `polar_lock_with_zones_characterised` (non-vacuity) and
its conclusion shows the non-unit downmix row -/
example (pan : P3 ℝ → Option (List ℝ)) (hpan : pan ⟨0, 1, 0⟩ = some (unitR 5 2)) (spks : List (Spk ℝ))
    (zones : List (Zone ℝ)) (h : getExcluded 4 spks zones = some [false, false, true, false, false]) :
    ∃ d f, renderPolarLock 4 spks ((Gen.C13.L_0_5_0.norm.map p3Of).map castP3) Gen.C13.L_0_5_0.prio
      Gen.C13.L_0_5_0.groups zones pan ⟨0, 1, 0⟩ (some none) 1 0 =
        some ([false, false, true, false, false], .locked 2, (d, f)) ∧
      (d.map fun x => x * x).sum + (f.map fun x => x * x).sum = 1 * 1 := by
  have hw := (polar_lock_zone_two_speakers_witness).2 4 spks zones pan 1 0 h hpan
  exact ⟨_, _, hw, polar_lock_power 4 spks _ Gen.C13.L_0_5_0.prio Gen.C13.L_0_5_0.groups zones pan ⟨0, 1, 0⟩
    (some none) 1 0 [false, false, true, false, false] 2 _ _ groups050_ok (exact050_two hpan) hw (by norm_num)
    (by norm_num)⟩

/-- **Counter-example (known finding `cartesian-zone-extend-reset`), with the gain.** Layout 0+7+0
and the zone mask of `cart_zone_not_silent_witness` (six of seven excluded, among them M+030 =
index 0): for every zone list with that mask, a Cartesian object *at the allocentric position of
M+030* without channel lock is rendered with final mask "nothing excluded" and the whole gain on
M+030 — direct `gain·√(1−diffuse)`, diffuse `gain·√diffuse` on a zone-excluded loudspeaker. -/
theorem cart_zone_not_silent_gain_witness :
    let L := Gen.C13.L_0_7_0
    let mask := [true, true, true, true, false, true, true]
    ∀ (fuel : Nat) (spks : List (Spk ℝ)) (zones : List (Zone ℝ)) (gain diffuse : ℝ), spks.length = 7 →
      getExcluded fuel spks zones = some mask →
      ∃ c, ((L.allo.map p3Of).map castP3)[0]? = some c ∧ isExcl mask 0 = true ∧
        renderCartLock fuel spks ((L.allo.map p3Of).map castP3) L.prio zones c none gain diffuse =
          some ([false, false, false, false, false, false, false], .unchanged,
            (((List.replicate 7 (0 : ℝ)).set 0 1).map (fun v => v * gain * Real.sqrt (1 - diffuse)),
             ((List.replicate 7 (0 : ℝ)).set 0 1).map (fun v => v * gain * Real.sqrt diffuse))) := by
  intro L mask fuel spks zones gain diffuse hs hz
  have hlen : ((L.allo.map p3Of).map castP3).length = 7 := by simp [L, Gen.C13.L_0_7_0]
  have hfin : alloExcluded ((L.allo.map p3Of).map castP3) mask = [false, false, false, false, false, false, false] := by
    rw [alloExcluded_cast]; decide +kernel
  have h0 : (0 : Nat) < ((L.allo.map p3Of).map castP3).length := by rw [hlen]; decide
  obtain ⟨st, g, hst, hg, hr⟩ := renderCart_at_kept (distinct_allo_layouts L (by simp [L, Gen.C13.layouts]))
    (final := [false, false, false, false, false, false, false]) (by rw [hlen]; rfl) h0 rfl gain diffuse
  rw [hlen] at hr
  exact ⟨_, List.getElem?_eq_getElem h0, rfl,
    renderCartLock_eq_some.mpr ⟨mask, hz, hfin.symm, rfl, _, st, g, rfl, hst, hg, hr.symm⟩⟩

/-- non-vacuity of `cart_lock_one_speaker`, `cart_lock_target_not_excluded`, `cart_lock_limit`: on the
regenerated 0+5+0 table (cast to ℝ), no zones, any position: the composed Cartesian path with a lock
is defined and locks to some loudspeaker `i`, to which `cart_lock_one_speaker` then applies -/
example (p : P3 ℝ) (gain diffuse : ℝ) :
    ∃ i d f final, renderCartLock 4 (List.replicate 5 (⟨0, 0, 0, 0, 0⟩ : Spk ℝ))
        ((Gen.C13.L_0_5_0.allo.map p3Of).map castP3) Gen.C13.L_0_5_0.prio [] p (some none) gain diffuse =
        some (final, .locked i, (d, f)) ∧
      d = ((List.replicate 5 (0 : ℝ)).set i 1).map (fun v => v * gain * Real.sqrt (1 - diffuse)) ∧
      NearestByRule true ((Gen.C13.L_0_5_0.allo.map p3Of).map castP3) Gen.C13.L_0_5_0.prio final p none i := by
  have hlen : ((Gen.C13.L_0_5_0.allo.map p3Of).map castP3).length = 5 := by simp [Gen.C13.L_0_5_0]
  have hd : Distinct ((Gen.C13.L_0_5_0.allo.map p3Of).map castP3) := distinct_cast _ (by decide +kernel)
  obtain ⟨i, d, f, h⟩ := cart_lock_defined 4 (List.replicate 5 (⟨0, 0, 0, 0, 0⟩ : Spk ℝ)) _ Gen.C13.L_0_5_0.prio []
    p gain diffuse _ rfl hd (by rw [hlen, List.length_replicate]) (by rw [hlen]; decide)
  obtain ⟨_, _, hdd, _, maxD, hm, hn⟩ := cart_lock_one_speaker 4 _ _ _ [] p _ gain diffuse _ i d f hd
    (by rw [hlen, List.length_replicate]) h
  simp only [Option.some.injEq] at hm
  subst hm
  rw [hlen] at hdd
  exact ⟨i, d, f, _, h, hdd, hn⟩

/-- … and with a distance limit that no loudspeaker meets the same block is rendered as if unlocked
(`cart_lock_limit`, first alternative): a negative limit admits nobody -/
example (allo : List (P3 ℝ)) (final : List Bool) (p : P3 ℝ) (j : Nat) :
    ¬ LockCandidate allo final p (some (-1)) j := by
  rintro ⟨hj, _, hd⟩
  have := hd (-1) rfl
  have h0 : 0 ≤ spkDist allo p j := by
    unfold spkDist
    split
    · exact Real.sqrt_nonneg _
    · exact le_refl 0
  norm_num at this
  linarith


/-- **The composed polar path is defined whenever it locks and the panner answers `e_k`** (non-vacuity
of `polar_lock_with_zones_characterised`, `polar_lock_one_speaker` and the `_partial` theorems): with
well-formed groups the zone downmix never asserts. -/
theorem polar_lock_defined (fuel : Nat) (spks : List (Spk ℝ)) (norm : List (P3 ℝ)) (prio : List Nat)
    (groups : List (List (List Nat))) (zones : List (Zone ℝ)) (pan : P3 ℝ → Option (List ℝ)) (p : P3 ℝ)
    (lock : Option (Option ℝ)) (gain diffuse : ℝ) (zmask : List Bool) (k : Nat)
    (hg : groupsOK norm.length groups = true)
    (hl : lockHandle false norm prio (List.replicate norm.length false) p lock = .locked k)
    (hexact : ∀ c, norm[k]? = some c → pan c = some (unitR norm.length k))
    (hz : getExcluded fuel spks zones = some zmask) (hlen : spks.length = norm.length) :
    ∃ d f, renderPolarLock fuel spks norm prio groups zones pan p lock gain diffuse =
      some (zmask, .locked k, (d, f)) := by
  obtain ⟨hk, _⟩ := lock_index_valid false norm prio _ p lock k hl
  have hzl : zmask.length = norm.length := by rw [getExcluded_length fuel spks zones zmask hz, hlen]
  obtain ⟨Dq, hDq, _⟩ := downmix_defined norm.length groups zmask hg hzl
  have hD := downmixForExcluded_cast norm.length groups zmask
  rw [hDq] at hD
  obtain ⟨row, hrow, hrl, _⟩ := downmix_row_spec hD hg hk
  have hr := renderPolar_unit norm.length k groups zmask _ row hD hrow hrl hk gain diffuse
  have hq : norm[k]? = some norm[k] := List.getElem?_eq_getElem hk
  exact ⟨_, _, renderPolarLock_eq_some.mpr ⟨hl.symm, _, _, hq, hexact _ hq, hz, hr⟩⟩

/-- non-vacuity of `polar_lock_one_speaker`: 0+5+0 (regenerated table, cast to ℝ), no zones, object at
M+000, a panner that is exact there: the composed polar path locks to M+000 and renders `e_2`·gain -/
example (pan : P3 ℝ → Option (List ℝ)) (hpan : pan ⟨0, 1, 0⟩ = some (unitR 5 2)) (gain diffuse : ℝ) :
    ∃ d f, renderPolarLock 4 (List.replicate 5 (⟨0, 0, 0, 0, 0⟩ : Spk ℝ))
        ((Gen.C13.L_0_5_0.norm.map p3Of).map castP3) Gen.C13.L_0_5_0.prio Gen.C13.L_0_5_0.groups [] pan ⟨0, 1, 0⟩
        (some none) gain diffuse = some (List.replicate 5 false, .locked 2, (d, f)) ∧
      d = (unitR 5 2).map (fun v => v * gain * Real.sqrt (1 - diffuse)) := by
  have hlen := norm050_length
  obtain ⟨d, f, h⟩ := polar_lock_defined 4 (List.replicate 5 (⟨0, 0, 0, 0, 0⟩ : Spk ℝ)) _ Gen.C13.L_0_5_0.prio
    Gen.C13.L_0_5_0.groups [] pan ⟨0, 1, 0⟩ (some none) gain diffuse (List.replicate 5 false) 2 groups050_ok
    lock050_two (exact050_two hpan) rfl (by rw [hlen, List.length_replicate])
  obtain ⟨_, hd, _, _⟩ := polar_lock_one_speaker 4 _ _ _ _ [] pan _ _ gain diffuse _ 2 d f groups050_ok
    (exact050_two hpan) h (isExcl_replicate_false 5 2) (by decide +kernel)
  rw [hlen] at hd
  exact ⟨d, f, h, hd⟩

/-- non-vacuity of `polar_lock_one_speaker_partial`: three loudspeakers on the coordinate axes, one triplet
region with the identity position matrix, object on the first axis: the lock selects loudspeaker 0, the C05
panner's first (only) region is a triplet with loudspeaker 0 as its first vertex, and the render is `e_0`·gain -/
example (gain diffuse : ℝ) (roots : Nat → Option ℝ × Option ℝ) :
    let ps : List (P3 Rat) := [⟨1, 0, 0⟩, ⟨0, 1, 0⟩, ⟨0, 0, 1⟩]
    let P : PointSource.Mat3 ℝ := ((1, 0, 0), (0, 1, 0), (0, 0, 1))
    ∃ d f, renderPolarLock 4 (List.replicate 3 (⟨0, 0, 0, 0, 0⟩ : Spk ℝ)) (ps.map castP3) [0, 1, 2]
        [[[0], [1, 2]], [[1], [0, 2]], [[2], [0, 1]]] []
        (fun q => PointSource.PointSourcePanner.handle [.triplet [0, 1, 2] P] 3 roots (vec3 q)) (castP3 ⟨1, 0, 0⟩)
        (some none) gain diffuse = some (List.replicate 3 false, .locked 0, (d, f)) ∧
      d = (unitR 3 0).map (fun v => v * gain * Real.sqrt (1 - diffuse)) := by
  intro ps P
  have hlen : (ps.map castP3).length = 3 := by simp [ps]
  have hl := lock_at_speaker_table false ps (by decide +kernel) [0, 1, 2] (List.replicate 3 false) 0 (by decide)
    (isExcl_replicate_false 3 0)
  have hdet : PointSource.det3 P ≠ 0 := by simp [PointSource.det3, P]
  have hq : ∀ c, (ps.map castP3)[0]? = some c → vec3 c = P.1 := by
    intro c hc
    simp only [ps, List.map_cons, List.getElem?_cons_zero, Option.some.injEq] at hc
    rw [← hc]; simp [vec3, castP3, P]
  have hg : groupsOK (ps.map castP3).length [[[0], [1, 2]], [[1], [0, 2]], [[2], [0, 1]]] = true := by
    rw [hlen]; decide
  have hex : ∀ c, (ps.map castP3)[0]? = some c →
      PointSource.PointSourcePanner.handle [.triplet [0, 1, 2] P] (ps.map castP3).length roots (vec3 c) =
        some (unitR (ps.map castP3).length 0) := by
    intro c hc
    obtain ⟨e1, _, _⟩ := PointSource.triplet_exact_at_vertex P hdet
    obtain ⟨s1, _, _⟩ := scatter_triplet_unit (ps.map castP3).length 0 1 2 (by decide) (by decide) (by decide)
    apply panner_first_accept _ _ roots (vec3 c) 0 (by decide) _ (fun j hj => absurd hj (Nat.not_lt_zero j))
    simp only [List.getElem_cons_zero, PointSource.Region.channels, PointSource.Region.handle, PointSource.remap,
      hq c hc, e1, Option.map_some, PointSource.vecList, unitR]
    rw [← s1]
  obtain ⟨d, f, h⟩ := polar_lock_defined 4 (List.replicate 3 (⟨0, 0, 0, 0, 0⟩ : Spk ℝ)) (ps.map castP3) [0, 1, 2]
    _ [] _ (castP3 ⟨1, 0, 0⟩) (some none) gain diffuse (List.replicate 3 false) 0 hg
    (by rw [hlen]; exact hl) hex rfl (by rw [hlen, List.length_replicate])
  obtain ⟨_, hd, _, _⟩ := polar_lock_one_speaker_partial [.triplet [0, 1, 2] P] roots 4 _ (ps.map castP3) [0, 1, 2] _ []
    (castP3 ⟨1, 0, 0⟩) (some none) gain diffuse _ 0 d f hg h (isExcl_replicate_false 3 0) (by decide)
    0 (by decide) 0 1 2 P rfl hdet (by decide) (by decide) (by decide)
    (fun c _ j hj => absurd hj (Nat.not_lt_zero j)) (fun c hc => Or.inl ⟨rfl, (hq c hc).symm⟩)
  rw [hlen] at hd
  exact ⟨d, f, h, hd⟩


/-- non-vacuity of `lock_one_speaker_partial`: a one-loudspeaker layout, object at the loudspeaker -/
example (c : P3 ℝ) :
    ∃ c', [c][0]? = some c' ∧ isExcl [] 0 = false ∧ (fun _ => unitVec 1 0) c' = (unitVec 1 0 : List ℝ) ∧
      ((fun _ => unitVec 1 0) c' : List ℝ)[0]? = some one ∧
      ∀ j, j < [c].length → j ≠ 0 → ((fun _ => unitVec 1 0) c' : List ℝ)[j]? = some zero := by
  have hl : lockHandle false [c] [0] [] c (some none) = .locked 0 :=
    lock_at_speaker false [c] [0] [] 0 c rfl rfl (fun j hj hlt => by simp at hlt; omega)
  exact lock_one_speaker_partial (fun _ => unitVec 1 0) false [c] [0] [] c none 0
    (fun k c' hk => by
      have : k = 0 := by
        by_cases h : k = 0
        · exact h
        · simp [h] at hk
      subst this; rfl) hl
-- `polar_lock_one_speaker_quad_partial` has no concrete instance here: a quad region needs a `QuadRegion`
-- (polynomial coefficients, vertex order, `np.roots` outputs) from the C05 tables; its hypotheses are the
-- conclusions of C05's `quad_corner`, whose own non-vacuity example lives in Props/C05.

/-! ## 12. Polar lock on the regenerated tables without a panner hypothesis (C05 exactness plugged in) -/

/-- the C13 table of a layout and the C05 region table of the same layout describe the same loudspeakers: same
number, and `layout.norm_positions[k]` (C13, exact fraction) is the position of channel `k` in the C05 table (exact
binary64 value), with output index `k` -/
def normMatches (L : Gen.C13.Layout) (l : PointSource.RawLayout) : Bool :=
  L.name == l.name && L.norm.length == PointSource.Cover.nSpeakers l &&
  (List.range L.norm.length).all fun k =>
    PointSource.Cover.speakerOut l k == k &&
    match PointSource.Cover.speakerPos l k with
    | some v =>
      let q := p3Of (L.norm.getD k [])
      q.x == PointSource.f2Rat v.1 && q.y == PointSource.f2Rat v.2.1 && q.z == PointSource.f2Rat v.2.2
    | none => false

theorem norm_tables_match :
    (Gen.C13.layouts.length == Gen.C05.layouts.length &&
      (Gen.C13.layouts.zip Gen.C05.layouts).all fun Ll => normMatches Ll.1 Ll.2) = true := by
  decide +kernel

theorem norm_length_layouts {L : Gen.C13.Layout} (hL : L ∈ Gen.C13.layouts) :
    ((L.norm.map p3Of).map castP3).length = L.n := by
  have h := tables_lock_ok
  rw [List.all_eq_true] at h
  have h2 := h L hL
  simp only [Bool.and_eq_true, beq_iff_eq] at h2
  rw [List.length_map, List.length_map, h2.1.2]

theorem norm_at {L : Gen.C13.Layout} {k : Nat} {c : P3 ℝ} (hc : ((L.norm.map p3Of).map castP3)[k]? = some c) :
    ∃ hk : k < L.norm.length, c = castP3 (p3Of L.norm[k]) := by
  obtain ⟨hk, rfl⟩ := List.getElem?_eq_some_iff.mp hc
  exact ⟨by simpa using hk, by rw [List.getElem_map, List.getElem_map]⟩

theorem normMatches_at {i : Nat} {L : Gen.C13.Layout} {l : PointSource.RawLayout}
    (hL : Gen.C13.layouts[i]? = some L) (hl : Gen.C05.layouts[i]? = some l) : normMatches L l = true := by
  have := norm_tables_match
  simp only [Bool.and_eq_true, beq_iff_eq, List.all_eq_true] at this
  exact this.2 (L, l) (List.mem_iff_getElem?.mpr ⟨i, by rw [List.getElem?_zip_eq_some]; exact ⟨hL, hl⟩⟩)

theorem pspHandle_exact_at_norm (L : Gen.C13.Layout) (l : PointSource.RawLayout) (hl : l ∈ Gen.C05.layouts)
    (hm : normMatches L l = true) (k : Nat) (c : P3 ℝ) (hc : ((L.norm.map p3Of).map castP3)[k]? = some c) :
    GainCalc.pspHandle l (vec3 c) = some (unitR ((L.norm.map p3Of).map castP3).length k) := by
  simp only [normMatches, Bool.and_eq_true, beq_iff_eq, List.all_eq_true, List.mem_range] at hm
  obtain ⟨⟨_, hlen⟩, hall⟩ := hm
  obtain ⟨hk, hce⟩ := norm_at hc
  obtain ⟨hout, hpos⟩ := hall k hk
  obtain ⟨v, hv, hex⟩ := PointSource.pspHandle_exact_at_speaker_layouts l hl k (by rw [← hlen]; exact hk)
  rw [hv] at hpos
  simp only [Bool.and_eq_true, beq_iff_eq] at hpos
  obtain ⟨⟨hx, hy⟩, hz⟩ := hpos
  rw [List.getD_eq_getElem?_getD, List.getElem?_eq_getElem hk, Option.getD_some] at hx hy hz
  have hvec : vec3 c = (PointSource.p3 v : PointSource.Vec3 ℝ) := by
    rw [hce]
    simp only [vec3, castP3, hx, hy, hz]
    rfl
  rw [hvec, hex, hout, ← hlen]
  simp only [List.length_map]
  rfl  -- `Cover.unitV` and `unitR` are the same list `(replicate n 0).set k 1`

/-- **Polar channel lock renders exactly one loudspeaker, the nearest by the rule — on the ten regenerated layouts,
with the concrete C05 panner and NO panner hypothesis** (`polar_lock_one_speaker_layouts_partial` + C05's
`pspHandle_exact_at_speaker_layouts`).  `L`, `l`: the C13 and C05 tables of the same layout (number `i` of both
lists; that they describe the same loudspeakers is the table obligation `norm_tables_match`).  `spks` is any list of
loudspeakers: it only feeds the zone mask, and the statement holds for whatever mask comes out. -/
theorem polar_lock_one_speaker_layouts (i : Nat) (L : Gen.C13.Layout) (l : PointSource.RawLayout)
    (hL : Gen.C13.layouts[i]? = some L) (hl : Gen.C05.layouts[i]? = some l)
    (fuel : Nat) (spks : List (Spk ℝ)) (prio : List Nat)
    (groups : List (List (List Nat))) (zones : List (Zone ℝ)) (p : P3 ℝ)
    (lock : Option (Option ℝ)) (gain diffuse : ℝ) (zmask : List Bool) (k : Nat) (d f : List ℝ)
    (hg : groupsOK ((L.norm.map p3Of).map castP3).length groups = true)
    (h : renderPolarLock fuel spks ((L.norm.map p3Of).map castP3) prio groups zones
      (fun q => GainCalc.pspHandle l (vec3 q)) p lock gain diffuse = some (zmask, .locked k, (d, f)))
    (hne : isExcl zmask k = false) (hhead : (groups.getD k []).head? = some [k]) :
    k < ((L.norm.map p3Of).map castP3).length ∧
    d = (unitR ((L.norm.map p3Of).map castP3).length k).map (fun v => v * gain * Real.sqrt (1 - diffuse)) ∧
    f = (unitR ((L.norm.map p3Of).map castP3).length k).map (fun v => v * gain * Real.sqrt diffuse) ∧
    ∃ maxD, lock = some maxD ∧
      NearestByRule false ((L.norm.map p3Of).map castP3) prio
        (List.replicate ((L.norm.map p3Of).map castP3).length false) p maxD k :=
  polar_lock_one_speaker_layouts_partial l fuel spks _ prio groups zones p lock gain diffuse zmask k d f hg h hne
    hhead (fun c hc => pspHandle_exact_at_norm L l (List.mem_of_getElem? hl) (normMatches_at hL hl) k c hc)

theorem psp050_two (c : P3 ℝ) (hc : ((Gen.C13.L_0_5_0.norm.map p3Of).map castP3)[2]? = some c) :
    GainCalc.pspHandle Gen.C05.L1 (vec3 c) = some (unitR ((Gen.C13.L_0_5_0.norm.map p3Of).map castP3).length 2) :=
  pspHandle_exact_at_norm _ _ (by simp [Gen.C05.layouts]) (by decide +kernel) 2 c hc

/-- non-vacuity of `polar_lock_one_speaker_layouts`: 0+5+0 (tables number 1), no zones, object at M+000, lock without
maxDistance: the composed polar path with the CONCRETE panner is defined, locks to M+000 and renders `e_2`·gain -/
example (gain diffuse : ℝ) :
    ∃ d f, renderPolarLock 4 (List.replicate 5 (⟨0, 0, 0, 0, 0⟩ : Spk ℝ))
        ((Gen.C13.L_0_5_0.norm.map p3Of).map castP3) Gen.C13.L_0_5_0.prio Gen.C13.L_0_5_0.groups []
        (fun q => GainCalc.pspHandle Gen.C05.L1 (vec3 q)) ⟨0, 1, 0⟩ (some none) gain diffuse =
          some (List.replicate 5 false, .locked 2, (d, f)) ∧
      d = (unitR 5 2).map (fun v => v * gain * Real.sqrt (1 - diffuse)) := by
  have hlen := norm050_length
  obtain ⟨d, f, h⟩ := polar_lock_defined 4 (List.replicate 5 (⟨0, 0, 0, 0, 0⟩ : Spk ℝ)) _ Gen.C13.L_0_5_0.prio
    Gen.C13.L_0_5_0.groups [] (fun q => GainCalc.pspHandle Gen.C05.L1 (vec3 q)) ⟨0, 1, 0⟩ (some none) gain diffuse
    (List.replicate 5 false) 2 groups050_ok lock050_two psp050_two rfl (by rw [hlen, List.length_replicate])
  obtain ⟨_, hd, _, _⟩ := polar_lock_one_speaker_layouts 1 Gen.C13.L_0_5_0 Gen.C05.L1 rfl rfl
    4 _ _ _ [] ⟨0, 1, 0⟩ (some none) gain diffuse _ 2 d f groups050_ok h (isExcl_replicate_false 5 2)
    (by decide +kernel)
  rw [hlen] at hd
  exact ⟨d, f, h, hd⟩

/-- **The same with the layout's OWN regenerated priority list and priority groups** (`L.prio`, `L.groups`: what the
real handlers are built with), so that no hypothesis about `prio` / `groups` is left: `groupsOK` and "the first group
of channel `k` is `[k]`" come from the table obligation `tables_groups_ok`, `L.prio` has one entry per loudspeaker
(`prio.getD` in `NearestByRule` never reads the default).  `0 ≤ diffuse ≤ 1` is the range of the ADM parameter; the
proof does not use it: it marks where `Real.sqrt` and numpy agree (of a negative number the one gives 0, the other NaN),
which concerns every composed theorem of this file alike.  `pan` is the bare point-source panner `GainCalc.pspHandle l`
as in `polar_lock_one_speaker_layouts`. -/
theorem polar_lock_one_speaker_layouts_tables (i : Nat) (L : Gen.C13.Layout) (l : PointSource.RawLayout)
    (hL : Gen.C13.layouts[i]? = some L) (hl : Gen.C05.layouts[i]? = some l)
    (fuel : Nat) (spks : List (Spk ℝ)) (zones : List (Zone ℝ)) (p : P3 ℝ)
    (lock : Option (Option ℝ)) (gain diffuse : ℝ) (_hd0 : 0 ≤ diffuse) (_hd1 : diffuse ≤ 1)
    (zmask : List Bool) (k : Nat) (d f : List ℝ)
    (h : renderPolarLock fuel spks ((L.norm.map p3Of).map castP3) L.prio L.groups zones
      (fun q => GainCalc.pspHandle l (vec3 q)) p lock gain diffuse = some (zmask, .locked k, (d, f)))
    (hne : isExcl zmask k = false) :
    L.prio.length = ((L.norm.map p3Of).map castP3).length ∧
    k < ((L.norm.map p3Of).map castP3).length ∧
    d = (unitR ((L.norm.map p3Of).map castP3).length k).map (fun v => v * gain * Real.sqrt (1 - diffuse)) ∧
    f = (unitR ((L.norm.map p3Of).map castP3).length k).map (fun v => v * gain * Real.sqrt diffuse) ∧
    ∃ maxD, lock = some maxD ∧
      NearestByRule false ((L.norm.map p3Of).map castP3) L.prio
        (List.replicate ((L.norm.map p3Of).map castP3).length false) p maxD k := by
  have hmem : L ∈ Gen.C13.layouts := List.mem_of_getElem? hL
  have ht := tables_groups_ok
  rw [List.all_eq_true] at ht
  have h1 := ht L hmem
  simp only [Bool.and_eq_true, beq_iff_eq, List.all_eq_true, List.mem_range] at h1
  obtain ⟨⟨⟨⟨⟨hg, _⟩, _⟩, _⟩, hprio⟩, hhead⟩ := h1
  have hn := norm_length_layouts hmem
  obtain ⟨hlk, _⟩ := renderPolarLock_eq_some.mp h
  obtain ⟨hk, _⟩ := lock_index_valid false _ L.prio _ p lock k hlk.symm
  refine ⟨by rw [hprio, hn], ?_⟩
  exact polar_lock_one_speaker_layouts i L l hL hl fuel spks L.prio L.groups zones p lock gain diffuse zmask k d f
    (by rw [hn]; exact hg) h hne (hhead k (by rw [← hn]; exact hk))

/-- `0 ≤ diffuse ≤ 1` of `polar_lock_one_speaker_layouts_tables` at `diffuse = 1/2`; its other hypotheses are those of
the `example` above -/
example : (0 : ℝ) ≤ 1 / 2 ∧ (1 / 2 : ℝ) ≤ 1 := by norm_num

/-! ## 13. Polar lock on the regenerated tables with the REAL `pan`: `PolarExtentHandler.handle(position, 0, 0, 0)`

`GainCalc.render` calls `extent_pan(position, 0, 0, 0)`, i.e. `PolarExtentHandler.handle` with zero extent
(`GainCalc.polarPointPan`), not the bare point-source panner of section 12.  The position it receives after a lock is
`layout.norm_positions[k]`, binary64 coordinates whose exact squared length is `1 ± 1e-16` — for 27 of the 96
loudspeakers of the ten layouts it is BELOW 1 (e.g. U+045: `1 − 5.2e-17`).  Over ℝ on those exact values
`extent_mod(0, d) > 0` for `d < 1`, `ammount_spread` is tiny but non-zero, and `calc_pv_spread` returns
`sqrt(1 − ammount_spread) · e_k`: exactly one loudspeaker (exact zeros elsewhere) with the gain scaled by
`s = sqrt(1 − ammount_spread) ∈ [sqrt(1 − 1e-10), 1]`.  (In binary64 `np.linalg.norm` of every one of the 96 positions
is exactly `1.0`, `extent_mod` is exactly `0.0` and the real code returns `s = 1`: evaluated on every run, op `rple`.) -/

/-- every `layout.norm_positions[k]` has squared length ≥ 1 − 1e-12 (exact rationals) -/
def normNearUnit (L : Gen.C13.Layout) : Bool :=
  L.norm.all fun r =>
    let q := p3Of r
    decide ((1 : Rat) - 1 / 1000000000000 ≤ q.x * q.x + q.y * q.y + q.z * q.z)

theorem tables_norm_near_unit : Gen.C13.layouts.all normNearUnit = true := by decide +kernel

/-- Table obligation: the C13 tables and the C01 tables (`LayoutTable`, from which `GainCalc.LayoutEnv` is built) list
the same layouts in the same order with the same number of (non-LFE) channels. -/
theorem c01_tables_match :
    (Gen.C13.layouts.length == Gen.C01.layouts.length &&
      (Gen.C13.layouts.zip Gen.C01.layouts).all fun LT => LT.1.name == LT.2.name && LT.1.n == LT.2.n) = true := by
  decide +kernel

theorem inPointClass_at_norm (L : Gen.C13.Layout) (hL : L ∈ Gen.C13.layouts) (k : Nat) (c : P3 ℝ)
    (hc : ((L.norm.map p3Of).map castP3)[k]? = some c) : GainCalc.InPointClass (vec3 c) := by
  have ht := tables_norm_near_unit
  rw [List.all_eq_true] at ht
  have h1 := ht L hL
  simp only [normNearUnit, List.all_eq_true, decide_eq_true_eq] at h1
  obtain ⟨hk, rfl⟩ := norm_at hc
  have h2 := h1 _ (List.getElem_mem hk)
  apply GainCalc.inPointClass_of_near
  set q := p3Of L.norm[k] with hq
  have h3 : ((1 : ℝ) - 1 / 1000000000000) ≤ (q.x : ℝ) * q.x + (q.y : ℝ) * q.y + (q.z : ℝ) * q.z := by
    have : (((1 : Rat) - 1 / 1000000000000 : Rat) : ℝ) ≤ ((q.x * q.x + q.y * q.y + q.z * q.z : Rat) : ℝ) :=
      Rat.cast_le.mpr h2
    push_cast at this
    exact this
  show (1 : ℝ) - 1 / 1000000000000 ≤ Real.sqrt ((q.x : ℝ) * q.x + (q.y : ℝ) * q.y + (q.z : ℝ) * q.z)
  exact Real.le_sqrt_of_sq_le (le_trans (by norm_num) h3)

/-- `renderPolar_scale` through the whole path: if at the locked loudspeaker one panner answers `s · g` where the
other answers `g`, the first renders with `gain` what the second renders with `s · gain`. -/
theorem renderPolarLock_scale {fuel : Nat} {spks : List (Spk ℝ)} {norm : List (P3 ℝ)} {prio : List Nat}
    {groups : List (List (List Nat))} {zones : List (Zone ℝ)} {pan₁ pan₂ : P3 ℝ → Option (List ℝ)} {p : P3 ℝ}
    {lock : Option (Option ℝ)} {gain diffuse : ℝ} {zmask : List Bool} {k : Nat} {out : List ℝ × List ℝ}
    {g : List ℝ} {s : ℝ} (hs : 0 ≤ s) (hl : g.length = norm.length) (h0 : ∀ v ∈ g, 0 ≤ v)
    (hp : ∀ q, norm[k]? = some q → pan₁ q = some (g.map (· * s)) ∧ pan₂ q = some g) :
    renderPolarLock fuel spks norm prio groups zones pan₁ p lock gain diffuse = some (zmask, .locked k, out) ↔
    renderPolarLock fuel spks norm prio groups zones pan₂ p lock (s * gain) diffuse = some (zmask, .locked k, out) := by
  rw [renderPolarLock_eq_some, renderPolarLock_eq_some]
  refine and_congr_right fun _ => ⟨?_, ?_⟩
  · rintro ⟨q, g', hq, hg, hz, ho⟩
    obtain ⟨e1, e2⟩ := hp q hq
    obtain rfl := Option.some.inj (e1.symm.trans hg)
    exact ⟨q, g, hq, e2, hz, by rw [← renderPolar_scale _ _ _ _ s gain diffuse hs hl h0]; exact ho⟩
  · rintro ⟨q, g', hq, hg, hz, ho⟩
    obtain ⟨e1, e2⟩ := hp q hq
    obtain rfl := Option.some.inj (e2.symm.trans hg)
    exact ⟨q, _, hq, e1, hz, by rw [renderPolar_scale _ _ _ _ s gain diffuse hs hl h0]; exact ho⟩

/-- **Polar channel lock renders exactly one loudspeaker, the nearest by the rule — with the real `pan`
(`PolarExtentHandler.handle(·, 0, 0, 0)` around the C05 panner), on the ten regenerated layouts, no panner
hypothesis.**  `L`, `l`, `T`: the C13, C05 and C01 tables of the same layout (number `i` of the three lists;
`norm_tables_match`, `c01_tables_match`); the environment of `polarPointPan` is `T.env fuel'`.  `s = 1` whenever the
exact length of `norm_positions[k]` is ≥ 1. -/
theorem polar_lock_one_speaker_layouts_extent (i : Nat) (L : Gen.C13.Layout) (l : PointSource.RawLayout)
    (T : GainCalc.LayoutTable)
    (hL : Gen.C13.layouts[i]? = some L) (hl : Gen.C05.layouts[i]? = some l) (hT : Gen.C01.layouts[i]? = some T)
    (fuel fuel' : Nat) (spks : List (Spk ℝ)) (zones : List (Zone ℝ)) (p : P3 ℝ)
    (lock : Option (Option ℝ)) (gain diffuse : ℝ) (hd0 : 0 ≤ diffuse) (hd1 : diffuse ≤ 1)
    (zmask : List Bool) (k : Nat) (d f : List ℝ)
    (h : renderPolarLock fuel spks ((L.norm.map p3Of).map castP3) L.prio L.groups zones
      (fun q => GainCalc.polarPointPan (T.env fuel' : GainCalc.LayoutEnv ℝ) l (vec3 q)) p lock gain diffuse =
        some (zmask, .locked k, (d, f)))
    (hne : isExcl zmask k = false) :
    ∃ s : ℝ, 0 ≤ s ∧ s ≤ 1 ∧ 1 - 1 / 10000000000 ≤ s * s ∧
    (∀ c, ((L.norm.map p3Of).map castP3)[k]? = some c → 1 ≤ c.x * c.x + c.y * c.y + c.z * c.z → s = 1) ∧
    L.prio.length = ((L.norm.map p3Of).map castP3).length ∧
    k < ((L.norm.map p3Of).map castP3).length ∧
    d = (unitR ((L.norm.map p3Of).map castP3).length k).map (fun v => v * (s * gain) * Real.sqrt (1 - diffuse)) ∧
    f = (unitR ((L.norm.map p3Of).map castP3).length k).map (fun v => v * (s * gain) * Real.sqrt diffuse) ∧
    ∃ maxD, lock = some maxD ∧
      NearestByRule false ((L.norm.map p3Of).map castP3) L.prio
        (List.replicate ((L.norm.map p3Of).map castP3).length false) p maxD k := by
  have hmem : L ∈ Gen.C13.layouts := List.mem_of_getElem? hL
  have hmatch : normMatches L l = true := normMatches_at hL hl
  have hTn : T.n = L.n := by
    have := c01_tables_match
    simp only [Bool.and_eq_true, beq_iff_eq, List.all_eq_true] at this
    have h2 := this.2 (L, T) (by
      rw [List.mem_iff_getElem?]
      exact ⟨i, by rw [List.getElem?_zip_eq_some]; exact ⟨hL, hT⟩⟩)
    exact h2.2.symm
  have hn := norm_length_layouts hmem
  obtain ⟨_, q, _, hq, _⟩ := renderPolarLock_eq_some.mp h
  have hqk : ((L.norm.map p3Of).map castP3)[k]? = some q := hq
  have hpsp := pspHandle_exact_at_norm L l (List.mem_of_getElem? hl) hmatch k q hqk
  obtain ⟨s, hs0, hs1, hs2, hs3, hpan⟩ := GainCalc.polarPointPan_at_unit (T.env fuel' : GainCalc.LayoutEnv ℝ) l (vec3 q)
    ((L.norm.map p3Of).map castP3).length k (by rw [hn]; exact hTn) (inPointClass_at_norm L hmem k q hqk) hpsp
  -- the same block through the bare panner with the gain `s · gain`
  have h0 := (renderPolarLock_scale (pan₂ := fun q => GainCalc.pspHandle l (vec3 q)) hs0 (unitR_length _ k)
    (unitR_nonneg _ k) (fun q' hq' => by
    obtain rfl := Option.some.inj (hqk.symm.trans hq'); exact ⟨hpan, hpsp⟩)).mp h
  obtain ⟨r1, r2, r3, r4, r5⟩ := polar_lock_one_speaker_layouts_tables i L l hL hl fuel spks zones p lock (s * gain)
    diffuse hd0 hd1 zmask k d f h0 hne
  refine ⟨s, hs0, hs1, hs2, ?_, r1, r2, r3, r4, r5⟩
  intro c hc hc1
  rw [hqk] at hc
  obtain rfl := Option.some.inj hc
  apply hs3
  show (1 : ℝ) ≤ Real.sqrt (q.x * q.x + q.y * q.y + q.z * q.z)
  exact Real.le_sqrt_of_sq_le (by rw [one_pow]; exact hc1)

/-- non-vacuity of `polar_lock_one_speaker_layouts_extent`: 0+5+0 (tables number 1), no zones, object at M+000 = (0, 1, 0)
(of unit length exactly, so `s = 1` there), lock without maxDistance: the composed polar path with `polarPointPan` is
defined and locks to M+000 -/
example (gain diffuse : ℝ) :
    ∃ d f, renderPolarLock 4 (List.replicate 5 (⟨0, 0, 0, 0, 0⟩ : Spk ℝ))
        ((Gen.C13.L_0_5_0.norm.map p3Of).map castP3) Gen.C13.L_0_5_0.prio Gen.C13.L_0_5_0.groups []
        (fun q => GainCalc.polarPointPan (Gen.C01.l_0_5_0.env 4 : GainCalc.LayoutEnv ℝ) Gen.C05.L1 (vec3 q)) ⟨0, 1, 0⟩
        (some none) gain diffuse = some (List.replicate 5 false, .locked 2, (d, f)) := by
  have hlen := norm050_length
  have hq := norm050_two
  have hpsp := psp050_two _ hq
  have hcls : GainCalc.InPointClass (vec3 (⟨0, 1, 0⟩ : P3 ℝ)) :=
    GainCalc.inPointClass_of_far _ (by simp [vec3, GainCalc.norm3])
  obtain ⟨s, hs0, _, _, _, hpan⟩ := GainCalc.polarPointPan_at_unit (Gen.C01.l_0_5_0.env 4 : GainCalc.LayoutEnv ℝ)
    Gen.C05.L1 (vec3 ⟨0, 1, 0⟩) ((Gen.C13.L_0_5_0.norm.map p3Of).map castP3).length 2 (by rw [hlen]; rfl) hcls hpsp
  -- through the bare panner with gain `s · gain` the path is defined (`polar_lock_defined`); rescale
  obtain ⟨d, f, h⟩ := polar_lock_defined 4 (List.replicate 5 (⟨0, 0, 0, 0, 0⟩ : Spk ℝ)) _ Gen.C13.L_0_5_0.prio
    Gen.C13.L_0_5_0.groups [] (fun q => GainCalc.pspHandle Gen.C05.L1 (vec3 q)) ⟨0, 1, 0⟩ (some none) (s * gain) diffuse
    (List.replicate 5 false) 2 groups050_ok lock050_two psp050_two rfl (by rw [hlen, List.length_replicate])
  exact ⟨d, f, (renderPolarLock_scale (pan₂ := fun q => GainCalc.pspHandle Gen.C05.L1 (vec3 q)) hs0 (unitR_length _ 2)
    (unitR_nonneg _ 2) (fun q' hq' => by
    obtain rfl := Option.some.inj (hq.symm.trans hq'); exact ⟨hpan, hpsp⟩)).mpr h⟩

end Earverif.C13
