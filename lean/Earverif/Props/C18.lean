/-
C18 — BW64 reader seek/read/tell behave as a cursor over the frames.

The vocabulary of the statements (`WF`, `OpOK`, `ROut`, `Chain`, `GOpOK`, …), the lemmas about the cursor
model (`Model/Bw64Cursor.lean`) and the property theorems; there is no separate lemma file for this property.
`WF` and `read_frames` are also what the sample-level part of C09 (`Proofs/C09Samples.lean`) builds on.
-/
import Earverif.Model.Bw64Cursor

namespace Earverif.Cursor

/-- Well-formed file constants: positive block alignment, the data chunk holds
exactly `N` whole frames and lies inside the file. Every file produced by the
writer satisfies this (C09). -/
structure WF (k : Cfg) (N : Int) : Prop where
  hA : 0 < k.A
  hN : 0 ≤ N
  hsize : k.size = k.A * N
  hfile : k.data + k.size ≤ k.fileLen

/-- Operations in the property's quantifier: frame counts to read are `≥ 0`
and iteration block sizes are `≥ 1` (`iter_sample_blocks(0)` does not
terminate in the real code; negative counts read to the end of the *file*). -/
def OpOK : Op → Prop
  | .read n => 0 ≤ n
  | .iter bs => 1 ≤ bs
  | _ => True

/-- A list of byte ranges represents a list of frame ranges. -/
def RRanges (k : Cfg) : List (Int × Int) → List (Int × Int) → Prop
  | [], [] => True
  | r :: rs, f :: fs => (r.1 = k.data + k.A * f.1 ∧ r.2 = k.A * f.2) ∧ RRanges k rs fs
  | _, _ => False

/-- Concrete output `o` (byte ranges) represents spec output `s` (frame ranges). -/
def ROut (k : Cfg) : Out → Out → Prop
  | .unit, .unit => True
  | .valueError, .valueError => True
  | .pos a, .pos b => a = b
  | .bytes (s, g), .bytes (f, n) => s = k.data + k.A * f ∧ g = k.A * n
  | .blocks rs, .blocks fs =>
      RRanges k rs fs
  | _, _ => False

def ROuts (k : Cfg) : List Out → List Out → Prop
  | [], [] => True
  | o :: os, s :: ss => ROut k o s ∧ ROuts k os ss
  | _, _ => False

theorem len_eq {k : Cfg} {N : Int} (h : WF k N) : len k = N := by
  unfold len; rw [h.hsize]; exact Int.mul_ediv_cancel_left _ (Int.ne_of_gt h.hA)

theorem tell_eq {k : Cfg} (hA : 0 < k.A) (c : Int) : tell k (k.data + k.A * c) = c := by
  unfold tell
  have : k.data + k.A * c - k.data = k.A * c := by omega
  rw [this]; exact Int.mul_ediv_cancel_left _ (Int.ne_of_gt hA)

theorem tell_spec {k : Cfg} {N : Int} (h : WF k N) (c : Int) :
    tell k (k.data + k.A * c) = c := tell_eq h.hA c

theorem clamp_mem {N : Int} (hN : 0 ≤ N) (x : Int) : 0 ≤ clamp N x ∧ clamp N x ≤ N := by
  unfold clamp; split
  · omega
  · split <;> omega

/-- Seeking by `off` frames from a base that lies at frame `x`: the byte position, clamped to the data chunk, is
the position of frame `x + off` clamped to `[0, N]`. -/
theorem seek_clamp {k : Cfg} {N : Int} (h : WF k N) {b x : Int} (hb : b = k.data + k.A * x) (off : Int) :
    (if b + off * k.A < k.data then some k.data
      else if b + off * k.A > k.dend then some k.dend else some (b + off * k.A)) =
      some (k.data + k.A * clamp N (x + off)) := by
  have hA := h.hA
  have e : b + off * k.A = k.data + k.A * (x + off) := by rw [hb, Int.mul_add, Int.mul_comm off]; omega
  rw [e, Cfg.dend, h.hsize]
  unfold clamp
  generalize x + off = y
  by_cases a : y < 0
  · have := Int.mul_neg_of_pos_of_neg hA a
    rw [if_pos a, if_pos (by omega), Int.mul_zero, Int.add_zero]
  · have := Int.mul_nonneg (Int.le_of_lt hA) (Int.not_lt.1 a)
    by_cases c : y > N
    · have := Int.mul_lt_mul_of_pos_left c hA
      rw [if_neg a, if_pos c, if_neg (by omega), if_pos (by omega)]
    · have := Int.mul_le_mul_of_nonneg_left (Int.not_lt.1 c) (Int.le_of_lt hA)
      rw [if_neg a, if_neg c, if_neg (by omega), if_neg (by omega)]

/-- `seek` clamps `base + offset` to `[0, N]`, for each of the three bases (whatever the frame index `c`: `hc0`, `hcN`
are not used, see `seek_clamp`). -/
theorem seek_spec {k : Cfg} {N : Int} (h : WF k N) (c off w : Int)
    (hc0 : 0 ≤ c) (hcN : c ≤ N) :
    seek k (k.data + k.A * c) off w =
      (specSeek N c off w).map (fun c' => k.data + k.A * c') ∧
    ∀ c', specSeek N c off w = some c' → 0 ≤ c' ∧ c' ≤ N := by
  unfold seek specSeek
  by_cases h0 : w = 0
  · subst h0
    simp only [↓reduceIte, Option.map, Option.some.injEq, forall_eq']
    exact ⟨by rw [seek_clamp h (x := 0) (by omega), Int.zero_add], clamp_mem h.hN _⟩
  by_cases h1 : w = 1
  · subst h1
    simp only [h0, ↓reduceIte, Option.map, Option.some.injEq, forall_eq']
    exact ⟨seek_clamp h rfl off, clamp_mem h.hN _⟩
  by_cases h2 : w = 2
  · subst h2
    simp only [h0, h1, ↓reduceIte, Option.map, Option.some.injEq, forall_eq']
    exact ⟨seek_clamp h (by rw [Cfg.dend, h.hsize]) off, clamp_mem h.hN _⟩
  · simp [h0, h1, h2]

theorem bufRead_of_le {k : Cfg} {pos want : Int} (h0 : 0 ≤ want) (h : want ≤ k.fileLen - pos) :
    bufRead k pos want = want := by
  have a : ¬ k.fileLen - pos < 0 := by omega
  have b : ¬ want < 0 := by omega
  simp only [bufRead, a, b, ↓reduceIte]
  split <;> omega

/-- `read n` (n ≥ 0) hands exactly the bytes of frames `[c, min (c+n) N)` to the
decoder and advances the cursor to `min (c+n) N`. -/
theorem read_spec {k : Cfg} {N : Int} (h : WF k N) (c n : Int)
    (hc0 : 0 ≤ c) (hcN : c ≤ N) (hn : 0 ≤ n) :
    let r := read k (k.data + k.A * c) n
    let s := specRead N c n
    r.1 = k.data + k.A * s.1 ∧ r.2.1 = k.data + k.A * s.2.1 ∧ r.2.2 = k.A * s.2.2 ∧
    0 ≤ s.1 ∧ s.1 ≤ N ∧ s.2.1 = c ∧ s.2.2 = (if c + n < N then n else N - c) := by
  have hA := h.hA
  have hf := h.hfile
  rw [h.hsize] at hf
  simp only [read, specRead, tell_eq hA, len_eq h]
  -- `m` frames are read: `n`, or what is left
  generalize hm : (if c + n > N then N - c else n) = m
  obtain ⟨m0, mN, e1, e2⟩ : 0 ≤ m ∧ c + m ≤ N ∧ (if c + n < N then c + n else N) = c + m ∧
      (if c + n < N then n else N - c) = m := by
    subst hm; split <;> split <;> omega
  have p0 : 0 ≤ k.A * m := Int.mul_nonneg (Int.le_of_lt hA) m0
  have p1 := Int.mul_le_mul_of_nonneg_left mN (Int.le_of_lt hA)
  rw [Int.mul_add] at p1
  rw [e1, e2, Int.mul_comm m k.A, bufRead_of_le p0 (by omega), Int.mul_add]
  exact ⟨by omega, trivial, by rw [show c + m - c = m by omega], by omega, mN, trivial, by omega⟩

theorem read_frames {k : Cfg} {N : Nat} (h : WF k N) (c n : Nat) (hc : c ≤ N) :
    read k (k.data + k.A * c) n =
      (k.data + k.A * (min (c + n) N : Nat), (k.data + k.A * c, k.A * (min n (N - c) : Nat))) := by
  obtain ⟨r1, r2, r3, -, -, r6, r7⟩ := read_spec h c n (by omega) (by omega) (by omega)
  have s1 : (specRead N c n).1 = (min (c + n) N : Nat) := by
    simp only [specRead]; split <;> omega
  have s3 : (specRead (N : Int) c n).2.2 = (min n (N - c) : Nat) := by rw [r7]; split <;> omega
  rw [s1] at r1; rw [r6] at r2; rw [s3] at r3
  exact Prod.ext r1 (Prod.ext r2 r3)

theorem iter_refines {k : Cfg} {N : Int} (h : WF k N) (bs : Int) (hbs : 1 ≤ bs) :
    ∀ (fuel : Nat) (c : Int), 0 ≤ c → c ≤ N →
      let r := iter k bs fuel (k.data + k.A * c)
      let s := specIter N bs fuel c
      r.1 = k.data + k.A * s.1 ∧ 0 ≤ s.1 ∧ s.1 ≤ N ∧ RRanges k r.2 s.2 := by
  intro fuel
  induction fuel with
  | zero => intro c hc0 hcN; simp [iter, specIter, RRanges, hc0, hcN]
  | succ fuel ih =>
    intro c hc0 hcN
    simp only [iter, specIter, tell_eq h.hA, len_eq h]
    by_cases hcN' : c = N
    · simp [hcN', RRanges, h.hN]
    · simp only [hcN', ↓reduceIte]
      obtain ⟨h1, h2, h3, h4, h5, -, -⟩ := read_spec h c bs hc0 hcN (by omega)
      obtain ⟨i1, i2, i3, i4⟩ := ih (specRead N c bs).1 h4 h5
      rw [h1]
      exact ⟨i1, i2, i3, ⟨h2, h3⟩, i4⟩

/-- Frame ranges that start at `c`, are non-empty, follow one another without
gap or overlap, and end at `e`. -/
def Chain : Int → List (Int × Int) → Int → Prop
  | c, [], e => c = e
  | c, r :: rs, e => r.1 = c ∧ 0 < r.2 ∧ Chain (c + r.2) rs e

/-- Spec-level meaning of block iteration: with block size `≥ 1` and enough
fuel the yielded ranges tile `[c, N)` exactly once and the cursor ends at `N`. -/
theorem specIter_tiles (N bs : Int) (hbs : 1 ≤ bs) :
    ∀ (fuel : Nat) (c : Int), 0 ≤ c → c ≤ N → N - c < fuel →
      (specIter N bs fuel c).1 = N ∧ Chain c (specIter N bs fuel c).2 N ∧
      ∀ r ∈ (specIter N bs fuel c).2, r.2 ≤ bs := by
  intro fuel
  induction fuel with
  | zero => intro c _ _ hf; omega
  | succ fuel ih =>
    intro c hc0 hcN hf
    simp only [specIter]
    by_cases hcN' : c = N
    · simp [hcN', Chain]
    · simp only [hcN', ↓reduceIte, specRead]
      -- the block read ends at `e = min (c + bs) N`
      generalize he : (if c + bs < N then c + bs else N) = e
      have hce : c < e ∧ e ≤ N ∧ e - c ≤ bs := by subst he; split <;> omega
      obtain ⟨a, b, d⟩ := ih e (by omega) hce.2.1 (by omega)
      exact ⟨a, ⟨rfl, by omega, by rw [show c + (e - c) = e by omega]; exact b⟩,
        List.forall_mem_cons.2 ⟨hce.2.2, d⟩⟩

theorem step_refines {k : Cfg} {N : Int} (h : WF k N) (op : Op) (hop : OpOK op) (c : Int) (hc0 : 0 ≤ c)
    (hcN : c ≤ N) :
    (step k (k.data + k.A * c) op).1 = k.data + k.A * (specStep N c op).1 ∧
    0 ≤ (specStep N c op).1 ∧ (specStep N c op).1 ≤ N ∧
    ROut k (step k (k.data + k.A * c) op).2 (specStep N c op).2 := by
  cases op with
  | seek off w =>
    have hs := seek_spec h c off w hc0 hcN
    simp only [step, specStep]
    rw [hs.1]
    cases hsp : specSeek N c off w with
    | none => simp [ROut, hc0, hcN]
    | some c' =>
      have := hs.2 c' hsp
      simp [ROut, this.1, this.2]
  | tell => simp [step, specStep, ROut, tell_eq h.hA, hc0, hcN]
  | read n =>
    obtain ⟨h1, h2, h3, h4, h5, -, -⟩ := read_spec h c n hc0 hcN hop
    exact ⟨h1, h4, h5, h2, h3⟩
  | iter bs =>
    have hi := iter_refines h bs hop ((len k).toNat + 1) c hc0 hcN
    simp only [step, specStep, ROut]
    rw [len_eq h] at hi ⊢
    exact hi

/-- **C18 (refinement).** For every operation sequence within the property's
quantifier, starting from any cursor, the byte-level reader and the
list-plus-cursor specification stay related: same `tell` values, the bytes read
are exactly those of the frames the spec returns, `ValueError` exactly for an
unsupported `whence`, and the cursor stays in `[0, N]`. -/
theorem ops_refine {k : Cfg} {N : Int} (h : WF k N) :
    ∀ (ops : List Op) (c : Int), 0 ≤ c → c ≤ N → (∀ op ∈ ops, OpOK op) →
      let r := run k (k.data + k.A * c) ops
      let s := specRun N c ops
      r.1 = k.data + k.A * s.1 ∧ 0 ≤ s.1 ∧ s.1 ≤ N ∧ ROuts k r.2 s.2 := by
  intro ops
  induction ops with
  | nil => intro c hc0 hcN _; simp [run, specRun, hc0, hcN, ROuts]
  | cons op ops ih =>
    intro c hc0 hcN hok
    obtain ⟨s1, s2, s3, s4⟩ := step_refines h op (hok op (by simp)) c hc0 hcN
    obtain ⟨i1, i2, i3, i4⟩ := ih (specStep N c op).1 s2 s3 (fun o ho => hok o (by simp [ho]))
    simp only [run, specRun, ROuts]
    rw [s1]
    exact ⟨i1, i2, i3, s4, i4⟩

/-- `seek(0)`, the last thing `__init__` does, puts the buffer at frame 0 wherever it was (the two bounds on
`pos` are not needed): the cursor from which `ops_refine` is meant to be started. -/
theorem open_at_zero {k : Cfg} {N : Int} (h : WF k N) (pos : Int)
    (_hpos : k.data ≤ pos) (_hpos' : pos ≤ k.dend) :
    seek k pos 0 0 = some (k.data + k.A * 0) := by
  have := seek_clamp h (b := k.data) (x := 0) (by omega) 0
  rwa [Int.add_zero, clamp, if_neg (Int.lt_irrefl 0), if_neg (Int.not_lt.2 h.hN)] at this

/-- On a well-formed file, with block
size `≥ 1`, `list(iter_sample_blocks(bs))` started with the cursor at frame `c` leaves the buffer at the end of the
data (`data + A·N`) and returns byte ranges that are the frame ranges `fs` of a chain `c → N` without gap or overlap,
each non-empty and at most `bs` frames long (`iter_refines` composed with `specIter_tiles`). -/
theorem iter_model_tiles {k : Cfg} {N : Int} (h : WF k N) (bs : Int) (hbs : 1 ≤ bs) (c : Int) (hc0 : 0 ≤ c)
    (hcN : c ≤ N) :
    (iter k bs ((len k).toNat + 1) (k.data + k.A * c)).1 = k.data + k.A * N ∧
    ∃ fs, RRanges k (iter k bs ((len k).toNat + 1) (k.data + k.A * c)).2 fs ∧ Chain c fs N ∧ ∀ f ∈ fs, f.2 ≤ bs := by
  have hi := iter_refines h bs hbs ((len k).toNat + 1) c hc0 hcN
  simp only at hi
  rw [len_eq h] at hi ⊢
  obtain ⟨i1, -, -, i4⟩ := hi
  have hN := h.hN
  obtain ⟨t1, t2, t3⟩ := specIter_tiles N bs hbs (N.toNat + 1) c hc0 hcN (by omega)
  rw [t1] at i1
  exact ⟨i1, _, i4, t2, t3⟩

theorem step_iter_tiles {k : Cfg} {N : Int} (h : WF k N) (bs : Int) (hbs : 1 ≤ bs) (c : Int) (hc0 : 0 ≤ c)
    (hcN : c ≤ N) :
    ∃ rs fs, step k (k.data + k.A * c) (.iter bs) = (k.data + k.A * N, .blocks rs) ∧
      RRanges k rs fs ∧ Chain c fs N ∧ ∀ f ∈ fs, f.2 ≤ bs := by
  obtain ⟨a, fs, b1, b2, b3⟩ := iter_model_tiles h bs hbs c hc0 hcN
  refine ⟨_, fs, ?_, b1, b2, b3⟩
  simp only [step]
  rw [← a]

/-- generator operations within the quantifier: a generator's block size is `≥ 0` (`next` on a generator with
block size 0 yields empty blocks; only *exhausting* such a generator hangs, which is `OpOK (.iter bs)`'s `1 ≤ bs`) -/
def GOpOK : GOp → Prop
  | .op o => OpOK o
  | .mk bs => 0 ≤ bs
  | .next _ => True

def RBlock (k : Cfg) : Option (Int × Int) → Option (Int × Int) → Prop
  | some r, some f => r.1 = k.data + k.A * f.1 ∧ r.2 = k.A * f.2
  | none, none => True
  | _, _ => False

def RGOut (k : Cfg) : GOut → GOut → Prop
  | .out a, .out b => ROut k a b
  | .made i, .made j => i = j
  | .block r, .block f => r.1 = k.data + k.A * f.1 ∧ r.2 = k.A * f.2
  | .stop, .stop => True
  | .noGen, .noGen => True
  | _, _ => False

def RGOuts (k : Cfg) : List GOut → List GOut → Prop
  | [], [] => True
  | o :: os, s :: ss => RGOut k o s ∧ RGOuts k os ss
  | _, _ => False

/-- `next(g)` yields frames `[c, min (c + bs) N)` of the cursor at the time of the call, or stops (for good) when
the cursor is at `N`; the generator states of model and specification stay equal. -/
theorem gnext_refines {k : Cfg} {N : Int} (h : WF k N) (g : Gen) (hg : 0 ≤ g.bs) (c : Int) (hc0 : 0 ≤ c)
    (hcN : c ≤ N) :
    (gnext k (k.data + k.A * c) g).1 = k.data + k.A * (specGnext N c g).1 ∧
    0 ≤ (specGnext N c g).1 ∧ (specGnext N c g).1 ≤ N ∧
    (gnext k (k.data + k.A * c) g).2.1 = (specGnext N c g).2.1 ∧ (specGnext N c g).2.1.bs = g.bs ∧
    RBlock k (gnext k (k.data + k.A * c) g).2.2 (specGnext N c g).2.2 := by
  unfold gnext specGnext
  rw [tell_eq h.hA, len_eq h]
  by_cases hd : g.done = true
  · simp [hd, hc0, hcN, RBlock]
  · simp only [hd, Bool.false_eq_true, ↓reduceIte]
    by_cases hcN' : c = N
    · simp [hcN', h.hN, RBlock]
    · simp only [hcN', ↓reduceIte]
      obtain ⟨h1, h2, h3, h4, h5, -, -⟩ := read_spec h c g.bs hc0 hcN hg
      exact ⟨h1, h4, h5, trivial, trivial, h2, h3⟩

theorem gstep_refines {k : Cfg} {N : Int} (h : WF k N) (op : GOp) (hop : GOpOK op) (c : Int) (gens : List Gen)
    (hc0 : 0 ≤ c) (hcN : c ≤ N) (hgens : ∀ g ∈ gens, 0 ≤ g.bs) :
    (gstep k (k.data + k.A * c, gens) op).1.1 = k.data + k.A * (specGstep N (c, gens) op).1.1 ∧
    0 ≤ (specGstep N (c, gens) op).1.1 ∧ (specGstep N (c, gens) op).1.1 ≤ N ∧
    (gstep k (k.data + k.A * c, gens) op).1.2 = (specGstep N (c, gens) op).1.2 ∧
    (∀ g ∈ (specGstep N (c, gens) op).1.2, 0 ≤ g.bs) ∧
    RGOut k (gstep k (k.data + k.A * c, gens) op).2 (specGstep N (c, gens) op).2 := by
  cases op with
  | op o =>
    obtain ⟨a1, a2, a3, a4⟩ := step_refines h o hop c hc0 hcN
    exact ⟨a1, a2, a3, rfl, hgens, a4⟩
  | mk bs =>
    simp only [gstep, specGstep, RGOut]
    exact ⟨trivial, hc0, hcN, trivial, List.forall_mem_append.2 ⟨hgens, List.forall_mem_singleton.2 hop⟩, trivial⟩
  | next i =>
    simp only [gstep, specGstep]
    cases hgi : gens[i]? with
    | none => simp [hc0, hcN, RGOut]; exact hgens
    | some g =>
      have hgm : g ∈ gens := List.mem_of_getElem? hgi
      obtain ⟨b1, b2, b3, b4, b5, b6⟩ := gnext_refines h g (hgens g hgm) c hc0 hcN
      simp only
      refine ⟨b1, b2, b3, by rw [b4], ?_, ?_⟩
      · intro g' hg'
        rcases List.mem_or_eq_of_mem_set hg' with hg' | hg'
        · exact hgens g' hg'
        · rw [hg', b5]; exact hgens g hgm
      · revert b6
        cases (gnext k (k.data + k.A * c) g).2.2 <;> cases (specGnext N c g).2.2 <;> simp [RBlock, RGOut]

/-- **C18 (refinement, with lazily consumed generators).**  Operation sequences may create any number of
generators and interleave `next` on any of them with seek/read/tell/full iteration: the byte-level reader and the
list-plus-cursor specification stay related, and their generator tables stay equal. -/
theorem gops_refine {k : Cfg} {N : Int} (h : WF k N) :
    ∀ (ops : List GOp) (c : Int) (gens : List Gen), 0 ≤ c → c ≤ N → (∀ g ∈ gens, 0 ≤ g.bs) →
      (∀ op ∈ ops, GOpOK op) →
      (grun k (k.data + k.A * c, gens) ops).1.1 = k.data + k.A * (specGrun N (c, gens) ops).1.1 ∧
      0 ≤ (specGrun N (c, gens) ops).1.1 ∧ (specGrun N (c, gens) ops).1.1 ≤ N ∧
      (grun k (k.data + k.A * c, gens) ops).1.2 = (specGrun N (c, gens) ops).1.2 ∧
      RGOuts k (grun k (k.data + k.A * c, gens) ops).2 (specGrun N (c, gens) ops).2 := by
  intro ops
  induction ops with
  | nil => intro c gens hc0 hcN _ _; simp [grun, specGrun, hc0, hcN, RGOuts]
  | cons op ops ih =>
    intro c gens hc0 hcN hgens hok
    have hops : ∀ o ∈ ops, GOpOK o := fun o ho => hok o (by simp [ho])
    obtain ⟨s1, s2, s3, s4, s5, s6⟩ := gstep_refines h op (hok op (by simp)) c gens hc0 hcN hgens
    obtain ⟨i1, i2, i3, i4, i5⟩ := ih _ _ s2 s3 s5 hops
    simp only [grun, specGrun, RGOuts]
    rw [show (gstep k (k.data + k.A * c, gens) op).1 = (_, _) from Prod.ext s1 s4]
    exact ⟨i1, i2, i3, i4, s6, i5⟩

/-- A `for` loop over a fresh generator (`next` until `StopIteration`, nothing in between) is the eager `iter`. -/
theorem drain_eq_iter (k : Cfg) (bs : Int) : ∀ (fuel : Nat) (pos : Int),
    (drain k fuel pos ⟨bs, false⟩).1 = (iter k bs fuel pos).1 ∧
    (drain k fuel pos ⟨bs, false⟩).2.2 = (iter k bs fuel pos).2 := by
  intro fuel
  induction fuel with
  | zero => intro pos; simp [drain, iter]
  | succ fuel ih =>
    intro pos
    simp only [drain, iter, gnext, Bool.false_eq_true, ↓reduceIte]
    by_cases ht : tell k pos = len k
    · simp [ht]
    · simp only [ht, ↓reduceIte]
      obtain ⟨a, b⟩ := ih (read k pos bs).1
      simp [a, b]

/-! ### the excluded point `WF.hsize`: a data chunk that does not hold whole frames

A file whose data chunk size is `A·N + r` with `0 < r < A` (never produced by the writer, but accepted by the
reader) has `len = N` (floor), and `position.end = data + A·N + r` is not a frame boundary: a seek relative to the
end — or any seek clamped to the end — puts the buffer *between* frames, `tell` floors it, and a following `read`
returns `A` bytes that straddle two frames.  So the cursor abstraction fails there; `ops_refine` assumes
`k.size = k.A * N` for this reason. -/

theorem ragged_len {k : Cfg} {N r : Int} (hA : 0 < k.A) (hr0 : 0 ≤ r) (hr : r < k.A) (hs : k.size = k.A * N + r) :
    len k = N := by
  unfold len
  rw [hs, Int.add_comm, Int.add_mul_ediv_left _ _ (Int.ne_of_gt hA), Int.ediv_eq_zero_of_lt hr0 hr, Int.zero_add]

theorem seek_cur {k : Cfg} {pos off : Int} (h1 : k.data ≤ pos + off * k.A) (h2 : pos + off * k.A ≤ k.dend) :
    seek k pos off 1 = some (pos + off * k.A) := by
  have a : ¬ pos + off * k.A < k.data := by omega
  have b : ¬ pos + off * k.A > k.dend := by omega
  simp only [seek, a, b, ↓reduceIte, Int.reduceEq]

theorem seek_end {k : Cfg} (pos : Int) (h : 0 ≤ k.size) : seek k pos 0 2 = some k.dend := by
  have a : ¬ k.dend < k.data := by unfold Cfg.dend; omega
  simp only [seek, Int.zero_mul, Int.add_zero, a, Int.lt_irrefl, ↓reduceIte, Int.reduceEq, gt_iff_lt]

/-- **Excluded point.**  In a ragged file, after `seek(0, 2); seek(-1, 1)` the reader says `tell() = N - 1` and
`read(1)` returns the `A` bytes starting `r` bytes *into* frame `N - 1` — not a frame of the file. -/
theorem ragged_not_cursor {k : Cfg} {N r : Int} (hA : 0 < k.A) (hN : 1 ≤ N) (hr0 : 0 < r) (hr : r < k.A)
    (hs : k.size = k.A * N + r) (hfile : k.data + k.size ≤ k.fileLen) (pos0 : Int) :
    (run k pos0 [.seek 0 2, .seek (-1) 1, .tell, .read 1]).2 =
      [.unit, .unit, .pos (N - 1), .bytes (k.data + k.A * (N - 1) + r, k.A)] := by
  have hlen := ragged_len hA (Int.le_of_lt hr0) hr hs
  have hAN := Int.mul_le_mul_of_nonneg_left hN (Int.le_of_lt hA)
  -- `p`: the position one block alignment before the end of the data chunk
  have hp : k.dend + -1 * k.A = k.data + k.A * (N - 1) + r := by rw [Cfg.dend, hs, Int.mul_sub]; omega
  have hpos1 := seek_end (k := k) pos0 (by omega)
  have hpos2 : seek k k.dend (-1) 1 = some (k.data + k.A * (N - 1) + r) := by
    rw [← hp]; exact seek_cur (by unfold Cfg.dend; omega) (by omega)
  have htell : tell k (k.data + k.A * (N - 1) + r) = N - 1 := by
    unfold tell
    have : k.data + k.A * (N - 1) + r - k.data = r + k.A * (N - 1) := by omega
    rw [this, Int.add_mul_ediv_left _ _ (Int.ne_of_gt hA), Int.ediv_eq_zero_of_lt (Int.le_of_lt hr0) hr, Int.zero_add]
  have hread : read k (k.data + k.A * (N - 1) + r) 1 =
      (k.data + k.A * (N - 1) + r + k.A, (k.data + k.A * (N - 1) + r, k.A)) := by
    have h1 : ¬ (N - 1 + 1 > N) := by omega
    simp only [read, htell, hlen, h1, ↓reduceIte, Int.one_mul]
    rw [bufRead_of_le (Int.le_of_lt hA) (by rw [← hp, Cfg.dend]; omega)]
  simp only [run, step, hpos1, hpos2, hread, htell]

/-! Non-vacuity: a concrete 3-frame, 2-channel 16-bit file (`A = 4`) meets `WF`,
and a concrete op sequence meets `OpOK`; the model evaluates on it. -/
example : WF ⟨44, 4, 12, 56⟩ 3 := ⟨by decide, by decide, by decide, by decide⟩
example : (run ⟨44, 4, 12, 56⟩ 44 [.seek 5 0, .tell, .seek (-2) 1, .read 7, .tell, .seek 0 0, .iter 2]).2
    = [.unit, .pos 3, .unit, .bytes (48, 8), .pos 3, .unit, .blocks [(44, 8), (52, 4)]] := by decide

/-- generators: two generators over the 3-frame file, `next` interleaved with a seek and a read; the second
generator is finished by a `next` at the end and stays finished after the cursor is moved back -/
example : (grun ⟨44, 4, 12, 56⟩ (44, []) [.mk 2, .mk 1, .next 0, .next 1, .op (.seek 0 0), .next 0, .op (.read 5), .next 1,
      .op (.seek 0 0), .next 1, .next 0]).2
    = [.made 0, .made 1, .block (44, 8), .block (52, 4), .out .unit, .block (44, 8), .out (.bytes (52, 4)), .stop,
       .out .unit, .stop, .block (44, 8)] := by decide
example : ∀ op ∈ ([.mk 2, .mk 0, .next 0, .op (.seek 0 0), .op (.iter 1)] : List GOp), GOpOK op := by
  simp [GOpOK, OpOK]
/-- the hypotheses of `ragged_not_cursor` on a concrete file: 3 frames of 4 bytes + 2 stray bytes -/
example : (run ⟨44, 4, 14, 58⟩ 44 [.seek 0 2, .seek (-1) 1, .tell, .read 1]).2 =
    [.unit, .unit, .pos (3 - 1), .bytes (44 + 4 * (3 - 1) + 2, 4)] :=
  ragged_not_cursor (k := ⟨44, 4, 14, 58⟩) (N := 3) (r := 2) (by decide) (by decide) (by decide) (by decide)
    (by decide) (by decide) 44
/-- the excluded point, evaluated: 3 frames + 2 stray bytes (`size = 14`) -/
example : (run ⟨44, 4, 14, 58⟩ 44 [.seek 0 2, .seek (-1) 1, .tell, .read 1]).2
    = [.unit, .unit, .pos 2, .bytes (54, 4)] := by decide

end Earverif.Cursor
