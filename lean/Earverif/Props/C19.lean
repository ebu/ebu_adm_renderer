/-
C19 — Polar/Cartesian position conversion is invertible.

Theorems about the model `Earverif.Conv` (Model/Conversion.lean): table obligations on the regenerated table
`Earverif.Gen.C19`, the block-level conversions for any scalar type and any parameters, and over ℝ the round
trips, ranges and reference directions of the model instantiated with that table.
-/
import Earverif.Proofs.C19Wrap

namespace Earverif.Conv

open Earverif.Gen.C19 (mapping elTop elTopTilde)

/-- Clockwise step (decreasing azimuth) from azimuth `a` to azimuth `b`, both
in `[-180, 180]`: a value in `(0, 360]`. -/
def cwStep (a b : Rat) : Rat := if a - b ≤ 0 then a - b + 360 else a - b

/-- Consecutive pairs of a cyclic list: `(l[i], l[(i+1) % n])`. -/
def cyc {β : Type} (l : List β) : List (β × β) := l.zip (l.rotateLeft 1)

/-- A cyclic list of azimuths is a clockwise ring of sectors that covers the
full circle exactly once: every azimuth in `[-180, 180]`, every step clockwise
with width strictly between 0 and 180 degrees (half-width < 90, so the `tan`
warp is defined on it), widths summing to 360. Consecutive sectors share their
boundary by construction (`cyc`). -/
def ringOK (azs : List Rat) : Bool :=
  azs.all (fun a => -180 ≤ a && a ≤ 180) &&
  (cyc azs).all (fun p => 0 < cwStep p.1 p.2 && cwStep p.1 p.2 < 180) &&
  ((cyc azs).map (fun p => cwStep p.1 p.2)).sum == 360

/-- Azimuth (ADM convention, `-atan2(x, y)` in degrees) of the eight points of
the unit square with coordinates in `{-1, 0, 1}`, exactly as the model's `cartAz`
computes it over `ℝ` (`octAz_is_cartAz` below; straight behind is `-180`, the
value `-degrees(atan2(0, -1))` gives — no row of the regenerated table uses it). -/
def octAz (x y : Rat) : Option Rat :=
  if x = 0 ∧ y = 1 then some 0 else if x = 1 ∧ y = 1 then some (-45)
  else if x = 1 ∧ y = 0 then some (-90) else if x = 1 ∧ y = -1 then some (-135)
  else if x = 0 ∧ y = -1 then some (-180) else if x = -1 ∧ y = -1 then some 135
  else if x = -1 ∧ y = 0 then some 90 else if x = -1 ∧ y = 1 then some 45
  else none

/-- Azimuths of the Cartesian ends of the rows (`none` if a row is not one of
the eight square points, or is off the horizontal plane). -/
def cartRing (rows : List (Rat × Rat × Rat × Rat)) : Option (List Rat) :=
  rows.mapM fun (_, x, y, z) => if z = 0 then octAz x y else none

/-- The reference loudspeaker directions and the cube corners / front edge
midpoint they stand for (property text; BS.2127-0 section 10): `(az, x, y)`. -/
def referenceRows : List (Rat × Rat × Rat × Rat) :=
  [(0, 0, 1, 0), (-30, 1, 1, 0), (30, -1, 1, 0), (-110, 1, -1, 0), (110, -1, -1, 0)]

/-- Table obligation.  No theorem rests on it: the round-trip proofs evaluate the regenerated table to its five sectors
(`sectors_RP`) and prove soundness and totality of the lookups on those (`find_polar_total`, `find_cart_total` …).  It is
here so that a changed table is reported by a readable obligation on the rational table alone and not only by
`sectors_RP` failing; `cwStep`, `cyc`, `ringOK`, `octAz`, `cartRing` above and `octAz_is_cartAz` below serve it only. -/
theorem sector_boundaries_match :
    ringOK (mapping.map (·.1)) = true ∧
    (∃ ring, cartRing mapping = some ring ∧ ringOK ring = true) ∧
    (0 < elTop ∧ elTop < 90 ∧ 0 < elTopTilde ∧ elTopTilde < 90) := by
  refine ⟨by decide +kernel, ⟨_, rfl, by decide +kernel⟩, by decide +kernel⟩

/-- corners_exact, table part: the table is exactly the set of reference
directions with their cube corners / edge midpoint, and the elevation split maps
elevation 30 to `el_tilde = 45` (`tan 45° = 1`, i.e. `z = d`). -/
theorem table_is_reference :
    (mapping.all (referenceRows.contains ·) && referenceRows.all (mapping.contains ·)) = true ∧
    mapping.length = referenceRows.length ∧ elTop = 30 ∧ elTopTilde = 45 := by
  decide +kernel

section block
variable {α : Type} [Scalar α] {L R : Type}

def Block.isPolar (b : Block α L R) : Bool :=
  match b.position with
  | .polar .. => true
  | .cartesian .. => false

/-- `screenEdgeLock` of the position. -/
def Block.lock (b : Block α L R) : L :=
  match b.position with
  | .polar _ _ _ l => l
  | .cartesian _ _ _ l => l

/-- `to_polar` on a Cartesian position: `extent_cart_to_polar(X, Y, Z, width, depth, height)`, the lock and
every other attribute kept. -/
theorem toPolar_cartesian (P : Params α) (x y z : α) (lock : L) (w h dp : α) (c : Bool) (rest : R) :
    toPolar P ⟨.cartesian x y z lock, w, h, dp, c, rest⟩ =
      (extentCartToPolar P x y z w dp h).map fun r =>
        ⟨.polar r.1.1 r.1.2.1 r.1.2.2 lock, r.2.1, r.2.2.1, r.2.2.2, false, rest⟩ := by
  simp only [toPolar, fixCartesianFlag, Bool.not_true, Bool.false_eq_true, if_false]
  cases extentCartToPolar P x y z w dp h <;> rfl

/-- `to_cartesian` on a polar position: `extent_polar_to_cart`, which returns the sizes in the order X (width),
Y (depth), Z (height). -/
theorem toCartesian_polar (P : Params α) (az el d : α) (lock : L) (w h dp : α) (c : Bool) (rest : R) :
    toCartesian P ⟨.polar az el d lock, w, h, dp, c, rest⟩ =
      (extentPolarToCart P az el d w h dp).map fun r =>
        ⟨.cartesian r.1.1 r.1.2.1 r.1.2.2 lock, r.2.1, r.2.2.2, r.2.2.1, true, rest⟩ := by
  simp only [toCartesian, fixCartesianFlag, Bool.false_eq_true, if_false]
  cases extentPolarToCart P az el d w h dp <;> rfl

theorem toPolar_of_polar (P : Params α) (b : Block α L R) (h : b.isPolar = true) :
    toPolar P b = some { b with cartesian := false } := by
  obtain ⟨_ | _, w, h, dp, c, rest⟩ := b
  · rfl
  · cases h

theorem toCartesian_of_cartesian (P : Params α) (b : Block α L R) (h : b.isPolar = false) :
    toCartesian P b = some { b with cartesian := true } := by
  obtain ⟨_ | _, w, h, dp, c, rest⟩ := b
  · cases h
  · rfl

theorem toPolar_result (P : Params α) (b b' : Block α L R) (h : toPolar P b = some b') :
    b'.isPolar = true ∧ b'.cartesian = false := by
  obtain ⟨_ | _, w, ht, dp, c, rest⟩ := b
  · cases h; exact ⟨rfl, rfl⟩
  · rw [toPolar_cartesian] at h
    obtain ⟨r, -, rfl⟩ := Option.map_eq_some_iff.mp h
    exact ⟨rfl, rfl⟩

theorem toCartesian_result (P : Params α) (b b' : Block α L R) (h : toCartesian P b = some b') :
    b'.isPolar = false ∧ b'.cartesian = true := by
  obtain ⟨_ | _, w, ht, dp, c, rest⟩ := b
  · rw [toCartesian_polar] at h
    obtain ⟨r, -, rfl⟩ := Option.map_eq_some_iff.mp h
    exact ⟨rfl, rfl⟩
  · cases h; exact ⟨rfl, rfl⟩

theorem block_conversion_idempotent (P : Params α) (b b' : Block α L R) :
    (toPolar P b = some b' → toPolar P b' = some b') ∧
    (toCartesian P b = some b' → toCartesian P b' = some b') ∧
    (b.isPolar = true → b.cartesian = false → toPolar P b = some b) ∧
    (b.isPolar = false → b.cartesian = true → toCartesian P b = some b) := by
  refine ⟨fun h => ?_, fun h => ?_, fun hp hf => ?_, fun hp hf => ?_⟩
  -- setting the flag to the value it has gives the block back
  · have ⟨hp, hf⟩ := toPolar_result P b b' h
    rw [toPolar_of_polar P b' hp]; cases b'; cases hf; rfl
  · have ⟨hp, hf⟩ := toCartesian_result P b b' h
    rw [toCartesian_of_cartesian P b' hp]; cases b'; cases hf; rfl
  · rw [toPolar_of_polar P b hp]; cases b; cases hf; rfl
  · rw [toCartesian_of_cartesian P b hp]; cases b; cases hf; rfl

/-- This is a property of the MODEL: `rest : R` is opaque, so it is true by
construction; that the real `evolve(...)` calls touch nothing else is established by the harness (comparison of all
attributes of the real result with the input + the `evolve-keywords` AST obligations + the search). -/
theorem block_conversion_touches_only (P : Params α) (b b' : Block α L R) :
    (toPolar P b = some b' → b'.rest = b.rest ∧ b'.lock = b.lock) ∧
    (toCartesian P b = some b' → b'.rest = b.rest ∧ b'.lock = b.lock) := by
  obtain ⟨_ | _, w, ht, dp, c, rest⟩ := b
  · refine ⟨fun h => ?_, fun h => ?_⟩
    · cases h; exact ⟨rfl, rfl⟩
    · rw [toCartesian_polar] at h
      obtain ⟨r, -, rfl⟩ := Option.map_eq_some_iff.mp h
      exact ⟨rfl, rfl⟩
  · refine ⟨fun h => ?_, fun h => ?_⟩
    · rw [toPolar_cartesian] at h
      obtain ⟨r, -, rfl⟩ := Option.map_eq_some_iff.mp h
      exact ⟨rfl, rfl⟩
    · cases h; exact ⟨rfl, rfl⟩

theorem wrapDrain_eq_map {β γ : Type} (f : β → γ) : ∀ (src : List β) (n : Nat), src.length < n →
    wrapDrain f n src = src.map f
  | [], n + 1, _ => rfl
  | b :: rest, n + 1, h => by
    simp only [wrapDrain, wrapNext, List.map_cons]
    rw [wrapDrain_eq_map f rest n (by simpa using h)]
  | _, 0, h => by simp at h

/-- The model of the wrapper that `convert_objects_to_polar` / `convert_objects_to_cartesian` install carries no state
besides its inner source: a modelling assumption, tied to the real `MetadataSourceModifyBlockFormat` by the channel
correspondence and the `wrapper-stateless` obligation.  Hence every block-level theorem (`toPolar_result`,
`block_conversion_touches_only`, `block_conversion_idempotent`, the round trips) holds for every block of a channel
with mixed coordinate systems. -/
theorem convert_stage_blockwise (P : Params α) (blocks : List (Block α L R)) :
    convertObjectsToPolar P blocks = blocks.map (toPolar P) ∧
    convertObjectsToCartesian P blocks = blocks.map (toCartesian P) :=
  ⟨wrapDrain_eq_map _ _ _ (Nat.lt_succ_self _), wrapDrain_eq_map _ _ _ (Nat.lt_succ_self _)⟩

/-- Every block a converted channel yields is in the target coordinates, whatever the first block was (a wrapper that
decided once per source, on its first block, whether to convert would fail this on a channel with mixed coordinates). -/
theorem convert_stage_all_converted (P : Params α) (blocks : List (Block α L R)) (b' : Block α L R) :
    (some b' ∈ convertObjectsToPolar P blocks → b'.isPolar = true ∧ b'.cartesian = false) ∧
    (some b' ∈ convertObjectsToCartesian P blocks → b'.isPolar = false ∧ b'.cartesian = true) := by
  rw [(convert_stage_blockwise P blocks).1, (convert_stage_blockwise P blocks).2]
  constructor
  · intro h
    obtain ⟨b, _, hb⟩ := List.mem_map.mp h
    exact toPolar_result P b b' hb
  · intro h
    obtain ⟨b, _, hb⟩ := List.mem_map.mp h
    exact toCartesian_result P b b' hb

end block

section real
open Real

/-- polar_range (partial) for the regenerated table.  Missing: in the low elevation regime `0 ≤ d` holds only
provided the gains of the point in the sector found sum to `≥ 0`; that they do is `find_cart_sound`, and
`polar_range_table` puts the two together. -/
theorem polar_range_table_partial (n : Nat) (hn : 1 ≤ n) (x y z az el d : ℝ) (i : Option Nat)
    (h : pointCartToPolar (RP n) x y z = some ((az, el, d), i)) :
    (-180 ≤ az ∧ az < 180) ∧ |el| ≤ 90 ∧
    ((∀ s, findCartSector (RP n) (cartAz x y) = some s → 0 ≤ (gains s x y).1 + (gains s x y).2) → 0 ≤ d) := by
  obtain ⟨e1, e2, e3, e4⟩ := RP_el n
  exact polar_range_partial (RP n) hn (RP_consts n).2.2.2 e1 e2 e3 e4 x y z az el d i h

theorem el_warp_inv_table (n : Nat) (el d : ℝ) (hd : 0 < d) (hel : |el| < 90) :
    elToPolar (RP n) (elToCart (RP n) el d).1 (elToCart (RP n) el d).2 = (el, d) := by
  obtain ⟨e1, e2, e3, e4⟩ := RP_el n
  exact el_warp_inv (RP n) e1 e2 e3 e4 el d hd hel

/-- corners_exact (elevation part, regenerated constants): elevations 0 / ±30 map exactly to `z = 0 / ±d`
with `r_xy = d` (`tan 45° = 1`), and back. -/
theorem corners_exact_el (n : Nat) (d : ℝ) (hd : 0 < d) :
    elToCart (RP n) 0 d = (0, d) ∧ elToCart (RP n) 30 d = (d, d) ∧ elToCart (RP n) (-30) d = (-d, d) ∧
    elToPolar (RP n) 0 d = (0, d) ∧ elToPolar (RP n) d d = (30, d) ∧ elToPolar (RP n) (-d) d = (-30, d) := by
  obtain ⟨h1, h2, -, -⟩ := RP_consts n
  have e45 : (45 : ℝ) * (π / 180) = π / 4 := by ring
  have hdd : d / d = 1 := div_self hd.ne'
  have hndd : -d / d = -1 := by rw [neg_div, hdd]
  have a45 : π / 4 * (180 / π) = 45 := by field_simp; ring
  refine ⟨?_, ?_, ?_, ?_, ?_, ?_⟩
  · rw [elToCart_real, h1, h2]; norm_num
  · rw [elToCart_real, h1, h2]; norm_num [e45]
  · rw [elToCart_real, h1, h2]; norm_num [e45]
  · rw [elToPolar_real, h1, h2]; norm_num
  · rw [elToPolar_real, h1, h2, hdd, arctan_one, a45]; norm_num
  · rw [elToPolar_real, h1, h2, hndd, arctan_neg, arctan_one, neg_mul, a45]; norm_num

/-- corners_exact (azimuth part, any sector of half-width < 90°): the azimuth warp maps the sector's ends
exactly onto the ends of the linear coordinate (`p = 0` at the left row, `p = 1` at the right row — the point
`r_xy * (left_pos + (right_pos - left_pos) * p)` is then exactly `r_xy * left_pos` / `r_xy * right_pos`), and
back. -/
theorem corners_exact_az (l r : ℝ) (hr0 : r - (l + r) / 2 ≠ 0) (hr : |r - (l + r) / 2| < 90) :
    mapAzToLinear l r l = 0 ∧ mapAzToLinear l r r = 1 ∧ mapLinearToAz l r 0 = l ∧ mapLinearToAz l r 1 = r :=
  ⟨mapAzToLinear_left l r hr0 hr, mapAzToLinear_right l r hr0 hr, mapLinearToAz_zero l r hr,
   mapLinearToAz_one l r hr⟩

/-- corners_exact on the full model for one reference direction: U-030 (az = -30, el = 30) at distance `d` maps exactly to the cube corner `(d, d, d)`,
using sector 0, for any fuel (also `0`).  All reference directions, for fuel `≥ 1`: `corners_exact_reference`. -/
theorem corners_exact_point_m30_u30 (n : Nat) (d : ℝ) (hd : 0 < d) :
    pointPolarToCart (RP n) (-30) 30 d = some ((d, d, d), 0) := by
  have hs : findSector (RP n) (-30) = some sec0 := by
    unfold findSector
    rw [sectors_RP, List.find?_cons_of_pos]
    show insideAngleRange n (-30) (-30) 0 (k 0) = true
    rw [insideAngleRange_plain n (-30) (-30) 0 (by norm_num) (by norm_num) (by norm_num) (by norm_num)]
    exact decide_eq_true (by norm_num)
  have hp : azToP (RP n) sec0 (-30) = 1 := by
    show mapAzToLinear (relativeAngle n (-30) 0) (-30) (relativeAngle n (-30) (-30)) = 1
    rw [relativeAngle_of_mem n (-30) (-30) (by norm_num) (by norm_num),
      relativeAngle_of_mem n (-30) 0 (by norm_num) (by norm_num)]
    exact mapAzToLinear_right 0 (-30) (by norm_num) (by norm_num [abs_lt])
  rw [pointPolarToCart_eq, hs, Option.map_some]
  unfold polarToCartIn
  rw [hp, (corners_exact_el n d hd).2.1]
  simp [sec0]

/-- the sector `(rel_left_az, right_az) = (0, -30)` and azimuth `-10` satisfy the hypotheses of the azimuth
warp theorems -/
example : mapLinearToAz (0:ℝ) (-30) (mapAzToLinear 0 (-30) (-10)) = -10 :=
  az_warp_left_inv 0 (-30) (-10) (by norm_num) (by norm_num [abs_lt]) (by norm_num [abs_lt])

/-- the widest sector `(250, 110)` (half-width 70°) and `p = 1/4` -/
example : mapAzToLinear (250:ℝ) 110 (mapLinearToAz 250 110 (1/4)) = 1/4 :=
  az_warp_right_inv 250 110 (1/4) (by norm_num) (by norm_num [abs_lt]) (by norm_num) (by norm_num)

/-- elevation 60, distance 1/2 (high regime) and elevation -10 (low regime) with the regenerated constants -/
example : elToPolar (RP 8) (elToCart (RP 8) 60 (1/2)).1 (elToCart (RP 8) 60 (1/2)).2 = (60, 1/2) :=
  el_warp_inv_table 8 60 (1/2) (by norm_num) (by norm_num [abs_lt])

example : elToPolar (RP 8) (elToCart (RP 8) (-10) 1).1 (elToCart (RP 8) (-10) 1).2 = (-10, 1) :=
  el_warp_inv_table 8 (-10) 1 (by norm_num) (by norm_num [abs_lt])

noncomputable def sector0 : Sector ℝ := ⟨0, ⟨0, 0, 1, 0⟩, ⟨-30, 1, 1, 0⟩⟩

/-- Non-vacuity of `polar_cart_polar_in_sector_partial`: az = -10, el = 20, d = 1 in sector 0 of the table. -/
example :
    cartToPolarIn (RP 8) sector0 (polarToCartIn (RP 8) sector0 (-10) 20 1).1
        (polarToCartIn (RP 8) sector0 (-10) 20 1).2.1 (polarToCartIn (RP 8) sector0 (-10) 20 1).2.2 =
      (relativeAngle (RP 8).fuel (k (-180)) (relativeAngle (RP 8).fuel sector0.right.az (-10)), 20, 1) := by
  obtain ⟨e1, e2, e3, e4⟩ := RP_el 8
  have hL : relativeAngle (RP 8).fuel sector0.right.az sector0.left.az = 0 :=
    relativeAngle_of_mem 8 (-30) 0 (by norm_num) (by norm_num)
  have hA : relativeAngle (RP 8).fuel sector0.right.az (-10) = -10 :=
    relativeAngle_of_mem 8 (-30) (-10) (by norm_num) (by norm_num)
  apply polar_cart_polar_in_sector_partial (RP 8) e1 e2 e3 e4 sector0 (by norm_num [Sector.det, sector0])
    (-10) 20 1 (by norm_num) (by norm_num [abs_lt])
  · rw [hL]; norm_num [sector0]
  · rw [hL]; norm_num [sector0, abs_lt]
  · rw [hA, hL]; norm_num [sector0, abs_lt]

/-- Full model with the regenerated table, any fuel `≥ 1`, over ℝ: for every polar
position with azimuth in `[-180, 180]`, `d > 0`, `|el| < 90`, `point_polar_to_cart` succeeds, and unless its image
falls in the axis guard of `point_cart_to_polar` (`|x|, |y| < 1e-10`; see `polar_cart_polar_of_radius` for the
condition on the input and `cart_polar_cart_snap` for what happens inside), `point_cart_to_polar` of the image
returns exactly the original azimuth (`180` is returned as `-180`), elevation and distance.
Excluded: `d = 0` (azimuth and elevation are lost), `|el| = 90` (azimuth is lost), the guard zone. -/
theorem polar_cart_polar (m : Nat) (az el d : ℝ) (h1 : -180 ≤ az) (h2 : az ≤ 180) (hd : 0 < d)
    (hel : |el| < 90) :
    ∃ x y z i, pointPolarToCart (RP (m + 1)) az el d = some ((x, y, z), i) ∧
      (¬ (|x| < 1 / 10000000000 ∧ |y| < 1 / 10000000000) →
        ∃ j, pointCartToPolar (RP (m + 1)) x y z = some ((if az = 180 then -180 else az, el, d), some j)) := by
  obtain ⟨s, hs⟩ := find_polar_total m az h1 h2
  obtain ⟨hmem, hin⟩ := find_polar_sound m az s hs
  have g := good_of_mem hmem
  obtain ⟨c1, c2, c3, hrt⟩ := polar_in_sector m s g az el d h1 h2 hin hd hel
  have hcone : InCone s _ _ := ⟨c1, c2, c3⟩
  refine ⟨(polarToCartIn (RP (m + 1)) s az el d).1, (polarToCartIn (RP (m + 1)) s az el d).2.1,
    (polarToCartIn (RP (m + 1)) s az el d).2.2, s.idx, ?_, ?_⟩
  · rw [pointPolarToCart_eq, hs]; rfl
  · intro hsnap
    set x := (polarToCartIn (RP (m + 1)) s az el d).1
    set y := (polarToCartIn (RP (m + 1)) s az el d).2.1
    set z := (polarToCartIn (RP (m + 1)) s az el d).2.2
    have hxy := not_origin_of_inCone hcone
    -- on a sector boundary the Cartesian lookup may pick another sector `s'`; `cart_sector_indep` swaps it for `s`
    obtain ⟨s', hs'⟩ := find_cart_total m x y
    obtain ⟨hmem', d1, d2, d3⟩ := find_cart_sound m x y hxy s' hs'
    have hind := cart_sector_indep m (m + 1) s' s hmem' hmem x y z ⟨d1, d2, d3⟩ hcone
    refine ⟨s'.idx, ?_⟩
    rw [pointCartToPolar_off_axis hsnap, hs']
    simp only [Option.map_some]
    rw [hind, hrt]

/-- Azimuths OUTSIDE `[-180, 180]`: for `az ∈ [-180, 180]` and any whole number of
turns `t` (within the model's loop fuel `m + 1`; the real `while` loops are unbounded), `point_polar_to_cart` of
`az + 360 t` is the image of `az` (`pointPolarToCart_periodic`), so converting back returns the representative `az` (with `180`
as `-180`), the elevation and the distance: the round trip holds modulo whole turns for every azimuth. -/
theorem polar_cart_polar_any_turn (m : Nat) (az el d : ℝ) (t : ℤ) (h1 : -180 ≤ az) (h2 : az ≤ 180) (hd : 0 < d)
    (hel : |el| < 90)
    (hf1 : 180 - 360 * (m + 1 : ℕ) ≤ az + 360 * t) (hf2 : az + 360 * t < -180 + 360 * ((m + 1 : ℕ) + 1)) :
    ∃ x y z i, pointPolarToCart (RP (m + 1)) (az + 360 * t) el d = some ((x, y, z), i) ∧
      (¬ (|x| < 1 / 10000000000 ∧ |y| < 1 / 10000000000) →
        ∃ j, pointCartToPolar (RP (m + 1)) x y z = some ((if az = 180 then -180 else az, el, d), some j)) := by
  have hm : (0 : ℝ) ≤ ((m : ℕ) : ℝ) := Nat.cast_nonneg m
  rw [pointPolarToCart_periodic m az el d t (by push_cast; linarith) (by push_cast; linarith) hf1 hf2]
  exact polar_cart_polar m az el d h1 h2 hd hel

/-- the premises of `polar_cart_polar_any_turn` are satisfiable off the ADM range: 200° + 360° = 560° (fuel 3) -/
example : ∃ x y z i, pointPolarToCart (RP 3) ((-160 : ℝ) + 360 * (2 : ℤ)) 10 1 = some ((x, y, z), i) ∧
    (¬ (|x| < 1 / 10000000000 ∧ |y| < 1 / 10000000000) →
      ∃ j, pointCartToPolar (RP 3) x y z = some ((if (-160 : ℝ) = 180 then -180 else -160, 10, 1), some j)) := by
  apply polar_cart_polar_any_turn 2 <;> norm_num

/-- Full model with the regenerated table, any fuel `≥ 1`, over ℝ: for every Cartesian
point outside the axis guard (`¬(|x| < 1e-10 ∧ |y| < 1e-10)`; any `z`, inside or outside the cube),
`point_cart_to_polar` succeeds with an azimuth in `[-180, 180)`, and `point_polar_to_cart` of the result returns
exactly the original point.  (Ranges of elevation and distance: `polar_range_table`.) -/
theorem cart_polar_cart (m : Nat) (x y z : ℝ) (hsnap : ¬ (|x| < 1 / 10000000000 ∧ |y| < 1 / 10000000000)) :
    ∃ az el d i j, pointCartToPolar (RP (m + 1)) x y z = some ((az, el, d), some i) ∧
      (-180 ≤ az ∧ az < 180) ∧
      pointPolarToCart (RP (m + 1)) az el d = some ((x, y, z), j) := by
  have hxy : ¬ (x = 0 ∧ y = 0) := by
    rintro ⟨rfl, rfl⟩; apply hsnap; norm_num
  obtain ⟨s', hs'⟩ := find_cart_total m x y
  obtain ⟨hmem', d1, d2, d3⟩ := find_cart_sound m x y hxy s' hs'
  have g' := good_of_mem hmem'
  obtain ⟨⟨a1, a2⟩, hin', hrt⟩ := cart_in_sector m s' g' x y z d1 d2 d3
  set az := (cartToPolarIn (RP (m + 1)) s' x y z).1
  set el := (cartToPolarIn (RP (m + 1)) s' x y z).2.1
  set d := (cartToPolarIn (RP (m + 1)) s' x y z).2.2
  obtain ⟨j, hj⟩ := pointPolarToCart_of_inRange m s' hmem' az el d a1 a2.le ((g'.inRange_iff m az a1 a2.le).mp hin')
  refine ⟨az, el, d, s'.idx, j, ?_, ⟨a1, a2⟩, ?_⟩
  · rw [pointCartToPolar_off_axis hsnap, hs']; rfl
  · rw [hj, hrt]

/-- polar_range for the table model: the gains hypothesis of `polar_range_table_partial` holds by `find_cart_sound`. -/
theorem polar_range_table (m : Nat) (x y z az el d : ℝ) (i : Option Nat)
    (h : pointCartToPolar (RP (m + 1)) x y z = some ((az, el, d), i)) :
    (-180 ≤ az ∧ az < 180) ∧ |el| ≤ 90 ∧ 0 ≤ d := by
  obtain ⟨ha, he, hd⟩ := polar_range_table_partial (m + 1) (Nat.le_add_left 1 m) x y z az el d i h
  refine ⟨ha, he, hd ?_⟩
  intro s hs
  by_cases hxy : x = 0 ∧ y = 0
  · obtain ⟨rfl, rfl⟩ := hxy
    rw [gains_real]; simp
  · exact (find_cart_sound m x y hxy s hs).2.2.2.le

/-- polar_cart_polar, excluded zone stated on the input: it suffices that the horizontal radius `r_xy` of the
image (`d` itself for `|el| ≤ 30`, `d·tan(90° − el_tilde)` above) is at least the `1e-10` of the axis guard. -/
theorem polar_cart_polar_of_radius (m : Nat) (az el d : ℝ) (h1 : -180 ≤ az) (h2 : az ≤ 180) (hd : 0 < d)
    (hel : |el| < 90) (hr : 1 / 10000000000 ≤ (elToCart (RP (m + 1)) el d).2) :
    ∃ x y z i j, pointPolarToCart (RP (m + 1)) az el d = some ((x, y, z), i) ∧
      pointCartToPolar (RP (m + 1)) x y z = some ((if az = 180 then -180 else az, el, d), some j) := by
  obtain ⟨x, y, z, i, hp, hback⟩ := polar_cart_polar m az el d h1 h2 hd hel
  have hsnap : ¬ (|x| < 1 / 10000000000 ∧ |y| < 1 / 10000000000) := by
    rw [pointPolarToCart_eq] at hp
    obtain ⟨s, hs, he⟩ := Option.map_eq_some_iff.mp hp
    have hmem := (find_polar_sound m az s hs).1
    have hrad := polar_image_radius (RP (m + 1)) s (good_of_mem hmem).hdet az el d
    rw [(Prod.mk.inj he).1] at hrad
    rintro ⟨hx, hy⟩
    rcases cone_radius hmem x y with h | h <;> linarith
  obtain ⟨j, hj⟩ := hback hsnap
  exact ⟨x, y, z, i, j, hp, hj⟩

/-- What happens inside the excluded zone (`|x|, |y| < 1e-10`, the axis guard of `point_cart_to_polar`): the point
is snapped to the vertical axis, `(x, y, z) ↦ (0, ±90, |z|) ↦ (0, 0, z)`, or to the origin when also
`|z| < 1e-10`; the round trip is then off by less than `1e-10` in each coordinate. -/
theorem cart_polar_cart_snap (m : Nat) (x y z : ℝ) (hs : |x| < 1 / 10000000000 ∧ |y| < 1 / 10000000000) :
    (1 / 10000000000 ≤ |z| →
      pointCartToPolar (RP (m + 1)) x y z = some ((0, Conv.sign z * 90, |z|), none) ∧
      ∃ j, pointPolarToCart (RP (m + 1)) 0 (Conv.sign z * 90) |z| = some ((0, 0, z), j)) ∧
    (|z| < 1 / 10000000000 →
      pointCartToPolar (RP (m + 1)) x y z = some ((0, 0, 0), none) ∧
      ∃ j, pointPolarToCart (RP (m + 1)) 0 0 0 = some ((0, 0, 0), j)) := by
  constructor
  · intro hz
    have hz0 : z ≠ 0 := by intro h; rw [h, abs_zero] at hz; norm_num at hz
    refine ⟨?_, polarToCart_axis m 0 _ _ z (by norm_num) (by norm_num) ?_⟩
    · rw [pointCartToPolar_on_axis hs, if_neg (not_lt.mpr hz)]
    · rcases lt_or_gt_of_ne hz0 with h | h
      · rw [sign_neg h, elToCart_pole _ _ _ (by norm_num), sign_neg (by norm_num), abs_of_neg h]; norm_num
      · rw [sign_pos h, elToCart_pole _ _ _ (by norm_num), sign_pos (by norm_num), abs_of_pos h]; norm_num
  · intro hz
    refine ⟨?_, polarToCart_axis m 0 0 0 0 (by norm_num) (by norm_num) (elToCart_zero (m + 1) 0)⟩
    rw [pointCartToPolar_on_axis hs, if_pos hz]

theorem polar_row_image (m : Nat) (s : Sector ℝ) (hs : s ∈ sectors (RP (m + 1))) (el d : ℝ) :
    ∃ j, pointPolarToCart (RP (m + 1)) s.right.az el d =
      some (((elToCart (RP (m + 1)) el d).2 * s.right.x, (elToCart (RP (m + 1)) el d).2 * s.right.y,
             (elToCart (RP (m + 1)) el d).1), j) := by
  have g := good_of_mem hs
  have h1 : -180 ≤ s.right.az := g.hR1.le
  have h2 := g.hR2
  have hrange : InRange s s.right.az := by
    unfold InRange; rw [if_neg (lt_irrefl _)]; exact g.hw1.le
  obtain ⟨j, hj⟩ := pointPolarToCart_of_inRange m s hs s.right.az el d h1 h2 hrange
  refine ⟨j, ?_⟩
  rw [hj]
  unfold polarToCartIn
  rw [g.azToP_right m]; simp

/-- corners_exact (full model, all reference directions): every row of the table (by `table_is_reference`
these are the reference directions 0, ±30, ±110 with their square points; every row is the right end of one
sector) at elevation 0 / 30 / -30 and distance `d` maps exactly to `d` times the row's square point with
`z = 0 / d / -d`, i.e. to the cube corner or edge midpoint. -/
theorem corners_exact_points (m : Nat) (s : Sector ℝ) (hs : s ∈ sectors (RP (m + 1))) (d : ℝ) (hd : 0 < d) :
    (∃ j, pointPolarToCart (RP (m + 1)) s.right.az 0 d = some ((d * s.right.x, d * s.right.y, 0), j)) ∧
    (∃ j, pointPolarToCart (RP (m + 1)) s.right.az 30 d = some ((d * s.right.x, d * s.right.y, d), j)) ∧
    (∃ j, pointPolarToCart (RP (m + 1)) s.right.az (-30) d = some ((d * s.right.x, d * s.right.y, -d), j)) := by
  obtain ⟨e0, e1, e2, -⟩ := corners_exact_el (m + 1) d hd
  refine ⟨?_, ?_, ?_⟩
  · obtain ⟨j, h⟩ := polar_row_image m s hs 0 d; rw [e0] at h; exact ⟨j, h⟩
  · obtain ⟨j, h⟩ := polar_row_image m s hs 30 d; rw [e1] at h; exact ⟨j, h⟩
  · obtain ⟨j, h⟩ := polar_row_image m s hs (-30) d; rw [e2] at h; exact ⟨j, h⟩

/-- Straight behind, azimuth `+180` (only; `−180` is not proved here, it is searched and corresponded), maps to the
middle of the back edge: `(0, -r_xy)`. -/
theorem corner_back (m : Nat) (el d : ℝ) :
    ∃ j, pointPolarToCart (RP (m + 1)) 180 el d =
      some ((0, -(elToCart (RP (m + 1)) el d).2, (elToCart (RP (m + 1)) el d).1), j) := by
  have hs2 : sec2 ∈ sectors (RP (m + 1)) := by rw [sectors_RP]; simp
  obtain ⟨j, hj⟩ := pointPolarToCart_of_inRange m sec2 hs2 180 el d (by norm_num) (by norm_num)
    ((inRange_sec2 le_rfl).mpr (Or.inl (by norm_num)))
  have p : azToP (RP (m + 1)) sec2 180 = 1 / 2 := by
    rw [good_sec2.azToP_eq, lrel_sec2, good_sec2.relAz m 180 (by norm_num) (by norm_num)]
    have : sec2.right.az = 110 := rfl
    rw [this, if_neg (by norm_num)]
    have := mapAzToLinear_mid 250 110
    norm_num at this
    exact this
  refine ⟨j, ?_⟩
  rw [hj]
  unfold polarToCartIn
  rw [p]
  norm_num [sec2]

/-- Non-vacuity: azimuth -170 (sector 2, across the ±180 wrap), elevation 20, distance 1. -/
example : ∃ x y z i j, pointPolarToCart (RP 8) (-170) 20 1 = some ((x, y, z), i) ∧
    pointCartToPolar (RP 8) x y z = some ((if (-170:ℝ) = 180 then -180 else -170, 20, 1), some j) :=
  polar_cart_polar_of_radius 7 (-170) 20 1 (by norm_num) (by norm_num) (by norm_num) (by norm_num [abs_lt])
    (by rw [elToCart_radius_low 8 20 1 (by norm_num [abs_le])]; norm_num)

/-- Non-vacuity: a point outside the unit cube. -/
example : ∃ az el d i j, pointCartToPolar (RP 8) (-2) (1/2) 3 = some ((az, el, d), some i) ∧
    (-180 ≤ az ∧ az < 180) ∧ pointPolarToCart (RP 8) az el d = some ((-2, 1/2, 3), j) :=
  cart_polar_cart 7 (-2) (1/2) 3 (by norm_num [abs_lt])

end real

section block_real
variable {L R : Type}

/-- On the table model `to_polar` succeeds on every block (any position inside or outside the
cube, any extent, any flag): the hypothesis `= some b'` of `block_conversion_idempotent`,
`block_conversion_touches_only`, `toPolar_result` is always satisfied. -/
theorem toPolar_total (m : Nat) (b : Block ℝ L R) : ∃ b', toPolar (RP (m + 1)) b = some b' := by
  obtain ⟨_ | ⟨x, y, z, lock⟩, w, h, dp, c, rest⟩ := b
  · exact ⟨_, rfl⟩
  · obtain ⟨r, hr⟩ := extentCartToPolar_total m x y z w dp h
    rw [toPolar_cartesian, hr]; exact ⟨_, rfl⟩

/-- For the ADM range only: azimuths outside `[-180, 180]` are covered at point level by
`pointPolarToCart_total_any_az` (every azimuth within the loop fuel). -/
theorem toCartesian_total (m : Nat) (b : Block ℝ L R)
    (haz : ∀ az el d lock, b.position = .polar az el d lock → -180 ≤ az ∧ az ≤ 180) :
    ∃ b', toCartesian (RP (m + 1)) b = some b' := by
  obtain ⟨⟨az, el, d, lock⟩ | _, w, h, dp, c, rest⟩ := b
  · obtain ⟨h1, h2⟩ := haz az el d lock rfl
    obtain ⟨r, hr⟩ := extentPolarToCart_total m az el d w h dp h1 h2
    rw [toCartesian_polar, hr]; exact ⟨_, rfl⟩
  · exact ⟨_, rfl⟩

theorem block_conversion_idempotent_total (m : Nat) (b : Block ℝ L R) :
    (∃ b', toPolar (RP (m + 1)) b = some b' ∧ toPolar (RP (m + 1)) b' = some b') ∧
    ((∀ az el d lock, b.position = .polar az el d lock → -180 ≤ az ∧ az ≤ 180) →
      ∃ b', toCartesian (RP (m + 1)) b = some b' ∧ toCartesian (RP (m + 1)) b' = some b') := by
  constructor
  · obtain ⟨b', h⟩ := toPolar_total m b
    exact ⟨b', h, (block_conversion_idempotent _ b b').1 h⟩
  · intro haz
    obtain ⟨b', h⟩ := toCartesian_total m b haz
    exact ⟨b', h, (block_conversion_idempotent _ b b').2.1 h⟩

/-- Non-vacuity of the `= some b'` hypotheses: a concrete Cartesian block (a cube corner with a non-zero extent and an
inconsistent flag) yields `some` polar block, and converting it again gives the same block. -/
example : ∃ b' : Block ℝ Unit Unit,
    toPolar (RP 8) ⟨.cartesian 1 (-1) 1 (), 1/10, 0, 1/5, false, ()⟩ = some b' ∧ b'.isPolar = true ∧
      toPolar (RP 8) b' = some b' := by
  obtain ⟨b', h⟩ := toPolar_total 7 (⟨.cartesian 1 (-1) 1 (), 1/10, 0, 1/5, false, ()⟩ : Block ℝ Unit Unit)
  exact ⟨b', h, (toPolar_result _ _ b' h).1, (block_conversion_idempotent _ _ b').1 h⟩

/-- a polar block at azimuth −170 (across the ±180 wrap) satisfies the hypothesis of `toCartesian_total` -/
example : ∃ b' : Block ℝ Unit Unit, toCartesian (RP 8) ⟨.polar (-170) 20 1 (), 30, 10, 0, true, ()⟩ = some b' :=
  toCartesian_total 7 _ (by
    intro az el d lock h
    simp only [Pos.polar.injEq] at h
    obtain ⟨rfl, -, -, -⟩ := h
    norm_num)

theorem block_extent_ranges (P : Params ℝ) (b b' : Block ℝ L R) :
    (toPolar P b = some b' → b.isPolar = false →
      (0 ≤ b.width ∧ b.width ≤ 1) → (0 ≤ b.height ∧ b.height ≤ 1) → (0 ≤ b.depth ∧ b.depth ≤ 1) →
      (0 ≤ b'.width ∧ b'.width ≤ 360) ∧ (0 ≤ b'.height ∧ b'.height ≤ 360) ∧ (0 ≤ b'.depth ∧ b'.depth ≤ 1)) ∧
    (toCartesian P b = some b' → b.isPolar = true →
      (0 ≤ b.width ∧ b.width ≤ 360) → (0 ≤ b.height ∧ b.height ≤ 360) → (0 ≤ b.depth ∧ b.depth ≤ 1) →
      (0 ≤ b'.width ∧ b'.width ≤ 1) ∧ (0 ≤ b'.height ∧ b'.height ≤ 1) ∧ (0 ≤ b'.depth ∧ b'.depth ≤ 1)) := by
  obtain ⟨⟨az, el, d, lock⟩ | ⟨x, y, z, lock⟩, w, ht, dp, c, rest⟩ := b
  · refine ⟨fun _ hp => (by cases hp), fun h _ hw hh hd => ?_⟩
    rw [toCartesian_polar] at h
    obtain ⟨r, hr, rfl⟩ := Option.map_eq_some_iff.mp h
    obtain ⟨a, b, c⟩ := extentPolarToCart_range P az el d w ht dp hw.1 hw.2 hh.1 hh.2 hd.1 hd.2 _ hr
    exact ⟨a, c, b⟩
  · refine ⟨fun h _ hw hh hd => ?_, fun _ hp => (by cases hp)⟩
    rw [toPolar_cartesian] at h
    obtain ⟨r, hr, rfl⟩ := Option.map_eq_some_iff.mp h
    exact extentCartToPolar_range P x y z w dp ht hw.1 hw.2 hd.1 hd.2 hh.1 hh.2 _ hr

/-- A point source stays a point source, both ways. -/
theorem block_zero_extent (P : Params ℝ) (b b' : Block ℝ L R) (hw : b.width = 0) (hh : b.height = 0)
    (hd : b.depth = 0) :
    (toPolar P b = some b' → b'.width = 0 ∧ b'.height = 0 ∧ b'.depth = 0) ∧
    (toCartesian P b = some b' → b'.width = 0 ∧ b'.height = 0 ∧ b'.depth = 0) := by
  obtain ⟨⟨az, el, d, lock⟩ | ⟨x, y, z, lock⟩, w, ht, dp, c, rest⟩ := b
  all_goals
    simp only at hw hh hd
    subst hw hh hd
  · refine ⟨fun h => (by cases h; exact ⟨rfl, rfl, rfl⟩), fun h => ?_⟩
    rw [toCartesian_polar] at h
    obtain ⟨r, hr, rfl⟩ := Option.map_eq_some_iff.mp h
    have hz := extentPolarToCart_zero P az el d r hr
    exact ⟨congrArg (·.1) hz, congrArg (·.2.2) hz, congrArg (·.2.1) hz⟩
  · refine ⟨fun h => ?_, fun h => (by cases h; exact ⟨rfl, rfl, rfl⟩)⟩
    rw [toPolar_cartesian] at h
    obtain ⟨r, hr, rfl⟩ := Option.map_eq_some_iff.mp h
    have hz := extentCartToPolar_zero P x y z r hr
    exact ⟨congrArg (·.1) hz, congrArg (·.2.1) hz, congrArg (·.2.2) hz⟩

end block_real

section points
open Real

/-- The poles are inside the property's quantifier ("wherever azimuth is defined" excludes
only the azimuth): for `|el| = 90`, any azimuth in `[-180, 180]` and `d ≥ 1e-10`, the image is exactly `(0, 0, ±d)`
and converting back returns the original elevation and distance; the azimuth (undefined at the pole) comes back
as `0`.  (For `0 < d < 1e-10` the image falls in the origin guard: `cart_polar_cart_snap`.) -/
theorem polar_pole_roundtrip (m : Nat) (az el d : ℝ) (h1 : -180 ≤ az) (h2 : az ≤ 180) (hel : |el| = 90)
    (hd : 1 / 10000000000 ≤ d) :
    ∃ i, pointPolarToCart (RP (m + 1)) az el d = some ((0, 0, d * Conv.sign el), i) ∧
      pointCartToPolar (RP (m + 1)) 0 0 (d * Conv.sign el) = some ((0, el, d), none) := by
  obtain ⟨i, hi⟩ := polarToCart_axis m az el d _ h1 h2 (elToCart_pole (m + 1) el d hel)
  refine ⟨i, hi, ?_⟩
  have hd0 : 0 < d := by linarith
  have key := fun z hz => ((cart_polar_cart_snap m 0 0 z ⟨by norm_num, by norm_num⟩).1 hz).1
  rcases (abs_eq (by norm_num)).mp hel with rfl | rfl
  · rw [sign_pos (by norm_num), mul_one, key d (by rwa [abs_of_pos hd0]), sign_pos hd0, abs_of_pos hd0, one_mul]
  · rw [sign_neg (by norm_num), mul_neg, mul_one, key (-d) (by rwa [abs_neg, abs_of_pos hd0]),
      sign_neg (by linarith), abs_neg, abs_of_pos hd0]
    norm_num

/-- `d = 0` is inside the property's quantifier: every polar position at distance `0`
(any azimuth in `[-180, 180]`, any elevation) maps exactly to the origin, and the origin maps back to distance
`0`; azimuth and elevation (undefined at the origin) come back as `0`.  Together with `cart_polar_cart_snap`
(`|z| < 1e-10` case) this is the round trip of the origin in both directions. -/
theorem polar_zero_distance (m : Nat) (az el : ℝ) (h1 : -180 ≤ az) (h2 : az ≤ 180) :
    ∃ i, pointPolarToCart (RP (m + 1)) az el 0 = some ((0, 0, 0), i) ∧
      pointCartToPolar (RP (m + 1)) 0 0 0 = some ((0, 0, 0), none) := by
  obtain ⟨i, hi⟩ := polarToCart_axis m az el 0 0 h1 h2 (elToCart_zero (m + 1) el)
  refine ⟨i, hi, ?_⟩
  rw [pointCartToPolar_on_axis ⟨by norm_num, by norm_num⟩, if_pos (by norm_num)]

/-- non-vacuity: straight up from azimuth 50 at distance 2 -/
example : ∃ i, pointPolarToCart (RP 8) 50 90 2 = some ((0, 0, 2 * Conv.sign 90), i) ∧
    pointCartToPolar (RP 8) 0 0 (2 * Conv.sign 90) = some ((0, 90, 2), none) :=
  polar_pole_roundtrip 7 50 90 2 (by norm_num) (by norm_num) (by norm_num) (by norm_num)

/-- `octAz` (used by the rational table obligation `sector_boundaries_match`) is what the model's `cartAz` computes
over ℝ at the eight square points, straight behind included (`-180`). -/
theorem octAz_is_cartAz (x y a : ℚ) (h : octAz x y = some a) : cartAz (x : ℝ) (y : ℝ) = (a : ℝ) := by
  obtain ⟨c1, c2, c3, c4, c5, c6, c7, c8⟩ := cartAz_octant
  unfold octAz at h
  by_cases h1 : x = 0 ∧ y = 1
  · rw [if_pos h1] at h; obtain ⟨rfl, rfl⟩ := h1; cases h; exact_mod_cast c1
  rw [if_neg h1] at h
  by_cases h2 : x = 1 ∧ y = 1
  · rw [if_pos h2] at h; obtain ⟨rfl, rfl⟩ := h2; cases h; exact_mod_cast c2
  rw [if_neg h2] at h
  by_cases h3 : x = 1 ∧ y = 0
  · rw [if_pos h3] at h; obtain ⟨rfl, rfl⟩ := h3; cases h; exact_mod_cast c3
  rw [if_neg h3] at h
  by_cases h4 : x = 1 ∧ y = -1
  · rw [if_pos h4] at h; obtain ⟨rfl, rfl⟩ := h4; cases h; exact_mod_cast c4
  rw [if_neg h4] at h
  by_cases h5 : x = 0 ∧ y = -1
  · rw [if_pos h5] at h; obtain ⟨rfl, rfl⟩ := h5; cases h; exact_mod_cast c5
  rw [if_neg h5] at h
  by_cases h6 : x = -1 ∧ y = -1
  · rw [if_pos h6] at h; obtain ⟨rfl, rfl⟩ := h6; cases h; exact_mod_cast c6
  rw [if_neg h6] at h
  by_cases h7 : x = -1 ∧ y = 0
  · rw [if_pos h7] at h; obtain ⟨rfl, rfl⟩ := h7; cases h; exact_mod_cast c7
  rw [if_neg h7] at h
  by_cases h8 : x = -1 ∧ y = 1
  · rw [if_pos h8] at h; obtain ⟨rfl, rfl⟩ := h8; cases h; exact_mod_cast c8
  rw [if_neg h8] at h
  cases h

/-- corners_exact over `referenceRows`: every reference direction `(az, x, y, _)` of the property text (0, ±30,
±110 with the front edge midpoint / the four square corners) at elevation 0 / 30 / −30 and distance `d > 0` maps
exactly to `d·(x, y, 0)`, `d·(x, y, 1)`, `d·(x, y, −1)`.  "Edge midpoints" are the front one (this theorem, row
`az = 0`) and the back one (`corner_back`, `az = 180`); the side midpoints `(±1, 0)` are not reference
directions of the table (they are the images of `az = ∓70`). -/
theorem corners_exact_reference (m : Nat) (r : ℚ × ℚ × ℚ × ℚ) (hr : r ∈ referenceRows) (d : ℝ) (hd : 0 < d) :
    (∃ j, pointPolarToCart (RP (m + 1)) (r.1 : ℝ) 0 d = some ((d * (r.2.1 : ℝ), d * (r.2.2.1 : ℝ), 0), j)) ∧
    (∃ j, pointPolarToCart (RP (m + 1)) (r.1 : ℝ) 30 d = some ((d * (r.2.1 : ℝ), d * (r.2.2.1 : ℝ), d), j)) ∧
    (∃ j, pointPolarToCart (RP (m + 1)) (r.1 : ℝ) (-30) d = some ((d * (r.2.1 : ℝ), d * (r.2.2.1 : ℝ), -d), j)) := by
  have mem : ∀ s, s ∈ [sec0, sec1, sec2, sec3, sec4] → s ∈ sectors (RP (m + 1)) := by
    intro s hs; rw [sectors_RP]; exact hs
  simp only [referenceRows, List.mem_cons, List.not_mem_nil, or_false] at hr
  rcases hr with rfl | rfl | rfl | rfl | rfl
  · have := corners_exact_points m sec4 (mem _ (by simp)) d hd
    simpa only [sec4, Rat.cast_zero, Rat.cast_one, Rat.cast_neg, Rat.cast_ofNat] using this
  · have := corners_exact_points m sec0 (mem _ (by simp)) d hd
    simpa only [sec0, Rat.cast_zero, Rat.cast_one, Rat.cast_neg, Rat.cast_ofNat] using this
  · have := corners_exact_points m sec3 (mem _ (by simp)) d hd
    simpa only [sec3, Rat.cast_zero, Rat.cast_one, Rat.cast_neg, Rat.cast_ofNat] using this
  · have := corners_exact_points m sec1 (mem _ (by simp)) d hd
    simpa only [sec1, Rat.cast_zero, Rat.cast_one, Rat.cast_neg, Rat.cast_ofNat] using this
  · have := corners_exact_points m sec2 (mem _ (by simp)) d hd
    simpa only [sec2, Rat.cast_zero, Rat.cast_one, Rat.cast_neg, Rat.cast_ofNat] using this

end points

end Earverif.Conv
