/-
C02 — rendered output is independent of how the input is split into blocks; concatenated output +
tail has exactly the input length, starting at time zero.

First the component theorems (each for ALL partitions of the stream) about the state machines of `Model/Stream.lean`:
delay line, block-size adapter, overlap-save convolver (`Proofs/C02{Delay,Vbs,Fir,OverlapSave}.lean`); the
`BlockProcessingChannel` component is `Earverif.Timeline.bpc_eq_gainAt` in `Props/C03.lean`.  Then the property for whole
sessions of the four renderer models, each a corollary of the refinement statement of that model:

  model (session function)                                   refinement                     property
  FIR stand-in, totalised indexing (`renderAll`)             `render_refines_spec`          `C02_block_independent`, `C02_length_and_origin`
  overlap-save convolver + numpy exceptions (`renderAllOS`)  `render_refines_spec_os[_ok]`  `…_os`, `…_os_of_ok`
  track processors, FIR (`renderAllTS`)                      `render_eq_outTS`              `…_ts`
  track processors, overlap-save (`renderAllTSOS`)           `render_eq_outTS_os[_ok]`      `…_ts_os`

The last row is the real code's structure; the others are the same statement for simpler models.  The hypotheses
(`SessionOK`, `SessionWF`, `SessionOKTS`, `SessionWFTS`) are shown inhabited in `Props/C03.lean` (`exSession_ok`,
`exSession_wf`, `exSessionTS_ok`, `exSessionTS_wf`).
-/
import Earverif.Proofs.C02OverlapSave
import Earverif.Props.C20
namespace Earverif.Stream

/-- `Delay(delay = d)` fed ANY partition `parts` of a stream `x = parts.flatten`
(empty and single-sample blocks included): the concatenated outputs are the first `len(x)` samples of
`zeros(d) ++ x` (i.e. `x` shifted by `d`), the memory afterwards holds the remaining `d` samples, and every
call returns exactly as many samples as it was given. -/
theorem delay_eq {α : Type} (z : α) (d : Nat) (parts : List (List α)) :
    (Delay.run z (Delay.init z d) parts).1.flatten =
        (List.replicate d z ++ parts.flatten).take parts.flatten.length ∧
      (Delay.run z (Delay.init z d) parts).2 =
        (List.replicate d z ++ parts.flatten).drop parts.flatten.length ∧
      (Delay.run z (Delay.init z d) parts).1.map List.length = parts.map List.length :=
  delay_run_eq z parts (List.replicate d z)

theorem delay_block_independent {α : Type} (z : α) (d : Nat) (p q : List (List α)) (h : p.flatten = q.flatten) :
    (Delay.run z (Delay.init z d) p).1.flatten = (Delay.run z (Delay.init z d) q).1.flatten := by
  rw [(delay_eq z d p).1, (delay_eq z d q).1, h]

theorem vbs_block_independent {σ α : Type} (f : σ → List α → σ × List α) (B : Nat) (z : α) (s0 : σ) (hB : 1 ≤ B)
    (hf : ∀ s blk, blk.length = B → (f s blk).2.length = B) (p q : List (List α)) (h : p.flatten = q.flatten) :
    (Vbs.run f B z (Vbs.init f B z s0) p).1.flatten = (Vbs.run f B z (Vbs.init f B z s0) q).1.flatten := by
  rw [(vbs_eq f B z s0 hB hf p).1, (vbs_eq f B z s0 hB hf q).1, h]

/-- Non-vacuity: a delay of 2 fed `[1,2,3] [] [4]`. -/
example : (Delay.run (0 : Int) (Delay.init 0 2) [[1, 2, 3], [], [4]]).1 = [[0, 0, 1], [], [2]] := by decide

/-- Non-vacuity: the adapter with `block_size = 2` around "negate the block" fed `[1] [2,3,4] [] [5]`. -/
example : (Vbs.run (fun (s : Unit) (b : List Int) => (s, b.map (- ·))) 2 0
    (Vbs.init (fun (s : Unit) (b : List Int) => (s, b.map (- ·))) 2 0 ()) [[1], [2, 3, 4], [], [5]]).1 =
    [[0], [0, -1, -2], [], [-3]] := by decide

theorem vbs_overlapSave_block_independent {V : Type} [RMod V] [LawfulRMod V] (f : List V) (B : Nat) (hB : 1 ≤ B)
    (hf : f ≠ []) (p q : List (List V)) (h : p.flatten = q.flatten) :
    (Vbs.run OS.step B 0 (Vbs.init OS.step B 0 (OS.init B f)) p).1.flatten =
      (Vbs.run OS.step B 0 (Vbs.init OS.step B 0 (OS.init B f)) q).1.flatten := by
  rw [(vbs_overlapSave_eq f B hB hf p).1, (vbs_overlapSave_eq f B hB hf q).1, h]

/-- Non-vacuity of `overlapSave_eq_fir` (hypotheses `1 ≤ B`, `f ≠ []`, blocks of `B` rows): `B = 2`, a 5-tap filter
(three partitions, the last one short), three blocks; the outputs are the linear convolution. -/
example : (OS.run (OS.init 2 [1, 2, 3, 4, (5 : Rat)]) [[1, 0], [0, 2], [0, 0]]).toOption.map (·.2) =
    some [[1, 2], [3, 6], [9, 6]] := by decide +kernel

example : firAll [1, 2, 3, 4, (5 : Rat)] [1, 0, 0, 2, 0, 0] = [1, 2, 3, 6, 9, 6] := by decide +kernel

/-- A filter shorter than the block (`B = 3`, 2 taps), and the adapter around the convolver over an uneven partition:
the convolution delayed by `B`. -/
example : (Vbs.run OS.step 3 0 (Vbs.init OS.step 3 0 (OS.init 3 [1, (-1 : Rat)])) [[1], [2, 3, 4, 5], [], [6, 7]]).1 =
    [[0], [0, 0, 1, 1], [], [1, 1]] := by decide +kernel

end Earverif.Stream

namespace Earverif.Renderer
open Earverif.Stream Earverif.Timeline

section
variable {V : Type} [RMod V]

/-- The shifted sum `A[s+D] + B[s] + C[s]` of the three streams the aligner receives. -/
def alignedSum (D : Nat) (rs : List (Nat × List V × List V × List V)) : List V :=
  List.zipWith (· + ·)
    (List.zipWith (· + ·) ((rs.map (·.2.1)).flatten.drop D) (rs.map (·.2.2.1)).flatten)
    (rs.map (·.2.2.2)).flatten

/-- The aligner component as a named statement (proved by `aligner_eq`): for rounds with three equally long blocks
at offsets (−D, 0, 0) no assertion of `BlockAligner` fails and the concatenated `get`s are the shifted sum. -/
def AlignerFact (D : Nat) (rs : List (Nat × List V × List V × List V)) : Prop :=
  ∃ outs al, alignRun D (Aligner.init : Aligner V) 0 rs = .ok (outs, al) ∧ outs.flatten = alignedSum D rs

/-- `aligner_run_eq` (`Proofs/C02Aligner.lean`) in the form of `AlignerFact`; empty rounds included. -/
theorem aligner_eq [LawfulRMod V] (D : Nat) (rs : List (Nat × List V × List V × List V)) (hok : RoundsOK rs) :
    AlignerFact D rs := by
  obtain ⟨outs, al, h1, h2⟩ := aligner_run_eq D rs hok
  exact ⟨outs, al, h1, h2⟩

/-- `run_of_streams` of `Proofs/C02Render.lean` for a session, the result written with `alignedSum`: IF the
three type renderers, each run on its own over the blocks followed by the tail block, succeed with per-call outputs
`o1s/o2s/o3s` as long as the blocks, THEN the whole session succeeds and its concatenated output is the aligned sum
`obj[s + overall_delay] + ds[s] + hoa[s]`. -/
theorem render_refines_spec_partial [LawfulRMod V] (c : Cfg V) (objs : List (ObjItem V)) (dss : List (DsItem V))
    (hoas : List (HoaItem V)) (parts : List (List (List Rat)))
    (obj' : ObjState V) (ds' : List (Nat × DsBpc V)) (hoa' : List (List Nat × HoaBpc V)) (o1s o2s o3s : List (List V))
    (hobj : subRun (fun s S0 b => ObjState.render c s S0 b) (ObjState.init c objs) 0 (parts ++ [tailBlock c]) =
      .ok (obj', o1s))
    (hds : subRun (dsRender c) (dss.map fun it => (it.track, ⟨it.blocks, {}, []⟩)) 0 (parts ++ [tailBlock c]) =
      .ok (ds', o2s))
    (hhoa : subRun (hoaRender c) (hoas.map fun it => (it.tracks, ⟨it.blocks, {}, []⟩)) 0 (parts ++ [tailBlock c]) =
      .ok (hoa', o3s))
    (hl1 : o1s.map List.length = (parts ++ [tailBlock c]).map List.length)
    (hl2 : o2s.map List.length = (parts ++ [tailBlock c]).map List.length)
    (hl3 : o3s.map List.length = (parts ++ [tailBlock c]).map List.length) :
    renderAll c objs dss hoas parts =
      .ok (alignedSum c.overall_delay (rounds (parts ++ [tailBlock c]) o1s o2s o3s)) := by
  obtain ⟨-, p1, p2, p3⟩ := rounds_spec (parts ++ [tailBlock c]) o1s o2s o3s hl1 hl2 hl3
  obtain ⟨st, os, hrun, hflat⟩ := run_of_streams c objs dss hoas _ hobj hds hhoa hl1 hl2 hl3
  rw [renderAll_eq_run, hrun, alignedSum, p1, p2, p3, ← hflat]

/-- The conditional form of `C02_block_independent` / `C02_block_independent_os`:
two blockings `p`, `q` of the same input: if each type renderer's concatenated output stream is the same for both
blockings, the sessions return the same audio.  It asks nothing of the timelines (no `SessionOK`): the composition
layer (rounds and aligner) on its own. -/
theorem C02_block_independent_partial [LawfulRMod V] (c : Cfg V) (objs : List (ObjItem V)) (dss : List (DsItem V))
    (hoas : List (HoaItem V)) (p q : List (List (List Rat)))
    (objp objq : ObjState V) (dsp dsq : List (Nat × DsBpc V)) (hoap hoaq : List (List Nat × HoaBpc V))
    (a1 a2 a3 b1 b2 b3 : List (List V))
    (hp1 : subRun (fun s S0 b => ObjState.render c s S0 b) (ObjState.init c objs) 0 (p ++ [tailBlock c]) = .ok (objp, a1))
    (hp2 : subRun (dsRender c) (dss.map fun it => (it.track, ⟨it.blocks, {}, []⟩)) 0 (p ++ [tailBlock c]) = .ok (dsp, a2))
    (hp3 : subRun (hoaRender c) (hoas.map fun it => (it.tracks, ⟨it.blocks, {}, []⟩)) 0 (p ++ [tailBlock c]) = .ok (hoap, a3))
    (hq1 : subRun (fun s S0 b => ObjState.render c s S0 b) (ObjState.init c objs) 0 (q ++ [tailBlock c]) = .ok (objq, b1))
    (hq2 : subRun (dsRender c) (dss.map fun it => (it.track, ⟨it.blocks, {}, []⟩)) 0 (q ++ [tailBlock c]) = .ok (dsq, b2))
    (hq3 : subRun (hoaRender c) (hoas.map fun it => (it.tracks, ⟨it.blocks, {}, []⟩)) 0 (q ++ [tailBlock c]) = .ok (hoaq, b3))
    (hpl1 : a1.map List.length = (p ++ [tailBlock c]).map List.length)
    (hpl2 : a2.map List.length = (p ++ [tailBlock c]).map List.length)
    (hpl3 : a3.map List.length = (p ++ [tailBlock c]).map List.length)
    (hql1 : b1.map List.length = (q ++ [tailBlock c]).map List.length)
    (hql2 : b2.map List.length = (q ++ [tailBlock c]).map List.length)
    (hql3 : b3.map List.length = (q ++ [tailBlock c]).map List.length)
    (hsame : alignedSum c.overall_delay (rounds (p ++ [tailBlock c]) a1 a2 a3) =
      alignedSum c.overall_delay (rounds (q ++ [tailBlock c]) b1 b2 b3)) :
    renderAll c objs dss hoas p = renderAll c objs dss hoas q := by
  rw [render_refines_spec_partial c objs dss hoas p objp dsp hoap a1 a2 a3 hp1 hp2 hp3 hpl1 hpl2 hpl3,
    render_refines_spec_partial c objs dss hoas q objq dsq hoaq b1 b2 b3 hq1 hq2 hq3 hql1 hql2 hql3, hsame]

end

section Full
variable {V : Type} [RMod V] [LawfulRMod V]

/-- For a fixed input and accepted items, the rendered audio (all returned blocks and the
tail, concatenated) does not depend on how the input is divided into `render` calls; every blocking succeeds.
(Statement about the model with the FIR stand-in and totalised indexing, for ALL inputs; the same with the real
convolver structure and the quantifier spelled out is `C02_block_independent_os`.) -/
theorem C02_block_independent (c : Cfg V) (objs : List (ObjItem V)) (dss : List (DsItem V)) (hoas : List (HoaItem V))
    (hok : SessionOK c objs dss hoas) (p q : List (List (List Rat))) (h : p.flatten = q.flatten) :
    renderAll c objs dss hoas p = renderAll c objs dss hoas q := by
  rw [render_refines_spec c objs dss hoas hok p, render_refines_spec c objs dss hoas hok q, h]

/-- Every blocking succeeds, the concatenation of all returned blocks and the tail has
exactly as many frames as were fed in, and frame `s` of it is output time `s` (the specified sample `outAt … s`).
(FIR stand-in, totalised indexing; in-quantifier version with the real convolver structure: `C02_length_and_origin_os`.) -/
theorem C02_length_and_origin (c : Cfg V) (objs : List (ObjItem V)) (dss : List (DsItem V)) (hoas : List (HoaItem V))
    (hok : SessionOK c objs dss hoas) (parts : List (List (List Rat))) :
    ∃ out, renderAll c objs dss hoas parts = .ok out ∧ out.length = parts.flatten.length ∧
      ∀ s, s < parts.flatten.length →
        out[s]? = some (RenderSpec.outAt c objs dss hoas parts.flatten s) := by
  refine ⟨_, render_refines_spec c objs dss hoas hok parts, by simp [RenderSpec.out], ?_⟩
  intro s hs
  simp only [RenderSpec.out, List.getElem?_map, List.getElem?_range hs, Option.map_some]

/-- The property, for the renderer model with the partitioned overlap-save convolver
inside `ObjectRenderer` and the numpy exceptions of out-of-range tracks / mis-shaped decode matrices
(`Model/OverlapSave.lean`; via `render_refines_spec_os`), inside the static conditions (`SessionWF`: accepted timelines,
`block_size ≥ 1`, tracks inside the input, decode matrices as wide as the item has tracks, a decorrelation filter with
≥ 1 tap): the rendered audio (all returned blocks and the tail, concatenated) does not depend on the blocking; every
blocking succeeds. -/
theorem C02_block_independent_os (c : Cfg V) (objs : List (ObjItem V)) (dss : List (DsItem V)) (hoas : List (HoaItem V))
    (hok : SessionWF c objs dss hoas) (p q : List (List (List Rat))) (h : p.flatten = q.flatten) :
    renderAllOS c objs dss hoas p = renderAllOS c objs dss hoas q := by
  rw [render_refines_spec_os_ok c objs dss hoas hok.ok hok.taps_ne hok.index p,
    render_refines_spec_os_ok c objs dss hoas hok.ok hok.taps_ne hok.index q, h]

/-- Without the static index conditions (accepted timelines only): whenever two
blockings of the same input both return audio, it is the same audio.  (A session outside `IndexOK` may raise; WHICH
numpy exception is raised first can depend on the blocking — e.g. an HOA item whose second decode matrix is mis-shaped,
followed by an item with a track outside the input (`exBadHoas`, `Props/C03.lean`) — so equality of the `Except`
values is not claimed there.) -/
theorem C02_block_independent_os_of_ok (c : Cfg V) (objs : List (ObjItem V)) (dss : List (DsItem V))
    (hoas : List (HoaItem V)) (hok : SessionOK c objs dss hoas) (hf : c.taps ≠ []) (p q : List (List (List Rat)))
    (h : p.flatten = q.flatten) (a b : List V) (ha : renderAllOS c objs dss hoas p = .ok a)
    (hb : renderAllOS c objs dss hoas q = .ok b) : a = b := by
  rcases render_refines_spec_os c objs dss hoas hok hf p with h1 | ⟨-, h1⟩
  · rcases render_refines_spec_os c objs dss hoas hok hf q with h2 | ⟨-, h2⟩
    · rw [h1] at ha; rw [h2] at hb; cases ha; cases hb; rw [h]
    · rw [hb] at h2; rcases h2 with h2 | h2 | h2 <;> cases h2
  · rw [ha] at h1; rcases h1 with h1 | h1 | h1 <;> cases h1

/-- The same for `C02_length_and_origin`: exactly the input's length, frame `s` is
output time `s`. -/
theorem C02_length_and_origin_os (c : Cfg V) (objs : List (ObjItem V)) (dss : List (DsItem V)) (hoas : List (HoaItem V))
    (hok : SessionWF c objs dss hoas) (parts : List (List (List Rat))) :
    ∃ out, renderAllOS c objs dss hoas parts = .ok out ∧ out.length = parts.flatten.length ∧
      ∀ s, s < parts.flatten.length →
        out[s]? = some (RenderSpec.outAt c objs dss hoas parts.flatten s) := by
  refine ⟨_, render_refines_spec_os_ok c objs dss hoas hok.ok hok.taps_ne hok.index parts, by simp [RenderSpec.out], ?_⟩
  intro s hs
  simp only [RenderSpec.out, List.getElem?_map, List.getElem?_range hs, Option.map_some]

end Full

/-- Non-vacuity of `AlignerFact`: two rounds (lengths 2 and 3), delay 1, integer "frames". -/
example : AlignerFact (V := Rat) 1 [(2, [1, 2], [10, 20], [100, 200]), (3, [3, 4, 5], [30, 40, 50], [300, 400, 500])] :=
  ⟨_, _, rfl, by decide +kernel⟩

end Earverif.Renderer

namespace Earverif.RendererTS
open Earverif.Stream Earverif.Timeline Earverif.Renderer
open Earverif.TrackSpec (Spec Proc)

section
variable {V : Type} [RMod V] [LawfulRMod V]

/-- With arbitrary well-formed track specs on the items (direct, silent, mix, gain,
matrix coefficient with gain and delay, nested), the rendered audio (all returned blocks and the tail, concatenated)
does not depend on how the input is divided into `render` calls; every blocking succeeds.  In particular the delay
lines inside the track processors carry their samples correctly across every block boundary, and across the tail. -/
theorem C02_block_independent_ts (c : Cfg V) (objs : List (ObjItemTS V)) (dss : List (DsItemTS V))
    (hoas : List (HoaItemTS V)) (hok : SessionOKTS c objs dss hoas) (p q : List (List (List Rat)))
    (h : p.flatten = q.flatten) :
    renderAllTS c objs dss hoas p = renderAllTS c objs dss hoas q := by
  rw [render_eq_outTS c objs dss hoas hok p, render_eq_outTS c objs dss hoas hok q, h]

/-- Every blocking succeeds, the output has exactly the input's length and frame `s`
is output time `s` (the specified sample `outAtTS … s`). -/
theorem C02_length_and_origin_ts (c : Cfg V) (objs : List (ObjItemTS V)) (dss : List (DsItemTS V))
    (hoas : List (HoaItemTS V)) (hok : SessionOKTS c objs dss hoas) (parts : List (List (List Rat))) :
    ∃ out, renderAllTS c objs dss hoas parts = .ok out ∧ out.length = parts.flatten.length ∧
      ∀ s, s < parts.flatten.length → out[s]? = some (outAtTS c objs dss hoas parts.flatten s) := by
  refine ⟨_, render_eq_outTS c objs dss hoas hok parts, by simp [outTS], ?_⟩
  intro s hs
  simp only [outTS, List.getElem?_map, List.getElem?_range hs, Option.map_some]

/-- `C02_block_independent_ts` for the renderer with track processors AND the
partitioned overlap-save convolver AND the `np.dot` exception (`renderAllTSOS`, `Model/OverlapSave.lean`), inside
`SessionWFTS` (decode matrices as wide as the item has track specs). -/
theorem C02_block_independent_ts_os (c : Cfg V) (objs : List (ObjItemTS V)) (dss : List (DsItemTS V))
    (hoas : List (HoaItemTS V)) (hok : SessionWFTS c objs dss hoas) (p q : List (List (List Rat)))
    (h : p.flatten = q.flatten) :
    renderAllTSOS c objs dss hoas p = renderAllTSOS c objs dss hoas q := by
  rw [render_eq_outTS_os_ok c objs dss hoas hok.ok hok.taps_ne hok.hoa_gains p,
    render_eq_outTS_os_ok c objs dss hoas hok.ok hok.taps_ne hok.hoa_gains q, h]

theorem C02_length_and_origin_ts_os (c : Cfg V) (objs : List (ObjItemTS V)) (dss : List (DsItemTS V))
    (hoas : List (HoaItemTS V)) (hok : SessionWFTS c objs dss hoas) (parts : List (List (List Rat))) :
    ∃ out, renderAllTSOS c objs dss hoas parts = .ok out ∧ out.length = parts.flatten.length ∧
      ∀ s, s < parts.flatten.length → out[s]? = some (outAtTS c objs dss hoas parts.flatten s) := by
  refine ⟨_, render_eq_outTS_os_ok c objs dss hoas hok.ok hok.taps_ne hok.hoa_gains parts, by simp [outTS], ?_⟩
  intro s hs
  simp only [outTS, List.getElem?_map, List.getElem?_range hs, Option.map_some]

end

/-- The stream `meaning(spec)(x ++ tail silence)` the specification reads (`sAt`) is literally what the real
`TrackProcessor(spec)` returns over the calls of a session — C20's `processor_eq_meaning` for the partition
`parts ++ [tail block]`. -/
theorem item_stream_eq_processor_run {V : Type} (c : Cfg V) (spec : Spec Rat)
    (hwf : spec.wf (c.sr : Int) c.n_in = true) (parts : List (List (List Rat))) :
    ∃ outs, TrackSpec.runSpec c.sr c.n_in spec (parts ++ [tailFrames c]) = .ok outs ∧
      outs.flatten = TrackSpec.meaning c.sr c.n_in spec (parts.flatten ++ tailFrames c) := by
  obtain ⟨h1, h2⟩ := TrackSpec.processor_eq_meaning (c.sr : Int) c.n_in spec hwf (parts ++ [tailFrames c])
  refine ⟨_, h1, ?_⟩
  rw [h2]
  simp

end Earverif.RendererTS
