/-
Kernel ties, group `KernelsSel` (see `harness/kernels.py` and the header of `Props/Kernels.lean`): item selection,
`ear/core/select_items/{utils,pack_allocation,select_items,hoa,matrix,validate}.py` (properties C06, C07, C14).

`Earverif/Gen/KernelsSel.lean` is regenerated on every run from the Python SOURCE of the functions below; each theorem here states
that the regenerated definition equals the hand-written model definition (`Model/PackAlloc.lean`, `Model/SelectItems.lean`,
`Model/Validate.lean`) that the property theorems are about.  Objects of the ADM graph are identity tokens (`Nat`, `is` = equality)
or the models' structures; `for x in l:` is the model's `forE` (validators) or a left fold (counting loop); `raise AdmError(..)`
is the model's error kind.  Where the model has no separate def for the translated piece, the theorem states the model function
with the translated def in place of its own expression.

Only core Lean.
-/
import Earverif.Gen.KernelsSel
import Earverif.Model.PackAlloc
import Earverif.Model.SelectItems
import Earverif.Model.Validate

-- simp sets below carry lemmas that only a behaviour-preserving rewrite of the source needs
set_option linter.unusedSimpArgs false

namespace Earverif.Kernels
open Earverif

/-! ### C07 — `utils.in_by_id`, `_is_compatible`, `could_possibly_allocate`, the fail-early test -/

theorem in_by_id_eq_model (x : Nat) (l : List Nat) : Gen.in_by_id x l = PackAlloc.inById x l := by
  simp only [Gen.in_by_id, PackAlloc.inById]
  first
  | rfl
  | (congr 1; funext y; rw [Bool.eq_iff_iff, beq_iff_eq, decide_eq_true_eq]; exact eq_comm)

theorem is_compatible_eq_model (t : PackAlloc.TrackRef) (c : PackAlloc.Channel) :
    Gen.is_compatible t c = PackAlloc.isCompatible t c := by
  cases t with
  | none => rfl
  | some t =>
    simp only [Gen.is_compatible, PackAlloc.isCompatible, in_by_id_eq_model]
    rw [Bool.eq_iff_iff]
    simp [and_comm]

/-- the counting loop `for c in l: if t(c): n += 1` (a left fold) counts the elements that satisfy the test -/
theorem could_possibly_allocate_count {α : Type} (f : α → Bool) (l : List α) (n : Nat) :
    List.foldl (fun n c => if f c = true then n + 1 else n) n l = n + l.countP f := by
  induction l generalizing n with
  | nil => simp
  | cons a l ih =>
    simp only [List.foldl_cons, ih, List.countP_cons]
    by_cases h : f a = true <;> simp [h] <;> omega

/-- `could_possibly_allocate` where it is evaluated: after `len(tracks) < remaining_in_partial` has been excluded
(the model's `tracks.length - remaining` is a truncated subtraction, Python's is not) -/
theorem could_possibly_allocate_eq_model (tracks : List PackAlloc.TrackRef) (refs : Option (List Nat)) (remaining : Nat)
    (p : PackAlloc.Pack) (h : remaining ≤ tracks.length) :
    Gen.could_possibly_allocate tracks refs remaining p = PackAlloc.couldPossiblyAllocate tracks refs remaining p := by
  have hc : ∀ c, (tracks.any fun t => Gen.is_compatible t c) = (tracks.any fun t => PackAlloc.isCompatible t c) := by
    intro c; congr 1; funext t; exact is_compatible_eq_model t c
  have hf := could_possibly_allocate_count (fun c => tracks.any fun t => PackAlloc.isCompatible t c) p.channels 0
  -- where `h` is needed: Python's difference against the model's truncated one
  have hlt : ((tracks.length : Int) - (remaining : Int) < (p.channels.length : Int)) ↔
      p.channels.length > tracks.length - remaining := by omega
  cases refs <;>
    simp only [Gen.could_possibly_allocate, PackAlloc.couldPossiblyAllocate, hc, hf, in_by_id_eq_model, hlt,
      Nat.zero_add, ge_iff_le, Bool.not_eq_true, Bool.not_eq_eq_eq_not, Bool.not_true] <;>
    grind

-- the hypothesis `h` of `could_possibly_allocate_eq_model` is satisfiable
example : (1 : Nat) ≤ [some (⟨0, 1, 2⟩ : PackAlloc.Track), none].length := by decide

/-- the fail-early test inside the model's `allocImpl` (unfolding of one step on a non-empty track list) -/
theorem fail_early_test_eq_model (fuel : Nat) (packs : List PackAlloc.Pack) (track : PackAlloc.TrackRef)
    (rest : List PackAlloc.TrackRef) (refs : Option (List Nat)) (sol : PackAlloc.Sol) :
    PackAlloc.allocImpl (fuel + 1) packs (track :: rest) refs sol =
      (let remaining := PackAlloc.countEmpty sol
       if Gen.fail_early_test (track :: rest) remaining then []
       else
         let packs' := packs.filter (PackAlloc.couldPossiblyAllocate (track :: rest) refs remaining)
         (PackAlloc.candidatePartialSolutions track packs' refs sol).flatMap fun (np, rp, rr) =>
           PackAlloc.allocObviousWith (PackAlloc.allocImpl fuel) rp rest rr np) := by
  simp only [PackAlloc.allocImpl, Gen.fail_early_test, decide_eq_true_eq]

/-! ### C06 — pieces of `select_items.py` / `hoa.py` inside the functions of Model/SelectItems.lean -/

/-- `hoa.get_nfcRefDist`: the model's `hoaNfc` with the translated conditional in place of its own -/
theorem get_nfcRefDist_eq_model (f : Adm.Formats) (pc : List Nat × Nat) :
    Adm.hoaNfc f pc =
      match Adm.hoaPackParam f (·.nfcRefDist) (·.nfcRefDist) pc with
      | .error e => .error e
      | .ok v => .ok (Gen.get_nfcRefDist v) := by
  unfold Adm.hoaNfc
  cases Adm.hoaPackParam f (·.nfcRefDist) (·.nfcRefDist) pc with
  | error e => rfl
  | ok v => first | rfl | (simp only [Gen.get_nfcRefDist]; congr 1; split <;> simp_all)

/-- `_PackAllocator.get_track_spec` inside the model's `slotSpec` -/
theorem get_track_spec_eq_model (f : Adm.Formats) (uids : List Nat) (s : PackAlloc.Slot) :
    Adm.slotSpec f uids s =
      match s with
      | none => .error .internal
      | some none => .ok (Gen.get_track_spec none)
      | some (some t) =>
        match uids[t.id]? with
        | some u => .ok (Gen.get_track_spec (some (f.uid u).trackIndex))
        | none => .error .internal := by
  unfold Adm.slotSpec
  rcases s with _ | _ | t <;> first | rfl | (simp only [Gen.get_track_spec]; cases uids[t.id]? <;> rfl)

/-- `silent_tracks = len(obj.audioTrackUIDs) - len(real_track_uids)` is the (truncated) count the model's `allocProblem` uses:
`real_track_uids` are the non-`None` entries, so the difference is never negative -/
theorem silent_tracks_eq_model (tracks : List (Option Nat)) :
    Gen.silent_tracks tracks (tracks.filterMap id) = ((tracks.length - (tracks.filterMap id).length : Nat) : Int) := by
  have := List.length_filterMap_le id tracks
  simp only [Gen.silent_tracks]
  omega

/-- the same tie stated against the model's `allocProblem` itself (not a restated difference): for a state with a selected
audioObject, the problem's `numSilent` is the translated `silent_tracks` of that object's track list and its non-`None`
entries (`real_track_uids`). -/
theorem silent_tracks_allocProblem (a : Adm.Adm) (st : Adm.State) (wps : List Adm.WPack) (p : List Nat)
    (h : st.objPath = some p) :
    (((Adm.allocProblem a st wps).1.numSilent : Nat) : Int) =
      Gen.silent_tracks (a.obj (p.getLastD 0)).tracks ((a.obj (p.getLastD 0)).tracks.filterMap id) := by
  rw [silent_tracks_eq_model]
  simp only [Adm.allocProblem, h]

-- the hypothesis `h` of `silent_tracks_allocProblem` is satisfiable
example : ({ programme := none, content := none, objPath := some [0] } : Adm.State).objPath = some [0] := rfl

theorem select_programme_eq_model (a : Adm.Adm) (given : Option Nat) :
    Gen.select_programme a.programmes given = Adm.selectProgramme a given := by
  unfold Gen.select_programme Adm.selectProgramme
  cases given with
  | some p => rfl
  | none =>
    rcases a.programmes with _ | ⟨p, _ | ⟨q, r⟩⟩ <;> simp

/-- `_select_only_selected_complementary`: the state is yielded iff the translated test holds -/
theorem only_selected_test_eq_model (ign : List Nat) (st : Adm.State) :
    Adm.onlySelected ign st = if Gen.only_selected_test st.objPath ign then [st] else [] := by
  unfold Adm.onlySelected Gen.only_selected_test
  cases st.objPath with
  | none => rfl
  | some p =>
    have h : (p.any fun o => Gen.in_by_id o ign) = p.any (ign.contains ·) := by
      congr 1; funext o
      rw [in_by_id_eq_model, PackAlloc.inById, List.contains_eq_any_beq]
      congr 1; funext y
      rw [Bool.eq_iff_iff, beq_iff_eq, beq_iff_eq]
      exact eq_comm
    simp only [h]
    cases p.any (ign.contains ·) <;> simp

/-- `matrix.type_of` inside the model's `wrapMatrix` (`_PackAllocator.wrap_matrix_pack`): which of the three usages of a
matrix pack are wrapped is decided by the translated `type_of` -/
theorem matrix_type_of_wrap_eq_model (f : Adm.Formats) (p : Nat) :
    Adm.wrapMatrix f p =
      (let pk := f.pack p
       let flat (q fixed : Nat) : List PackAlloc.Channel := (Adm.slots f q).map fun s => ⟨s.2, [fixed]⟩
       let preApplied : Adm.WPack := ⟨3 * p + 1, .matrix, p, (Adm.slots f p).map fun s => ⟨s.2, s.1⟩⟩
       match Gen.matrix_type_of pk.inputPack pk.outputPack with
       | .ok .direct =>
         match pk.inputPack with
         | some i => .ok [⟨3 * p, .matrix, p, flat i p⟩, preApplied]
         | none => .error .internal
       | .ok .encode => .ok []
       | .ok .decode =>
         match pk.encodePacks with
         | [e] =>
           match (f.pack e).inputPack with
           | some ei => .ok [⟨3 * p, .matrix, p, flat e p⟩, preApplied, ⟨3 * p + 2, .matrix, p, flat ei e⟩]
           | none => .error .internal
         | _ => .error .internal
       | .error _ => .error .internal) := by
  unfold Adm.wrapMatrix Gen.matrix_type_of
  cases h1 : (f.pack p).inputPack <;> cases h2 : (f.pack p).outputPack <;> simp [h1, h2]
  rcases (f.pack p).encodePacks with _ | ⟨e, _ | ⟨e2, r⟩⟩ <;> rfl

section
open Earverif.AdmV

/-! ### C14 — `matrix.type_of` and validators of `validate.py`.

The translated validators raise the model's error *kind* with an empty message (`Err.adm k []`): the diagnostic text is
not translated.  The ties are therefore stated modulo `stripR`, which forgets the message of an `AdmError` and keeps
everything else (kind, internal errors, success); the translated loops are the model's `forE` over the elements, where
the model itself runs `forEI` with the index that only the message reads (`forEI_strip` is that step); the messages
are covered by the `Msg` examples of Props/C14.lean and the correspondence. -/

def strip : Validate.Err → Validate.Err
  | .adm k _ => .adm k []
  | e => e

def stripR {α : Type} (r : Validate.R α) : Validate.R α :=
  match r with
  | .ok a => .ok a
  | .error e => .error (strip e)

theorem forE_strip {α : Type} (f g : α → Validate.R Unit) (h : ∀ x, stripR (f x) = g x) :
    ∀ l : List α, stripR (Validate.forE l f) = Validate.forE l g := by
  intro l
  induction l with
  | nil => rfl
  | cons x xs ih =>
    have hx := h x
    simp only [Validate.forE]
    cases hfx : f x with
    | ok u => rw [hfx] at hx; simp only [stripR] at hx; rw [← hx]; exact ih
    | error e => rw [hfx] at hx; simp only [stripR] at hx; rw [← hx]; rfl

theorem forEI_strip {α : Type} (f : Nat → α → Validate.R Unit) (g : α → Validate.R Unit)
    (h : ∀ i x, stripR (f i x) = g x) : ∀ (l : List α) (i : Nat), stripR (Validate.forEI l i f) = Validate.forE l g := by
  intro l
  induction l with
  | nil => intro i; rfl
  | cons x xs ih =>
    intro i
    have hx := h i x
    simp only [Validate.forEI, Validate.forE]
    cases hfx : f i x with
    | ok u => rw [hfx] at hx; simp only [stripR] at hx; rw [← hx]; exact ih (i + 1)
    | error e => rw [hfx] at hx; simp only [stripR] at hx; rw [← hx]; rfl

theorem matrix_type_of_eq_model (p : Pack) : Gen.matrix_type_of p.input p.output = Validate.typeOf p := by
  unfold Gen.matrix_type_of Validate.typeOf
  cases p.input <;> cases p.output <;> simp

theorem validate_non_matrix_pack_eq_model (pi : Nat) (p : Pack) :
    Gen.validate_non_matrix_pack p = stripR (Validate.validateNonMatrixPack pi p) := by
  unfold Gen.validate_non_matrix_pack Validate.validateNonMatrixPack
  cases p.input <;> cases p.output <;> cases p.encodePacks <;> simp [stripR, strip]

theorem validate_track_or_channel_eq_model (d : Doc) :
    Gen.validate_track_or_channel d = stripR (Validate.validateTrackOrChannel d) := by
  unfold Gen.validate_track_or_channel Validate.validateTrackOrChannel
  symm
  apply forEI_strip
  intro i t
  cases t.trackFormat <;> cases t.channel <;> simp [stripR, strip]

theorem validate_hoa_channels_eq_model (d : Doc) :
    Gen.validate_hoa_channels d = stripR (Validate.validateHoaChannels d) := by
  unfold Gen.validate_hoa_channels Validate.validateHoaChannels
  symm
  apply forEI_strip
  intro i c
  by_cases ht : c.type = .hoa
  · by_cases h1 : c.blocks.length = 1 <;> cases c.freq <;> simp [stripR, strip, ht, h1]
  · simp [stripR, strip, ht]

theorem validate_objects_channels_eq_model (d : Doc) :
    Gen.validate_objects_channels d = stripR (Validate.validateObjectsChannels d) := by
  unfold Gen.validate_objects_channels Validate.validateObjectsChannels
  symm
  apply forEI_strip
  intro i c
  have hb := forEI_strip
    (fun bi (b : Block) => if b.cartMismatch then (.error (.adm .cartesian [.block i bi]) : Validate.R Unit) else .ok ())
    (fun b => if b.cartMismatch = true then .error (.adm .cartesian []) else .ok ())
    (by intro bi b; cases b.cartMismatch <;> simp [stripR, strip]) c.blocks 0
  by_cases ht : c.type = .objects
  · cases c.freq <;> simp [stripR, strip, ht] <;> exact hb
  · simp [stripR, strip, ht]

theorem validate_pack_channel_types_eq_model (d : Doc) :
    Gen.validate_pack_channel_types d = stripR (Validate.validatePackChannelTypes d) := by
  unfold Gen.validate_pack_channel_types Validate.validatePackChannelTypes
  symm
  apply forEI_strip
  intro i p
  apply forE_strip
  intro c
  by_cases h : (d.chan c).type = p.type
  · simp [stripR, strip, h]
  · have h' : ¬ p.type = (d.chan c).type := fun e => h e.symm
    simp [stripR, strip, h, h']

theorem validate_pack_subpack_types_eq_model (d : Doc) :
    Gen.validate_pack_subpack_types d = stripR (Validate.validatePackSubpackTypes d) := by
  unfold Gen.validate_pack_subpack_types Validate.validatePackSubpackTypes
  symm
  apply forEI_strip
  intro i p
  apply forE_strip
  intro c
  by_cases h : (d.pack c).type = p.type
  · simp [stripR, strip, h]
  · have h' : ¬ p.type = (d.pack c).type := fun e => h e.symm
    simp [stripR, strip, h, h']

theorem validate_v2_refs_eq_model (d : Doc) : Gen.validate_v2_refs d = stripR (Validate.validateV2Refs d) := by
  unfold Gen.validate_v2_refs Validate.validateV2Refs
  cases d.v2Allowed <;> cases h : d.trackUIDs.any (fun t => t.channel.isSome) <;> simp_all [stripR, strip]

/-- the block-count test of `_validate_matrix_channel` decides the model's first branch -/
theorem matrix_channel_blocks_test_eq_model (ci : Nat) (c : Channel) :
    (Gen.matrix_channel_blocks_test c = true → Validate.validateMatrixChannel ci c = .error (.adm .mxchblocks [.id .acf ci])) ∧
    (Gen.matrix_channel_blocks_test c = false → ∃ b, c.blocks = [b]) := by
  unfold Validate.validateMatrixChannel Gen.matrix_channel_blocks_test
  constructor
  · intro h; simp_all
  · intro h
    have hl : c.blocks.length = 1 := by simpa using h
    exact List.length_eq_one_iff.mp hl

/-- the first two checks of `validate_selected_audioTrackUID` inside the model's `validateSelectedTrack` -/
theorem selected_track_checks_eq_model (d : Doc) (t : Nat) :
    stripR (Validate.validateSelectedTrack d t) =
      match Gen.selected_track_checks (d.atu t) with
      | .error e => .error e
      | .ok _ =>
        match (d.atu t).trackFormat with
        | none => .ok ()
        | some f => match (d.tf f).stream with
          | none => .error (.internal .attrNone)
          | some s => if (d.stream s).channel.isNone then .error (.adm .streamnochannel []) else .ok () := by
  unfold Validate.validateSelectedTrack Gen.selected_track_checks
  generalize d.atu t = u
  rcases u with ⟨ti, pk, tf, ch⟩
  cases ti <;> cases pk <;> cases tf <;> try rfl
  rename_i i p f
  simp only [Option.isNone_some, Bool.false_eq_true, if_false, stripR]
  cases (d.tf f).stream with
  | none => rfl
  | some s => simp only; cases (d.stream s).channel <;> rfl

end

end Earverif.Kernels
