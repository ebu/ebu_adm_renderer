/-
C09 — BW64 files written by the library are read back identically.

First the lemmas that put the pieces of `Earverif/Proofs/C09*.lean` together (size bounds, the header part of a
finalised file `WrittenHead`, `closedFile_chunks`: a finalised file is a header part followed by well-formed chunks;
these are also what `Proofs/C17.lean` builds on).  Then the property theorems: byte level (`closedFile` = Bw64Writer on a
BytesIO, `readFile` = Bw64Reader on a BytesIO), the driver's gates against the theorem hypotheses, sample level
(`closedFileS`, `openReader`, `readSamples`), and concrete instances.
-/
import Earverif.Proofs.C09Samples

namespace Earverif.Bw64

/-! Size bounds, only needed for `R < 2^64` in `closedFile_chunks` (the RIFF size must fit the 8-byte field of the ds64 chunk): a chna
chunk is at most 8 + 4 + 40·65535 < 2^22 bytes, an axml/bext chunk at most 8 + (2^32 - 1) + 1 + pad, three of them
stay below 2^34; with fewer than 2^63 data bytes the file stays below 2^64. -/

theorem optChnaB_length_le {c : Option (List ChnaEntry)} (h : ChnaOK c) : (optChnaB c).length ≤ 2 ^ 22 := by
  cases c with
  | none => simp [optChnaB]
  | some es =>
    have := chnaPayload_length es h.2
    have := h.1
    simp [optChnaB, chnaChunk, idChna, le_length]; omega

theorem optMetaB_length_le {id : Bytes} (hid : id.length = 4) {v : Option Bytes} (h : BytesOK v) :
    (optMetaB id v).length ≤ 2 ^ 32 + 9 := by
  rcases v with _ | _ | ⟨x, xs⟩
  · simp [optMetaB]
  · simp [optMetaB]
  · have : (x :: xs).length < 2 ^ 32 := h
    simp only [optMetaB, metaChunk, List.length_append, le_length, pad_length, hid]; omega

theorem preB_length_le {c0 : Option (List ChnaEntry)} {a0 b0 : Option Bytes} (hc : ChnaOK c0) (ha : BytesOK a0)
    (hb : BytesOK b0) : (preB c0 a0 b0).length ≤ 2 ^ 34 := by
  have := optChnaB_length_le hc
  have := optMetaB_length_le (id := idAxml) rfl ha
  have := optMetaB_length_le (id := idBext) rfl hb
  simp only [preB, List.length_append]; omega

theorem lateB_length_le {c : Option (List ChnaEntry)} {a b : Option Bytes} (cw aw bw : Bool) (hc : ChnaOK c)
    (ha : BytesOK a) (hb : BytesOK b) : (lateB cw aw bw c a b).length ≤ 2 ^ 34 := by
  have := optChnaB_length_le hc
  have := optMetaB_length_le (id := idAxml) rfl ha
  have := optMetaB_length_le (id := idBext) rfl hb
  have hle : ∀ (w : Bool) (l : Bytes), (if w then [] else l).length ≤ l.length := by
    intro w l; cases w <;> simp
  have := hle cw (optChnaB c)
  have := hle aw (optMetaB idAxml a)
  have := hle bw (optMetaB idBext b)
  simp only [lateB, List.length_append]; omega

theorem bodyC_ok (ds : Option Ds64) (hds : ∀ d, ds = some d → d.table = []) {fmt : Fmt}
    {c0 cF : Option (List ChnaEntry)} {a0 b0 aF bF : Option Bytes} {sz : Nat} {data dp : Bytes}
    (hc0 : ChnaOK c0) (hcF : ChnaOK cF) (ha0 : BytesOK a0) (haF : BytesOK aF) (hb0 : BytesOK b0) (hbF : BytesOK bF)
    (hd : (dataC sz data dp).OK ds) :
    ∀ x ∈ bodyC fmt c0 a0 b0 sz data dp cF aF bF, x.OK ds := by
  simp only [bodyC, List.forall_mem_cons, List.forall_mem_append]
  exact ⟨fmtC_ok ds hds fmt, preC_ok ds hds hc0 ha0 hb0, hd, lateC_ok ds hds _ _ _ hcF haF hbF⟩

/-- The header part of a finalised file holding `n` data bytes: plain RIFF with the RIFF size filled in (only
without `forceBw64`), or BW64 with the ds64 chunk where the JUNK chunk was.  `ff` and `ds` are what
`_read_riff_chunk` / `_read_ds64_chunk` make of it. -/
inductive WrittenHead (force : Bool) (n : Nat) : (pre ff : Bytes) → Option Ds64 → Prop
  | riff (hforce : force = false) (R : Nat) : WrittenHead force n (idRIFF ++ (le 4 R ++ idWAVE)) idRIFF none
  | bw64 (R : Nat) (hR : R < 2 ^ 64) (hn : n < 2 ^ 64) :
      WrittenHead force n (idBW64 ++ (ffff ++ (idWAVE ++ ds64Chunk R n))) idBW64 (some ⟨R, n, []⟩)

section
variable {force : Bool} {n : Nat} {pre ff : Bytes} {ds : Option Ds64} (h : WrittenHead force n pre ff ds)
include h

theorem WrittenHead.readHead_eq (rest : Bytes) : readHead (pre ++ rest) = .ok (ff, ds, pre.length) := by
  cases h with
  | riff _ R => exact readHead_riff (s4 := le 4 R) (rest := rest) (by simp) (le_length 4 R)
  | bw64 R hR hn => exact readHead_bw64 (rest := rest) (by simp) hR hn

theorem WrittenHead.format : (ff = idRIFF ∨ ff = idBW64) ∧ (force = true → ff = idBW64) := by
  cases h with
  | riff hf _ => exact ⟨Or.inl rfl, fun h => by simp [hf] at h⟩
  | bw64 => exact ⟨Or.inr rfl, fun _ => rfl⟩

theorem WrittenHead.length_ge : 12 ≤ pre.length := by
  cases h with
  | riff => simp [idRIFF, idWAVE, le_length]
  | bw64 => simp only [List.length_append, idBW64, ffff, idWAVE, List.length_cons, List.length_nil]; omega

theorem WrittenHead.dataSize : ∀ d, ds = some d → d.dataSize = n := by
  cases h with
  | riff => intro d hd; cases hd
  | bw64 => intro d hd; cases hd; rfl

end

/-- A finalised file is a header part followed by well-formed chunks: (JUNK,) fmt, constructor chunks,
data, late chunks; `sz` is what the data chunk's size field holds (the placeholder in a BW64 file). -/
theorem closedFile_chunks (fmt : Fmt) (c0 : Option (List ChnaEntry)) (a0 b0 : Option Bytes) (force : Bool)
    (ops : List WOp)
    (hc0 : ChnaOK c0) (hcF : ChnaOK (pendChna c0 ops))
    (ha0 : BytesOK a0) (haF : BytesOK (pendAxml a0 ops))
    (hb0 : BytesOK b0) (hbF : BytesOK (pendBext b0 ops))
    (hdata : (dataOf ops).length < 2 ^ 63) :
    ∃ (pre : Bytes) (F : List Chunk) (ds : Option Ds64) (ff : Bytes) (sz : Nat),
      closedFile fmt c0 a0 b0 force ops = pre ++ encAll (F ++ bodyC fmt c0 a0 b0 sz (dataOf ops)
        (pad (dataOf ops).length) (pendChna c0 ops) (pendAxml a0 ops) (pendBext b0 ops)) ∧
      (∀ x ∈ F, x.id = idJUNK) ∧
      (∀ x ∈ F ++ bodyC fmt c0 a0 b0 sz (dataOf ops) (pad (dataOf ops).length) (pendChna c0 ops)
        (pendAxml a0 ops) (pendBext b0 ops), x.OK ds) ∧
      WrittenHead force (dataOf ops).length pre ff ds := by
  obtain ⟨hop, hoc, hoa, hob⟩ := openW_opened fmt c0 a0 b0 force
  obtain ⟨hrun, hrc, hra, hrb⟩ := runW_opened ops hop
  rw [hoc] at hrc; rw [hoa] at hra; rw [hob] at hrb
  simp only [List.nil_append] at hrun
  have hlay := closeW_layout hrun
  rw [hrc, hra, hrb] at hlay
  have hpre := preB_eq c0 a0 b0
  have hlate := lateB_eq c0.isSome (truthy a0) (truthy b0) (pendChna c0 ops) (pendAxml a0 ops) (pendBext b0 ops)
  have hpl := preB_length_le hc0 ha0 hb0
  have hll := lateB_length_le c0.isSome (truthy a0) (truthy b0) hcF haF hbF
  simp only [closedFile]
  rw [hlay]
  simp only []   -- unfolds the `let`s of `closeW_layout`
  generalize hR : riffSizeOf (preB c0 a0 b0) (dataOf ops)
    (lateB c0.isSome (truthy a0) (truthy b0) (pendChna c0 ops) (pendAxml a0 ops) (pendBext b0 ops)) = R
  -- `hpl`, `hll` (both chunk groups below 2^34) and `hdata` (below 2^63) keep the RIFF size below 2^64
  obtain ⟨hRlt, hnR⟩ : R < 2 ^ 64 ∧ (dataOf ops).length + 72 ≤ R := by rw [← hR]; unfold riffSizeOf; omega
  split
  · -- BW64: the data chunk keeps the placeholder size, the ds64 chunk holds the real one
    have hdOK : (dataC 4294967295 (dataOf ops) (pad (dataOf ops).length)).OK (some ⟨R, (dataOf ops).length, []⟩) :=
      dataC_ok (by decide) (by simp [hdrSize]) rfl
    refine ⟨_, [], some ⟨R, (dataOf ops).length, []⟩, idBW64, 4294967295, ?_, by simp, ?_,
      .bw64 R hRlt (by omega)⟩
    · rw [hpre, hlate, fmtChunk_eq]
      have hffff : le 4 4294967295 = ffff := by decide
      simp [bodyC, dataC, Chunk.enc, hffff]
    · exact bodyC_ok _ (fun d hd => by cases hd; rfl) hc0 hcF ha0 haF hb0 hbF hdOK
  · rename_i hbw
    have hR32 : R < 2 ^ 32 ∧ force = false := by
      simpa [Nat.not_le] using hbw
    have hdOK : (dataC (dataOf ops).length (dataOf ops) (pad (dataOf ops).length)).OK none :=
      dataC_ok (by omega) rfl
        (by simp only [isPlaceholder, decide_true, Bool.true_and]; exact decide_eq_false (by omega))
    refine ⟨_, [junkC], none, idRIFF, (dataOf ops).length, ?_,
      List.forall_mem_singleton.2 rfl, ?_, .riff hR32.2 R⟩
    · rw [hpre, hlate, fmtChunk_eq, junkChunk_eq]
      simp [bodyC, dataC, Chunk.enc]
    · simp only [List.forall_mem_append, List.forall_mem_singleton]
      exact ⟨junkC_ok, bodyC_ok none (fun _ hd => nomatch hd) hc0 hcF ha0 haF hb0 hbF hdOK⟩

/-- What the reader's constructor does on a finalised file, with the intermediate results exposed: header, chunk walk
without warnings, the parse result, and where the data chunk lies (`dpos` = offset of its id; the sample bytes start
at `dpos + 8`). -/
theorem C09_open (fmt : Fmt) (c0 : Option (List ChnaEntry)) (a0 b0 : Option Bytes) (force : Bool)
    (ops : List WOp)
    (hfmt : FmtOK fmt)
    (hc0 : ChnaOK c0) (hcF : ChnaOK (pendChna c0 ops))
    (ha0 : BytesOK a0) (haF : BytesOK (pendAxml a0 ops))
    (hb0 : BytesOK b0) (hbF : BytesOK (pendBext b0 ops))
    (hframes : (dataOf ops).length % fmt.blockAlign = 0)
    (hdata : (dataOf ops).length < 2 ^ 63) :
    ∃ (ff : Bytes) (ds : Option Ds64) (p : Nat) (t : Table) (dpos : Nat) (P R : Bytes),
      (ff = idRIFF ∨ ff = idBW64) ∧ (force = true → ff = idBW64) ∧
      readHead (closedFile fmt c0 a0 b0 force ops) = .ok (ff, ds, p) ∧
      readChunks (closedFile fmt c0 a0 b0 force ops) ds ((closedFile fmt c0 a0 b0 force ops).length + 1) p [] [] =
        .ok (t, []) ∧
      finishRead (closedFile fmt c0 a0 b0 force ops) ff ds t [] =
        .ok (⟨ff, ⟨1, fmt.channels, fmt.rate, fmt.bits⟩, (dataOf ops).length / fmt.blockAlign, dataOf ops,
              effChna c0 (pendChna c0 ops), effMeta a0 (pendAxml a0 ops), effMeta b0 (pendBext b0 ops)⟩, []) ∧
      tlookup t idData = some ((dataOf ops).length, dpos) ∧
      closedFile fmt c0 a0 b0 force ops = P ++ (dataOf ops ++ R) ∧ P.length = dpos + 8 := by
  obtain ⟨pre, F, ds, ff, sz, hf, hF, hok, hh⟩ := closedFile_chunks fmt c0 a0 b0 force ops hc0 hcF ha0 haF hb0 hbF hdata
  generalize closedFile fmt c0 a0 b0 force ops = f at hf ⊢
  have hf' : f = pre ++ (encAll (F ++ bodyC fmt c0 a0 b0 sz (dataOf ops) (pad (dataOf ops).length) (pendChna c0 ops)
      (pendAxml a0 ops) (pendBext b0 ops)) ++ []) := by rw [List.append_nil]; exact hf
  have hhead := hh.readHead_eq (encAll (F ++ bodyC fmt c0 a0 b0 sz (dataOf ops) (pad (dataOf ops).length)
    (pendChna c0 ops) (pendAxml a0 ops) (pendBext b0 ops)))
  rw [← hf] at hhead
  have hlen := length_le_encAll _ (fun c hc => (hok c hc).idLen)
  have hw := walk_chunks _ _ hok _ f (f.length + 1) [] [] hf (by rw [hf]; simp only [List.length_append] at hlen ⊢; omega)
  have hfin := finishRead_written (w := []) (ff := ff) hfmt hc0 hcF hf' hF hh.dataSize hframes
  obtain ⟨dpos, P, Rr, hd1, hd2, hd3⟩ := (bodyC_holds hF fmt c0 a0 b0 sz _ _ _ _ _).data.lookup_some hf' rfl []
  exact ⟨ff, ds, _, _, dpos, P, Rr, hh.format.1, hh.format.2, hhead, hw, hfin, hd1, hd2, hd3⟩

/-- **C09 (round trip).**  For every PCM format the writer supports (16/24/32 bit, at least one channel,
positive rate, fields within their `struct` widths), every history of `write` calls (any partition of the
encoded sample bytes into blocks, empty blocks included) and chunk setter calls, metadata chunks given to
the constructor and/or pending at `close` (each absent, empty = treated as absent, or of any length below
2^32; chna entries as `AudioID.asByteArray` lays them out), with or without `forceBw64`, whole frames and
fewer than 2^63 data bytes in total:

the reader accepts the finalised file **without any warning** and returns the same format, a frame count
of `bytes / blockAlignment`, exactly the written sample bytes, and for each metadata chunk exactly the value
that was supplied (`effChna` / `effMeta`: the constructor's value if it was written there, else the value
pending at `close`; `None` if neither is truthy; `effMeta_open`, `effMeta_late`, `effChna_open`, `effChna_late` below
read off the two common cases).  The container id is `RIFF` or `BW64`, and `BW64` whenever `forceBw64` is set. -/
theorem C09_roundtrip (fmt : Fmt) (c0 : Option (List ChnaEntry)) (a0 b0 : Option Bytes) (force : Bool)
    (ops : List WOp)
    (hfmt : FmtOK fmt)
    (hc0 : ChnaOK c0) (hcF : ChnaOK (pendChna c0 ops))
    (ha0 : BytesOK a0) (haF : BytesOK (pendAxml a0 ops))
    (hb0 : BytesOK b0) (hbF : BytesOK (pendBext b0 ops))
    (hframes : (dataOf ops).length % fmt.blockAlign = 0)
    (hdata : (dataOf ops).length < 2 ^ 63) :
    ∃ ff, (ff = idRIFF ∨ ff = idBW64) ∧ (force = true → ff = idBW64) ∧
      readFile (closedFile fmt c0 a0 b0 force ops) =
        .ok (⟨ff, ⟨1, fmt.channels, fmt.rate, fmt.bits⟩, (dataOf ops).length / fmt.blockAlign, dataOf ops,
              effChna c0 (pendChna c0 ops), effMeta a0 (pendAxml a0 ops), effMeta b0 (pendBext b0 ops)⟩, []) := by
  obtain ⟨ff, ds, p, t, dpos, P, R, h1, h2, hhead, hw, hfin, -, -, -⟩ :=
    C09_open fmt c0 a0 b0 force ops hfmt hc0 hcF ha0 haF hb0 hbF hframes hdata
  exact ⟨ff, h1, h2, by simp only [readFile, hhead, hw, hfin]⟩

/-- a chunk given to the constructor (and not touched afterwards) comes back as given, empty = absent -/
theorem effMeta_open (v : Option Bytes) : effMeta v v = if truthy v then v else none := by
  unfold effMeta; split <;> rfl

/-- a chunk set only before `close` comes back as set, empty = absent -/
theorem effMeta_late (v : Option Bytes) : effMeta none v = if truthy v then v else none := by
  simp [effMeta, truthy]

theorem effChna_open (c : Option (List ChnaEntry)) : effChna c c = c := by unfold effChna; split <;> rfl
theorem effChna_late (c : Option (List ChnaEntry)) : effChna none c = c := by simp [effChna]

/-! The driver's gates and the theorem hypotheses: `Fmt.packable`, `chnaPackable`, `bytesPackable` (Model/Bw64Writer.lean) say "`struct.pack` does not raise";
the theorems need `FmtOK`, `ChnaOK`, `BytesOK`.  The exact relations: -/

theorem fmtOK_iff_packable (f : Fmt) :
    FmtOK f ↔ (f.packable = true ∧ (f.bits = 16 ∨ f.bits = 24 ∨ f.bits = 32) ∧ 1 ≤ f.channels ∧ 1 ≤ f.rate) := by
  simp only [Fmt.packable, Bool.and_eq_true, decide_eq_true_eq]
  exact ⟨fun ⟨hb, hc, hr, h1, h2, h3, h4⟩ => ⟨⟨⟨⟨⟨h1, h2⟩, h3⟩, h4⟩, by omega⟩, hb, hc, hr⟩,
    fun ⟨⟨⟨⟨⟨h1, h2⟩, h3⟩, h4⟩, _⟩, hb, hc, hr⟩ => ⟨hb, hc, hr, h1, h2, h3, h4⟩⟩

theorem fmtOkB_iff (f : Fmt) : f.okB = true ↔ FmtOK f := by
  simp only [Fmt.okB, Bool.and_eq_true, Bool.or_eq_true, beq_iff_eq, decide_eq_true_eq, or_assoc]
  exact ⟨fun ⟨⟨⟨⟨⟨⟨hb, hc⟩, hr⟩, h1⟩, h2⟩, h3⟩, h4⟩ => ⟨hb, hc, hr, h1, h2, h3, h4⟩,
    fun ⟨hb, hc, hr, h1, h2, h3, h4⟩ => ⟨⟨⟨⟨⟨⟨hb, hc⟩, hr⟩, h1⟩, h2⟩, h3⟩, h4⟩⟩

theorem entryOK_iff (e : ChnaEntry) :
    e.OK ↔ (e.trackIndex < 2 ^ 16 ∧ e.rest.length = 38 ∧ e.warns = false) := by
  -- `warns` is the Boolean form of the negated third clause of `OK`
  have hw : e.warns = false ↔ ¬ ((((e.enc.drop 14).take 14).take 3 = acPrefix) ∧
      (((e.enc.drop 14).take 14).drop 11 ≠ suffix00)) := by
    simp only [ChnaEntry.warns, acPrefix, suffix00, Bool.and_eq_false_iff, decide_eq_false_iff_not,
      Bool.not_eq_false', decide_eq_true_eq, not_and, ne_eq, not_not]
    exact Decidable.imp_iff_not_or.symm
  rw [ChnaEntry.OK, hw]

theorem chnaOK_iff_packable (c : Option (List ChnaEntry)) :
    ChnaOK c ↔ (chnaPackable c = true ∧ ∀ es, c = some es → ∀ e ∈ es, e.warns = false) := by
  cases c with
  | none => simp [ChnaOK, chnaPackable]
  | some es =>
    simp only [ChnaOK, chnaPackable, Bool.and_eq_true, decide_eq_true_eq, List.all_eq_true, beq_iff_eq,
      Option.some.injEq, entryOK_iff]
    constructor
    · rintro ⟨hl, h⟩
      exact ⟨⟨hl, fun e he => ⟨(h e he).1, (h e he).2.1⟩⟩, fun es' hes e he => (h e (hes ▸ he)).2.2⟩
    · rintro ⟨⟨hl, h⟩, hw⟩
      exact ⟨hl, fun e he => ⟨(h e he).1, (h e he).2, hw es rfl e he⟩⟩

theorem chnaOkB_iff (c : Option (List ChnaEntry)) : chnaOkB c = true ↔ ChnaOK c := by
  cases c with
  | none => simp [ChnaOK, chnaOkB]
  | some es =>
    simp only [ChnaOK, chnaOkB, Bool.and_eq_true, decide_eq_true_eq, List.all_eq_true, beq_iff_eq, entryOK_iff,
      Bool.not_eq_true', and_assoc]

theorem bytesOK_iff_packable (v : Option Bytes) : BytesOK v ↔ bytesPackable v = true := by
  cases v <;> simp [BytesOK, bytesPackable]

theorem wop_packable (op : WOp) : op.packable = true ↔
    match op with
    | .write _ => True
    | .setChna v => chnaPackable v = true
    | .setAxml v => BytesOK v
    | .setBext v => BytesOK v := by
  cases op <;> simp [WOp.packable, bytesOK_iff_packable]

open Earverif.Pcm in
/-- **C09 (samples).**  For every supported format, every history of sample-level `write` calls (each block
any number of frames — zero included — of `channels` float samples; any partition of the audio into calls)
and chunk setter calls, chunks and `forceBw64` as in `C09_roundtrip`:

* no call raises and `close` yields a file (`closedFileS = some file`);
* the reader opens it without warning, with the written format, `N` = number of frames written, the chunk
  contents as in `C09_roundtrip`, and cursor constants `k` that are well formed (`Cursor.WF k N`: the data
  chunk holds exactly `N` whole frames inside the file — the hypothesis of C18's `ops_refine`);
* `read(n)` with the cursor at any frame `c ≤ N` returns (no exception) frames `[c, min (c+n) N)` of the
  written audio, every sample mapped through `decode ∘ encode` (`Pcm.decode b (Pcm.encode b x)`, for which
  `encode_within_step`, `encode_clipped` and `decode_encode_representable` of C16 give: within one
  quantisation step + 2^-54, exactly ±1 when clipped, exactly `x` when `x` is representable), and leaves the
  cursor at `min (c+n) N`. -/
theorem C09_samples_roundtrip (fmt : Fmt) (c0 : Option (List ChnaEntry)) (a0 b0 : Option Bytes) (force : Bool)
    (sops : List SOp)
    (hfmt : FmtOK fmt)
    (hblocks : BlocksOK fmt.channels sops)
    (hc0 : ChnaOK c0) (hcF : ChnaOK (pendChnaS c0 sops))
    (ha0 : BytesOK a0) (haF : BytesOK (pendAxmlS a0 sops))
    (hb0 : BytesOK b0) (hbF : BytesOK (pendBextS b0 sops))
    (hdata : fmt.blockAlign * (framesOf sops).length < 2 ^ 63) :
    ∃ (file ff data : Bytes) (k : Cursor.Cfg),
      closedFileS fmt c0 a0 b0 force sops = some file ∧
      (ff = idRIFF ∨ ff = idBW64) ∧ (force = true → ff = idBW64) ∧
      openReader file =
        .ok (⟨ff, ⟨1, fmt.channels, fmt.rate, fmt.bits⟩, (framesOf sops).length, data,
              effChna c0 (pendChnaS c0 sops), effMeta a0 (pendAxmlS a0 sops), effMeta b0 (pendBextS b0 sops)⟩, k, []) ∧
      encodeBytes fmt.bits (framesOf sops).flatten = some data ∧
      Cursor.WF k ((framesOf sops).length : Int) ∧ k.A = (fmt.blockAlign : Int) ∧
      ∀ c n : Nat, c ≤ (framesOf sops).length →
        readSamples file ⟨1, fmt.channels, fmt.rate, fmt.bits⟩ k (k.data + k.A * (c : Int)) (n : Int) =
          (k.data + k.A * (min (c + n) (framesOf sops).length : Nat),
           some ((((framesOf sops).drop c).take n).map (·.map (fun x => decode fmt.bits (encode fmt.bits x))))) := by
  have hdepth : Depth fmt.bits := hfmt.bits
  have hch : 0 < fmt.channels := hfmt.ch
  obtain ⟨wops, henc, hdat, hrows, pc, pa, pb⟩ := encOps_spec fmt hdepth hch sops hblocks
  have hlen : (dataOf wops).length = fmt.blockAlign * (framesOf sops).length :=
    encoded_length hdepth hch hrows hdat
  have hApos : 0 < fmt.blockAlign := by
    unfold Fmt.blockAlign; rcases hdepth with h | h | h <;> rw [h] <;> omega
  rw [← pc c0] at hcF; rw [← pa a0] at haF; rw [← pb b0] at hbF
  obtain ⟨ff, ds, p, t, dpos, P, R, h1, h2, hhead, hw, hfin, hd1, hd2, hd3⟩ :=
    C09_open fmt c0 a0 b0 force wops hfmt hc0 hcF ha0 haF hb0 hbF
      (by rw [hlen]; exact Nat.mul_mod_right _ _) (by rw [hlen]; exact hdata)
  rw [hlen, Nat.mul_div_cancel_left _ hApos] at hfin
  refine ⟨_, ff, dataOf wops, _, by rw [closedFileS_eq, henc]; rfl, h1, h2, ?_, hdat,
    wf_written hd2 hdepth hch hrows hdat, rfl,
    fun c n hc => readSamples_written hd2 hdepth hch hrows hdat 1 fmt.rate c n hc⟩
  simp only [openReader, hhead, hw, hfin, hd1]
  rw [hd3, pc, pa, pb]

open Earverif.Pcm in
/-- Reading the whole file back in one `read(len(reader))` from the cursor position the constructor leaves
(frame 0): every written frame, through `decode ∘ encode`, in order — for any partition into `write` calls. -/
theorem C09_samples_read_all (fmt : Fmt) (c0 : Option (List ChnaEntry)) (a0 b0 : Option Bytes) (force : Bool)
    (sops : List SOp)
    (hfmt : FmtOK fmt)
    (hblocks : BlocksOK fmt.channels sops)
    (hc0 : ChnaOK c0) (hcF : ChnaOK (pendChnaS c0 sops))
    (ha0 : BytesOK a0) (haF : BytesOK (pendAxmlS a0 sops))
    (hb0 : BytesOK b0) (hbF : BytesOK (pendBextS b0 sops))
    (hdata : fmt.blockAlign * (framesOf sops).length < 2 ^ 63) :
    ∃ (file : Bytes) (pr : Parsed) (k : Cursor.Cfg),
      closedFileS fmt c0 a0 b0 force sops = some file ∧ openReader file = .ok (pr, k, []) ∧
      pr.frames = (framesOf sops).length ∧
      (readSamples file pr.fmt k k.data (pr.frames : Int)).2 =
        some ((framesOf sops).map (·.map (fun x => decode fmt.bits (encode fmt.bits x)))) := by
  obtain ⟨file, ff, data, k, h1, -, -, h4, -, -, -, h8⟩ :=
    C09_samples_roundtrip fmt c0 a0 b0 force sops hfmt hblocks hc0 hcF ha0 haF hb0 hbF hdata
  refine ⟨file, _, k, h1, h4, rfl, ?_⟩
  have := h8 0 (framesOf sops).length (Nat.zero_le _)
  simp only [Nat.cast_zero, Int.mul_zero, Int.add_zero, List.drop_zero, List.take_length] at this
  simp only [this]

/-! ### non-vacuity: concrete inputs satisfy the hypotheses, and the model computes on them -/

deriving instance DecidableEq for Except
instance (e : ChnaEntry) : Decidable e.OK := by unfold ChnaEntry.OK; infer_instance

/-- 24 bit, 3 channels: one frame is 9 bytes, an odd data chunk -/
def exFmt : Fmt := ⟨3, 48000, 24⟩
def exAxml : Bytes := [60, 97, 62]                 -- odd length
def exBext : Bytes := [1, 2, 3, 4, 5]              -- odd length
def exData : Bytes := [1, 2, 3, 4, 5, 6, 7, 8, 9]
/-- `AudioID(1, "ATU_00000001", "AC_00010001", "AP_00010001")` (a v2 channel-format reference) -/
def exEntry : ChnaEntry :=
  ⟨1, [65,84,85,95,48,48,48,48,48,48,48,49, 65,67,95,48,48,48,49,48,48,48,49,95,48,48,
       65,80,95,48,48,48,49,48,48,48,49, 0]⟩

example : FmtOK exFmt := ⟨by decide, by decide, by decide, by decide, by decide, by decide, by decide⟩
example : ChnaOK (some [exEntry]) := ⟨by decide, by simp; decide⟩
example : BytesOK (some exAxml) ∧ BytesOK (some exBext) :=
  ⟨by show exAxml.length < 2 ^ 32; decide, by show exBext.length < 2 ^ 32; decide⟩
example : exData.length % exFmt.blockAlign = 0 := by decide

set_option maxRecDepth 100000 in
/-- forced BW64, odd axml at open, odd bext set late, odd data -/
example : readFile (closedFile exFmt none (some exAxml) none true [.write exData, .setBext (some exBext)])
    = .ok (⟨idBW64, ⟨1, 3, 48000, 24⟩, 1, exData, none, some exAxml, some exBext⟩, []) := by decide +kernel

set_option maxRecDepth 100000 in
/-- plain RIFF, chna set late, bext at open, axml late, data written in three calls (one empty) -/
example : readFile (closedFile exFmt none none (some exBext) false
      [.write [1, 2, 3], .setChna (some [exEntry]), .write [], .setAxml (some exAxml), .write [4, 5, 6, 7, 8, 9]])
    = .ok (⟨idRIFF, ⟨1, 3, 48000, 24⟩, 1, exData, some [exEntry], some exAxml, some exBext⟩, []) := by decide +kernel

set_option maxRecDepth 100000 in
/-- the file of the previous example is 168 bytes: header 12, JUNK 36, fmt 24, bext 8+5+1, data 8+9+1,
chna 8+44, axml 8+3+1; an empty `b''` value is not written at all -/
example : (closedFile exFmt none none (some exBext) false
      [.write [1, 2, 3], .setChna (some [exEntry]), .write [], .setAxml (some exAxml), .write [4, 5, 6, 7, 8, 9]]).length = 168
    ∧ closedFile exFmt none (some []) none false [] = closedFile exFmt none none none false [] := by decide +kernel

/-- sample-level history: two stereo 16-bit blocks (one frame, then two frames with a clipped and a
non-representable sample), an empty block, chna set late -/
def exSOps : List SOp :=
  [.write [[1, -1]], .setChna (some [exEntry]), .write [], .write [[3 / 2, 1 / 3], [0, -1 / 32767]]]

example : BlocksOK 2 exSOps := by simp [exSOps, BlocksOK]
example : FmtOK ⟨2, 48000, 16⟩ := ⟨by decide, by decide, by decide, by decide, by decide, by decide, by decide⟩
example : Fmt.okB ⟨2, 48000, 16⟩ = true ∧ chnaOkB (some [exEntry]) = true ∧ Fmt.okB ⟨2, 48000, 8⟩ = false ∧
    Fmt.packable ⟨2, 48000, 8⟩ = true := by decide

set_option maxRecDepth 100000 in
/-- the model computes on it: three frames come back; 3/2 is clipped to 1, 1/3 comes back as the double nearest
to 10922/32767, the representable values ±1, 0 exactly, -1/32767 as the double nearest to it -/
example : (closedFileS ⟨2, 48000, 16⟩ none none none false exSOps).map (fun f =>
      (openReader f).toOption.map (fun r => (r.1.frames, (readSamples f r.1.fmt r.2.1 r.2.1.data 3).2)))
    = some (some (3, some [[1, -1], [1, Pcm.decode 16 10922], [0, Pcm.decode 16 (-1)]])) := by decide +kernel

end Earverif.Bw64
