/-
Kernel ties (DESIGN.md section 1, "T — translator").

`Earverif/Gen/Kernels.lean` is regenerated on every run from the Python SOURCE of the functions below
(`harness/translate.py` reads the AST; the module is not imported).  Each theorem here states that the
regenerated definition equals the hand-written model definition that the property theorems are about.
If one of these functions is edited, the generated text changes; if it no longer says what the model
says, the equality below stops checking — whether or not a test input exposes the difference.

Conventions of the translation (see `harness/translate.py`): floats are exact rationals/reals (as in the
models); `//` is `Int.fdiv` (Python's floor division), which is the model's `/` for a divisor `≥ 0`
(stated as a hypothesis where it matters); `a > b` is written `b < a`; `is None` tests are decided by one
`match` at the top of the def; statements after an `if` are duplicated into both branches.

Only core Lean; the proofs are `rfl`, case splits, `simp`, `omega` or `grind`, and an induction where the translated
function is a fuel loop or a list recursion (`relative_angle_loop1_eq`, `inside_angle_range_loops_eq`, `zone_loop_agree`,
`hoa_output_channels_eq_model`).  Where the
kernel is over `Int`/`Rat` the proof is `first | rfl | (unfold; grind)`: `rfl` checks the literal transliteration,
`grind` (case splits + linear/ring arithmetic) keeps the equality checking after a behaviour-preserving rewrite
such as commuted operands or reordered branches.  Where an `Int` expression is cast back to `Nat` (`toNat`, `//`)
the cast lemma that says why is tried first (`first | exact Int.toNat_sub .. | omega`): `omega` finds the same fact
by a case search that is much slower to check, and stays as the fallback for a rewritten source.
Kernels over the abstract `Scalar` class (no algebraic laws:
it is instantiated by `Float`) can only be re-proved up to the `if`-structure; a commuted product there breaks
the equality, which the framework reports as a broken tie (then searches for a failing input).

The sections do not follow the properties; a new kernel goes at the end under a `###` heading naming its property.
Where each property's kernels stand: C01 — 2nd section and the C15/C01/C13 section; C02 — the C03 section
(`overlap`), the C09/C17 section (latency constants) and the index arithmetic near the end; C03 — its own section; C04 —
`has_overloaded` and the layout glue; C05/C12 — `stereo_level` in the C09/C17 section; C09/C17 — two sections (chunk
walk and `close`; format, offsets and `_read_chunk_header`); C10 — first section, `inside_angle_range_ds` in the C19
section, the fallback-panner position; C11 — ACN in the C09/C17 section, the LFE mask last; C13 — the Zone loops and
the C15/C01/C13 section; C15 — that section and the interpolationLength clamps near the end; C16, C19, C20 — one
section each; C18 — `seek`/`tell`/`__len__` and the clamp of `read`.
-/
import Earverif.Gen.Kernels
import Earverif.Model.GainCalc
import Earverif.Model.DirectSpeakers
import Earverif.Model.Bw64Cursor
import Earverif.Model.TrackSpec
import Earverif.Model.Timeline
import Earverif.Model.Pcm
import Earverif.Model.FileRender
import Earverif.Model.Bw64Reader
import Earverif.Model.Hoa
import Earverif.Model.Renderer
import Earverif.Model.PointSource
import Earverif.Model.Conversion
import Earverif.Model.Zone
import Earverif.Model.ChannelLock
import Earverif.Model.DirectSpeakersGeom
import Earverif.Model.DirectSpeakersConcrete
import Earverif.Model.TimingFix
import Earverif.Model.FileRenderLayout
import Earverif.Model.OverlapSave
import Earverif.Model.Stream

namespace Earverif.Kernels
open Earverif

/-! ### C10 — `renderer_common.is_lfe` -/

theorem is_lfe_eq_model (lowPass highPass : Option Rat) :
    Gen.is_lfe lowPass highPass = DS.isLfeFreq lowPass highPass := by
  cases lowPass <;> cases highPass <;> simp [Gen.is_lfe, DS.isLfeFreq]

/-! ### C01 — `get_object_gain`, `direct_diffuse_split`, the gains of `diverge`, `_single_balance_pan` -/

section
variable {α : Type} [GainCalc.Scalar α]

theorem get_object_gain_eq_model (mute : Bool) (objectGain : α) :
    Gen.get_object_gain mute objectGain = GainCalc.getObjectGain mute objectGain := by
  first | rfl | (cases mute <;> simp [Gen.get_object_gain, GainCalc.getObjectGain, GainCalc.zero, GainCalc.k])

theorem direct_diffuse_split_eq_model (gains : List α) (diffuse : α) :
    Gen.direct_diffuse_split gains diffuse = GainCalc.directDiffuseSplit gains diffuse := rfl

/-- The condition under which `diverge` computes `g_l, g_c, g_r` and the three formulas are the model's
(`none` = the early `return np.array([1.0]), ...`). -/
theorem diverge_gains_eq_model (value : Option α) :
    GainCalc.divergeGains value =
      match Gen.diverge_gains value with
      | none => [GainCalc.one]
      | some (g_l, g_c, g_r) => [g_l, g_c, g_r] := by
  cases value with
  | none => rfl
  | some v =>
    simp only [GainCalc.divergeGains, Gen.diverge_gains]
    split <;> simp_all [GainCalc.zero, GainCalc.one, GainCalc.k]

theorem single_balance_pan_eq_model (minimum maximum value : α) :
    Gen.single_balance_pan minimum maximum value = GainCalc.singleBalancePan minimum maximum value := by
  first
  | rfl
  | (simp only [Gen.single_balance_pan, GainCalc.singleBalancePan, GainCalc.one, GainCalc.zero, GainCalc.k]; grind)

end

/-! ### C18 — `Bw64Reader.seek`, `tell`, `__len__` -/

/-- New buffer position after `seek` (`none` = `ValueError`). -/
theorem seek_eq_model (k : Cursor.Cfg) (pos offset whence : Int) :
    Gen.seek k pos offset whence = Cursor.seek k pos offset whence := by
  simp only [Gen.seek, Cursor.seek]
  grind

/-- `tell` for a block alignment `≥ 0` (Python `//` floors; the model's `/` agrees for a divisor `≥ 0`). -/
theorem tell_eq_model (k : Cursor.Cfg) (pos : Int) (hA : 0 ≤ k.A) :
    Gen.tell k pos = Cursor.tell k pos := by
  simp only [Gen.tell, Cursor.tell]
  first | exact Int.fdiv_eq_ediv_of_nonneg _ hA | grind [Int.fdiv_eq_ediv_of_nonneg]

/-- `__len__`, for a block alignment `≥ 0`: the model's `Cfg.size` is the ds64 `dataSize` when there is a ds64 chunk and
the data chunk's size otherwise (the two sizes are separate parameters, so exchanging the branches breaks this). -/
theorem len_eq_model (k : Cursor.Cfg) (ds64 : Bool) (dsSize chunkSize : Int) (hA : 0 ≤ k.A) :
    Gen.len k ds64 dsSize chunkSize = Cursor.len { k with size := if ds64 then dsSize else chunkSize } := by
  cases ds64 <;> simp only [Gen.len, Cursor.len] <;>
    first | exact Int.fdiv_eq_ediv_of_nonneg _ hA | grind [Int.fdiv_eq_ediv_of_nonneg]

/-! ### C20 — the ms → samples formula of `MatrixCoefficientProcessor.init_delay` -/

theorem init_delay_samples_eq_model (sample_rate : Int) (delay : Rat) :
    Gen.init_delay_samples sample_rate delay = TrackSpec.delaySamples sample_rate delay := by
  first | rfl | (simp only [Gen.init_delay_samples, TrackSpec.delaySamples]; grind)

/-! ### C03 (and C02) — `ceil`, `ProcessingBlock.overlap`, `InterpGains._interp_p`, `interp_length` -/

theorem ceil_eq_model (x : Rat) : Gen.ceil x = Timeline.ceil x := by
  first | rfl | (simp only [Gen.ceil, Gen.pyTrunc, Timeline.ceil, Timeline.trunc]; grind)

theorem overlap_eq_model {K : Type} (b : Timeline.PBlock K) (l : Int) (h : b.last_sample = .fin l)
    (start_sample : Int) (num_samples : Nat) :
    Gen.overlap b.first_sample l start_sample num_samples = b.overlap start_sample num_samples := by
  simp only [Gen.overlap, Timeline.PBlock.overlap, h]
  try grind

/-- `overlap` of a block without end (`last_sample = inf`): `min(end_sample, inf) = end_sample`, i.e. the
translated function applied to any `last_sample ≥ end_sample`. -/
theorem overlap_inf_eq_model {K : Type} (b : Timeline.PBlock K) (h : b.last_sample = .inf)
    (start_sample : Int) (num_samples : Nat) (l : Int) (hl : start_sample + num_samples ≤ l) :
    Gen.overlap b.first_sample l start_sample num_samples = b.overlap start_sample num_samples := by
  simp only [Gen.overlap, Timeline.PBlock.overlap, h]
  grind

theorem interp_p_eq_model (start_sample end_sample : Rat) (first_sample last_sample : Int) :
    Gen.interp_p start_sample end_sample first_sample last_sample =
      Timeline.interpP start_sample end_sample first_sample last_sample := by
  first
  | rfl
  | (simp only [Gen.interp_p, Timeline.interpP]
     split <;> first | rfl | (apply List.map_congr_left; intro i _; grind) | grind)

theorem interp_length_eq_model {G : Type} (m : Timeline.MetaBlock G) (duration : Timeline.Ext Rat) :
    Gen.interp_length m.jump m.interpLen duration = Timeline.interpLength m duration := by
  unfold Gen.interp_length Timeline.interpLength
  cases m.interpLen <;> cases m.jump <;> first | rfl | simp

/-! ### C16 — the exact scalar parts of `encode_pcm_samples` / `decode_pcm_samples` -/

/-- `((b : Int) - 1).toNat` is the model's truncated `b - 1`. -/
theorem scale_eq (b : Nat) :
    ((2 : Int) ^ ((Nat.cast b : Int) - (1 : Int)).toNat - (1 : Int)) = Pcm.scale b := by
  have : ((Nat.cast b : Int) - (1 : Int)).toNat = b - 1 := by first | exact Int.toNat_sub b 1 | omega
  simp only [Pcm.scale, this]

/-- `scaledSamples` = clip to [-1, 1], times `2**(bitdepth-1) - 1` (the argument of the model's `rn53`). -/
theorem pcm_encode_scaled_eq_model (samples : List Rat) (bitdepth : Nat) :
    Gen.pcm_encode_scaled samples bitdepth =
      samples.map (fun x => Pcm.clip x * (Pcm.scale bitdepth : Rat)) := by
  simp only [Gen.pcm_encode_scaled, scale_eq]
  apply List.map_congr_left
  intro x _
  simp only [Pcm.clip]
  grind

/-- the returned quotient `code / float(2**(bitdepth-1) - 1)` (the argument of the model's `rn53`). -/
theorem pcm_decode_scaled_eq_model (codes : List Int) (bitdepth : Nat) :
    Gen.pcm_decode_scaled codes bitdepth =
      codes.map (fun (c : Int) => (c : Rat) / (Pcm.scale bitdepth : Rat)) := by
  simp only [Gen.pcm_decode_scaled, scale_eq]
  try (apply List.map_congr_left; intro c _; grind)

/-- the encode tie stated against the model's `Pcm.encode` itself (not a restated formula): the model's codes are the
translated `scaledSamples`, rounded to binary64 and truncated (`astype(int)`). -/
theorem pcm_encode_model (samples : List Rat) (bitdepth : Nat) :
    samples.map (Pcm.encode bitdepth) =
      (Gen.pcm_encode_scaled samples bitdepth).map (fun y => Pcm.truncZ (Ieee.rn53 y)) := by
  rw [pcm_encode_scaled_eq_model, List.map_map]
  rfl

/-- the decode tie stated against the model's `Pcm.decode` itself: the translated quotient, rounded to binary64. -/
theorem pcm_decode_model (codes : List Int) (bitdepth : Nat) :
    codes.map (Pcm.decode bitdepth) = (Gen.pcm_decode_scaled codes bitdepth).map Ieee.rn53 := by
  rw [pcm_decode_scaled_eq_model, List.map_map]
  rfl

/-! ### C04 — `PeakMonitor.has_overloaded` -/

theorem has_overloaded_eq_model (peak : List Rat) :
    Gen.has_overloaded peak = FileRender.hasOverloaded peak := by
  first
  | rfl
  | (simp only [Gen.has_overloaded, FileRender.hasOverloaded]; congr 1; funext p; grind)


/-! ## Kernels that are an expression inside a larger model function

Where a model has no separate def for the translated piece (it is an expression inside a larger model function),
the theorem states the *unfolding* of that model function with the translated def in place of the expression, so the
tie is still to the model def the property theorems are about. -/

/-! ### C09 / C17 — chunk walk (`_read_chunks`), `close` tests, `_calc_riff_chunk_size`; C11 — ACN; C02 — latency
constants; C05 / C12 — stereo level law -/

theorem read_chunks_step_eq_model (f : Bw64.Bytes) (ds : Option Bw64.Ds64) (fuel pos : Nat) (t : Bw64.Table)
    (w : List Bw64.Warn) :
    Bw64.readChunks f ds (fuel + 1) pos t w =
      match Bw64.readChunkHeader f ds pos with
      | .eof => .ok (t, w)
      | .badId => .error .badId
      | .placeholder => .error .dataPlaceholder
      | .hdr id sz =>
        match Gen.read_chunks_step (pos + 8) sz f.length (decide (id = Bw64.idData)) with
        | none => .error .chunkEnd
        | some e =>
          Bw64.readChunks f ds fuel e ((id, sz, pos) :: t) (if e > f.length then w ++ [.dataPad] else w) := by
  rw [Bw64.readChunks]
  cases Bw64.readChunkHeader f ds pos with
  | eof => rfl
  | badId => rfl
  | placeholder => rfl
  | hdr id sz =>
    simp only [Gen.read_chunks_step, Nat.and_one_is_mod]
    grind

theorem close_pad_test_eq_model (s : Bw64.WState) :
    s.padData = if Gen.close_pad_test s.dataBytes then { s with buf := s.buf ++ [0] } else s := by
  simp only [Bw64.WState.padData, Gen.close_pad_test, Nat.and_one_is_mod]
  grind

theorem close_bw64_test_eq_model (s : Bw64.WState) :
    Bw64.finalizeW s =
      (let riffSize := s.buf.length - 8
       if Gen.close_bw64_test riffSize s.force then
         Bw64.patchAt (Bw64.patchAt s.buf 0 Bw64.idBW64) 12 (Bw64.ds64Chunk riffSize s.dataBytes)
       else
         Bw64.patchAt (Bw64.patchAt s.buf 4 (Bw64.le 4 riffSize)) (s.dataPos + 4) (Bw64.le 4 s.dataBytes)) := by
  simp only [Bw64.finalizeW, Gen.close_bw64_test]
  grind

theorem calc_riff_chunk_size_eq_model (s : Bw64.WState) (pos : Nat) :
    Bw64.finalizeW s =
      (let riffSize := (Gen.calc_riff_chunk_size pos s.buf.length).toNat
       if riffSize ≥ 2 ^ 32 || s.force then
         Bw64.patchAt (Bw64.patchAt s.buf 0 Bw64.idBW64) 12 (Bw64.ds64Chunk riffSize s.dataBytes)
       else
         Bw64.patchAt (Bw64.patchAt s.buf 4 (Bw64.le 4 riffSize)) (s.dataPos + 4) (Bw64.le 4 s.dataBytes)) := by
  have h : (Gen.calc_riff_chunk_size pos s.buf.length).toNat = s.buf.length - 8 := by
    simp only [Gen.calc_riff_chunk_size]
    first | exact Int.toNat_sub _ 8 | omega
  simp only [Bw64.finalizeW, h]

theorem to_acn_eq_model (n m : Int) : Gen.to_acn n m = Hoa.toAcn n m := by
  first | rfl | (simp only [Gen.to_acn, Hoa.toAcn]; grind)

theorem from_acn_eq_model (acn : Nat) : Gen.from_acn acn = Hoa.fromAcn acn := by
  simp only [Gen.from_acn, Hoa.fromAcn]
  grind

theorem decorrelator_delay_eq_model {V : Type} (c : Renderer.Cfg V) (h : 1 ≤ c.taps.length) :
    Gen.decorrelator_delay c.taps.length = (c.decorrelator_delay : Int) := by
  simp only [Gen.decorrelator_delay, Renderer.Cfg.decorrelator_delay]
  rw [Int.fdiv_eq_ediv_of_nonneg _ (by decide)]
  first
  | (rw [Int.natCast_ediv, Int.natCast_sub h]; rfl)
  | omega

theorem vbs_delay_eq_model {V : Type} (c : Renderer.Cfg V) :
    Gen.vbs_delay c.block_size c.decorrelator_delay = c.overall_delay := by
  first | rfl | (simp only [Gen.vbs_delay, Renderer.Cfg.overall_delay]; grind)

theorem stereo_level_eq_model {α : Type} [PointSource.Scalar α] (g0 g1 g2 g3 g4 : α) :
    PointSource.StereoPanDownmix.handle (some [g0, g1, g2, g3, g4]) =
      some ((PointSource.normalise (PointSource.matVec PointSource.stereoDownmix [g0, g1, g2, g3, g4])).map
        (· * Gen.stereo_level (PointSource.Scalar.max (PointSource.Scalar.max g0 g1) g2) (PointSource.Scalar.max g3 g4))) := rfl

/-! ### C19 — conversion helpers, `relative_angle`, `inside_angle_range` (over the Scalar class of Model/Conversion.lean);
C10 — `inside_angle_range` against Model/DirectSpeakersGeom.lean (its per-loop fuel) -/

section
variable {α : Type} [Conv.Scalar α]

theorem map_az_to_linear_eq_model (l r az : α) : Gen.map_az_to_linear l r az = Conv.mapAzToLinear l r az := rfl
theorem map_linear_to_az_eq_model (l r x : α) : Gen.map_linear_to_az l r x = Conv.mapLinearToAz l r x := rfl
theorem el_to_cart_eq_model (P : Conv.Params α) (el d : α) : Gen.el_to_cart P el d = Conv.elToCart P el d := rfl
theorem el_to_polar_eq_model (P : Conv.Params α) (z rxy : α) : Gen.el_to_polar P z rxy = Conv.elToPolar P z rxy := rfl

theorem relative_angle_loop1_eq (x : α) : ∀ n y, Gen.relative_angle_loop1 x n y = Conv.downGe x n y := by
  intro n; induction n with
  | zero => intro y; rfl
  | succ n ih => intro y; simp only [Gen.relative_angle_loop1, Conv.downGe, ih, Conv.k]; first | done | rfl | congr
theorem relative_angle_loop2_eq (x : α) : ∀ n y, Gen.relative_angle_loop2 x n y = Conv.upLt x n y := by
  intro n; induction n with
  | zero => intro y; rfl
  | succ n ih => intro y; simp only [Gen.relative_angle_loop2, Conv.upLt, ih, Conv.k]; first | done | rfl | congr
theorem relative_angle_eq_model (fuel : Nat) (x y : α) : Gen.relative_angle fuel x y = Conv.relativeAngle fuel x y := by
  simp only [Gen.relative_angle, Conv.relativeAngle, relative_angle_loop1_eq, relative_angle_loop2_eq]

theorem inside_angle_range_loops_eq (s : α) :
    (∀ n y, Gen.inside_angle_range_loop1 s n y = Conv.downGt s n y) ∧
    (∀ n y, Gen.inside_angle_range_loop2 s n y = Conv.upLt s n y) ∧
    (∀ n y, Gen.inside_angle_range_loop3 s n y = Conv.downGe s n y) ∧
    (∀ n y, Gen.inside_angle_range_loop4 s n y = Conv.upLt s n y) := by
  refine ⟨?_, ?_, ?_, ?_⟩ <;> intro n <;> induction n with
  | zero => intro y; rfl
  | succ n ih =>
    intro y
    simp only [Gen.inside_angle_range_loop1, Gen.inside_angle_range_loop2, Gen.inside_angle_range_loop3,
      Gen.inside_angle_range_loop4, Conv.downGt, Conv.downGe, Conv.upLt, ih, Conv.k]
    first | done | rfl | congr
theorem inside_angle_range_eq_model (fuel : Nat) (x s e tol : α) :
    Gen.inside_angle_range fuel x s e tol = Conv.insideAngleRange fuel x s e tol := by
  have h := inside_angle_range_loops_eq (α := α)
  simp only [Gen.inside_angle_range, Conv.insideAngleRange, (h _).1, (h _).2.1, (h _).2.2.1, (h _).2.2.2]
end

theorem inside_angle_range_ds_loops_eq (s : Rat) :
    (∀ n y, Gen.inside_angle_range_ds_loop1 s n y = DS.decWhile true s n y) ∧
    (∀ n y, Gen.inside_angle_range_ds_loop2 s n y = DS.incWhile s n y) ∧
    (∀ n y, Gen.inside_angle_range_ds_loop3 s n y = DS.decWhile false s n y) ∧
    (∀ n y, Gen.inside_angle_range_ds_loop4 s n y = DS.incWhile s n y) := by
  refine ⟨?_, ?_, ?_, ?_⟩ <;> intro n <;> induction n with
  | zero => intro y; rfl
  | succ n ih =>
    intro y
    simp [Gen.inside_angle_range_ds_loop1, Gen.inside_angle_range_ds_loop2, Gen.inside_angle_range_ds_loop3,
      Gen.inside_angle_range_ds_loop4, DS.decWhile, DS.incWhile, DS.decCond, ih]
theorem inside_angle_range_ds_eq_model (x s e tol : Rat) :
    Gen.inside_angle_range_ds x s e tol = DS.insideAngleRange x s e tol := by
  have h := inside_angle_range_ds_loops_eq
  simp only [Gen.inside_angle_range_ds, DS.insideAngleRange, DS.normAngle, (h _).1, (h _).2.1, (h _).2.2.1, (h _).2.2.2]
  first | done | rfl | congr

/-! ### C13 — `inside_angle_range` against Model/Zone.lean at its exact instance (`Rat`): the model answers `none`
when the fuel runs out; wherever it answers, the translated function (which returns the current value) agrees -/

/-- a fuel loop that returns the current value when the fuel runs out agrees with the model's `whileLoop`
wherever the latter terminates -/
theorem zone_loop_agree (c : Rat → Bool) (st : Rat → Rat) (g : Nat → Rat → Rat)
    (h0 : ∀ y, g 0 y = y) (hs : ∀ n y, g (n + 1) y = if c y then g n (st y) else y) :
    ∀ n y r, Zone.whileLoop c st n y = some r → g n y = r := by
  intro n
  induction n with
  | zero =>
    intro y r h
    simp only [Zone.whileLoop] at h
    split at h
    · cases h
    · rw [h0]; exact Option.some.inj h
  | succ n ih =>
    intro y r h
    simp only [Zone.whileLoop] at h
    rw [hs]
    split at h
    · rename_i hc; simp only [hc, if_true]; exact ih _ _ h
    · rename_i hc; simp only [hc]; exact Option.some.inj h

theorem inside_angle_range_rat_loops_zone (s : Rat) :
    (∀ n y r, Zone.whileLoop (fun e => Zone.Scalar.lt s (Zone.Scalar.sub e (Zone.Scalar.ofNat 360)))
        (fun e => Zone.Scalar.sub e (Zone.Scalar.ofNat 360)) n y = some r → Gen.inside_angle_range_rat_loop1 s n y = r) ∧
    (∀ n y r, Zone.whileLoop (fun e => Zone.Scalar.lt e s) (fun e => Zone.Scalar.add e (Zone.Scalar.ofNat 360)) n y = some r →
        Gen.inside_angle_range_rat_loop2 s n y = r) ∧
    (∀ n y r, Zone.whileLoop (fun e => Zone.Scalar.le s (Zone.Scalar.sub e (Zone.Scalar.ofNat 360)))
        (fun e => Zone.Scalar.sub e (Zone.Scalar.ofNat 360)) n y = some r → Gen.inside_angle_range_rat_loop3 s n y = r) ∧
    (∀ n y r, Zone.whileLoop (fun e => Zone.Scalar.lt e s) (fun e => Zone.Scalar.add e (Zone.Scalar.ofNat 360)) n y = some r →
        Gen.inside_angle_range_rat_loop4 s n y = r) := by
  have c360 : (Zone.Scalar.ofNat 360 : Rat) = 360 := rfl
  refine ⟨?_, ?_, ?_, ?_⟩ <;> apply zone_loop_agree <;> intros <;>
    simp [Gen.inside_angle_range_rat_loop1, Gen.inside_angle_range_rat_loop2, Gen.inside_angle_range_rat_loop3,
      Gen.inside_angle_range_rat_loop4, Zone.Scalar.lt, Zone.Scalar.le, Zone.Scalar.sub, Zone.Scalar.add, c360]

theorem inside_angle_range_zone_eq_model (fuel : Nat) (x s e tol : Rat) (b : Bool)
    (h : Zone.insideAngleRange fuel x s e tol = some b) : Gen.inside_angle_range_rat fuel x s e tol = b := by
  simp only [Zone.insideAngleRange, Option.bind_eq_some_iff] at h
  obtain ⟨e1, h1, e2, h2, x1, h3, x2, h4, hb⟩ := h
  have L := inside_angle_range_rat_loops_zone
  have a1 := (L s).1 _ _ _ h1
  have a2 := (L s).2.1 _ _ _ h2
  have a3 := (L (Zone.Scalar.sub s tol)).2.2.1 _ _ _ h3
  have a4 := (L (Zone.Scalar.sub s tol)).2.2.2 _ _ _ h4
  have hsub : Zone.Scalar.sub s tol = s - tol := rfl
  simp only [hsub] at a3 a4
  simp only [Gen.inside_angle_range_rat, a1, a2, a3, a4]
  have := Option.some.inj hb
  simpa [Zone.Scalar.le, Zone.Scalar.add] using this

/-! ### C15 — timing fixes; C01 — `extent_mod`, the alpha/beta fade; C13 — channel-lock and zone constants/tests -/

theorem has_interpolationLength_eq_model (b : TimingFix.Block) :
    Gen.has_interpolationLength b.isObjects b.jp b.il = TimingFix.hasIL b := by
  simp only [Gen.has_interpolationLength, TimingFix.hasIL]
  cases b.il <;> cases b.isObjects <;> cases b.jp <;> simp

theorem check_duration_eq_model (i : Nat) (a b : TimingFix.Block) (ra old rb db : Rat)
    (h1 : a.rtime = some ra) (h2 : a.duration = some old) (h3 : b.rtime = some rb) (h4 : b.duration = some db) :
    ((TimingFix.fixDuration i a b).1.duration, (TimingFix.fixDuration i a b).1.il) =
      (some (Gen.check_duration ra old rb a.isObjects a.jp a.il).1, (Gen.check_duration ra old rb a.isObjects a.jp a.il).2) := by
  cases a with
  | mk rt du io jp il =>
    cases b with
    | mk brt bdu _ _ _ =>
      simp only at h1 h2 h3 h4
      subst h1 h2 h3 h4
      cases il <;> simp [TimingFix.fixDuration, Gen.check_duration, TimingFix.hasIL] <;> grind

theorem clamp_end_eq_model (i : Nat) (D r d : Rat) (b : TimingFix.Block) (h : b.duration = some d) :
    (match TimingFix.clampEnd i D r d b with
      | .error _ => none
      | .ok p => some (p.1.duration, p.1.il)) =
      (Gen.clamp_end D r d b.isObjects b.jp b.il).map (fun q => (some q.1, q.2)) := by
  cases b with
  | mk rt du io jp il =>
    simp only at h
    subst h
    cases il <;> simp [TimingFix.clampEnd, Gen.clamp_end, TimingFix.hasIL] <;> grind

section
variable {α : Type} [GainCalc.Scalar α]
theorem extent_mod_eq_model (extent distance : α) : Gen.extent_mod extent distance = GainCalc.extentMod extent distance := rfl
theorem fade_gains_eq_model (s : α) : Gen.fade_gains s = GainCalc.fadeGains s := rfl
end

/-- `tol = 1e-5`: the binary64 value of the literal is the model's `eps5`. -/
theorem lock_tol_eq_model : Gen.lock_tol = (Zone.Scalar.eps5 : Rat) := by first | rfl | decide
/-- `epsilon = 1e-6`: the binary64 value of the literal is the model's `eps6`. -/
theorem zone_epsilon_eq_model : Gen.zone_epsilon = (Zone.Scalar.eps6 : Rat) := by first | rfl | decide

theorem lock_possible_test_eq_model (tol : Rat) (maxD : Option Rat) (cands : List (Lock.Cand Rat)) :
    Lock.lockSelect tol maxD cands =
      (let possible := cands.filter fun c => Gen.lock_possible_test c.d tol maxD
       match possible with
       | [] => .unchanged
       | c0 :: cs =>
         let minDist := Lock.minList c0.dw (cs.map Lock.Cand.dw)
         match possible.filter fun (c : Lock.Cand Rat) => Zone.Scalar.lt c.dw (Zone.Scalar.add minDist tol) with
         | [] => .error
         | a :: as => .locked (Lock.argminPrio a as).idx) := by
  have ft : ∀ l : List (Lock.Cand Rat), l.filter (fun _ => true) = l := by
    intro l; induction l <;> simp_all
  have e : ∀ (c : Lock.Cand Rat) (m : Rat),
      Gen.lock_possible_test c.d tol (some m) = Zone.Scalar.lt c.d (Zone.Scalar.add m tol) := by
    intro c m
    first | rfl | (simp only [Gen.lock_possible_test, Zone.Scalar.lt, Zone.Scalar.add]; grind)
  have e0 : ∀ (c : Lock.Cand Rat), Gen.lock_possible_test c.d tol none = true := by
    intro c; rfl
  unfold Lock.lockSelect
  cases maxD <;> simp only [e, e0, ft] <;> grind

theorem lock_closest_test_eq_model (tol : Rat) (maxD : Option Rat) (cands : List (Lock.Cand Rat)) :
    Lock.lockSelect tol maxD cands =
      (let possible : List (Lock.Cand Rat) := match maxD with
         | some m => cands.filter fun (c : Lock.Cand Rat) => Zone.Scalar.lt c.d (Zone.Scalar.add m tol)
         | none => cands
       match possible with
       | [] => .unchanged
       | c0 :: cs =>
         let minDist := Lock.minList c0.dw (cs.map Lock.Cand.dw)
         match possible.filter fun (c : Lock.Cand Rat) => Gen.lock_closest_test c.dw minDist tol with
         | [] => .error
         | a :: as => .locked (Lock.argminPrio a as).idx) := by
  have e : ∀ (c : Lock.Cand Rat) (m : Rat),
      Gen.lock_closest_test c.dw m tol = Zone.Scalar.lt c.dw (Zone.Scalar.add m tol) := by
    intro c m
    first | rfl | (simp only [Gen.lock_closest_test, Zone.Scalar.lt, Zone.Scalar.add]; grind)
  unfold Lock.lockSelect
  simp only [e]
  grind

theorem zone_cart_test_eq_model (fuel : Nat) (minX maxX minY maxY minZ maxZ : Rat) (s : Zone.Spk Rat) :
    Zone.zoneMatch fuel (.cart minX maxX minY maxY minZ maxZ) s =
      some (Gen.zone_cart_test s.x s.y s.z Zone.Scalar.eps6 minX maxX minY maxY minZ maxZ) := by
  simp [Zone.zoneMatch, Gen.zone_cart_test, Zone.Scalar.lt, Zone.Scalar.sub, Zone.Scalar.add, and_assoc, Bool.and_assoc]
    <;> grind

theorem zone_polar_test_eq_model (fuel : Nat) (minAz maxAz minEl maxEl : Rat) (s : Zone.Spk Rat) :
    Zone.zoneMatch fuel (.polar minAz maxAz minEl maxEl) s =
      (Zone.insideAngleRange fuel s.az minAz maxAz Zone.Scalar.eps6).bind fun inside =>
        some (Gen.zone_polar_test s.el Zone.Scalar.eps6 minEl maxEl inside) := by
  have c90 : (Zone.Scalar.ofNat 90 : Rat) = 90 := rfl
  simp only [Zone.zoneMatch]
  congr 1
  funext inside
  simp [Gen.zone_polar_test, Zone.Scalar.lt, Zone.Scalar.sub, Zone.Scalar.add, Zone.Scalar.abs, c90] <;> grind

/-! ### C18 — the frame-count clamp of `Bw64Reader.read` and the byte count it requests -/

theorem read_clamp_eq_model (k : Cursor.Cfg) (pos n : Int) :
    Cursor.read k pos n =
      (let got := Cursor.bufRead k pos (Gen.read_nbytes k (Gen.read_clamp k pos n))
       (pos + got, (pos, got))) := by
  simp only [Cursor.read, Gen.read_clamp, Gen.read_nbytes] <;> grind

/-! ### C09 / C17 — `FormatInfoChunk.blockAlignment` / `bytesPerSecond`, `ChunkIndex` offsets, `_read_chunk_header` -/

theorem block_alignment_eq_model (f : Bw64.Fmt) : Gen.block_alignment f.channels f.bits = f.blockAlign := by
  first | rfl | (simp only [Gen.block_alignment, Bw64.Fmt.blockAlign]; grind)

theorem bytes_per_second_eq_model (f : Bw64.Fmt) :
    Gen.bytes_per_second f.rate (Gen.block_alignment f.channels f.bits) = f.bytesPerSecond := by
  first | rfl | (simp only [Gen.bytes_per_second, Gen.block_alignment, Bw64.Fmt.bytesPerSecond, Bw64.Fmt.blockAlign]; grind)

/-- `ChunkIndex(size, position).position` = `(chunkId, size, data, end)` offsets: the `data` and `end` offsets of the data
chunk are the cursor model's `Cfg.data` / `Cfg.dend` as `openReader` builds them. -/
theorem chunk_position_eq_model (dsz dpos : Nat) (A L : Int) :
    let k : Cursor.Cfg := ⟨((dpos + 8 : Nat) : Int), A, (dsz : Int), L⟩
    k.data = ((Gen.chunk_position dsz dpos).2.2.1 : Int) ∧ k.dend = ((Gen.chunk_position dsz dpos).2.2.2 : Int) := by
  simp only [Gen.chunk_position, Cursor.Cfg.dend]
  constructor <;> first | rfl | grind

/-- the `Cfg` of `openReader` is built from the data chunk's table entry at exactly these offsets -/
theorem chunk_position_openReader (f : Bw64.Bytes) (pr : Bw64.Parsed) (k : Cursor.Cfg) (w : List Bw64.Warn)
    (h : Bw64.openReader f = .ok (pr, k, w)) :
    ∃ dsz dpos : Nat, k.data = ((Gen.chunk_position dsz dpos).2.2.1 : Int) ∧
      k.dend = ((Gen.chunk_position dsz dpos).2.2.2 : Int) ∧ k.size = dsz := by
  unfold Bw64.openReader at h
  repeat' split at h
  all_goals (try cases h)
  all_goals exact ⟨_, _, (chunk_position_eq_model _ _ _ _).1, (chunk_position_eq_model _ _ _ _).2, rfl⟩

/-- the arguments of `ChunkIndex(chunkSize, self._buffer.tell() - 8)` in `_read_chunks` (buffer just after the 8-byte
header at `pos`): the table entry `(id, sz, pos)` of the model's `readChunks`. -/
theorem chunk_index_args_eq_model (pos sz : Nat) : Gen.chunk_index_args (pos + 8) sz = (sz, (pos : Int)) := by
  simp only [Gen.chunk_index_args]
  first | rfl | grind

/-- the size correction / placeholder rejection of `_read_chunk_header` (from the `if self.fileFormat in ...` to the
`return`): `isPlaceholder` (none = the ValueError) and `hdrSize`, in the code's branch order. -/
theorem read_chunk_header_size_eq_model (ds : Option Bw64.Ds64) (d : Bw64.Ds64) (hd : ∀ d', ds = some d' → d' = d)
    (id : Bw64.Bytes) (sz0 : Nat) :
    Gen.read_chunk_header_size ds.isSome d id (decide (id = Bw64.idData)) sz0 =
      if Bw64.isPlaceholder ds id sz0 then none else some (Bw64.hdrSize ds id sz0) := by
  cases ds with
  | none => simp [Gen.read_chunk_header_size, Bw64.isPlaceholder, Bw64.hdrSize] <;> grind
  | some d' =>
    have := hd d' rfl
    subst this
    simp only [Gen.read_chunk_header_size, Bw64.isPlaceholder, Bw64.hdrSize, Option.isSome]
    cases h : d'.lookup id <;> simp <;> grind

theorem read_chunk_header_eq_model (f : Bw64.Bytes) (ds : Option Bw64.Ds64) (pos : Nat) :
    Bw64.readChunkHeader f ds pos =
      (let d := Bw64.readAt f pos 8
       if d.length ≠ 8 then .eof else
       let id := d.take 4
       let sz0 := Bw64.fromLE (d.drop 4)
       if !Bw64.validId id then .badId else
       match Gen.read_chunk_header_size ds.isSome (ds.getD ⟨0, 0, []⟩) id (decide (id = Bw64.idData)) sz0 with
       | none => .placeholder
       | some sz => .hdr id sz) := by
  simp only [Bw64.readChunkHeader]
  rw [read_chunk_header_size_eq_model ds (ds.getD ⟨0, 0, []⟩) (by intro d' h; subst h; rfl)]
  grind

/-! ### C10 — the position handed to the fallback panner by `_handle_without_gain` (final `else`) -/

section
variable {α : Type} [GainCalc.Scalar α] [Zone.ScalarSqrt α] [Conv.Scalar α]

/-- polar block: `position = cart(shifted.azimuth, shifted.elevation, 1.0)` (not the block's distance), Cartesian block:
`shifted_position.as_cartesian_array()`; this is the model's `Shifted.pan` (and `Shifted.polar` is the `isinstance` test). -/
theorem ds_pan_position_eq_model (E : DS.CEnv) (P : Conv.Params α) (pos : DS.PositionC) (tol : Rat) (s : DS.Shifted α)
    (h : DS.shift E P pos tol = .ok s) :
    match pos with
    | .polar az el dist sel =>
      s.polar = true ∧
      s.pan = Gen.ds_pan_position true (GainCalc.k (DS.applySelPolar E.G az el sel).1.value)
        (GainCalc.k (DS.applySelPolar E.G az el sel).2.value) (GainCalc.k dist.value) s.cart
    | .cart _ _ _ _ => s.polar = false ∧ ∀ a e d : α, s.pan = Gen.ds_pan_position false a e d s.cart := by
  cases pos with
  | polar az el dist sel =>
    simp only [DS.shift] at h
    injection h with h
    subst h
    exact ⟨rfl, by first | rfl | simp [Gen.ds_pan_position, GainCalc.k]⟩
  | cart x y z sel =>
    simp only [DS.shift] at h
    split at h
    · cases h
    · injection h with h
      subst h
      exact ⟨rfl, fun _ _ _ => by first | rfl | simp [Gen.ds_pan_position]⟩
end

/-! ### C04 — `Layout.with_speakers` (`out_channels`), `Channel.check_position` (elevation test),
`Layout.check_upmix_matrix` (the three count tests) against Model/FileRenderLayout.lean -/

theorem out_channels_eq_model (chans : List FileRenderLayout.Channel) (sp : List FileRenderLayout.RSpeaker) :
    FileRenderLayout.withSpeakers chans sp =
      (match FileRenderLayout.mapE (fun s => FileRenderLayout.chanInt s.channel) sp with
       | .error e => .error e
       | .ok cs =>
         if cs.isEmpty then .error (.reject "ValueError: max() of empty")
         else
           let out := Gen.out_channels (FileRenderLayout.maxInt cs)
           if out < 0 then .error (.reject "ValueError: negative dimensions")
           else
             match FileRenderLayout.mapE (FileRenderLayout.column out.toNat sp) chans with
             | .error e => .error e
             | .ok cols =>
               .ok (cols.map (·.2),
                    (List.range out.toNat).map fun o => cols.map fun c => FileRenderLayout.entryOf o c.1)) := by
  have e : ∀ m : Int, Gen.out_channels m = m + 1 := by
    intro m; first | rfl | (simp only [Gen.out_channels]; grind)
  simp only [FileRenderLayout.withSpeakers, e] <;> rfl

theorem el_range_test_eq_model (c : FileRenderLayout.Channel) :
    FileRenderLayout.checkPosition c =
      (if FileRenderLayout.insideAngleRange c.pos.az c.azLo c.azHi then [] else [.az c.name]) ++
      (if Gen.el_range_test c.elLo c.elHi c.pos.el then [.el c.name] else []) := by
  simp only [FileRenderLayout.checkPosition, Gen.el_range_test]
  congr 1
  by_cases h : c.elLo ≤ c.pos.el ∧ c.pos.el ≤ c.elHi <;> simp [h] <;> grind

theorem upmix_tests_eq_model (names : List String) (U : List (List Rat)) :
    FileRenderLayout.checkUpmix names U =
      ((names.zipIdx).flatMap fun (name, i) =>
          let nz := FileRenderLayout.nonzeroIdx (FileRenderLayout.colOf U i)
          (if Gen.upmix_unmapped_test nz.length then [FileRenderLayout.Warn.notMapped name] else []) ++
          (if Gen.upmix_multi_out_test nz.length then [FileRenderLayout.Warn.multiOut name nz] else [])) ++
      ((U.zipIdx).flatMap fun (row, o) =>
          if Gen.upmix_row_multi_test (FileRenderLayout.nonzeroIdx row).length then
            [FileRenderLayout.Warn.rowMulti o (((names.zip row).filter fun nr => nr.2 != 0).map (·.1))]
          else []) := by
  have e1 : ∀ n : Nat, Gen.upmix_unmapped_test n = decide (n = 0) := by
    intro n; first | rfl | (simp only [Gen.upmix_unmapped_test]; grind)
  have e2 : ∀ n : Nat, Gen.upmix_multi_out_test n = decide (n > 1) := by
    intro n; first | rfl | (simp only [Gen.upmix_multi_out_test]; grind)
  have e3 : ∀ n : Nat, Gen.upmix_row_multi_test n = decide (n > 1) := by
    intro n; first | rfl | (simp only [Gen.upmix_row_multi_test]; grind)
  simp only [FileRenderLayout.checkUpmix, e1, e2, e3, decide_eq_true_eq]

/-! ### C02 — index arithmetic of `OverlapSaveConvolver.__init__` and of `VariableBlockSizeAdapter.process` -/

/-- `range(0, len(f), block_size)` (its three arguments) is the model's `OS.starts`. -/
theorem os_range_eq_model (B L : Nat) :
    Stream.OS.starts B L =
      (let r := Gen.os_range L B
       (List.range ((r.2.1 - r.1.toNat + r.2.2 - 1) / r.2.2)).map (fun i => r.1.toNat + i * r.2.2)) := by
  have e : Gen.os_range L B = ((0 : Int), L, B) := by first | rfl | (simp only [Gen.os_range]; grind)
  simp [Stream.OS.starts, e]

/-- `end = min(len(f), start + block_size)`. -/
theorem os_block_end_eq_model {V : Type} [Stream.RMod V] (B : Nat) (f : List V) :
    Stream.OS.init B f =
      { block_size := B
        input_block := List.replicate (2 * B) 0
        filter_blocks := (Stream.OS.starts B f.length).map fun start => Stream.slice f start (Gen.os_block_end f.length B start)
        blocks := (Stream.OS.starts B f.length).map fun _ => List.replicate (2 * B) 0 } := by
  have e : ∀ s, Gen.os_block_end f.length B s = min f.length (s + B) := by
    intro s; first | rfl | (simp only [Gen.os_block_end]; grind)
  simp only [Stream.OS.init, e]

/-- `Int.toNat` is monotone, so it commutes with `min`; on differences of naturals it is the truncated subtraction -/
theorem toNat_min_sub (a b c d : Nat) :
    (min ((a : Int) - (b : Int)) ((c : Int) - (d : Int))).toNat = min (a - b) (c - d) := by
  rw [← Int.toNat_sub a b, ← Int.toNat_sub c d]
  generalize (a : Int) - b = x
  generalize (c : Int) - d = y
  rcases Int.le_total x y with h | h
  · rw [Int.min_eq_left h, Nat.min_eq_left (Int.toNat_le_toNat h)]
  · rw [Int.min_eq_right h, Nat.min_eq_right (Int.toNat_le_toNat h)]

/-- the loop test, `to_xfer` and the buffer-full test of `VariableBlockSizeAdapter.process` in one step of the model's loop -/
theorem vbs_step_eq_model {σ α : Type} (f : σ → List α → σ × List α) (B : Nat) (inp : List α) (fuel : Nat)
    (st : Stream.Vbs σ α) (n_done : Nat) (out : List α) :
    Stream.Vbs.loop f B inp (fuel + 1) st n_done out =
      (if Gen.vbs_loop_test inp.length n_done then
        let to_xfer := (Gen.vbs_to_xfer inp.length n_done B st.buffer_input).toNat
        let out := Stream.setSlice out n_done (Stream.slice st.buffer st.buffer_input (st.buffer_input + to_xfer))
        let buffer := Stream.setSlice st.buffer st.buffer_input (Stream.slice inp n_done (n_done + to_xfer))
        let bi := st.buffer_input + to_xfer
        let n_done := n_done + to_xfer
        if Gen.vbs_full_test B bi then
          let r := f st.fstate buffer
          Stream.Vbs.loop f B inp fuel ⟨r.2, 0, r.1⟩ n_done out
        else
          Stream.Vbs.loop f B inp fuel ⟨buffer, bi, st.fstate⟩ n_done out
      else (st, out)) := by
  have e1 : (Gen.vbs_to_xfer inp.length n_done B st.buffer_input).toNat = min (inp.length - n_done) (B - st.buffer_input) := by
    simp only [Gen.vbs_to_xfer]
    first | exact toNat_min_sub _ _ _ _ | omega
  have e2 : ∀ a b : Nat, Gen.vbs_full_test a b = decide (b = a) := by
    intro a b; first | rfl | (simp only [Gen.vbs_full_test]; grind)
  have e3 : Gen.vbs_loop_test inp.length n_done = decide (n_done < inp.length) := by
    first | rfl | (simp only [Gen.vbs_loop_test]; grind)
  rw [Stream.Vbs.loop]
  simp only [e1, e2, e3, decide_eq_true_eq]

/-! ### C15 — `_clamp_blockFormat_interpolationLength`, the test of `check_blockFormat_interpolationLengths` -/

theorem clamp_il_eq_model (i : Nat) (D : Rat) (b : TimingFix.Block) :
    (TimingFix.clampInterpolationLength i D b).1.il = Gen.clamp_il D b.isObjects b.jp b.il := by
  cases b with
  | mk rt du io jp il =>
    cases il <;> simp [TimingFix.clampInterpolationLength, Gen.clamp_il, TimingFix.hasIL] <;> grind

theorem il_gt_duration_test_eq_model (i : Nat) (b : TimingFix.Block) :
    TimingFix.fixIL i b =
      (match b.rtime, b.duration, b.il with
       | some _, some d, some il =>
         if TimingFix.hasIL b && Gen.il_gt_duration_test il d then ({ b with il := some d }, [⟨.ilContracted, i⟩]) else (b, [])
       | _, _, _ => (b, [])) := by
  have e : ∀ il d : Rat, Gen.il_gt_duration_test il d = decide (il > d) := by
    intro il d; first | rfl | (simp only [Gen.il_gt_duration_test]; grind)
  simp only [TimingFix.fixIL, e] <;> rfl

/-! ### C11 — the output-channel mask of `HOARenderer` (`~layout.is_lfe`) -/

section
variable {α : Type} [Hoa.Scalar α]

/-- `output_samples[:, mask] += x · decoderᵀ` into a zero frame, for a boolean index `mask` (true = written) -/
def renderMasked {C : Nat} (mask : List Bool) (rows : List (Vector α C)) (x : Vector α C) : Option (List α) :=
  match mask, rows with
  | [], [] => some []
  | [], _ :: _ => none
  | false :: t, rows => (renderMasked t rows x).map (Hoa.Scalar.ofNat 0 :: ·)
  | true :: _, [] => none
  | true :: t, r :: rows =>
    (renderMasked t rows x).map ((Hoa.Scalar.ofNat 0 + Hoa.finSum fun c : Fin C => r[c.1] * x[c.1]) :: ·)

/-- the model's `renderFrame` (which takes `is_lfe`) writes exactly the channels of the translated mask -/
theorem hoa_output_channels_eq_model {C : Nat} (lfe : List Bool) (rows : List (Vector α C)) (x : Vector α C) :
    Hoa.renderFrame lfe rows x = renderMasked (Gen.hoa_output_channels lfe) rows x := by
  have e : ∀ l, Gen.hoa_output_channels l = l.map (fun b => !b) := by
    intro l; simp only [Gen.hoa_output_channels]; apply List.map_congr_left; intro b _; cases b <;> rfl
  rw [e]
  induction lfe generalizing rows with
  | nil => cases rows <;> rfl
  | cons b t ih =>
    cases b <;> cases rows <;> simp [Hoa.renderFrame, renderMasked, ih]
end

end Earverif.Kernels
