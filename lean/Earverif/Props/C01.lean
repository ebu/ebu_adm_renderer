/-
C01 — Object gains are finite, non-negative, LFE-free and power-preserving.

Over ℝ, for the model `Earverif/Model/GainCalc.lean` of `GainCalc.render`.

Hypotheses of the render theorems, by the names the docstrings use:
  H1  every per-position gain vector is non-negative with Σ² in `[lo, hi]` (`RowsBetween`; `UnitRows` is `lo = hi = 1`)
  H2  the zone downmix of the polar path has non-negative rows that sum to one (`PathOk`, `Stochastic`)
  H3  `0 ≤ diffuse ≤ 1`
Predicates in the statements:
  `Nonneg`, `Stochastic`     Proofs/C01Real, C01Sub   every entry ≥ 0; non-negative rows summing to one
  `RowsBetween`, `PathOk`    here                     H1 and H2
  `PathShape`                here                     the lengths `shapesOk` checks, as a proposition
  `PolarRow`                 here                     what `PolarExtentHandler.handle` returns: one `calc_pv_spread` or the RMS of two
  `TreeWF`                   Proofs/C01Allo           the allocentric grid: key columns duplicate-free, no channel in two rows or planes
  `EnvOk`                    Proofs/C01Concrete       lengths of the layout data, allocentric positions pairwise distinct
  `PolarEnvOk`, `StereoEnvOk` here                    `EnvOk`'s lengths, zone groups and the C05 table, without / with the stereo wrapper
  `InPointClass`             Proofs/C01Far            `handle(pos, 0, 0, 0)` takes one end distance and spreads by ≤ 1e-10
  `HasPos`                   Proofs/C01PspNz          some entry is strictly positive
  `PlainBlock`, `ScreenOk`   Proofs/C01Total          a block using none of the optional elements; the layout's screen has edges

The render step, from the point where the sub-panners have answered: `render_nonneg`, `render_lfe_zero` (`render_lfe_slot`
for any scalar), `render_muted_zero`, `render_power`, `render_power_stereo`, `render_power_polar_extent`, all parts at
once in `render_invariant`; the power statements are instances of `render_power_eq` / `render_power_bounds`.  The three that need no power argument carry
`0 ≤ diffuse ≤ 1`: their `_real` forms hold outside it only because `√(negative) = 0` over ℝ, where numpy gives NaN (the
ADM element classes do not reject such a value).  The modelled sub-panners meet their contracts (`C01_partial`, second
part; proofs in Proofs/C01Sub and C01Allo), whence `render_power_allocentric` (Cartesian point objects: no hypothesis
on the panner left).

The position pipeline inside the model (`renderFull`: positionOffset → coord_trans → screen scale → edge lock → channel
lock → diverge positions → extent pan → render; the three handlers and the extent panner are function parameters):
`renderFull_power`, `renderFull_polar`, with the panner contracts required only at `visitedPositions` and, for the
spreading panner, only for clamped extents in [5, 360]; the polar handler's distance/depth logic
`polarHandle_isPolarRow`, `polarHandle_contract`.

Handlers and point-source panners plugged in: `renderConcreteCart` / `renderConcretePolarPoint`
(Model/GainCalcConcrete.lean) use the models of C13 (zone masks, channel lock, `scaleAzEl`, `compensate_position`,
`_speaker_tree`), C19 (conversion) and C05 (panner over its regenerated table), imported unchanged.  Both end in
`renderTail_power`.
`renderConcrete_cart_power`: Cartesian point objects end to end with no handler or panner hypothesis.
`renderConcrete_polar_point_partial`: polar point objects (zero extent, point-only class `InPointClass`, which contains
every distance ≥ 1) on a non-stereo table; the one hypothesis left is that the C05 panner returns a result.  That the
result is not the zero vector is proved: the point-only regime forces distance > 1/2 (`polarPoint_far`), and every Triplet
and VirtualNgon fan triangle of the table being invertible with coordinates in [-2, 2] (table obligation `pspNzOk`) then
gives a strictly positive gain (`pspHandle_hasPos`).  `renderConcrete_polar_point_stereo_bounds_partial`: the same on a
stereo table, with power in [(1 − 1e-10)/2, 1] · target.

The ten BS.2051 layouts: `Gen/C01_Tables.lean` and `Gen/C05_Tables.lean` are rewritten from the real objects on every run,
and `tables_ok`, `tables_nonempty`, `tables_env_ok`, `tables_polar_ok`, `tables_up_ok`, `tables_front_ok`,
`tables_screen_ok` (`decide +kernel`; `tables_polar_ok` evaluates only the conjuncts that `tables_ok` and C05's
`tables_wellFormed` have not, `tables_stereo_ok` follows from `tables_up_ok`) discharge the table hypotheses inside Lean; the
`_layouts` theorems are the results.
With C05 totality on the nominal tables (`Earverif.PointSource.pspHandle_total_layouts`, Props/C05.lean),
`renderConcrete_polar_point_layouts` and `renderConcrete_polar_point_stereo_bounds_layouts` have no hypothesis about the
panner: if the position pipeline, the channel lock and the zone mask do not fail and the locked position is in the
point-only class, `renderConcretePolarPoint` returns gains and they satisfy the invariant.
`renderConcreteCart_plain_total_layouts`, `renderConcretePolarPoint_front_total_layouts`,
`renderConcretePolarPoint_up_total_stereo` and the `example`s at the end instantiate all hypotheses of the headline
theorems on the tables, `renderConcrete… = some r` included.

Standing alone (Proofs/C01Ext.lean, no render theorem rests on it): the `allo_extent.get_gains` skeleton after the per-axis
weights, `alloExtent_nonneg`, `alloExtent_unit`, `alloExtent_unit_of_size`.

Still parameters: the extent weight functions of the polar extent panner, `_calc_f/_calc_w/_calc_g_point_separated` of
`allo_extent`, `np.roots` (closed form assumed, see the model header).

What is NOT proved — the full property
  C01_full: ∀ ObjectTypeMetadata within the ADM value ranges, ∀ supported layouts (nominal or admissible real
            positions), `GainCalc(layout).render(meta)` is finite, non-negative, zero on LFE, and has power
            (gain × object gain)² (0 if muted; within [½,1]× on 0+2+0)
needs, beyond what is proved: (a) the point-source panner on real (non-nominal) loudspeaker positions (totality and
non-degeneracy are table obligations, decided for the ten nominal tables only); (b) the spread weights handed to `SpreadingPanner.panning_values_for_weight` are not all zero, so
that the vector before normalisation is non-zero; (c) `allo_extent.get_gains`' vector before the last `safe_norm` is longer
than 1e-16; (d) polar blocks with distance < 1 or an extent (they use (b)); (e) the values of `polarEdges`,
`screenScaleHandle`, `edgeLockHandle` with an active screen (only their inactive cases / shapes carry theorems, and
`diverge_polar_norm`: Proofs/C01Glue.lean) — irrelevant for the invariant, which holds for whatever
positions they produce, but relevant for which class a block falls in; (f) finiteness / absence of NaN and rounding under
float arithmetic.  (a)-(d), (f) are only searched on the real code (harness/c01.py).
-/
import Earverif.Proofs.C01Real
import Earverif.Proofs.C01Sub
import Earverif.Proofs.C01Allo
import Earverif.Proofs.C01Tables
import Earverif.Proofs.C01Ext
import Earverif.Proofs.C01Pipe
import Earverif.Proofs.C01Concrete
import Earverif.Proofs.C01Psp
import Earverif.Proofs.C01PspNz
import Earverif.Proofs.C01Far
import Earverif.Proofs.C01Stereo
import Earverif.Proofs.C01Glue
import Earverif.Proofs.C01Total
import Earverif.Gen.C01_Tables
import Earverif.Gen.C05_Tables

namespace Earverif.GainCalc

/-! ## contracts of the sub-panners (hypotheses of the render theorems) -/

/-- H1 -/
def RowsBetween (lo hi : ℝ) (g : List (List ℝ)) : Prop := ∀ r ∈ g, Nonneg r ∧ lo ≤ sumSq r ∧ sumSq r ≤ hi

def UnitRows (g : List (List ℝ)) : Prop := RowsBetween 1 1 g

/-- H2 for the polar path (nothing is needed of the Cartesian mask beyond its shape) -/
noncomputable def PathOk : ZonePath ℝ → Prop
  | .polar D => Stochastic D
  | .cartesian _ => True

noncomputable def power (r : List ℝ × List ℝ) : ℝ := sumSq r.1 + sumSq r.2

/-- `m`: the common length of the per-position rows (`n` polar, `countFalse ex` Cartesian) -/
def PathShape (n m : Nat) : ZonePath ℝ → Prop
  | .polar D => m = n ∧ D.length = n ∧ ∀ r ∈ D, r.length = n
  | .cartesian ex => ex.length = n ∧ m = countFalse ex

theorem shapesOk_iff {n : Nat} {path : ZonePath ℝ} {d : List ℝ} {g : List (List ℝ)} {isLfe : List Bool} :
    shapesOk n path d g isLfe = true ↔
      d.length = g.length ∧ countFalse isLfe = n ∧ ∃ m, PathShape n m path ∧ ∀ r ∈ g, r.length = m := by
  cases path with
  | polar D =>
    simp only [shapesOk, PathShape, Bool.and_eq_true, beq_iff_eq, List.all_eq_true]
    exact ⟨fun ⟨⟨h1, h2⟩, ⟨h3, h4⟩, h5⟩ => ⟨h1, h2, n, ⟨rfl, h4, h5⟩, h3⟩,
      fun ⟨h1, h2, _, ⟨hm, h4, h5⟩, h3⟩ => ⟨⟨h1, h2⟩, ⟨fun r hr => (h3 r hr).trans hm, h4⟩, h5⟩⟩
  | cartesian ex =>
    simp only [shapesOk, PathShape, Bool.and_eq_true, beq_iff_eq, List.all_eq_true]
    exact ⟨fun ⟨⟨h1, h2⟩, h3, h4⟩ => ⟨h1, h2, _, ⟨h3, rfl⟩, h4⟩,
      fun ⟨h1, h2, _, ⟨h3, hm⟩, h4⟩ => ⟨⟨h1, h2⟩, h3, fun r hr => (h4 r hr).trans hm⟩⟩

/-- `a² (1−x) + a² x = a²`, vector form -/
theorem split_power (v : List ℝ) {x : ℝ} (h0 : 0 ≤ x) (h1 : x ≤ 1) : power (directDiffuseSplit v x) = sumSq v := by
  simp only [power, directDiffuseSplit, sumSq_map_mul, sqrt_real, one_real]
  rw [Real.mul_self_sqrt (by linarith), Real.mul_self_sqrt h0]; ring

theorem split_nonneg {v : List ℝ} (hv : Nonneg v) (x : ℝ) :
    Nonneg (directDiffuseSplit v x).1 ∧ Nonneg (directDiffuseSplit v x).2 :=
  ⟨map_mul_nonneg (Real.sqrt_nonneg _) hv, map_mul_nonneg (Real.sqrt_nonneg _) hv⟩

/-- gains after the power-domain sum over diverged positions, the zone downmix and `nan_to_num` -/
noncomputable def panned (n : Nat) (path : ZonePath ℝ) (d : List ℝ) (g : List (List ℝ)) : List ℝ :=
  let gains := vsqrt (vecMat n d ((gainsForEachPos path g).map sq))
  match path with
  | .polar D => zoneHandle n gains D
  | .cartesian _ => gains

theorem render_eq (n : Nat) (path : ZonePath ℝ) (d : List ℝ) (g : List (List ℝ)) (bg og : ℝ) (mute : Bool)
    (isLfe : List Bool) (x : ℝ) :
    render n path d g bg og mute isLfe x =
      directDiffuseSplit (scatter isLfe ((panned n path d g).map fun y => y * (bg * getObjectGain mute og))) x := by
  cases path <;> simp [render, panned, Function.comp_def]

theorem panned_nonneg (n : Nat) (path : ZonePath ℝ) (d : List ℝ) (g : List (List ℝ)) : Nonneg (panned n path d g) := by
  cases path <;> simp only [panned, zoneHandle] <;> exact vsqrt_nonneg _

theorem mix_power (n : Nat) (d : List ℝ) (rows : List (List ℝ)) (hr : ∀ r ∈ rows, r.length = n) (hd : Nonneg d) :
    (vsqrt (vecMat n d (rows.map sq))).length = n ∧
      sumSq (vsqrt (vecMat n d (rows.map sq))) = dot d (rows.map sumSq) := by
  have hl : ∀ r ∈ rows.map sq, r.length = n := List.forall_mem_map.mpr fun r0 h0 => by rw [length_sq, hr r0 h0]
  have hn : Nonneg (vecMat n d (rows.map sq)) :=
    vecMat_nonneg n d _ hd (List.forall_mem_map.mpr fun r0 _ => nonneg_sq r0)
  refine ⟨by rw [length_vsqrt, length_vecMat n d _ hl], ?_⟩
  rw [sumSq_vsqrt hn, sum_vecMat n d _ hl, List.map_map]
  rfl

theorem zone_power (n : Nat) (gains : List ℝ) (D : List (List ℝ)) (hD : Stochastic D) (hl : D.length = gains.length)
    (hr : ∀ r ∈ D, r.length = n) : sumSq (zoneHandle n gains D) = sumSq gains := by
  have hn : Nonneg (vecMat n (sq gains) D) := vecMat_nonneg n _ D (nonneg_sq gains) (fun r h => (hD r h).1)
  simp only [zoneHandle]
  rw [sumSq_vsqrt hn, sum_vecMat n _ D hr]
  have hb := dot_bounds (lo := 1) (hi := 1) (w := sq gains) (l := D.map sum) (by simp [hl]) (nonneg_sq gains)
    (List.forall_mem_map.mpr fun r h => by rw [(hD r h).2]; exact ⟨le_rfl, le_rfl⟩)
  rw [sumSq]
  linarith [hb.1, hb.2]

/-- The power identity before any contract on the per-position vectors is used:
    total power = (block gain · object gain)² · Σ_k d_k · power(g_k). -/
theorem render_power_eq (n : Nat) (path : ZonePath ℝ) (d : List ℝ) (g : List (List ℝ)) (bg og : ℝ) (mute : Bool)
    (isLfe : List Bool) (x : ℝ) (hs : shapesOk n path d g isLfe = true) (hd : Nonneg d) (hp : PathOk path)
    (h0 : 0 ≤ x) (h1 : x ≤ 1) :
    power (render n path d g bg og mute isLfe x) = (bg * getObjectGain mute og) ^ 2 * dot d (g.map sumSq) := by
  obtain ⟨_, hcnt, m, hsh, hg⟩ := shapesOk_iff.mp hs
  rw [render_eq, split_power _ h0 h1]
  have hpl : (panned n path d g).length = n ∧ sumSq (panned n path d g) = dot d (g.map sumSq) := by
    cases path with
    | polar D =>
      obtain ⟨hlen, hmix⟩ := mix_power n d g (fun r hr => (hg r hr).trans hsh.1) hd
      simp only [panned, gainsForEachPos]
      exact ⟨by rw [zoneHandle, length_vsqrt]; exact length_vecMat n _ D hsh.2.2,
        by rw [zone_power n _ D hp (by rw [hlen, hsh.2.1]) hsh.2.2, hmix]⟩
    | cartesian ex =>
      have hpow : (g.map (scatter ex)).map sumSq = g.map sumSq := by
        rw [List.map_map]
        exact List.map_congr_left fun r hr => sumSq_scatter ex r ((hg r hr).trans hsh.2)
      rw [← hpow]
      exact mix_power n d _ (List.forall_mem_map.mpr fun r _ => by rw [length_scatter, hsh.1]) hd
  rw [sumSq_scatter isLfe _ (by simp [hpl.1, hcnt]), sumSq_map_mul, hpl.2]; ring

/-- no H3: over ℝ `√(negative) = 0` (header); `AudioBlockFormatObjects.diffuse` has no range validator -/
theorem render_nonneg_real (n : Nat) (path : ZonePath ℝ) (d : List ℝ) (g : List (List ℝ)) (bg og : ℝ) (mute : Bool)
    (isLfe : List Bool) (x : ℝ) (hbg : 0 ≤ bg) (hog : 0 ≤ og) :
    Nonneg (render n path d g bg og mute isLfe x).1 ∧ Nonneg (render n path d g bg og mute isLfe x).2 := by
  rw [render_eq]
  refine split_nonneg (scatter_nonneg isLfe (map_mul_nonneg ?_ (panned_nonneg n path d g))) x
  refine mul_nonneg hbg ?_
  cases mute <;> simp [getObjectGain, hog]

/-- any scalar (in particular `Float`): slot `i` of an LFE channel holds the literal `0.0` times the split factor.
    (Over `Float` that product is `0.0` unless the factor is NaN, i.e. unless `diffuse` lies outside [0,1].) -/
theorem render_lfe_slot {α : Type} [Scalar α] (n : Nat) (path : ZonePath α) (d : List α) (g : List (List α))
    (bg og : α) (mute : Bool) (isLfe : List Bool) (x : α) (i : Nat) (hi : isLfe[i]? = some true) :
    (render n path d g bg og mute isLfe x).1[i]? = some (zero * Scalar.sqrt (one - x)) ∧
    (render n path d g bg og mute isLfe x).2[i]? = some (zero * Scalar.sqrt x) := by
  simp only [render, directDiffuseSplit, List.getElem?_map, getElem?_scatter_of_true _ _ i hi, Option.map_some]
  exact ⟨trivial, trivial⟩

/-- no H3: `0 · √… = 0` also where numpy has `0 · NaN = NaN`; `render_lfe_slot` keeps the factor -/
theorem render_lfe_zero_real (n : Nat) (path : ZonePath ℝ) (d : List ℝ) (g : List (List ℝ)) (bg og : ℝ) (mute : Bool)
    (isLfe : List Bool) (x : ℝ) (i : Nat) (hi : isLfe[i]? = some true) :
    (render n path d g bg og mute isLfe x).1[i]? = some 0 ∧ (render n path d g bg og mute isLfe x).2[i]? = some 0 := by
  have h := render_lfe_slot n path d g bg og mute isLfe x i hi
  simpa using h

theorem render_power_bounds (lo hi : ℝ) (n : Nat) (path : ZonePath ℝ) (v : Option ℝ) (g : List (List ℝ))
    (bg og : ℝ) (mute : Bool) (isLfe : List Bool) (x : ℝ)
    (hs : shapesOk n path (divergeGains v) g isLfe = true)
    (hv : ∀ y, v = some y → 0 ≤ y ∧ y ≤ 1) (H1 : RowsBetween lo hi g) (H2 : PathOk path) (h0 : 0 ≤ x) (h1 : x ≤ 1) :
    lo * (bg * getObjectGain mute og) ^ 2 ≤ power (render n path (divergeGains v) g bg og mute isLfe x) ∧
    power (render n path (divergeGains v) g bg og mute isLfe x) ≤ hi * (bg * getObjectGain mute og) ^ 2 := by
  have hd := diverge_gains_nonneg v hv
  have hsum := diverge_gains_sum_one v (fun y hy => (hv y hy).1)
  rw [render_power_eq n path _ g bg og mute isLfe x hs hd H2 h0 h1]
  have hlen : (divergeGains v).length = (g.map sumSq).length := by simpa using (shapesOk_iff.mp hs).1
  have hb := dot_bounds (lo := lo) (hi := hi) hlen hd (List.forall_mem_map.mpr fun r hr => (H1 r hr).2)
  rw [hsum, mul_one, mul_one] at hb
  have ha : 0 ≤ (bg * getObjectGain mute og) ^ 2 := sq_nonneg _
  rw [mul_comm lo, mul_comm hi]
  exact ⟨mul_le_mul_of_nonneg_left hb.1 ha, mul_le_mul_of_nonneg_left hb.2 ha⟩

/-- Power preservation under H1 with Σ² = 1, H2, H3, `d = divergeGains v` with `0 ≤ v ≤ 1`, gains ≥ 0. -/
theorem render_power (n : Nat) (path : ZonePath ℝ) (v : Option ℝ) (g : List (List ℝ)) (bg og : ℝ) (mute : Bool)
    (isLfe : List Bool) (x : ℝ)
    (hs : shapesOk n path (divergeGains v) g isLfe = true)
    (hv : ∀ y, v = some y → 0 ≤ y ∧ y ≤ 1) (H1 : UnitRows g) (H2 : PathOk path) (H3 : 0 ≤ x ∧ x ≤ 1)
    (hbg : 0 ≤ bg) (hog : 0 ≤ og) :
    Nonneg (render n path (divergeGains v) g bg og mute isLfe x).1 ∧
    Nonneg (render n path (divergeGains v) g bg og mute isLfe x).2 ∧
    power (render n path (divergeGains v) g bg og mute isLfe x) = (bg * (if mute then 0 else og)) ^ 2 := by
  have hnn := render_nonneg_real n path (divergeGains v) g bg og mute isLfe x hbg hog
  have hb := render_power_bounds 1 1 n path v g bg og mute isLfe x hs hv H1 H2 H3.1 H3.2
  rw [getObjectGain_real, one_mul] at hb
  exact ⟨hnn.1, hnn.2, le_antisymm hb.2 hb.1⟩

/-- 0+2+0: H1 weakened to ½ ≤ Σ² ≤ 1. -/
theorem render_power_stereo (n : Nat) (path : ZonePath ℝ) (v : Option ℝ) (g : List (List ℝ)) (bg og : ℝ) (mute : Bool)
    (isLfe : List Bool) (x : ℝ)
    (hs : shapesOk n path (divergeGains v) g isLfe = true)
    (hv : ∀ y, v = some y → 0 ≤ y ∧ y ≤ 1) (H1 : RowsBetween (1 / 2) 1 g) (H2 : PathOk path) (H3 : 0 ≤ x ∧ x ≤ 1) :
    1 / 2 * (bg * (if mute then 0 else og)) ^ 2 ≤ power (render n path (divergeGains v) g bg og mute isLfe x) ∧
    power (render n path (divergeGains v) g bg og mute isLfe x) ≤ (bg * (if mute then 0 else og)) ^ 2 := by
  have hb := render_power_bounds (1 / 2) 1 n path v g bg og mute isLfe x hs hv H1 H2 H3.1 H3.2
  rw [getObjectGain_real, one_mul] at hb
  exact hb

/-- no H3 (caveat of `render_nonneg_real`) -/
theorem render_muted_zero_real (n : Nat) (path : ZonePath ℝ) (d : List ℝ) (g : List (List ℝ)) (bg og : ℝ)
    (isLfe : List Bool) (x : ℝ) :
    (∀ y ∈ (render n path d g bg og true isLfe x).1, y = 0) ∧ (∀ y ∈ (render n path d g bg og true isLfe x).2, y = 0) := by
  have hz : ∀ y ∈ scatter isLfe ((panned n path d g).map fun y => y * (bg * getObjectGain true og)), y = 0 := by
    intro y hy
    rcases mem_scatter _ _ y hy with rfl | hy
    · exact zero_real
    · obtain ⟨w, _, rfl⟩ := List.mem_map.mp hy
      simp [getObjectGain]
  rw [render_eq]
  constructor <;>
  · intro y hy
    simp only [directDiffuseSplit, List.mem_map] at hy
    obtain ⟨w, hw, rfl⟩ := hy
    rw [hz w hw, zero_mul]

/-- Non-negativity under H3.  No hypothesis on the sub-panners: the panned gains come out of a square root. -/
theorem render_nonneg (n : Nat) (path : ZonePath ℝ) (d : List ℝ) (g : List (List ℝ)) (bg og : ℝ) (mute : Bool)
    (isLfe : List Bool) (x : ℝ) (_H3 : 0 ≤ x ∧ x ≤ 1) (hbg : 0 ≤ bg) (hog : 0 ≤ og) :
    Nonneg (render n path d g bg og mute isLfe x).1 ∧ Nonneg (render n path d g bg og mute isLfe x).2 :=
  render_nonneg_real n path d g bg og mute isLfe x hbg hog

/-- LFE outputs are exactly zero, under H3 (outside it the code has `0 · NaN = NaN`: `render_lfe_slot`). -/
theorem render_lfe_zero (n : Nat) (path : ZonePath ℝ) (d : List ℝ) (g : List (List ℝ)) (bg og : ℝ) (mute : Bool)
    (isLfe : List Bool) (x : ℝ) (_H3 : 0 ≤ x ∧ x ≤ 1) (i : Nat) (hi : isLfe[i]? = some true) :
    (render n path d g bg og mute isLfe x).1[i]? = some 0 ∧ (render n path d g bg og mute isLfe x).2[i]? = some 0 :=
  render_lfe_zero_real n path d g bg og mute isLfe x i hi

/-- Mute, under H3 and no hypothesis on the sub-panners.  (With NaN-free panned gains; `nan_to_num` guarantees that
    in the code.) -/
theorem render_muted_zero (n : Nat) (path : ZonePath ℝ) (d : List ℝ) (g : List (List ℝ)) (bg og : ℝ)
    (isLfe : List Bool) (x : ℝ) (_H3 : 0 ≤ x ∧ x ≤ 1) :
    (∀ y ∈ (render n path d g bg og true isLfe x).1, y = 0) ∧ (∀ y ∈ (render n path d g bg og true isLfe x).2, y = 0) :=
  render_muted_zero_real n path d g bg og isLfe x

/-- The invariant of `render`, all parts at once, for per-position rows with power in `[lo, hi]`: `lo = hi = 1` in
    general, `lo = ½` on 0+2+0, `lo = 1 − 1e-10` when `calc_pv_spread` dropped a term. -/
theorem render_invariant (lo hi : ℝ) (n : Nat) (path : ZonePath ℝ) (v : Option ℝ) (g : List (List ℝ)) (bg og : ℝ)
    (mute : Bool) (isLfe : List Bool) (x : ℝ) (hs : shapesOk n path (divergeGains v) g isLfe = true)
    (hv : ∀ y, v = some y → 0 ≤ y ∧ y ≤ 1) (H1 : RowsBetween lo hi g) (H2 : PathOk path) (h0 : 0 ≤ x) (h1 : x ≤ 1)
    (hbg : 0 ≤ bg) (hog : 0 ≤ og) :
    let r : List ℝ × List ℝ := render n path (divergeGains v) g bg og mute isLfe x
    let target : ℝ := (bg * (if mute then 0 else og)) ^ 2
    Nonneg r.1 ∧ Nonneg r.2 ∧ (∀ i : Nat, isLfe[i]? = some true → r.1[i]? = some 0 ∧ r.2[i]? = some 0) ∧
    lo * target ≤ power r ∧ power r ≤ hi * target := by
  have hnn := render_nonneg_real n path (divergeGains v) g bg og mute isLfe x hbg hog
  have hb := render_power_bounds lo hi n path v g bg og mute isLfe x hs hv H1 H2 h0 h1
  rw [getObjectGain_real] at hb
  exact ⟨hnn.1, hnn.2, fun i hi => render_lfe_zero_real n path _ g bg og mute isLfe x i hi, hb.1, hb.2⟩

/-! ## polar path: render composed with the extent skeleton -/

/-- what `PolarExtentHandler.handle` returns, in terms of the point-source answers `p` and the normalised
    spread answers `s` (each non-negative with unit power): one `calc_pv_spread` (depth = 0) or the RMS of two. -/
inductive PolarRow (n : Nat) : List ℝ → Prop
  | single (a : ℝ) (p s : List ℝ) (h0 : 0 ≤ a) (h1 : a ≤ 1) (hp : p.length = n) (hs : s.length = n)
      (hpu : sumSq p = 1) (hsu : sumSq s = 1) : PolarRow n (calcPvSpread n a p s)
  | depth (a a' : ℝ) (p s p' s' : List ℝ) (h0 : 0 ≤ a) (h1 : a ≤ 1) (h0' : 0 ≤ a') (h1' : a' ≤ 1)
      (hp : p.length = n) (hs : s.length = n) (hp' : p'.length = n) (hs' : s'.length = n)
      (hpu : sumSq p = 1) (hsu : sumSq s = 1) (hpu' : sumSq p' = 1) (hsu' : sumSq s' = 1) :
      PolarRow n (depthCombine (calcPvSpread n a p s) (calcPvSpread n a' p' s'))

theorem length_calcPvSpread (n : Nat) (a : ℝ) (p s : List ℝ) (hp : p.length = n) (hs : s.length = n) :
    (calcPvSpread n a p s).length = n := by
  simp only [calcPvSpread]
  split <;> split <;> simp [length_vadd, hp, hs]

theorem PolarRow.length_eq {n : Nat} {r : List ℝ} (h : PolarRow n r) : r.length = n := by
  cases h with
  | single a p s h0 h1 hp hs _ _ => exact length_calcPvSpread n a p s hp hs
  | depth a a' p s p' s' _ _ _ _ hp hs hp' hs' _ _ _ _ =>
    simp [depthCombine, length_calcPvSpread n a p s hp hs, length_calcPvSpread n a' p' s' hp' hs']

/-- the RMS of two rows has the mean of their powers -/
theorem PolarRow.between {n : Nat} {r : List ℝ} (h : PolarRow n r) :
    Nonneg r ∧ 1 - 1 / 10000000000 ≤ sumSq r ∧ sumSq r ≤ 1 := by
  cases h with
  | single a p s h0 h1 hp hs hpu hsu => exact pvSpread_power n a p s h0 h1 hp hs hpu hsu
  | depth a a' p s p' s' h0 h1 h0' h1' hp hs hp' hs' hpu hsu hpu' hsu' =>
    obtain ⟨_, l1, u1⟩ := pvSpread_power n a p s h0 h1 hp hs hpu hsu
    obtain ⟨_, l2, u2⟩ := pvSpread_power n a' p' s' h0' h1' hp' hs' hpu' hsu'
    rw [depthCombine_power _ _
      ((length_calcPvSpread n a p s hp hs).trans (length_calcPvSpread n a' p' s' hp' hs').symm)]
    exact ⟨depthCombine_nonneg _ _, by linarith only [l1, l2], by linarith only [u1, u2]⟩

/-- Polar path with extent/depth: the 1e-10 relative loss is what `calc_pv_spread`'s drop thresholds allow. -/
theorem render_power_polar_extent (n : Nat) (D : List (List ℝ)) (v : Option ℝ) (g : List (List ℝ)) (bg og : ℝ)
    (mute : Bool) (isLfe : List Bool) (x : ℝ) (hg : ∀ r ∈ g, PolarRow n r)
    (hs : shapesOk n (.polar D) (divergeGains v) g isLfe = true)
    (hv : ∀ y, v = some y → 0 ≤ y ∧ y ≤ 1) (H2 : Stochastic D) (H3 : 0 ≤ x ∧ x ≤ 1) :
    (1 - 1 / 10000000000) * (bg * (if mute then 0 else og)) ^ 2 ≤
      power (render n (.polar D) (divergeGains v) g bg og mute isLfe x) ∧
    power (render n (.polar D) (divergeGains v) g bg og mute isLfe x) ≤ (bg * (if mute then 0 else og)) ^ 2 := by
  have hb := render_power_bounds _ 1 n (.polar D) v g bg og mute isLfe x hs hv (fun r hr => (hg r hr).between) H2 H3.1 H3.2
  rw [getObjectGain_real, one_mul] at hb
  exact hb

/-! ## Cartesian point objects: render composed with the allocentric panner -/

/-- Cartesian path, zero extent (what `allocentric_extent_pan` does for `width = height = depth = 0`): any positions,
    any exclusion mask, on a well-formed grid of the non-excluded loudspeakers. -/
theorem render_power_allocentric (n m : Nat) (st : Tree ℝ) (hw : TreeWF m st) (excluded : List Bool) (v : Option ℝ)
    (g : List (List ℝ)) (bg og : ℝ) (mute : Bool) (isLfe : List Bool) (x : ℝ)
    (hg : ∀ r ∈ g, ∃ px py pz, alloHandle m st px py pz = some r)
    (hs : shapesOk n (.cartesian excluded) (divergeGains v) g isLfe = true)
    (hv : ∀ y, v = some y → 0 ≤ y ∧ y ≤ 1) (H3 : 0 ≤ x ∧ x ≤ 1) (hbg : 0 ≤ bg) (hog : 0 ≤ og) :
    let r : List ℝ × List ℝ := render n (.cartesian excluded) (divergeGains v) g bg og mute isLfe x
    Nonneg r.1 ∧ Nonneg r.2 ∧ (∀ i : Nat, isLfe[i]? = some true → r.1[i]? = some 0 ∧ r.2[i]? = some 0) ∧
    power r = (bg * (if mute then 0 else og)) ^ 2 := by
  have H1 : UnitRows g := fun r hr =>
    let ⟨px, py, pz, h⟩ := hg r hr
    let ⟨hn, hs⟩ := allo_unit_power m st hw px py pz r h
    ⟨hn, hs.ge, hs.le⟩
  have h := render_power n (.cartesian excluded) v g bg og mute isLfe x hs hv H1 trivial H3 hbg hog
  exact ⟨h.1, h.2.1, fun i hi => render_lfe_zero_real n _ _ g bg og mute isLfe x i hi, h.2.2⟩

/-- (1) `render_invariant`; (2) the modelled sub-panners satisfy their contracts whenever their pre-normalisation vector
    is non-zero: divergence gains, zone downmix, depth RMS, `calc_pv_spread` skeleton, the two normalisations, the
    allocentric balance pan and the whole allocentric point-source panner.  The full statement (header) is not proved. -/
theorem C01_partial :
    -- (1) render
    (∀ (lo hi : ℝ) (n : Nat) (path : ZonePath ℝ) (v : Option ℝ) (g : List (List ℝ)) (bg og : ℝ) (mute : Bool)
        (isLfe : List Bool) (x : ℝ),
        shapesOk n path (divergeGains v) g isLfe = true → (∀ y, v = some y → 0 ≤ y ∧ y ≤ 1) →
        RowsBetween lo hi g → PathOk path → 0 ≤ x → x ≤ 1 → 0 ≤ bg → 0 ≤ og →
        let r : List ℝ × List ℝ := render n path (divergeGains v) g bg og mute isLfe x
        let target : ℝ := (bg * (if mute then 0 else og)) ^ 2
        Nonneg r.1 ∧ Nonneg r.2 ∧
        (∀ i : Nat, isLfe[i]? = some true → r.1[i]? = some 0 ∧ r.2[i]? = some 0) ∧
        lo * target ≤ power r ∧ power r ≤ hi * target) ∧
    -- (2) sub-panner contracts
    (∀ v : Option ℝ, (∀ y, v = some y → 0 ≤ y ∧ y ≤ 1) → Nonneg (divergeGains v) ∧ sum (divergeGains v) = 1) ∧
    (∀ (groups : List (List (List Nat))) (excluded : List Bool) (D : List (List ℝ)),
        (∀ grps ∈ groups, ∀ grp ∈ grps, grp.Nodup) → downmixForExcluded groups excluded = some D → Stochastic D) ∧
    (∀ p1 p2 : List ℝ, p1.length = p2.length → sumSq p1 = 1 → sumSq p2 = 1 →
        Nonneg (depthCombine p1 p2) ∧ sumSq (depthCombine p1 p2) = 1) ∧
    (∀ (n : Nat) (a : ℝ) (p s : List ℝ), 0 ≤ a → a ≤ 1 → p.length = n → s.length = n → sumSq p = 1 → sumSq s = 1 →
        Nonneg (calcPvSpread n a p s) ∧ 1 - 1 / 10000000000 ≤ sumSq (calcPvSpread n a p s) ∧
        sumSq (calcPvSpread n a p s) ≤ 1) ∧
    (∀ v : List ℝ, sumSq v ≠ 0 → sumSq (normalise v) = 1) ∧
    (∀ v : List ℝ, 1 / 10000000000000000 < norm v → sumSq (safeNorm v) = 1) ∧
    (∀ lo hi val : ℝ, let r := singleBalancePan lo hi val
        0 ≤ r.1 ∧ 0 ≤ r.2 ∧ (lo ≠ hi → r.1 ^ 2 + r.2 ^ 2 = 1) ∧ (lo = hi → r = (1, 1))) ∧
    (∀ (n : Nat) (st : Tree ℝ) (px py pz : ℝ) (r : List ℝ), TreeWF n st → alloHandle n st px py pz = some r →
        Nonneg r ∧ sumSq r = 1) := by
  refine ⟨?_, ?_, ?_, ?_, ?_, ?_, ?_, ?_, ?_⟩
  · exact render_invariant
  · exact fun v hv => ⟨diverge_gains_nonneg v hv, diverge_gains_sum_one v (fun y hy => (hv y hy).1)⟩
  · exact downmix_stochastic
  · exact fun p1 p2 hl h1 h2 => ⟨depthCombine_nonneg p1 p2, depthCombine_unit p1 p2 hl h1 h2⟩
  · exact pvSpread_power
  · exact normalise_unit
  · exact safeNorm_unit
  · exact balancePan_unit
  · exact fun n st px py pz r hw h => allo_unit_power n st hw px py pz r h

/-! ## the position pipeline inside the model: `renderFull`, `polarHandle` -/

/-- `max(extent_mod(e, d), 5)` stays in [5, 360] for an extent in the ADM range [0, 360] -/
theorem clampedExtent_range (e d : ℝ) (h0 : 0 ≤ e) (h1 : e ≤ 360) :
    5 ≤ maxS (extentMod e d) (k 5) ∧ maxS (extentMod e d) (k 5) ≤ 360 := by
  have hr := extentMod_range e d h0 h1
  have h5 : (k 5 : ℝ) = 5 := by simp only [k_real]; norm_num
  simp only [maxS, h5]
  split
  · exact ⟨le_rfl, by norm_num⟩
  · rename_i h
    exact ⟨not_lt.mp h, hr.2⟩

theorem polarHandle_isPolarRow_of (n : Nat) (p : List ℝ) (s : ℝ → ℝ → List ℝ) (position : V3 ℝ) (width height depth : ℝ)
    (hp : p.length = n ∧ sumSq p = 1)
    (hs : ∀ d, (s (maxS (extentMod width d) (k 5)) (maxS (extentMod height d) (k 5))).length = n ∧
      sumSq (s (maxS (extentMod width d) (k 5)) (maxS (extentMod height d) (k 5))) = 1) :
    PolarRow n (polarHandle n p s position width height depth) := by
  simp only [polarHandle, polarExtents]
  rcases polarDistances_cases (norm3 position) depth with h | ⟨d1, d2, h, _, _⟩
  · rw [h]
    simp only [List.map_cons, List.map_nil, polarCombine]
    exact PolarRow.single _ p _ (amountSpread_range _ _).1 (amountSpread_range _ _).2 hp.1 (hs _).1 hp.2 (hs _).2
  · rw [h]
    simp only [List.map_cons, List.map_nil, polarCombine]
    exact PolarRow.depth _ _ p _ p _ (amountSpread_range _ _).1 (amountSpread_range _ _).2 (amountSpread_range _ _).1
      (amountSpread_range _ _).2 hp.1 (hs _).1 hp.1 (hs _).1 hp.2 (hs _).2 hp.2 (hs _).2

/-- `PolarExtentHandler.handle` as modelled (end distances, `extent_mod`, `ammount_spread`, one `calc_pv_spread` or the
    RMS of two), for every position, width, height, depth. -/
theorem polarHandle_isPolarRow (n : Nat) (p : List ℝ) (s : ℝ → ℝ → List ℝ) (position : V3 ℝ) (width height depth : ℝ)
    (hp : p.length = n ∧ sumSq p = 1) (hs : ∀ w h, (s w h).length = n ∧ sumSq (s w h) = 1) :
    PolarRow n (polarHandle n p s position width height depth) :=
  polarHandle_isPolarRow_of n p s position width height depth hp fun _ => hs _ _

/-- the spreading panner's contract only where it is called: clamped width and height in [5, 360] -/
theorem polarHandle_isPolarRow_ranged (n : Nat) (p : List ℝ) (s : ℝ → ℝ → List ℝ) (position : V3 ℝ)
    (width height depth : ℝ) (hw : 0 ≤ width ∧ width ≤ 360) (hh : 0 ≤ height ∧ height ≤ 360)
    (hp : p.length = n ∧ sumSq p = 1)
    (hs : ∀ w h, 5 ≤ w → w ≤ 360 → 5 ≤ h → h ≤ 360 → (s w h).length = n ∧ sumSq (s w h) = 1) :
    PolarRow n (polarHandle n p s position width height depth) :=
  polarHandle_isPolarRow_of n p s position width height depth hp fun d =>
    hs _ _ (clampedExtent_range width d hw.1 hw.2).1 (clampedExtent_range width d hw.1 hw.2).2
      (clampedExtent_range height d hh.1 hh.2).1 (clampedExtent_range height d hh.1 hh.2).2

/-- the positions the extent panner of `renderFull` is called with (none when the offset is rejected) -/
noncomputable def visitedPositions (o : Oracles ℝ) (b : Block ℝ) : List (V3 ℝ) :=
  match applyOffset b.cartesian b.coords b.offset with
  | none => []
  | some c =>
    divergePositions b.cartesian (o.channelLock (o.edgeLock (o.screenScale (coordTrans b.cartesian c)))) b.divValue
      b.azimuthRange b.positionRange b.v2

/-- The whole of `render`, position pipeline included; the screen-scale, edge-lock and channel-lock handlers are arbitrary
    functions.  The extent panner has to meet its contract only at the positions it is CALLED WITH (`visitedPositions`, not
    every point of ℝ³), so it can be instantiated by panners that misbehave at the origin or far outside the cube.  The
    shape condition "one gain vector per diverged position" is proved, not assumed. -/
theorem renderFull_power (lo hi : ℝ) (n m : Nat) (o : Oracles ℝ) (path : ZonePath ℝ) (isLfe : List Bool) (b : Block ℝ)
    (r : List ℝ × List ℝ) (h : renderFull n o path isLfe b = some r)
    (hpan : ∀ pos ∈ visitedPositions o b, (o.extentPan pos).length = m ∧ Nonneg (o.extentPan pos) ∧
      lo ≤ sumSq (o.extentPan pos) ∧ sumSq (o.extentPan pos) ≤ hi)
    (hlfe : countFalse isLfe = n) (hshape : PathShape n m path) (H2 : PathOk path)
    (hv : ∀ y, b.divValue = some y → 0 ≤ y ∧ y ≤ 1) (hx0 : 0 ≤ b.diffuse) (hx1 : b.diffuse ≤ 1) (hbg : 0 ≤ b.gain)
    (hog : 0 ≤ b.objectGain) :
    let target : ℝ := (b.gain * (if b.mute then 0 else b.objectGain)) ^ 2
    Nonneg r.1 ∧ Nonneg r.2 ∧ (∀ i : Nat, isLfe[i]? = some true → r.1[i]? = some 0 ∧ r.2[i]? = some 0) ∧
    lo * target ≤ power r ∧ power r ≤ hi * target := by
  simp only [renderFull] at h
  simp only [visitedPositions] at hpan
  split at h
  · exact absurd h (by simp)
  · rename_i c hc
    simp only [hc] at hpan
    simp only [Option.some.injEq] at h
    subst h
    exact render_invariant lo hi n path b.divValue _ b.gain b.objectGain b.mute isLfe b.diffuse
      (shapesOk_iff.mpr ⟨by rw [List.length_map, divergePositions_length], hlfe, m, hshape,
        List.forall_mem_map.mpr fun q hq => (hpan q hq).1⟩)
      hv (List.forall_mem_map.mpr fun q hq => (hpan q hq).2) H2 hx0 hx1 hbg hog

/-- `polarHandle_isPolarRow_ranged` as H1 (with the 1e-10 slack) AT ONE POSITION -/
theorem polarHandle_contract (n : Nat) (p : List ℝ) (s : ℝ → ℝ → List ℝ) (width height depth : ℝ)
    (hw : 0 ≤ width ∧ width ≤ 360) (hh : 0 ≤ height ∧ height ≤ 360)
    (hp : p.length = n ∧ sumSq p = 1)
    (hs : ∀ w h, 5 ≤ w → w ≤ 360 → 5 ≤ h → h ≤ 360 → (s w h).length = n ∧ sumSq (s w h) = 1)
    (pos : V3 ℝ) :
    (polarHandle n p s pos width height depth).length = n ∧
    Nonneg (polarHandle n p s pos width height depth) ∧
    1 - 1 / 10000000000 ≤ sumSq (polarHandle n p s pos width height depth) ∧
    sumSq (polarHandle n p s pos width height depth) ≤ 1 := by
  have hrow := polarHandle_isPolarRow_ranged n p s pos width height depth hw hh hp hs
  exact ⟨hrow.length_eq, hrow.between⟩

/-- `renderFull_power` with `PolarExtentHandler.handle` as extent panner: the two panners' contracts only at
    `visitedPositions` and, for the spreading panner, only for clamped extents in [5, 360]. -/
theorem renderFull_polar (n : Nat) (ss el cl : V3 ℝ → V3 ℝ) (p : V3 ℝ → List ℝ) (s : V3 ℝ → ℝ → ℝ → List ℝ)
    (width height depth : ℝ) (D : List (List ℝ)) (isLfe : List Bool) (b : Block ℝ) (r : List ℝ × List ℝ)
    (h : renderFull n ⟨ss, el, cl, fun pos => polarHandle n (p pos) (s pos) pos width height depth⟩ (.polar D) isLfe b = some r)
    (hw : 0 ≤ width ∧ width ≤ 360) (hh : 0 ≤ height ∧ height ≤ 360)
    (hp : ∀ pos ∈ visitedPositions ⟨ss, el, cl, fun pos => polarHandle n (p pos) (s pos) pos width height depth⟩ b,
      (p pos).length = n ∧ sumSq (p pos) = 1)
    (hs : ∀ pos ∈ visitedPositions ⟨ss, el, cl, fun pos => polarHandle n (p pos) (s pos) pos width height depth⟩ b,
      ∀ w h, 5 ≤ w → w ≤ 360 → 5 ≤ h → h ≤ 360 → (s pos w h).length = n ∧ sumSq (s pos w h) = 1)
    (hlfe : countFalse isLfe = n) (hD : D.length = n ∧ ∀ r ∈ D, r.length = n) (H2 : Stochastic D)
    (hv : ∀ y, b.divValue = some y → 0 ≤ y ∧ y ≤ 1) (hx0 : 0 ≤ b.diffuse) (hx1 : b.diffuse ≤ 1) (hbg : 0 ≤ b.gain)
    (hog : 0 ≤ b.objectGain) :
    let target : ℝ := (b.gain * (if b.mute then 0 else b.objectGain)) ^ 2
    Nonneg r.1 ∧ Nonneg r.2 ∧ (∀ i : Nat, isLfe[i]? = some true → r.1[i]? = some 0 ∧ r.2[i]? = some 0) ∧
    (1 - 1 / 10000000000) * target ≤ power r ∧ power r ≤ 1 * target :=
  renderFull_power _ 1 n n _ (.polar D) isLfe b r h
    (fun pos hpos => polarHandle_contract n (p pos) (s pos) width height depth hw hh (hp pos hpos) (hs pos hpos) pos)
    hlfe ⟨rfl, hD.1, hD.2⟩ H2 hv hx0 hx1 hbg hog

/-! ## `renderConcrete`: handlers and panners plugged in (models of C13, C19, C05 by import) -/

/-- the tail of both concrete paths: one row per diverged position from a panner `f` that may fail -/
theorem renderTail_power {lo hi : ℝ} {E : LayoutEnv ℝ} {path : ZonePath ℝ} {b : CBlock ℝ} {m : Nat}
    {f : V3 ℝ → Option (List ℝ)} {c : Bool} {q : V3 ℝ} {g : List (List ℝ)}
    (hg : (divergePositions c q b.base.divValue b.base.azimuthRange b.base.positionRange b.base.v2).mapM f = some g)
    (hf : ∀ pos row, f pos = some row → row.length = m ∧ Nonneg row ∧ lo ≤ sumSq row ∧ sumSq row ≤ hi)
    (hlfe : countFalse E.isLfe = E.n) (hsh : PathShape E.n m path) (H2 : PathOk path)
    (hv : ∀ y, b.base.divValue = some y → 0 ≤ y ∧ y ≤ 1) (hx : 0 ≤ b.base.diffuse ∧ b.base.diffuse ≤ 1)
    (hbg : 0 ≤ b.base.gain) (hog : 0 ≤ b.base.objectGain) :
    let r : List ℝ × List ℝ := renderTail E path b g
    let target : ℝ := (b.base.gain * (if b.base.mute then 0 else b.base.objectGain)) ^ 2
    Nonneg r.1 ∧ Nonneg r.2 ∧ (∀ i : Nat, E.isLfe[i]? = some true → r.1[i]? = some 0 ∧ r.2[i]? = some 0) ∧
    lo * target ≤ power r ∧ power r ≤ hi * target := by
  have hrows : ∀ row ∈ g, row.length = m ∧ Nonneg row ∧ lo ≤ sumSq row ∧ sumSq row ≤ hi := fun row hrow =>
    let ⟨pos, _, hpos⟩ := mapM_some_mem_rev hg row hrow
    hf pos row hpos
  exact render_invariant lo hi E.n path b.base.divValue g _ _ _ E.isLfe _
    (shapesOk_iff.mpr ⟨by rw [mapM_some_length hg, divergePositions_length], hlfe, m, hsh, fun row hrow => (hrows row hrow).1⟩)
    hv (fun row hrow => (hrows row hrow).2) H2 hx.1 hx.2 hbg hog

/-- Cartesian point objects, end to end.  `renderConcreteCart` computes the whole of `GainCalc.render` for a Cartesian
    block with zero extent — positionOffset, `coord_trans`, Cartesian screen scaling and screen edge lock (C19 conversion,
    C13 `scaleAzEl` / `compensatePosition`), the zone mask (`get_excluded` ∘ `allocentric.get_excluded`, C13), the
    allocentric channel lock (C13), `diverge`, `_speaker_tree` on the non-excluded loudspeakers (C13) and
    `AllocentricPanner.handle` — and whenever it returns (the Python does not raise) the invariant holds with power
    (gain · object gain)². -/
theorem renderConcrete_cart_power (E : LayoutEnv ℝ) (P : Conv.Params ℝ) (b : CBlock ℝ) (r : List ℝ × List ℝ)
    (hE : EnvOk E) (h : renderConcreteCart E P b = some r)
    (hv : ∀ y, b.base.divValue = some y → 0 ≤ y ∧ y ≤ 1) (hx : 0 ≤ b.base.diffuse ∧ b.base.diffuse ≤ 1)
    (hbg : 0 ≤ b.base.gain) (hog : 0 ≤ b.base.objectGain) :
    Nonneg r.1 ∧ Nonneg r.2 ∧ (∀ i : Nat, E.isLfe[i]? = some true → r.1[i]? = some 0 ∧ r.2[i]? = some 0) ∧
    power r = (b.base.gain * (if b.base.mute then 0 else b.base.objectGain)) ^ 2 := by
  simp only [renderConcreteCart] at h
  obtain ⟨p, _, h⟩ := Option.bind_eq_some_iff.mp h
  obtain ⟨zmask, hz, h⟩ := Option.bind_eq_some_iff.mp h
  obtain ⟨q, _, h⟩ := Option.bind_eq_some_iff.mp h
  obtain ⟨st, hst, h⟩ := Option.bind_eq_some_iff.mp h
  obtain ⟨g, hg, h⟩ := Option.bind_eq_some_iff.mp h
  simp only [Option.some.injEq] at h
  subst h
  have hfl : (Zone.alloExcluded E.allo zmask).length = E.allo.length := by
    have hzl : zmask.length = E.allo.length := by
      rw [C13.getExcluded_length E.fuel E.spks b.zones zmask hz, hE.spks, hE.allo]
    rw [C13.alloExcluded_length E.allo zmask hzl.symm, hzl]
  obtain ⟨h1, h2, h3, h4, h5⟩ := renderTail_power (lo := 1) (hi := 1) (path := .cartesian _) hg (fun pos row hpos => by
    have := allo_unit_power_distinct _ (C13.distinct_keep _ _ hE.distinct) st hst pos.1 pos.2.1 pos.2.2 row hpos
    rw [C13.keep_length _ _ hfl, countF_eq_countFalse] at this
    exact ⟨this.2.2, this.1, this.2.1.ge, this.2.1.le⟩) hE.lfe ⟨hfl.trans hE.allo, rfl⟩ trivial hv hx hbg hog
  rw [one_mul] at h4 h5
  exact ⟨h1, h2, h3, le_antisymm h5 h4⟩

/-- table obligations of `renderConcrete_polar_point_partial` -/
structure PolarEnvOk (E : LayoutEnv ℝ) (L : PointSource.RawLayout) : Prop where
  lfe : countFalse E.isLfe = E.n
  spks : E.spks.length = E.n
  groups : groupsOk E.n E.groups = true
  wf : L.wellFormed = true
  noStereo : L.stereo = none
  nReal : L.nReal = E.n
  /-- every Triplet / VirtualNgon fan triangle of the table is invertible with coordinates in [-2, 2] -/
  nz : pspNzOk L = true

/-- `1/4 = (1/2)²`, the bound of `polarPoint_far`; the panner lemmas take the squared form, which has no square root -/
theorem norm3_sq_gt (pos : V3 ℝ) (h : 1 / 2 < norm3 pos) :
    1 / 4 < pos.1 * pos.1 + pos.2.1 * pos.2.1 + pos.2.2 * pos.2.2 := by
  simp only [norm3, sqrt_real] at h
  have := (Real.lt_sqrt (by norm_num : (0 : ℝ) ≤ 1 / 2)).mp h
  linarith

/-- a result of `polarPointPan`: the position is farther than 1/2 (`polarPoint_far`) and the row is `calc_pv_spread` of
    the C05 answer `p` alone -/
theorem polarPointPan_some {E : LayoutEnv ℝ} {L : PointSource.RawLayout} {pos : V3 ℝ} {row : List ℝ}
    (h : polarPointPan E L pos = some row) :
    ∃ a p, 0 ≤ a ∧ ¬ (k (1 / 10000000000) : ℝ) < a ∧ 1 / 2 < norm3 pos ∧ pspHandle L pos = some p ∧
      row = calcPvSpread E.n a p [] := by
  simp only [polarPointPan] at h
  split at h
  · rename_i w hh hext
    split at h
    · exact absurd h (by simp)
    · rename_i hsmall
      obtain ⟨p, hp, rfl⟩ := Option.map_eq_some_iff.mp h
      refine ⟨_, p, (amountSpread_range w hh).1, hsmall, polarPoint_far _ w hh (norm3_nonneg pos) hext hsmall, hp, ?_⟩
      simp only [polarHandle, hext, List.map_cons, List.map_nil, polarCombine]
  · exact absurd h (by simp)

theorem polarPointPan_bounds (E : LayoutEnv ℝ) (L : PointSource.RawLayout) (lo : ℝ) (hlo : 0 ≤ lo)
    (hpsp : ∀ (pos : V3 ℝ) (p : List ℝ), 1 / 4 < pos.1 * pos.1 + pos.2.1 * pos.2.1 + pos.2.2 * pos.2.2 →
      pspHandle L pos = some p → p.length = E.n ∧ Nonneg p ∧ lo ≤ sumSq p ∧ sumSq p ≤ 1)
    (pos : V3 ℝ) (row : List ℝ) (h : polarPointPan E L pos = some row) :
    row.length = E.n ∧ Nonneg row ∧ (1 - 1 / 10000000000) * lo ≤ sumSq row ∧ sumSq row ≤ 1 := by
  obtain ⟨a, p, ha0, hsmall, hfar, hp, rfl⟩ := polarPointPan_some h
  obtain ⟨hl, _, hlo', hhi⟩ := hpsp pos p (norm3_sq_gt pos hfar) hp
  exact pvSpread_point_only_bounds E.n a lo 1 p [] ha0 hsmall hl hlo' hhi hlo

/-- H1 up to the 1e-10 slack: the point-only regime forces ‖pos‖ > 1/2 (`polarPoint_far`), and there the panner's answer
    is never the zero vector (`pspHandle_unit`). -/
theorem polarPointPan_contract (E : LayoutEnv ℝ) (L : PointSource.RawLayout) (hE : PolarEnvOk E L)
    (pos : V3 ℝ) (row : List ℝ) (h : polarPointPan E L pos = some row) :
    row.length = E.n ∧ Nonneg row ∧ 1 - 1 / 10000000000 ≤ sumSq row ∧ sumSq row ≤ 1 := by
  have := polarPointPan_bounds E L 1 zero_le_one (fun pos p hpos hp => by
    obtain ⟨hl, hn, hu⟩ := pspHandle_unit L hE.wf hE.noStereo hE.nz pos hpos p hp
    exact ⟨hl.trans hE.nReal, hn, hu.ge, hu.le⟩) pos row h
  rwa [mul_one] at this

theorem groupsOk_length {n : Nat} {groups : List (List (List Nat))} (h : groupsOk n groups = true) : groups.length = n := by
  simp only [groupsOk, Bool.and_eq_true, beq_iff_eq] at h
  exact h.1

theorem downmix_ok {n : Nat} {groups : List (List (List Nat))} {excluded : List Bool} {D : List (List ℝ)}
    (hg : groupsOk n groups = true) (hD : downmixForExcluded groups excluded = some D) :
    Stochastic D ∧ D.length = n ∧ ∀ r ∈ D, r.length = n := by
  have hs := downmix_shape groups excluded D hD
  rw [groupsOk_length hg] at hs
  exact ⟨downmix_stochastic groups excluded D (groups_nodup_of_ok n groups hg) hD, hs⟩

theorem renderConcretePolarPoint_power (lo : ℝ) (E : LayoutEnv ℝ) (P : Conv.Params ℝ) (L : PointSource.RawLayout)
    (b : CBlock ℝ) (r : List ℝ × List ℝ) (hlfe : countFalse E.isLfe = E.n) (hgr : groupsOk E.n E.groups = true)
    (hrow : ∀ pos row, polarPointPan E L pos = some row → row.length = E.n ∧ Nonneg row ∧ lo ≤ sumSq row ∧ sumSq row ≤ 1)
    (h : renderConcretePolarPoint E P L b = some r)
    (hv : ∀ y, b.base.divValue = some y → 0 ≤ y ∧ y ≤ 1) (hx : 0 ≤ b.base.diffuse ∧ b.base.diffuse ≤ 1)
    (hbg : 0 ≤ b.base.gain) (hog : 0 ≤ b.base.objectGain) :
    let target : ℝ := (b.base.gain * (if b.base.mute then 0 else b.base.objectGain)) ^ 2
    Nonneg r.1 ∧ Nonneg r.2 ∧ (∀ i : Nat, E.isLfe[i]? = some true → r.1[i]? = some 0 ∧ r.2[i]? = some 0) ∧
    lo * target ≤ power r ∧ power r ≤ 1 * target := by
  simp only [renderConcretePolarPoint] at h
  obtain ⟨p, _, h⟩ := Option.bind_eq_some_iff.mp h
  obtain ⟨q, _, h⟩ := Option.bind_eq_some_iff.mp h
  obtain ⟨g, hg, h⟩ := Option.bind_eq_some_iff.mp h
  obtain ⟨zmask, hz, h⟩ := Option.bind_eq_some_iff.mp h
  obtain ⟨D, hD, h⟩ := Option.bind_eq_some_iff.mp h
  simp only [Option.some.injEq] at h
  subst h
  obtain ⟨hst, hsh⟩ := downmix_ok hgr hD
  exact renderTail_power hg hrow hlfe ⟨rfl, hsh⟩ hst hv hx hbg hog

/-- Polar point objects, PARTIAL (zero extent, locked position in the point-only class).  `renderConcretePolarPoint`
    computes the whole of `render`: position pipeline (polar screen scaling `scaleAzEl`, polar edge lock), the
    egocentric channel lock (C13), `diverge`, the C05 point-source panner walked over its regenerated table (quad roots
    by the closed form), `extent_mod` / `calc_pv_spread` in the point-only regime, the zone mask (C13) and the zone
    downmix.  The ONLY thing the hypothesis `h` contains beyond "the Python does not raise on this block and the block is
    in the point-only class" is C05 totality (`ps.mapM (polarPointPan E L) = some g` inside `h`) — that is why this
    is `_partial`.  Not covered: 0+2+0 (stereo wrapper). -/
theorem renderConcrete_polar_point_partial (E : LayoutEnv ℝ) (P : Conv.Params ℝ) (L : PointSource.RawLayout)
    (b : CBlock ℝ) (r : List ℝ × List ℝ) (hE : PolarEnvOk E L) (h : renderConcretePolarPoint E P L b = some r)
    (hv : ∀ y, b.base.divValue = some y → 0 ≤ y ∧ y ≤ 1) (hx : 0 ≤ b.base.diffuse ∧ b.base.diffuse ≤ 1)
    (hbg : 0 ≤ b.base.gain) (hog : 0 ≤ b.base.objectGain) :
    let target : ℝ := (b.base.gain * (if b.base.mute then 0 else b.base.objectGain)) ^ 2
    Nonneg r.1 ∧ Nonneg r.2 ∧ (∀ i : Nat, E.isLfe[i]? = some true → r.1[i]? = some 0 ∧ r.2[i]? = some 0) ∧
    (1 - 1 / 10000000000) * target ≤ power r ∧ power r ≤ 1 * target :=
  renderConcretePolarPoint_power _ E P L b r hE.lfe hE.groups (polarPointPan_contract E L hE) h hv hx hbg hog

/-! ## the ten BS.2051 layouts: hypotheses discharged on the regenerated tables -/

open Earverif.Gen.C01 in
/-- every regenerated table passes the decidable checks: zone groups duplicate-free and covering every channel
    exactly once, allocentric grid well-formed, `n` = number of non-LFE channels -/
theorem tables_ok :
    layouts.all (fun L => groupsOk L.n L.groups && treeOk L.n (ratTree L.tree) && (countFalse L.isLfe == L.n)) = true := by
  decide +kernel

open Earverif.Gen.C01 in
theorem layouts_nonempty : layouts.length = 10 := by decide +kernel

open Earverif.Gen.C01 in
theorem tables_nonempty : layouts.all (fun L => treeNonempty (ratTree L.tree)) = true := by decide +kernel

open Earverif.Gen.C01 in
theorem table_ok {L : LayoutTable} (hL : L ∈ layouts) :
    groupsOk L.n L.groups = true ∧ TreeWF L.n (realTree (ratTree L.tree)) ∧ countFalse L.isLfe = L.n := by
  have h := List.all_eq_true.mp tables_ok L hL
  simp only [Bool.and_eq_true, beq_iff_eq] at h
  exact ⟨h.1.1, treeWF_of_ok L.n _ h.1.2, h.2⟩

open Earverif.Gen.C01 in
/-- H2 for the ten layouts, every exclusion mask: `downmix_for_excluded` never reaches its `assert False`. -/
theorem downmix_layouts (L : LayoutTable) (hL : L ∈ layouts) (excluded : List Bool) (hl : excluded.length = L.n) :
    ∃ D : List (List ℝ), downmixForExcluded L.groups excluded = some D ∧ Stochastic D ∧ D.length = L.n ∧
      ∀ r ∈ D, r.length = L.n := by
  obtain ⟨D, hD⟩ := downmix_total L.n L.groups (table_ok hL).1 excluded hl
  exact ⟨D, hD, downmix_ok (table_ok hL).1 hD⟩

open Earverif.Gen.C01 in
theorem allo_unit_power_layouts (L : LayoutTable) (hL : L ∈ layouts) (px py pz : ℝ) (r : List ℝ)
    (h : alloHandle L.n (realTree (ratTree L.tree)) px py pz = some r) : Nonneg r ∧ sumSq r = 1 ∧ r.length = L.n := by
  obtain ⟨hn, hu⟩ := allo_unit_power L.n _ (table_ok hL).2.1 px py pz r h
  exact ⟨hn, hu, alloHandle_length h⟩

open Earverif.Gen.C01 in
/-- the allocentric point-source panner on the ten layouts' grids never raises (no IndexError) -/
theorem allo_total_layouts (L : LayoutTable) (hL : L ∈ layouts) (px py pz : ℝ) :
    ∃ r, alloHandle L.n (realTree (ratTree L.tree)) px py pz = some r ∧ Nonneg r ∧ sumSq r = 1 ∧ r.length = L.n := by
  have hne := treeNonempty_real _ (List.all_eq_true.mp tables_nonempty L hL)
  obtain ⟨r, hr⟩ := alloHandle_total L.n (realTree (ratTree L.tree)) px py pz hne
  exact ⟨r, hr, allo_unit_power_layouts L hL px py pz r hr⟩

theorem countFalse_replicate (n : Nat) : countFalse (List.replicate n false) = n := by
  induction n with
  | zero => rfl
  | succ n ih => simp [List.replicate_succ, countFalse, ih]

open Earverif.Gen.C01 in
/-- Cartesian point objects on the ten layouts, no zone exclusion, model level (`render`); with the concrete handlers and
    zone exclusion: `renderConcrete_cart_power_layouts`. -/
theorem render_power_allocentric_layouts (L : LayoutTable) (hL : L ∈ layouts) (v : Option ℝ) (g : List (List ℝ))
    (bg og : ℝ) (mute : Bool) (x : ℝ)
    (hg : ∀ r ∈ g, ∃ px py pz, alloHandle L.n (realTree (ratTree L.tree)) px py pz = some r)
    (hlen : (divergeGains v).length = g.length)
    (hv : ∀ y, v = some y → 0 ≤ y ∧ y ≤ 1) (H3 : 0 ≤ x ∧ x ≤ 1) (hbg : 0 ≤ bg) (hog : 0 ≤ og) :
    let r : List ℝ × List ℝ := render L.n (.cartesian (List.replicate L.n false)) (divergeGains v) g bg og mute L.isLfe x
    Nonneg r.1 ∧ Nonneg r.2 ∧ (∀ i : Nat, L.isLfe[i]? = some true → r.1[i]? = some 0 ∧ r.2[i]? = some 0) ∧
    power r = (bg * (if mute then 0 else og)) ^ 2 := by
  refine render_power_allocentric L.n L.n _ (table_ok hL).2.1 _ v g bg og mute L.isLfe x hg ?_ hv H3 hbg hog
  refine shapesOk_iff.mpr ⟨hlen, (table_ok hL).2.2, _, ⟨List.length_replicate, (countFalse_replicate L.n).symm⟩, fun r hr => ?_⟩
  obtain ⟨px, py, pz, h⟩ := hg r hr
  exact (allo_unit_power_layouts L hL px py pz r h).2.2

open Earverif.Gen.C01 in
/-- as `render_power_allocentric_layouts`, for `renderFull` with arbitrary position handlers -/
theorem renderFull_allocentric_layouts (L : LayoutTable) (hL : L ∈ layouts) (ss el cl : V3 ℝ → V3 ℝ) (b : Block ℝ)
    (r : List ℝ × List ℝ)
    (h : renderFull L.n ⟨ss, el, cl, fun pos => (alloHandle L.n (realTree (ratTree L.tree)) pos.1 pos.2.1 pos.2.2).getD []⟩
      (.cartesian (List.replicate L.n false)) L.isLfe b = some r)
    (hv : ∀ y, b.divValue = some y → 0 ≤ y ∧ y ≤ 1) (hx0 : 0 ≤ b.diffuse) (hx1 : b.diffuse ≤ 1) (hbg : 0 ≤ b.gain)
    (hog : 0 ≤ b.objectGain) :
    Nonneg r.1 ∧ Nonneg r.2 ∧ (∀ i : Nat, L.isLfe[i]? = some true → r.1[i]? = some 0 ∧ r.2[i]? = some 0) ∧
    power r = (b.gain * (if b.mute then 0 else b.objectGain)) ^ 2 := by
  have := renderFull_power 1 1 L.n L.n _ (.cartesian (List.replicate L.n false)) L.isLfe b r h
    (fun pos _ => by
      obtain ⟨g, hg, hn, hu, hl⟩ := allo_total_layouts L hL pos.1 pos.2.1 pos.2.2
      simp only [hg, Option.getD_some]
      exact ⟨hl, hn, hu.ge, hu.le⟩)
    (table_ok hL).2.2 ⟨List.length_replicate, (countFalse_replicate L.n).symm⟩ trivial hv hx0 hx1 hbg hog
  simp only [one_mul] at this
  exact ⟨this.1, this.2.1, this.2.2.1, le_antisymm this.2.2.2.2 this.2.2.2.1⟩

open Earverif.Gen.C01 in
/-- table obligations of `renderConcrete_cart_power` -/
theorem tables_env_ok : layouts.all envOkB = true := by decide +kernel

open Earverif.Gen.C01 in
theorem renderConcrete_cart_power_layouts (L : LayoutTable) (hL : L ∈ layouts) (fuel : Nat) (P : Conv.Params ℝ)
    (b : CBlock ℝ) (r : List ℝ × List ℝ) (h : renderConcreteCart (L.env fuel) P b = some r)
    (hv : ∀ y, b.base.divValue = some y → 0 ≤ y ∧ y ≤ 1) (hx : 0 ≤ b.base.diffuse ∧ b.base.diffuse ≤ 1)
    (hbg : 0 ≤ b.base.gain) (hog : 0 ≤ b.base.objectGain) :
    Nonneg r.1 ∧ Nonneg r.2 ∧ (∀ i : Nat, L.isLfe[i]? = some true → r.1[i]? = some 0 ∧ r.2[i]? = some 0) ∧
    power r = (b.base.gain * (if b.base.mute then 0 else b.base.objectGain)) ^ 2 :=
  renderConcrete_cart_power (L.env fuel) P b r (envOk_of_table L fuel (List.all_eq_true.mp tables_env_ok L hL)) h hv hx hbg hog

/-- decidable form of `PolarEnvOk` on a pair of regenerated tables (C01 layout table, C05 panner table) -/
def polarOkB (T : LayoutTable) (L : PointSource.RawLayout) : Bool :=
  groupsOk T.n T.groups && T.spk.length == T.n && countFalse T.isLfe == T.n && L.wellFormed && L.stereo.isNone &&
    L.nReal == T.n && pspNzOk L

theorem polarEnvOk_of_tables (T : LayoutTable) (L : PointSource.RawLayout) (fuel : Nat) (h : polarOkB T L = true) :
    PolarEnvOk (T.env fuel : LayoutEnv ℝ) L := by
  simp only [polarOkB, Bool.and_eq_true, beq_iff_eq, Option.isNone_iff_eq_none] at h
  obtain ⟨⟨⟨⟨⟨⟨hg, hs⟩, hl⟩, hw⟩, hst⟩, hn⟩, hz⟩ := h
  exact ⟨hl, (List.length_map _).trans hs, hg, hw, hst, hn, hz⟩

theorem exists_of_find?_any {β : Type} {l : List β} {p q : β → Bool} (h : (l.find? p).any q = true) :
    ∃ x ∈ l, p x = true ∧ q x = true := by
  cases hf : l.find? p with
  | none => simp [hf] at h
  | some x => exact ⟨x, List.mem_of_find?_eq_some hf, List.find?_some hf, by simpa [hf] using h⟩

/-- table obligation: every layout except 0+2+0 has a C05 panner table of the same name passing `polarOkB` -/
theorem tables_polar_ok :
    Earverif.Gen.C01.layouts.all (fun T =>
      T.name == "0+2+0" || ((Earverif.Gen.C05.layouts.find? (·.name == T.name)).any (polarOkB T))) = true := by
  -- evaluated here: the conjuncts of `polarOkB` that `tables_ok` and `PointSource.tables_wellFormed` have not
  -- evaluated already
  have h : Earverif.Gen.C01.layouts.all (fun T =>
      T.name == "0+2+0" || ((Earverif.Gen.C05.layouts.find? (·.name == T.name)).any fun L =>
        T.spk.length == T.n && L.stereo.isNone && L.nReal == T.n && pspNzOk L)) = true := by
    decide +kernel
  rw [List.all_eq_true] at h ⊢
  intro T hT
  obtain ⟨hg, -, hc⟩ := table_ok hT
  refine (Bool.or_eq_true _ _).mpr (((Bool.or_eq_true _ _).mp (h T hT)).imp_right fun hf => ?_)
  cases hfind : Earverif.Gen.C05.layouts.find? (·.name == T.name) with
  | none => simp [hfind] at hf
  | some L =>
    have hw := List.all_eq_true.mp PointSource.tables_wellFormed L (List.mem_of_find?_eq_some hfind)
    simpa [polarOkB, hfind, hg, hc, hw] using hf

theorem polar_table (T : LayoutTable) (hT : T ∈ Earverif.Gen.C01.layouts) (hname : T.name ≠ "0+2+0") :
    ∃ L ∈ Earverif.Gen.C05.layouts, L.name = T.name ∧ polarOkB T L = true := by
  have h := List.all_eq_true.mp tables_polar_ok T hT
  simp only [Bool.or_eq_true, beq_iff_eq] at h
  obtain ⟨L, hmem, hn, hok⟩ := exists_of_find?_any (h.resolve_left hname)
  exact ⟨L, hmem, by simpa using hn, hok⟩

theorem renderConcrete_polar_point_partial_layouts (T : LayoutTable) (hT : T ∈ Earverif.Gen.C01.layouts)
    (hname : T.name ≠ "0+2+0") (fuel : Nat) (P : Conv.Params ℝ) (b : CBlock ℝ) (r : List ℝ × List ℝ) :
    ∃ L ∈ Earverif.Gen.C05.layouts, L.name = T.name ∧
      (renderConcretePolarPoint (T.env fuel) P L b = some r →
       (∀ y, b.base.divValue = some y → 0 ≤ y ∧ y ≤ 1) → 0 ≤ b.base.diffuse ∧ b.base.diffuse ≤ 1 →
       0 ≤ b.base.gain → 0 ≤ b.base.objectGain →
       let target : ℝ := (b.base.gain * (if b.base.mute then 0 else b.base.objectGain)) ^ 2
       Nonneg r.1 ∧ Nonneg r.2 ∧ (∀ i : Nat, T.isLfe[i]? = some true → r.1[i]? = some 0 ∧ r.2[i]? = some 0) ∧
       (1 - 1 / 10000000000) * target ≤ power r ∧ power r ≤ 1 * target) := by
  obtain ⟨L, hmem, hn, hok⟩ := polar_table T hT hname
  exact ⟨L, hmem, hn, fun hr hv hx hbg hog =>
    renderConcrete_polar_point_partial (T.env fuel) P L b r (polarEnvOk_of_tables T L fuel hok) hr hv hx hbg hog⟩

/-! ## 0+2+0: the [½, 1] bound on the concrete stereo table -/

/-- table obligations of `renderConcrete_polar_point_stereo_bounds_partial` -/
structure StereoEnvOk (E : LayoutEnv ℝ) (L : PointSource.RawLayout) : Prop where
  lfe : countFalse E.isLfe = E.n
  spks : E.spks.length = E.n
  groups : groupsOk E.n E.groups = true
  wf : L.wellFormed = true
  stereo : ∃ l r, L.stereo = some (l, r)
  n2 : E.n = 2
  nz : pspNzOk L = true

/-- on 0+2+0 (`StereoPanDownmix` around the 0+5+0 panner of the C05 table): power in `[(1 − 1e-10)/2, 1]` -/
theorem polarPointPan_stereo_contract (E : LayoutEnv ℝ) (L : PointSource.RawLayout) (hE : StereoEnvOk E L)
    (pos : V3 ℝ) (row : List ℝ) (h : polarPointPan E L pos = some row) :
    row.length = E.n ∧ Nonneg row ∧ (1 - 1 / 10000000000) * (1 / 2) ≤ sumSq row ∧ sumSq row ≤ 1 :=
  polarPointPan_bounds E L (1 / 2) (by norm_num) (fun pos p hpos hp => by
    obtain ⟨l, r, hst⟩ := hE.stereo
    obtain ⟨hl, hn, hlo, hhi⟩ := pspHandle_stereo_contract L hE.wf l r hst hE.nz pos hpos p hp
    exact ⟨hl.trans hE.n2.symm, hn, hlo, hhi⟩) pos row h

/-- 0+2+0, polar point objects, PARTIAL (`h` includes C05 totality of the inner 0+5+0 panner): the property's "between one
    half and one", up to `calc_pv_spread`'s threshold slack. -/
theorem renderConcrete_polar_point_stereo_bounds_partial (E : LayoutEnv ℝ) (P : Conv.Params ℝ) (L : PointSource.RawLayout)
    (b : CBlock ℝ) (r : List ℝ × List ℝ) (hE : StereoEnvOk E L) (h : renderConcretePolarPoint E P L b = some r)
    (hv : ∀ y, b.base.divValue = some y → 0 ≤ y ∧ y ≤ 1) (hx : 0 ≤ b.base.diffuse ∧ b.base.diffuse ≤ 1)
    (hbg : 0 ≤ b.base.gain) (hog : 0 ≤ b.base.objectGain) :
    let target : ℝ := (b.base.gain * (if b.base.mute then 0 else b.base.objectGain)) ^ 2
    Nonneg r.1 ∧ Nonneg r.2 ∧ (∀ i : Nat, E.isLfe[i]? = some true → r.1[i]? = some 0 ∧ r.2[i]? = some 0) ∧
    (1 - 1 / 10000000000) * (1 / 2) * target ≤ power r ∧ power r ≤ 1 * target :=
  renderConcretePolarPoint_power _ E P L b r hE.lfe hE.groups (polarPointPan_stereo_contract E L hE) h hv hx hbg hog

/-- decidable form of `StereoEnvOk` on a pair of regenerated tables -/
def stereoOkB (T : LayoutTable) (L : PointSource.RawLayout) : Bool :=
  groupsOk T.n T.groups && T.spk.length == T.n && countFalse T.isLfe == T.n && L.wellFormed && L.stereo.isSome &&
    T.n == 2 && pspNzOk L

theorem stereoEnvOk_of_tables (T : LayoutTable) (L : PointSource.RawLayout) (fuel : Nat) (h : stereoOkB T L = true) :
    StereoEnvOk (T.env fuel : LayoutEnv ℝ) L := by
  simp only [stereoOkB, Bool.and_eq_true, beq_iff_eq, Option.isSome_iff_exists] at h
  obtain ⟨⟨⟨⟨⟨⟨hg, hs⟩, hl⟩, hw⟩, ⟨lr, hst⟩⟩, hn⟩, hz⟩ := h
  exact ⟨hl, (List.length_map _).trans hs, hg, hw, ⟨lr.1, lr.2, hst⟩, hn, hz⟩

/-- the C05 table has a VirtualNgon whose virtual centre is straight up, (0, 0, 1) -/
def upNgonB (L : PointSource.RawLayout) : Bool :=
  L.regions.any fun r => r.kind == 1 && r.centre == (((0, 0), (0, 0), (1, 0)) : PointSource.P3)

/-- table obligation of the stereo non-vacuity example -/
theorem tables_up_ok :
    (Earverif.Gen.C01.layouts.find? (·.name == "0+2+0")).any (fun T =>
      (Earverif.Gen.C05.layouts.find? (·.name == "0+2+0")).any (fun L => stereoOkB T L && upNgonB L)) = true := by
  decide +kernel

theorem any_of_any {β : Type} {o : Option β} {q q' : β → Bool} (h : o.any q' = true) (hq : ∀ x, q' x = true → q x = true) :
    o.any q = true := by
  cases o with
  | none => exact h
  | some x => exact hq x h

theorem tables_stereo_ok :
    (Earverif.Gen.C01.layouts.find? (·.name == "0+2+0")).any (fun T =>
      (Earverif.Gen.C05.layouts.find? (·.name == "0+2+0")).any (stereoOkB T)) = true :=
  any_of_any tables_up_ok fun _ hT => any_of_any hT fun _ hL => ((Bool.and_eq_true _ _).mp hL).1

theorem stereo_tables : ∃ T ∈ Earverif.Gen.C01.layouts, T.name = "0+2+0" ∧ ∃ L ∈ Earverif.Gen.C05.layouts,
    L.name = "0+2+0" ∧ stereoOkB T L = true := by
  obtain ⟨T, hT, hTn, h⟩ := exists_of_find?_any tables_stereo_ok
  obtain ⟨L, hL, hLn, hok⟩ := exists_of_find?_any h
  exact ⟨T, hT, by simpa using hTn, L, hL, by simpa using hLn, hok⟩

theorem renderConcrete_polar_point_stereo_bounds_partial_layouts (fuel : Nat) (P : Conv.Params ℝ) (b : CBlock ℝ)
    (r : List ℝ × List ℝ) :
    ∃ T ∈ Earverif.Gen.C01.layouts, T.name = "0+2+0" ∧ ∃ L ∈ Earverif.Gen.C05.layouts, L.name = "0+2+0" ∧
      (renderConcretePolarPoint (T.env fuel) P L b = some r →
       (∀ y, b.base.divValue = some y → 0 ≤ y ∧ y ≤ 1) → 0 ≤ b.base.diffuse ∧ b.base.diffuse ≤ 1 →
       0 ≤ b.base.gain → 0 ≤ b.base.objectGain →
       let target : ℝ := (b.base.gain * (if b.base.mute then 0 else b.base.objectGain)) ^ 2
       Nonneg r.1 ∧ Nonneg r.2 ∧ (∀ i : Nat, T.isLfe[i]? = some true → r.1[i]? = some 0 ∧ r.2[i]? = some 0) ∧
       (1 - 1 / 10000000000) * (1 / 2) * target ≤ power r ∧ power r ≤ 1 * target) := by
  obtain ⟨T, hT, hTn, L, hL, hLn, hok⟩ := stereo_tables
  exact ⟨T, hT, hTn, L, hL, hLn, fun hr hv hx hbg hog =>
    renderConcrete_polar_point_stereo_bounds_partial (T.env fuel) P L b r (stereoEnvOk_of_tables T L fuel hok) hr hv hx hbg hog⟩

open Earverif.Gen.C01 in
/-- 0+2+0, Cartesian point objects: the power is exactly (gain · object gain)² (the allocentric panner has unit power on
    two loudspeakers as well), in particular inside the property's [½, 1] band. -/
theorem renderConcrete_cart_stereo_bounds (L : LayoutTable) (hL : L ∈ layouts) (_hname : L.name = "0+2+0") (fuel : Nat)
    (P : Conv.Params ℝ) (b : CBlock ℝ) (r : List ℝ × List ℝ) (h : renderConcreteCart (L.env fuel) P b = some r)
    (hv : ∀ y, b.base.divValue = some y → 0 ≤ y ∧ y ≤ 1) (hx : 0 ≤ b.base.diffuse ∧ b.base.diffuse ≤ 1)
    (hbg : 0 ≤ b.base.gain) (hog : 0 ≤ b.base.objectGain) :
    let target : ℝ := (b.base.gain * (if b.base.mute then 0 else b.base.objectGain)) ^ 2
    Nonneg r.1 ∧ Nonneg r.2 ∧ (∀ i : Nat, L.isLfe[i]? = some true → r.1[i]? = some 0 ∧ r.2[i]? = some 0) ∧
    1 / 2 * target ≤ power r ∧ power r ≤ target := by
  obtain ⟨h1, h2, h3, h4⟩ := renderConcrete_cart_power_layouts L hL fuel P b r h hv hx hbg hog
  refine ⟨h1, h2, h3, ?_, h4.le⟩
  rw [h4]
  exact mul_le_of_le_one_left (sq_nonneg _) (by norm_num)

open Earverif.Gen.C01 in
/-- polar path on the ten layouts, every zone-exclusion mask: H2 is discharged by the regenerated groups -/
theorem render_power_polar_layouts (L : LayoutTable) (hL : L ∈ layouts) (excluded : List Bool)
    (hl : excluded.length = L.n) (lo hi : ℝ) (v : Option ℝ) (g : List (List ℝ)) (bg og : ℝ) (mute : Bool) (x : ℝ)
    (hlen : (divergeGains v).length = g.length) (hgl : ∀ r ∈ g, r.length = L.n) (H1 : RowsBetween lo hi g)
    (hv : ∀ y, v = some y → 0 ≤ y ∧ y ≤ 1) (H3 : 0 ≤ x ∧ x ≤ 1) (hbg : 0 ≤ bg) (hog : 0 ≤ og) :
    ∃ D : List (List ℝ), downmixForExcluded L.groups excluded = some D ∧
      let r : List ℝ × List ℝ := render L.n (.polar D) (divergeGains v) g bg og mute L.isLfe x
      let target : ℝ := (bg * (if mute then 0 else og)) ^ 2
      Nonneg r.1 ∧ Nonneg r.2 ∧ (∀ i : Nat, L.isLfe[i]? = some true → r.1[i]? = some 0 ∧ r.2[i]? = some 0) ∧
      lo * target ≤ power r ∧ power r ≤ hi * target := by
  obtain ⟨D, hD, hst, hDl, hDr⟩ := downmix_layouts L hL excluded hl
  exact ⟨D, hD, render_invariant lo hi L.n (.polar D) v g bg og mute L.isLfe x
    (shapesOk_iff.mpr ⟨hlen, (table_ok hL).2.2, _, ⟨rfl, hDl, hDr⟩, hgl⟩) hv H1 hst H3.1 H3.2 hbg hog⟩

/-! ## polar point objects on the nominal tables, C05 totality plugged in -/

/-- C05 totality (`Earverif.PointSource.pspHandle_total_layouts`); the point-only class excludes the origin -/
theorem polarPointPan_total (E : LayoutEnv ℝ) (L : PointSource.RawLayout) (hL : L ∈ Earverif.Gen.C05.layouts) (pos : V3 ℝ)
    (hc : InPointClass pos) : ∃ row, polarPointPan E L pos = some row := by
  have hne := hc.ne_zero
  obtain ⟨w, h, he, hs⟩ := hc
  simp only [polarPointPan, he]
  rw [if_neg hs]
  cases hp : pspHandle L pos with
  | none => exact absurd hp (PointSource.pspHandle_total_layouts L hL pos hne)
  | some pv => exact ⟨_, rfl⟩

/-- on a nominal table the panner and the zone downmix never fail: `renderConcretePolarPoint` returns whenever the position
    pipeline, the channel lock and the zone mask do and the locked position is in the point-only class -/
theorem renderConcretePolarPoint_total (E : LayoutEnv ℝ) (P : Conv.Params ℝ) (L : PointSource.RawLayout)
    (hL : L ∈ Earverif.Gen.C05.layouts) (hg : groupsOk E.n E.groups = true) (hsp : E.spks.length = E.n) (b : CBlock ℝ)
    (p : V3 ℝ) (q : Zone.P3 ℝ) (zmask : List Bool) (hp : positionBeforeLock E P b = some p)
    (hq : CartLock.lockedPosition E.normPos (toP3 p) (Lock.lockHandle false E.normPos E.prio [] (toP3 p) b.lock) = some q)
    (hc : InPointClass (ofP3 q)) (hz : Zone.getExcluded E.fuel E.spks b.zones = some zmask) :
    ∃ r, renderConcretePolarPoint E P L b = some r := by
  have hrows : ∀ pos ∈ divergePositions false (ofP3 q) b.base.divValue b.base.azimuthRange b.base.positionRange b.base.v2,
      ∃ row, polarPointPan E L pos = some row := fun pos hpos =>
    polarPointPan_total E L hL pos (hc.of_norm_eq (diverge_polar_norm (ofP3 q) _ _ _ _ pos hpos))
  obtain ⟨g, hg'⟩ := mapM_some_of_forall (polarPointPan E L) _ hrows
  obtain ⟨D, hD⟩ := downmix_total E.n E.groups hg zmask (by rw [C13.getExcluded_length E.fuel E.spks b.zones zmask hz, hsp])
  simp only [renderConcretePolarPoint, hp, Option.bind_some, hq, hg', hz, hD]
  exact ⟨_, rfl⟩

/-- Polar point objects on the nine non-stereo BS.2051 layouts, no hypothesis about the panner.  `hp`, `hq`, `hz` are the
    stages of `renderConcretePolarPoint` other than the panner and the downmix, spelled out (the Python raises exactly
    there); `hc`: every distance ≥ 1 is in the class.  C05 totality (`pspHandle_total_layouts`) + the non-zero answer
    (`pspHandle_hasPos`) + `diverge_polar_norm`. -/
theorem renderConcrete_polar_point_layouts (T : LayoutTable) (hT : T ∈ Earverif.Gen.C01.layouts)
    (hname : T.name ≠ "0+2+0") (fuel : Nat) (P : Conv.Params ℝ) (b : CBlock ℝ) :
    ∃ L ∈ Earverif.Gen.C05.layouts, L.name = T.name ∧
      ∀ (p : V3 ℝ) (q : Zone.P3 ℝ) (zmask : List Bool),
      positionBeforeLock (T.env fuel) P b = some p →
      CartLock.lockedPosition (T.env fuel : LayoutEnv ℝ).normPos (toP3 p)
        (Lock.lockHandle false (T.env fuel : LayoutEnv ℝ).normPos (T.env fuel : LayoutEnv ℝ).prio [] (toP3 p) b.lock) = some q →
      InPointClass (ofP3 q) → Zone.getExcluded fuel (T.env fuel : LayoutEnv ℝ).spks b.zones = some zmask →
      (∀ y, b.base.divValue = some y → 0 ≤ y ∧ y ≤ 1) → 0 ≤ b.base.diffuse ∧ b.base.diffuse ≤ 1 →
      0 ≤ b.base.gain → 0 ≤ b.base.objectGain →
      ∃ r, renderConcretePolarPoint (T.env fuel) P L b = some r ∧
        let target : ℝ := (b.base.gain * (if b.base.mute then 0 else b.base.objectGain)) ^ 2
        Nonneg r.1 ∧ Nonneg r.2 ∧ (∀ i : Nat, T.isLfe[i]? = some true → r.1[i]? = some 0 ∧ r.2[i]? = some 0) ∧
        (1 - 1 / 10000000000) * target ≤ power r ∧ power r ≤ 1 * target := by
  obtain ⟨L, hmem, hn, hok⟩ := polar_table T hT hname
  refine ⟨L, hmem, hn, fun p q zmask hp hq hc hz hv hx hbg hog => ?_⟩
  have hE := polarEnvOk_of_tables T L fuel hok
  obtain ⟨r, hr⟩ := renderConcretePolarPoint_total (T.env fuel) P L hmem hE.groups hE.spks b p q zmask hp hq hc hz
  exact ⟨r, hr, renderConcrete_polar_point_partial (T.env fuel) P L b r hE hr hv hx hbg hog⟩

/-- as `renderConcrete_polar_point_layouts`, on the regenerated stereo tables, with the property's band -/
theorem renderConcrete_polar_point_stereo_bounds_layouts (fuel : Nat) (P : Conv.Params ℝ) (b : CBlock ℝ) :
    ∃ T ∈ Earverif.Gen.C01.layouts, T.name = "0+2+0" ∧ ∃ L ∈ Earverif.Gen.C05.layouts, L.name = "0+2+0" ∧
      ∀ (p : V3 ℝ) (q : Zone.P3 ℝ) (zmask : List Bool),
      positionBeforeLock (T.env fuel) P b = some p →
      CartLock.lockedPosition (T.env fuel : LayoutEnv ℝ).normPos (toP3 p)
        (Lock.lockHandle false (T.env fuel : LayoutEnv ℝ).normPos (T.env fuel : LayoutEnv ℝ).prio [] (toP3 p) b.lock) = some q →
      InPointClass (ofP3 q) → Zone.getExcluded fuel (T.env fuel : LayoutEnv ℝ).spks b.zones = some zmask →
      (∀ y, b.base.divValue = some y → 0 ≤ y ∧ y ≤ 1) → 0 ≤ b.base.diffuse ∧ b.base.diffuse ≤ 1 →
      0 ≤ b.base.gain → 0 ≤ b.base.objectGain →
      ∃ r, renderConcretePolarPoint (T.env fuel) P L b = some r ∧
        let target : ℝ := (b.base.gain * (if b.base.mute then 0 else b.base.objectGain)) ^ 2
        Nonneg r.1 ∧ Nonneg r.2 ∧ (∀ i : Nat, T.isLfe[i]? = some true → r.1[i]? = some 0 ∧ r.2[i]? = some 0) ∧
        (1 - 1 / 10000000000) * (1 / 2) * target ≤ power r ∧ power r ≤ 1 * target := by
  obtain ⟨T, hT, hTn, L, hL, hLn, hok⟩ := stereo_tables
  refine ⟨T, hT, hTn, L, hL, hLn, fun p q zmask hp hq hc hz hv hx hbg hog => ?_⟩
  have hE := stereoEnvOk_of_tables T L fuel hok
  obtain ⟨r, hr⟩ := renderConcretePolarPoint_total (T.env fuel) P L hL hE.groups hE.spks b p q zmask hp hq hc hz
  exact ⟨r, hr, renderConcrete_polar_point_stereo_bounds_partial (T.env fuel) P L b r hE hr hv hx hbg hog⟩

/-! ## totality on plain blocks (the hypotheses `renderConcrete… = some r` are satisfiable on the regenerated tables) -/

/-- the layout's screen in the table is absent or a polar screen straight ahead (azimuth = elevation = 0, distance > 0,
    0 < width < 180), decided on the exact rationals; and the layout has at least one loudspeaker -/
def screenFrontB (T : LayoutTable) : Bool :=
  decide (0 < T.n) &&
  match T.screen with
  | none => true
  | some (pol, [_, c1, c2, c3, w]) =>
    pol && (mkRat c1.1 c1.2 == 0) && (mkRat c2.1 c2.2 == 0) && decide (0 < mkRat c3.1 c3.2) && decide (0 < mkRat w.1 w.2) &&
      decide (mkRat w.1 w.2 < 180)
  | some _ => false

theorem screenOk_of_table (T : LayoutTable) (fuel : Nat) (h : screenFrontB T = true) : ScreenOk (T.env fuel : LayoutEnv ℝ) := by
  intro rep hrep
  simp only [LayoutTable.env] at hrep
  simp only [screenFrontB, Bool.and_eq_true, decide_eq_true_eq] at h
  obtain ⟨_, h⟩ := h
  cases hs : T.screen with
  | none => simp [hs] at hrep
  | some sc =>
    obtain ⟨pol, row⟩ := sc
    simp only [hs, Option.bind_some, screenOfRow] at hrep
    rw [hs] at h
    match row, h, hrep with
    | [a, c1, c2, c3, w], h, hrep =>
      simp only [Bool.and_eq_true, beq_iff_eq, decide_eq_true_eq] at h
      obtain ⟨⟨⟨⟨⟨hpol, h1⟩, h2⟩, h3⟩, h4⟩, h5⟩ := h
      simp only [Option.some.injEq] at hrep
      subst hrep
      refine polarEdges_front _ hpol (qOf c3) ?_ ?_ ?_ ?_
      · simp only [qOf, k_real, h1, h2]; simp
      · simp only [qOf, k_real]; exact_mod_cast h3
      · simp only [qOf, k_real]; exact_mod_cast h4
      · simp only [qOf, k_real]; exact_mod_cast h5

open Earverif.Gen.C01 in
/-- table obligation of the totality theorems -/
theorem tables_screen_ok : layouts.all screenFrontB = true := by decide +kernel

open Earverif.Gen.C01 in
/-- `render` never raises on a plain Cartesian point block, on any of the ten layouts: the hypothesis
    `renderConcreteCart … = some r` of `renderConcrete_cart_power_layouts` is satisfiable. -/
theorem renderConcreteCart_plain_total_layouts (T : LayoutTable) (hT : T ∈ layouts) (fuel : Nat) (P : Conv.Params ℝ)
    (b : CBlock ℝ) (hb : PlainBlock b) : ∃ r, renderConcreteCart (T.env fuel) P b = some r := by
  have hE := envOk_of_table T fuel (List.all_eq_true.mp tables_env_ok T hT)
  have hsf := List.all_eq_true.mp tables_screen_ok T hT
  have hn : 0 < T.n := by
    simp only [screenFrontB, Bool.and_eq_true, decide_eq_true_eq] at hsf
    exact hsf.1
  refine renderConcreteCart_plain_total (T.env fuel) P b (by rw [hE.spks, hE.allo]) hE.distinct ?_
    (screenOk_of_table T fuel hsf) hb
  intro h0
  have := hE.allo
  rw [h0] at this
  simp only [List.length_nil, LayoutTable.env] at this
  omega

/-- the C05 table has a Triplet whose first loudspeaker is the front loudspeaker (0, 1, 0) -/
def frontTripletB (L : PointSource.RawLayout) : Bool :=
  L.regions.any fun r => r.kind == 0 && match r.pos with
    | [a, _, _] => a == (((0, 0), (1, 0), (0, 0)) : PointSource.P3)
    | _ => false

/-- a polar point block straight ahead at distance 1 is rendered on every non-stereo layout whose C05 table has a Triplet
    starting at the front loudspeaker: the hypothesis `renderConcretePolarPoint … = some r` of
    `renderConcrete_polar_point_partial` is satisfiable there -/
theorem renderConcretePolarPoint_front_total_layouts (T : LayoutTable) (hT : T ∈ Earverif.Gen.C01.layouts)
    (L : PointSource.RawLayout) (hok : polarOkB T L = true) (hfront : frontTripletB L = true) (fuel : Nat)
    (P : Conv.Params ℝ) (blk : CBlock ℝ) (hb : PlainBlock blk) (hpolar : blk.base.cartesian = false)
    (hcoords : blk.base.coords = (0, 0, 1)) (hdiv : blk.base.divValue = none) :
    ∃ out, renderConcretePolarPoint (T.env fuel) P L blk = some out := by
  have hE := polarEnvOk_of_tables T L fuel hok
  have hsf := List.all_eq_true.mp tables_screen_ok T hT
  simp only [frontTripletB, List.any_eq_true, Bool.and_eq_true, beq_iff_eq] at hfront
  obtain ⟨r, hr, hk, hpos⟩ := hfront
  split at hpos
  · rename_i a b c hp
    rw [beq_iff_eq] at hpos
    subst hpos
    exact renderConcretePolarPoint_front_total (T.env fuel) P L (by rw [hE.spks, groupsOk_length hE.groups]) hE.wf hE.noStereo hE.nz
      (screenOk_of_table T fuel hsf) r hr hk b c hp blk hb hpolar hcoords hdiv
  · exact absurd hpos Bool.false_ne_true

/-- table obligation of the polar non-vacuity example: the 4+5+0 tables -/
theorem tables_front_ok :
    (Earverif.Gen.C01.layouts.find? (·.name == "4+5+0")).any (fun T =>
      (Earverif.Gen.C05.layouts.find? (·.name == "4+5+0")).any (fun L => polarOkB T L && frontTripletB L)) = true := by
  decide +kernel

/-- 0+2+0: a polar point block straight up at distance 1 is rendered: the hypothesis of
    `renderConcrete_polar_point_stereo_bounds_partial` is satisfiable -/
theorem renderConcretePolarPoint_up_total_stereo (T : LayoutTable) (hT : T ∈ Earverif.Gen.C01.layouts)
    (L : PointSource.RawLayout) (hok : stereoOkB T L = true) (hup : upNgonB L = true) (fuel : Nat)
    (P : Conv.Params ℝ) (blk : CBlock ℝ) (hb : PlainBlock blk) (hpolar : blk.base.cartesian = false)
    (hcoords : blk.base.coords = (0, 90, 1)) (hdiv : blk.base.divValue = none) :
    ∃ out, renderConcretePolarPoint (T.env fuel) P L blk = some out := by
  have hE := stereoEnvOk_of_tables T L fuel hok
  have hsf := List.all_eq_true.mp tables_screen_ok T hT
  simp only [upNgonB, List.any_eq_true, Bool.and_eq_true, beq_iff_eq] at hup
  obtain ⟨r, hr, hk, hc⟩ := hup
  exact renderConcretePolarPoint_up_total (T.env fuel) P L (by rw [hE.spks, groupsOk_length hE.groups]) hE.wf hE.nz
    (screenOk_of_table T fuel hsf) r hr hk hc blk hb hpolar hcoords hdiv

/-! ## non-vacuity: concrete inputs that satisfy the hypotheses -/

/-- 0+5+0-like: 5 non-LFE channels + 1 LFE, polar path with the identity downmix, divergence 1/2 with three
    unit vectors, diffuse 1/4: all hypotheses of `render_power` hold. -/
example :
    let g : List (List ℝ) := [[1, 0, 0, 0, 0], [0, 0, 1, 0, 0], [0, 1, 0, 0, 0]]
    shapesOk 5 (.polar (eye 5)) (divergeGains (some (1 / 2 : ℝ))) g [false, false, false, true, false, false] = true ∧
    UnitRows g ∧ PathOk (.polar (eye 5 : List (List ℝ))) := by
  refine ⟨?_, ?_, ?_⟩
  · rw [divergeGains_some (1 / 2) (by norm_num)]
    rfl
  · simp [UnitRows, RowsBetween, Nonneg]
  · exact eye_stochastic 5

/-- Cartesian path with one of three channels excluded: shapes and H1 hold for a proper (non-vertex) pan. -/
example :
    let g : List (List ℝ) := [[3 / 5, 4 / 5]]
    shapesOk 3 (.cartesian [false, true, false]) (divergeGains (none : Option ℝ)) g [false, false, false] = true ∧
    UnitRows g := by
  refine ⟨rfl, ?_⟩
  norm_num [UnitRows, RowsBetween, Nonneg]

/-- a well-formed grid: one plane, one row, two loudspeakers (stereo pair at the front) -/
example : TreeWF 2 ([[[⟨0, -1, 1, 0⟩, ⟨1, 1, 1, 0⟩]]] : Tree ℝ) := by
  have h := treeWF_of_ok 2 [[[⟨0, -1, 1, 0⟩, ⟨1, 1, 1, 0⟩]]] (by decide)
  simpa [realTree, castLeaf] using h

/-- the zone downmix on a two-channel layout with channel 0 excluded routes everything to channel 1;
    the groups are duplicate-free (hypothesis of `downmix_rows_sum_one`) -/
example :
    downmixForExcluded [[[0], [1]], [[1], [0]]] [true, false] = some ([[0, 1], [0, 1]] : List (List ℝ)) ∧
    (∀ grps ∈ ([[[0], [1]], [[1], [0]]] : List (List (List Nat))), ∀ grp ∈ grps, grp.Nodup) := by
  constructor
  · simp [downmixForExcluded, firstUsable, allExcluded, notExcluded, downmixRow, List.range, List.range.loop,
      Rat.mkRat_one]
  · decide

/-- inputs satisfying the hypotheses of `pvSpread_power` (both branches active) -/
example : sumSq ([1, 0] : List ℝ) = 1 ∧ sumSq ([3 / 5, 4 / 5] : List ℝ) = 1 ∧ (0 : ℝ) ≤ 1 / 2 ∧ (1 / 2 : ℝ) ≤ 1 := by
  refine ⟨by norm_num, by norm_num, by norm_num, by norm_num⟩

/-- `renderFull` accepts every block without a positionOffset (so the hypothesis `renderFull … = some r` of
    `renderFull_power` is satisfiable), here with identity handlers and a constant unit-power panner -/
example : ∃ r, renderFull 2 ⟨id, id, id, fun _ => [1, 0]⟩ (.cartesian [false, false]) [false, false]
    (⟨true, (0, 0, 0), none, none, none, none, false, 1, 0, 1, false⟩ : Block ℝ) = some r := by
  simp [renderFull, applyOffset]

/-- a plain block: Cartesian at the centre of the room, or polar straight ahead at distance 1; block gain 1/2, object gain
    3, diffuse 1/4, not muted -/
noncomputable def exBlock (cartesian : Bool) : CBlock ℝ :=
  ⟨⟨cartesian, if cartesian then (0, 0, 0) else (0, 0, 1), none, none, none, none, true, 1 / 2, 1 / 4, 3, false⟩, false,
    ⟨true, 1, (0, 0, 1), 58⟩, ⟨none, none⟩, [], none⟩

theorem exBlock_plain (c : Bool) : PlainBlock (exBlock c) := ⟨rfl, rfl, rfl, rfl, rfl⟩

theorem exBlock_ranges (c : Bool) :
    (∀ y, (exBlock c).base.divValue = some y → 0 ≤ y ∧ y ≤ 1) ∧ (0 ≤ (exBlock c).base.diffuse ∧ (exBlock c).base.diffuse ≤ 1) ∧
    0 ≤ (exBlock c).base.gain ∧ 0 ≤ (exBlock c).base.objectGain := by
  refine ⟨by intro y h; simp [exBlock] at h, ?_, ?_, ?_⟩ <;> simp only [exBlock] <;> norm_num

/-- the target power (1/2 · 3)² of `exBlock` and `exBlockUp` -/
theorem target_ex {b : CBlock ℝ} (hg : b.base.gain = 1 / 2) (hm : b.base.mute = false) (ho : b.base.objectGain = 3) :
    (b.base.gain * (if b.base.mute then 0 else b.base.objectGain)) ^ 2 = 9 / 4 := by
  rw [hg, hm, ho]
  norm_num

open Earverif.Gen.C01 in
/-- **non-vacuity of `renderConcrete_cart_power(_layouts)`**: on EVERY one of the ten regenerated layout tables (any fuel,
    any conversion table) the block `exBlock true` satisfies ALL hypotheses — `renderConcreteCart` returns a result, `EnvOk`
    holds, the value ranges hold — and the conclusion is a non-trivial power (3/2)² -/
example (T : LayoutTable) (hT : T ∈ layouts) (fuel : Nat) (P : Conv.Params ℝ) :
    ∃ r, renderConcreteCart (T.env fuel) P (exBlock true) = some r ∧ EnvOk (T.env fuel : LayoutEnv ℝ) ∧
      (∀ y, (exBlock true).base.divValue = some y → 0 ≤ y ∧ y ≤ 1) ∧
      (0 ≤ (exBlock true).base.diffuse ∧ (exBlock true).base.diffuse ≤ 1) ∧ 0 ≤ (exBlock true).base.gain ∧
      0 ≤ (exBlock true).base.objectGain ∧ power r = (3 / 2) ^ 2 := by
  obtain ⟨r, hr⟩ := renderConcreteCart_plain_total_layouts T hT fuel P (exBlock true) (exBlock_plain true)
  obtain ⟨hv, hx, hbg, hog⟩ := exBlock_ranges true
  refine ⟨r, hr, envOk_of_table T fuel (List.all_eq_true.mp tables_env_ok T hT), hv, hx, hbg, hog, ?_⟩
  have := (renderConcrete_cart_power_layouts T hT fuel P (exBlock true) r hr hv hx hbg hog).2.2.2
  rw [this, target_ex (b := exBlock true) rfl rfl rfl]
  norm_num

/-- **non-vacuity of `renderConcrete_polar_point_partial(_layouts)` and of `polarPointPan_contract`**: on the regenerated
    4+5+0 tables the block `exBlock false` (straight ahead, distance 1) satisfies ALL hypotheses: `renderConcretePolarPoint`
    returns a result (the C05 panner answers at the front loudspeaker), `PolarEnvOk` holds, the value ranges hold -/
example (fuel : Nat) (P : Conv.Params ℝ) :
    ∃ T ∈ Earverif.Gen.C01.layouts, ∃ L ∈ Earverif.Gen.C05.layouts, T.name = "4+5+0" ∧ L.name = T.name ∧
      PolarEnvOk (T.env fuel : LayoutEnv ℝ) L ∧ ∃ r, renderConcretePolarPoint (T.env fuel) P L (exBlock false) = some r ∧
      (9 / 4 : ℝ) * (1 - 1 / 10000000000) ≤ power r ∧ power r ≤ 9 / 4 := by
  obtain ⟨T, hTm, hTn, h⟩ := exists_of_find?_any tables_front_ok
  obtain ⟨L, hLm, hLn, h⟩ := exists_of_find?_any h
  have hTn : T.name = "4+5+0" := by simpa using hTn
  have hLn : L.name = "4+5+0" := by simpa using hLn
  rw [Bool.and_eq_true] at h
  have hE := polarEnvOk_of_tables T L fuel h.1
  obtain ⟨r, hr⟩ := renderConcretePolarPoint_front_total_layouts T hTm L h.1 h.2 fuel P (exBlock false) (exBlock_plain false)
    rfl rfl rfl
  obtain ⟨hv, hx, hbg, hog⟩ := exBlock_ranges false
  have hb := (renderConcrete_polar_point_partial (T.env fuel) P L (exBlock false) r hE hr hv hx hbg hog).2.2.2
  rw [target_ex (b := exBlock false) rfl rfl rfl, one_mul, mul_comm] at hb
  exact ⟨T, hTm, L, hLm, hTn, by rw [hLn, hTn], hE, r, hr, hb⟩

/-- **non-vacuity of `renderConcrete_polar_point_layouts` / `_stereo_bounds_layouts`**: on EVERY one of the ten layout tables
    the plain polar block straight ahead at distance 1 satisfies all the hypotheses (the position pipeline returns (0, 1, 0),
    the lock leaves it unchanged, distance 1 is in the point-only class, the empty zone list gives a mask) -/
example (T : LayoutTable) (hT : T ∈ Earverif.Gen.C01.layouts) (fuel : Nat) (P : Conv.Params ℝ) :
    positionBeforeLock (T.env fuel) P (exBlock false) = some (0, 1, 0) ∧
    CartLock.lockedPosition (T.env fuel : LayoutEnv ℝ).normPos (toP3 ((0, 1, 0) : V3 ℝ))
      (Lock.lockHandle false (T.env fuel : LayoutEnv ℝ).normPos (T.env fuel : LayoutEnv ℝ).prio [] (toP3 ((0, 1, 0) : V3 ℝ))
        (exBlock false).lock) = some (toP3 ((0, 1, 0) : V3 ℝ)) ∧
    InPointClass (ofP3 (toP3 ((0, 1, 0) : V3 ℝ))) ∧
    ∃ zmask, Zone.getExcluded fuel (T.env fuel : LayoutEnv ℝ).spks (exBlock false).zones = some zmask := by
  have hsf := List.all_eq_true.mp tables_screen_ok T hT
  refine ⟨?_, ?_, ?_, ?_⟩
  · rw [positionBeforeLock_plain (T.env fuel) P (exBlock false) (screenOk_of_table T fuel hsf) (exBlock_plain false)]
    simp only [exBlock, coordTrans, Bool.false_eq_true, if_false]
    rw [cart_front]
  · simp [exBlock, Lock.lockHandle, CartLock.lockedPosition]
  · exact inPointClass_of_far _ (by simp [ofP3, toP3, norm3])
  · exact ⟨(T.env fuel : LayoutEnv ℝ).spks.map fun _ => false, by simp [exBlock, Zone.getExcluded, LayoutTable.env]⟩

/-- the plain polar block straight up at distance 1 (block gain 1/2, object gain 3, diffuse 1/4) -/
noncomputable def exBlockUp : CBlock ℝ :=
  ⟨⟨false, (0, 90, 1), none, none, none, none, true, 1 / 2, 1 / 4, 3, false⟩, false, ⟨true, 1, (0, 0, 1), 58⟩, ⟨none, none⟩, [],
    none⟩

/-- **non-vacuity of `renderConcrete_polar_point_stereo_bounds_partial(_layouts)`**: on the regenerated 0+2+0 tables the block
    `exBlockUp` satisfies ALL hypotheses (`renderConcretePolarPoint` returns a result through the stereo wrapper, `StereoEnvOk`
    holds, the value ranges hold) and the power is in [(1 − 1e-10)/2, 1] · (3/2)² -/
example (fuel : Nat) (P : Conv.Params ℝ) :
    ∃ T ∈ Earverif.Gen.C01.layouts, ∃ L ∈ Earverif.Gen.C05.layouts, T.name = "0+2+0" ∧ L.name = "0+2+0" ∧
      StereoEnvOk (T.env fuel : LayoutEnv ℝ) L ∧ ∃ r, renderConcretePolarPoint (T.env fuel) P L exBlockUp = some r ∧
      (9 / 4 : ℝ) * ((1 - 1 / 10000000000) * (1 / 2)) ≤ power r ∧ power r ≤ 9 / 4 := by
  obtain ⟨T, hTm, hTn, h⟩ := exists_of_find?_any tables_up_ok
  obtain ⟨L, hLm, hLn, h⟩ := exists_of_find?_any h
  rw [Bool.and_eq_true] at h
  have hE := stereoEnvOk_of_tables T L fuel h.1
  obtain ⟨r, hr⟩ := renderConcretePolarPoint_up_total_stereo T hTm L h.1 h.2 fuel P exBlockUp ⟨rfl, rfl, rfl, rfl, rfl⟩
    rfl rfl rfl
  -- divergence, diffuse and the two gains of `exBlockUp` are those of `exBlock false`
  obtain ⟨hv, hx, hbg, hog⟩ := exBlock_ranges false
  have hb := (renderConcrete_polar_point_stereo_bounds_partial (T.env fuel) P L exBlockUp r hE hr hv hx hbg hog).2.2.2
  rw [target_ex (b := exBlockUp) rfl rfl rfl, one_mul, mul_comm] at hb
  exact ⟨T, hTm, L, hLm, by simpa using hTn, by simpa using hLn, hE, r, hr, hb⟩

/-- non-vacuity of `renderFull_power` / `renderFull_polar` with the contracts restricted to the visited positions: a panner
    that answers with a unit vector at the visited position and with GARBAGE (the empty vector) everywhere else — in
    particular at the origin — satisfies `hpan`; a contract quantified over every position of ℝ³ would exclude it -/
example :
    let o : Oracles ℝ := ⟨id, id, id, fun pos => if pos = (0, 1, 0) then [1, 0] else []⟩
    let b : Block ℝ := ⟨false, (0, 0, 1), none, none, none, none, true, 1, 0, 1, false⟩
    visitedPositions o b = [(0, 1, 0)] ∧
    (∀ pos ∈ visitedPositions o b, (o.extentPan pos).length = 2 ∧ Nonneg (o.extentPan pos) ∧ 1 ≤ sumSq (o.extentPan pos) ∧
      sumSq (o.extentPan pos) ≤ 1) ∧ o.extentPan (0, 0, 0) = [] ∧
    ∃ r, renderFull 2 o (.polar (eye 2)) [false, false] b = some r := by
  have hv : visitedPositions ⟨id, id, id, fun pos => if pos = ((0 : ℝ), (1 : ℝ), (0 : ℝ)) then [(1 : ℝ), 0] else []⟩
      ⟨false, (0, 0, 1), none, none, none, none, true, 1, 0, 1, false⟩ = [(0, 1, 0)] := by
    simp only [visitedPositions, applyOffset, coordTrans, Bool.false_eq_true, if_false, id, divergePositions]
    rw [cart_front]
  refine ⟨hv, ?_, by simp, by simp [renderFull, applyOffset]⟩
  intro pos hpos
  rw [hv] at hpos
  simp only [List.mem_singleton] at hpos
  subst hpos
  simp [Nonneg]

/-- non-vacuity of `polarHandle_contract` / `polarHandle_isPolarRow_ranged`: unit-power point and spread answers -/
example : (0 : ℝ) ≤ 45 ∧ (45 : ℝ) ≤ 360 ∧ ([1, 0] : List ℝ).length = 2 ∧ sumSq ([1, 0] : List ℝ) = 1 ∧
    (∀ w h : ℝ, 5 ≤ w → w ≤ 360 → 5 ≤ h → h ≤ 360 → ((fun _ _ => [3 / 5, 4 / 5]) w h : List ℝ).length = 2 ∧
      sumSq ((fun _ _ => [3 / 5, 4 / 5]) w h : List ℝ) = 1) := by
  refine ⟨by norm_num, by norm_num, rfl, by norm_num, fun _ _ _ _ _ _ => ⟨rfl, by norm_num⟩⟩

/-- non-vacuity of `triplet_gain_pos` / `pspHandle_hasPos`: the standard basis is invertible and bounded, the diagonal
    direction is longer than 1/2 and accepted -/
example : PointSource.det3 (((1 : ℝ), 0, 0), (0, 1, 0), (0, 0, 1)) ≠ 0 ∧ MatBounded (((1 : ℝ), 0, 0), (0, 1, 0), (0, 0, 1)) ∧
    (1 / 4 : ℝ) < 1 * 1 + 1 * 1 + 1 * 1 := by
  refine ⟨by norm_num [PointSource.det3], ?_, by norm_num⟩
  simp [MatBounded]

/-- non-vacuity of `polarPoint_far`: at distance 1 the point-only regime is reached (`ammount_spread = 0`) -/
example : polarExtents (1 : ℝ) (zero : ℝ) zero zero = [(0, 0)] ∧ ¬ (k (1 / 10000000000) : ℝ) < amountSpread 0 0 := by
  constructor
  · rw [polarExtents_zero_depth, extentMod_zero_far 1 le_rfl]
  · rw [amountSpread_zero]; simp only [k_real]; norm_num

end Earverif.GainCalc
