/-
C16 — PCM decode/encode is exact for every sample code.

Model: `Model/Ieee.lean` (`rn53`: IEEE-754 binary64 round-to-nearest-even over exact rationals)
and `Model/Pcm.lean` (`decode`, `encode`, byte packing, interleaving), a transliteration of
`ear/fileio/bw64/utils.py`.  Of the codes, 0 and ±M are exact because `0/M` and `M/M` are not rounded (`decode_zero`,
`decode_scale`, `rn53_scale`); the powers of two and the most negative code have no uniform argument and are read off
boolean checks that the kernel evaluates in `tables` (`powOk_spec`, `specialOk_spec`); all others: `div_mul_pos`.

What the real code rejects (outside every statement below): bit depths other than 16/24/32
(`RuntimeError`; `none` in `pack`/`unpack`), byte strings that are not a whole number of samples
(`ValueError`; `none`), NaN samples.
-/
import Earverif.Proofs.C16Pcm
import Earverif.Proofs.C16Step
import Earverif.Proofs.C16Lists

namespace Earverif.Pcm
open Earverif.Ieee

def Depth (b : ℕ) : Prop := b = 16 ∨ b = 24 ∨ b = 32

def IsCode (b : ℕ) (c : ℤ) : Prop := -(2 : ℤ) ^ (b - 1) ≤ c ∧ c < (2 : ℤ) ^ (b - 1)

theorem rn53_exact (e N : ℤ) (h1 : (2 : ℚ) ^ e ≤ N * (2 : ℚ) ^ (e - 52))
    (h2 : N * (2 : ℚ) ^ (e - 52) < (2 : ℚ) ^ (e + 1)) :
    rn53 (N * (2 : ℚ) ^ (e - 52)) = N * (2 : ℚ) ^ (e - 52) :=
  rn53_snap _ e N h1 h2 (by rw [sub_self, abs_zero]; exact two_zpow_pos _)

theorem rn53_odd_unit (x : ℚ) : rn53 (-x) = -rn53 x ∧ (|x| ≤ 1 → |rn53 x| ≤ 1) :=
  ⟨rn53_neg x, rn53_abs_le_one x⟩

theorem tables (b : ℕ) (hb : Depth b) :
    (∀ f < b - 1, powOk b f = true) ∧ specialOk b = true ∧ b - 1 ≤ 52 ∧ 1 ≤ b - 1 := by
  rcases hb with rfl | rfl | rfl
  · decide +kernel
  · decide +kernel
  · decide +kernel

theorem scale_bounds (b : ℕ) (hb : Depth b) : 0 < scale b ∧ scale b < (2 : ℤ) ^ 52 := by
  rcases hb with rfl | rfl | rfl <;> (unfold scale; norm_num)

/-- Dividing a code by the scale and multiplying the rounded quotient by the scale again gives,
after rounding, exactly the code — for every code up to full scale. -/
theorem div_mul_exact (b : ℕ) (hb : Depth b) (c : ℤ) (hlo : -scale b ≤ c) (hhi : c ≤ scale b) :
    rn53 (rn53 ((c : ℚ) / (scale b : ℚ)) * (scale b : ℚ)) = c := by
  obtain ⟨hp, -, h52, -⟩ := tables b hb
  obtain ⟨hM0, hM52⟩ := scale_bounds b hb
  induction c using neg_induction with
  | neg c ih =>
    have := ih (by omega) (by omega)
    rwa [Int.cast_neg, neg_div, rn53_neg, neg_mul, rn53_neg, neg_inj] at this
  | zero => rw [Int.cast_zero, zero_div, rn53_zero, zero_mul, rn53_zero]
  | pos c hpos =>
    -- powers of two from the tables; full scale is `M/M = 1` exactly; all other codes from the analysis
    obtain ⟨n, rfl⟩ := Int.eq_ofNat_of_zero_le hpos.le
    have l1 : (2 : ℤ) ^ n.log2 ≤ n := by exact_mod_cast Nat.log2_self_le (by omega)
    have l2 : (n : ℤ) < (2 : ℤ) ^ (n.log2 + 1) := by exact_mod_cast @Nat.lt_log2_self n
    have hfk : n.log2 < b - 1 :=
      (pow_lt_pow_iff_right₀ (one_lt_two (α := ℤ))).mp (by unfold scale at hhi; omega)
    rcases eq_or_lt_of_le l1 with he | hlt
    · rw [← he]; exact powOk_spec (hp _ hfk)
    · rcases eq_or_lt_of_le hhi with hM | hM
      · rw [hM, ← decode, decode_scale b hM0, one_mul]; exact rn53_scale b hM0 hM52
      · exact div_mul_pos (b - 1) n.log2 n (by omega) hfk hlt l2 hM

theorem decode_range (b : ℕ) (hb : Depth b) (c : ℤ) (hc : IsCode b c) :
    -1 - 1 / (scale b : ℚ) ≤ decode b c ∧ decode b c ≤ 1 ∧
    (c ≠ -(2 : ℤ) ^ (b - 1) → -1 ≤ decode b c) := by
  obtain ⟨hM, -⟩ := scale_bounds b hb
  by_cases h : c = -(2 : ℤ) ^ (b - 1)
  · obtain ⟨-, s5, s6⟩ := specialOk_spec (tables b hb).2.1
    rw [h]
    exact ⟨s5, by linarith, fun hh => absurd rfl hh⟩
  · obtain ⟨h1, h2⟩ := hc
    have := abs_le.mp (rn53_abs_le_one _
      (abs_div_scale_le_one b hM c (abs_le.mpr (by unfold scale; omega))))
    have hinv : (0 : ℚ) ≤ 1 / (scale b : ℚ) := by positivity
    unfold decode
    exact ⟨by linarith, this.2, fun _ => this.1⟩

/-- C16: decoding a sample code and encoding the result reproduces the code, except that the
most negative code comes back as the negated maximum — for all `2^b` codes of all three depths. -/
theorem C16_roundtrip (b : ℕ) (hb : Depth b) (c : ℤ) (hc : IsCode b c) :
    encode b (decode b c) = if c = -(2 : ℤ) ^ (b - 1) then -((2 : ℤ) ^ (b - 1) - 1) else c := by
  split_ifs with h
  · rw [h]; exact (specialOk_spec (tables b hb).2.1).1
  · -- the decoded value is not clipped, so encoding it is the multiplication of `div_mul_exact`
    obtain ⟨-, d2, d1⟩ := decode_range b hb c hc
    obtain ⟨h1, h2⟩ := hc
    unfold encode
    rw [clip_id _ (d1 h) d2]
    unfold decode
    rw [div_mul_exact b hb c (by unfold scale; omega) (by unfold scale; omega), truncZ_int]

theorem encode_clips (b : ℕ) (hb : Depth b) (x : ℚ) :
    (1 < x → encode b x = scale b) ∧ (x < -1 → encode b x = -scale b) := by
  have hM := rn53_scale b (scale_bounds b hb).1 (scale_bounds b hb).2
  constructor
  · intro h
    unfold encode clip
    rw [if_pos h, one_mul, hM, truncZ_int]
  · intro h
    unfold encode clip
    rw [if_neg (by linarith), if_pos h, neg_one_mul, rn53_neg, hM, truncZ_neg, truncZ_int]

theorem pack_unpack (b : ℕ) (hb : Depth b) (cs : List ℤ) (h : ∀ c ∈ cs, IsCode b c) :
    ∃ bs, pack b cs = some bs ∧ unpack b bs = some cs ∧ bs.length = b / 8 * cs.length := by
  rcases hb with rfl | rfl | rfl
  · exact layout16.pack_unpack cs h
  · obtain ⟨bs, p, u, l⟩ := layout24.pack_unpack cs h
    exact ⟨bs, p, (unpack24_eq bs (by omega)).trans u, l⟩
  · exact layout32.pack_unpack cs h

/-- Every byte string holding a whole number of samples unpacks (no exception) into codes of the
depth, and packing those codes gives the byte string back. -/
theorem unpack_pack (b : ℕ) (hb : Depth b) (bs : List ℕ) (hbytes : ∀ x ∈ bs, x < 256)
    (hlen : bs.length % (b / 8) = 0) :
    ∃ cs, unpack b bs = some cs ∧ pack b cs = some bs ∧ (∀ c ∈ cs, IsCode b c) ∧
      cs.length = bs.length / (b / 8) := by
  rcases hb with rfl | rfl | rfl
  · exact layout16.unpack_pack (bs.length / 2) bs (by omega) hbytes
  · obtain ⟨cs, u, r⟩ := layout24.unpack_pack (bs.length / 3) bs (by omega) hbytes
    exact ⟨cs, (unpack24_eq bs hlen).trans u, r⟩
  · exact layout32.unpack_pack (bs.length / 4) bs (by omega) hbytes

theorem canonCode_isCode (b : ℕ) (c : ℤ) (hc : IsCode b c) : IsCode b (canonCode b c) := by
  have h1 : (1 : ℤ) ≤ (2 : ℤ) ^ (b - 1) := one_le_pow₀ (by norm_num)
  unfold canonCode IsCode at *
  split_ifs <;> constructor <;> omega

/-- C16, byte level, totality: on every byte string holding whole samples neither function raises;
`decode_pcm_samples` returns one float per sample and `encode_pcm_samples` of those floats returns a byte
string of the original length. -/
theorem C16_roundtrip_bytes_some (b : ℕ) (hb : Depth b) (bs : List ℕ) (hbytes : ∀ x ∈ bs, x < 256)
    (hlen : bs.length % (b / 8) = 0) :
    ∃ cs xs out, unpack b bs = some cs ∧ decodeBytes b bs = some xs ∧ xs = cs.map (decode b) ∧
      xs.length = bs.length / (b / 8) ∧ encodeBytes b xs = some out ∧
      canonBytes b bs = some out ∧ out.length = bs.length ∧
      ((∀ c ∈ cs, c ≠ -(2 : ℤ) ^ (b - 1)) → out = bs) := by
  obtain ⟨cs, u, p, r, l⟩ := unpack_pack b hb bs hbytes hlen
  have key : List.map (encode b) (List.map (decode b) cs) = cs.map (canonCode b) := by
    rw [List.map_map]
    exact List.map_congr_left fun c hc => C16_roundtrip b hb c (r c hc)
  obtain ⟨out, po, -, lo⟩ := pack_unpack b hb (cs.map (canonCode b))
    (List.forall_mem_map.mpr fun c hc => canonCode_isCode b c (r c hc))
  refine ⟨cs, cs.map (decode b), out, u, by simp [decodeBytes, u], rfl, by simp [l], ?_, ?_, ?_, ?_⟩
  · simp only [encodeBytes, key, po]
  · simp only [canonBytes, u, Option.bind_some, po]
  · rw [lo, List.length_map, l]
    exact Nat.mul_div_cancel' (Nat.dvd_of_mod_eq_zero hlen)
  · intro hne
    have : cs.map (canonCode b) = cs :=
      (List.map_congr_left fun c hc => if_neg (hne c hc)).trans (List.map_id cs)
    rw [this, p] at po
    exact (Option.some.inj po).symm

/-- C16, byte level: `encode_pcm_samples(decode_pcm_samples(bytes))` is the canonical form of
`bytes` (most negative code replaced by the negated maximum), never an exception, for every byte
string holding whole samples; and it is `bytes` itself when the most negative code does not occur. -/
theorem C16_roundtrip_bytes (b : ℕ) (hb : Depth b) (bs : List ℕ) (hbytes : ∀ x ∈ bs, x < 256)
    (hlen : bs.length % (b / 8) = 0) :
    (decodeBytes b bs).bind (encodeBytes b) = canonBytes b bs ∧
    (∃ cs, unpack b bs = some cs ∧
      ((∀ c ∈ cs, c ≠ -(2 : ℤ) ^ (b - 1)) → (decodeBytes b bs).bind (encodeBytes b) = some bs)) := by
  obtain ⟨cs, xs, out, u, d, -, -, e, c, -, hid⟩ := C16_roundtrip_bytes_some b hb bs hbytes hlen
  rw [d, Option.bind_some, e]
  exact ⟨c.symm, cs, u, fun hne => by rw [hid hne]⟩

theorem interleave_deinterleave {α} [Inhabited α] (ch : ℕ) (hch : 0 < ch) (frames : List (List α))
    (hfr : ∀ fr ∈ frames, fr.length = ch) :
    deinterleave ch (interleave ch frames) = some frames :=
  il_deil ch hch frames hfr

/-- A flat sample list holding whole frames de-interleaves (no exception) into `ch`-channel frames
whose interleaving is the flat list again. -/
theorem deinterleave_interleave {α} [Inhabited α] (ch : ℕ) (hch : 0 < ch) (flat : List α)
    (h : flat.length % ch = 0) :
    ∃ frames, deinterleave ch flat = some frames ∧ interleave ch frames = flat ∧
      (∀ fr ∈ frames, fr.length = ch) ∧ frames.length = flat.length / ch := by
  refine ⟨_, deinterleave_eq ch hch flat h, ?_, ?_, by rw [List.length_map, List.length_range]⟩
  · have hL : flat.length / ch * ch = flat.length := Nat.div_mul_cancel (Nat.dvd_of_mod_eq_zero h)
    apply List.ext_getElem
    · rw [interleave_length, List.length_map, List.length_range, hL]
    · intro i h1 h2
      have hi : i / ch < flat.length / ch := by
        rw [Nat.div_lt_iff_lt_mul hch, hL]; exact h2
      simp [interleave, List.getD_eq_getElem?_getD, hi, Nat.mod_lt _ hch, Nat.mod_add_div', h2]
  · intro fr hfr
    obtain ⟨f, -, rfl⟩ := List.mem_map.mp hfr
    rw [List.length_map, List.length_range]

/-! ### arbitrary samples (used by C09: what a written sample reads back as) -/

/-- Whatever float is handed to the encoder (any value, `±inf` included as `±2^1024`), the code it
produces is a code of the depth and never the most negative one. -/
theorem encode_isCode (b : ℕ) (hb : Depth b) (x : ℚ) :
    IsCode b (encode b x) ∧ encode b x ≠ -(2 : ℤ) ^ (b - 1) := by
  obtain ⟨h0, h52⟩ := scale_bounds b hb
  obtain ⟨lo, hi⟩ := encode_range_of b h0 h52 x
  unfold scale at lo hi
  unfold IsCode
  refine ⟨⟨by omega, by omega⟩, by omega⟩

/-- One quantisation step: for every bit depth and every sample `x ∈ [-1, 1]` (every rational,
hence every binary64 value the real encoder can be given in that range):
`|decode (encode x) - x| < 1/(2^(b-1) - 1) + 2^-54` — strictly less than one quantisation step from the
truncation plus at most `2^-54` from the rounding of the final float division (the decoded value
is itself a rounded quotient). -/
theorem encode_within_step (b : ℕ) (hb : Depth b) (x : ℚ) (hx : |x| ≤ 1) :
    |decode b (encode b x) - x| < 1 / (scale b : ℚ) + (2 : ℚ) ^ (-54 : ℤ) := by
  obtain ⟨h0, h52⟩ := scale_bounds b hb
  exact encode_within_step_of b h0 h52 x hx

theorem encode_clipped (b : ℕ) (hb : Depth b) (x : ℚ) :
    (1 < x → decode b (encode b x) = 1) ∧ (x < -1 → decode b (encode b x) = -1) := by
  have d1 := decode_scale b (scale_bounds b hb).1
  obtain ⟨c1, c2⟩ := encode_clips b hb x
  exact ⟨fun h => by rw [c1 h, d1], fun h => by rw [c2 h, decode_neg, d1]⟩

/-- Representable values are returned exactly: a sample that is the decoded value of a code
(other than the most negative one) is a fixed point of encode-then-decode. -/
theorem decode_encode_representable (b : ℕ) (hb : Depth b) (c : ℤ) (hc : IsCode b c)
    (hne : c ≠ -(2 : ℤ) ^ (b - 1)) : decode b (encode b (decode b c)) = decode b c := by
  rw [C16_roundtrip b hb c hc, if_neg hne]

/-- Copying audio through the library's tools does not alter it: for every channel count and every
byte string holding whole frames: decode → deinterleave → interleave → encode succeeds at every stage
(no exception), yields `len / (bytes per frame)` frames of `ch` samples, and the bytes that come out are
the canonical form of the bytes that went in — identical unless the most negative code occurs, which
comes back as the negated maximum. -/
theorem C16_copy_through_tools (b ch : ℕ) (hb : Depth b) (hch : 0 < ch) (bs : List ℕ)
    (hbytes : ∀ x ∈ bs, x < 256) (hlen : bs.length % (b / 8 * ch) = 0) :
    ∃ cs xs frames out, unpack b bs = some cs ∧ decodeBytes b bs = some xs ∧
      deinterleave ch xs = some frames ∧
      frames.length = bs.length / (b / 8 * ch) ∧ (∀ fr ∈ frames, fr.length = ch) ∧
      encodeBytes b (interleave ch frames) = some out ∧ canonBytes b bs = some out ∧
      out.length = bs.length ∧ ((∀ c ∈ cs, c ≠ -(2 : ℤ) ^ (b - 1)) → out = bs) := by
  have hb8 : 0 < b / 8 := by rcases hb with rfl | rfl | rfl <;> norm_num
  obtain ⟨q, hq⟩ := Nat.dvd_of_mod_eq_zero hlen
  have hlen8 : bs.length % (b / 8) = 0 := by rw [hq, Nat.mul_assoc]; exact Nat.mul_mod_right _ _
  obtain ⟨cs, xs, out, u, d, hx, lx, e, c, lo, hid⟩ := C16_roundtrip_bytes_some b hb bs hbytes hlen8
  have hxl : xs.length = ch * q := by
    rw [lx, hq, Nat.mul_assoc, Nat.mul_div_cancel_left _ hb8]
  obtain ⟨frames, df, il, fl, fn⟩ := deinterleave_interleave ch hch xs (by rw [hxl]; exact Nat.mul_mod_right _ _)
  refine ⟨cs, xs, frames, out, u, d, df, ?_, fl, by rw [il]; exact e, c, lo, hid⟩
  rw [fn, hxl, hq, Nat.mul_div_cancel_left _ hch, Nat.mul_div_cancel_left _ (Nat.mul_pos hb8 hch)]

example : Depth 24 ∧ IsCode 24 (-8388608) ∧ IsCode 24 8388607 ∧ IsCode 24 12345 := by
  unfold Depth IsCode; norm_num
example : encode 16 (decode 16 (-32768)) = -32767 ∧ encode 16 (decode 16 12345) = 12345 ∧
    decode 16 32767 = 1 ∧ decode 16 (-32768) < -1 := by decide +kernel
example : unpack 24 [0xff, 0xff, 0x7f, 0x00, 0x00, 0x80] = some [8388607, -8388608] ∧
    canonBytes 24 [0x00, 0x00, 0x80] = some [0x01, 0x00, 0x80] := by decide +kernel
example : deinterleave 2 [1, 2, 3, 4, 5, 6] = some [[1, 2], [3, 4], [5, 6]] ∧
    deinterleave 2 [1, 2, 3] = (none : Option (List (List ℤ))) := by decide +kernel

example : |decode 16 (encode 16 (1 / 3)) - 1 / 3| < 1 / (scale 16 : ℚ) + (2 : ℚ) ^ (-54 : ℤ) ∧
    encode 16 (1 / 3) = 10922 ∧ decode 16 (encode 16 (1 / 3)) ≠ 1 / 3 ∧
    decode 24 (encode 24 (3 / 2)) = 1 ∧ decode 32 (encode 32 (-7)) = -1 := by decide +kernel
/-- the hex digits `3fd5555555555555` are the double nearest to 1/3, and back -/
example : (ofBits 0x3fd5555555555555).bind toBits = some 0x3fd5555555555555 ∧
    ofBits 0x3fd5555555555555 = some (rn53 (1 / 3)) ∧ toBits (-3 / 2) = some 0xbff8000000000000 := by
  decide +kernel
example : ∃ cs xs frames out, unpack 24 [1, 0, 0, 0, 0, 0x80, 0xff, 0xff, 0x7f, 2, 0, 0] = some cs ∧
    decodeBytes 24 [1, 0, 0, 0, 0, 0x80, 0xff, 0xff, 0x7f, 2, 0, 0] = some xs ∧
    deinterleave 2 xs = some frames ∧ frames.length = 2 ∧
    encodeBytes 24 (interleave 2 frames) = some out ∧
    out = [1, 0, 0, 1, 0, 0x80, 0xff, 0xff, 0x7f, 2, 0, 0] :=
  ⟨_, _, _, _, rfl, rfl, rfl, by decide +kernel, rfl, by decide +kernel⟩

end Earverif.Pcm
