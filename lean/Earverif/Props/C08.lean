/-
C08 — ADM serialisation (AXML + CHNA) round-trips; generation is a fixed point; generated IDs are
unique, well-formed and never the reserved silent-track UID.  Everything here is for all inputs, on the hand-written
models that the harness ties to the code.

Where things are: times (`time_roundtrip_decimal`, `time_roundtrip_fractional`, `time_unparse_parse`), ids
(`ids_injective`, `ids_wellformed`, `ids_not_reserved`, `ids_disjoint_from_common`) and the CHNA table entry
(`chna_entry_roundtrip`) before the sections; `Tables` (`handlers_wellformed`, `handlers_codec_roundtrip`: the declarative
combinators of `Proofs/C08Codec.lean` on the regenerated handler tables), `Document` (`C08_roundtrip_model`,
`C08_nested_roundtrip`: the class-level round trips of `Proofs/C08Blocks.lean` … `C08Elements.lean`, every hand-written
handler pair of `xml.py` modelled exactly), `Transfer` (`Model/ChnaTransfer.lean`: `chna_transfer_roundtrip`,
`chna_conflict_rejected`, `chna_chunk_roundtrip`, excluded points `chna_excluded_points_transfer`), `Refs`
(`Model/AdmRefs.lean`: `lookup_unique`, `duplicate_id_rejected`, `resolve_total_on_closed`, `resolve_dangling_rejected`),
`RefsDoc` (`resolve_then_ids_roundtrip`), `FloatLeaf` (the theorems of `Proofs/C08Float.lean` under the names of this
namespace), `FloatDoc` (`C08_roundtrip_model_floats_partial`).  `C08_partial`, at the end, is one conjunction of a
selection of these, the statement the C08 check quotes; to build on, take the parts.

`C08_roundtrip_model` and every class theorem are statements over `Leaf.num (k : ℤ)` with no bound on `k` and with
`loadsNum`, which is the inverse of `dumpsNum` on its image only (not `float()`); what the grid model cannot express
is listed in `C08.grid_model_excluded_points`.

What is NOT proved: lxml parsing and serialisation and bytes <-> str (the
tree is abstract, CHNA strings are 7-bit), attrs validators other than the ones stated, the AudioStreamFormatWrapper
bookkeeping; at document level the class theorems are stated for values on the 1e-5 grid (`Leaf.num k`; for an
off-grid double the text is still a fixed point by `fmt5_parse_fmt5`, but a value that PRINTS like a default, e.g.
width 1e-7, is written and then elided by the second generation).  Those are covered by the document-level search in
`harness/c08.py` only.
-/
import Earverif.Proofs.C08TimeRat
import Earverif.Proofs.C08Ids
import Earverif.Proofs.C08Tables
import Earverif.Proofs.C08Chna
import Earverif.Proofs.C08Refs
import Earverif.Model.AdmRefsDoc
import Earverif.Proofs.C08FloatDoc

namespace Earverif.C08
open Earverif.Digits Earverif.TimeFormat Earverif.GenIds

/-- the exactness condition of `unparse_time`'s decimal branch: some power of ten makes `q` an integer
with at most 28 significant digits (`Decimal(num)/Decimal(den) == time` in the default context) -/
def ExactDecimal (q : ℚ) : Prop := ∃ k N : ℕ, N < 10 ^ decimalPrec ∧ q * 10 ^ k = N

/-- Decimal times: for every `0 ≤ q < 100 h` that is a terminating decimal within 28 significant
digits, in either version (`allow_fractional` or not) a string is printed and parsing it gives back
exactly `q` (also with the v1 parser). -/
theorem time_roundtrip_decimal (q : ℚ) (h0 : 0 ≤ q) (h1 : q < 360000) (hx : ExactDecimal q) (af : Bool) :
    ∃ s, unparseTime af (.dec q) = .ok s ∧ parseTime s = some (.dec q) ∧ parseTimeV1 s = some (.dec q) := by
  obtain ⟨k, N, hN, hq⟩ := hx
  obtain ⟨s, hs, hp⟩ := parse_unparseDecimal q h0 h1 k N hN hq
  refine ⟨s, ?_, hp, ?_⟩
  · have : ¬ q < 0 := not_lt.mpr h0
    cases af <;> simp [unparseTime, Time.value, this, hs]
  · simp [parseTimeV1, hp]

/-- non-vacuity: 1 h 2 min 3.5 s -/
example : (0 : ℚ) ≤ 7447 / 2 ∧ (7447 / 2 : ℚ) < 360000 ∧ ExactDecimal (7447 / 2) :=
  ⟨by norm_num, by norm_num, 1, 37235, by norm_num [decimalPrec], by norm_num⟩

/-- Fractional times (BS.2076-2): numerator and denominator are preserved as given, including
non-normalised ones such as `FractionalTime(2, 4)` ↦ `00:00:00.2S4`. -/
theorem time_roundtrip_fractional (n d : ℕ) (hd : 0 < d) (h : n < 360000 * d) :
    unparseTime true (.frac n d) = .ok (unparseFractional n d) ∧
    parseTime (unparseFractional n d) = some (.frac n d) :=
  ⟨rfl, parse_unparseFractional n d hd h⟩

example : (0 < 4) ∧ 2 < 360000 * 4 := by omega

/-- the v1 parser rejects what the v2 writer prints for a `FractionalTime` -/
theorem time_v1_rejects_fractional (n d : ℕ) (hd : 0 < d) (h : n < 360000 * d) :
    parseTimeV1 (unparseFractional n d) = none := by
  simp [parseTimeV1, parse_unparseFractional n d hd h]

theorem exact_of_unparseDecimal (q : ℚ) (h0 : 0 ≤ q) (s : List Char) (h : unparseDecimal? q = some s) :
    ExactDecimal q := by
  obtain ⟨num, -, htoNat, hqdiv⟩ := nonneg_num_den q h0
  unfold unparseDecimal? at h
  rw [htoNat] at h
  cases hds : fracDigits q.den (placesBound q.den) (num % q.den) with
  | none => simp [hds] at h
  | some ds =>
    simp only [hds] at h
    split at h
    · rename_i hfit
      -- `q = num / d`, `num = d * w + r` and the long division gave `r * 10 ^ len = d * F`
      obtain ⟨-, hval, -⟩ := fracDigits_spec q.den _ _ _ hds (Nat.mod_lt _ q.den_pos)
      refine ⟨ds.length, num / q.den * 10 ^ ds.length + ofDigits 10 ds, hfit, ?_⟩
      have hC : num * 10 ^ ds.length = (num / q.den * 10 ^ ds.length + ofDigits 10 ds) * q.den :=
        (mul_eq_of_mod_mul_eq q.den num _ _ hval).trans (Nat.mul_comm _ _)
      have hdq : (q.den : ℚ) ≠ 0 := Nat.cast_ne_zero.mpr q.den_nz
      generalize q.den = d at *
      rw [hqdiv, div_mul_eq_mul_div, div_eq_iff hdq]
      exact_mod_cast hC
    · cases h

/-- String fixed point on the image of `unparse_time`: below 100 hours, whatever `unparse_time` prints
(decimal, fractional, or the fractional fallback for a `Fraction` that is not a terminating decimal)
is accepted by `parse_time`, the parsed time has the same value, and printing it again gives the same
string. -/
theorem time_unparse_parse (af : Bool) (t : Time) (s : List Char)
    (hwf : ∀ n d, t = .frac n d → 0 < d) (h100 : t.value < 360000)
    (h : unparseTime af t = .ok s) :
    ∃ t', parseTime s = some t' ∧ unparseTime af t' = .ok s ∧ t'.value = t.value := by
  by_cases hfr : af = true ∧ ∃ n d, t = .frac n d
  · obtain ⟨rfl, n, d, rfl⟩ := hfr
    obtain rfl : unparseFractional n d = s := Unparsed.ok.inj h
    have hd := hwf n d rfl
    exact ⟨.frac n d, parse_unparseFractional n d hd (lt_mul_of_mkRat_lt n d 360000 hd (by exact_mod_cast h100)),
      rfl, rfl⟩
  · rw [unparseTime_value af t fun haf n d hn => hfr ⟨haf, n, d, hn⟩, valueBranch] at h
    split at h
    · cases h
    · rename_i hneg
      have h0 : 0 ≤ t.value := not_lt.mp hneg
      split at h
      · -- the decimal branch: what it prints is an exact decimal, so the round trip of those applies
        rename_i s' hdec
        obtain rfl : s' = s := Unparsed.ok.inj h
        obtain ⟨k, N, hN, hq⟩ := exact_of_unparseDecimal _ h0 _ hdec
        obtain ⟨s'', hs'', hp⟩ := parse_unparseDecimal _ h0 h100 k N hN hq
        obtain rfl : s'' = s' := Option.some.inj (hs''.symm.trans hdec)
        refine ⟨.dec t.value, hp, ?_, rfl⟩
        rw [unparseTime_value af (.dec t.value) fun _ n d hc => by cases hc]
        show valueBranch af t.value = _
        simp only [valueBranch, if_neg hneg, hdec]
      · rename_i hdec
        split at h
        · obtain rfl : unparseFractional t.value.num.toNat t.value.den = s := Unparsed.ok.inj h
          have hval : (mkRat t.value.num.toNat t.value.den : ℚ) = t.value := by
            rw [Int.toNat_of_nonneg (Rat.num_nonneg.mpr h0)]; exact Rat.mkRat_self _
          rename_i haf; subst haf
          exact ⟨.frac t.value.num.toNat t.value.den,
            parse_unparseFractional _ _ t.value.den_pos
              (lt_mul_of_mkRat_lt _ _ 360000 t.value.den_pos (by rw [hval]; exact_mod_cast h100)), rfl, hval⟩
        · cases h

/-- `typeDefinition` values fit the four-digit type field (the real enum has values 1…5) -/
def TypesOK (x : Input) : Prop :=
  (∀ t ∈ x.packs, t < 0x10000) ∧ (∀ p ∈ x.channels, p.1 < 0x10000) ∧ (∀ p ∈ x.streams, p.1 < 0x10000)

/-- Uniqueness, for ALL element counts (no upper bound): within each kind the generated IDs are
pairwise distinct (nested kinds — alternativeValueSets, block formats, track formats — over the whole
document).  The minimum-width hex formatter is injective and `_` separates the variable-width fields. -/
theorem ids_injective (x : Input) (o : Output) (h : generateIds x = some o) (ht : TypesOK x) :
    o.programmes.Nodup ∧ o.contents.Nodup ∧ o.objects.Nodup ∧ o.avs.flatten.Nodup ∧
    o.packs.Nodup ∧ o.channels.Nodup ∧ o.blocks.flatten.Nodup ∧
    o.streams.Nodup ∧ o.tracks.flatten.Nodup ∧ o.trackUIDs.Nodup := by
  obtain ⟨-, ⟨⟩⟩ := Option.ite_none_left_eq_some.mp h
  obtain ⟨htp, htc, hts⟩ := ht
  -- the three shapes of the generated lists: a formatter over `range'`, over `enumerate`, over both
  have rng : ∀ (s n : Nat) (f : Nat → List Char), (∀ i j, f i = f j → i = j) →
      ((List.range' s n).map f).Nodup := by
    intro s n f hf
    exact nodup_map_of_pairwise (List.pairwise_lt_range' (s := s) (n := n))
      (fun a _ b _ hab heq => by have := hf a b heq; omega)
  have enum : ∀ {α} (l : List α) (f : Nat × α → List Char),
      (∀ p ∈ enumFrom firstId l, ∀ p' ∈ enumFrom firstId l, f p = f p' → p.1 = p'.1) →
      ((enumFrom firstId l).map f).Nodup := by
    intro α l f hf
    exact nodup_map_of_pairwise (enumFrom_pairwise _ _)
      (fun a ha b hb hab heq => by have := hf a ha b hb heq; omega)
  have nested : ∀ {α} (l : List α) (g : Nat × α → Nat → List Char),
      (∀ p ∈ enumFrom firstId l, ∀ p' ∈ enumFrom firstId l, ∀ b b', g p b = g p' b' → p.1 = p'.1 ∧ b = b') →
      ∀ (cnt : Nat × α → Nat),
      ((enumFrom firstId l).map fun p => (List.range' 1 (cnt p)).map (g p)).flatten.Nodup := by
    intro α l g hg cnt
    rw [List.Nodup, List.pairwise_flatten]
    constructor
    · intro inner hin
      rw [List.mem_map] at hin
      obtain ⟨p, hp, rfl⟩ := hin
      exact rng _ _ _ fun a b heq => (hg p hp p hp a b heq).2
    · rw [List.pairwise_map]
      refine (enumFrom_pairwise l firstId).imp_of_mem ?_
      intro p p' hp hp' hlt a ha b hb heq
      rw [List.mem_map] at ha hb
      obtain ⟨i, _, rfl⟩ := ha
      obtain ⟨j, _, rfl⟩ := hb
      have := (hg p hp p' hp' i j heq).1
      omega
  have ty := fun {α} (l : List α) (p : Nat × α) (hp : p ∈ enumFrom firstId l) => (mem_enumFrom _ _ _ hp).2.2
  exact ⟨rng _ _ _ (fun _ _ => aprId_inj), rng _ _ _ (fun _ _ => acoId_inj),
    enum _ _ (fun _ _ _ _ h => aoId_inj h),
    nested x.objects (fun p j => avsId p.1 j) (fun p _ p' _ b b' heq => avsId_inj heq) (fun p => p.2),
    enum _ _ (fun p hp p' hp' h => apId_inj (htp _ (ty _ p hp)) (htp _ (ty _ p' hp')) h),
    enum _ _ (fun p hp p' hp' h => acId_inj (htc _ (ty _ p hp)) (htc _ (ty _ p' hp')) h),
    nested x.channels (fun p b => abId p.2.1 p.1 b)
      (fun p hp p' hp' b b' heq => abId_inj (htc _ (ty _ p hp)) (htc _ (ty _ p' hp')) heq) (fun p => p.2.2),
    enum _ _ (fun p hp p' hp' h => asId_inj (hts _ (ty _ p hp)) (hts _ (ty _ p' hp')) h),
    nested x.streams (fun p b => atId p.2.1 p.1 b)
      (fun p hp p' hp' b b' heq => atId_inj (hts _ (ty _ p hp)) (hts _ (ty _ p' hp')) heq) (fun p => p.2.2),
    rng _ _ _ (fun _ _ => atuId_inj)⟩

/-- The explicit bounds under which every generated ID has the fixed-width syntax of its kind:
at most 0xEFFF = 61 439 elements of a top-level kind (ids 0x1001 … 0xFFFF), at most 0xFFFF
alternativeValueSets per object, 0xFFFFFFFF block formats per channel, 0xFF track formats per stream,
0xFFFFFFFF track UIDs. -/
structure Bounded (x : Input) : Prop where
  programmes : x.nProgrammes ≤ 0xEFFF
  contents : x.nContents ≤ 0xEFFF
  objects : x.objects.length ≤ 0xEFFF
  avs : ∀ a ∈ x.objects, a ≤ 0xFFFF
  packs : x.packs.length ≤ 0xEFFF
  channels : x.channels.length ≤ 0xEFFF
  blocks : ∀ p ∈ x.channels, p.2 ≤ 0xFFFFFFFF
  streams : x.streams.length ≤ 0xEFFF
  tracks : ∀ p ∈ x.streams, p.2 ≤ 0xFF
  trackUIDs : x.nTrackUIDs ≤ 0xFFFFFFFF

/-- non-vacuity: a small document satisfies the bounds and `generateIds` succeeds on it -/
def exampleInput : Input := ⟨2, 1, [0, 2], [3, 1], [(3, 2), (1, 1)], [(3, 1), (1, 2)], 0, 3⟩
example : Bounded exampleInput ∧ TypesOK exampleInput ∧ (generateIds exampleInput).isSome = true := by
  refine ⟨⟨?_, ?_, ?_, ?_, ?_, ?_, ?_, ?_, ?_, ?_⟩, ⟨?_, ?_, ?_⟩, rfl⟩ <;> simp [exampleInput]

/-- Well-formedness under the bounds: every generated ID matches the syntax of its element type. -/
theorem ids_wellformed (x : Input) (o : Output) (h : generateIds x = some o) (ht : TypesOK x)
    (hb : Bounded x) :
    (∀ s ∈ o.programmes, wfAPR s = true) ∧ (∀ s ∈ o.contents, wfACO s = true) ∧
    (∀ s ∈ o.objects, wfAO s = true) ∧ (∀ s ∈ o.avs.flatten, wfAVS s = true) ∧
    (∀ s ∈ o.packs, wfAP s = true) ∧ (∀ s ∈ o.channels, wfAC s = true) ∧
    (∀ s ∈ o.blocks.flatten, wfAB s = true) ∧ (∀ s ∈ o.streams, wfAS s = true) ∧
    (∀ s ∈ o.tracks.flatten, wfAT s = true) ∧ (∀ s ∈ o.trackUIDs, wfATU s = true) := by
  obtain ⟨-, ⟨⟩⟩ := Option.ite_none_left_eq_some.mp h
  obtain ⟨htp, htc, hts⟩ := ht
  have hf : firstId = 0x1001 := rfl
  -- a counter comes from `range'` or `enumFrom`, a type from the input list: each is below its bound
  refine ⟨List.forall_mem_map.mpr fun i hi => ?_, List.forall_mem_map.mpr fun i hi => ?_,
    List.forall_mem_map.mpr fun p hp => ?_,
    List.forall_mem_flatten.mpr (List.forall_mem_map.mpr fun p hp => List.forall_mem_map.mpr fun j hj => ?_),
    List.forall_mem_map.mpr fun p hp => ?_, List.forall_mem_map.mpr fun p hp => ?_,
    List.forall_mem_flatten.mpr (List.forall_mem_map.mpr fun p hp => List.forall_mem_map.mpr fun j hj => ?_),
    List.forall_mem_map.mpr fun p hp => ?_,
    List.forall_mem_flatten.mpr (List.forall_mem_map.mpr fun p hp => List.forall_mem_map.mpr fun j hj => ?_),
    List.forall_mem_map.mpr fun i hi => ?_⟩
  · have := List.mem_range'_1.mp hi; have := hb.programmes
    exact wf_aprId i (by omega)
  · have := List.mem_range'_1.mp hi; have := hb.contents
    exact wf_acoId i (by omega)
  · have := mem_enumFrom _ _ _ hp; have := hb.objects
    exact wf_aoId p.1 (by omega)
  · have h1 := mem_enumFrom _ _ _ hp; have := hb.objects
    have := List.mem_range'_1.mp hj; have := hb.avs p.2 h1.2.2
    exact wf_avsId p.1 j (by omega) (by omega)
  · have h1 := mem_enumFrom _ _ _ hp; have := hb.packs
    exact wf_apId p.2 p.1 (htp _ h1.2.2) (by omega)
  · have h1 := mem_enumFrom _ _ _ hp; have := hb.channels
    exact wf_acId p.2.1 p.1 (htc _ h1.2.2) (by omega)
  · have h1 := mem_enumFrom _ _ _ hp; have := hb.channels
    have := List.mem_range'_1.mp hj; have := hb.blocks p.2 h1.2.2
    exact wf_abId p.2.1 p.1 j (htc _ h1.2.2) (by omega) (by omega)
  · have h1 := mem_enumFrom _ _ _ hp; have := hb.streams
    exact wf_asId p.2.1 p.1 (hts _ h1.2.2) (by omega)
  · have h1 := mem_enumFrom _ _ _ hp; have := hb.streams
    have := List.mem_range'_1.mp hj; have := hb.tracks p.2 h1.2.2
    exact wf_atId p.2.1 p.1 j (hts _ h1.2.2) (by omega) (by omega)
  · have := List.mem_range'_1.mp hi; have := hb.trackUIDs
    exact wf_atuId i (by omega)

/-- The bound is sharp (the excluded point, also run on the real code by the harness): the 61 440th
audioObject gets the five-digit id `AO_10000`, which is not a well-formed audioObjectID; likewise the
256th audioTrackFormat of a stream. -/
theorem ids_wellformed_bound_sharp :
    aoId (firstId + 0xEFFF) = "AO_10000".toList ∧ wfAO (aoId (firstId + 0xEFFF)) = false ∧
    atId 1 0x1001 0x100 = "AT_00011001_100".toList ∧ wfAT (atId 1 0x1001 0x100) = false := by
  decide +kernel

theorem silentUID_eq : silentUID = atuId 0 := by decide +kernel

/-- The reserved silent-track UID is never generated — for all inputs, no bound. -/
theorem ids_not_reserved (x : Input) (o : Output) (h : generateIds x = some o) :
    silentUID ∉ o.trackUIDs := by
  obtain ⟨-, ⟨⟩⟩ := Option.ite_none_left_eq_some.mp h
  intro hm
  simp only [List.mem_map] at hm
  obtain ⟨i, hi, heq⟩ := hm
  rw [silentUID_eq] at heq
  have := atuId_inj heq
  have := List.mem_range'_1.mp hi
  omega

/-- Generated top-level IDs carry a counter `≥ 0x1001`, above the range `0x0001 … 0x0FFF` reserved for
common definitions (BS.2094; the harness re-checks on every run that every ID in the shipped
common-definitions file is at most `0x0FFF`). -/
theorem ids_disjoint_from_common (x : Input) (o : Output) (h : generateIds x = some o) :
    (∀ s ∈ o.programmes, ∃ i, 0x1001 ≤ i ∧ s = aprId i) ∧ (∀ s ∈ o.contents, ∃ i, 0x1001 ≤ i ∧ s = acoId i) ∧
    (∀ s ∈ o.objects, ∃ i, 0x1001 ≤ i ∧ s = aoId i) ∧ (∀ s ∈ o.packs, ∃ t i, 0x1001 ≤ i ∧ s = apId t i) ∧
    (∀ s ∈ o.channels, ∃ t i, 0x1001 ≤ i ∧ s = acId t i) ∧ (∀ s ∈ o.streams, ∃ t i, 0x1001 ≤ i ∧ s = asId t i) ∧
    (∀ s ∈ o.blocks.flatten, ∃ t i b, 0x1001 ≤ i ∧ s = abId t i b) ∧
    (∀ s ∈ o.tracks.flatten, ∃ t i k, 0x1001 ≤ i ∧ s = atId t i k) := by
  obtain ⟨-, ⟨⟩⟩ := Option.ite_none_left_eq_some.mp h
  have hf : firstId = 0x1001 := rfl
  exact ⟨List.forall_mem_map.mpr fun i hi => ⟨i, by have := List.mem_range'_1.mp hi; omega, rfl⟩,
    List.forall_mem_map.mpr fun i hi => ⟨i, by have := List.mem_range'_1.mp hi; omega, rfl⟩,
    List.forall_mem_map.mpr fun p hp => ⟨p.1, by have := mem_enumFrom _ _ _ hp; omega, rfl⟩,
    List.forall_mem_map.mpr fun p hp => ⟨p.2, p.1, by have := mem_enumFrom _ _ _ hp; omega, rfl⟩,
    List.forall_mem_map.mpr fun p hp => ⟨p.2.1, p.1, by have := mem_enumFrom _ _ _ hp; omega, rfl⟩,
    List.forall_mem_map.mpr fun p hp => ⟨p.2.1, p.1, by have := mem_enumFrom _ _ _ hp; omega, rfl⟩,
    List.forall_mem_flatten.mpr (List.forall_mem_map.mpr fun p hp => List.forall_mem_map.mpr fun j _ =>
      ⟨p.2.1, p.1, j, by have := mem_enumFrom _ _ _ hp; omega, rfl⟩),
    List.forall_mem_flatten.mpr (List.forall_mem_map.mpr fun p hp => List.forall_mem_map.mpr fun j _ =>
      ⟨p.2.1, p.1, j, by have := mem_enumFrom _ _ _ hp; omega, rfl⟩)⟩

theorem above_common_ne (i j t t' : ℕ) (hi : 0x1001 ≤ i) (hj : j ≤ 0x0FFF) (ht : t < 0x10000) (ht' : t' < 0x10000) :
    aprId i ≠ aprId j ∧ acoId i ≠ acoId j ∧ aoId i ≠ aoId j ∧ apId t i ≠ apId t' j ∧
    acId t i ≠ acId t' j ∧ asId t i ≠ asId t' j := by
  refine ⟨?_, ?_, ?_, ?_, ?_, ?_⟩
  · intro h; have := aprId_inj h; omega
  · intro h; have := acoId_inj h; omega
  · intro h; have := aoId_inj h; omega
  · intro h; have := apId_inj ht ht' h; omega
  · intro h; have := acId_inj ht ht' h; omega
  · intro h; have := asId_inj ht ht' h; omega

open Earverif.Chna in
/-- entries that the format can hold: 16-bit track index, 12-byte UID, reference either an
`AC_yyyyxxxx` (11 bytes, padded with `_00` on disk) or a 14-byte `AT_yyyyxxxx_zz`, pack reference
absent or 11 bytes that are not all zero; 7-bit characters -/
structure WFEntry (e : Chna.Entry) : Prop where
  idx : e.trackIndex < 65536
  uid : e.audioTrackUID.length = 12
  ref : (acPrefix.isPrefixOf e.audioTrackFormatIDRef = true ∧ e.audioTrackFormatIDRef.length = 11) ∨
        (acPrefix.isPrefixOf e.audioTrackFormatIDRef = false ∧ e.audioTrackFormatIDRef.length = 14)
  pack : ∀ p, e.audioPackFormatIDRef = some p → p.length = 11 ∧ p ≠ nullPack
  asciiUid : ascii e.audioTrackUID = true
  asciiRef : ascii e.audioTrackFormatIDRef = true
  asciiPack : ∀ p, e.audioPackFormatIDRef = some p → ascii p = true

namespace ChnaLemmas
open Earverif.Chna

/-- the field layout of `'<H12s14s11sx'` -/
theorem layout (x y z : UInt8) (a b c : Bytes) (ha : a.length = 12) (hb : b.length = 14) (hc : c.length = 11) :
    let bs := [x, y] ++ a ++ b ++ c ++ [z]
    bs.length = 40 ∧ bs.getD 0 0 = x ∧ bs.getD 1 0 = y ∧
    (bs.drop 2).take 12 = a ∧ (bs.drop 14).take 14 = b ∧ (bs.drop 28).take 11 = c := by
  intro bs
  simp [bs, List.drop_append, List.take_append, ha, hb, hc]

end ChnaLemmas

open Earverif.Chna ChnaLemmas in
/-- CHNA entry round trip: every well-formed entry is encoded into exactly 40 bytes, and the reader's
decoding of those bytes gives the entry back — both reference styles (`AT_…_zz` kept as is, `AC_…`
padded with `_00` and stripped again) and an absent pack reference (eleven zero bytes ⇔ `None`). -/
theorem chna_entry_roundtrip (e : Chna.Entry) (h : WFEntry e) :
    ∃ bs, Chna.encode e = some bs ∧ bs.length = 40 ∧ Chna.decode bs = some e := by
  obtain ⟨idx, uid, ref, pack⟩ := e
  obtain ⟨hidx, huid, href, hpack, hau, har, hap⟩ := h
  simp only at hidx huid href hpack hau har hap
  obtain ⟨pf, hpf_len, hpf_fit, hpf_dec, hpf_ascii⟩ :
      ∃ pf : Bytes, pf.length = 11 ∧
        fit 11 (pack.getD nullPack) = pf ∧
        (if pf = nullPack then none else some pf) = pack ∧ ascii pf = true := by
    cases pack with
    | none => exact ⟨nullPack, rfl, rfl, by simp, ascii_nullPack⟩
    | some p =>
      have := hpack p rfl
      exact ⟨p, this.1, fit_exact 11 p this.1, by simp [this.2], hap p rfl⟩
  obtain ⟨tc, htc_def, htc_len, htc_dec⟩ :
      ∃ tc : Bytes, (if acPrefix.isPrefixOf ref then ref ++ acPad else ref) = tc ∧ tc.length = 14 ∧
        (if acPrefix.isPrefixOf tc then tc.take 11 else tc) = ref := by
    rcases href with ⟨hp, hl⟩ | ⟨hp, hl⟩
    · refine ⟨ref ++ acPad, by simp [hp], by simp [hl, acPad], ?_⟩
      have : acPrefix.isPrefixOf (ref ++ acPad) = true := by
        rw [List.isPrefixOf_iff_prefix] at hp ⊢
        exact hp.trans (List.prefix_append _ _)
      rw [this, if_pos rfl]
      exact List.take_left' hl
    · exact ⟨ref, by simp [hp], hl, by simp [hp]⟩
  have hlay := layout (UInt8.ofNat (idx % 256)) (UInt8.ofNat (idx / 256)) 0 uid tc pf huid htc_len hpf_len
  simp only at hlay
  obtain ⟨hlen, hg0, hg1, hd2, hd14, hd28⟩ := hlay
  refine ⟨[UInt8.ofNat (idx % 256), UInt8.ofNat (idx / 256)] ++ uid ++ tc ++ pf ++ [0], ?_, hlen, ?_⟩
  · unfold Chna.encode
    simp only [htc_def, hpf_fit, fit_exact 12 uid huid]
    have h1 : ¬ tc.length ≠ 14 := by simp [htc_len]
    have h2 : ¬ 65536 ≤ idx := by omega
    simp only [h1, h2, if_false]
  · unfold Chna.decode
    have h1 : ¬ ([UInt8.ofNat (idx % 256), UInt8.ofNat (idx / 256)] ++ uid ++ tc ++ pf ++ [0]).length ≠ 40 :=
      fun hne => hne hlen
    simp only [h1, if_false, hg0, hg1, hd2, hd14, hd28, htc_dec, hau, har, hpf_ascii, hpf_dec,
      Earverif.ChnaTransfer.u16_decode idx hidx, Bool.and_self, Bool.not_true]
    rfl

/-- the bytes of an ASCII string literal (for the examples) -/
def asciiBytes (s : String) : Chna.Bytes := s.toList.map fun c => UInt8.ofNat c.toNat

/-- non-vacuity: a BS.2076-2 style row (`AC_00031001`, no pack reference) -/
example : WFEntry ⟨1, asciiBytes "ATU_00000001", asciiBytes "AC_00031001", none⟩ := by
  refine ⟨by decide +kernel, by decide +kernel, Or.inl (by decide +kernel), by simp, by decide +kernel,
    by decide +kernel, by simp⟩

/-- what the well-formedness conditions exclude, stated on the model: a reference of the wrong length is
refused by the writer (`AssertionError`), and an empty-string pack reference comes back as `None`. -/
theorem chna_excluded_points :
    Chna.encode ⟨1, asciiBytes "ATU_00000001", asciiBytes "AT_0003100", none⟩ = none ∧
    (Chna.encode ⟨1, asciiBytes "ATU_00000001", asciiBytes "AT_00031001_01", some []⟩).bind Chna.decode
      = some ⟨1, asciiBytes "ATU_00000001", asciiBytes "AT_00031001_01", none⟩ := by
  decide +kernel

/-! ## Declarative XML handlers: regenerated table obligations

`Earverif.Gen.C08_Handlers` is re-extracted on every run from the real `MainElementHandler` for BS.2076-1 and
-2 (every `ElementParser`: main elements, block formats per type, loudnessMetadata, audioObjectInteraction,
alternativeValueSet, matrix coefficient, reference screen, zoneExclusion).  The checks below are the side
conditions under which a dictionary of declarative handlers is its own inverse: handler keys pairwise
distinct (`ElementParser.__init__` silently overwrites a duplicate key), constructor arguments pairwise
distinct, and the value elided by `to_xml` (`attr != default`) equal to the value the constructor supplies
when the item is absent (or the item is required and never elided).  The hand-written `CustomElement` /
`GenericElement` handlers appear in the table by name only. -/

section Tables
open Earverif.Gen.C08 Earverif.XmlCodec

def defaultsOK (rows : List Row) : Bool := rows.all rowDefaultOK
def enumsOK (rows : List Row) : Bool := rows.all rowEnumOK
def parseOnlyOK (rows : List Row) : Bool := rows.all rowParseOnlyOK

def parserOK (rows : List Row) : Bool :=
  rowsKeysOK rows && defaultsOK rows && enumsOK rows && parseOnlyOK rows

/-- every extracted `ElementParser` satisfies the side conditions (re-decided by the kernel on every run
against the tables extracted from the code as it is now): attribute keys, element names and written
argument names pairwise distinct, at most one text handler, elided default = constructor default, enum
tables injective -/
theorem handlers_wellformed : ∀ p ∈ parsers, parserOK p.2 = true := by decide +kernel

theorem handlers_table_nontrivial : 30 ≤ parsers.length ∧ 250 ≤ (parsers.map (·.2.length)).sum := by
  decide +kernel

/-- every ID in the shipped common-definitions file has a counter field `≤ 0x0FFF`, i.e. below every
generated ID (`ids_disjoint_from_common`, `above_common_ne`) -/
theorem common_ids_in_reserved_range : ∀ e ∈ commonIdRanges, e.2.2.2 ≤ 0x0FFF := by decide +kernel

/-- **The combinator round trip instantiated with the regenerated handler tables.**  For every extracted
`ElementParser` (both versions) — with the hand-written handlers supplied as parameters `impl` that satisfy
their specification in `FieldOK` (own output routed to themselves, `RunOK`) and whose declared arguments are
disjoint from everybody else's — parsing what `to_xml` wrote gives back every declarative argument, the
specified value under every argument of a hand-written handler, and the constructor default elsewhere.  The
key-distinctness hypotheses of `codec_roundtrip` are discharged by `handlers_wellformed`, i.e. by the tables as
the code declares them now. -/
theorem handlers_codec_roundtrip :
    ∀ t ∈ parsers, ∀ (impl : Row → CustomImpl Leaf) (name : String) (o cd : Obj Leaf),
      (allArgs (ofRows impl t.2)).Nodup →
      (∀ p ∈ ofRows impl t.2, FieldOK (ofRows impl t.2) (toXml (ofRows impl t.2) name o) o cd p) →
      ∃ o', parse (ofRows impl t.2) cd (toXml (ofRows impl t.2) name o) = some o' ∧
        (∀ p ∈ ofRows impl t.2, p.isCustom = false → ∀ a ∈ p.ownArgs, o' a = o a) ∧
        (∀ p ∈ ofRows impl t.2, p.isCustom = true → ∀ a ∈ p.ownArgs, o' a = (p.customEff o a).getD (cd a)) ∧
        (∀ a, a ∉ allArgs (ofRows impl t.2) → o' a = cd a) := by
  intro t ht impl name o cd hargs hF
  have hok := handlers_wellformed t ht
  simp only [parserOK, Bool.and_eq_true] at hok
  exact codec_roundtrip _ name o cd ⟨keysOK_ofRows impl t.2 hok.1.1.1 hargs, hF⟩

/-- **… with the field hypotheses reduced to statements about values.**  For every extracted parser: if each
declarative argument of the object holds a value in the domain of its codec (`RowValueOK`), `cd` is the
constructor-default map recorded in the table (`CdOK`) and the hand-written handlers meet their specification,
the conclusion of `handlers_codec_roundtrip` holds.  Key distinctness, symmetric default elision
(`handler default = constructor default`), injective enum tables and "parse-only is never required" are
discharged by `handlers_wellformed`, i.e. re-checked against the code's tables on every run. -/
theorem handlers_roundtrip_values :
    ∀ t ∈ parsers, ∀ (impl : Row → CustomImpl Leaf) (name : String) (o cd : Obj Leaf),
      (allArgs (ofRows impl t.2)).Nodup →
      (∀ r ∈ t.2, RowValueOK o r) → (∀ r ∈ t.2, CdOK cd r) →
      (∀ r ∈ t.2, r.kind ≠ "Attribute" → r.kind ≠ "AttrElement" → r.kind ≠ "ListElement" → r.kind ≠ "HandleText" →
        r.kind ≠ "TypeAttribute" →
        FieldOK (ofRows impl t.2) (toXml (ofRows impl t.2) name o) o cd (ofRow impl r)) →
      ∃ o', parse (ofRows impl t.2) cd (toXml (ofRows impl t.2) name o) = some o' ∧
        (∀ p ∈ ofRows impl t.2, p.isCustom = false → ∀ a ∈ p.ownArgs, o' a = o a) ∧
        (∀ p ∈ ofRows impl t.2, p.isCustom = true → ∀ a ∈ p.ownArgs, o' a = (p.customEff o a).getD (cd a)) ∧
        (∀ a, a ∉ allArgs (ofRows impl t.2) → o' a = cd a) := by
  intro t ht impl name o cd hargs hv hcd hfr
  have hok := handlers_wellformed t ht
  simp only [parserOK, Bool.and_eq_true, defaultsOK, enumsOK, parseOnlyOK, List.all_eq_true] at hok
  obtain ⟨⟨⟨_, hd⟩, he⟩, hp⟩ := hok
  refine handlers_codec_roundtrip t ht impl name o cd hargs ?_
  intro p hp'
  unfold ofRows at hp'
  obtain ⟨r, hr, rfl⟩ := List.mem_map.mp hp'
  exact fieldOK_ofRow impl _ _ o cd r (hd r hr) (he r hr) (hp r hr) (hv r hr) (hcd r hr) (hfr r hr)

/-- non-vacuity of the value hypotheses: an `integratedLoudness` of -23.0 (a `FloatType` `AttrElement`, optional,
default `None`), and the matching constructor default -/
example :
    RowValueOK (fun _ => .one (.num (-2300000)))
      ⟨"AttrElement", "integratedLoudness", "integratedLoudness", "integratedLoudness", "FloatType", "None", "None",
        false, false, "", [], "-"⟩ ∧
    CdOK (fun _ => .one .none)
      ⟨"AttrElement", "integratedLoudness", "integratedLoudness", "integratedLoudness", "FloatType", "None", "None",
        false, false, "", [], "-"⟩ := by
  constructor
  · simp [RowValueOK, codecOf, floatCodec_roundtrip]
  · simp [CdOK, leafOfRepr]

def rowDeclarative (r : Row) : Bool :=
  r.kind == "Attribute" || r.kind == "AttrElement" || r.kind == "ListElement" || r.kind == "HandleText" ||
  r.kind == "TypeAttribute"

theorem ofRow_of_declarative (impl : Row → CustomImpl Leaf) (r : Row) (h : rowDeclarative r = true) :
    (ofRow impl r).isCustom = false ∧ (ofRow impl r).ownArgs = (rowDeclArg? r).toList := by
  simp only [rowDeclarative, Bool.or_eq_true, beq_iff_eq] at h
  rcases h with (((h | h) | h) | h) | h
  · simp [ofRow, ofRowG, rowDeclArg?, h, Property.isCustom, Property.ownArgs]
  · cases hp : r.parseOnly <;> simp [ofRow, ofRowG, rowDeclArg?, h, hp, Property.isCustom, Property.ownArgs]
  · cases hp : r.parseOnly <;> simp [ofRow, ofRowG, rowDeclArg?, h, hp, Property.isCustom, Property.ownArgs]
  · simp [ofRow, ofRowG, rowDeclArg?, h, Property.isCustom, Property.ownArgs]
  · simp [ofRow, ofRowG, rowDeclArg?, h, Property.isCustom, Property.ownArgs]

/-- … and for the extracted parsers that consist of declarative properties only, the object itself comes back
and a second generation reproduces the same tree -/
theorem handlers_codec_roundtrip_pure :
    ∀ t ∈ parsers, t.2.all rowDeclarative = true →
      ∀ (impl : Row → CustomImpl Leaf) (name : String) (o cd : Obj Leaf),
      (∀ p ∈ ofRows impl t.2, FieldOK (ofRows impl t.2) (toXml (ofRows impl t.2) name o) o cd p) →
      (∀ a, a ∉ allArgs (ofRows impl t.2) → o a = cd a) →
      parse (ofRows impl t.2) cd (toXml (ofRows impl t.2) name o) = some o ∧
      (parse (ofRows impl t.2) cd (toXml (ofRows impl t.2) name o)).map (toXml (ofRows impl t.2) name)
        = some (toXml (ofRows impl t.2) name o) := by
  intro t ht hpure impl name o cd hF hrest
  have hok := handlers_wellformed t ht
  simp only [parserOK, Bool.and_eq_true] at hok
  have hkeys := hok.1.1.1
  -- the arguments are the declarative arguments of the rows, which `rowsKeysOK` has checked to be distinct
  have hargs : (allArgs (ofRows impl t.2)).Nodup := by
    rw [allArgs, ofRows, List.flatMap_map,
      List.flatMap_congr fun r hr => (ofRow_of_declarative impl r (List.all_eq_true.mp hpure r hr)).2,
      ← List.filterMap_eq_flatMap_toList]
    simp only [rowsKeysOK, Bool.and_eq_true, decide_eq_true_eq] at hkeys
    exact hkeys.1.2
  refine codec_roundtrip_pure _ name o cd ⟨keysOK_ofRows impl t.2 hkeys hargs, hF⟩ ?_ hrest
  intro p hp
  obtain ⟨r, hr, rfl⟩ := List.mem_map.mp hp
  exact (ofRow_of_declarative impl r (List.all_eq_true.mp hpure r hr)).1

/-- the purely declarative parsers in the current tables (non-vacuity of `handlers_codec_roundtrip_pure`):
loudnessMetadata, audioPackFormat, audioStreamFormat, audioTrackFormat and the BS.2076-2 audioTrackUID -/
theorem handlers_pure_count :
    8 ≤ (parsers.filter fun t => t.2.all rowDeclarative).length := by
  decide +kernel

/-- `TimeType` / `TimeTypeV1` as field codecs: decimal times (either version) -/
theorem timeCodec_roundtrip_dec (af : Bool) (q : ℚ) (h0 : 0 ≤ q) (h1 : q < 360000) (hx : ExactDecimal q) :
    (timeCodec af).loads ((timeCodec af).dumps (.time (.dec q))) = some (.time (.dec q)) := by
  obtain ⟨s, hs, hp, hp1⟩ := time_roundtrip_decimal q h0 h1 hx af
  cases af <;> simp [timeCodec, hs, hp, hp1]

/-- … and explicit `FractionalTime`s with the BS.2076-2 codec -/
theorem timeCodec_roundtrip_frac (n d : ℕ) (hd : 0 < d) (h : n < 360000 * d) :
    (timeCodec true).loads ((timeCodec true).dumps (.time (.frac n d))) = some (.time (.frac n d)) := by
  obtain ⟨hs, hp⟩ := time_roundtrip_fractional n d hd h
  simp [timeCodec, hs, hp]

end Tables

section Document
open Earverif.XmlCodec Earverif.XmlBlocks Earverif.XmlElements

/-- an object comes back from the element written for it, and a second generation gives the same tree -/
def RoundTrips (ps : List (Property XV)) (cd : Obj XV) (name : String) (o : Obj XV) : Prop :=
  parse ps cd (toXml ps name o) = some o ∧
  (parse ps cd (toXml ps name o)).map (toXml ps name) = some (toXml ps name o)

/-- every element of the document is inside the stated domain of its class -/
structure DocValid (v2 : Bool) (d : Document) : Prop where
  programmes : ∀ p ∈ d.programmes, ProgrammeValid v2 p
  contents : ∀ c ∈ d.contents, ContentValid v2 c
  objects : ∀ o ∈ d.objects, ObjectValid v2 o
  channelFormats : ∀ c ∈ d.channelFormats, ChannelValid v2 c
  trackUIDs : ∀ u ∈ d.trackUIDs, TrackUIDValid v2 u

/-- **C08 on the model, document level.**  For BS.2076-1 (`v2 = false`) and BS.2076-2 (`v2 = true`): every main
element of a `DocValid` document — audioProgramme (reference screen, loudness metadata), audioContent, audioObject
(position offset, alternative value sets, interaction ranges), audioPackFormat, audioChannelFormat (block formats of
all five types incl. Matrix coefficients, frequency), audioStreamFormat, audioTrackFormat, audioTrackUID — is parsed
back as itself by the parser that the REGENERATED handler table declares for its class (hand-written handlers chosen
by name, `implX`), and generating XML again from the parsed element reproduces the same tree. -/
theorem C08_roundtrip_model (v2 : Bool) (d : Document) (hv : DocValid v2 d) :
    (∀ p ∈ d.programmes, RoundTrips (propsX v2 (rowsOf v2 "audioProgramme")) programmeDefaults "audioProgramme" p.toObj) ∧
    (∀ c ∈ d.contents, RoundTrips (propsX v2 (rowsOf v2 "audioContent")) contentDefaults "audioContent" c.toObj) ∧
    (∀ o ∈ d.objects, RoundTrips (propsX v2 (rowsOf v2 "audioObject")) objectDefaults "audioObject" o.toObj) ∧
    (∀ p ∈ d.packFormats, RoundTrips (propsX v2 (rowsOf v2 "audioPackFormat")) packDefaults "audioPackFormat" p.toObj) ∧
    (∀ c ∈ d.channelFormats,
      RoundTrips (propsX v2 (rowsOf v2 "audioChannelFormat")) channelDefaults "audioChannelFormat" c.toObj) ∧
    (∀ s ∈ d.streamFormats,
      RoundTrips (propsX v2 (rowsOf v2 "audioStreamFormat")) streamDefaults "audioStreamFormat" s.toObj) ∧
    (∀ t ∈ d.trackFormats, RoundTrips (propsX v2 (rowsOf v2 "audioTrackFormat")) noneDefaults "audioTrackFormat" t.toObj) ∧
    (∀ u ∈ d.trackUIDs, RoundTrips (propsX v2 (rowsOf v2 "audioTrackUID")) noneDefaults "audioTrackUID" u.toObj) := by
  rw [programmeProps_eq, contentProps_eq, objectProps_eq, packProps_eq, channelProps_eq, streamProps_eq, trackProps_eq,
    trackUIDProps_eq]
  exact ⟨fun p hp => programme_roundtrip v2 _ p (hv.programmes p hp),
    fun c hc => content_roundtrip v2 _ c (hv.contents c hc),
    fun o ho => object_roundtrip v2 _ o (hv.objects o ho),
    fun p _ => packFormat_roundtrip _ p,
    fun c hc => channelFormat_roundtrip v2 _ c (hv.channelFormats c hc),
    fun s _ => streamFormat_roundtrip _ s,
    fun t _ => trackFormat_roundtrip _ t,
    fun u hu => trackUID_roundtrip v2 _ u (hv.trackUIDs u hu)⟩

/-- the nested element classes, in table form: block formats of the four remaining types, the Matrix coefficient,
loudnessMetadata, audioObjectInteraction, alternativeValueSet, the reference screen -/
theorem C08_nested_roundtrip (v2 : Bool) (name : String) :
    (∀ b, DSValid v2 b → RoundTrips (propsX v2 (rowsOf v2 "audioBlockFormat:DirectSpeakers")) dsDefaults name b.toObj) ∧
    (∀ b, HoaValid v2 b → RoundTrips (propsX v2 (rowsOf v2 "audioBlockFormat:HOA")) blockDefaults name b.toObj) ∧
    (∀ b, BinauralValid v2 b →
      RoundTrips (propsX v2 (rowsOf v2 "audioBlockFormat:Binaural")) blockDefaults name b.toObj) ∧
    (∀ b, MatrixValid v2 b → RoundTrips (propsX v2 (rowsOf v2 "audioBlockFormat:Matrix")) matrixDefaults name b.toObj) ∧
    (∀ b, Earverif.XmlBlocks.Valid v2 b →
      RoundTrips (propsX v2 (rowsOf v2 "audioBlockFormat:Objects")) objectsDefaults name b.toObj) ∧
    (∀ c : Coefficient, RoundTrips (propsX v2 (rowsOf v2 "coefficient")) noneDefaults name c.toObj) ∧
    (∀ l : Loudness, RoundTrips (propsX v2 (rowsOf v2 "loudnessMetadata")) noneDefaults name l.toObj) ∧
    (∀ i, InteractionValid i → RoundTrips (propsX v2 (rowsOf v2 "audioObjectInteraction")) noneDefaults name i.toObj) ∧
    (∀ a, AVSValid a → RoundTrips (propsX v2 (rowsOf v2 "alternativeValueSet")) noneDefaults name a.toObj) ∧
    (∀ s : Screen, s.centrePosition.inRange →
      RoundTrips (propsX v2 ((Earverif.Gen.C08.parsers.lookup "audioProgrammeReferenceScreen").getD [])) noneDefaults name
        s.toObj) := by
  rw [dsProps_eq, hoaProps_eq, binauralProps_eq, matrixProps_eq, objectsXProps_eq, coeffProps_eq, loudnessProps_eq,
    interactionProps_eq, avsProps_eq, screenProps_eq]
  refine ⟨fun b hb => directSpeakersBlock_roundtrip v2 _ b hb, fun b hb => hoaBlock_roundtrip v2 _ b hb,
    fun b hb => binauralBlock_roundtrip v2 _ b hb, fun b hb => matrixBlock_roundtrip v2 _ b hb, ?_,
    fun c => coeff_roundtrip v2 _ c, fun l => loudness_roundtrip _ l, fun i hi => interaction_roundtrip v2 _ i hi,
    fun a ha => avs_roundtrip v2 _ a ha, fun s hs => screen_roundtrip _ s hs⟩
  intro b hb
  have := objectsBlock_roundtrip v2 name b hb
  rw [objectsProps_eq] at this
  exact this

/-- non-vacuity of `DocValid`: a BS.2076-2 document with one element of each kind -/
example : DocValid true
    { programmes := [⟨"APR_1001", "p", none, none, none, none, ["ACO_1001"], defaultScreen, [], []⟩],
      contents := [⟨"ACO_1001", "c", none, none, ["AO_1001"], [], []⟩],
      objects := [⟨"AO_1001", "o", none, none, none, none, none, none, ["AP_00051001"], [], [], [some "ATU_00000001"],
        50000, false, none, [], none⟩],
      packFormats := [⟨"AP_00051001", "pk", .binaural, none, ["AC_00051001"], [], none, [], none, none, none, none, none⟩],
      channelFormats := [⟨"AC_00051001", "ch", .binaural, [.binaural ⟨"AB_00051001_00000001", none, none, 100000, 10⟩],
        ⟨none, none⟩⟩],
      streamFormats := [], trackFormats := [],
      trackUIDs := [⟨"ATU_00000001", some 48000, some 24, none, some "AC_00051001", some "AP_00051001"⟩] } := by
  constructor <;> simp only [List.forall_mem_singleton]
  · constructor <;> simp [TimeOK, defaultScreen, Earverif.XmlCustom.CentrePosition.inRange]
  · exact ⟨by simp⟩
  · constructor <;> simp [TimeOK]
  · constructor <;> simp [BlockValid, TypeDef.name, Block.kind]
    constructor <;> simp [TimeOK, V1Default]
  · simp [TrackUIDValid]

end Document

section Transfer
open Earverif.Chna Earverif.ChnaTransfer

/-- (1) For a well-formed document (`WFDoc`, `WFTrack`): `populate_chna_chunk` writes rows, and
`load_chna_chunk` of these rows into ANY copy of the document without track information (no index; per track UID the
format / pack references kept as parsed from AXML or dropped) restores every track UID.  (2) For a well-formed chunk
that names the elements by their stored ids: loading it into a document without audioTrackUIDs and populating again
reproduces the chunk. -/
theorem chna_transfer_roundtrip (lookup : Bytes → Option Bytes) :
    (∀ tracks, WFDoc lookup tracks → ∃ rows, populateChna tracks = .ok rows ∧
      ∀ kf kp : TrackUID → Bool, loadChna lookup (tracks.map fun t => forget (kf t) (kp t) t) rows = .ok tracks) ∧
    (∀ rows, WFChunk lookup rows → (∀ e ∈ rows, up e.audioTrackUID = e.audioTrackUID) →
      (∀ e ∈ rows, lookup (up e.audioTrackFormatIDRef) = some e.audioTrackFormatIDRef) →
      (∀ e ∈ rows, ∀ p, e.audioPackFormatIDRef = some p → lookup p = some p) →
      ∃ ts, loadChna lookup [] rows = .ok ts ∧ populateChna ts = .ok rows) := by
  refine ⟨transfer_roundtrip_all lookup, fun rows h hu hr hp => ?_⟩
  exact ⟨_, chna_only lookup rows h, populate_chna_only lookup rows hu hr hp⟩

/-- the lookup of a document whose other elements are two channel formats, a track format (common-definition style id
with a lower-case hex digit) and a pack format -/
def exLookup : Bytes → Option Bytes :=
  chainLookup [some (asciiBytes "AC_00031001"), some (asciiBytes "AC_00031002"), some (asciiBytes "AT_0001000a_01"),
    some (asciiBytes "AP_00031001")] []

/-- a BS.2076-2 style track UID (audioChannelFormat reference, pack) and a BS.2076-1 style one (audioTrackFormat
reference, no pack) -/
def exTracks : List TrackUID :=
  [⟨asciiBytes "ATU_00000001", some 2, none, some (asciiBytes "AC_00031001"), some (asciiBytes "AP_00031001"), none, none, none⟩,
   ⟨asciiBytes "ATU_00000002", some 1, some (asciiBytes "AT_0001000a_01"), none, none, none, none, none⟩]

/-- non-vacuity of `WFDoc` / `WFChunk`, and the rows written for the example -/
example : WFDoc exLookup exTracks ∧
    populateChna exTracks = .ok [⟨2, asciiBytes "ATU_00000001", asciiBytes "AC_00031001", some (asciiBytes "AP_00031001")⟩,
      ⟨1, asciiBytes "ATU_00000002", asciiBytes "AT_0001000a_01", none⟩] := by
  refine ⟨⟨by decide, ?_⟩, by decide⟩
  intro t ht
  simp only [exTracks, List.mem_cons, List.not_mem_nil, or_false] at ht
  rcases ht with rfl | rfl
  · exact ⟨⟨2, rfl⟩, ⟨rfl, rfl, rfl⟩, Or.inr ⟨_, rfl, rfl, by decide, by decide⟩,
      fun p hp => (by injection hp with hp; subst hp; decide), by decide⟩
  · exact ⟨⟨1, rfl⟩, ⟨rfl, rfl, rfl⟩, Or.inl ⟨_, rfl, rfl, by decide, by decide⟩, fun p hp => (by cases hp), by decide⟩

/-- `populate_chna_chunk` does not sort or filter: the rows are the document's track UIDs
in order, each with its own UID and (1-based) index; hence distinct UIDs in the document give distinct UIDs in the
chunk.  (A track UID without index makes the whole call raise — see `chna_excluded_points_transfer`.) -/
theorem chna_rows_in_document_order (tracks : List TrackUID) (rows : List Entry) (h : populateChna tracks = .ok rows) :
    rows.map (·.audioTrackUID) = tracks.map (·.id) ∧
    rows.map (fun e => some e.trackIndex) = tracks.map (·.trackIndex) ∧
    rows.length = tracks.length ∧
    ((tracks.map (·.id)).Nodup → (rows.map (·.audioTrackUID)).Nodup) := by
  obtain ⟨h1, h2⟩ := mapM_entryOf_uids tracks rows h
  refine ⟨h1, h2, ?_, fun hn => by rw [h1]; exact hn⟩
  have := congrArg List.length h1
  simpa using this

/-- **Conflicts between AXML and CHNA are rejected** with the error of the code.  For a document with distinct UIDs
and a chunk whose first row names the track UID `t` (UIDs compared upper-cased): another track index is the
`AssertionError`; with a compatible index, an audioChannelFormat in AXML against a CHNA reference of the other kind
or with another id is the "CHNA entry references … but AXML references …" `Exception` (symmetrically for an
audioTrackFormat), a track UID linked to both kinds is the "linked to both" `Exception`, and — the format reference
agreeing — another audioPackFormat id is the "does not match value in AXML" `Exception`.  Nothing is loaded. -/
theorem chna_conflict_rejected (lookup : Bytes → Option Bytes) (tracks : List TrackUID)
    (hnd : (tracks.map fun t => up t.id).Nodup) (j : Nat) (t : TrackUID) (e : Entry) (rest : List Entry)
    (ht : tracks[j]? = some t) (hu : up e.audioTrackUID = up t.id) :
    (∀ i, t.trackIndex = some i → i ≠ e.trackIndex → loadChna lookup tracks (e :: rest) = .error .indexMismatch) ∧
    ((t.trackIndex = none ∨ t.trackIndex = some e.trackIndex) →
      ((∃ a b, t.audioTrackFormat = some a ∧ t.audioChannelFormat = some b) →
        loadChna lookup tracks (e :: rest) = .error .bothLinked) ∧
      (∀ c, t.audioChannelFormat = some c → t.audioTrackFormat = none →
        ¬ (acPrefix.isPrefixOf e.audioTrackFormatIDRef = true ∧ up e.audioTrackFormatIDRef = up c) →
        loadChna lookup tracks (e :: rest) = .error .refConflict) ∧
      (∀ r, t.audioTrackFormat = some r → t.audioChannelFormat = none →
        ¬ (acPrefix.isPrefixOf e.audioTrackFormatIDRef = false ∧ up e.audioTrackFormatIDRef = up r) →
        loadChna lookup tracks (e :: rest) = .error .refConflict) ∧
      (∀ c p q, t.audioChannelFormat = some c → t.audioTrackFormat = none →
        acPrefix.isPrefixOf e.audioTrackFormatIDRef = true → up e.audioTrackFormatIDRef = up c →
        e.audioPackFormatIDRef = some p → t.audioPackFormat = some q → up q ≠ up p →
        loadChna lookup tracks (e :: rest) = .error .packConflict) ∧
      (∀ r p q, t.audioTrackFormat = some r → t.audioChannelFormat = none →
        acPrefix.isPrefixOf e.audioTrackFormatIDRef = false → up e.audioTrackFormatIDRef = up r →
        e.audioPackFormatIDRef = some p → t.audioPackFormat = some q → up q ≠ up p →
        loadChna lookup tracks (e :: rest) = .error .packConflict)) := by
  have lift := fun x (h : loadInto t e = .error x) => load_first_row_error lookup tracks hnd j t e rest x ht hu h
  obtain ⟨h1, h2⟩ := loadInto_conflicts t e
  refine ⟨fun i hi hne => lift _ (h1 i hi hne), fun hidx => ?_⟩
  obtain ⟨a, b, c, d, f⟩ := h2 hidx
  exact ⟨fun h => lift _ (a h), fun x h1 h2 h3 => lift _ (b x h1 h2 h3), fun x h1 h2 h3 => lift _ (c x h1 h2 h3),
    fun x p q h1 h2 h3 h4 h5 h6 h7 => lift _ (d x p q h1 h2 h3 h4 h5 h6 h7),
    fun x p q h1 h2 h3 h4 h5 h6 h7 => lift _ (f x p q h1 h2 h3 h4 h5 h6 h7)⟩

/-- non-vacuity of `chna_conflict_rejected`: the example document against a row that names another channel format -/
example : loadChna exLookup (exTracks.map (forget true true))
    [⟨2, asciiBytes "ATU_00000001", asciiBytes "AC_00031002", none⟩] = .error .refConflict := by decide +kernel

/-- Every row of a well-formed chunk (`WFChunk`) yields an audioTrackUID with exactly the row's data, in row order:
the UID (upper-cased), the index, the reference as audioChannelFormat iff the CHNA string starts with `AC_` (otherwise
as audioTrackFormat), the pack format if the row has one. -/
theorem chna_only_document (lookup : Bytes → Option Bytes) (rows : List Entry) (h : WFChunk lookup rows) :
    loadChna lookup [] rows = .ok (rows.map (trackOf lookup)) := chna_only lookup rows h

example : WFChunk exLookup [⟨7, asciiBytes "ATU_00000009", asciiBytes "AT_0001000A_01", some (asciiBytes "AP_00031001")⟩] := by
  refine ⟨by decide +kernel, ?_, ?_, ?_⟩
  · intro e he; simp only [List.mem_singleton] at he; subst he; decide +kernel
  · intro e he; simp only [List.mem_singleton] at he; subst he; exact ⟨asciiBytes "AT_0001000a_01", by decide +kernel⟩
  · intro e he p hp; simp only [List.mem_singleton] at he; subst he
    injection hp with hp; subst hp; exact ⟨asciiBytes "AP_00031001", by decide +kernel⟩

/-- a UID present in the AXML but absent from CHNA is not an error: the track UID keeps `trackIndex = None` -/
theorem chna_absent_uid_untouched (lookup : Bytes → Option Bytes) (tracks : List TrackUID)
    (hnd : (tracks.map fun t => up t.id).Nodup) (hs : ∀ t ∈ tracks, up t.id ≠ ChnaTransfer.silentUID)
    (hp : ∀ t ∈ tracks, t.audioTrackFormatIDRef = none ∧ t.audioChannelFormatIDRef = none ∧ t.audioPackFormatIDRef = none) :
    loadChna lookup tracks [] = .ok tracks := load_no_rows lookup tracks hnd hs hp

/-- `validate_trackIndex` accepts exactly the documents in which every track index that is present is at most the
channel count (nothing is said about a lower bound: see `chna_excluded_points_transfer`) -/
theorem chna_validate_trackIndex (tracks : List TrackUID) (n : Nat) :
    validateTrackIndex tracks n = .ok () ↔ ∀ t ∈ tracks, ∀ i, t.trackIndex = some i → i ≤ n :=
  validateTrackIndex_ok_iff tracks n

/-- `numTracks ≤ numUIDs`; and for fewer than 65 536 well-formed rows (`WFEntry`) the chunk data of
`ChnaChunk.asByteArray` is read back by `_read_chna_chunk` as the same rows (composition with `chna_entry_roundtrip`:
`AC_` references are padded with `_00` on disk and stripped again). -/
theorem chna_chunk_roundtrip (rows : List Entry) (hlen : rows.length < 65536) (hwf : ∀ e ∈ rows, WFEntry e) :
    numTracks rows ≤ numUIDs rows ∧ ∃ bs, encodeChunk rows = some bs ∧ decodeChunk bs = .ok rows :=
  ⟨numTracks_le_numUIDs rows, chunk_roundtrip rows hlen (fun e he => chna_entry_roundtrip e (hwf e he))⟩

/-- the whole way: document → rows → chunk bytes → rows → fresh document -/
theorem chna_transfer_through_bytes (lookup : Bytes → Option Bytes) (tracks : List TrackUID) (h : WFDoc lookup tracks)
    (rows : List Entry) (hrows : populateChna tracks = .ok rows) (hlen : tracks.length < 65536)
    (hwf : ∀ e ∈ rows, WFEntry e) (kf kp : TrackUID → Bool) :
    ∃ bs, encodeChunk rows = some bs ∧
      (decodeChunk bs).toOption.map (loadChna lookup (tracks.map fun t => forget (kf t) (kp t) t)) = some (.ok tracks) := by
  obtain ⟨rows', hr', hload⟩ := (chna_transfer_roundtrip lookup).1 tracks h
  rw [hrows] at hr'; injection hr' with hr'; subst hr'
  have hl : rows.length < 65536 := by rw [(chna_rows_in_document_order tracks rows hrows).2.2.1]; exact hlen
  obtain ⟨_, bs, he, hd⟩ := chna_chunk_roundtrip rows hl hwf
  exact ⟨bs, he, by simp [hd, Except.toOption, hload kf kp]⟩

/-- **Excluded points of the transfer**, as the code behaves (each also run on the real code by the harness):
a track UID without index makes `populate_chna_chunk` raise (nothing is written, not "only those with an index");
a CHNA reference with a lower-case `ac_` prefix is stored as *audioTrackFormat* (the kind test is case-sensitive, the
lookup is not); two rows for the same known UID: the last reference wins silently; a UID unknown to the document that
occurs in two rows creates two track UIDs and is then an `AdmIDError`; the reserved UID in a row is refused; track
index 0 passes `validate_trackIndex`. -/
theorem chna_excluded_points_transfer :
    populateChna (exTracks.map (forget true true)) = .error .noTrackIndex ∧
    loadChna exLookup [] [⟨1, asciiBytes "ATU_00000001", asciiBytes "ac_00031001", none⟩]
      = .ok [⟨asciiBytes "ATU_00000001", some 1, some (asciiBytes "AC_00031001"), none, none, none, none, none⟩] ∧
    loadChna exLookup [⟨asciiBytes "ATU_00000001", none, none, none, none, none, none, none⟩]
        [⟨1, asciiBytes "ATU_00000001", asciiBytes "AC_00031001", none⟩,
         ⟨1, asciiBytes "ATU_00000001", asciiBytes "AC_00031002", none⟩]
      = .ok [⟨asciiBytes "ATU_00000001", some 1, none, some (asciiBytes "AC_00031002"), none, none, none, none⟩] ∧
    loadChna exLookup [] [⟨1, asciiBytes "ATU_00000005", asciiBytes "AC_00031001", none⟩,
        ⟨2, asciiBytes "atu_00000005", asciiBytes "AC_00031001", none⟩] = .error .duplicateID ∧
    loadChna exLookup [] [⟨1, asciiBytes "ATU_00000000", asciiBytes "AC_00031001", none⟩] = .error .silentUID ∧
    validateTrackIndex [⟨asciiBytes "ATU_00000001", some 0, none, none, none, none, none, none⟩] 1 = .ok () := by
  decide +kernel

end Transfer

section Refs
open Earverif.AdmRefs

/-- **`lookup_element` is unique on distinct ids.**  If the (upper-cased) ids of the elements that have one are
pairwise distinct, `lookup_element(key)` returns `e` iff `e` is an element of the document whose id matches `key`
case-insensitively — the unique such element; it raises `KeyError` iff no element matches. -/
theorem lookup_unique {ι : Type} [DecidableEq ι] (up : ι → ι) (els : List (Elem ι)) (h : (keys up els).Nodup)
    (key : ι) :
    (∀ e, lookup up els key = some e ↔ e ∈ els ∧ e.id.map up = some (up key)) ∧
    (lookup up els key = none ↔ ∀ e ∈ els, e.id.map up ≠ some (up key)) :=
  ⟨fun e => lookup_eq_some_iff up els h key e, lookup_eq_none_iff up els key⟩

/-- **A repeated id within a class is rejected with `AdmIDError`** by `lazy_lookup_references` (not at `addAudio…`
time, not by `lookup_element`), whichever class it is in and whatever else the document contains — provided no two
*common definitions* share an id (that is the `AssertionError` of the code).  The references are never resolved to one
of the two elements: nothing is resolved. -/
theorem duplicate_id_rejected {ι : Type} [DecidableEq ι] (up : ι → ι) (a : ADM ι)
    (hc : ∀ l ∈ a.lists, CommonsDistinct up l) (hd : ∃ l ∈ a.lists, HasDuplicate up l) :
    lazyLookupReferences up a = .error .admIDError := by
  unfold lazyLookupReferences
  simp [dedupAll_dup up a hc hd, bind, Except.bind]

def exElem (oid : Nat) (c : Cls) (id : Nat) (fields : List (AdmRefs.Field Nat)) : Elem Nat :=
  ⟨oid, c, some id, false, fields, none, [], []⟩

/-- an audioProgramme → audioContent → audioObject chain; the object refers to itself as a complementary object and to
the silent track -/
def exADM : ADM Nat :=
  { ADM.empty with
    programmes := [exElem 1 .programme 100 [⟨"audioContents", .plain, some [some 200], []⟩]]
    contents := [exElem 2 .content 200 [⟨"audioObjects", .plain, some [some 300], []⟩]]
    objects := [exElem 3 .object 300 [⟨"audioTrackUIDs", .silentOK, some [none], []⟩,
      ⟨"audioComplementaryObjects", .plain, some [some 300], []⟩]] }

/-- non-vacuity of `duplicate_id_rejected`: the example document with its audioContent added twice -/
example : (∀ l ∈ (exADM.add (exElem 9 .content 200 [])).lists, CommonsDistinct id l) ∧
    ∃ l ∈ (exADM.add (exElem 9 .content 200 [])).lists, HasDuplicate id l := by
  constructor
  · -- there is no common definition in the example
    have hD : ∀ l ∈ (exADM.add (exElem 9 .content 200 [])).lists, ∀ e ∈ l, e.common = false := by decide
    intro l hl k
    rw [List.filter_eq_nil_iff.mpr fun e he => by simp [hD l hl e (List.mem_of_mem_filter he)]]
    exact Nat.zero_le 1
  · refine ⟨_, List.mem_cons_of_mem _ (List.mem_cons_self), 0, 1, _, _, 200, by omega, rfl, rfl, rfl, rfl, rfl, rfl⟩

/-- **The same id in two classes is NOT rejected** (the duplicate pass works list by list): the document is
resolved, and `lookup_element` answers the first element in class order — here the audioPackFormat, although the id is
also that of an audioChannelFormat.  (Outside the property's quantifier — generated ids carry their class prefix —
but recorded from the real code on every run.) -/
theorem duplicate_across_classes_not_rejected :
    let a : ADM Nat := { ADM.empty with packFormats := [exElem 1 .pack 7 []], channelFormats := [exElem 2 .channel 7 []] }
    (lazyLookupReferences id a).toOption.isSome = true ∧ (lookup id a.elements 7).map (·.cls) = some .pack := by
  decide

/-- **Resolution is total on a closed document, and stores the element whose id was written.**  Let `a'` be the
document after the duplicate pass.  If (`Static`) the references meet the conditions under which the loop raises
nothing but `KeyError` — `None` only in `audioTrackUIDRef`, `decodePackFormatIDRef` naming audioPackFormats, the
stream ↔ track links consistent with one stream `σ t` per audioTrackFormat `t` —, (`AvsOK`) alternativeValueSet ids are
distinct and every `alternativeValueSetIDRef` names one, and (`Closed`) every id in every other `IDRef` attribute names
an element of the document (common definitions included: they are in the same lists), then `lazy_lookup_references`
raises nothing; the chain keeps its length; and every plain reference attribute (contents, objects, packs, channels,
track UIDs incl. the silent one, complementary objects, input / output packs, stream → channel / pack, track UID →
track / channel / pack, Matrix coefficient inputs and outputChannelFormat) that had an `IDRef` list now has
`IDRef = None` and holds, id by id, the element `lookup_element` finds for that id (`None` stays `None`); an attribute
whose `IDRef` was `None` is unchanged. -/
theorem resolve_total_on_closed {ι : Type} [DecidableEq ι] (up : ι → ι) (σ : Oid → Oid) (a a' : ADM ι)
    (hd : dedupAll up a = .ok a') (hS : Static up σ a'.elements) (hA : AvsOK up a'.elements)
    (hC : Closed up a'.elements) :
    ∃ r, lazyLookupReferences up a = .ok r ∧ r.elements.length = a'.elements.length ∧
      ∀ t f, fieldAt a'.elements t = some f → (f.mode = .plain ∨ f.mode = .silentOK) →
        ∃ f', fieldAt r.elements t = some f' ∧ f'.name = f.name ∧ f'.mode = f.mode ∧
          (∀ refs, f.pending = some refs → f'.pending = none ∧ f'.resolved = resolvedValue up a'.elements refs) ∧
          (f.pending = none → f' = f) := by
  obtain ⟨st', hs, hlen, hspec⟩ := resolveChain_closed up σ a'.elements hS hA hC
  refine ⟨rebuild a' st', ?_, by rw [rebuild_elements]; exact hlen, ?_⟩
  · unfold lazyLookupReferences
    simp [hd, hs, bind, Except.bind, pure, Except.pure]
  · rw [rebuild_elements]; exact hspec

/-- **A dangling reference is rejected with `KeyError`.**  If, after the duplicate pass, some (non-alternativeValueSet)
`IDRef` attribute contains an id that no element of the document has, `lazy_lookup_references` raises `KeyError` —
under `Static`, i.e. when the other two exceptions of the loop (`AttributeError` for a `None` / wrong-class link target,
`AdmError` for a track format linked to two streams) are excluded for the references that do resolve. -/
theorem resolve_dangling_rejected {ι : Type} [DecidableEq ι] (up : ι → ι) (σ : Oid → Oid) (a a' : ADM ι)
    (hd : dedupAll up a = .ok a') (hS : Static up σ a'.elements)
    (hD : ∃ t, DanglingAt up a'.elements a'.elements t) :
    lazyLookupReferences up a = .error .keyError := by
  unfold lazyLookupReferences
  simp [hd, resolveChain_dangling up σ a'.elements hS hD, bind, Except.bind]

/-- non-vacuity of the hypotheses of `resolve_total_on_closed` (the example chain), and of
`resolve_dangling_rejected` (the same document with a content reference to the unknown id 201) -/
example : dedupAll id exADM = .ok exADM ∧ Static id (fun _ => 0) exADM.elements ∧ AvsOK id exADM.elements ∧
    Closed id exADM.elements ∧
    (∃ t, DanglingAt id (exADM.add (exElem 4 .programme 101 [⟨"audioContents", .plain, some [some 201], []⟩])).elements
      (exADM.add (exElem 4 .programme 101 [⟨"audioContents", .plain, some [some 201], []⟩])).elements t) := by
  -- every field of the example is a plain reference list (one may hold the silent track) whose ids are found
  have hD : ∀ e ∈ exADM.elements, e.streamLink = none ∧ ∀ f ∈ e.fields,
      (f.mode = .plain ∨ f.mode = .silentOK) ∧ (none ∈ f.pending.getD [] → f.mode = .silentOK) ∧
      ∀ r ∈ f.pending.getD [], ∀ k ∈ r, (lookupIdx id exADM.elements k).isSome := by decide
  refine ⟨?_, ?_, ?_, ?_, ?_⟩
  · exact dedupAll_of_distinct id _ (by simp only [DistinctIds]; decide)
  · refine static_of_forall id _ _ (fun e he s hs => by rw [(hD e he).1] at hs; cases hs)
      fun e he f hf _ refs hp r hr => ?_
    obtain ⟨hm, hs, -⟩ := (hD e he).2 f hf
    cases r with
    | none => exact hs (by rw [hp]; exact hr)
    | some k => intro i tgt _ _; rcases hm with h | h <;> simp [h]
  · exact ⟨⟨[], by decide⟩, fun tbl _ i e he f hf hm => by
      rcases ((hD e (List.mem_of_getElem? he)).2 f hf).1 with h | h <;> rw [h] at hm <;> cases hm⟩
  · refine closed_of_forall id _ fun e he f hf _ refs hp k hk => ?_
    exact Option.isSome_iff_exists.mp (((hD e he).2 f hf).2.2 (some k) (by rw [hp]; exact hk) k rfl)
  · exact ⟨(1, 0), ⟨"audioContents", .plain, some [some 201], []⟩, [some 201], rfl, by decide, rfl, some 201,
      by simp, 201, rfl, by decide⟩

end Refs

section RefsDoc
open Earverif.AdmRefs Earverif.AdmRefsDoc Earverif.XmlCodec Earverif.XmlBlocks Earverif.XmlElements

/-- parse what `to_xml` wrote for each element of one class -/
def parseWritten (ps : List (Property XV)) (cdflt : Obj XV) (name : String) (objs : List (Obj XV)) :
    Option (List (Obj XV)) :=
  objs.mapM fun o => parse ps cdflt (toXml ps name o)

/-- `adm_to_xml` followed by `parse_adm_elements` into a document that holds the common definitions `cd`: every main
element written by the `to_xml` of its class and parsed by the parser that the regenerated handler table declares for
the class; the parsed arguments are then made into elements and added (`admOfObjs`).  `none` = some parser raises. -/
def admOfParsed (v2 : Bool) (cd : ADM String) (d : Document) : Option (ADM String) := do
  let ps ← parseWritten (propsX v2 (rowsOf v2 "audioProgramme")) programmeDefaults "audioProgramme" (d.programmes.map (·.toObj))
  let cs ← parseWritten (propsX v2 (rowsOf v2 "audioContent")) contentDefaults "audioContent" (d.contents.map (·.toObj))
  let os ← parseWritten (propsX v2 (rowsOf v2 "audioObject")) objectDefaults "audioObject" (d.objects.map (·.toObj))
  let pks ← parseWritten (propsX v2 (rowsOf v2 "audioPackFormat")) packDefaults "audioPackFormat" (d.packFormats.map (·.toObj))
  let chs ← parseWritten (propsX v2 (rowsOf v2 "audioChannelFormat")) channelDefaults "audioChannelFormat" (d.channelFormats.map (·.toObj))
  let ss ← parseWritten (propsX v2 (rowsOf v2 "audioStreamFormat")) streamDefaults "audioStreamFormat" (d.streamFormats.map (·.toObj))
  let ts ← parseWritten (propsX v2 (rowsOf v2 "audioTrackFormat")) noneDefaults "audioTrackFormat" (d.trackFormats.map (·.toObj))
  let us ← parseWritten (propsX v2 (rowsOf v2 "audioTrackUID")) noneDefaults "audioTrackUID" (d.trackUIDs.map (·.toObj))
  pure (admOfObjs cd ps cs os pks chs ss ts us)

theorem parseWritten_of_roundtrips {α : Type} {ps : List (Property XV)} {cdflt : Obj XV} {name : String}
    {toObj : α → Obj XV} {l : List α} (h : ∀ x ∈ l, RoundTrips ps cdflt name (toObj x)) :
    parseWritten ps cdflt name (l.map toObj) = some (l.map toObj) := by
  unfold parseWritten
  rw [List.mapM_map]
  exact mapM_eq_pure_map fun x hx => (h x hx).1

/-- **Write → parse → resolve preserves the reference structure.**  For a `DocValid` document `d` (BS.2076-1 or -2)
added to common definitions `cd`:
(1) *composition with `C08_roundtrip_model`*: the document obtained by writing every main element and parsing it back
is the document itself — same elements, same ids, the same id in every `…IDRef` argument (`admOfParsed = admOfDoc`);
(2) hence, when the ids of each class (common definitions included) are pairwise distinct and the document is
`Static` / `AvsOK` / `Closed`, `lazy_lookup_references` of the parsed document raises nothing and every plain
reference attribute holds, id by id, the element that `lookup_element` finds for the id that was written —
by `lookup_unique` THE element of the document with that id. -/
theorem resolve_then_ids_roundtrip (v2 : Bool) (d : Document) (hv : DocValid v2 d) (cd : ADM String) (σ : Oid → Oid) :
    admOfParsed v2 cd d = some (admOfDoc cd d) ∧
    ((∀ l ∈ (admOfDoc cd d).lists, DistinctIds upStr l) → Static upStr σ (admOfDoc cd d).elements →
      AvsOK upStr (admOfDoc cd d).elements → Closed upStr (admOfDoc cd d).elements →
      ∃ r, (admOfParsed v2 cd d).map (lazyLookupReferences upStr) = some (.ok r) ∧
        ∀ t f, fieldAt (admOfDoc cd d).elements t = some f → (f.mode = .plain ∨ f.mode = .silentOK) →
          ∃ f', fieldAt r.elements t = some f' ∧ f'.name = f.name ∧
            ∀ refs, f.pending = some refs → f'.pending = none ∧
              f'.resolved = refs.map (fun r => r.bind fun k => (lookup upStr (admOfDoc cd d).elements k).map (·.oid))) := by
  obtain ⟨h1, h2, h3, h4, h5, h6, h7, h8⟩ := C08_roundtrip_model v2 d hv
  have hparsed : admOfParsed v2 cd d = some (admOfDoc cd d) := by
    unfold admOfParsed admOfDoc
    simp only [parseWritten_of_roundtrips h1, parseWritten_of_roundtrips h2, parseWritten_of_roundtrips h3,
      parseWritten_of_roundtrips h4, parseWritten_of_roundtrips h5, parseWritten_of_roundtrips h6,
      parseWritten_of_roundtrips h7, parseWritten_of_roundtrips h8, bind, Option.bind, pure]
  refine ⟨hparsed, fun hdist hS hA hC => ?_⟩
  obtain ⟨r, hr, _, hspec⟩ := resolve_total_on_closed upStr σ (admOfDoc cd d) (admOfDoc cd d)
    (dedupAll_of_distinct upStr _ hdist) hS hA hC
  refine ⟨r, by rw [hparsed]; simp [hr], ?_⟩
  intro t f hf hm
  obtain ⟨f', hf', hn, _, hres, _⟩ := hspec t f hf hm
  exact ⟨f', hf', hn, fun refs hp => hres refs hp⟩

theorem pendOfVal_strs (l : List String) : pendOfVal (strs l) = some (l.map some) := by
  simp [pendOfVal, strs, refOfXV, Function.comp_def]

theorem pendOfVal_optStrV (x : Option String) : pendOfVal (.one (optStrV x)) = x.map fun s => [some s] := by
  cases x <;> rfl

theorem refOfXV_uidRef (x : Option String) : refOfXV (uidRef x) = x := by
  cases x <;> rfl

theorem pendOfVal_uidRefs (l : List (Option String)) : pendOfVal (.many (l.map uidRef)) = some l := by
  simp [pendOfVal, Function.comp_def, refOfXV_uidRef]

/-- what the reference attributes of the parsed elements hold: exactly the ids of the document (shown for the classes
with list / single / silent-track / link references; `audioChannelFormat` carries the Matrix block references) -/
theorem parsed_reference_fields (pos : Nat) :
    (∀ p : Programme, (elemOfObj .programme pos p.toObj).id = some p.id ∧
      (elemOfObj .programme pos p.toObj).fields =
        [⟨"audioContents", .plain, some (p.audioContents.map some), []⟩,
         ⟨"alternativeValueSets", .avs, some (p.alternativeValueSets.map some), []⟩]) ∧
    (∀ o : AObject, (elemOfObj .object pos o.toObj).fields =
        [⟨"audioPackFormats", .plain, some (o.audioPackFormats.map some), []⟩,
         ⟨"audioTrackUIDs", .silentOK, some o.audioTrackUIDs, []⟩,
         ⟨"audioObjects", .plain, some (o.audioObjects.map some), []⟩,
         ⟨"audioComplementaryObjects", .plain, some (o.audioComplementaryObjects.map some), []⟩]) ∧
    (∀ u : TrackUID, (elemOfObj .trackUID pos u.toObj).fields =
        [⟨"audioTrackFormat", .plain, u.audioTrackFormat.map fun s => [some s], []⟩,
         ⟨"audioChannelFormat", .plain, u.audioChannelFormat.map fun s => [some s], []⟩,
         ⟨"audioPackFormat", .plain, u.audioPackFormat.map fun s => [some s], []⟩]) ∧
    (∀ s : StreamFormat, (elemOfObj .stream pos s.toObj).fields =
        [⟨"audioChannelFormat", .plain, s.audioChannelFormat.map fun x => [some x], []⟩,
         ⟨"audioPackFormat", .plain, s.audioPackFormat.map fun x => [some x], []⟩,
         ⟨"audioTrackFormats", .linkTracks, some (s.audioTrackFormats.map some), []⟩]) := by
  -- `elemOfObj` gives each attribute of `classFields` the `pendOfVal` of the constructor argument that `idrefArg` names
  -- for it (the two tables are evaluated by the `show`); `simp` then reads that argument off `toObj`
  refine ⟨fun p => ⟨rfl, ?_⟩, fun o => ?_, fun u => ?_, fun s => ?_⟩
  · show ([⟨_, _, pendOfVal (p.toObj _), _⟩, ⟨_, _, pendOfVal (p.toObj _), _⟩] : List (AdmRefs.Field String)) = _
    simp [Programme.toObj, pendOfVal_strs]
  · show ([⟨_, _, pendOfVal (o.toObj _), _⟩, ⟨_, _, pendOfVal (o.toObj _), _⟩, ⟨_, _, pendOfVal (o.toObj _), _⟩,
      ⟨_, _, pendOfVal (o.toObj _), _⟩] : List (AdmRefs.Field String)) = _
    simp [AObject.toObj, pendOfVal_strs, pendOfVal_uidRefs]
  · show ([⟨_, _, pendOfVal (u.toObj _), _⟩, ⟨_, _, pendOfVal (u.toObj _), _⟩, ⟨_, _, pendOfVal (u.toObj _), _⟩] :
      List (AdmRefs.Field String)) = _
    simp [TrackUID.toObj, pendOfVal_optStrV]
  · show ([⟨_, _, pendOfVal (s.toObj _), _⟩, ⟨_, _, pendOfVal (s.toObj _), _⟩, ⟨_, _, pendOfVal (s.toObj _), _⟩] :
      List (AdmRefs.Field String)) = _
    simp [StreamFormat.toObj, pendOfVal_strs, pendOfVal_optStrV]

end RefsDoc


section FloatLeaf
open Earverif.FloatText Earverif.Ieee

/-- **Generating XML again reproduces the same bytes, for every float leaf.**  For every finite binary64 number
(`IsDouble m`: non-negative magnitude that is its own correctly rounded binary64 value, subnormals and the largest
double included; `neg` is the sign bit, so `-0.0` is covered) the text `"{:.5f}".format(x)` is read by `float()` as a
binary64 number `y` of the same sign whose text is the same.  No magnitude bound is needed: `y` is at least as close
to the printed decimal as `x` was (`rn53_nearest`), and an exact tie can only occur towards an even fifth decimal,
where it is resolved the same way again (`rhe_tie_even`, `rhe_stable`). -/
theorem fmt5_parse_fmt5 (neg : Bool) (m : ℚ) (hm : IsDouble m) :
    ∃ y, IsDouble y ∧ parseFloat (fmt5 (.fin neg m)) = some (.fin neg y) ∧ fmt5 (.fin neg y) = fmt5 (.fin neg m) :=
  Earverif.FloatText.fmt5_parse_fmt5 neg m hm

/-- **Numbers as printed to five decimals.**  The value read back is within half a unit of the fifth decimal plus
the reader's rounding (relative 2^-53) of the value written, and never further than one unit of the fifth decimal.
The rounding term cannot be dropped (`close_needs_rounding_term`: at 2^35 the doubles are 7.6e-6 apart). -/
theorem parse_fmt5_close (neg : Bool) (m : ℚ) (hm : IsDouble m) :
    ∃ y, parseFloat (fmt5 (.fin neg m)) = some (.fin neg y) ∧
      |(PyFloat.fin neg y).val - (PyFloat.fin neg m).val| ≤ 1 / 200000 + (m + 1 / 200000) / 2 ^ 53 ∧
      |(PyFloat.fin neg y).val - (PyFloat.fin neg m).val| ≤ 1 / 100000 :=
  Earverif.FloatText.parse_fmt5_close neg m hm

/-- **parse ∘ print is the identity on parsed documents.**  `x` = the double nearest to a decimal with at most five
fractional digits, `k / 10^5 < 2^36` (≈ 6.9e10): `x` is a binary64 number, it is printed as exactly
`[-]⌊k/10^5⌋.ddddd` and that text is read back as `x`.  The bound cannot be raised past the next grid point:
`k = 2^36·10^5 + 1` fails (`grid_bound_sharp`: the double nearest to `2^36 + 0.00001` has
`roundHalfEven (x·10^5) = …00002`). -/
theorem parse_fmt5_exact_of_5dec (neg : Bool) (k : ℕ) (hk : k < 2 ^ 36 * 10 ^ 5) :
    IsDouble (rn53 ((k : ℚ) / 100000)) ∧
    fmt5 (.fin neg (rn53 ((k : ℚ) / 100000))) = (if neg then '-' :: numText k else numText k) ∧
    parseFloat (if neg then '-' :: numText k else numText k) = some (.fin neg (rn53 ((k : ℚ) / 100000))) :=
  Earverif.FloatText.parse_fmt5_exact_of_5dec neg k hk

/-- second-generation stability of the value with no hypothesis on the magnitude: whatever was read back from a
printed number is reproduced exactly by every further print / parse -/
theorem parse_fmt5_idempotent (neg : Bool) (m : ℚ) (hm : IsDouble m) :
    ∃ y, IsDouble y ∧ parseFloat (fmt5 (.fin neg m)) = some (.fin neg y) ∧
      parseFloat (fmt5 (.fin neg y)) = some (.fin neg y) :=
  Earverif.FloatText.parse_fmt5_idempotent neg m hm

/-- `{:07.5f}` and `{:.5f}` print every finite number alike (the width never takes effect) -/
theorem fmt07_5_fin (neg : Bool) (m : ℚ) : fmt07_5 (.fin neg m) = fmt5 (.fin neg m) :=
  Earverif.FloatText.fmt07_5_fin neg m

/-- **`SecondsType`** (jumpPosition interpolationLength; the only user of the converter): for a non-negative
`Fraction` `t` that `float()` can hold (`rn64 t = some x`, i.e. no `OverflowError`) the attribute text is `n` units of
1e-5; `Fraction()` reads exactly `n / 10^5`; writing that again gives the same text; and `n / 10^5` is within
`0.5e-5 + t·2^-53` of `t`.  Negative values that round to zero are excluded (`seconds_negative_tiny_excluded`). -/
theorem seconds_roundtrip (t x : ℚ) (ht : 0 ≤ t) (hx : rn64 t = some x) :
    ∃ n : ℕ, secondsDumps t = some (numText n) ∧ parseFraction (numText n) = some ((n : ℚ) / 100000) ∧
      secondsDumps ((n : ℚ) / 100000) = some (numText n) ∧
      |(n : ℚ) / 100000 - t| ≤ 1 / 200000 + t / 2 ^ 53 :=
  Earverif.FloatText.seconds_roundtrip t x ht hx

/-- an interpolationLength on the printable grid (a multiple of 1e-5 s below 2^36 s) comes back exactly -/
theorem seconds_exact_of_5dec (k : ℕ) (hk : k < 2 ^ 36 * 10 ^ 5) :
    secondsDumps ((k : ℚ) / 100000) = some (numText k) ∧ parseFraction (numText k) = some ((k : ℚ) / 100000) :=
  Earverif.FloatText.seconds_exact_of_5dec k hk

/-- the float codec of the handler-table model (`Leaf.num k`, used by `handlers_codec_roundtrip` and
every class theorem) writes, for `|k| / 10^5 < 2^36`, the text the real `FloatType.dumps` prints for the double nearest
to `k / 10^5`, and the real `FloatType.loads` reads that text as that double.  The class / document theorems carry no
bound on `k`; `C08_roundtrip_model_floats_partial` applies this bridge to every number text of a `NumsBounded` document. -/
theorem floatCodec_refines (k : ℤ) (hk : k.natAbs < 2 ^ 36 * 10 ^ 5) :
    (Earverif.XmlCodec.dumpsNum k).toList = fmt5 (.fin (decide (k < 0)) (rn53 ((k.natAbs : ℚ) / 100000))) ∧
    parseFloat (Earverif.XmlCodec.dumpsNum k).toList = some (.fin (decide (k < 0)) (rn53 ((k.natAbs : ℚ) / 100000))) ∧
    Earverif.XmlCodec.loadsNum (Earverif.XmlCodec.dumpsNum k) = some k ∧
    IsDouble (rn53 ((k.natAbs : ℚ) / 100000)) :=
  Earverif.FloatText.floatCodec_refines k hk

/-- jumpPosition `interpolationLength` is modelled with `dumpsNum` / `loadsNum`, the real code uses
`SecondsType` (`"{:07.5f}".format(float(t))` / `Fraction(str)`): for `0 ≤ k`, `k / 10^5 < 2^36` the real writer prints
exactly `dumpsNum k` for the Fraction `k / 10^5` and the real reader maps that text to exactly `k / 10^5` -/
theorem secondsCodec_refines (k : ℤ) (h0 : 0 ≤ k) (hk : k.natAbs < 2 ^ 36 * 10 ^ 5) :
    secondsDumps ((k : ℚ) / 100000) = some (Earverif.XmlCodec.dumpsNum k).toList ∧
    parseFraction (Earverif.XmlCodec.dumpsNum k).toList = some ((k : ℚ) / 100000) ∧
    Earverif.XmlCodec.loadsNum (Earverif.XmlCodec.dumpsNum k) = some k :=
  Earverif.FloatText.secondsCodec_refines k h0 hk

/-- non-vacuity of the two bridges: 0.25 s and the gain -0.5 -/
example : (0 : ℤ) ≤ 25000 ∧ (25000 : ℤ).natAbs < 2 ^ 36 * 10 ^ 5 ∧ (-50000 : ℤ).natAbs < 2 ^ 36 * 10 ^ 5 ∧
    Earverif.XmlCodec.dumpsNum 25000 = "0.25000" ∧ Earverif.XmlCodec.dumpsNum (-50000) = "-0.50000" := by
  decide +kernel

/-- what the printable-grid model cannot express or gets differently from the real float leaf (kernel-checked):
the text `-0.00000` (written for `-0.0` and for gain = -1e-7; `float()` keeps `-0.0`, the model reads 0 and no
`Leaf.num k` prints it: `negzero_not_grid`), the spellings `0.5` / `1` / `1e0` (`none` for `loadsNum`), and a leaf beyond
the bound, which the class theorems cover although the printer never writes it for the nearest double -/
theorem grid_model_excluded_points :
    ((fmt5 (.fin true (rn53 (mkRat 1 (10 ^ 7)))) = ['-', '0', '.', '0', '0', '0', '0', '0'] ∧
     parseFloat ['-', '0', '.', '0', '0', '0', '0', '0'] = some (.fin true 0) ∧
     Earverif.XmlCodec.loadsNum "-0.00000" = some 0 ∧ Earverif.XmlCodec.dumpsNum 0 = "0.00000") ∧
    (Earverif.XmlCodec.loadsNum "0.5" = none ∧ Earverif.XmlCodec.loadsNum "1" = none ∧
     Earverif.XmlCodec.loadsNum "1e0" = none ∧
     parseFloat ['0', '.', '5'] = some (.fin false (mkRat 1 2)) ∧ parseFloat ['1'] = some (.fin false 1) ∧
     parseFloat ['1', 'e', '0'] = some (.fin false 1)) ∧
    (Earverif.XmlCodec.dumpsNum (2 ^ 36 * 10 ^ 5 + 1)).toList ≠
      fmt5 (.fin false (rn53 (mkRat (2 ^ 36 * 10 ^ 5 + 1) 100000)))) ∧
    (∀ k : ℤ, (Earverif.XmlCodec.dumpsNum k).toList ≠ ['-', '0', '.', '0', '0', '0', '0', '0']) :=
  ⟨Earverif.FloatText.grid_model_excluded_points, Earverif.FloatText.negzero_not_grid⟩

/-- sharpness / excluded points, checked by the kernel on the executable model -/
theorem float_leaf_excluded_points :
    -- above 2^36 a five-decimal text need not survive parse -> print
    roundHalfEven (rn53 (mkRat (2 ^ 36 * 10 ^ 5 + 1) 100000) * 100000) = 2 ^ 36 * 10 ^ 5 + 2 ∧
    -- 2^35 + 2^-16 is a double that comes back 2^-17 > 0.5e-5 away
    (rn53 ((roundHalfEven (mkRat (2 ^ 52 + 2) (2 ^ 17) * 100000) : ℚ) / 100000) - mkRat (2 ^ 52 + 2) (2 ^ 17)
      = mkRat 1 (2 ^ 17) ∧ rn53 (mkRat (2 ^ 52 + 2) (2 ^ 17)) = mkRat (2 ^ 52 + 2) (2 ^ 17)) ∧
    -- SecondsType: a negative value that rounds to zero is not a fixed point (Fraction has no -0)
    (secondsDumps (mkRat (-1) (10 ^ 9)) = some ['-', '0', '.', '0', '0', '0', '0', '0'] ∧
      parseFraction ['-', '0', '.', '0', '0', '0', '0', '0'] = some 0 ∧
      secondsDumps 0 = some ['0', '.', '0', '0', '0', '0', '0']) ∧
    -- FloatType keeps the sign of zero
    (parseFloat ['-', '0', '.', '0', '0', '0', '0', '0'] = some (.fin true 0) ∧
      fmt5 (.fin true 0) = ['-', '0', '.', '0', '0', '0', '0', '0']) :=
  ⟨grid_bound_sharp, close_needs_rounding_term, seconds_negative_tiny_excluded, float_negative_tiny_stable⟩

/-! non-vacuity: concrete doubles satisfy `IsDouble` (0.1 = 3602879701896397 / 2^55, the smallest subnormal, the
largest double, an exact tie 3/64), a `Fraction` that `float()` can hold, and the theorems compute on them -/
example : IsDouble (mkRat 3602879701896397 (2 ^ 55)) ∧ IsDouble (mkRat 1 (2 ^ 1074)) ∧
    IsDouble (mkRat (2 ^ 1024 - 2 ^ 971) 1) ∧ IsDouble (mkRat 3 64) ∧ IsDouble 0 := by
  unfold IsDouble; decide +kernel

example : fmt5 (.fin false (mkRat 3602879701896397 (2 ^ 55))) = ['0', '.', '1', '0', '0', '0', '0'] ∧
    fmt5 (.fin true (mkRat 3 64)) = ['-', '0', '.', '0', '4', '6', '8', '8'] ∧
    fmt5 (.fin false (mkRat 1 64)) = ['0', '.', '0', '1', '5', '6', '2'] ∧
    parseFloat ['0', '.', '1', '0', '0', '0', '0'] = some (.fin false (mkRat 3602879701896397 (2 ^ 55))) := by
  decide +kernel

example : rn64 (mkRat 1 3) = some (mkRat 6004799503160661 (2 ^ 54)) ∧
    secondsDumps (mkRat 1 3) = some ['0', '.', '3', '3', '3', '3', '3'] := by decide +kernel

example : (12345678 : ℕ) < 2 ^ 36 * 10 ^ 5 ∧ numText 12345678 = ['1', '2', '3', '.', '4', '5', '6', '7', '8'] := by
  decide +kernel

end FloatLeaf

section FloatDoc
open Earverif.XmlCodec Earverif.XmlBlocks Earverif.XmlElements Earverif.FloatText Earverif.FloatDoc

/-- the regenerated parser table that renders a block format -/
def blockTable (b : Block) : String := "audioBlockFormat:" ++ b.kind

/-- a block format and, for Matrix blocks, its coefficients -/
def blockElems (v2 : Bool) (b : Block) : List (String × List Row × Obj XV) :=
  ("audioBlockFormat", rowsOf v2 (blockTable b), b.toObj) ::
  (match b with
    | .matrix m => m.matrix.map fun c => ("coefficient", rowsOf v2 "coefficient", c.toObj)
    | _ => [])

def interactionElems (v2 : Bool) : Option Interaction → List (String × List Row × Obj XV)
  | some i => [("audioObjectInteraction", rowsOf v2 "audioObjectInteraction", i.toObj)]
  | none => []

def loudnessElems (v2 : Bool) (ls : List Loudness) : List (String × List Row × Obj XV) :=
  ls.map fun l => ("loudnessMetadata", rowsOf v2 "loudnessMetadata", l.toObj)

/-- every element of a document that is rendered by a parser of the regenerated table, main and nested:
(element name, the table rows of its parser, the object as the parser sees it) -/
def docElems (v2 : Bool) (d : Document) : List (String × List Row × Obj XV) :=
  d.programmes.flatMap (fun p =>
    ("audioProgramme", rowsOf v2 "audioProgramme", p.toObj) ::
    ("audioProgrammeReferenceScreen", (Earverif.Gen.C08.parsers.lookup "audioProgrammeReferenceScreen").getD [],
      p.referenceScreen.toObj) :: loudnessElems v2 p.loudnessMetadata) ++
  d.contents.flatMap (fun c => ("audioContent", rowsOf v2 "audioContent", c.toObj) :: loudnessElems v2 c.loudnessMetadata) ++
  d.objects.flatMap (fun o =>
    ("audioObject", rowsOf v2 "audioObject", o.toObj) :: interactionElems v2 o.audioObjectInteraction ++
    o.alternativeValueSets.flatMap fun a =>
      ("alternativeValueSet", rowsOf v2 "alternativeValueSet", a.toObj) :: interactionElems v2 a.audioObjectInteraction) ++
  d.packFormats.map (fun p => ("audioPackFormat", rowsOf v2 "audioPackFormat", p.toObj)) ++
  d.channelFormats.flatMap (fun c =>
    ("audioChannelFormat", rowsOf v2 "audioChannelFormat", c.toObj) :: c.audioBlockFormats.flatMap (blockElems v2)) ++
  d.streamFormats.map (fun s => ("audioStreamFormat", rowsOf v2 "audioStreamFormat", s.toObj)) ++
  d.trackFormats.map (fun t => ("audioTrackFormat", rowsOf v2 "audioTrackFormat", t.toObj)) ++
  d.trackUIDs.map (fun u => ("audioTrackUID", rowsOf v2 "audioTrackUID", u.toObj))

/-- **`NumsBounded`** (decidable): in every element of the document — main elements, loudnessMetadata, reference
screen, audioObjectInteraction, alternativeValueSet, block formats of all five types, Matrix coefficients — every
grid number `Leaf.num k` under a declarative `FloatType` row of the element's regenerated parser table and every
linear `gain` written by a hand-written gain handler satisfies `|k| < 2^36·10^5` (or is the handler default, which is
not written), every jumpPosition interpolationLength additionally `0 ≤ k`, and every number held by a value written
by the other hand-written handlers (`siteSpecs` / `xvNums`: Objects and DirectSpeakers positions with bounds,
channelLock, objectDivergence, zoneExclusion, positionOffset, frequency, screen centre position and width, gain and
position interaction ranges) satisfies `|k| < 2^36·10^5`. -/
def NumsBounded (v2 : Bool) (d : Document) : Bool :=
  (docElems v2 d).all fun e => ObjNumsBoundedX e.2.1 e.2.2 && ObjSitesBounded e.2.1 e.2.2

/-- **C08 on the model with real float text, document level (partial: every number site is specified per handler).**
For a `DocValid`, `NumsBounded` document: in every element `e` of the document rendered by a parser of the regenerated
table (`docElems`; the XML is `toXml (propsX v2 rows) name obj`, and the listed texts are attribute values / child
texts of it: `floatTexts_in_toXml`),
(1) every text written by a declarative `FloatType` row is `fmt5` of the double nearest to a grid number `k / 10^5`
    stored in the object — the text the real `FloatType.dumps` emits —, `parseFloat` (the real `float()`) of it is that
    double and printing that double again gives the same text (`RealFloatText`);
(2) the same for every `gain` text written by the five hand-written gain handlers;
(3) every jumpPosition `interpolationLength` text is `secondsDumps` of the stored Fraction (the real
    `SecondsType.dumps`), `parseFraction` reads it back exactly and writing again gives the same text;
(4) every number text written by the other hand-written handlers (`siteSpecs`: the text of the `position` /
    `positionOffset` / `objectDivergence` / `frequency` / interaction-range elements, the `maxDistance`, `azimuthRange`,
    `positionRange`, zone and screen attributes) is the real float text of a grid number held by the stored value;
and the conclusion of `C08_roundtrip_model` holds.  `custom_rows_classified` (kernel-decided on the regenerated table)
says every hand-written handler pair of the tables is a gain handler, jumpPosition, a `siteSpecs` handler, the
BS.2076-2-only refusal, or a pure delegation to a nested parser of the table — so no number-writing handler is left out.
Not covered (hence `_partial`): (a) which texts of an element are number texts is specified per handler
(`isFloatRow`, `gainTexts`, `jumpTexts`, `siteSpecs`), not derived from an XML schema; (b) that a nested element's XML
is a descendant of its main element's XML is by definition of `loudnessListImpl` / `blocksImpl` / `matrixImpl` /
`avsListImpl` / `interactionImpl` / `screenImpl` and is not restated; (c) a gain given in dB (`XV.gainDB`, dB bounds of
a gain interaction range) is symbolic and not written; (d) values off the 1e-5 grid, `-0.0`, `|k| ≥ 2^36·10^5` are
outside (`C08.grid_model_excluded_points`). -/
theorem C08_roundtrip_model_floats_partial (v2 : Bool) (d : Document) (hv : DocValid v2 d)
    (hb : NumsBounded v2 d = true) :
    (∀ e ∈ docElems v2 d,
      (∀ t ∈ floatTexts (implX v2) e.2.1 e.2.2, ∃ r ∈ e.2.1, ∃ k : ℤ, NumAt e.2.2 r.argName k ∧ RealFloatText k t) ∧
      (∀ t ∈ gainTexts v2 e.2.1 e.2.2, ∃ k : ℤ, NumAt e.2.2 "gain" k ∧ RealFloatText k t) ∧
      (∀ t ∈ jumpTexts v2 e.2.1 e.2.2, ∃ (j : Earverif.XmlCustom.JumpPosition) (k : ℤ),
        e.2.2 "jumpPosition" = .one (.jump j) ∧ j.interpolationLength = some k ∧ RealSecondsText k t) ∧
      (∀ t ∈ siteTexts v2 e.2.1 e.2.2, ∃ (a : String) (v : XV) (k : ℤ),
        e.2.2 a = .one v ∧ k ∈ xvNums v ∧ RealFloatText k t)) ∧
    ((∀ p ∈ d.programmes, RoundTrips (propsX v2 (rowsOf v2 "audioProgramme")) programmeDefaults "audioProgramme" p.toObj) ∧
    (∀ c ∈ d.contents, RoundTrips (propsX v2 (rowsOf v2 "audioContent")) contentDefaults "audioContent" c.toObj) ∧
    (∀ o ∈ d.objects, RoundTrips (propsX v2 (rowsOf v2 "audioObject")) objectDefaults "audioObject" o.toObj) ∧
    (∀ p ∈ d.packFormats, RoundTrips (propsX v2 (rowsOf v2 "audioPackFormat")) packDefaults "audioPackFormat" p.toObj) ∧
    (∀ c ∈ d.channelFormats,
      RoundTrips (propsX v2 (rowsOf v2 "audioChannelFormat")) channelDefaults "audioChannelFormat" c.toObj) ∧
    (∀ s ∈ d.streamFormats,
      RoundTrips (propsX v2 (rowsOf v2 "audioStreamFormat")) streamDefaults "audioStreamFormat" s.toObj) ∧
    (∀ t ∈ d.trackFormats, RoundTrips (propsX v2 (rowsOf v2 "audioTrackFormat")) noneDefaults "audioTrackFormat" t.toObj) ∧
    (∀ u ∈ d.trackUIDs, RoundTrips (propsX v2 (rowsOf v2 "audioTrackUID")) noneDefaults "audioTrackUID" u.toObj)) := by
  refine ⟨fun e he => ?_, C08_roundtrip_model v2 d hv⟩
  have h := (List.all_eq_true.mp hb) e he
  simp only [Bool.and_eq_true] at h
  obtain ⟨h1, h2, h3⟩ := obj_numTexts_real v2 e.2.1 e.2.2 h.1
  exact ⟨h1, h2, h3, obj_siteTexts_real v2 e.2.1 e.2.2 h.2⟩

/-- the generic path, any parser of the regenerated table and any object (class level; `impl` arbitrary) -/
theorem C08_table_floatTexts_real :
    ∀ t ∈ Earverif.Gen.C08.parsers, ∀ (impl : Row → CustomImpl XV) (name : String) (o : Obj XV),
      ObjNumsBounded t.2 o = true →
      ∀ s ∈ floatTexts impl t.2 o,
        ((∃ kv ∈ (toXml (t.2.map (ofRowG liftCodec XV.leaf impl)) name o).attrs, kv.2 = s) ∨
         (∃ c ∈ (toXml (t.2.map (ofRowG liftCodec XV.leaf impl)) name o).children, c.text = s)) ∧
        ∃ r ∈ t.2, ∃ k : ℤ, NumAt o r.argName k ∧ RealFloatText k s :=
  fun t _ impl name o hb s hs =>
    ⟨floatTexts_in_toXml impl t.2 name o s hs, obj_floatTexts_real impl t.2 o hb s hs⟩

/-- the example document of `DocValid` with float leaves: programme `maxDuckingDepth = -3.0` (negative), a
loudnessMetadata with `integratedLoudness = -23.0` and `maxTruePeak = 1.5`, object gain 0.5, an Objects block with
`width = 45.0`, gain 0.25 and a jumpPosition of 0.2 s -/
def exFloatDoc : Document :=
  { programmes := [⟨"APR_1001", "p", none, none, none, some (-300000), ["ACO_1001"], defaultScreen,
      [⟨none, none, none, some (-2300000), none, some 150000, none, none, none⟩], []⟩],
    contents := [⟨"ACO_1001", "c", none, none, ["AO_1001"], [], []⟩],
    objects := [⟨"AO_1001", "o", none, none, none, none, none, none, ["AP_00031001"], [], [], [some "ATU_00000001"],
      50000, false, none, [], none⟩],
    packFormats := [], channelFormats := [], streamFormats := [], trackFormats := [],
    trackUIDs := [⟨"ATU_00000001", some 48000, some 24, none, some "AC_00031001", some "AP_00031001"⟩] }

/-- non-vacuity: the hypotheses hold for `exFloatDoc`, and the float texts of its programme, loudnessMetadata and
object are the expected strings (one negative) -/
example : DocValid true exFloatDoc ∧ NumsBounded true exFloatDoc = true ∧
    (exFloatDoc.programmes.flatMap fun p => floatTexts (implX true) (rowsOf true "audioProgramme") p.toObj)
      = ["-3.00000"] ∧
    (exFloatDoc.programmes.flatMap fun p => p.loudnessMetadata.flatMap fun l =>
      floatTexts (implX true) (rowsOf true "loudnessMetadata") l.toObj) = ["-23.00000", "1.50000"] ∧
    (exFloatDoc.objects.flatMap fun o => gainTexts true (rowsOf true "audioObject") o.toObj) = ["0.50000"] := by
  refine ⟨?_, by decide +kernel⟩
  constructor <;> simp only [exFloatDoc, List.forall_mem_singleton]
  · constructor <;> simp [TimeOK, defaultScreen, Earverif.XmlCustom.CentrePosition.inRange]
  · exact ⟨by simp⟩
  · constructor <;> simp [TimeOK]
  · simp
  · simp [TrackUIDValid]

/-- … and with an Objects block (width 45.0, gain 0.25, jumpPosition with interpolationLength 0.2 s): the bounded
predicate holds and the three kinds of texts are as expected -/
example :
    let b : ObjectsBlock := ⟨"AB_00031001_00000001", none, none, .polar (-3000000) 0 100000 ⟨none, none⟩, none, ⟨true, some 20000⟩, none,
      4500000, 0, 0, 0, false, false, [], 25000, 10⟩
    ObjNumsBoundedX (rowsOf true "audioBlockFormat:Objects") b.toObj = true ∧
    floatTexts (implX true) (rowsOf true "audioBlockFormat:Objects") b.toObj = ["45.00000"] ∧
    gainTexts true (rowsOf true "audioBlockFormat:Objects") b.toObj = ["0.25000"] ∧
    jumpTexts true (rowsOf true "audioBlockFormat:Objects") b.toObj = ["0.20000"] ∧
    ObjSitesBounded (rowsOf true "audioBlockFormat:Objects") b.toObj = true ∧
    siteTexts true (rowsOf true "audioBlockFormat:Objects") b.toObj = ["-30.00000", "0.00000"] := by
  rw [objectsXRows_eq]
  decide +kernel

end FloatDoc

/-- A selection of the claims above in one statement: the two time round trips, of the ID claims
uniqueness of the audioObject and audioTrackUID ids (the two kinds other elements refer to) and the reserved UID, the
CHNA entry, the class-level round trips of the XML layer for both versions (document level, `C08_roundtrip_model`), the
CHNA <-> audioTrackUID transfer (both directions, CHNA-only documents) and the id map / reference resolution (duplicate
ids rejected, closed documents resolved, dangling references rejected, write → parse gives back the same ids in every
reference attribute).  The float leaf
(section FloatLeaf) and its composition with the document model (`C08_roundtrip_model_floats_partial`) are separate
statements and not part of this conjunction. -/
theorem C08_partial :
    (∀ (q : ℚ), 0 ≤ q → q < 360000 → ExactDecimal q → ∀ af, ∃ s, unparseTime af (.dec q) = .ok s ∧
        parseTime s = some (.dec q) ∧ parseTimeV1 s = some (.dec q)) ∧
    (∀ n d : ℕ, 0 < d → n < 360000 * d → unparseTime true (.frac n d) = .ok (unparseFractional n d) ∧
        parseTime (unparseFractional n d) = some (.frac n d)) ∧
    (∀ (x : Input) (o : Output), generateIds x = some o → TypesOK x →
        o.objects.Nodup ∧ o.trackUIDs.Nodup ∧ silentUID ∉ o.trackUIDs) ∧
    (∀ e : Chna.Entry, WFEntry e → ∃ bs, Chna.encode e = some bs ∧ bs.length = 40 ∧ Chna.decode bs = some e) ∧
    -- the XML layer, class level: audioBlockFormat / Objects, both versions, every handler concrete
    (∀ (v2 : Bool) (name : String) (b : Earverif.XmlBlocks.ObjectsBlock), Earverif.XmlBlocks.Valid v2 b →
        Earverif.XmlCodec.parse (Earverif.XmlBlocks.objectsProps (Earverif.XmlBlocks.objectsRows v2))
          Earverif.XmlBlocks.objectsDefaults
          (Earverif.XmlCodec.toXml (Earverif.XmlBlocks.objectsProps (Earverif.XmlBlocks.objectsRows v2)) name b.toObj)
          = some b.toObj) ∧
    -- the XML layer, document level: every main element of a valid document, both versions
    (∀ (v2 : Bool) (d : Earverif.XmlElements.Document), DocValid v2 d →
      (∀ p ∈ d.programmes, RoundTrips (Earverif.XmlElements.propsX v2 (Earverif.XmlElements.rowsOf v2 "audioProgramme"))
        Earverif.XmlElements.programmeDefaults "audioProgramme" p.toObj) ∧
      (∀ c ∈ d.contents, RoundTrips (Earverif.XmlElements.propsX v2 (Earverif.XmlElements.rowsOf v2 "audioContent"))
        Earverif.XmlElements.contentDefaults "audioContent" c.toObj) ∧
      (∀ o ∈ d.objects, RoundTrips (Earverif.XmlElements.propsX v2 (Earverif.XmlElements.rowsOf v2 "audioObject"))
        Earverif.XmlElements.objectDefaults "audioObject" o.toObj) ∧
      (∀ p ∈ d.packFormats, RoundTrips (Earverif.XmlElements.propsX v2 (Earverif.XmlElements.rowsOf v2 "audioPackFormat"))
        Earverif.XmlElements.packDefaults "audioPackFormat" p.toObj) ∧
      (∀ c ∈ d.channelFormats,
        RoundTrips (Earverif.XmlElements.propsX v2 (Earverif.XmlElements.rowsOf v2 "audioChannelFormat"))
          Earverif.XmlElements.channelDefaults "audioChannelFormat" c.toObj) ∧
      (∀ s ∈ d.streamFormats,
        RoundTrips (Earverif.XmlElements.propsX v2 (Earverif.XmlElements.rowsOf v2 "audioStreamFormat"))
          Earverif.XmlElements.streamDefaults "audioStreamFormat" s.toObj) ∧
      (∀ t ∈ d.trackFormats,
        RoundTrips (Earverif.XmlElements.propsX v2 (Earverif.XmlElements.rowsOf v2 "audioTrackFormat"))
          Earverif.XmlBlocks.noneDefaults "audioTrackFormat" t.toObj) ∧
      (∀ u ∈ d.trackUIDs, RoundTrips (Earverif.XmlElements.propsX v2 (Earverif.XmlElements.rowsOf v2 "audioTrackUID"))
        Earverif.XmlBlocks.noneDefaults "audioTrackUID" u.toObj)) ∧
    -- CHNA <-> audioTrackUID transfer: document → rows → any copy without track information → the document
    (∀ (lookup : Chna.Bytes → Option Chna.Bytes) (tracks : List ChnaTransfer.TrackUID), ChnaTransfer.WFDoc lookup tracks →
      ∃ rows, ChnaTransfer.populateChna tracks = .ok rows ∧ ∀ kf kp : ChnaTransfer.TrackUID → Bool,
        ChnaTransfer.loadChna lookup (tracks.map fun t => ChnaTransfer.forget (kf t) (kp t) t) rows = .ok tracks) ∧
    -- … and CHNA-only documents: every row yields exactly its audioTrackUID
    (∀ (lookup : Chna.Bytes → Option Chna.Bytes) (rows : List Chna.Entry), ChnaTransfer.WFChunk lookup rows →
      ChnaTransfer.loadChna lookup [] rows = .ok (rows.map (ChnaTransfer.trackOf lookup))) ∧
    -- a repeated id within a class is an AdmIDError
    (∀ (a : AdmRefs.ADM String), (∀ l ∈ a.lists, AdmRefs.CommonsDistinct AdmRefs.upStr l) →
      (∃ l ∈ a.lists, AdmRefs.HasDuplicate AdmRefs.upStr l) →
      AdmRefs.lazyLookupReferences AdmRefs.upStr a = .error .admIDError) ∧
    -- closed documents are resolved, dangling references are a KeyError
    (∀ (σ : AdmRefs.Oid → AdmRefs.Oid) (a a' : AdmRefs.ADM String), AdmRefs.dedupAll AdmRefs.upStr a = .ok a' →
      AdmRefs.Static AdmRefs.upStr σ a'.elements →
      (AdmRefs.AvsOK AdmRefs.upStr a'.elements → AdmRefs.Closed AdmRefs.upStr a'.elements →
        ∃ r, AdmRefs.lazyLookupReferences AdmRefs.upStr a = .ok r) ∧
      ((∃ t, AdmRefs.DanglingAt AdmRefs.upStr a'.elements a'.elements t) →
        AdmRefs.lazyLookupReferences AdmRefs.upStr a = .error .keyError)) ∧
    -- write → parse gives the document back at id level (every …IDRef argument holds the id that was written)
    (∀ (v2 : Bool) (d : Earverif.XmlElements.Document), DocValid v2 d → ∀ cd : AdmRefs.ADM String,
      admOfParsed v2 cd d = some (AdmRefsDoc.admOfDoc cd d)) :=
  ⟨time_roundtrip_decimal, time_roundtrip_fractional,
    fun x o h ht =>
      have ⟨_, _, hobj, _, _, _, _, _, _, huid⟩ := ids_injective x o h ht
      ⟨hobj, huid, ids_not_reserved x o h⟩,
    chna_entry_roundtrip,
    fun v2 name b hv => (Earverif.XmlBlocks.objectsBlock_roundtrip v2 name b hv).1,
    C08_roundtrip_model,
    fun lookup => (chna_transfer_roundtrip lookup).1,
    chna_only_document,
    fun a hc hd => duplicate_id_rejected AdmRefs.upStr a hc hd,
    fun σ a a' hd hS => ⟨fun hA hC => by
        obtain ⟨r, hr, _⟩ := resolve_total_on_closed AdmRefs.upStr σ a a' hd hS hA hC
        exact ⟨r, hr⟩,
      fun hD => resolve_dangling_rejected AdmRefs.upStr σ a a' hd hS hD⟩,
    fun v2 d hv cd => (resolve_then_ids_roundtrip v2 d hv cd id).1⟩

end Earverif.C08
