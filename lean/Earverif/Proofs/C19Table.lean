/- C19: `RP`, the conversion model over ℝ with the regenerated table, and the azimuths of the eight square points its rows
   use (`cartAz_octant`).  Everything else here holds of any angles or any sector: the `while` loops where they make no
   step, the mod-360 bookkeeping of `relative_angle`, ranges of the azimuth warps and the cone of a sector.  Used by
   Proofs/C19Round.lean and Props/C19.lean. -/
import Earverif.Proofs.C19Real
import Earverif.Gen.C19_Tables

namespace Earverif.Conv
open Real
open Earverif.Gen.C19 (mapping elTop elTopTilde)

/-- The theorems are stated for `RP (m + 1)`: azimuths in `[-180, 180]` need
at most one `±360` step of each loop of `relative_angle`. -/
noncomputable def RP (fuel : Nat) : Params ℝ := Params.ofTable mapping elTop elTopTilde fuel

theorem RP_consts (n : Nat) :
    (RP n).elTop = 30 ∧ (RP n).elTopTilde = 45 ∧ (RP n).fuel = n ∧
    ∀ r ∈ (RP n).rows, -180 ≤ r.az ∧ r.az ≤ 180 := by
  refine ⟨by simp [RP, Params.ofTable, elTop, k, Scalar.ofRat],
          by simp [RP, Params.ofTable, elTopTilde, k, Scalar.ofRat], rfl, ?_⟩
  intro r hr
  simp [RP, Params.ofTable, mapping, k, Scalar.ofRat] at hr
  rcases hr with rfl | rfl | rfl | rfl | rfl <;> norm_num

theorem at2_zero_one : at2 0 1 = 0 := by
  unfold at2
  have : (⟨1, 0⟩ : ℂ) = 1 := by apply Complex.ext <;> simp
  rw [this, Complex.arg_one]

theorem at2_one_zero : at2 1 0 = π / 2 := by
  unfold at2
  have : (⟨0, 1⟩ : ℂ) = Complex.I := by apply Complex.ext <;> simp
  rw [this, Complex.arg_I]

theorem at2_one_one : at2 1 1 = π / 4 :=
  at2_of_polar (r := √2) (by positivity) (by linarith only [pi_pos]) (by linarith only [pi_pos])
    (by rw [cos_pi_div_four, sqrt2_mul]) (by rw [sin_pi_div_four, sqrt2_mul])

theorem at2_one_neg_one : at2 1 (-1) = 3 * π / 4 :=
  at2_of_polar (r := √2) (by positivity) (by linarith only [pi_pos]) (by linarith only [pi_pos])
    (by rw [show 3 * π / 4 = π - π / 4 by ring, cos_pi_sub, cos_pi_div_four, mul_neg, sqrt2_mul])
    (by rw [show 3 * π / 4 = π - π / 4 by ring, sin_pi_sub, sin_pi_div_four, sqrt2_mul])

theorem at2_neg_one_neg_one : at2 (-1) (-1) = -(3 * π / 4) :=
  at2_of_polar (r := √2) (by positivity) (by linarith only [pi_pos]) (by linarith only [pi_pos])
    (by rw [cos_neg, show 3 * π / 4 = π - π / 4 by ring, cos_pi_sub, cos_pi_div_four, mul_neg, sqrt2_mul])
    (by rw [sin_neg, show 3 * π / 4 = π - π / 4 by ring, sin_pi_sub, sin_pi_div_four, mul_neg, sqrt2_mul])

theorem at2_neg_one_one : at2 (-1) 1 = -(π / 4) :=
  at2_of_polar (r := √2) (by positivity) (by linarith only [pi_pos]) (by linarith only [pi_pos])
    (by rw [cos_neg, cos_pi_div_four, sqrt2_mul])
    (by rw [sin_neg, sin_pi_div_four, mul_neg, sqrt2_mul])

theorem at2_zero_neg_one : at2 0 (-1) = π := by
  unfold at2
  have : (⟨-1, 0⟩ : ℂ) = -1 := by apply Complex.ext <;> simp
  rw [this, Complex.arg_neg_one]

theorem at2_neg_one_zero : at2 (-1) 0 = -(π / 2) := by
  unfold at2
  have : (⟨0, -1⟩ : ℂ) = -Complex.I := by apply Complex.ext <;> simp
  rw [this, Complex.arg_neg_I]

theorem cartAz_octant :
    cartAz (0:ℝ) 1 = 0 ∧ cartAz (1:ℝ) 1 = -45 ∧ cartAz (1:ℝ) 0 = -90 ∧ cartAz (1:ℝ) (-1) = -135 ∧
    cartAz (0:ℝ) (-1) = -180 ∧ cartAz (-1:ℝ) (-1) = 135 ∧ cartAz (-1:ℝ) 0 = 90 ∧ cartAz (-1:ℝ) 1 = 45 := by
  have hp : π ≠ 0 := pi_ne_zero
  refine ⟨?_, ?_, ?_, ?_, ?_, ?_, ?_, ?_⟩ <;> rw [cartAz_real]
  · rw [at2_zero_one]; simp
  · rw [at2_one_one]; field_simp; ring
  · rw [at2_one_zero]; field_simp; ring
  · rw [at2_one_neg_one]; field_simp; ring
  · rw [at2_zero_neg_one]; field_simp
  · rw [at2_neg_one_neg_one]; field_simp; ring
  · rw [at2_neg_one_zero]; field_simp; ring
  · rw [at2_neg_one_one]; field_simp; ring

theorem downGe_id (x y : ℝ) (n : Nat) (h : y < x + 360) : downGe x n y = y := by
  cases n with
  | zero => rfl
  | succ n => rw [downGe_succ, if_neg (by linarith)]

theorem upLt_id (x y : ℝ) (n : Nat) (h : x ≤ y) : upLt x n y = y := by
  cases n with
  | zero => rfl
  | succ n => rw [upLt_succ, if_neg (by linarith)]

theorem downGt_id (x y : ℝ) (n : Nat) (h : y ≤ x + 360) : downGt x n y = y := by
  cases n with
  | zero => rfl
  | succ n => rw [downGt_succ, if_neg (by linarith)]

theorem relativeAngle_of_mem (n : Nat) (x y : ℝ) (h1 : x ≤ y) (h2 : y < x + 360) :
    relativeAngle n x y = y := by
  unfold relativeAngle
  rw [downGe_id x y n h2, upLt_id x y n h1]

theorem insideAngleRange_plain (n : Nat) (x start stop : ℝ) (h1 : start ≤ stop) (h2 : stop ≤ start + 360)
    (h3 : start ≤ x) (h4 : x < start + 360) :
    insideAngleRange n x start stop (k 0) = decide (x ≤ stop) := by
  unfold insideAngleRange
  simp only [k, Scalar.ofRat, Rat.cast_zero, sub_zero, add_zero]
  rw [downGt_id start stop n h2, upLt_id start stop n h1, downGe_id start x n h4, upLt_id start x n h3]

/-- `relative_angle(x, y)` for `y` at most one turn away from `[x, x + 360)` (one step of either loop is enough): the
representative `r` of `y`. -/
theorem relativeAngle_turn (m : Nat) {x y r : ℝ} (j : ℤ) (h1 : x - 360 ≤ y) (h2 : y < x + 720)
    (hr : r = y + 360 * j) (hr1 : x ≤ r) (hr2 : r < x + 360) : relativeAngle (m + 1) x y = r := by
  have hm : (0 : ℝ) ≤ m := m.cast_nonneg
  exact relativeAngle_unique (m + 1) x y r j (by push_cast; linarith) (by push_cast; linarith) hr hr1 hr2

/-- The `stop` side (`downGt`, then `upLt`) gets no specification over ℝ: `stop` is always a row azimuth of the table,
where it is `relative_angle(start, stop)` (`GoodSector.normEnd`). -/
theorem insideAngleRange_eq (n : Nat) (x start stop : ℝ) :
    insideAngleRange n x start stop (k 0) =
      decide (relativeAngle n start x ≤ upLt start n (downGt start n stop)) := by
  unfold insideAngleRange relativeAngle
  simp only [k, Scalar.ofRat, Rat.cast_zero, sub_zero, add_zero]

/-- Re-normalising, relative to the sector's right end `R`, an azimuth that was
normalised to `[-180, 180)` recovers the un-normalised warp value `a0 ∈ [R, R + 360)`. -/
theorem relativeAngle_renorm (n : Nat) (R a0 : ℝ) (hR1 : -180 ≤ R) (hR2 : R ≤ 180) (h1 : R ≤ a0)
    (h2 : a0 < R + 360) :
    relativeAngle (n + 1) R (relativeAngle (n + 1) (-180) a0) = a0 := by
  have hn : (0 : ℝ) ≤ n := n.cast_nonneg
  obtain ⟨i, hi⟩ := relativeAngle_cong (n + 1) (-180) a0
  obtain ⟨m1, m2⟩ := relativeAngle_mem (n + 1) (-180) a0 (by push_cast; linarith) (by push_cast; linarith)
  exact relativeAngle_turn n (-i) (by linarith) (by linarith) (by rw [hi]; push_cast; ring) h1 h2

theorem relativeAngle_norm180 (n : Nat) (R az : ℝ) (hR1 : -180 ≤ R) (hR2 : R ≤ 180) (h1 : -180 ≤ az)
    (h2 : az ≤ 180) :
    relativeAngle (n + 1) (-180) (relativeAngle (n + 1) R az) = if az = 180 then -180 else az := by
  have hn : (0 : ℝ) ≤ n := n.cast_nonneg
  obtain ⟨i, hi⟩ := relativeAngle_cong (n + 1) R az
  obtain ⟨m1, m2⟩ := relativeAngle_mem (n + 1) R az (by push_cast; linarith) (by push_cast; linarith)
  split_ifs with he
  · exact relativeAngle_turn n (-i - 1) (by linarith) (by linarith) (by rw [hi, he]; push_cast; ring) le_rfl (by norm_num)
  · exact relativeAngle_turn n (-i) (by linarith) (by linarith) (by rw [hi]; push_cast; ring) h1
      (by linarith [lt_of_le_of_ne h2 he])

theorem abs_tan_eq {β : ℝ} (hβ : |β| < π / 2) : |tan β| = tan |β| := by
  rcases le_or_gt 0 β with h | h
  · rw [abs_of_nonneg h] at hβ ⊢
    rw [abs_of_nonneg (tan_nonneg_of_nonneg_of_le_pi_div_two h hβ.le)]
  · rw [abs_of_neg h] at hβ ⊢
    rw [tan_neg, abs_of_neg (tan_neg_of_neg_of_pi_div_two_lt h (neg_lt.mp hβ))]

theorem tan_abs_bound {ρ β : ℝ} (hβ : |β| < π / 2) (hρ : |ρ| ≤ |β|) : |tan ρ| ≤ |tan β| := by
  have hβ' : |tan β| = tan |β| := abs_tan_eq hβ
  have hρ' : |tan ρ| = tan |ρ| := abs_tan_eq (lt_of_le_of_lt hρ hβ)
  rw [hβ', hρ']
  rcases eq_or_lt_of_le hρ with h | h
  · rw [h]
  · exact (tan_lt_tan_of_nonneg_of_lt_pi_div_two (abs_nonneg ρ) hβ h).le

theorem mapAzToLinear_mem01 (l r a : ℝ) (hr0 : r - (l + r) / 2 ≠ 0) (hr : |r - (l + r) / 2| < 90)
    (ha : |a - (l + r) / 2| ≤ |r - (l + r) / 2|) :
    0 ≤ mapAzToLinear l r a ∧ mapAzToLinear l r a ≤ 1 := by
  rw [mapAzToLinear_real]
  set β := (r - (l + r) / 2) * (π / 180) with hβ
  set ρ := (a - (l + r) / 2) * (π / 180) with hρ
  have hβ2 := rad_lt hr
  have hT : tan β ≠ 0 := tan_ne_zero_of (mul_ne_zero hr0 (by positivity)) hβ2
  have hρβ : |ρ| ≤ |β| := by
    rw [hρ, hβ, abs_mul, abs_mul]
    exact mul_le_mul_of_nonneg_right ha (abs_nonneg _)
  have hb := tan_abs_bound hβ2 hρβ
  have hq : |tan ρ / tan β| ≤ 1 := by
    rw [abs_div, div_le_one (abs_pos.mpr hT)]; exact hb
  set g := 1 / 2 + 1 / 2 * tan ρ / tan β with hg
  have hg0 : 0 ≤ g := by
    have := (abs_le.mp hq).1
    rw [hg, mul_div_assoc]; linarith only [this]
  have hg1 : g ≤ 1 := by
    have := (abs_le.mp hq).2
    rw [hg, mul_div_assoc]; linarith only [this]
  have h0 : 0 ≤ at2 g (1 - g) := by
    unfold at2; rw [Complex.arg_nonneg_iff]; exact hg0
  have h1 : at2 g (1 - g) ≤ π / 2 := by
    unfold at2; rw [Complex.arg_le_pi_div_two_iff]; left; exact sub_nonneg.mpr hg1
  refine ⟨mul_nonneg h0 (by positivity), ?_⟩
  calc at2 g (1 - g) * (2 / π) ≤ π / 2 * (2 / π) := mul_le_mul_of_nonneg_right h1 (by positivity)
    _ = 1 := by field_simp

theorem gain_mem01 {θ : ℝ} (h0 : 0 ≤ θ) (h1 : θ ≤ π / 2) :
    0 ≤ sin θ / (cos θ + sin θ) ∧ sin θ / (cos θ + sin θ) ≤ 1 := by
  obtain ⟨hc, hsn, hs⟩ := cos_sin_quadrant h0 h1
  exact ⟨div_nonneg hsn hs.le, (div_le_one hs).mpr (le_add_of_nonneg_left hc)⟩

theorem mapLinearToAz_mem_sector (l r p : ℝ) (hr : |r - (l + r) / 2| < 90) (hp0 : 0 ≤ p) (hp1 : p ≤ 1) :
    |mapLinearToAz l r p - (l + r) / 2| ≤ |r - (l + r) / 2| := by
  rw [mapLinearToAz_real, add_sub_cancel_left]
  have hβ2 := rad_lt hr
  have hb : |(r - (l + r) / 2) * (π / 180)| * (180 / π) = |r - (l + r) / 2| := by
    rw [abs_mul, abs_of_pos (by positivity : (0:ℝ) < π / 180), rad_deg]
  set β := (r - (l + r) / 2) * (π / 180) with hβ
  obtain ⟨hG0, hG1⟩ := gain_mem01 (θ := p * (π / 2)) (by positivity) (mul_le_of_le_one_left (by positivity) hp1)
  set G := sin (p * (π / 2)) / (cos (p * (π / 2)) + sin (p * (π / 2))) with hG
  set t := 2 * (G - 1 / 2) * tan β with ht
  have h0 : 0 ≤ tan |β| := by rw [← abs_tan_eq hβ2]; exact abs_nonneg _
  have htb : |t| ≤ tan |β| := by
    rw [ht, abs_mul, abs_tan_eq hβ2]
    exact mul_le_of_le_one_left h0 (abs_le.mpr ⟨by linarith only [hG0], by linarith only [hG1]⟩)
  -- `arctan` is increasing and odd, and `arctan (tan |β|) = |β|`
  have hat : |arctan t| ≤ |β| := by
    have hb1 : -(π / 2) < |β| := by linarith only [abs_nonneg β, pi_pos]
    rw [abs_le, ← arctan_tan hb1 hβ2, ← arctan_neg]
    exact ⟨arctan_le_arctan_iff.mpr (by linarith only [neg_abs_le t, htb]),
      arctan_le_arctan_iff.mpr ((le_abs_self t).trans htb)⟩
  rw [abs_mul, abs_of_pos (by positivity : (0:ℝ) < 180 / π), ← hb]
  exact mul_le_mul_of_nonneg_right hat (by positivity)

theorem cross_polar (a b α β : ℝ) : a * sin α * (b * cos β) - a * cos α * (b * sin β) = a * b * sin (α - β) := by
  rw [sin_sub]; ring

/-- Gains of a point whose direction lies between the two ends of a sector (angles measured like `atan2(x, y)`,
`x = r sin θ`, `y = r cos θ`; sector opening `< π`): both non-negative, sum positive. -/
theorem cone_gains (s : Sector ℝ) (ρL θL ρR θR r θ x y : ℝ)
    (hlx : s.left.x = ρL * sin θL) (hly : s.left.y = ρL * cos θL)
    (hrx : s.right.x = ρR * sin θR) (hry : s.right.y = ρR * cos θR)
    (hx : x = r * sin θ) (hy : y = r * cos θ) (hρL : 0 < ρL) (hρR : 0 < ρR) (hr : 0 < r)
    (h1 : θL ≤ θ) (h2 : θ ≤ θR) (h3 : θR - θL < π) (h4 : θL < θR) :
    0 ≤ (gains s x y).1 ∧ 0 ≤ (gains s x y).2 ∧ 0 < (gains s x y).1 + (gains s x y).2 := by
  have hden : 0 < ρL * ρR * sin (θR - θL) :=
    mul_pos (mul_pos hρL hρR) (sin_pos_of_pos_of_lt_pi (by linarith) h3)
  -- all three cross products are `sin` of a difference of angles; the determinant is negative
  have hg : gains s x y = (r * ρR * sin (θR - θ) / (ρL * ρR * sin (θR - θL)),
      r * ρL * sin (θ - θL) / (ρL * ρR * sin (θR - θL))) := by
    rw [gains_cross, Sector.det, hlx, hly, hrx, hry, hx, hy, cross_polar, cross_polar, cross_polar,
      ← neg_sub θR θL, ← neg_sub θR θ, ← neg_sub θ θL, sin_neg, sin_neg, sin_neg, mul_neg, mul_neg, mul_neg,
      neg_div_neg_eq, neg_div_neg_eq, mul_comm ρL r]
  have hA : 0 ≤ sin (θR - θ) := sin_nonneg_of_nonneg_of_le_pi (by linarith) (by linarith)
  have hB : 0 ≤ sin (θ - θL) := sin_nonneg_of_nonneg_of_le_pi (by linarith) (by linarith)
  rw [hg]
  refine ⟨div_nonneg (mul_nonneg (mul_pos hr hρR).le hA) hden.le,
    div_nonneg (mul_nonneg (mul_pos hr hρL).le hB) hden.le, ?_⟩
  rw [← add_div]
  refine div_pos ?_ hden
  rcases lt_or_eq_of_le h2 with hlt | heq
  · exact add_pos_of_pos_of_nonneg
      (mul_pos (mul_pos hr hρR) (sin_pos_of_pos_of_lt_pi (by linarith) (by linarith)))
      (mul_nonneg (mul_pos hr hρL).le hB)
  · exact add_pos_of_nonneg_of_pos (mul_nonneg (mul_pos hr hρR).le hA)
      (mul_pos (mul_pos hr hρL) (sin_pos_of_pos_of_lt_pi (by linarith) (by linarith)))

end Earverif.Conv
