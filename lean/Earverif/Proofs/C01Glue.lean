/- C01: identities and ranges of the pipeline functions of `renderConcrete*`: `applyOffset`, `coordTrans`,
   `cart`/`norm3`, `polarExtents`, `polarCombine`, `lockToScreenEdge`, `edgeLockHandle`, `screenScaleHandle`, the polar
   branch of `divergePositions`.  The headline theorems use `norm3_cart`, `lcs_rot_norm`, `diverge_polar_norm`, `cart_front`
   and the inactive cases of the two screen handlers; the others stand alone.
   Not covered by any theorem (only by the correspondence): the VALUES of `polarEdges`, `screenScaleHandle` and
   `edgeLockHandle` when a screen is active (they go through `atan2`/`tan` and the C13/C19 models), and that the polar
   `divergePositions` moves the azimuth by ±azimuthRange (that it keeps the distance is `diverge_polar_norm`). -/
-- C01Concrete: for the model (GainCalcConcrete) and the instances it brings (see its imports); none of its lemmas is used
import Earverif.Proofs.C01Concrete
import Earverif.Proofs.C01Pipe

namespace Earverif.GainCalc

/-! ### `PositionOffset.apply` -/

theorem applyOffset_none (cartesian : Bool) (c : V3 ℝ) : applyOffset cartesian c none = some c := rfl

/-- Cartesian offsets are added without a range check (the clipping happens in `coord_trans`) -/
theorem applyOffset_cart (c o : V3 ℝ) :
    applyOffset true c (some o) = some (c.1 + o.1, c.2.1 + o.2.1, c.2.2 + o.2.2) := by
  simp [applyOffset]

theorem applyOffset_polar_range (c o r : V3 ℝ) (h : applyOffset false c (some o) = some r) :
    r = (c.1 + o.1, c.2.1 + o.2.1, c.2.2 + o.2.2) ∧ -180 ≤ r.1 ∧ r.1 ≤ 180 ∧ -90 ≤ r.2.1 ∧ r.2.1 ≤ 90 ∧ 0 ≤ r.2.2 := by
  simp only [applyOffset, Bool.false_eq_true, if_false] at h
  split at h
  · rename_i hr
    simp only [Option.some.injEq] at h
    subst h
    simp only [k_real, zero_real] at hr
    refine ⟨rfl, ?_⟩
    norm_num at hr
    exact hr
  · exact absurd h (by simp)

/-! ### `coord_trans`, `cart`, `norm3` -/

theorem coordTrans_cart_in_cube (c : V3 ℝ) :
    (-1 ≤ (coordTrans true c).1 ∧ (coordTrans true c).1 ≤ 1) ∧ (-1 ≤ (coordTrans true c).2.1 ∧ (coordTrans true c).2.1 ≤ 1) ∧
    (-1 ≤ (coordTrans true c).2.2 ∧ (coordTrans true c).2.2 ≤ 1) := by
  simp only [coordTrans, if_true]
  exact ⟨clip_one_range _, clip_one_range _, clip_one_range _⟩

theorem norm3_cart (az el d : ℝ) : norm3 (cart az el d) = |d| := by
  simp only [norm3, cart, sqrt_real, sin_real, cos_real]
  rw [← Real.sqrt_sq_eq_abs]
  congr 1
  linear_combination (d ^ 2 * Real.cos (radians el) ^ 2) * Real.sin_sq_add_cos_sq (radians (-az)) +
    d ^ 2 * Real.sin_sq_add_cos_sq (radians el)

theorem coordTrans_polar_norm (c : V3 ℝ) (h : 0 ≤ c.2.2) : norm3 (coordTrans false c) = c.2.2 := by
  simp only [coordTrans, Bool.false_eq_true, if_false]
  rw [norm3_cart, abs_of_nonneg h]

theorem cart_front (d : ℝ) : cart (0 : ℝ) 0 d = (0, d, 0) := by
  simp [cart, radians]

/-! ### `PolarExtentHandler.handle`: the list of `calc_pv_spread` arguments -/

theorem polarExtents_length (distance width height depth : ℝ) :
    (polarExtents distance width height depth).length = 1 ∨ (polarExtents distance width height depth).length = 2 := by
  simp only [polarExtents, List.length_map]
  rcases polarDistances_cases distance depth with h | ⟨d1, d2, h, _, _⟩ <;> rw [h] <;> simp

theorem polarExtents_range (distance width height depth : ℝ) (hw : 0 ≤ width ∧ width ≤ 360)
    (hh : 0 ≤ height ∧ height ≤ 360) :
    ∀ e ∈ polarExtents distance width height depth, (0 ≤ e.1 ∧ e.1 ≤ 360) ∧ (0 ≤ e.2 ∧ e.2 ≤ 360) := by
  intro e he
  simp only [polarExtents, List.mem_map] at he
  obtain ⟨d, _, rfl⟩ := he
  exact ⟨extentMod_range width d hw.1 hw.2, extentMod_range height d hh.1 hh.2⟩

theorem polarCombine_single (p : List ℝ) : polarCombine [p] = p := rfl

theorem polarCombine_pair (p1 p2 : List ℝ) : polarCombine [p1, p2] = depthCombine p1 p2 := rfl

/-! ### screen edge lock, screen scaling: the inactive cases are the identity -/

theorem lockToScreenEdge_none (e : Lock.Edges ℝ) (az el : ℝ) : lockToScreenEdge e az el ⟨none, none⟩ = (az, el) := rfl

theorem lockToScreenEdge_cases (e : Lock.Edges ℝ) (az el : ℝ) (sel : EdgeSel) :
    ((lockToScreenEdge e az el sel).1 = e.left ∨ (lockToScreenEdge e az el sel).1 = e.right ∨
      (lockToScreenEdge e az el sel).1 = az) ∧
    ((lockToScreenEdge e az el sel).2 = e.top ∨ (lockToScreenEdge e az el sel).2 = e.bottom ∨
      (lockToScreenEdge e az el sel).2 = el) := by
  obtain ⟨h, v⟩ := sel
  rcases h with _ | _ | _ <;> rcases v with _ | _ | _ <;> simp [lockToScreenEdge]

section handlers
variable [Zone.ScalarSqrt ℝ] [Conv.Scalar ℝ]

theorem edgeLockHandle_noScreen (E : LayoutEnv ℝ) (P : Conv.Params ℝ) (cartesian : Bool) (b : CBlock ℝ) (p : V3 ℝ)
    (h : E.screen = none) : edgeLockHandle E P cartesian b p = some p := by
  simp [edgeLockHandle, h]

/-- provided the layout's screen has edges at all -/
theorem edgeLockHandle_noEdge (E : LayoutEnv ℝ) (P : Conv.Params ℝ) (cartesian : Bool) (b : CBlock ℝ) (p : V3 ℝ)
    (rep : ScreenSpec ℝ) (e : Lock.Edges ℝ) (hs : E.screen = some rep) (he : polarEdges rep = some e)
    (hb : b.edge = ⟨none, none⟩) : edgeLockHandle E P cartesian b p = some p := by
  simp [edgeLockHandle, hs, he, hb]

theorem screenScaleHandle_noRef (E : LayoutEnv ℝ) (P : Conv.Params ℝ) (cartesian : Bool) (b : CBlock ℝ) (p : V3 ℝ)
    (h : b.screenRef = false) : screenScaleHandle E P cartesian b p = some p := by
  simp [screenScaleHandle, h]

theorem screenScaleHandle_noScreen (E : LayoutEnv ℝ) (P : Conv.Params ℝ) (cartesian : Bool) (b : CBlock ℝ) (p : V3 ℝ)
    (h : E.screen = none) : screenScaleHandle E P cartesian b p = some p := by
  simp only [screenScaleHandle, h]
  cases b.screenRef <;> rfl

end handlers

/-! ### `diverge`, polar branch -/

theorem divergePositions_polar (position : V3 ℝ) (v : ℝ) (hv : v ≠ 0) (ar pr : Option ℝ) (v2 : Bool) :
    ∃ l r, divergePositions false position (some v) ar pr v2 = [l, position, r] := by
  have hne : eqS v zero = false := eqS_of_ne (by rwa [zero_real])
  simp only [divergePositions, hne, Bool.false_eq_true, if_false]
  exact ⟨_, _, rfl⟩

theorem divergePositions_none (cartesian : Bool) (position : V3 ℝ) (ar pr : Option ℝ) (v2 : Bool) :
    divergePositions cartesian position none ar pr v2 = [position] := rfl

/-- the rows of `local_coordinate_system(az, el)` are orthonormal: the rotation used by the polar `diverge` keeps lengths -/
theorem lcs_rot_norm (az el x y z : ℝ) :
    let r0 := cart (az - k 90) (zero : ℝ) one
    let r1 := cart az el (one : ℝ)
    let r2 := cart az (el + k 90) (one : ℝ)
    (r0.1 * x + r1.1 * y + r2.1 * z) * (r0.1 * x + r1.1 * y + r2.1 * z) +
    (r0.2.1 * x + r1.2.1 * y + r2.2.1 * z) * (r0.2.1 * x + r1.2.1 * y + r2.2.1 * z) +
    (r0.2.2 * x + r1.2.2 * y + r2.2.2 * z) * (r0.2.2 * x + r1.2.2 * y + r2.2.2 * z) = x * x + y * y + z * z := by
  have h90 : ((90 : ℚ) : ℝ) = 90 := by norm_num
  have eA : radians (-(az - 90)) = radians (-az) + Real.pi / 2 := by
    rw [radians_real, radians_real]; ring
  have eE : radians (el + 90) = radians el + Real.pi / 2 := by
    rw [radians_real, radians_real]; ring
  simp only [cart, k_real, h90, zero_real, one_real, sin_real, cos_real, eA, eE, radians_zero, Real.sin_add_pi_div_two,
    Real.cos_add_pi_div_two, Real.sin_zero, Real.cos_zero, mul_one]
  have hA := Real.sin_sq_add_cos_sq (radians (-az))
  have hE := Real.sin_sq_add_cos_sq (radians el)
  linear_combination (x ^ 2 + (Real.cos (radians el) * y - Real.sin (radians el) * z) ^ 2) * hA + (y ^ 2 + z ^ 2) * hE

/-- so whether a polar point block is in the point-only class is decided by the one locked position -/
theorem diverge_polar_norm (position : V3 ℝ) (value ar pr : Option ℝ) (v2 : Bool) :
    ∀ q ∈ divergePositions false position value ar pr v2, norm3 q = norm3 position := by
  have key : ∀ a : ℝ,
      let c := cart a (zero : ℝ) (norm3 position)
      let r0 := cart (azimuthOf position - k 90) (zero : ℝ) one
      let r1 := cart (azimuthOf position) (elevationOf position) (one : ℝ)
      let r2 := cart (azimuthOf position) (elevationOf position + k 90) (one : ℝ)
      norm3 ((r0.1 * c.1 + r1.1 * c.2.1 + r2.1 * c.2.2, r0.2.1 * c.1 + r1.2.1 * c.2.1 + r2.2.1 * c.2.2,
        r0.2.2 * c.1 + r1.2.2 * c.2.1 + r2.2.2 * c.2.2) : V3 ℝ) = norm3 position := by
    intro a
    have h := lcs_rot_norm (azimuthOf position) (elevationOf position) (cart a (zero : ℝ) (norm3 position)).1
      (cart a (zero : ℝ) (norm3 position)).2.1 (cart a (zero : ℝ) (norm3 position)).2.2
    have hc := norm3_cart a (zero : ℝ) (norm3 position)
    rw [abs_of_nonneg (norm3_nonneg position)] at hc
    simp only at h ⊢
    rw [norm3] at hc ⊢
    simp only [sqrt_real] at hc ⊢
    rw [h, hc]
  intro q hq
  cases value with
  | none => simp only [divergePositions, List.mem_singleton] at hq; rw [hq]
  | some v =>
    simp only [divergePositions] at hq
    split at hq
    · simp only [List.mem_singleton] at hq; rw [hq]
    · simp only [Bool.false_eq_true, if_false, List.mem_cons, List.not_mem_nil, or_false] at hq
      rcases hq with rfl | rfl | rfl
      · exact key _
      · rfl
      · exact key _

end Earverif.GainCalc
