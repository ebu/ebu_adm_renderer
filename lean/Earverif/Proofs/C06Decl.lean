/-
C06: well-formedness of the allocation problems (C07 `WF`) from the multitree check, the items of a state as the
declarative items of the valid allocation (`declItemsOfSol`, `itemsOfState_spec`: the per-state part of the right-hand
side of `select_eq_decl`), the allocation problem of a state field by field, and the audio of the track spec of a matrix
item (`matrixTrack_meaning`, `matrix_item_spec_meaning`).

Two notions of well-formedness.  `AllocWF0` (the problems with the channel-less packs dropped) needs the multitree
check only (`allocWF0_of_multitree`) and is what the property theorems of C06 use.  `AllocWF` (the problems as they
are) also needs `wrappedNonempty`; it serves `itemsOfState_spec_wf` and the one-directional `fmtRenamed_itemsOfState`.
-/
import Earverif.Proofs.C06Select
import Earverif.Proofs.C06WF
import Earverif.Props.C07
import Earverif.Props.C20
import Earverif.Proofs.C14Empty

namespace Earverif.Adm

/-- the allocation problems of the document are well-formed in the sense of C07 (`PackAlloc.WF`:
distinct `AllocationPack`s and tracks, every pack has a channel, no channel format twice in a pack).  All but
"every pack has a channel" follow from `validate_structure`'s pack/channel multitree check; that one is
`wrappedNonempty`, which validation does not establish (`allocWF_of_multitree` takes both). -/
def AllocWF (a : Adm) : Prop :=
  ∀ wps st, wrappedPacks a.fmt = .ok wps → PackAlloc.WF (allocProblem a st wps).1

/-- the part of `PackAlloc.WF` that depends on the `AllocationPack`s only (decidable on a concrete
document). -/
def PacksWF (wps : List WPack) : Prop :=
  (wps.map fun w => (⟨w.id, w.root, w.channels⟩ : PackAlloc.Pack)).Nodup ∧
  (∀ w ∈ wps, w.channels ≠ []) ∧ ∀ w ∈ wps, (w.channels.map (·.cf)).Nodup

instance (wps : List WPack) : Decidable (PacksWF wps) := by unfold PacksWF; exact inferInstance

/-- the `AllocationTrackUID`s of a state are distinct objects (identified by their position). -/
theorem allocProblem_tracks_nodup (a : Adm) (st : State) (wps : List WPack) :
    (allocProblem a st wps).1.tracks.Nodup := by
  apply nodup_of_nodup_map (·.id)
  simp only [allocProblem, List.map_map]
  have : ∀ l : List Nat, (l.zipIdx.map ((fun (t : PackAlloc.Track) => t.id) ∘ fun ui =>
      (⟨ui.2, trackChannel a.fmt ui.1, (a.fmt.uid ui.1).pack⟩ : PackAlloc.Track))) = List.range' 0 l.length := by
    intro l
    rw [← List.zipIdx_map_snd 0 l]
    rfl
  rw [this]
  exact List.nodup_range' 1

theorem allocProblem_packs (a : Adm) (st : State) (wps : List WPack) :
    (allocProblem a st wps).1.packs = wps.map fun w => (⟨w.id, w.root, w.channels⟩ : PackAlloc.Pack) := rfl

theorem allocWF_of_packsWF {a : Adm} (h : ∀ wps, wrappedPacks a.fmt = .ok wps → PacksWF wps) : AllocWF a := by
  intro wps st hw
  obtain ⟨h1, h2, h3⟩ := h wps hw
  refine ⟨h1, allocProblem_tracks_nodup a st wps, fun p hp => ?_, fun p hp => ?_⟩
  · obtain ⟨w, hw, rfl⟩ := List.mem_map.1 hp
    exact h2 w hw
  · obtain ⟨w, hw, rfl⟩ := List.mem_map.1 hp
    exact h3 w hw

open Earverif.TrackSpec (MChan packSpec meaning vsum delayOpt scaleOpt)

/-- the `AllocationPack` part of C07's `WF`, from the multitree check
(`cf_nodup`), by construction (`packs_nodup`) and from `wrappedNonempty` (`nonempty`). -/
theorem packsWF_of_multitree {f : Formats} (hmt : multitreeOK f = true) (hne : wrappedNonempty f = true)
    {wps : List WPack} (hw : wrappedPacks f = .ok wps) : PacksWF wps := by
  refine ⟨?_, (wrappedNonempty_iff hw).1 hne, wrappedPacks_cf_nodup hmt hw⟩
  apply nodup_of_nodup_map (·.id)
  rw [List.map_map]
  exact wrappedPacks_ids_nodup hw

theorem allocWF_of_multitree {a : Adm} (hmt : multitreeOK a.fmt = true) (hne : wrappedNonempty a.fmt = true) :
    AllocWF a :=
  allocWF_of_packsWF fun _ hw => packsWF_of_multitree hmt hne hw

/-- C07's `WF` of the problems the allocator effectively solves: `allocate_packs` never allocates an
`AllocationPack` without channels (`PackAlloc.selectPackMapping_dropEmpty`, Proofs/C14Empty.lean), so these
can be dropped from the problem. -/
def AllocWF0 (a : Adm) : Prop :=
  ∀ wps st, wrappedPacks a.fmt = .ok wps → PackAlloc.WF (PackAlloc.dropEmpty (allocProblem a st wps).1)

theorem allocWF0_of_multitree {a : Adm} (hmt : multitreeOK a.fmt = true) : AllocWF0 a := by
  intro wps st hw
  refine PackAlloc.wf_dropEmpty ?_ (allocProblem_tracks_nodup a st wps) fun p hp => ?_
  · rw [allocProblem_packs]
    apply nodup_of_nodup_map (·.id)
    rw [List.map_map]
    exact wrappedPacks_ids_nodup hw
  · obtain ⟨w, hwm, rfl⟩ := List.mem_map.1 hp
    exact wrappedPacks_cf_nodup hmt hw w hwm

theorem allocWF0_of_allocWF {a : Adm} (h : AllocWF a) : AllocWF0 a := by
  intro wps st hw
  obtain ⟨h1, h2, h3, h4⟩ := h wps st hw
  exact ⟨nodup_filter _ h1, h2, fun p hp => h3 p (List.mem_filter.1 hp).1, fun p hp => h4 p (List.mem_filter.1 hp).1⟩

/-- the items of a state, given the allocation `sol`: for every allocated pack its declarative output pack
and channel allocation (`declOutput`), and for that one item per channel / one HOA item (`declItems`). -/
def declItemsOfSol (a : Adm) (st : State) (uids : List Nat) (sol : PackAlloc.Sol) : List Item :=
  sol.flatMap fun al => declItems a st (declOutput a.fmt uids al)

/-- the declarative per-channel item is the `specItem` of the comprehension `specSelect`, at the channel's
unique pack path and the absoluteDistance set along it. -/
theorem declSingle_eq_specItem (a : Adm) (st : State) (p : Nat) (ct : Nat × TSpec) :
    declSingle a st p ct =
      specItem a st (a.fmt.pack p).type (thePackPath a.fmt p ct.1) ct
        (firstSome (absDistAlong a.fmt (thePackPath a.fmt p ct.1))) := rfl

/-- for a regular (non-matrix) allocated pack, spelled out: one `specItem` per `(channel, slot)` entry of the
allocation, with track `direct (trackIndex − 1)` of the slot's audioTrackUID or `silent`. -/
theorem declItems_regular (a : Adm) (st : State) (uids : List Nat) (al : PackAlloc.Allocated)
    (hty : (a.fmt.pack al.pack.root).type = 1 ∨ (a.fmt.pack al.pack.root).type = 3) :
    declItems a st (declOutput a.fmt uids al) =
      al.allocation.map fun cs =>
        specItem a st (a.fmt.pack al.pack.root).type (thePackPath a.fmt al.pack.root cs.1.cf)
          (cs.1.cf, slotTrack a.fmt uids cs.2)
          (firstSome (absDistAlong a.fmt (thePackPath a.fmt al.pack.root cs.1.cf))) := by
  have h2 : (a.fmt.pack al.pack.root).type ≠ 2 := by rcases hty with h | h <;> omega
  have h4 : (a.fmt.pack al.pack.root).type ≠ 4 := by rcases hty with h | h <;> omega
  unfold declOutput declItems
  rw [if_pos h2]
  simp only [h4, if_false, inputAlloc, List.map_map]
  rfl

/-- the audioTrackUIDs a state selects: the real tracks of the leaf object, in the order of its
audioTrackUIDRef list; all audioTrackUIDs of the document in CHNA-only mode. -/
def stateUids (a : Adm) (st : State) : List Nat :=
  match st.objPath with
  | some p => (a.obj (p.getLastD 0)).tracks.filterMap id
  | none => List.range a.fmt.trackUIDs.length

theorem allocProblem_uids (a : Adm) (st : State) (wps : List WPack) :
    (allocProblem a st wps).2 = stateUids a st := by
  unfold allocProblem stateUids
  cases st.objPath <;> rfl

theorem itemsOfState_of_accepted {a : Adm} {st : State} {wps : List WPack} (hw : wrappedPacks a.fmt = .ok wps)
    {sol : PackAlloc.Sol} (hs : PackAlloc.selectPackMapping (allocProblem a st wps).1 = .accepted sol) :
    itemsOfState a st =
      match mapE (outputOf a.fmt (stateUids a st)) sol with
      | .error e => .error e
      | .ok packs => flatMapE (itemsOfPack a st) packs := by
  unfold itemsOfState selectPackMapping
  simp only [hw, hs, allocProblem_uids]
  cases mapE (outputOf a.fmt (stateUids a st)) sol <;> rfl

theorem selectPackMapping_ok_inv {a : Adm} {st : State} {aps : List AllocPack} (h : selectPackMapping a st = .ok aps) :
    ∃ wps sol, wrappedPacks a.fmt = .ok wps ∧
      PackAlloc.selectPackMapping (allocProblem a st wps).1 = .accepted sol ∧
      mapE (outputOf a.fmt (stateUids a st)) sol = .ok aps := by
  unfold selectPackMapping at h
  cases hw : wrappedPacks a.fmt with
  | error e => simp [hw] at h
  | ok wps =>
    cases hsel : PackAlloc.selectPackMapping (allocProblem a st wps).1 with
    | accepted sol => exact ⟨wps, sol, rfl, hsel, by simpa [hw, hsel, allocProblem_uids] using h⟩
    | _ => simp [hw, hsel] at h

theorem itemsOfState_ok_inv {a : Adm} {st : State} {its : List Item} (h : itemsOfState a st = .ok its) :
    ∃ wps sol aps, wrappedPacks a.fmt = .ok wps ∧
      PackAlloc.selectPackMapping (allocProblem a st wps).1 = .accepted sol ∧
      mapE (outputOf a.fmt (stateUids a st)) sol = .ok aps ∧ flatMapE (itemsOfPack a st) aps = .ok its := by
  obtain ⟨aps, hm, hits⟩ := itemsOfState_ok_iff_packs.1 h
  obtain ⟨wps, sol, hw, hsel, hout⟩ := selectPackMapping_ok_inv hm
  exact ⟨wps, sol, aps, hw, hsel, hout, hits⟩

/-- when the per-state pipeline `select_pack_mapping` → `_get_rendering_items`
succeeds, there is a valid allocation (C07 `Valid`) of the state's tracks to the `AllocationPack`s, it is
the only one up to `≈` among the allocations that use no channel-less `AllocationPack`, every entry of it
is usable (`OutputOK`), and the items are the declarative items of that allocation.  Uniqueness is read off the
problem without channel-less packs (`selectPackMapping_dropEmpty`, `PackAlloc.valid_dropEmpty_iff`): `WF.nonempty`
does not follow from validation, `AllocWF0` does. -/
theorem itemsOfState_spec {a : Adm} {st : State} {its : List Item} (h : itemsOfState a st = .ok its)
    (hwf : AllocWF0 a) :
    ∃ wps sol, wrappedPacks a.fmt = .ok wps ∧
      PackAlloc.Valid (allocProblem a st wps).1 sol ∧ (∀ al ∈ sol, al.pack.channels ≠ []) ∧
      (∀ sol', PackAlloc.Valid (allocProblem a st wps).1 sol' → (∀ al ∈ sol', al.pack.channels ≠ []) →
        PackAlloc.SolEquiv sol sol') ∧
      (∀ al ∈ sol, OutputOK a.fmt (allocProblem a st wps).2 al) ∧
      its = declItemsOfSol a st (allocProblem a st wps).2 sol := by
  obtain ⟨wps, sol, packs, hw, hsel, hm, h⟩ := itemsOfState_ok_inv h
  rw [← PackAlloc.selectPackMapping_dropEmpty] at hsel
  obtain ⟨hv, hu⟩ := PackAlloc.select_accepted_unique _ (hwf wps st hw) sol hsel
  obtain ⟨hv1, hv2⟩ := (PackAlloc.valid_dropEmpty_iff _ _).1 hv
  obtain ⟨hok, rfl⟩ := (mapE_ok_iff_of_pointwise (outputOf_ok_iff a.fmt (stateUids a st)) sol packs).1 hm
  refine ⟨wps, sol, hw, hv1, hv2, fun sol' hv' hne' => hu sol' ((PackAlloc.valid_dropEmpty_iff _ _).2 ⟨hv', hne'⟩), ?_⟩
  rw [allocProblem_uids]
  refine ⟨hok, ?_⟩
  obtain ⟨hall, rfl⟩ := (flatMapE_ok_iff _ _ _).1 h
  unfold declItemsOfSol
  rw [List.flatMap_map]
  refine flatMap_congr' fun al hal => ?_
  obtain ⟨zs, hzs⟩ := hall _ (List.mem_map.2 ⟨al, hal, rfl⟩)
  rw [okVal_of_ok hzs]
  exact (itemsOfPack_eq_decl hzs).1

/-- with C07's full well-formedness (`AllocWF`, i.e. also no channel-less `AllocationPack`): the valid
allocation is unique up to `≈` among all valid allocations. -/
theorem itemsOfState_spec_wf {a : Adm} {st : State} {its : List Item} (h : itemsOfState a st = .ok its)
    (hwf : AllocWF a) :
    ∃ wps sol, wrappedPacks a.fmt = .ok wps ∧
      PackAlloc.Valid (allocProblem a st wps).1 sol ∧
      (∀ sol', PackAlloc.Valid (allocProblem a st wps).1 sol' → PackAlloc.SolEquiv sol sol') ∧
      (∀ al ∈ sol, OutputOK a.fmt (allocProblem a st wps).2 al) ∧
      its = declItemsOfSol a st (allocProblem a st wps).2 sol := by
  obtain ⟨wps, sol, hw, hv, _, hu, hok, hits⟩ := itemsOfState_spec h (allocWF0_of_allocWF hwf)
  refine ⟨wps, sol, hw, hv, fun sol' hv' => hu sol' hv' fun al hal => ?_, hok, hits⟩
  exact (hwf wps st hw).nonempty _ (hv'.packs_mem al hal)

theorem declItemsOfSol_perm (a : Adm) (st : State) (uids : List Nat) {sol sol' : PackAlloc.Sol}
    (h : PackAlloc.SolEquiv sol sol') : (declItemsOfSol a st uids sol).Perm (declItemsOfSol a st uids sol') :=
  List.Perm.flatMap_right _ h

/-- the allocation problem of a state, field by field (`get_selected_packs_tracks_silent`): the
`AllocationPack`s of the document; one `AllocationTrackUID` per selected audioTrackUID with its channel
format and referenced pack; the leaf object's pack references and number of silent tracks (none in
CHNA-only mode). -/
theorem allocProblem_fields (a : Adm) (st : State) (wps : List WPack) :
    (allocProblem a st wps).1.packs = wps.map (fun w => (⟨w.id, w.root, w.channels⟩ : PackAlloc.Pack)) ∧
    (allocProblem a st wps).1.tracks = (stateUids a st).zipIdx.map
      (fun ui => (⟨ui.2, trackChannel a.fmt ui.1, (a.fmt.uid ui.1).pack⟩ : PackAlloc.Track)) ∧
    (allocProblem a st wps).1.packRefs = (st.leaf a).map (·.packs) ∧
    (allocProblem a st wps).1.numSilent = ((st.leaf a).map fun o => o.tracks.count none).getD 0 := by
  unfold allocProblem stateUids State.leaf
  cases st.objPath with
  | none => exact ⟨rfl, rfl, rfl, rfl⟩
  | some p =>
    refine ⟨rfl, rfl, rfl, ?_⟩
    simp only [Option.map_some, Option.getD_some]
    exact length_sub_filterMap_id _

theorem allocProblem_tracks_eq (a : Adm) (st : State) (wps : List WPack) :
    (allocProblem a st wps).1.tracks = (List.range (stateUids a st).length).map fun i =>
      (⟨i, trackChannel a.fmt ((stateUids a st).getD i 0), (a.fmt.uid ((stateUids a st).getD i 0)).pack⟩ : PackAlloc.Track) := by
  rw [(allocProblem_fields a st wps).2.1, zipIdx_map_eq_range_map]

/-- a matrix channel that is itself in the input allocation (matrix already applied: "pre-applied" use)
is fed by its own track. -/
theorem matrixTrack_input {f : Formats} {inputs : List (Nat × TSpec)} {mc : Nat} {x : Nat × TSpec}
    (h : inputs.find? (·.1 == mc) = some x) : matrixTrack f inputs mc = x.2 := by
  unfold matrixTrack
  rw [toMChan_input h]
  exact packSpec_input _

/-- the audio (C20 `meaning`) of the track spec of a matrix channel that is not
in the input allocation is the matrix sum: over the coefficients of its block format, the audio of the
coefficient's input channel (recursively `packSpec` of its tree), scaled by the coefficient gain and
delayed by the coefficient delay, all scaled by the block format gain — C20's
`matrix_pack_spec_meaning`, applied to the spec the C06 model builds. -/
theorem matrixTrack_meaning {f : Formats} {inputs : List (Nat × TSpec)} {mc : Nat}
    (hin : inputs.find? (·.1 == mc) = none)
    (hsome : (toMChan f inputs (f.channels.length + 1) mc).isSome = true) (fs : Int) (nch : Nat)
    (x : List (List Rat)) :
    ∃ cs, mapO (coeffMChan f inputs f.channels.length) (f.chan mc).matrix.coeffs = some cs ∧
      meaning fs nch (matrixTrack f inputs mc) x =
        (vsum x.length (cs.map fun c =>
          delayOpt fs c.2.2 (scaleOpt c.2.1 (meaning fs nch (packSpec c.1) x)))).map (· * (f.chan mc).matrix.gain) := by
  obtain ⟨m, hm⟩ := Option.isSome_iff_exists.1 hsome
  obtain ⟨_, cs, hcs, rfl⟩ := toMChan_matrix hm hin
  refine ⟨cs, hcs, ?_⟩
  unfold matrixTrack
  rw [hm]
  exact Earverif.TrackSpec.matrix_pack_spec_meaning fs nch cs _ x

/-- every channel of the output pack of an allocated matrix pack is the
`outputChannelFormat` of a channel `mc` of the matrix pack, fed by that channel's track (if the tracks
carry the matrix channels) or by the matrix sum over the input allocation. -/
theorem matrix_item_spec_meaning {f : Formats} {uids : List Nat} {al : PackAlloc.Allocated} {ap : AllocPack}
    (h : outputOf f uids al = .ok ap) (hty : (f.pack al.pack.root).type = 2) :
    ∀ ct ∈ ap.alloc, ∃ mc ∈ (f.pack al.pack.root).channels,
      ct = (matrixOut f mc, matrixTrack f (inputAlloc f uids al) mc) ∧
      ((∃ x, (inputAlloc f uids al).find? (·.1 == mc) = some x ∧ ct.2 = x.2) ∨
       ((inputAlloc f uids al).find? (·.1 == mc) = none ∧ ∀ (fs : Int) (nch : Nat) (x : List (List Rat)),
          ∃ cs, mapO (coeffMChan f (inputAlloc f uids al) f.channels.length) (f.chan mc).matrix.coeffs = some cs ∧
            meaning fs nch ct.2 x =
              (vsum x.length (cs.map fun c =>
                delayOpt fs c.2.2 (scaleOpt c.2.1 (meaning fs nch (packSpec c.1) x)))).map
                  (· * (f.chan mc).matrix.gain))) := by
  obtain ⟨hok, rfl⟩ := (outputOf_ok_iff f uids al ap).1 h
  have hne : ¬ (f.pack al.pack.root).type ≠ 2 := by omega
  intro ct hct
  unfold declOutput at hct
  rw [if_neg hne] at hct
  obtain ⟨mc, hmc, rfl⟩ := List.mem_map.1 hct
  refine ⟨mc, hmc, rfl, ?_⟩
  cases hfind : (inputAlloc f uids al).find? (·.1 == mc) with
  | some x => exact Or.inl ⟨x, rfl, matrixTrack_input hfind⟩
  | none =>
    exact Or.inr ⟨rfl, fun fs nch x => matrixTrack_meaning hfind ((hok.2 hty).2 mc hmc).2 fs nch x⟩

theorem itemsOfPack_ok_facts {a : Adm} {st : State} {ap : AllocPack} {its : List Item}
    (h : itemsOfPack a st ap = .ok its) :
    (∀ ct ∈ ap.alloc,
      thePackPath a.fmt ap.pack ct.1 ∈ packPathsFrom a.fmt ap.pack ∧
      ct.1 ∈ (a.fmt.pack ((thePackPath a.fmt ap.pack ct.1).getLastD 0)).channels ∧
      (∀ q ∈ packPathsFrom a.fmt ap.pack, ct.1 ∈ (a.fmt.pack (q.getLastD 0)).channels →
        q = thePackPath a.fmt ap.pack ct.1) ∧
      ∀ x, some x ∈ absDistAlong a.fmt (thePackPath a.fmt ap.pack ct.1) →
        firstSome (absDistAlong a.fmt (thePackPath a.fmt ap.pack ct.1)) = some x) ∧
    ((a.fmt.pack ap.pack).type = 4 →
      ∃ hm ad, hoaMetaOf a.fmt (packPathsChannels a.fmt ap) = .ok hm ∧
        ap.alloc ≠ [] ∧ ∀ ct ∈ ap.alloc, getPathParam (absDistAlong a.fmt (thePackPath a.fmt ap.pack ct.1)) = .ok ad) := by
  obtain ⟨hok, _⟩ := (itemsOfPack_iff a st ap its).1 h
  have key : ∀ ct ∈ ap.alloc, (∃ pp, getPackFormatPath a.fmt ap.pack ct.1 = .ok pp) ∧
      ∃ ad, getPathParam (absDistAlong a.fmt (thePackPath a.fmt ap.pack ct.1)) = .ok ad := by
    rcases hok with ⟨_, hall⟩ | ⟨_, hp, _, ad, had⟩
    · exact hall
    · exact fun ct hct =>
        ⟨hp ct hct, ad, ((getSingleParam_ok_iff _ _ _).1 had).2 _ (List.mem_map.2 ⟨ct, hct, rfl⟩)⟩
  refine ⟨fun ct hct => ?_, fun h4 => ?_⟩
  · obtain ⟨⟨pp, hpp⟩, ad, had⟩ := key ct hct
    obtain ⟨rfl, h1, h2, h3⟩ := getPackFormatPath_eq hpp
    refine ⟨h1, h2, h3, fun x hx => ?_⟩
    rw [← getPathParam_eq_firstSome had]
    exact ((getPathParam_ok_iff _ _).1 had).1 x hx
  · rcases hok with ⟨h31, _⟩ | ⟨_, _, ⟨hm, hmeta⟩, ad, had⟩
    · rcases h31 with h3 | h1 <;> omega
    · obtain ⟨hne, hall⟩ := (getSingleParam_ok_iff _ _ _).1 had
      exact ⟨hm, ad, hmeta, fun hnil => hne (by simp [packPathsChannels, hnil]),
        fun ct hct => hall _ (List.mem_map.2 ⟨ct, hct, rfl⟩)⟩

/-- for a channel of a regular `AllocationPack` the pack path of its item is the `pack_formats` of that
`AllocationChannel` (what the track's pack reference was matched against). -/
theorem regular_item_path {f : Formats} {p : Nat} {c : PackAlloc.Channel} (hc : c ∈ (wrapRegular f p).channels)
    {pp : List Nat} (h : getPackFormatPath f p c.cf = .ok pp) : pp = c.pfs := by
  simp only [wrapRegular, List.mem_map] at hc
  obtain ⟨s, hs, rfl⟩ := hc
  exact getPackFormatPath_of_slot hs h

end Earverif.Adm
