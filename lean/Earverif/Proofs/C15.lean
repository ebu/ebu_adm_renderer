/-
C15 — vocabulary and lemmas about the timing-repair model (`Model/TimingFix.lean`): per pass what it
establishes (`…_spec`, `…_cases`) and when it does nothing (`…_stable`), the passes composed (`fix_timed`,
`fix_untimed`), the fixed points (`stable_fix`), acceptance by the renderer's checks (`accept_timed`,
`accept_untimed`).
-/
import Earverif.Model.TimingFix


namespace Earverif.TimingFix

/-- rtime / duration with `None` read as 0 -/
def Block.r (b : Block) : Rat := b.rtime.getD 0
def Block.d (b : Block) : Rat := b.duration.getD 0

def Timed (b : Block) : Prop := b.rtime.isSome = true ∧ b.duration.isSome = true
def Untimed (b : Block) : Prop := b.rtime = none ∧ b.duration = none

def AllTimed (bs : List Block) : Prop := ∀ b ∈ bs, Timed b

def Contig : List Block → Prop
  | a :: b :: rest => a.r + a.d = b.r ∧ Contig (b :: rest)
  | _ => True

def Mono : List Block → Prop
  | a :: b :: rest => a.r ≤ b.r ∧ Mono (b :: rest)
  | _ => True

def LastBelow (D : Rat) : List Block → Prop
  | [] => True
  | [b] => b.r < D
  | _ :: b :: rest => LastBelow D (b :: rest)

def LastNonneg : List Block → Prop
  | [] => True
  | [b] => 0 ≤ b.d
  | _ :: b :: rest => LastNonneg (b :: rest)

def AllBelow (D : Rat) (bs : List Block) : Prop := ∀ b ∈ bs, b.r < D

/-- a timed block's interpolationLength (when it has one in the sense of
`_has_interpolationLength`) does not exceed its duration (`T`: timed; `ILokU` below bounds it by an arbitrary
`D`, as needed for untimed blocks: `ILokT.toU`) -/
def ILokT (b : Block) : Prop := ∀ il, hasIL b = true → b.il = some il → il ≤ b.d

/-- timed blocks end at or before `D` (relative to the object's start) -/
def Within (D : Rat) (bs : List Block) : Prop := ∀ b ∈ bs, Timed b → b.r + b.d ≤ D

/-- what no pass changes: rtime, presence of duration, type, jumpPosition flag, presence of an
interpolationLength -/
def Same (a b : Block) : Prop :=
  b.rtime = a.rtime ∧ b.duration.isSome = a.duration.isSome ∧ b.isObjects = a.isObjects ∧ b.jp = a.jp ∧
    b.il.isSome = a.il.isSome

def RelP (P : Block → Block → Prop) : List Block → List Block → Prop
  | [], [] => True
  | a :: as, b :: bs => P a b ∧ RelP P as bs
  | _, _ => False

def SameD (a b : Block) : Prop := Same a b ∧ b.duration = a.duration
def SameShrink (a b : Block) : Prop := Same a b ∧ b.d ≤ a.d

theorem Same.refl (a : Block) : Same a a := ⟨rfl, rfl, rfl, rfl, rfl⟩

theorem Same.trans {a b c : Block} (h1 : Same a b) (h2 : Same b c) : Same a c :=
  ⟨h2.1.trans h1.1, h2.2.1.trans h1.2.1, h2.2.2.1.trans h1.2.2.1, h2.2.2.2.1.trans h1.2.2.2.1,
    h2.2.2.2.2.trans h1.2.2.2.2⟩

theorem SameShrink.trans {a b c : Block} (h1 : SameShrink a b) (h2 : SameShrink b c) : SameShrink a c :=
  ⟨Same.trans h1.1 h2.1, Rat.le_trans h2.2 h1.2⟩

theorem SameD.d_eq {a b : Block} (h : SameD a b) : b.d = a.d := by rw [Block.d, h.2]; rfl

theorem SameD.toShrink {a b : Block} (h : SameD a b) : SameShrink a b := by
  refine ⟨h.1, ?_⟩
  rw [h.d_eq]; exact Rat.le_refl

theorem Same.r_eq {a b : Block} (h : Same a b) : b.r = a.r := by rw [Block.r, h.1]; rfl

theorem Same.timed {a b : Block} (h : Same a b) (ha : Timed a) : Timed b :=
  ⟨by rw [h.1]; exact ha.1, by rw [h.2.1]; exact ha.2⟩

theorem Same.hasIL {a b : Block} (h : Same a b) : hasIL b = hasIL a := by
  simp only [TimingFix.hasIL, h.2.2.1, h.2.2.2.1, h.2.2.2.2]

theorem Timed.rtime_eq {b : Block} (h : Timed b) : b.rtime = some b.r := by
  cases hr : b.rtime with
  | none => rw [Timed, hr] at h; cases h.1
  | some r => rw [Block.r, hr]; rfl

theorem Timed.duration_eq {b : Block} (h : Timed b) : b.duration = some b.d := by
  cases hd : b.duration with
  | none => rw [Timed, hd] at h; cases h.2
  | some d => rw [Block.d, hd]; rfl

theorem add_sub_self (s e : Rat) : s + (e - s) = e := by rw [Rat.add_comm, Rat.sub_add_cancel]

theorem timed_not_untimed {b : Block} (h : Timed b) : ¬ Untimed b :=
  fun hu => by rw [Timed, hu.1] at h; cases h.1

theorem RelP.mono {P Q : Block → Block → Prop} (h : ∀ {a b}, P a b → Q a b) :
    ∀ {as bs}, RelP P as bs → RelP Q as bs
  | [], [], _ => trivial
  | _ :: _, [], h' => h'.elim
  | [], _ :: _, h' => h'.elim
  | _ :: _, _ :: _, h' => ⟨h h'.1, RelP.mono h h'.2⟩

theorem RelP.refl {P : Block → Block → Prop} (h : ∀ a, P a a) : ∀ as, RelP P as as
  | [] => trivial
  | a :: as => ⟨h a, RelP.refl h as⟩

theorem RelP.trans {P : Block → Block → Prop} (h : ∀ a b c, P a b → P b c → P a c) :
    ∀ {as bs cs}, RelP P as bs → RelP P bs cs → RelP P as cs
  | [], [], [], _, _ => trivial
  | a :: _, b :: _, c :: _, h1, h2 => ⟨h a b c h1.1 h2.1, RelP.trans h h1.2 h2.2⟩
  | [], _ :: _, _, h1, _ => h1.elim
  | _ :: _, [], _, h1, _ => h1.elim
  | _ :: _, _ :: _, [], _, h2 => h2.elim
  | [], [], _ :: _, _, h2 => h2.elim

theorem RelP.map {P : Block → Block → Prop} (f : Block → Block) :
    ∀ as : List Block, (∀ a ∈ as, P a (f a)) → RelP P as (as.map f)
  | [], _ => trivial
  | _ :: as, h => ⟨(List.forall_mem_cons.1 h).1, RelP.map f as (List.forall_mem_cons.1 h).2⟩

theorem RelP.forall_mem {P : Block → Block → Prop} :
    ∀ {as bs}, RelP P as bs → ∀ b ∈ bs, ∃ a ∈ as, P a b
  | [], [], _, _, hb => (List.not_mem_nil hb).elim
  | _ :: _, [], h, _, _ => h.elim
  | [], _ :: _, h, _, _ => h.elim
  | a :: as, b :: bs, h, x, hx => by
    rcases List.mem_cons.1 hx with rfl | hx
    · exact ⟨a, List.mem_cons_self, h.1⟩
    · obtain ⟨a', ha', hp⟩ := RelP.forall_mem h.2 x hx
      exact ⟨a', List.mem_cons_of_mem _ ha', hp⟩

/-- Induction along two related lists in the shape in which `Contig`, `Mono`, `LastBelow`, `LastNonneg`
are defined: empty, one block, two leading blocks. -/
theorem RelP.induction {P : Block → Block → Prop} {motive : List Block → List Block → Prop}
    (nil : motive [] []) (one : ∀ a b, P a b → motive [a] [b])
    (two : ∀ a a' as b b' bs, P a b → P a' b' → motive (a' :: as) (b' :: bs) →
      motive (a :: a' :: as) (b :: b' :: bs)) :
    ∀ {as bs}, RelP P as bs → motive as bs
  | [], [], _ => nil
  | _ :: _, [], h => h.elim
  | [], _ :: _, h => h.elim
  | [a], [b], h => one a b h.1
  | [_], _ :: _ :: _, h => h.2.elim
  | _ :: _ :: _, [_], h => h.2.elim
  | a :: a' :: as, b :: b' :: bs, h => two a a' as b b' bs h.1 h.2.1 (RelP.induction nil one two h.2)

theorem rel_rtimes : ∀ {as bs : List Block}, RelP Same as bs → bs.map (·.rtime) = as.map (·.rtime)
  | [], [], _ => rfl
  | _ :: _, [], h => h.elim
  | [], _ :: _, h => h.elim
  | a :: as, b :: bs, h => by rw [List.map_cons, List.map_cons, h.1.1, rel_rtimes h.2]

theorem rel_length : ∀ {as bs : List Block}, RelP Same as bs → bs.length = as.length := fun h => by
  have := congrArg List.length (rel_rtimes h)
  rwa [List.length_map, List.length_map] at this

theorem rel_allTimed {as bs : List Block} (h : RelP Same as bs) (ha : AllTimed as) : AllTimed bs :=
  fun b hb => let ⟨a, ha', hp⟩ := h.forall_mem b hb; hp.timed (ha a ha')

theorem rel_allBelow (D : Rat) {as bs : List Block} (h : RelP Same as bs) (ha : AllBelow D as) :
    AllBelow D bs :=
  fun b hb => let ⟨a, ha', hp⟩ := h.forall_mem b hb; by rw [hp.r_eq]; exact ha a ha'

theorem relShrink_within (D : Rat) {as bs : List Block} (h : RelP SameShrink as bs) (hw : Within D as) :
    Within D bs := by
  intro b hb tb
  obtain ⟨a, ha, hs, hd⟩ := h.forall_mem b hb
  have ta : Timed a := ⟨by rw [← hs.1]; exact tb.1, by rw [← hs.2.1]; exact tb.2⟩
  rw [hs.r_eq]
  exact Rat.le_trans (Rat.add_le_add_left.2 hd) (hw a ha ta)

theorem rel_mono {as bs : List Block} (h : RelP Same as bs) : Mono as → Mono bs :=
  h.induction (motive := fun as bs => Mono as → Mono bs) id (fun _ _ _ => id)
    fun a a' as b b' bs h1 h2 ih hm => ⟨by rw [h1.r_eq, h2.r_eq]; exact hm.1, ih hm.2⟩

theorem relD_contig {as bs : List Block} (h : RelP SameD as bs) : Contig as → Contig bs :=
  h.induction (motive := fun as bs => Contig as → Contig bs) id (fun _ _ _ => id)
    fun a a' as b b' bs h1 h2 ih hc => ⟨by rw [h1.1.r_eq, h1.d_eq, h2.1.r_eq]; exact hc.1, ih hc.2⟩

theorem RelP.lastNonneg {P : Block → Block → Prop} (hP : ∀ {a b}, P a b → 0 ≤ a.d → 0 ≤ b.d)
    {as bs : List Block} (h : RelP P as bs) : LastNonneg as → LastNonneg bs :=
  h.induction (motive := fun as bs => LastNonneg as → LastNonneg bs) id (fun _ _ h1 => hP h1)
    fun _ _ _ _ _ _ _ _ ih => ih

theorem allBelow_of_mono : ∀ {bs : List Block} {D : Rat}, Mono bs → LastBelow D bs → AllBelow D bs
  | [], _, _, _ => List.forall_mem_nil _
  | [_], _, _, hl => List.forall_mem_singleton.2 hl
  | _ :: b :: rest, _, hm, hl =>
    have ih := allBelow_of_mono (bs := b :: rest) hm.2 hl
    List.forall_mem_cons.2 ⟨Std.lt_of_le_of_lt hm.1 (List.forall_mem_cons.1 ih).1, ih⟩

theorem fixDuration_timed (i : Nat) (a b : Block) (ha : Timed a) (hb : Timed b) :
    Same a (fixDuration i a b).1 ∧ (fixDuration i a b).1.duration = some (b.r - a.r)
    ∧ (a.r + a.d = b.r → fixDuration i a b = (a, [])) := by
  simp only [fixDuration, ha.rtime_eq, ha.duration_eq, hb.rtime_eq, hb.duration_eq]
  by_cases h : a.d = b.r - a.r
  · simp only [h, ne_eq, not_true_eq_false, if_false, ha.duration_eq]
    exact ⟨Same.refl a, trivial, fun _ => trivial⟩
  · simp only [ne_eq, h, not_false_eq_true, if_true]
    refine ⟨⟨ha.rtime_eq.symm, ha.2.symm, rfl, rfl, ?_⟩, trivial, fun hc => absurd (by rw [← hc, Rat.add_comm, Rat.add_sub_cancel]) h⟩
    cases a.il with
    | none => rfl
    | some il => simp only; split <;> rfl

theorem fixDuration_skip (i : Nat) (a b : Block) (h : ¬ (Timed a ∧ Timed b)) :
    fixDuration i a b = (a, []) := by
  rcases a with ⟨_|ra, _|da, o, j, il⟩ <;> rcases b with ⟨_|rb, _|db, o', j', il'⟩ <;>
    first | rfl | exact absurd ⟨⟨rfl, rfl⟩, ⟨rfl, rfl⟩⟩ h

theorem checkDurations_cons (i : Nat) (a b : Block) (rest : List Block) :
    checkDurations i (a :: b :: rest) =
      ((fixDuration i a b).1 :: (checkDurations (i + 1) (b :: rest)).1,
       (fixDuration i a b).2 ++ (checkDurations (i + 1) (b :: rest)).2) := rfl

theorem checkDurations_getLast? : ∀ (bs : List Block) (i : Nat),
    (checkDurations i bs).1.getLast? = bs.getLast?
  | [], _ => rfl
  | [_], _ => rfl
  | a :: b :: rest, i => by
    rw [checkDurations_cons]
    simp only [List.getLast?_cons, checkDurations_getLast? (b :: rest) (i + 1), Option.getD_some]

theorem lastNonneg_iff : ∀ bs : List Block, LastNonneg bs ↔ ∀ b ∈ bs.getLast?, 0 ≤ b.d
  | [] => by simp [LastNonneg]
  | [b] => by simp [LastNonneg]
  | _ :: b :: rest => by rw [List.getLast?_cons_cons]; exact lastNonneg_iff (b :: rest)

theorem checkDurations_lastNonneg (bs : List Block) (i : Nat) (h : LastNonneg bs) :
    LastNonneg (checkDurations i bs).1 := by
  rw [lastNonneg_iff, checkDurations_getLast?]; exact (lastNonneg_iff bs).1 h

theorem checkDurations_spec : ∀ (bs : List Block) (i : Nat), AllTimed bs →
    RelP Same bs (checkDurations i bs).1 ∧ Contig (checkDurations i bs).1
  | [], _, _ => ⟨trivial, trivial⟩
  | [b], _, _ => ⟨⟨Same.refl b, trivial⟩, trivial⟩
  | a :: b :: rest, i, h => by
    obtain ⟨ha, h⟩ := List.forall_mem_cons.1 h
    have ih := checkDurations_spec (b :: rest) (i + 1) h
    obtain ⟨hs, hd, _⟩ := fixDuration_timed i a b ha (List.forall_mem_cons.1 h).1
    rw [checkDurations_cons]
    -- the recursive result starts with a block that has b's rtime
    cases hrec : (checkDurations (i + 1) (b :: rest)).1 with
    | nil => rw [hrec] at ih; exact ih.1.elim
    | cons b' rest' =>
      rw [hrec] at ih
      refine ⟨⟨hs, ih.1⟩, ?_, ih.2⟩
      show (fixDuration i a b).1.r + (fixDuration i a b).1.d = b'.r
      rw [hs.r_eq, ih.1.1.r_eq, Block.d, hd]
      exact add_sub_self a.r b.r

theorem checkDurations_stable : ∀ (bs : List Block) (i : Nat),
    (∀ b ∈ bs, Timed b ∨ Untimed b) → Contig bs → checkDurations i bs = (bs, [])
  | [], _, _, _ => rfl
  | [b], _, _, _ => rfl
  | a :: b :: rest, i, h, hc => by
    have ih := checkDurations_stable (b :: rest) (i + 1) (List.forall_mem_cons.1 h).2 hc.2
    rw [checkDurations_cons, ih]
    by_cases hab : Timed a ∧ Timed b
    · rw [(fixDuration_timed i a b hab.1 hab.2).2.2 hc.1]; rfl
    · rw [fixDuration_skip i a b hab]; rfl

/-! Passes 2 and 3 change an interpolationLength in one way only (`capIL`): when it exceeds a bound `X` (the
block's duration in pass 2, its new duration or the object's in pass 3) it becomes `X`. -/

/-- the block's interpolationLength (when it has one in the sense of `_has_interpolationLength`) does not
exceed `D`; stated of an untimed block and an object's duration in `Stable` -/
def ILokU (D : Rat) (b : Block) : Prop := ∀ il, hasIL b = true → b.il = some il → il ≤ D

theorem ILokT.toU {b : Block} (h : ILokT b) : ILokU b.d b := h

def capIL (X : Rat) (b : Block) : Block :=
  match b.il with
  | some il => if hasIL b && decide (il > X) then { b with il := some X } else b
  | none => b

theorem capIL_sameD (X : Rat) (b : Block) : SameD b (capIL X b) := by
  unfold capIL
  split
  · rename_i il h
    split
    · exact ⟨⟨rfl, rfl, rfl, rfl, by rw [h]; rfl⟩, rfl⟩
    · exact ⟨Same.refl b, rfl⟩
  · exact ⟨Same.refl b, rfl⟩

theorem ilTest_false {X : Rat} {b : Block} (h : ILokU X b) {il : Rat} (hil : b.il = some il) :
    (hasIL b && decide (il > X)) = false := by
  cases hh : hasIL b with
  | false => rfl
  | true => simp only [Bool.true_and, gt_iff_lt, decide_eq_false_iff_not, Rat.not_lt]; exact h il hh hil

theorem capIL_ok (X : Rat) (b : Block) : ILokU X (capIL X b) ∧ ∀ Y, ILokU Y b → ILokU Y (capIL X b) := by
  unfold capIL
  split
  · rename_i il hil
    by_cases hc : (hasIL b && decide (il > X)) = true
    · rw [if_pos hc]
      simp only [Bool.and_eq_true, decide_eq_true_eq] at hc
      refine ⟨fun il' _ h' => ?_, fun Y hY il' _ h' => ?_⟩
      · cases h'; exact Rat.le_refl
      · cases h'; exact Rat.le_trans (Rat.le_of_lt hc.2) (hY il hc.1 hil)
    · rw [if_neg hc]
      refine ⟨fun il' hh h' => ?_, fun _ hY => hY⟩
      rw [hil] at h'; cases h'
      simpa only [hh, Bool.true_and, decide_eq_true_eq, gt_iff_lt, Rat.not_lt] using hc
  · rename_i hil
    exact ⟨fun il' _ h' => (by rw [hil] at h'; cases h'), fun _ hY => hY⟩

theorem fixIL_fst (i : Nat) (b : Block) (ht : Timed b) : (fixIL i b).1 = capIL b.d b := by
  simp only [fixIL, capIL, ht.rtime_eq, ht.duration_eq]
  cases b.il with
  | none => rfl
  | some il => simp only; split <;> rfl

theorem fixIL_silent (i : Nat) (b : Block) (h : Timed b → ILokT b) : fixIL i b = (b, []) := by
  unfold fixIL
  split
  · rename_i r d il hr hd hil
    have ht : Timed b := ⟨by rw [hr]; rfl, by rw [hd]; rfl⟩
    have : d = b.d := by rw [Block.d, hd]; rfl
    rw [this, ilTest_false (h ht).toU hil]; rfl
  · rfl

theorem fixIL_sameD (i : Nat) (b : Block) : SameD b (fixIL i b).1 := by
  by_cases ht : Timed b
  · rw [fixIL_fst i b ht]; exact capIL_sameD _ b
  · rw [fixIL_silent i b (fun h => absurd h ht)]; exact ⟨Same.refl b, rfl⟩

theorem fixIL_ok (i : Nat) (b : Block) (ht : Timed b) : ILokT (fixIL i b).1 := by
  rw [fixIL_fst i b ht]
  intro il hh hil
  rw [(capIL_sameD b.d b).d_eq]
  exact (capIL_ok b.d b).1 il hh hil

theorem checkILs_spec : ∀ (bs : List Block) (i : Nat),
    RelP SameD bs (checkILs i bs).1 ∧ (AllTimed bs → ∀ b ∈ (checkILs i bs).1, ILokT b)
  | [], _ => ⟨trivial, fun _ => List.forall_mem_nil _⟩
  | b :: rest, i => by
    have ih := checkILs_spec rest (i + 1)
    exact ⟨⟨fixIL_sameD i b, ih.1⟩, fun ht =>
      List.forall_mem_cons.2 ⟨fixIL_ok i b (List.forall_mem_cons.1 ht).1, ih.2 (List.forall_mem_cons.1 ht).2⟩⟩

theorem checkILs_stable : ∀ (bs : List Block) (i : Nat),
    (∀ b ∈ bs, Timed b → ILokT b) → checkILs i bs = (bs, [])
  | [], _, _ => rfl
  | b :: rest, i, h => by
    rw [checkILs, checkILs_stable rest (i + 1) (List.forall_mem_cons.1 h).2,
      fixIL_silent i b (List.forall_mem_cons.1 h).1]
    rfl

theorem clampBlock_timed_within (i : Nat) (D : Rat) (b : Block) (ht : Timed b) (hw : b.r + b.d ≤ D) :
    clampBlockFormatTimes i D b = .ok (b, []) := by
  simp only [clampBlockFormatTimes, ht.rtime_eq, ht.duration_eq, clampEnd, gt_iff_lt, Rat.not_lt.2 hw, if_false]

/-- what `_clamp_blockFormat_times` makes of a timed block `a` when it does not raise: nothing if `a` ends
inside the object; else its end is advanced to the object's end `D` and its interpolationLength cut -/
def Clamp (D : Rat) (a b : Block) : Prop :=
  (b = a ∧ a.r + a.d ≤ D) ∨ (Same a b ∧ ILokT b ∧ a.r < D ∧ D < a.r + a.d ∧ b.d = D - a.r)

/-- a timed block starting at or after the object's end makes `_clamp_blockFormat_end` raise `ValueError`
("tried to advance end of … before the block start"); any other block is clamped -/
theorem clampBlock_timed_cases (i : Nat) (D : Rat) (b : Block) (ht : Timed b) :
    (clampBlockFormatTimes i D b = .error .valueError ∧ D ≤ b.r) ∨
    ∃ b' ws, clampBlockFormatTimes i D b = .ok (b', ws) ∧ Clamp D b b' := by
  by_cases hw : b.r + b.d ≤ D
  · exact .inr ⟨b, [], clampBlock_timed_within i D b ht hw, .inl ⟨rfl, hw⟩⟩
  have h1 := Rat.not_le.1 hw
  by_cases h2 : b.r < D
  · have h3 : ¬ (b.r + b.d - D ≥ b.d) := by grind
    have e : b.d - (b.r + b.d - D) = D - b.r := by grind
    obtain ⟨ws, h⟩ : ∃ ws, clampBlockFormatTimes i D b =
        .ok (capIL (D - b.r) { b with duration := some (D - b.r) }, ws) := by
      simp only [clampBlockFormatTimes, ht.rtime_eq, ht.duration_eq, clampEnd, gt_iff_lt, h1, h3, if_true,
        if_false, e, capIL, hasIL]
      cases b.il with
      | none => exact ⟨_, rfl⟩
      | some il => simp only; split <;> exact ⟨_, rfl⟩
    have hs := capIL_sameD (D - b.r) { b with duration := some (D - b.r) }
    refine .inr ⟨_, ws, h, .inr ⟨Same.trans (b := { b with duration := some (D - b.r) })
      ⟨rfl, ht.2.symm, rfl, rfl, rfl⟩ hs.1, fun il hh hil => ?_, h2, h1, hs.d_eq⟩⟩
    rw [hs.d_eq]
    exact (capIL_ok _ _).1 il hh hil
  · have h3 : b.r + b.d - D ≥ b.d := by grind
    refine .inl ⟨?_, Rat.not_lt.1 h2⟩
    simp only [clampBlockFormatTimes, ht.rtime_eq, ht.duration_eq, clampEnd, gt_iff_lt, h1, h3, if_true]

theorem Clamp.shrink {D : Rat} {a b : Block} (h : Clamp D a b) : SameShrink a b := by
  rcases h with ⟨rfl, _⟩ | ⟨hs, _, _, _, hd⟩
  · exact ⟨Same.refl b, Rat.le_refl⟩
  · exact ⟨hs, by rw [hd]; grind⟩

theorem Clamp.within {D : Rat} {a b : Block} (h : Clamp D a b) : b.r + b.d ≤ D := by
  rcases h with ⟨rfl, hw⟩ | ⟨hs, _, _, _, hd⟩
  · exact hw
  · rw [hd, hs.r_eq, add_sub_self]; exact Rat.le_refl

theorem Clamp.ilok {D : Rat} {a b : Block} (h : Clamp D a b) (ha : ILokT a) : ILokT b := by
  rcases h with ⟨rfl, _⟩ | ⟨_, hi, _⟩
  · exact ha
  · exact hi

theorem Clamp.eq_or_pos {D : Rat} {a b : Block} (h : Clamp D a b) : b = a ∨ 0 < b.d := by
  rcases h with ⟨rfl, _⟩ | ⟨_, _, h2, _, hd⟩
  · exact .inl rfl
  · exact .inr (by rw [hd]; grind)

/-- every block but the last ends where the next one starts, hence inside the object, and is left alone -/
theorem clamp_contig {D : Rat} {as bs : List Block} (h : RelP (Clamp D) as bs) :
    Contig as → AllBelow D as → Contig bs :=
  h.induction (motive := fun as bs => Contig as → AllBelow D as → Contig bs) (fun _ _ => trivial)
    (fun _ _ _ _ _ => trivial)
    fun a a' as b b' bs h1 h2 ih hc hb => by
      obtain ⟨_, hb⟩ := List.forall_mem_cons.1 hb
      refine ⟨?_, ih hc.2 hb⟩
      rcases h1 with ⟨rfl, _⟩ | ⟨_, _, _, h, _⟩
      · rw [h2.shrink.1.r_eq]; exact hc.1
      · rw [hc.1] at h; exact absurd (List.forall_mem_cons.1 hb).1 (Rat.not_lt.2 (Rat.le_of_lt h))

theorem Clamp.nonneg {D : Rat} {a b : Block} (h : Clamp D a b) (ha : 0 ≤ a.d) : 0 ≤ b.d :=
  h.eq_or_pos.elim (fun e => by rw [e]; exact ha) Rat.le_of_lt

theorem clampIL_fst (i : Nat) (D : Rat) (b : Block) : (clampInterpolationLength i D b).1 = capIL D b := by
  unfold clampInterpolationLength capIL
  cases b.il with
  | none => rfl
  | some il => simp only; split <;> rfl

theorem clampIL_silent (i : Nat) (D : Rat) (b : Block) (h : ILokU D b) :
    clampInterpolationLength i D b = (b, []) := by
  unfold clampInterpolationLength
  split
  · rename_i il hil
    rw [ilTest_false h hil]; rfl
  · rfl

theorem clampBlock_untimed_eq (i : Nat) (D : Rat) (b : Block) (hu : Untimed b) :
    clampBlockFormatTimes i D b = .ok (clampInterpolationLength i D b) := by
  simp only [clampBlockFormatTimes, hu.1, hu.2]

theorem clampBlock_untimed_ok (i : Nat) (D : Rat) (b : Block) (hu : Untimed b) (hil : ILokU D b) :
    clampBlockFormatTimes i D b = .ok (b, []) := by
  rw [clampBlock_untimed_eq i D b hu, clampIL_silent i D b hil]

theorem clampBlocks_cases (D : Rat) : ∀ (bs : List Block) (i : Nat), AllTimed bs →
    (clampBlocks i D bs = .error .valueError ∧ ∃ b ∈ bs, D ≤ b.r) ∨
    ∃ out ws, clampBlocks i D bs = .ok (out, ws) ∧ RelP (Clamp D) bs out
  | [], _, _ => .inr ⟨[], [], rfl, trivial⟩
  | b :: rest, i, ht => by
    obtain ⟨htb, ht⟩ := List.forall_mem_cons.1 ht
    rcases clampBlock_timed_cases i D b htb with ⟨hb, hD⟩ | ⟨b', ws, hb, hk⟩
    · exact .inl ⟨by simp only [clampBlocks, hb], b, List.mem_cons_self, hD⟩
    · rcases clampBlocks_cases D rest (i + 1) ht with ⟨hr, x, hx, hD⟩ | ⟨out, ws', hr, hk'⟩
      · exact .inl ⟨by simp only [clampBlocks, hb, hr], x, List.mem_cons_of_mem _ hx, hD⟩
      · exact .inr ⟨b' :: out, ws ++ ws', by simp only [clampBlocks, hb, hr], hk, hk'⟩

theorem clampBlocks_stable (D : Rat) : ∀ (bs : List Block) (i : Nat),
    (∀ b ∈ bs, Timed b ∨ Untimed b) → Within D bs → (∀ b ∈ bs, Untimed b → ILokU D b) →
    clampBlocks i D bs = .ok (bs, [])
  | [], _, _, _, _ => rfl
  | b :: rest, i, h, hw, hu => by
    obtain ⟨hb, h⟩ := List.forall_mem_cons.1 h
    obtain ⟨hwb, hw⟩ := List.forall_mem_cons.1 hw
    obtain ⟨hub, hu⟩ := List.forall_mem_cons.1 hu
    have e : clampBlockFormatTimes i D b = .ok (b, []) :=
      hb.elim (fun ht => clampBlock_timed_within i D b ht (hwb ht)) fun hun =>
        clampBlock_untimed_ok i D b hun (hub hun)
    simp only [clampBlocks, e, clampBlocks_stable D rest (i + 1) h hw hu]
    rfl

/-! Of the objects, pass 3 reads only the durations of those that have one, in order. -/

def durations (objs : List Obj) : List Rat := objs.filterMap (·.duration)

theorem forall_durations {objs : List Obj} {P : Rat → Prop} :
    (∀ D ∈ durations objs, P D) ↔ ∀ o ∈ objs, ∀ D, o.duration = some D → P D :=
  ⟨fun h o ho D hD => h D (List.mem_filterMap.2 ⟨o, ho, hD⟩),
    fun h D hD => let ⟨o, ho, hd⟩ := List.mem_filterMap.1 hD; h o ho D hd⟩

def clampAll : List Rat → List Block → Except Err (List Block × List Warn)
  | [], bs => .ok (bs, [])
  | D :: Ds, bs =>
    match clampBlocks 0 D bs with
    | .error e => .error e
    | .ok r =>
      match clampAll Ds r.1 with
      | .error e => .error e
      | .ok rs => .ok (rs.1, r.2 ++ rs.2)

theorem checkTimesForObjects_eq : ∀ (objs : List Obj) (bs : List Block),
    checkTimesForObjects objs bs = clampAll (durations objs) bs
  | [], _ => rfl
  | o :: os, bs => by
    cases hd : o.duration with
    | none =>
      rw [durations, List.filterMap_cons_none hd, checkTimesForObjects, hd]
      exact checkTimesForObjects_eq os bs
    | some D =>
      rw [durations, List.filterMap_cons_some hd, checkTimesForObjects, hd, clampAll]
      simp only [checkTimesForObjects_eq os]
      rfl

/-- a clamp against `D` touches only the last block (`clamp_contig`), so every property of the channel survives
clamping against each duration in turn -/
theorem clampAll_spec : ∀ (Ds : List Rat) (bs : List Block),
    AllTimed bs → Contig bs → (∀ b ∈ bs, ILokT b) → (∀ D ∈ Ds, AllBelow D bs) →
    ∃ out ws, clampAll Ds bs = .ok (out, ws) ∧ RelP SameShrink bs out ∧ Contig out ∧
      (∀ b ∈ out, ILokT b) ∧ (∀ D ∈ Ds, Within D out) ∧ (LastNonneg bs → LastNonneg out)
  | [], bs, _, hc, hil, _ =>
    ⟨bs, [], rfl, RelP.refl (fun a => ⟨Same.refl a, Rat.le_refl⟩) bs, hc, hil, List.forall_mem_nil _, id⟩
  | D :: Ds, bs, ht, hc, hil, hb => by
    obtain ⟨hbD, hb⟩ := List.forall_mem_cons.1 hb
    obtain ⟨out1, ws1, a1, r⟩ := (clampBlocks_cases D bs 0 ht).resolve_left
      fun ⟨_, b, hm, hD⟩ => absurd (hbD b hm) (Rat.not_lt.2 hD)
    have a2 : RelP SameShrink bs out1 := r.mono Clamp.shrink
    have rs : RelP Same bs out1 := a2.mono fun h => h.1
    obtain ⟨out, ws, h1, h2, h3, h4, h5, h6⟩ := clampAll_spec Ds out1 (rel_allTimed rs ht) (clamp_contig r hc hbD)
      (fun b hm => let ⟨a, ha, h⟩ := r.forall_mem b hm; h.ilok (hil a ha))
      (fun D' hD' => rel_allBelow D' rs (hb D' hD'))
    exact ⟨out, ws1 ++ ws, by simp only [clampAll, a1, h1],
      RelP.trans (P := SameShrink) (fun _ _ _ => SameShrink.trans) a2 h2, h3, h4,
      List.forall_mem_cons.2
        ⟨relShrink_within D h2 fun b hm _ => let ⟨_, _, h⟩ := r.forall_mem b hm; h.within, h5⟩,
      fun h => h6 (r.lastNonneg Clamp.nonneg h)⟩

theorem clampAll_stable : ∀ (Ds : List Rat) (bs : List Block),
    (∀ b ∈ bs, Timed b ∨ Untimed b) → (∀ D ∈ Ds, Within D bs ∧ ∀ b ∈ bs, Untimed b → ILokU D b) →
    clampAll Ds bs = .ok (bs, [])
  | [], _, _, _ => rfl
  | D :: Ds, bs, h, hw => by
    obtain ⟨hD, hw⟩ := List.forall_mem_cons.1 hw
    simp only [clampAll, clampBlocks_stable D bs 0 h hD.1 hD.2, clampAll_stable Ds bs h hw]
    rfl

theorem clampAll_untimed : ∀ (Ds : List Rat) (b : Block), Untimed b →
    ∃ b' ws, clampAll Ds [b] = .ok ([b'], ws) ∧ Same b b' ∧ Untimed b' ∧
      (∀ D ∈ Ds, ILokU D b') ∧ (∀ D', ILokU D' b → ILokU D' b')
  | [], b, hu => ⟨b, [], rfl, Same.refl b, hu, List.forall_mem_nil _, fun _ h => h⟩
  | D :: Ds, b, hu => by
    have hs := capIL_sameD D b
    have hk := capIL_ok D b
    obtain ⟨b', ws, h1, h2, h3, h4, h5⟩ :=
      clampAll_untimed Ds (capIL D b) ⟨by rw [hs.1.1]; exact hu.1, by rw [hs.2]; exact hu.2⟩
    have e : clampBlocks 0 D [b] = .ok ([capIL D b], (clampInterpolationLength 0 D b).2 ++ []) := by
      simp only [clampBlocks, clampBlock_untimed_eq 0 D b hu, clampIL_fst]
    exact ⟨b', (clampInterpolationLength 0 D b).2 ++ [] ++ ws, by simp only [clampAll, e, h1],
      Same.trans hs.1 h2, h3, List.forall_mem_cons.2 ⟨h5 D hk.1, h4⟩, fun D' h => h5 D' (hk.2 D' h)⟩

theorem fix_timed (objs : List Obj) (bs : List Block) (ht : AllTimed bs) (hm : Mono bs)
    (hl : ∀ o ∈ objs, ∀ D, o.duration = some D → LastBelow D bs) :
    ∃ out ws, fixTimings objs bs = .ok (out, ws) ∧ RelP Same bs out ∧ Contig out ∧
      (∀ b ∈ out, ILokT b) ∧ (∀ o ∈ objs, ∀ D, o.duration = some D → Within D out) ∧
      (LastNonneg bs → LastNonneg out) := by
  obtain ⟨r1, c1⟩ := checkDurations_spec bs 0 ht
  have t1 := rel_allTimed r1 ht
  obtain ⟨r2, i2⟩ := checkILs_spec (checkDurations 0 bs).1 0
  have r2s : RelP Same _ _ := r2.mono fun h => h.1
  obtain ⟨out, ws, h1, h2, h3, h4, h5, h6⟩ :=
    clampAll_spec (durations objs) _ (rel_allTimed r2s t1) (relD_contig r2 c1) (i2 t1)
      -- the one use of `Mono`: every block, not only the last, starts before every `D`, so no clamp raises
      (forall_durations.2 fun o ho D hD =>
        rel_allBelow D r2s (rel_allBelow D r1 (allBelow_of_mono hm (hl o ho D hD))))
  exact ⟨out, (checkDurations 0 bs).2 ++ (checkILs 0 (checkDurations 0 bs).1).2 ++ ws,
    by simp only [fixTimings, checkTimesForObjects_eq, h1],
    RelP.trans (P := Same) (fun _ _ _ => Same.trans) r1 (RelP.trans (P := Same) (fun _ _ _ => Same.trans) r2s
      (h2.mono fun h => h.1)),
    h3, h4, forall_durations.1 h5,
    fun h => h6 (r2.lastNonneg (fun h hl => by rw [h.d_eq]; exact hl) (checkDurations_lastNonneg bs 0 h))⟩

theorem fix_untimed (objs : List Obj) (b : Block) (hu : Untimed b) :
    ∃ b' ws, fixTimings objs [b] = .ok ([b'], ws) ∧ Same b b' ∧ Untimed b' ∧
      (∀ o ∈ objs, ∀ D, o.duration = some D → ILokU D b') := by
  obtain ⟨b', ws, h1, h2, h3, h4, _⟩ := clampAll_untimed (durations objs) b hu
  refine ⟨b', [] ++ ([] ++ []) ++ ws, ?_, h2, h3, forall_durations.1 h4⟩
  simp only [fixTimings, checkDurations, checkILs, fixIL_silent 0 b (fun ht => absurd hu (timed_not_untimed ht)),
    checkTimesForObjects_eq, h1]

/-- Fixed points of the repair: nothing to do for any of the three passes. -/
def Stable (objs : List Obj) (bs : List Block) : Prop :=
  (∀ b ∈ bs, Timed b ∨ Untimed b) ∧ Contig bs ∧ (∀ b ∈ bs, Timed b → ILokT b) ∧
  ∀ o ∈ objs, ∀ D, o.duration = some D → Within D bs ∧ ∀ b ∈ bs, Untimed b → ILokU D b

theorem stable_fix (objs : List Obj) (bs : List Block) (h : Stable objs bs) :
    fixTimings objs bs = .ok (bs, []) := by
  obtain ⟨h1, h2, h3, h4⟩ := h
  simp only [fixTimings, checkDurations_stable bs 0 h1 h2, checkILs_stable bs 0 h3, checkTimesForObjects_eq,
    clampAll_stable _ bs h1 (forall_durations.2 h4)]
  rfl

theorem acceptGo_cons (o : Obj) (last : Option (Option Rat)) (b : Block) (rest : List Block) :
    acceptGo o last (b :: rest) =
      (match blockStartEnd o b with
       | .error v => v
       | .ok (s, e) =>
         if overlaps last s then .overlap
         else match interpCheck b last s e with
           | some v => v
           | none => acceptGo o (some e) rest) := rfl

/-- the previous block (if any) ended at a finite time, not after the start of the next block (`last` is the
interpreter's `__last_block_end` in front of the list, not the list's last block as in `LastBelow`, `LastNonneg`) -/
def LastOK (os : Rat) : Option (Option Rat) → List Block → Prop
  | some none, _ :: _ => False
  | some (some le), b :: _ => le ≤ os + b.r
  | _, _ => True

/-- the interpreter's `interpolationLength or 0` -/
theorem ILokU.getD_le {X : Rat} {b : Block} (h : ILokU X b) (h0 : 0 ≤ X) (hio : b.isObjects = true)
    (hj : b.jp = true) : b.il.getD 0 ≤ X := by
  cases hi : b.il with
  | none => exact h0
  | some x => exact h x (by simp only [hasIL, hio, hj, hi]; rfl) hi

theorem interpCheck_none (b : Block) (last : Option (Option Rat)) (s len : Rat)
    (h : b.isObjects = true → b.jp = true → b.il.getD 0 ≤ len) :
    interpCheck b last s (some (s + len)) = none := by
  simp only [interpCheck]
  cases hio : b.isObjects with
  | false => rfl
  | true =>
    cases hj : b.jp with
    | false => rfl
    | true =>
      have : ¬ (s + b.il.getD 0 > s + len) := Rat.not_lt.2 (Rat.add_le_add_left.2 (h hio hj))
      simp only [if_true, Bool.true_and, this, decide_false, Bool.false_eq_true, if_false]

theorem acceptGo_timed_cons (o : Obj) (a : Block) (rest : List Block) (last : Option (Option Rat))
    (ht : Timed a) (hil : ILokT a) (hd : 0 ≤ a.d) (hw : ∀ D, o.duration = some D → a.r + a.d ≤ D)
    (hlast : LastOK (o.start.getD 0) last (a :: rest)) :
    acceptGo o last (a :: rest) = acceptGo o (some (some (o.start.getD 0 + a.r + a.d))) rest := by
  have hbse : blockStartEnd o a = .ok (o.start.getD 0 + a.r, some (o.start.getD 0 + a.r + a.d)) := by
    simp only [blockStartEnd, ht.rtime_eq, ht.duration_eq]
    cases hD : o.duration with
    | none => rfl
    | some D =>
      have : ¬ (o.start.getD 0 + a.r + a.d > o.start.getD 0 + D) := by
        rw [Rat.add_assoc]; exact Rat.not_lt.2 (Rat.add_le_add_left.2 (hw D hD))
      simp only [Option.map_some, this, if_false]
  have hov : overlaps last (o.start.getD 0 + a.r) = false := by
    rcases last with _ | _ | le
    · rfl
    · exact hlast.elim
    · simp only [overlaps, decide_eq_false_iff_not, Rat.not_lt]; exact hlast
  rw [acceptGo_cons, hbse]
  simp only [hov, interpCheck_none a last _ a.d (ILokU.getD_le hil.toU hd), Bool.false_eq_true, if_false]

theorem accept_timed (o : Obj) : ∀ (bs : List Block) (last : Option (Option Rat)),
    AllTimed bs → Contig bs → Mono bs → LastNonneg bs → (∀ b ∈ bs, ILokT b) →
    (∀ D, o.duration = some D → Within D bs) → LastOK (o.start.getD 0) last bs →
    acceptGo o last bs = .ok
  | [], _, _, _, _, _, _, _, _ => rfl
  | [a], last, ht, _, _, hn, hil, hw, hlast => by
    have ta := List.forall_mem_singleton.1 ht
    rw [acceptGo_timed_cons o a [] last ta (List.forall_mem_singleton.1 hil) hn
      (fun D hD => List.forall_mem_singleton.1 (hw D hD) ta) hlast]
    rfl
  | a :: b :: rest, last, ht, hc, hm, hn, hil, hw, hlast => by
    -- the next block starts where this one ends, and not before this one starts
    have hd : 0 ≤ a.d := (Rat.add_le_add_left (c := a.r)).1 (by rw [Rat.add_zero, hc.1]; exact hm.1)
    obtain ⟨ta, ht⟩ := List.forall_mem_cons.1 ht
    obtain ⟨hia, hil⟩ := List.forall_mem_cons.1 hil
    rw [acceptGo_timed_cons o a (b :: rest) last ta hia hd
      (fun D hD => (List.forall_mem_cons.1 (hw D hD)).1 ta) hlast]
    refine accept_timed o (b :: rest) _ ht hc.2 hm.2 hn hil
      (fun D hD => (List.forall_mem_cons.1 (hw D hD)).2) ?_
    show o.start.getD 0 + a.r + a.d ≤ o.start.getD 0 + b.r
    rw [Rat.add_assoc, hc.1]; exact Rat.le_refl

theorem accept_untimed (o : Obj) (b : Block) (hu : Untimed b)
    (hil : ∀ D, o.duration = some D → ILokU D b ∧ 0 ≤ D) : accepted o [b] = .ok := by
  have hic : interpCheck b none (o.start.getD 0) (o.duration.map (o.start.getD 0 + ·)) = none := by
    cases hD : o.duration with
    | none => simp only [interpCheck]; cases b.isObjects <;> cases b.jp <;> rfl
    | some D => exact interpCheck_none b none _ D ((hil D hD).1.getD_le (hil D hD).2)
  rw [accepted, acceptGo_cons]
  simp only [blockStartEnd, hu.1, hu.2, overlaps, hic, Bool.false_eq_true, if_false]
  rfl

end Earverif.TimingFix
