/-
The numpy exceptions the renderer models of `Model/OverlapSave.lean` carry (`ChkErr`: `IndexError` for a track outside
the input, `ValueError` of `np.stack([])`, `ValueError` of `np.dot` for a decode matrix of the wrong width) versus the
totalised channel loops of `Model/Renderer.lean` (`procChans`, `Bpc.process`), which index with defaults.

`ChkRel strict P x y` relates a computation `x` with those exceptions to the totalised computation `y`:
* `x` succeeds  ⇒ `y` succeeds with a `P`-related result;
* `x` raises an exception of the totalised model ⇒ `y` raises the same one;
* `x` raises one of the three numpy exceptions ⇒ `strict` is false.
`strict` is a parameter, not a hypothesis, so that one simulation proof serves both readings: instantiated with the
static index conditions of a session (`IndexOK`, `HoaGainsOK`) it says that under them no numpy exception is raised and
the two models agree; with `strict := False` it is the plain relation "same result or same exception" (used for the two
`set_rendering_items`).
-/
import Earverif.Model.OverlapSave
namespace Earverif.Renderer
open Earverif.Stream Earverif.Timeline

def ChkRel {ε α β : Type} (strict : Prop) (P : α → β → Prop) (x : Except (ChkErr ε) α) (y : Except ε β) : Prop :=
  match x with
  | .ok a => (match y with | .ok b => P a b | .error _ => False)
  | .error (.base e) => (match y with | .ok _ => False | .error e' => e = e')
  | .error _ => ¬ strict

section
variable {ε α β : Type} (strict : Prop) (P : α → β → Prop)

@[simp] theorem chkRel_ok_ok (a : α) (b : β) : ChkRel (ε := ε) strict P (.ok a) (.ok b) ↔ P a b := Iff.rfl
@[simp] theorem chkRel_ok_error (a : α) (e : ε) : ChkRel strict P (.ok a) (.error e : Except ε β) ↔ False := Iff.rfl
@[simp] theorem chkRel_base_error (e e' : ε) :
    ChkRel strict P (.error (.base e) : Except (ChkErr ε) α) (.error e' : Except ε β) ↔ e = e' := Iff.rfl
@[simp] theorem chkRel_base_ok (e : ε) (b : β) :
    ChkRel strict P (.error (.base e) : Except (ChkErr ε) α) (.ok b) ↔ False := Iff.rfl
@[simp] theorem chkRel_track (y : Except ε β) :
    ChkRel strict P (.error .trackIndex : Except (ChkErr ε) α) y ↔ ¬ strict := Iff.rfl
@[simp] theorem chkRel_stack (y : Except ε β) :
    ChkRel strict P (.error .emptyStack : Except (ChkErr ε) α) y ↔ ¬ strict := Iff.rfl
@[simp] theorem chkRel_dot (y : Except ε β) :
    ChkRel strict P (.error .dotShape : Except (ChkErr ε) α) y ↔ ¬ strict := Iff.rfl

@[simp] theorem liftC_ok (a : α) : liftC (.ok a : Except ε α) = .ok a := rfl
@[simp] theorem liftC_error (e : ε) : liftC (.error e : Except ε α) = .error (.base e) := rfl

theorem chkRel_liftC (y : Except ε α) : ChkRel strict (fun r r' => r = r') (liftC y) y := by
  cases y with
  | ok a => simp
  | error e => simp

theorem ChkRel.mono {Q : α → β → Prop} {x : Except (ChkErr ε) α} {y : Except ε β} (h : ChkRel strict P x y)
    (hPQ : ∀ a b, P a b → Q a b) : ChkRel strict Q x y := by
  cases x with
  | ok a =>
    cases y with
    | ok b => exact hPQ a b h
    | error e => exact h
  | error e =>
    cases e with
    | base e0 =>
      cases y with
      | ok b => exact h
      | error e' => exact h
    | trackIndex => exact h
    | emptyStack => exact h
    | dotShape => exact h

theorem ChkRel.of_ok {x : Except (ChkErr ε) α} {b : β} (h : ChkRel strict P x (.ok b)) :
    (∃ a, x = .ok a ∧ P a b) ∨
      (¬ strict ∧ (x = .error .trackIndex ∨ x = .error .emptyStack ∨ x = .error .dotShape)) := by
  cases x with
  | ok a => exact .inl ⟨a, rfl, h⟩
  | error e =>
    cases e with
    | base e0 => exact h.elim
    | trackIndex => exact .inr ⟨h, .inl rfl⟩
    | emptyStack => exact .inr ⟨h, .inr (.inl rfl)⟩
    | dotShape => exact .inr ⟨h, .inr (.inr rfl)⟩

theorem ChkRel.eq_liftC {x : Except (ChkErr ε) α} {y : Except ε α} (h : ChkRel strict (fun r r' => r = r') x y)
    (hs : strict) : x = liftC y := by
  rcases x with e | a
  · cases e with
    | base e0 =>
      rcases y with e' | b
      · exact congrArg (fun e => Except.error (ChkErr.base e)) (h : e0 = e')
      · exact (h : False).elim
    | trackIndex => exact absurd hs h
    | emptyStack => exact absurd hs h
    | dotShape => exact absurd hs h
  · rcases y with e' | b
    · exact (h : False).elim
    · exact congrArg Except.ok (h : a = b)

/-- The relation passes through a step of two computations that hand on their exceptions (renamed by `φ`) and
continue with related results: `F`, `G` are what the two models do with the outcome of the related calls `x`, `y`
(the `match` on it; it reduces on `.error e`, so `hF`, `hG`, stated as equations of functions, hold by `rfl`).
To apply it the outcomes have to be variables (`generalize`), so that `F` and `G` can be read off the goal. -/
theorem ChkRel.step_map {ε' γ δ : Type} {Q : γ → δ → Prop} {x : Except (ChkErr ε) α} {y : Except ε β} (φ : ε → ε')
    {F : Except (ChkErr ε) α → Except (ChkErr ε') γ} {G : Except ε β → Except ε' δ} (h : ChkRel strict P x y)
    (hok : ∀ a b, P a b → ChkRel strict Q (F (.ok a)) (G (.ok b)))
    (hF : (fun e => F (.error e)) = fun e => .error (e.map φ) := by rfl)
    (hG : (fun e => G (.error e)) = fun e => .error (φ e) := by rfl) : ChkRel strict Q (F x) (G y) := by
  rcases x with e | a
  · rw [congrFun hF e]
    cases e with
    | base e0 =>
      rcases y with e' | b
      · rw [congrFun hG e']; exact congrArg φ (h : e0 = e')
      · exact (h : False).elim
    | trackIndex => exact (h : ¬ strict)
    | emptyStack => exact (h : ¬ strict)
    | dotShape => exact (h : ¬ strict)
  · rcases y with e' | b
    · exact (h : False).elim
    · exact hok a b h

theorem ChkRel.step {γ δ : Type} {Q : γ → δ → Prop} {x : Except (ChkErr ε) α} {y : Except ε β}
    {F : Except (ChkErr ε) α → Except (ChkErr ε) γ} {G : Except ε β → Except ε δ} (h : ChkRel strict P x y)
    (hok : ∀ a b, P a b → ChkRel strict Q (F (.ok a)) (G (.ok b)))
    (hF : (fun e => F (.error e)) = fun e => .error e := by rfl)
    (hG : (fun e => G (.error e)) = fun e => .error e := by rfl) : ChkRel strict Q (F x) (G y) :=
  h.step_map strict P id hok (funext fun e => by rw [congrFun hF e]; cases e <;> rfl) hG

end

/-- Closes the non-`ok/ok` cases of a step of a case analysis on two related computations. -/
macro "chk_close " h:ident : tactic =>
  `(tactic| (simp only [chkRel_ok_error, chkRel_base_error, chkRel_base_ok, chkRel_track, chkRel_stack, chkRel_dot,
      ChkErr.map] at $h:ident ⊢ <;> first | exact $h | (subst $h; rfl) | (rw [$h:ident]) | skip))

section Bpc
variable {M S K ι V : Type}

/-- Everything still to be processed by a channel passes the check: the metadata blocks not yet pulled (`okM`) and the
processing blocks in the queue (`okK`). -/
def QOK (okM : M → Bool) (okK : K → Bool) (b : Bpc M S K) : Prop :=
  (∀ m ∈ b.source, okM m = true) ∧ (∀ pb ∈ b.queue, okK pb.k = true)

def InterpOK (okM : M → Bool) (okK : K → Bool) (interp : S → M → Except Err (S × List (PBlock K))) : Prop :=
  ∀ st m st' new, interp st m = .ok (st', new) → okM m = true → ∀ pb ∈ new, okK pb.k = true

theorem refill_qok (okM : M → Bool) (okK : K → Bool) (interp : S → M → Except Err (S × List (PBlock K)))
    (hI : InterpOK okM okK interp) (check : Option Int) :
    ∀ (src : List M) (st : S) (q : List (PBlock K)) (b' : Bpc M S K),
      refill interp check src st q = .ok b' → (∀ m ∈ src, okM m = true) → (∀ pb ∈ q, okK pb.k = true) →
      QOK okM okK b' := by
  intro src
  induction src with
  | nil =>
    intro st q b' h hs hq
    simp only [refill, pure, Except.pure, Except.ok.injEq] at h
    subst h
    exact ⟨hs, hq⟩
  | cons m ms ih =>
    intro st q b' h hs hq
    by_cases hqe : q = []
    · subst hqe
      simp only [refill, ne_eq, not_true_eq_false, if_false, bind, Except.bind, List.nil_append] at h
      cases hi : interp st m with
      | error e => rw [hi] at h; cases h
      | ok r =>
        obtain ⟨st', new⟩ := r
        rw [hi] at h
        simp only at h
        have hnew := hI _ _ _ _ hi (hs m List.mem_cons_self)
        have hms : ∀ m' ∈ ms, okM m' = true := fun m' hm' => hs m' (List.mem_cons_of_mem _ hm')
        cases check with
        | none => exact ih st' new b' h hms hnew
        | some ss =>
          simp only at h
          split at h
          · simp only [throw, throwThe, MonadExceptOf.throw] at h
            cases h
          · exact ih st' new b' h hms hnew
    · simp only [refill, ne_eq, hqe, not_false_eq_true, if_true, pure, Except.pure, Except.ok.injEq] at h
      subst h
      exact ⟨hs, hq⟩

theorem bpcLoopC_rel (strict : Prop) (okM : M → Bool) (okK : K → Bool)
    (interp : S → M → Except Err (S × List (PBlock K))) (hI : InterpOK okM okK interp)
    (upd : K → Nat → ι → V → V) (ss : Int) (inp : List ι) :
    ∀ (fuel : Nat) (b : Bpc M S K) (out : List V), (strict → QOK okM okK b) →
      ChkRel strict (fun r r' => r = r' ∧ (strict → QOK okM okK r.1))
        (bpcLoopC okK interp upd ss inp fuel b out) (bpcLoop interp upd ss inp fuel b out) := by
  intro fuel
  induction fuel with
  | zero => intro b out h; exact ⟨rfl, h⟩
  | succ fuel ih =>
    intro b out h
    obtain ⟨src, ist, queue⟩ := b
    cases queue with
    | nil => exact ⟨rfl, h⟩
    | cons pb q =>
      simp only [bpcLoopC, bpcLoop, bind, Except.bind, pure, Except.pure]
      cases hk : okK pb.k with
      | false =>
        simp only [↓reduceIte, chkRel_dot]
        intro hs
        have := (h hs).2 pb List.mem_cons_self
        try simp only at this
        rw [hk] at this
        cases this
      | true =>
        simp only [Bool.true_eq_false, ↓reduceIte]
        have hq : strict → ∀ pb' ∈ q, okK pb'.k = true :=
          fun hs pb' hp => (h hs).2 pb' (List.mem_cons_of_mem _ hp)
        split
        · cases hr : refill interp none src ist q with
          | error e => exact rfl
          | ok b' =>
            simp only
            exact ih b' _ (fun hs => refill_qok okM okK interp hI none src ist q b' hr (h hs).1 (hq hs))
        · split
          · simp only [chkRel_ok_ok, true_and]
            exact fun hs => ⟨(h hs).1, hq hs⟩
          · simp only [chkRel_ok_ok, true_and]
            exact h

theorem bpcProcessC_rel (strict : Prop) (okM : M → Bool) (okK : K → Bool)
    (interp : S → M → Except Err (S × List (PBlock K))) (hI : InterpOK okM okK interp)
    (upd : K → Nat → ι → V → V) (ss : Int) (inp : List ι) (out : List V) (b : Bpc M S K)
    (h : strict → QOK okM okK b) :
    ChkRel strict (fun r r' => r = r' ∧ (strict → QOK okM okK r.1))
      (bpcProcessC okK interp upd ss inp out b) (b.process interp upd ss inp out) := by
  simp only [bpcProcessC, Bpc.process, bind, Except.bind]
  cases hr : refill interp (some ss) b.source b.istate b.queue with
  | error e => exact rfl
  | ok b' =>
    simp only
    exact bpcLoopC_rel strict okM okK interp hI upd ss inp _ b' out
      (fun hs => refill_qok okM okK interp hI (some ss) _ _ _ b' hr (h hs).1 (h hs).2)

/-- The HOA interpreter: the one processing block of a metadata block carries that block's decode matrix. -/
theorem interpFixed_ok {G : Type} (sr : Nat) (ok : G → Bool) :
    InterpOK (fun m : MetaBlock G => ok m.gains) ok (interpFixed sr) := by
  intro st m st' new h hm pb hp
  simp only [interpFixed] at h
  cases hb : blockStartEnd st.tlast m with
  | error e => rw [hb] at h; cases h
  | ok r =>
    obtain ⟨s, e⟩ := r
    rw [hb] at h
    simp only [Except.ok.injEq, Prod.mk.injEq] at h
    obtain ⟨-, rfl⟩ := h
    simp only [List.mem_singleton] at hp
    subst hp
    exact hm

end Bpc

section Chans
variable {α M S K ι V : Type}

theorem procChansC_rel (strict : Prop) (chkT : α → Option (ChkErr Err))
    (proc : α → Bpc M S K → List V → Except (ChkErr Err) (Bpc M S K × List V))
    (interp : S → M → Except Err (S × List (PBlock K))) (upd : K → Nat → ι → V → V) (ss : Int) (get : α → List ι)
    (Inv : α → Bpc M S K → Prop) (hbase : ∀ t e, chkT t ≠ some (.base e))
    (hproc : ∀ t b out, (strict → Inv t b) →
      ChkRel strict (fun r r' => r = r' ∧ (strict → Inv t r.1)) (proc t b out) (b.process interp upd ss (get t) out)) :
    ∀ (chans : List (α × Bpc M S K)) (out : List V), (strict → ∀ p ∈ chans, chkT p.1 = none ∧ Inv p.1 p.2) →
      ChkRel strict (fun r r' => r = r' ∧ (strict → ∀ p ∈ r.1, chkT p.1 = none ∧ Inv p.1 p.2))
        (procChansC chkT proc chans out) (procChans interp upd ss get chans out) := by
  intro chans
  induction chans with
  | nil => intro out _; simp [procChansC, procChans, pure, Except.pure]
  | cons p rest ih =>
    intro out h
    obtain ⟨t, b⟩ := p
    simp only [procChansC, procChans, bind, Except.bind, pure, Except.pure]
    cases hc : chkT t with
    | some e =>
      have hns : ¬ strict := by
        intro hs
        have := (h hs (t, b) List.mem_cons_self).1
        simp only at this
        rw [hc] at this
        cases this
      cases e with
      | base e0 => exact absurd hc (hbase t e0)
      | trackIndex => exact hns
      | emptyStack => exact hns
      | dotShape => exact hns
    | none =>
      simp only
      have h1 := hproc t b out (fun hs => (h hs (t, b) List.mem_cons_self).2)
      generalize proc t b out = ra at h1 ⊢
      generalize b.process interp upd ss (get t) out = rb at h1 ⊢
      apply h1.step
      rintro ⟨b1, out1⟩ _ ⟨rfl, hinv⟩
      have h2 := ih out1 (fun hs p hp => h hs p (List.mem_cons_of_mem _ hp))
      simp only
      generalize procChansC chkT proc rest out1 = ra at h2 ⊢
      generalize procChans interp upd ss get rest out1 = rb at h2 ⊢
      apply h2.step
      rintro ⟨rest1, out2⟩ _ ⟨rfl, hinv2⟩
      refine ⟨rfl, fun hs p hp => ?_⟩
      rcases List.mem_cons.mp hp with rfl | hp
      · exact ⟨(h hs (t, b) List.mem_cons_self).1, hinv hs⟩
      · exact hinv2 hs p hp

end Chans

end Earverif.Renderer

/-! `stepList_length`, `stepMulti_length`: two facts about the C20 model alone (a `MultiTrackProcessor` keeps its
number of processors), which `hoaChansTSC_rel` needs for the width of the decode matrix. -/
namespace Earverif.RendererTS
open Earverif.Stream Earverif.Timeline Earverif.Renderer
open Earverif.TrackSpec (Proc)

theorem stepList_length {α : Type} [TrackSpec.Sample α] (fs : Int) (nch : Nat) :
    ∀ (ps : List (Proc α)) (b : List (List α)) (ps' : List (Proc α)) (outs : List (List α)),
      TrackSpec.stepList fs nch ps b = .ok (ps', outs) → ps'.length = ps.length := by
  intro ps
  induction ps with
  | nil => intro b ps' outs h; simp only [TrackSpec.stepList, Except.ok.injEq, Prod.mk.injEq] at h; rw [← h.1]
  | cons p ps ih =>
    intro b ps' outs h
    simp only [TrackSpec.stepList] at h
    cases h1 : TrackSpec.step fs nch p b with
    | error e => rw [h1] at h; cases h
    | ok r =>
      obtain ⟨p1, o⟩ := r
      rw [h1] at h
      simp only at h
      cases h2 : TrackSpec.stepList fs nch ps b with
      | error e => rw [h2] at h; cases h
      | ok r2 =>
        obtain ⟨ps1, os⟩ := r2
        rw [h2] at h
        simp only [Except.ok.injEq, Prod.mk.injEq] at h
        rw [← h.1, List.length_cons, List.length_cons, ih b ps1 os h2]

theorem stepMulti_length {α : Type} [TrackSpec.Sample α] (fs : Int) (nch : Nat) (ps : List (Proc α))
    (b : List (List α)) (ps' : List (Proc α)) (o : List (List α))
    (h : TrackSpec.stepMulti fs nch ps b = .ok (ps', o)) : ps'.length = ps.length := by
  simp only [TrackSpec.stepMulti] at h
  cases h1 : TrackSpec.stepList fs nch ps b with
  | error e => rw [h1] at h; cases h
  | ok r =>
    obtain ⟨ps1, cols⟩ := r
    rw [h1] at h
    simp only at h
    split at h
    · cases h
    · simp only [Except.ok.injEq, Prod.mk.injEq] at h
      rw [← h.1]
      exact stepList_length fs nch ps b ps1 cols h1

/-- Every decode matrix still to be applied by an HOA channel has one column per processor of the item. -/
def HoaChanOK {V : Type} (p : List (Proc Rat) × HoaBpc V) : Prop :=
  QOK (fun m : MetaBlock (List V) => okDot p.1.length m.gains) (okDot p.1.length) p.2

theorem hoaChansTSC_rel {V : Type} [RMod V] (strict : Prop) (c : Cfg V) (ss : Int) (inp : List (List Rat)) :
    ∀ (chans : List (List (Proc Rat) × HoaBpc V)) (out : List V), (strict → ∀ p ∈ chans, HoaChanOK p) →
      ChkRel strict (fun r r' => r = r' ∧ (strict → ∀ p ∈ r.1, HoaChanOK p))
        (hoaChansTSC c ss inp chans out)
        (procChansTS (interpFixed c.sr) matUpd ss (fun ps => TrackSpec.stepMulti c.sr c.n_in ps inp) chans out) := by
  intro chans
  induction chans with
  | nil => intro out _; simp [hoaChansTSC, procChansTS]
  | cons p rest ih =>
    intro out h
    obtain ⟨ps, b⟩ := p
    simp only [hoaChansTSC, procChansTS]
    cases hst : TrackSpec.stepMulti c.sr c.n_in ps inp with
    | error e => exact rfl
    | ok r0 =>
      obtain ⟨ps', track_samples⟩ := r0
      have hlen := stepMulti_length _ _ _ _ _ _ hst
      simp only
      have h1 := bpcProcessC_rel strict (fun m : MetaBlock (List V) => okDot ps.length m.gains) (okDot ps.length)
        (interpFixed c.sr) (interpFixed_ok c.sr _) matUpd ss track_samples out b
        (fun hs => h hs (ps, b) List.mem_cons_self)
      generalize bpcProcessC (okDot ps.length) (interpFixed c.sr) matUpd ss track_samples out b = ra at h1 ⊢
      generalize b.process (interpFixed c.sr) matUpd ss track_samples out = rb at h1 ⊢
      apply h1.step_map _ _ ErrTS.render
      rintro ⟨b1, out1⟩ _ ⟨rfl, hinv⟩
      have h2 := ih out1 (fun hs p hp => h hs p (List.mem_cons_of_mem _ hp))
      simp only
      generalize hoaChansTSC c ss inp rest out1 = ra at h2 ⊢
      generalize procChansTS (interpFixed c.sr) matUpd ss (fun ps => TrackSpec.stepMulti c.sr c.n_in ps inp)
        rest out1 = rb at h2 ⊢
      apply h2.step
      rintro ⟨rest1, out2⟩ _ ⟨rfl, hinv2⟩
      refine ⟨rfl, fun hs p hp => ?_⟩
      rcases List.mem_cons.mp hp with rfl | hp
      · simp only [HoaChanOK, hlen]
        exact hinv hs
      · exact hinv2 hs p hp

end Earverif.RendererTS
