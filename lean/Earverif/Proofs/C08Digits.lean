/-
Lemmas about the positional digit strings of `Model/C08Digits.lean` (core Lean only):
printing then reading a number is the identity, printed strings consist of digit characters,
minimum-width padding has the stated length.  `natDigits b` is in base `b + 2`: `natDigits 8` is decimal,
`natDigits 14` hexadecimal.
-/
import Earverif.Model.C08Digits

namespace Earverif.Digits

theorem ofDigits_append (b : Nat) (xs : List Nat) (d : Nat) :
    ofDigits b (xs ++ [d]) = ofDigits b xs * b + d := by
  simp [ofDigits, List.foldl_append]

theorem ofDigits_cons_zero (b : Nat) (xs : List Nat) : ofDigits b (0 :: xs) = ofDigits b xs := by
  simp [ofDigits]

theorem ofDigits_replicate_zero (b k : Nat) (xs : List Nat) :
    ofDigits b (List.replicate k 0 ++ xs) = ofDigits b xs := by
  induction k with
  | zero => simp
  | succ k ih => rw [List.replicate_succ, List.cons_append, ofDigits_cons_zero, ih]

theorem foldl_horner (b : Nat) (xs : List Nat) (a : Nat) :
    xs.foldl (fun a d => a * b + d) a = a * b ^ xs.length + ofDigits b xs := by
  induction xs generalizing a with
  | nil => simp [ofDigits]
  | cons x xs ih =>
    simp only [List.foldl_cons, List.length_cons, ofDigits]
    rw [ih, ih (0 * b + x)]
    rw [Nat.pow_succ, Nat.zero_mul, Nat.zero_add, Nat.add_mul, Nat.mul_assoc, Nat.mul_comm b, Nat.add_assoc]

theorem ofDigits_cons (b x : Nat) (xs : List Nat) :
    ofDigits b (x :: xs) = x * b ^ xs.length + ofDigits b xs := by
  have := foldl_horner b xs (0 * b + x)
  simp only [ofDigits, List.foldl_cons]
  rw [this]; simp [ofDigits]

theorem ofDigits_natDigits (b n : Nat) : ofDigits (b + 2) (natDigits b n) = n := by
  fun_induction natDigits b n with
  | case1 n h => simp [ofDigits]
  | case2 n h ih =>
    rw [ofDigits_append, ih]
    have := Nat.div_add_mod n (b+2)
    rw [Nat.mul_comm] at this; exact this

theorem natDigits_lt (b n : Nat) : ∀ d ∈ natDigits b n, d < b + 2 := by
  fun_induction natDigits b n with
  | case1 n h => simp; exact h
  | case2 n h ih =>
    intro d hd
    rw [List.mem_append] at hd
    rcases hd with hd | hd
    · exact ih d hd
    · simp at hd; rw [hd]; exact Nat.mod_lt _ (by omega)

theorem natDigits_small (b n : Nat) (h : n < b + 2) : natDigits b n = [n] := by
  rw [natDigits]; simp [h]

theorem natDigits_step (b n : Nat) (h : ¬ n < b + 2) :
    natDigits b n = natDigits b (n / (b + 2)) ++ [n % (b + 2)] := by
  rw [natDigits]; simp [h]

theorem natDigits_ne_nil (b n : Nat) : natDigits b n ≠ [] := by
  fun_induction natDigits b n with
  | case1 n h => simp
  | case2 n h ih => simp

theorem natDigits_length_le (b : Nat) (w n : Nat) (hw : 1 ≤ w) (h : n < (b + 2) ^ w) :
    (natDigits b n).length ≤ w := by
  fun_induction natDigits b n generalizing w with
  | case1 n h' => simp; exact hw
  | case2 n h' ih =>
    rw [List.length_append, List.length_singleton]
    match w, hw with
    | 1, _ => simp at h; omega
    | w + 2, _ =>
      have : n / (b + 2) < (b + 2) ^ (w + 1) := by
        apply Nat.div_lt_of_lt_mul
        rw [Nat.pow_succ] at h; rw [Nat.mul_comm]; exact h
      have := ih (w + 1) (by omega) this
      omega

theorem decVal_decChar : ∀ d, d < 10 → decVal (decChar d) = d := by decide
theorem hexVal_hexChar : ∀ d, d < 16 → hexVal (hexChar d) = d := by decide
theorem isDec_decChar : ∀ d, d < 10 → isDec (decChar d) = true := by decide
theorem isHex_hexChar : ∀ d, d < 16 → isHexUpper (hexChar d) = true := by decide

theorem map_decVal_decChar (ds : List Nat) (h : ∀ d ∈ ds, d < 10) :
    (ds.map decChar).map decVal = ds := by
  rw [List.map_map]
  exact (List.map_congr_left fun d hd => decVal_decChar d (h d hd)).trans (List.map_id ds)

theorem map_hexVal_hexChar (ds : List Nat) (h : ∀ d ∈ ds, d < 16) :
    (ds.map hexChar).map hexVal = ds := by
  rw [List.map_map]
  exact (List.map_congr_left fun d hd => hexVal_hexChar d (h d hd)).trans (List.map_id ds)

theorem decNat_map_decChar (ds : List Nat) (h : ∀ x ∈ ds, x < 10) :
    decNat (ds.map decChar) = ofDigits 10 ds := by
  unfold decNat; rw [map_decVal_decChar ds h]

theorem map_decChar_all_dec (ds : List Nat) (h : ∀ x ∈ ds, x < 10) :
    ∀ c ∈ ds.map decChar, isDec c = true := by
  intro c hc
  rw [List.mem_map] at hc
  obtain ⟨x, hx, rfl⟩ := hc
  exact isDec_decChar x (h x hx)

/-- `int(str(n)) == n` -/
theorem decNat_decStr (n : Nat) : decNat (decStr n) = n :=
  (decNat_map_decChar _ (natDigits_lt 8 n)).trans (ofDigits_natDigits 8 n)

theorem decStr_all_dec (n : Nat) : ∀ c ∈ decStr n, isDec c = true :=
  map_decChar_all_dec _ (natDigits_lt 8 n)

theorem decStr_ne_nil (n : Nat) : decStr n ≠ [] := by
  unfold decStr; simp [natDigits_ne_nil]

theorem decVal_zero : decVal '0' = 0 := rfl
theorem hexVal_zero : hexVal '0' = 0 := rfl

/-- `int(f"{n:0{w}d}") == n` -/
theorem decNat_decPad (w n : Nat) : decNat (decPad w n) = n := by
  unfold decNat decPad padLeft
  rw [List.map_append, List.map_replicate, decVal_zero, ofDigits_replicate_zero]
  exact decNat_decStr n

theorem decPad_all_dec (w n : Nat) : ∀ c ∈ decPad w n, isDec c = true := by
  intro c hc
  unfold decPad padLeft at hc
  rw [List.mem_append] at hc
  rcases hc with hc | hc
  · rw [List.mem_replicate] at hc; rw [hc.2]; rfl
  · exact decStr_all_dec n c hc

theorem padLeft_length {α} (w : Nat) (fill : α) (xs : List α) :
    (padLeft w fill xs).length = max w xs.length := by
  unfold padLeft; simp; omega

theorem decStr_length_le (w n : Nat) (hw : 1 ≤ w) (h : n < 10 ^ w) : (decStr n).length ≤ w := by
  unfold decStr; rw [List.length_map]
  exact natDigits_length_le 8 w n hw h

theorem decPad_length (w n : Nat) (hw : 1 ≤ w) (h : n < 10 ^ w) : (decPad w n).length = w := by
  unfold decPad
  rw [padLeft_length]
  have := decStr_length_le w n hw h
  omega

/-- `int("{:0wX}".format(n), 16) == n`: the formatter is injective -/
theorem hexNat_hexPad (w n : Nat) : hexNat (hexPad w n) = n := by
  unfold hexNat hexPad padLeft
  rw [List.map_append, List.map_replicate, hexVal_zero, ofDigits_replicate_zero,
    map_hexVal_hexChar _ (natDigits_lt 14 n)]
  exact ofDigits_natDigits 14 n

theorem hexPad_injective (w a b : Nat) (h : hexPad w a = hexPad w b) : a = b := by
  have := congrArg hexNat h
  rwa [hexNat_hexPad, hexNat_hexPad] at this

theorem hexPad_all_hex (w n : Nat) : ∀ c ∈ hexPad w n, isHexUpper c = true := by
  intro c hc
  unfold hexPad padLeft at hc
  rw [List.mem_append] at hc
  rcases hc with hc | hc
  · rw [List.mem_replicate] at hc; rw [hc.2]; rfl
  · rw [List.mem_map] at hc
    obtain ⟨d, hd, rfl⟩ := hc
    exact isHex_hexChar d (natDigits_lt 14 n d hd)

theorem hexPad_length_ge (w n : Nat) : w ≤ (hexPad w n).length := by
  unfold hexPad; rw [padLeft_length]; omega

theorem hexPad_length (w n : Nat) (hw : 1 ≤ w) (h : n < 16 ^ w) : (hexPad w n).length = w := by
  unfold hexPad; rw [padLeft_length, List.length_map]
  have := natDigits_length_le 14 w n hw (by simpa using h)
  omega

theorem takeWhile_isDec (ds rest : List Char) (hds : ∀ c ∈ ds, isDec c = true)
    (hrest : rest = [] ∨ ∃ c r, rest = c :: r ∧ isDec c = false) :
    (ds ++ rest).takeWhile isDec = ds ∧ (ds ++ rest).dropWhile isDec = rest := by
  rw [List.takeWhile_append_of_pos hds, List.dropWhile_append_of_pos hds]
  rcases hrest with rfl | ⟨c, r, rfl, hc⟩
  · simp
  · simp [hc]

theorem dropWhile_none {α : Type} {p : α → Bool} (l : List α) (h : ∀ c ∈ l, p c = false) : l.dropWhile p = l := by
  cases l with
  | nil => rfl
  | cons c r => simp [h c (by simp)]

theorem decNat_append (a b : List Char) : decNat (a ++ b) = decNat a * 10 ^ b.length + decNat b := by
  unfold decNat ofDigits
  rw [List.map_append, List.foldl_append, foldl_horner, List.length_map]
  rfl

theorem decNat_zero_of_dropWhile (l : List Char) (h : l.dropWhile (· == '0') = []) : decNat l = 0 := by
  induction l with
  | nil => rfl
  | cons c r ih =>
    rw [List.dropWhile_cons] at h
    split at h
    · rename_i hc
      have : c = '0' := by simpa using hc
      subst this
      have := ih h
      unfold decNat at this ⊢
      rw [List.map_cons, decVal_zero, ofDigits_cons_zero]; exact this
    · cases h

theorem padLeft_of_le {α} (w : Nat) (fill : α) (xs : List α) (h : w ≤ xs.length) : padLeft w fill xs = xs := by
  unfold padLeft
  rw [Nat.sub_eq_zero_of_le h]; rfl

end Earverif.Digits
