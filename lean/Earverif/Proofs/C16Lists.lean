/-
C16: byte packing and unpacking of the PCM model are mutually inverse, proved once for any depth described by a
`Layout b w U` (`Layout.pack_unpack`, `Layout.unpack_pack`; `layout16`, `layout24`, `layout32` are the three depths,
which Props/C16.lean puts in).  Channel interleaving: `il_deil` (deinterleaving what was interleaved), and
`deinterleave_eq`, from which Props/C16.lean reads the other direction.
-/
import Earverif.Model.Pcm
import Mathlib.Data.List.Basic
import Mathlib.Tactic.Ring

namespace Earverif.Pcm

theorem length_toLE (n : ℕ) (v : ℤ) : (toLE n v).length = n := by
  induction n generalizing v with
  | zero => rfl
  | succ n ih => rw [toLE, List.length_cons, ih]

theorem toLE_add_mul (n : ℕ) (v k : ℤ) : toLE n (v + k * 256 ^ n) = toLE n v := by
  induction n generalizing v k with
  | zero => rfl
  | succ n ih =>
    rw [toLE, toLE, pow_succ, ← mul_assoc, Int.add_mul_emod_self_right,
      Int.add_mul_ediv_right _ _ (by norm_num), ih]

theorem emod_mul (x a b : ℤ) (ha : 0 ≤ a) : x % (a * b) = x % a + a * (x / a % b) := by
  rw [Int.emod_def x (a * b), ← Int.ediv_ediv_of_nonneg ha, Int.emod_def, Int.emod_def]
  ring

theorem fromLE_toLE (n : ℕ) (v : ℤ) : (fromLE (toLE n v) : ℤ) = v % 256 ^ n := by
  induction n generalizing v with
  | zero => rw [toLE, fromLE, pow_zero, Int.emod_one]; rfl
  | succ n ih =>
    rw [toLE, fromLE, Nat.cast_add, Nat.cast_mul, ih, Int.toNat_of_nonneg (Int.emod_nonneg _ (by norm_num)),
      pow_succ', emod_mul _ _ _ (by norm_num)]
    rfl

theorem toLE_fromLE (bs : List ℕ) (h : ∀ x ∈ bs, x < 256) : toLE bs.length (fromLE bs : ℤ) = bs := by
  induction bs with
  | nil => rfl
  | cons x xs ih =>
    have hx : x < 256 := h x List.mem_cons_self
    have e1 : ((x + 256 * fromLE xs : ℕ) : ℤ) % 256 = x := by omega
    have e2 : ((x + 256 * fromLE xs : ℕ) : ℤ) / 256 = (fromLE xs : ℤ) := by omega
    rw [List.length_cons, toLE, fromLE, e1, e2, ih (fun y hy => h y (List.mem_cons_of_mem _ hy)),
      Int.toNat_natCast]

theorem fromLE_lt (bs : List ℕ) (h : ∀ x ∈ bs, x < 256) : fromLE bs < 256 ^ bs.length := by
  induction bs with
  | nil => exact Nat.one_pos
  | cons x xs ih =>
    have := h x List.mem_cons_self
    have := ih (fun y hy => h y (List.mem_cons_of_mem _ hy))
    rw [fromLE, List.length_cons, pow_succ]
    omega

theorem sext_emod {n : ℕ} (hn : 0 < n) {v : ℤ} (h1 : -2 ^ (n - 1) ≤ v) (h2 : v < 2 ^ (n - 1)) :
    sext n (v % 2 ^ n).toNat = v := by
  obtain ⟨m, rfl⟩ := Nat.exists_eq_succ_of_ne_zero hn.ne'
  rw [Nat.succ_sub_one] at h1 h2
  have hc : ((2 ^ m : ℕ) : ℤ) = 2 ^ m := by push_cast; rfl
  unfold sext
  rw [Nat.succ_sub_one, pow_succ]
  rcases le_or_gt 0 v with hv | hv
  · rw [Int.emod_eq_of_lt hv (by omega), if_pos ((Int.toNat_lt hv).mpr (by rw [hc]; exact h2)),
      Int.toNat_of_nonneg hv]
  · have e : v % (2 ^ m * 2) = v + 2 ^ m * 2 := by
      rw [Int.emod_eq_add_self_emod, Int.emod_eq_of_lt (by omega) (by omega)]
    have h0 : 0 ≤ v + 2 ^ m * 2 := by omega
    rw [e, if_neg (by rw [Int.toNat_lt h0, hc]; omega), Int.toNat_of_nonneg h0]
    omega

theorem sext_range {n u : ℕ} (hn : 0 < n) (hu : u < 2 ^ n) :
    -2 ^ (n - 1) ≤ sext n u ∧ sext n u < 2 ^ (n - 1) := by
  obtain ⟨m, rfl⟩ := Nat.exists_eq_succ_of_ne_zero hn.ne'
  have hc : ((2 ^ m : ℕ) : ℤ) = 2 ^ m := by push_cast; rfl
  unfold sext
  rw [Nat.succ_sub_one, pow_succ]
  rw [pow_succ] at hu
  split_ifs <;> omega

theorem two_pow_eight_mul (w : ℕ) : (2 : ℤ) ^ (8 * w) = 256 ^ w := by rw [pow_mul]; norm_num

theorem sext_fromLE_toLE {w : ℕ} (hw : 0 < w) {v : ℤ} (h1 : -2 ^ (8 * w - 1) ≤ v) (h2 : v < 2 ^ (8 * w - 1)) :
    sext (8 * w) (fromLE (toLE w v)) = v := by
  have := sext_emod (by omega : 0 < 8 * w) h1 h2
  rwa [two_pow_eight_mul, ← fromLE_toLE, Int.toNat_natCast] at this

theorem toLE_sext_fromLE (ch : List ℕ) (h : ∀ x ∈ ch, x < 256) :
    toLE ch.length (sext (8 * ch.length) (fromLE ch)) = ch := by
  unfold sext
  split_ifs
  · exact toLE_fromLE ch h
  · rw [two_pow_eight_mul, sub_eq_add_neg, ← neg_one_mul, toLE_add_mul, toLE_fromLE ch h]

/-- Depth `b` stores a code as `w` little-endian two's complement bytes, and `U` reads a byte
string `w` bytes at a time. -/
structure Layout (b w : ℕ) (U : List ℕ → Option (List ℤ)) : Prop where
  bits : b = 8 * w
  pos : 0 < w
  packCode : ∀ v, packCode b v = some (toLE w v)
  pack_nil : pack b [] = some []
  nil : U [] = some []
  step : ∀ ch rest, ch.length = w → U (ch ++ rest) = (U rest).map (sext b (fromLE ch) :: ·)

theorem layout16 : Layout 16 2 unpack16 where
  bits := rfl
  pos := Nat.two_pos
  packCode _ := rfl
  pack_nil := rfl
  nil := rfl
  step ch rest h := by
    obtain ⟨b0, b1, rfl⟩ := List.length_eq_two.mp h
    rfl

theorem layout32 : Layout 32 4 unpack32 where
  bits := rfl
  pos := Nat.succ_pos 3
  packCode _ := rfl
  pack_nil := rfl
  nil := rfl
  step ch rest h := by
    obtain ⟨b0, b1, b2, b3, rfl⟩ := List.length_eq_four.mp h
    rfl

theorem sext24 (u : ℕ) : (if (u : ℤ) > 2 ^ 23 - 1 then (u : ℤ) - 2 ^ 24 else (u : ℤ)) = sext 24 u := by
  unfold sext
  split_ifs <;> omega

/-- 24 bit: the top byte of the int32 is dropped on writing and zero on reading, and the explicit
sign correction of `decode_pcm_samples` is `sext 24`.  The reader is `unpack24go`; `unpack24_eq`
carries the result over to `unpack24` on whole samples. -/
theorem layout24 : Layout 24 3 unpack24go where
  bits := rfl
  pos := Nat.succ_pos 2
  packCode _ := rfl
  pack_nil := rfl
  nil := rfl
  step ch rest h := by
    obtain ⟨b0, b1, b2, rfl⟩ := List.length_eq_three.mp h
    rw [← sext24]
    rfl

namespace Layout
variable {b w : ℕ} {U : List ℕ → Option (List ℤ)} (L : Layout b w U)
include L

theorem pack_cons (v : ℤ) (vs : List ℤ) : pack b (v :: vs) = (pack b vs).map (toLE w v ++ ·) := by
  rw [pack, L.packCode]
  cases pack b vs <;> rfl

theorem pack_unpack (cs : List ℤ) (h : ∀ c ∈ cs, -2 ^ (b - 1) ≤ c ∧ c < 2 ^ (b - 1)) :
    ∃ bs, pack b cs = some bs ∧ U bs = some cs ∧ bs.length = w * cs.length := by
  induction cs with
  | nil => exact ⟨[], L.pack_nil, L.nil, rfl⟩
  | cons v vs ih =>
    obtain ⟨bs, p, u, l⟩ := ih fun c hc => h c (List.mem_cons_of_mem _ hc)
    obtain ⟨v1, v2⟩ := h v List.mem_cons_self
    obtain rfl := L.bits
    refine ⟨toLE w v ++ bs, by rw [L.pack_cons, p]; rfl, ?_, ?_⟩
    · rw [L.step _ _ (length_toLE w v), u, Option.map_some, sext_fromLE_toLE L.pos v1 v2]
    · rw [List.length_append, length_toLE, l, List.length_cons, Nat.mul_succ, Nat.add_comm]

theorem unpack_pack (n : ℕ) (bs : List ℕ) (hl : bs.length = w * n) (hb : ∀ x ∈ bs, x < 256) :
    ∃ cs, U bs = some cs ∧ pack b cs = some bs ∧ (∀ c ∈ cs, -2 ^ (b - 1) ≤ c ∧ c < 2 ^ (b - 1)) ∧
      cs.length = n := by
  induction n generalizing bs with
  | zero =>
    obtain rfl := List.eq_nil_of_length_eq_zero hl
    exact ⟨[], L.nil, L.pack_nil, fun _ hc => absurd hc List.not_mem_nil, rfl⟩
  | succ n ih =>
    obtain ⟨ch, rest, rfl, hch⟩ : ∃ ch rest, bs = ch ++ rest ∧ ch.length = w :=
      ⟨bs.take w, bs.drop w, (List.take_append_drop w bs).symm,
        List.length_take_of_le (by rw [hl, Nat.mul_succ]; exact Nat.le_add_left _ _)⟩
    rw [List.length_append, hch, Nat.mul_succ, Nat.add_comm] at hl
    obtain ⟨cs, u, p, r, l⟩ := ih rest (Nat.add_right_cancel hl) fun x hx => hb x (List.mem_append_right _ hx)
    have hbytes : ∀ x ∈ ch, x < 256 := fun x hx => hb x (List.mem_append_left _ hx)
    obtain rfl := L.bits
    refine ⟨sext (8 * w) (fromLE ch) :: cs, by rw [L.step ch rest hch, u]; rfl, ?_, ?_,
      by rw [List.length_cons, l]⟩
    · subst hch
      rw [L.pack_cons, p, Option.map_some, toLE_sext_fromLE ch hbytes]
    · intro c hc
      rcases List.mem_cons.mp hc with rfl | hc
      · refine sext_range (Nat.mul_pos (by norm_num) L.pos) ?_
        rw [← hch, pow_mul]
        exact fromLE_lt ch hbytes
      · exact r c hc

end Layout

theorem unpack24_eq (bs : List ℕ) (h : bs.length % 3 = 0) : unpack24 bs = unpack24go bs := by
  unfold unpack24
  split_ifs with hl
  · have : bs = [] := List.eq_nil_of_length_eq_zero (by omega)
    subst this; rfl
  · rfl

theorem interleave_length {α} [Inhabited α] (ch : ℕ) (frames : List (List α)) :
    (interleave ch frames).length = frames.length * ch := by simp [interleave]

theorem interleave_getD {α} [Inhabited α] (ch : ℕ) (frames : List (List α)) (i : ℕ)
    (hi : i < frames.length * ch) :
    (interleave ch frames).getD i default = (frames.getD (i / ch) []).getD (i % ch) default := by
  simp [interleave, List.getD_eq_getElem?_getD, hi]

/-- On whole frames `deinterleave` succeeds and reads the frames off at stride `ch`; the model's
branch for inputs shorter than one frame is only reached by the empty list here. -/
theorem deinterleave_eq {α} [Inhabited α] (ch : ℕ) (hch : 0 < ch) (flat : List α)
    (h : flat.length % ch = 0) :
    deinterleave ch flat = some ((List.range (flat.length / ch)).map fun f =>
      (List.range ch).map fun c => flat.getD (c + f * ch) default) := by
  unfold deinterleave
  rw [if_neg hch.ne', if_neg (not_not.mpr h)]
  split_ifs with hl
  · rw [Nat.div_eq_of_lt hl]; rfl
  · rfl

theorem il_deil {α} [Inhabited α] (ch : ℕ) (hch : 0 < ch) (frames : List (List α))
    (hfr : ∀ fr ∈ frames, fr.length = ch) :
    deinterleave ch (interleave ch frames) = some frames := by
  rw [deinterleave_eq ch hch _ (by rw [interleave_length, Nat.mul_mod_left]), interleave_length,
    Nat.mul_div_cancel _ hch]
  congr 1
  apply List.ext_getElem
  · rw [List.length_map, List.length_range]
  · intro f h1 hf
    have hlen : frames[f].length = ch := hfr _ (List.getElem_mem _)
    rw [List.getElem_map, List.getElem_range]
    apply List.ext_getElem
    · rw [List.length_map, List.length_range, hlen]
    · intro c g1 g2
      have hc : c < ch := hlen ▸ g2
      have hi : c + f * ch < frames.length * ch :=
        calc c + f * ch < (f + 1) * ch := by rw [Nat.succ_mul, Nat.add_comm]; exact Nat.add_lt_add_left hc _
          _ ≤ frames.length * ch := Nat.mul_le_mul_right ch hf
      rw [List.getElem_map, List.getElem_range, interleave_getD ch frames _ hi,
        Nat.add_mul_div_right _ _ hch, Nat.add_mul_mod_self_right, Nat.div_eq_of_lt hc, Nat.zero_add,
        Nat.mod_eq_of_lt hc]
      simp [List.getD_eq_getElem?_getD, hf, g2]

end Earverif.Pcm
