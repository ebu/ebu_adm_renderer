/-
C15 — when the repair raises: the last block of an all-timed channel has a positive duration and starts
at or after the end of an audioObject that references the channel (one with a duration, of any sign).  This is what happens to a
rounded timeline whose last exact duration is not longer than the rounding unit (the block's rounded
rtime can land on the rounded object end): `Props/C15.lean: excluded_rounded_short_block`.
No monotonicity hypothesis is needed: every earlier block / earlier object either raises the same
`ValueError` or leaves the last block's rtime unchanged and its duration positive.
-/
import Earverif.Proofs.C15


namespace Earverif.TimingFix

def LastOutside (D : Rat) : List Block → Prop
  | [] => False
  | [b] => D ≤ b.r ∧ 0 < b.d
  | _ :: b :: rest => LastOutside D (b :: rest)

theorem lastOutside_iff (D : Rat) : ∀ bs : List Block,
    LastOutside D bs ↔ ∃ b ∈ bs.getLast?, D ≤ b.r ∧ 0 < b.d
  | [] => by simp [LastOutside]
  | [b] => by simp [LastOutside]
  | _ :: b :: rest => by rw [List.getLast?_cons_cons]; exact lastOutside_iff D (b :: rest)

theorem clamp_not_lastOutside {D : Rat} {as bs : List Block} (h : RelP (Clamp D) as bs) : ¬ LastOutside D as :=
  h.induction (motive := fun as _ => ¬ LastOutside D as) id
    (fun a _ h1 (hl : D ≤ a.r ∧ 0 < a.d) => by
      rcases h1 with ⟨_, hw⟩ | ⟨_, _, h2, _⟩
      · have := hl.1; have := hl.2; grind
      · exact absurd h2 (Rat.not_lt.2 hl.1))
    fun _ _ _ _ _ _ _ _ ih => ih

theorem RelP.lastOutside {P : Block → Block → Prop} (D : Rat)
    (hP : ∀ {a b}, P a b → b.r = a.r ∧ (0 < a.d → 0 < b.d)) {as bs : List Block} (h : RelP P as bs) :
    LastOutside D as → LastOutside D bs :=
  h.induction (motive := fun as bs => LastOutside D as → LastOutside D bs) id
    (fun a b h1 (hl : D ≤ a.r ∧ 0 < a.d) => show D ≤ b.r ∧ 0 < b.d by
      rw [(hP h1).1]; exact ⟨hl.1, (hP h1).2 hl.2⟩)
    fun _ _ _ _ _ _ _ _ ih => ih

theorem checkDurations_lastOutside (D : Rat) (bs : List Block) (i : Nat) (h : LastOutside D bs) :
    LastOutside D (checkDurations i bs).1 := by
  rw [lastOutside_iff, checkDurations_getLast?]; exact (lastOutside_iff D bs).1 h

theorem clampAll_outside : ∀ (Ds : List Rat) (bs : List Block), AllTimed bs →
    (∃ D ∈ Ds, LastOutside D bs) → clampAll Ds bs = .error .valueError
  | [], _, _, ⟨_, hD, _⟩ => (List.not_mem_nil hD).elim
  | D0 :: Ds, bs, ht, ⟨D, hD, hl⟩ => by
    rcases clampBlocks_cases D0 bs 0 ht with ⟨hc, _⟩ | ⟨out, ws, hc, hk⟩
    · simp only [clampAll, hc]
    · rcases List.mem_cons.1 hD with rfl | hmem
      · exact absurd hl (clamp_not_lastOutside hk)
      · have rs : RelP Same bs out := hk.mono fun h => h.shrink.1
        simp only [clampAll, hc,
          clampAll_outside Ds out (rel_allTimed rs ht) ⟨D, hmem, hk.lastOutside D (fun h => ⟨h.shrink.1.r_eq, fun hp =>
            h.eq_or_pos.elim (fun e => by rw [e]; exact hp) id⟩) hl⟩]

theorem fix_raises_when_last_block_outside_object (objs : List Obj) (bs : List Block)
    (ht : AllTimed bs) (o : Obj) (ho : o ∈ objs) (D : Rat) (hD : o.duration = some D)
    (hl : LastOutside D bs) : fixTimings objs bs = .error .valueError := by
  obtain ⟨r1, _⟩ := checkDurations_spec bs 0 ht
  have t1 := rel_allTimed r1 ht
  obtain ⟨r2, _⟩ := checkILs_spec (checkDurations 0 bs).1 0
  have t2 := rel_allTimed (r2.mono fun h => h.1) t1
  have l2 := r2.lastOutside D (fun h => ⟨h.1.r_eq, fun hp => by rw [h.d_eq]; exact hp⟩)
    (checkDurations_lastOutside D bs 0 hl)
  simp only [fixTimings, checkTimesForObjects_eq,
    clampAll_outside (durations objs) _ t2 ⟨D, List.mem_filterMap.2 ⟨o, ho, hD⟩, l2⟩]

end Earverif.TimingFix
