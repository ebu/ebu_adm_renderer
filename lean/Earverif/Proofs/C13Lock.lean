/-
C13 — the channel-lock selection (`minList`, `argminPrio`, `lockSelect`) for any scalar type whose `lt` is the `<` of a
linear order (`hlt`); instantiated over ℚ in `Props/C13.lean` and over ℝ in `C13LockReal.lean`.  And the list of
candidates on which `lockHandle` runs it (`lockCands`, `lockHandle_some`, `mem_lockCands`), any scalar type.
-/
import Earverif.Model.ChannelLock
import Mathlib.Order.Defs.LinearOrder

namespace Earverif.C13
open Earverif.Zone Earverif.Zone.Scalar Earverif.Zone.ScalarSqrt Earverif.Lock

theorem minList_spec {α : Type} [Scalar α] [LinearOrder α] (hlt : ∀ a b : α, Scalar.lt a b = true ↔ a < b)
    (l : List α) (m : α) :
    minList m l ∈ m :: l ∧ minList m l ≤ m ∧ ∀ x ∈ l, minList m l ≤ x := by
  induction l generalizing m with
  | nil => exact ⟨List.mem_singleton.mpr rfl, le_refl m, fun _ h => nomatch h⟩
  | cons x xs ih =>
    rw [minList]
    by_cases hx : x < m
    · rw [if_pos ((hlt x m).mpr hx)]
      obtain ⟨h1, h2, h3⟩ := ih x
      exact ⟨List.mem_cons_of_mem _ h1, le_trans h2 (le_of_lt hx), List.forall_mem_cons.mpr ⟨h2, h3⟩⟩
    · rw [if_neg (mt (hlt x m).mp hx)]
      obtain ⟨h1, h2, h3⟩ := ih m
      exact ⟨List.mem_cons.mpr ((List.mem_cons.mp h1).imp_right (List.mem_cons_of_mem _)), h2,
        List.forall_mem_cons.mpr ⟨le_trans h2 (le_of_not_gt hx), h3⟩⟩

theorem argminPrio_spec {α : Type} (l : List (Cand α)) (b : Cand α) :
    argminPrio b l ∈ b :: l ∧ (argminPrio b l).prio ≤ b.prio ∧ ∀ c ∈ l, (argminPrio b l).prio ≤ c.prio := by
  induction l generalizing b with
  | nil => exact ⟨List.mem_singleton.mpr rfl, Nat.le_refl _, fun _ h => nomatch h⟩
  | cons x xs ih =>
    rw [argminPrio]
    by_cases hx : x.prio < b.prio
    · rw [if_pos hx]
      obtain ⟨h1, h2, h3⟩ := ih x
      exact ⟨List.mem_cons_of_mem _ h1, Nat.le_trans h2 (Nat.le_of_lt hx), List.forall_mem_cons.mpr ⟨h2, h3⟩⟩
    · rw [if_neg hx]
      obtain ⟨h1, h2, h3⟩ := ih b
      exact ⟨List.mem_cons.mpr ((List.mem_cons.mp h1).imp_right (List.mem_cons_of_mem _)), h2,
        List.forall_mem_cons.mpr ⟨Nat.le_trans h2 (Nat.le_of_not_lt hx), h3⟩⟩

theorem lockSelect_some_eq {α : Type} [Scalar α] (tol m : α) (cands : List (Cand α)) :
    lockSelect tol (some m) cands =
      lockSelect tol none (cands.filter fun (c : Cand α) => lt c.d (add m tol)) := rfl

theorem lockSelect_locked_mem {α : Type} [Scalar α] (tol : α) (maxD : Option α) (cands : List (Cand α))
    (i : Nat) (h : lockSelect tol maxD cands = .locked i) : ∃ c ∈ cands, c.idx = i := by
  have key : ∀ (l : List (Cand α)), lockSelect tol none l = .locked i → ∃ c ∈ l, c.idx = i := by
    intro l hl
    simp only [lockSelect] at hl
    split at hl
    · cases hl
    · split at hl
      · cases hl
      · rename_i a as hf
        have hmem := (argminPrio_spec as a).1
        rw [← hf] at hmem
        exact ⟨_, (List.mem_filter.mp hmem).1, LockOut.locked.inj hl⟩
  cases maxD with
  | none => exact key cands h
  | some m =>
    rw [lockSelect_some_eq] at h
    obtain ⟨c, hc, hi⟩ := key _ h
    exact ⟨c, (List.mem_filter.mp hc).1, hi⟩

/-- `hpos` stands for `0 < tol` (`add` need not be the `+` of an ordered group here). -/
theorem lockSelect_none_spec {α : Type} [Scalar α] [LinearOrder α] (hlt : ∀ a b : α, Scalar.lt a b = true ↔ a < b)
    (tol : α) (hpos : ∀ a : α, a < Scalar.add a tol) (cands : List (Cand α)) (hne : cands ≠ []) :
    ∃ c ∈ cands, lockSelect tol none cands = .locked c.idx ∧
      ∃ m ∈ cands, (∀ c' ∈ cands, m.dw ≤ c'.dw) ∧ c.dw < Scalar.add m.dw tol ∧
        ∀ c' ∈ cands, c'.dw < Scalar.add m.dw tol → c.prio ≤ c'.prio := by
  cases cands with
  | nil => exact absurd rfl hne
  | cons c0 cs =>
    obtain ⟨h1, h2, h3⟩ := minList_spec hlt (cs.map Cand.dw) c0.dw
    obtain ⟨m, hmmem, hmd⟩ : ∃ m ∈ c0 :: cs, m.dw = minList c0.dw (cs.map Cand.dw) := List.mem_map.mp h1
    have hlow : ∀ c' ∈ c0 :: cs, m.dw ≤ c'.dw := by
      rw [hmd]
      exact List.forall_mem_cons.mpr ⟨h2, fun c' hc' => h3 _ (List.mem_map.mpr ⟨c', hc', rfl⟩)⟩
    have hfm : ∀ c', c' ∈ (c0 :: cs).filter (fun (c : Cand α) => lt c.dw (add (minList c0.dw (cs.map Cand.dw)) tol)) ↔
        (c' ∈ c0 :: cs ∧ c'.dw < Scalar.add m.dw tol) := fun c' => by
      rw [List.mem_filter, hlt, hmd]
    simp only [lockSelect]
    split
    · -- the minimum itself passes the `< min + tol` filter, so the filtered list is not empty
      rename_i hf
      exact absurd ((hfm m).mpr ⟨hmmem, hpos m.dw⟩) (by rw [hf]; exact List.not_mem_nil)
    · rename_i a as hf
      rw [hf] at hfm
      obtain ⟨hmem, hle, hall⟩ := argminPrio_spec as a
      refine ⟨argminPrio a as, ((hfm _).mp hmem).1, rfl, m, hmmem, hlow, ((hfm _).mp hmem).2, fun c' hc' hlt' => ?_⟩
      rcases List.mem_cons.mp ((hfm c').mpr ⟨hc', hlt'⟩) with rfl | h
      · exact hle
      · exact hall c' h

/-- the list `handle` works on: one candidate per non-excluded loudspeaker of the layout, with `distances[j]`,
`distances_w[j]` and `channel_priority[j]` -/
def lockCands {α : Type} [ScalarSqrt α] (allo : Bool) (pos : List (P3 α)) (prio : List Nat) (excluded : List Bool)
    (p : P3 α) : List (Cand α) :=
  ((List.range pos.length).filter fun i => !isExcl excluded i).filterMap fun i =>
    match pos[i]? with
    | none => none
    | some c => some ⟨i, dist p c, if allo then distW p c else dist p c, prio.getD i 0⟩

theorem lockHandle_some {α : Type} [ScalarSqrt α] (allo : Bool) (pos : List (P3 α)) (prio : List Nat)
    (excluded : List Bool) (p : P3 α) (maxD : Option α) :
    lockHandle allo pos prio excluded p (some maxD) = lockSelect eps5 maxD (lockCands allo pos prio excluded p) := rfl

theorem mem_lockCands {α : Type} [ScalarSqrt α] {allo : Bool} {pos : List (P3 α)} {prio : List Nat}
    {excluded : List Bool} {p : P3 α} {c : Cand α} :
    c ∈ lockCands allo pos prio excluded p ↔ ∃ j, ∃ hj : j < pos.length, isExcl excluded j = false ∧
      c = ⟨j, dist p pos[j], if allo then distW p pos[j] else dist p pos[j], prio.getD j 0⟩ := by
  simp only [lockCands, List.mem_filterMap, List.mem_filter, List.mem_range, Bool.not_eq_true']
  constructor
  · rintro ⟨j, ⟨hj, hex⟩, hc⟩
    rw [List.getElem?_eq_getElem hj] at hc
    exact ⟨j, hj, hex, (Option.some.inj hc).symm⟩
  · rintro ⟨j, hj, hex, rfl⟩
    exact ⟨j, ⟨hj, hex⟩, by rw [List.getElem?_eq_getElem hj]⟩

end Earverif.C13
