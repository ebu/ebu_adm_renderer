/-
C13 — the allocentric point-source panner (`Earverif.GainCalc.alloHandle`, the C01 model of
`AllocentricPanner.handle`) is exact at every loudspeaker of a sorted grid (over ℝ).
-/
import Earverif.Proofs.C13Tree
import Earverif.Proofs.MapM

namespace Earverif.C13
open Earverif.Zone Earverif.CartLock
open Earverif.GainCalc (Leaf alloHandle alloWrites planeWrites rowWrites findPair findLoop
  singleBalancePan planeZ rowY applyWrites eqS eqS_real)
-- `eqS` is the comparison of `GainCalc.Scalar ℝ` (`eqS_real`, `Proofs/C01Real.lean`); `eqK` of `Proofs/C13Tree.lean` is
-- its twin in `Model/CartLock.lean`

theorem findLoop_at (len : Nat) (v : ℝ) : ∀ (cs : List ℝ) (j i : Nat), (cs.Pairwise (· < ·)) → cs[i]? = some v →
    findLoop len v j cs = (j + i, j + i)
  | [], _, _, _, h => nomatch h
  | c :: cs, j, 0, _, h => by
    obtain rfl := Option.some.inj h
    rw [findLoop, if_pos ((eqS_real c c).mpr rfl)]; rfl
  | c :: cs, j, i + 1, hs, h => by
    have hlt : c < v := (List.pairwise_cons.mp hs).1 v (List.mem_of_getElem? h)
    rw [findLoop, if_neg (mt (eqS_real c v).mp hlt.ne), if_neg (not_lt.mpr hlt.le),
      findLoop_at len v cs (j + 1) i (List.pairwise_cons.mp hs).2 h, Nat.add_assoc, Nat.add_comm 1 i]

theorem findPair_at (cs : List ℝ) (v : ℝ) (i : Nat) (hs : cs.Pairwise (· < ·)) (h : cs[i]? = some v) :
    findPair cs v = (i, i) := by
  match cs, i, hs, h with
  | [], _, _, h => exact nomatch h
  | c0 :: rest, i, hs, h =>
    rw [findPair]
    split
    · cases i with
      | zero => rfl
      | succ i =>
        exact absurd ((List.pairwise_cons.mp hs).1 v (List.mem_of_getElem? h)) (not_lt.mpr ‹v ≤ c0›)
    · rw [findLoop_at _ v (c0 :: rest) 0 i hs h, Nat.zero_add]

theorem singleBalancePan_self (a v : ℝ) : singleBalancePan a a v = ((1 : ℝ), (1 : ℝ)) := by
  simp [singleBalancePan, (eqS_real a a).mpr rfl]

theorem rowWrites_at (y z : ℝ) (row : List (Leaf ℝ)) (hr : RowS y z row) (l : Leaf ℝ) (hl : l ∈ row) (c : ℝ) :
    rowWrites row l.x c = some [(l.idx, c * 1), (l.idx, c * 1)] := by
  obtain ⟨i, hi⟩ := List.getElem?_of_mem hl
  have hxi : (row.map (·.x))[i]? = some l.x := by simp [hi]
  have hfp := findPair_at (row.map (·.x)) l.x i (List.pairwise_map.mpr hr.sorted) hxi
  unfold rowWrites
  simp only [hfp, hxi, hi, singleBalancePan_self]

theorem rowY_of_RowS {y z : ℝ} {row : List (Leaf ℝ)} (hr : RowS y z row) : rowY row = some (rowKey row) := by
  cases row with
  | nil => exact absurd rfl hr.ne
  | cons a as => simp [rowY, rowKey]

theorem planeWrites_at (z : ℝ) (pl : List (List (Leaf ℝ))) (hp : PlaneS z pl) (row : List (Leaf ℝ)) (hrow : row ∈ pl)
    (l : Leaf ℝ) (hl : l ∈ row) (gz : ℝ) :
    planeWrites pl l.x l.y gz =
      some [(l.idx, gz * 1 * 1), (l.idx, gz * 1 * 1), (l.idx, gz * 1 * 1), (l.idx, gz * 1 * 1)] := by
  obtain ⟨i, hi⟩ := List.getElem?_of_mem hrow
  have hr := hp.rows row hrow
  have hy : rowKey row = l.y := ((hr.yz l hl).1).symm ▸ rfl
  have hmap : pl.mapM rowY = some (pl.map rowKey) :=
    mapM_eq_pure_map fun r hr' => rowY_of_RowS (hp.rows r hr')
  have hyi : (pl.map rowKey)[i]? = some l.y := by simp [hi, hy]
  have hfp := findPair_at (pl.map rowKey) l.y i (List.pairwise_map.mpr hp.sorted) hyi
  unfold planeWrites
  simp only [hmap, hfp, hyi, hi, singleBalancePan_self, rowWrites_at (rowKey row) z row hr l hl]
  rfl

theorem planeZ_of_PlaneS {pl : List (List (Leaf ℝ))} (hne : pl ≠ []) (hp : PlaneS (planeKey pl) pl) :
    planeZ pl = some (planeKey pl) := by
  cases pl with
  | nil => exact absurd rfl hne
  | cons r rs =>
    have hr := hp.rows r (by simp)
    cases r with
    | nil => exact absurd rfl hr.ne
    | cons a as => simp [planeZ, planeKey]

/-- the eight assignments of `AllocentricPanner.handle` at a loudspeaker of the grid -/
theorem alloWrites_at (st : GainCalc.Tree ℝ) (ht : TreeS st) (l : Leaf ℝ) (hl : l ∈ leaves st) :
    ∃ ws, alloWrites st l.x l.y l.z = some ws ∧ ws ≠ [] ∧ ∀ w ∈ ws, w = (l.idx, (1 : ℝ)) := by
  obtain ⟨pl, hpl, hlp⟩ := mem_leaves.mp hl
  obtain ⟨row, hrp, hlr⟩ := List.mem_flatten.mp hlp
  obtain ⟨i, hi⟩ := List.getElem?_of_mem hpl
  have hp := ht.planes pl hpl
  have hz : planeKey pl = l.z := (((hp.2.rows row hrp).yz l hlr).2).symm ▸ rfl
  have hmap : st.mapM planeZ = some (st.map planeKey) :=
    mapM_eq_pure_map fun p hp' => planeZ_of_PlaneS (ht.planes p hp').1 (ht.planes p hp').2
  have hzi : (st.map planeKey)[i]? = some l.z := by simp [hi, hz]
  have hfp := findPair_at (st.map planeKey) l.z i (List.pairwise_map.mpr ht.sorted) hzi
  unfold alloWrites
  simp only [hmap, hfp, hzi, hi, singleBalancePan_self, planeWrites_at (planeKey pl) pl hp.2 row hrp l hlr]
  refine ⟨_, rfl, by simp, ?_⟩
  intro w hw
  simp only [List.mem_append, List.mem_cons, List.not_mem_nil, or_false] at hw
  rcases hw with (h | h | h | h) | (h | h | h | h) <;> simp [h]

theorem foldl_set_same (i : Nat) (x : ℝ) : ∀ (ws : List (Nat × ℝ)) (v : List ℝ), (∀ w ∈ ws, w = (i, x)) → ws ≠ [] →
    ws.foldl (fun ret (w : Nat × ℝ) => ret.set w.1 w.2) v = v.set i x
  | [], _, _, h => absurd rfl h
  | w :: ws, v, h, _ => by
    obtain rfl := h w List.mem_cons_self
    rw [List.foldl_cons]
    cases ws with
    | nil => rfl
    | cons w' ws' =>
      rw [foldl_set_same i x (w' :: ws') _ (fun w hw => h w (List.mem_cons_of_mem _ hw)) (List.cons_ne_nil _ _),
        List.set_set]

theorem alloHandle_at (n : Nat) (st : GainCalc.Tree ℝ) (ht : TreeS st) (l : Leaf ℝ) (hl : l ∈ leaves st) :
    alloHandle n st l.x l.y l.z = some ((List.replicate n (0 : ℝ)).set l.idx 1) := by
  obtain ⟨ws, hws, hne, hall⟩ := alloWrites_at st ht l hl
  unfold alloHandle
  rw [hws]
  simp only [Option.map_some, Option.some.injEq]
  unfold applyWrites
  rw [foldl_set_same l.idx 1 ws _ hall hne]
  simp [GainCalc.zeros]

end Earverif.C13
