/-
Lemmas shared by the C09 and C17 property theorems: little-endian codec, `readAt`/`patchAt`
on concatenations, chunk sequences as they lie in a file (`Chunk`, `encAll`), the chunk walk of
`_read_chunks` over them, and lookups in the table it builds.  Layouts are stated right-nested (`a ++ (b ++ …)`), so
that `readAt_mid` / `patchAt_mid` / `readChunkHeader_valid` apply by unification.
-/
import Earverif.Model.Bw64Reader

namespace Earverif.Bw64

theorem le_length (w n : Nat) : (le w n).length = w := by
  induction w generalizing n with
  | zero => rfl
  | succ w ih => simp [le, ih]

theorem fromLE_le (w n : Nat) (h : n < 256 ^ w) : fromLE (le w n) = n := by
  induction w generalizing n with
  | zero => simp only [Nat.pow_zero, Nat.lt_one_iff] at h; subst h; rfl
  | succ w ih =>
    have := ih (n / 256) (by rw [Nat.pow_succ] at h; omega)
    simp only [le, fromLE, this]; omega

theorem fromLE_le2 (n : Nat) (h : n < 2 ^ 16) : fromLE (le 2 n) = n := fromLE_le 2 n h

theorem fromLE_le4 (n : Nat) (h : n < 2 ^ 32) : fromLE (le 4 n) = n := fromLE_le 4 n h

theorem fromLE_le8 (n : Nat) (h : n < 2 ^ 64) : fromLE (le 8 n) = n := fromLE_le 8 n h

theorem pad_length (n : Nat) : (pad n).length = n % 2 := by
  unfold pad; split <;> simp <;> omega

theorem readAt_mid {f a b r : Bytes} {p n : Nat} (h : f = a ++ (b ++ r)) (ha : a.length = p)
    (hb : b.length = n) : readAt f p n = b := by
  subst h; subst ha; subst hb
  simp [readAt]

theorem readAt_short {f : Bytes} {p n : Nat} (h : f.length < p + n) (hn : 0 < n) :
    (readAt f p n).length ≠ n := by
  simp only [readAt, List.length_take, List.length_drop]; omega

theorem patchAt_mid {buf a x c y : Bytes} {off : Nat} (h : buf = a ++ (x ++ c)) (ha : a.length = off)
    (hx : x.length = y.length) : patchAt buf off y = a ++ (y ++ c) := by
  subst h; subst ha
  simp [patchAt, ← hx]

theorem patchAt_zero {x c y : Bytes} (hx : x.length = y.length) : patchAt (x ++ c) 0 y = y ++ c :=
  patchAt_mid (a := []) rfl rfl hx

/-- `szField` need not be `body.length`: the `data` chunk of a BW64 file keeps `0xFFFFFFFF` there (`effSize`) -/
structure Chunk where
  id : Bytes
  szField : Nat
  body : Bytes
  padB : Bytes   -- what follows the body up to the next chunk: the pad byte after an odd-sized body

def Chunk.enc (c : Chunk) : Bytes := c.id ++ (le 4 c.szField ++ (c.body ++ c.padB))

def encAll (cs : List Chunk) : Bytes := (cs.map Chunk.enc).flatten

/-- the size `_read_chunk_header` reports for the chunk (ds64 substitution for RF64/BW64 files) -/
def effSize (ds : Option Ds64) (c : Chunk) : Nat := hdrSize ds c.id c.szField

/-- well-formed chunk: four-character id accepted by `CHUNK_ID_RE`, size field fits 32 bits and (after
ds64 substitution) equals the body length, one pad byte exactly after an odd-sized body, and the header is
not the unset `data` size of a plain RIFF file (`isPlaceholder`) -/
structure Chunk.OK (ds : Option Ds64) (c : Chunk) : Prop where
  idLen : c.id.length = 4
  idValid : validId c.id = true
  szLt : c.szField < 2 ^ 32
  size : effSize ds c = c.body.length
  padLen : c.padB.length = c.body.length % 2
  noPlaceholder : isPlaceholder ds c.id c.szField = false

/-- the reader's chunk table after walking `cs` laid out from offset `p`, starting from table `t` -/
def walkTable : Nat → List Chunk → Table → Table
  | _, [], t => t
  | p, c :: cs, t => walkTable (p + c.enc.length) cs ((c.id, c.body.length, p) :: t)

@[simp] theorem encAll_nil : encAll [] = [] := rfl
@[simp] theorem encAll_cons (c : Chunk) (cs : List Chunk) : encAll (c :: cs) = c.enc ++ encAll cs := by
  simp [encAll]
@[simp] theorem encAll_append (a b : List Chunk) : encAll (a ++ b) = encAll a ++ encAll b := by
  simp [encAll]

theorem Chunk.enc_length (c : Chunk) (h : c.id.length = 4) (hp : c.padB.length = c.body.length % 2) :
    c.enc.length = 8 + (c.body.length + c.body.length % 2) := by
  simp [Chunk.enc, le_length, hp, h]; omega

theorem length_le_encAll (cs : List Chunk) (h : ∀ c ∈ cs, c.id.length = 4) : cs.length ≤ (encAll cs).length := by
  induction cs with
  | nil => simp
  | cons c cs ih =>
    have : c.enc.length ≥ 8 := by simp [Chunk.enc, le_length, h c (by simp)]; omega
    have := ih (fun x hx => h x (by simp [hx]))
    simp only [encAll_cons, List.length_cons, List.length_append]; omega

theorem readChunkHeader_eof {f : Bytes} {ds : Option Ds64} {pos : Nat} (h : f.length < pos + 8) :
    readChunkHeader f ds pos = .eof := by
  have := readAt_short h (by omega)
  simp [readChunkHeader, this]

theorem readChunks_eof {f : Bytes} {ds : Option Ds64} {fuel pos : Nat} {t : Table} {w : List Warn}
    (h : f.length < pos + 8) : readChunks f ds (fuel + 1) pos t w = .ok (t, w) := by
  rw [readChunks, readChunkHeader_eof h]

theorem readChunkHeader_valid {f pre id s4 rest : Bytes} (ds : Option Ds64) (hf : f = pre ++ (id ++ (s4 ++ rest)))
    (hid : id.length = 4) (hs : s4.length = 4) (hv : validId id = true) :
    readChunkHeader f ds pre.length =
      if isPlaceholder ds id (fromLE s4) then .placeholder else .hdr id (hdrSize ds id (fromLE s4)) := by
  have hd : readAt f pre.length 8 = id ++ s4 :=
    readAt_mid (a := pre) (b := id ++ s4) (r := rest) (by simp [hf]) rfl (by simp [hid, hs])
  have h4 : (id ++ s4).take 4 = id := by rw [← hid]; simp
  have h5 : (id ++ s4).drop 4 = s4 := by rw [← hid]; simp
  simp only [readChunkHeader, hd, h4, h5, hv]
  simp [hid, hs]

theorem readChunkHeader_ok {f pre rest : Bytes} {ds : Option Ds64} {c : Chunk} (hc : c.OK ds)
    (hf : f = pre ++ (c.id ++ (le 4 c.szField ++ rest))) :
    readChunkHeader f ds pre.length = .hdr c.id c.body.length := by
  rw [readChunkHeader_valid ds hf hc.idLen (le_length 4 _) hc.idValid, fromLE_le4 _ hc.szLt, hc.noPlaceholder,
    if_neg Bool.false_ne_true]
  exact congrArg _ hc.size

theorem walk_chunks_then (ds : Option Ds64) (cs : List Chunk) (hok : ∀ c ∈ cs, c.OK ds) :
    ∀ (pre f tail : Bytes) (fuel : Nat) (t : Table) (w : List Warn),
      f = pre ++ (encAll cs ++ tail) →
      readChunks f ds (cs.length + fuel) pre.length t w =
        readChunks f ds fuel (pre.length + (encAll cs).length) (walkTable pre.length cs t) w := by
  induction cs with
  | nil => intro pre f tail fuel t w _; simp [walkTable]
  | cons c cs ih =>
    intro pre f tail fuel t w hf
    have hc := hok c (by simp)
    have hlen := c.enc_length hc.idLen hc.padLen
    have hfl : f.length = pre.length + c.enc.length + (encAll cs).length + tail.length := by
      simp [hf]; omega
    rw [show (c :: cs).length + fuel = (cs.length + fuel) + 1 by simp; omega, readChunks,
      readChunkHeader_ok hc (rest := c.body ++ c.padB ++ (encAll cs ++ tail)) (by simp [hf, Chunk.enc])]
    have hle : ¬ (pre.length + 8 + (c.body.length + c.body.length % 2) > f.length) := by omega
    simp only [hle, ↓reduceIte]
    have := ih (fun x hx => hok x (by simp [hx])) (pre ++ c.enc) f tail fuel
      ((c.id, c.body.length, pre.length) :: t) w (by simp [hf])
    rw [List.length_append, hlen] at this
    rw [show pre.length + 8 + (c.body.length + c.body.length % 2) =
        pre.length + (8 + (c.body.length + c.body.length % 2)) by omega, this]
    simp only [walkTable, hlen, encAll_cons, List.length_append]
    congr 1; omega

theorem walk_chunks (ds : Option Ds64) (cs : List Chunk) (hok : ∀ c ∈ cs, c.OK ds) :
    ∀ (pre f : Bytes) (fuel : Nat) (t : Table) (w : List Warn),
      f = pre ++ encAll cs → cs.length < fuel →
      readChunks f ds fuel pre.length t w = .ok (walkTable pre.length cs t, w) := by
  intro pre f fuel t w hf hfuel
  obtain ⟨k, rfl⟩ : ∃ k, fuel = cs.length + (k + 1) := ⟨fuel - cs.length - 1, by omega⟩
  rw [walk_chunks_then ds cs hok pre f [] (k + 1) t w (by rw [hf, List.append_nil]),
    readChunks_eof (by rw [hf, List.length_append]; omega)]

theorem tlookup_walkTable_absent (id : Bytes) (cs : List Chunk) (h : ∀ c ∈ cs, c.id ≠ id) :
    ∀ (p : Nat) (t : Table), tlookup (walkTable p cs t) id = tlookup t id := by
  induction cs with
  | nil => intro p t; rfl
  | cons c cs ih =>
    intro p t
    simp only [walkTable]
    rw [ih (fun x hx => h x (by simp [hx]))]
    simp [tlookup, h c (by simp)]

theorem tlookup_walkTable_found (c : Chunk) (B : List Chunk) (hB : ∀ x ∈ B, x.id ≠ c.id) (A : List Chunk) :
    ∀ (p : Nat) (t : Table),
      tlookup (walkTable p (A ++ c :: B) t) c.id = some (c.body.length, p + (encAll A).length) := by
  induction A with
  | nil =>
    intro p t
    simp only [List.nil_append, walkTable]
    rw [tlookup_walkTable_absent _ _ hB]
    simp [tlookup]
  | cons a A ih =>
    intro p t
    simp only [List.cons_append, walkTable]
    rw [ih]; simp; omega

theorem chunk_found {f pre tail : Bytes} {cs A B : List Chunk} {c : Chunk} (hf : f = pre ++ (encAll cs ++ tail))
    (hcs : cs = A ++ c :: B) (hid : c.id.length = 4) (hB : ∀ x ∈ B, x.id ≠ c.id) (t : Table) :
    tlookup (walkTable pre.length cs t) c.id = some (c.body.length, pre.length + (encAll A).length) ∧
    ∃ P R, f = P ++ (c.body ++ R) ∧ P.length = pre.length + (encAll A).length + 8 := by
  subst hcs
  exact ⟨tlookup_walkTable_found c B hB A _ _, pre ++ encAll A ++ c.id ++ le 4 c.szField,
    c.padB ++ (encAll B ++ tail), by simp [hf, Chunk.enc], by simp [le_length, hid]; omega⟩

theorem chunkData_found {f pre : Bytes} {A B : List Chunk} {c : Chunk}
    {tail : Bytes} (hf : f = pre ++ (encAll (A ++ c :: B) ++ tail)) (hid : c.id.length = 4)
    (hB : ∀ x ∈ B, x.id ≠ c.id) (t : Table) :
    chunkData f (walkTable pre.length (A ++ c :: B) t) c.id = some c.body := by
  obtain ⟨h1, P, R, h2, h3⟩ := chunk_found hf rfl hid hB t
  simp only [chunkData, h1, Option.map]
  exact congrArg some (readAt_mid h2 h3 rfl)

end Earverif.Bw64
