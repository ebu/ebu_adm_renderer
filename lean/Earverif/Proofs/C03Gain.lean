/- The processing blocks yielded by the interpreters: their effect is the sample-by-sample specification
   `RenderSpec.gainAt`; they are ordered and disjoint (`TimedStep.chain`, `start_lb`). -/
import Earverif.Proofs.C03Bpc
import Earverif.Proofs.C03Ceil
import Earverif.Proofs.C02Laws
namespace Earverif.Timeline
open Earverif.Stream Earverif.RenderSpec

-- `hse` is not used: for `end_sample = start_sample` both sides are 0 in `ℚ`
set_option linter.unusedVariables false in
/-- The ramp `start + i·((end − start)/n)` built by `InterpGains` is the straight line through
`(start_sample, 0)` and `(end_sample, 1)` evaluated at the integer sample `first_sample + i`. -/
theorem interp_ramp_closed_form (start_sample end_sample : Rat) (first_sample last_sample : Int) (i : Nat)
    (hi : (i : Int) < last_sample - first_sample) (hse : end_sample ≠ start_sample) :
    (interpP start_sample end_sample first_sample last_sample).getD i 0 =
      (((first_sample : Rat) + i) - start_sample) / (end_sample - start_sample) := by
  unfold interpP
  have hn : last_sample - first_sample ≠ 0 := by omega
  simp only [hn, if_false]
  have hlt : i < (last_sample - first_sample).toNat := by omega
  rw [List.getD_eq_getElem?_getD, List.getElem?_map, List.getElem?_range hlt]
  simp only [Option.map_some, Option.getD_some]
  have hn' : ((last_sample - first_sample : Int) : Rat) ≠ 0 := by exact_mod_cast hn
  -- the step `(end − start)/n` of the ramp is `1/(end_sample − start_sample)`
  have hstep : (((last_sample : Rat) - start_sample) / (end_sample - start_sample) -
      ((first_sample : Rat) - start_sample) / (end_sample - start_sample)) / ((last_sample - first_sample : Int) : Rat) =
      1 / (end_sample - start_sample) := by
    rw [← sub_div, sub_sub_sub_cancel_right, ← Int.cast_sub, div_right_comm, div_self hn']
  rw [hstep]
  ring

theorem blockStartEnd_ok {G : Type} {lbe : Option (Ext Rat)} {m : MetaBlock G} {s : Rat} {e : Ext Rat}
    (h : blockStartEnd lbe m = .ok (s, e)) :
    (s, e) = blockTimes m ∧ (∀ l, lbe = some l → ∃ t, l = .fin t ∧ t ≤ s) := by
  unfold blockStartEnd at h
  unfold blockTimes
  rcases m with ⟨os, od, rt, du, jump, il, g⟩
  simp only at h ⊢
  have key : ∀ (bs : Rat) (be : Ext Rat),
      (match lbe with
        | some l => if l.gtFin bs then Except.error Err.overlapping else Except.ok (bs, be)
        | none => Except.ok (bs, be)) = Except.ok (s, e) →
      (s, e) = (bs, be) ∧ (∀ l, lbe = some l → ∃ t, l = .fin t ∧ t ≤ s) := by
    intro bs be h
    cases lbe with
    | none => simp only at h; cases h; exact ⟨rfl, by simp⟩
    | some l =>
      simp only at h
      by_cases hgt : l.gtFin bs = true
      · simp [hgt] at h
      · simp only [hgt, Bool.false_eq_true, if_false] at h
        cases h
        refine ⟨rfl, ?_⟩
        intro l' hl'; cases hl'
        cases l with
        | inf => simp [Ext.gtFin] at hgt
        | fin t => exact ⟨t, rfl, by simpa [Ext.gtFin] using hgt⟩
  cases rt with
  | none =>
    cases du with
    | none => exact key _ _ h
    | some d => simp at h
  | some r =>
    cases du with
    | none => simp at h
    | some d =>
      simp only at h
      cases od with
      | none => simp only [Ext.ltFin, Bool.false_eq_true, if_false] at h; exact key _ _ h
      | some d' =>
        simp only [Ext.ltFin, decide_eq_true_eq] at h
        by_cases hc : os.getD 0 + d' < os.getD 0 + r + d
        · rw [if_pos hc] at h; simp at h
        · rw [if_neg hc] at h; exact key _ _ h

section Eff
variable {V : Type} [RMod V] [LawfulRMod V]

/-- `t < ⌈e⌉` for a possibly endless bound. -/
def ltCeilE (t : Int) (e : Ext Rat) : Prop := match e with | .fin q => t < ceil q | .inf => True

instance (t : Int) (e : Ext Rat) : Decidable (ltCeilE t e) :=
  match e with
  | .fin q => inferInstanceAs (Decidable (t < ceil q))
  | .inf => isTrue trivial

omit [RMod V] [LawfulRMod V] in
theorem eff_new {K ι : Type} (upd : K → Nat → ι → V → V) (s : Rat) (e : Ext Rat) (k : K) (t : Int) (x : ι) (o : V) :
    (PBlock.new s e k).eff upd t x o = if ceil s ≤ t ∧ ltCeilE t e then upd k (t - ceil s).toNat x o else o := by
  refine if_congr ?_ rfl rfl
  rw [PBlock.covers, Bool.and_eq_true]
  refine and_congr decide_eq_true_iff ?_
  cases e <;> simp [PBlock.new, ceilE, Ext.gtFin, ltCeilE]

omit [RMod V] [LawfulRMod V] in
/-- A block that is yielded only if `c`, where its sample range is empty without `c`, acts as if always yielded. -/
theorem effAll_ite_new {K ι : Type} (upd : K → Nat → ι → V → V) (c : Prop) [Decidable c] (s : Rat) (e : Ext Rat)
    (k : K) (t : Int) (x : ι) (o : V) (h : ¬ c → ¬ (ceil s ≤ t ∧ ltCeilE t e)) :
    effAll upd (if c then [PBlock.new s e k] else []) t x o = (PBlock.new s e k).eff upd t x o := by
  by_cases hc : c
  · rw [if_pos hc]; rfl
  · rw [if_neg hc, eff_new, if_neg (h hc)]; rfl

omit [RMod V] [LawfulRMod V] in
theorem ite_ok_eq {α : Type} {c : Prop} [Decidable c] {x a : List α}
    (h : (if c then (Except.ok x : Except Err (List α)) else Except.ok []) = Except.ok a) :
    a = if c then x else [] := by
  by_cases hc : c
  · rw [if_pos hc] at h ⊢; cases h; rfl
  · rw [if_neg hc] at h ⊢; cases h; rfl

omit [RMod V] [LawfulRMod V] in
/-- `T`: end of the ramp (`s + L` if contiguous with the previous block, else `s`); `frm`: gains ramped from;
`new`: ramp on `[s·sr, T·sr)`, constant on `[T·sr, e·sr)`, each if non-empty. -/
theorem interpObject_ok {sr : Nat} {st st' : IState V} {m : MetaBlock V} {new : List (PBlock (GainKern V))}
    (h : interpObject sr st m = .ok (st', new)) :
    ∃ s e, blockStartEnd st.tlast m = .ok (s, e) ∧
      st' = { tlast := some e, last_block_end := some e, last_block_gains := some m.gains } ∧
      ∃ (T : Rat) (frm : Option V),
        ((st.last_block_end = some (.fin s) ∧ frm = st.last_block_gains ∧
            ∃ L, interpLength m (e.subFin s) = .fin L ∧ T = s + L ∧ (Ext.fin (s + L)).gt e = false) ∨
          (st.last_block_end ≠ some (.fin s) ∧ frm = none ∧ T = s)) ∧
        new = (if Ext.fin (s * (sr : Rat)) ≠ Ext.fin (T * sr) then [mkInterp (s * sr) (T * sr) frm m.gains] else []) ++
              (if Ext.fin (T * (sr : Rat)) ≠ e.mulNat sr then [mkFixed (T * sr) (e.mulNat sr) m.gains] else []) := by
  unfold interpObject at h
  cases hb : blockStartEnd st.tlast m with
  | error err => rw [hb] at h; cases h
  | ok se =>
    obtain ⟨s, e⟩ := se
    rw [hb] at h
    simp only at h
    refine ⟨s, e, rfl, ?_⟩
    by_cases hgt : (Ext.addFin s (interpLength m (e.subFin s))).gt e = true
    · rw [if_pos hgt] at h; cases h
    · rw [if_neg hgt] at h
      generalize hti : (if st.last_block_end = some (Ext.fin s) then
        (Ext.addFin s (interpLength m (e.subFin s)), st.last_block_gains) else (Ext.fin s, none)) = ti at h
      obtain ⟨T1, frm⟩ := ti
      cases T1 with
      | inf => simp [Ext.mulNat] at h
      | fin T =>
        simp only [Ext.mulNat] at h
        split at h
        · cases h
        · rename_i a ha
          split at h
          · cases h
          · rename_i b hb'
            cases h
            refine ⟨rfl, T, frm, ?_, congrArg₂ _ (ite_ok_eq ha) (ite_ok_eq hb')⟩
            by_cases hcont : st.last_block_end = some (.fin s)
            · rw [if_pos hcont] at hti
              cases hL : interpLength m (e.subFin s) with
              | inf => rw [hL] at hti; cases hti
              | fin L =>
                rw [hL] at hti hgt
                cases hti
                exact Or.inl ⟨hcont, rfl, L, rfl, rfl, by simpa [Ext.addFin] using hgt⟩
            · rw [if_neg hcont] at hti
              cases hti
              exact Or.inr ⟨hcont, rfl, rfl⟩

omit [LawfulRMod V] in
theorem one_block_eff (S : Rat) (E : Ext Rat) (g : V) (t : Int) (x : Rat) (o : V) :
    effAll GainKern.upd (if Ext.fin S ≠ E then [mkFixed S E g] else []) t x o =
      if ceil S ≤ t ∧ ltCeilE t E then o + RMod.smul x g else o := by
  rw [mkFixed, effAll_ite_new _ _ _ _ _ _ _ _ fun h hh => ?_, eff_new]
  · rfl
  · rw [← not_not.mp h] at hh
    exact absurd hh.2 (not_lt.mpr hh.1)

theorem ramp_block_eff (S T : Rat) (g0 g : V) (t : Int) (x : Rat) (o : V) :
    effAll GainKern.upd (if Ext.fin S ≠ Ext.fin T then [mkInterp S T (some g0) g] else []) t x o =
      if ceil S ≤ t ∧ t < ceil T then
        o + RMod.smul x (RMod.smul (1 - ((t : Rat) - S) / (T - S)) g0 + RMod.smul (((t : Rat) - S) / (T - S)) g)
      else o := by
  rw [mkInterp, effAll_ite_new _ _ _ _ _ _ _ _ fun h hh => ?_, eff_new]
  · by_cases h : ceil S ≤ t ∧ t < ceil T
    · rw [if_pos (show ceil S ≤ t ∧ ltCeilE t (.fin T) from h), if_pos h]
      have hse : T ≠ S := fun e => by rw [e] at h; omega
      have hk : (((t - ceil S).toNat : Nat) : Int) < ceil T - ceil S := by omega
      simp only [GainKern.upd]
      rw [interp_ramp_closed_form S T (ceil S) (ceil T) _ hk hse]
      have : ((ceil S : Int) : Rat) + (((t - ceil S).toNat : Nat) : Rat) = (t : Rat) := by
        rw [← Int.cast_natCast, Int.toNat_of_nonneg (by omega), Int.cast_sub]; ring
      rw [this, LawfulRMod.add_assoc, LawfulRMod.mul_smul, LawfulRMod.mul_smul, ← LawfulRMod.smul_add]
    · rw [if_neg (show ¬ (ceil S ≤ t ∧ ltCeilE t (.fin T)) from h), if_neg h]
  · rw [← not_not.mp h] at hh
    exact absurd hh.2 (not_lt.mpr hh.1)

/-- `n ≤ ⌈E⌉`. -/
def leCeilE (n : Int) (E : Ext Rat) : Prop := match E with | .fin q => n ≤ ceil q | .inf => True

/-- `rest` continues a chain after a block ending at `E` (nothing may follow an endless block). -/
def ChainAfter {K : Type} (E : Ext Rat) (rest : List (PBlock K)) : Prop :=
  match E with | .fin q => ChainLB (ceil q) rest | .inf => rest = []

omit [RMod V] [LawfulRMod V] in
theorem effAll_chainAfter_id {K ι : Type} (upd : K → Nat → ι → V → V) {E : Ext Rat} {rest : List (PBlock K)}
    (h : ChainAfter E rest) (t : Int) (ht : ltCeilE t E) (x : ι) (o : V) : effAll upd rest t x o = o := by
  cases E with
  | inf => rw [show rest = [] from h]; rfl
  | fin q => exact effAll_chain_id upd h t ht x o

theorem mul_natCast_le {a b : Rat} (h : a ≤ b) (sr : Nat) : a * (sr : Rat) ≤ b * sr :=
  mul_le_mul_of_nonneg_right h (by positivity)

theorem leCeilE_mulNat {T : Rat} {e : Ext Rat} (sr : Nat) (h : (Ext.fin T).gt e = false) :
    leCeilE (ceil (T * sr)) (e.mulNat sr) := by
  cases e with
  | inf => trivial
  | fin e' => exact ceil_mono (mul_natCast_le (by simpa [Ext.gt] using h) sr)

theorem two_blocks_eff (S T : Rat) (E : Ext Rat) (g0 g : V) (hST : ceil S ≤ ceil T)
    (hTE : leCeilE (ceil T) E) (t : Int) (x : Rat) (o : V) :
    effAll GainKern.upd
        ((if Ext.fin S ≠ Ext.fin T then [mkInterp S T (some g0) g] else []) ++
          (if Ext.fin T ≠ E then [mkFixed T E g] else [])) t x o =
      if ceil S ≤ t ∧ ltCeilE t E then
        (if ceil T ≤ t then o + RMod.smul x g
         else o + RMod.smul x (RMod.smul (1 - ((t : Rat) - S) / (T - S)) g0 + RMod.smul (((t : Rat) - S) / (T - S)) g))
      else o := by
  rw [effAll_append, ramp_block_eff, one_block_eff]
  have hlt : t < ceil T → ltCeilE t E := fun h => by
    cases E with
    | inf => trivial
    | fin q => exact lt_of_lt_of_le h hTE
  by_cases h2 : ceil T ≤ t
  · have h1 : ¬ (ceil S ≤ t ∧ t < ceil T) := fun h => absurd h.2 (not_lt.mpr h2)
    rw [if_neg h1]
    by_cases h3 : ltCeilE t E
    · rw [if_pos ⟨h2, h3⟩, if_pos ⟨hST.trans h2, h3⟩, if_pos h2]
    · rw [if_neg fun h => h3 h.2, if_neg fun h => h3 h.2]
  · rw [if_neg fun h => h2 h.1]
    by_cases h1 : ceil S ≤ t
    · rw [if_pos ⟨h1, not_le.mp h2⟩, if_pos ⟨h1, hlt (not_le.mp h2)⟩, if_neg h2]
    · rw [if_neg fun h => h1 h.1, if_neg fun h => h1 h.1]

omit [RMod V] [LawfulRMod V] in
theorem gainAt_cons {G : Type} (sr : Nat) (b : SpecBlock G) (tl : List (SpecBlock G)) (t : Int) :
    gainAt sr (b :: tl) t = if b.covers sr t = true then gainAt sr [b] t else gainAt sr tl t := by
  unfold gainAt
  by_cases h : b.covers sr t = true
  · simp [List.find?, h]
  · simp only [Bool.not_eq_true] at h
    simp [List.find?, h]

omit [RMod V] [LawfulRMod V] in
theorem specCovers_iff {G : Type} (sr : Nat) (b : SpecBlock G) (t : Int) :
    b.covers sr t = true ↔ ceil (b.start * sr) ≤ t ∧ ltCeilE t (b.end_.mulNat sr) := by
  unfold SpecBlock.covers
  rw [Bool.and_eq_true, decide_eq_true_eq, ceil_eq_ceilQ]
  cases b.end_ with
  | inf => simp [Ext.mulNat, ltCeilE]
  | fin e => simp [Ext.mulNat, ltCeilE, ceil_eq_ceilQ]

omit [RMod V] [LawfulRMod V] in
theorem gainAt_single {G : Type} (sr : Nat) (b : SpecBlock G) (t : Int) (hc : b.covers sr t = true) :
    gainAt sr [b] t =
      if ceil (b.target * sr) ≤ t then .const b.cur
      else match b.prev with
        | some g0 => .ramp (((t : Rat) - b.start * sr) / ((b.target - b.start) * sr)) g0 b.cur
        | none => .const b.cur := by
  rw [ceil_eq_ceilQ]
  simp only [gainAt, List.find?, hc]
  rfl

/-- The head of `objTimeline`. -/
def specBlockOf {G : Type} (prev : Option (Ext Rat × G)) (m : MetaBlock G) : SpecBlock G :=
  let s := (blockTimes m).1
  let e := (blockTimes m).2
  match prev with
  | some (pe, pg) =>
    if pe = .fin s then
      match interpOf m s e with
      | .fin l => ⟨s, e, s + l, some pg, m.gains⟩
      | .inf => ⟨s, e, s, none, m.gains⟩
    else ⟨s, e, s, none, m.gains⟩
  | none => ⟨s, e, s, none, m.gains⟩

omit [RMod V] [LawfulRMod V] in
theorem specBlockOf_end {G : Type} (prev : Option (Ext Rat × G)) (m : MetaBlock G) :
    (specBlockOf prev m).end_ = (blockTimes m).2 := by
  unfold specBlockOf
  split
  · simp only
    split
    · split <;> rfl
    · rfl
  · rfl

omit [RMod V] [LawfulRMod V] in
theorem objTimeline_cons {G : Type} (prev : Option (Ext Rat × G)) (m : MetaBlock G) (ms : List (MetaBlock G)) :
    objTimeline prev (m :: ms) = specBlockOf prev m :: objTimeline (some ((blockTimes m).2, m.gains)) ms := by
  cases prev with
  | none => simp only [objTimeline, specBlockOf]
  | some p =>
    obtain ⟨pe, pg⟩ := p
    simp only [objTimeline, specBlockOf]
    by_cases h : pe = Ext.fin (blockTimes m).1
    · simp only [h, if_true]
      cases interpOf m (blockTimes m).1 (blockTimes m).2 <;> rfl
    · simp only [h, if_false]

omit [RMod V] [LawfulRMod V] in
theorem interpOf_eq_interpLength {G : Type} (m : MetaBlock G) (s : Rat) (e : Ext Rat) :
    interpOf m s e = interpLength m (e.subFin s) := by
  unfold interpOf interpLength
  cases m.jump <;> cases m.interpLen <;> simp

/-- Durations and interpolation lengths are not negative (true of every parsed ADM time). -/
def NonNegBlock {G : Type} (m : MetaBlock G) : Prop :=
  (∀ d, m.duration = some d → 0 ≤ d) ∧ (∀ d, m.object_duration = some d → 0 ≤ d) ∧
    (∀ l, m.interpLen = some l → 0 ≤ l)

instance {G : Type} (m : MetaBlock G) : Decidable (NonNegBlock m) := by
  unfold NonNegBlock; infer_instance

omit [RMod V] [LawfulRMod V] in
theorem blockTimes_le {G : Type} (m : MetaBlock G) (h : NonNegBlock m) :
    (Ext.fin (blockTimes m).1).gt (blockTimes m).2 = false := by
  obtain ⟨h1, h2, _⟩ := h
  unfold blockTimes
  split
  · rename_i r d _ hd
    have := h1 d hd
    simp only [Ext.gt, decide_eq_false_iff_not, not_lt]
    linarith
  · cases hod : m.object_duration with
    | none => rfl
    | some d =>
      have := h2 d hod
      simp only [Ext.gt, decide_eq_false_iff_not, not_lt]
      linarith

omit [RMod V] [LawfulRMod V] in
theorem interpLength_nonneg {G : Type} (m : MetaBlock G) (h : NonNegBlock m) (L : Rat)
    (hL : interpLength m ((blockTimes m).2.subFin (blockTimes m).1) = .fin L) : 0 ≤ L := by
  unfold interpLength at hL
  by_cases hj : m.jump = true
  · simp only [hj, if_true] at hL
    cases hi : m.interpLen with
    | none => rw [hi] at hL; cases hL; exact le_refl _
    | some l => rw [hi] at hL; cases hL; exact h.2.2 _ hi
  · simp only [hj, Bool.false_eq_true, if_false] at hL
    have := blockTimes_le m h
    cases he : (blockTimes m).2 with
    | inf => rw [he] at hL; cases hL
    | fin e =>
      rw [he] at hL this
      simp only [Ext.subFin, Ext.gt, decide_eq_false_iff_not, not_lt] at hL this
      cases hL; linarith

omit [RMod V] [LawfulRMod V] in
theorem chain_new {K : Type} (T : Rat) (E : Ext Rat) (k : K) (hTE : leCeilE (ceil T) E) {rest : List (PBlock K)}
    (hrest : ChainAfter E rest) : ChainLB (ceil T) (PBlock.new T E k :: rest) := by
  cases E with
  | inf => exact ⟨Int.le_refl _, hrest⟩
  | fin q => exact ⟨Int.le_refl _, hTE, hrest⟩

omit [RMod V] [LawfulRMod V] in
theorem chain_two_blocks (S T : Rat) (E : Ext Rat) (frm : Option V) (g : V) (hST : ceil S ≤ ceil T)
    (hTE : leCeilE (ceil T) E) (rest : List (PBlock (GainKern V))) (hrest : ChainAfter E rest) :
    ChainLB (ceil S)
      (((if Ext.fin S ≠ Ext.fin T then [mkInterp S T frm g] else []) ++
        (if Ext.fin T ≠ E then [mkFixed T E g] else [])) ++ rest) := by
  have h2 : ChainLB (ceil T) ((if Ext.fin T ≠ E then [mkFixed T E g] else []) ++ rest) := by
    by_cases hne : Ext.fin T ≠ E
    · rw [if_pos hne]
      exact chain_new T E _ hTE hrest
    · rw [if_neg hne]
      have : Ext.fin T = E := not_not.mp hne
      subst this
      exact hrest
  by_cases hne : Ext.fin S ≠ Ext.fin T
  · rw [if_pos hne, List.append_assoc]
    exact chain_new S (.fin T) _ hST h2
  · rw [if_neg hne]
    exact h2.mono hST

/-- State of `InterpretObjectMetadata` as the specification sees it: end and gains of the previous block. -/
def statePrev (st : IState V) : Option (Ext Rat × V) :=
  match st.last_block_end, st.last_block_gains with
  | some e, some g => some (e, g)
  | _, _ => none

/-- The interpreter's three state fields are set together. -/
def StOK (st : IState V) : Prop :=
  st.tlast = st.last_block_end ∧ (st.last_block_end = none ∨ ∃ g, st.last_block_gains = some g)

/-- Conjunct 1: the effect is `gainAt` of `[specBlockOf …]`; 2–4 are `TimedStep` (`obj_timedStep`). -/
theorem obj_block_spec {sr : Nat} {st st' : IState V} {m : MetaBlock V} {new : List (PBlock (GainKern V))}
    (h : interpObject sr st m = .ok (st', new)) (hst : StOK st) (hnn : NonNegBlock m) :
    (∀ t x o, effAll GainKern.upd new t x o =
        if (specBlockOf (statePrev st) m).covers sr t = true then
          o + RMod.smul x (gainAt sr [specBlockOf (statePrev st) m] t).row
        else o) ∧
      st' = { tlast := some (blockTimes m).2, last_block_end := some (blockTimes m).2,
              last_block_gains := some m.gains } ∧
      (∀ l, st.tlast = some l → ∃ t, l = .fin t ∧ t ≤ (blockTimes m).1) ∧
      (∀ rest, ChainAfter ((blockTimes m).2.mulNat sr) rest →
        ChainLB (ceil ((blockTimes m).1 * sr)) (new ++ rest)) := by
  obtain ⟨s, e, hb, hst', T, frm, hcase, hnew⟩ := interpObject_ok h
  obtain ⟨hbt, hprev⟩ := blockStartEnd_ok hb
  have hs : (blockTimes m).1 = s := by rw [← hbt]
  have he : (blockTimes m).2 = e := by rw [← hbt]
  have hle := blockTimes_le m hnn
  rw [hs, he] at hle ⊢
  -- the ramp ends inside the block: `s ≤ T ≤ e`
  have hsTe : s ≤ T ∧ (Ext.fin T).gt e = false := by
    rcases hcase with ⟨_, _, L, hL, hT, hgt⟩ | ⟨_, _, hT⟩
    · have hL0 : 0 ≤ L := interpLength_nonneg m hnn L (by rw [hs, he]; exact hL)
      rw [hT]
      exact ⟨by linarith, hgt⟩
    · rw [hT]
      exact ⟨le_refl s, hle⟩
  have hST : ceil (s * sr) ≤ ceil (T * sr) := ceil_mono (mul_natCast_le hsTe.1 sr)
  have hTE : leCeilE (ceil (T * sr)) (e.mulNat sr) := leCeilE_mulNat sr hsTe.2
  rw [hnew]
  refine ⟨?_, hst', hprev, chain_two_blocks _ _ _ frm m.gains hST hTE⟩
  intro t x o
  rcases hcase with ⟨hc, hfrm, L, hL, hT, -⟩ | ⟨hc, hfrm, hT⟩
  · -- contiguous with the previous block: ramp then constant
    obtain ⟨_, hg⟩ := hst
    rcases hg with hg | ⟨g0, hg⟩
    · rw [hg] at hc; cases hc
    have hb' : specBlockOf (statePrev st) m = ⟨s, e, s + L, some g0, m.gains⟩ := by
      simp only [specBlockOf, statePrev, hc, hg, hs, he, if_true, interpOf_eq_interpLength, hL]
    rw [hfrm, hg, two_blocks_eff _ _ _ g0 m.gains hST hTE, hb', hT]
    have hcov := specCovers_iff sr (⟨s, e, s + L, some g0, m.gains⟩ : SpecBlock V) t
    by_cases hcv : (⟨s, e, s + L, some g0, m.gains⟩ : SpecBlock V).covers sr t = true
    · rw [if_pos (hcov.mp hcv), if_pos hcv, gainAt_single sr _ t hcv]
      by_cases h2 : ceil ((s + L) * sr) ≤ t
      · rw [if_pos h2, if_pos h2]; rfl
      · rw [if_neg h2, if_neg h2]
        simp only [GainSpec.row]
        rw [show (s + L) * (sr : Rat) - s * sr = (s + L - s) * sr by ring]
    · rw [if_neg (mt hcov.mpr hcv), if_neg hcv]
  · -- not contiguous: constant gain from the block start
    have hb' : specBlockOf (statePrev st) m = ⟨s, e, s, none, m.gains⟩ := by
      simp only [specBlockOf, statePrev, hs, he]
      cases h1 : st.last_block_end with
      | none => rfl
      | some pe =>
        cases h2 : st.last_block_gains with
        | none => rfl
        | some pg =>
          simp only
          rw [h1] at hc
          rw [if_neg fun hh => hc (by rw [hh])]
    rw [hb', hT]
    simp only [ne_eq, not_true_eq_false, if_false, List.nil_append]
    rw [one_block_eff]
    have hcov := specCovers_iff sr (⟨s, e, s, none, m.gains⟩ : SpecBlock V) t
    by_cases hcv : (⟨s, e, s, none, m.gains⟩ : SpecBlock V).covers sr t = true
    · rw [if_pos (hcov.mp hcv), if_pos hcv, gainAt_single sr _ t hcv, if_pos (hcov.mp hcv).1]; rfl
    · rw [if_neg (mt hcov.mpr hcv), if_neg hcv]

theorem silent_row (x : Rat) (o : V) : o + RMod.smul x (GainSpec.silent : GainSpec V).row = o := by
  simp only [GainSpec.row, LawfulRMod.smul_zero, LawfulRMod.add_zero]

omit [RMod V] [LawfulRMod V] in
/-- What every interpreter built on `InterpretTimingMetadata.block_start_end` does with one metadata block, as far as
the order of the processing blocks goes (`Inv`: what it needs of its state): the block does not start before the end
of the previous one, the new state records its end, and the yielded blocks form a chain from `⌈start·fs⌉` on with
whatever continues a chain after `⌈end·fs⌉`. -/
def TimedStep {G K : Type} (sr : Nat) (Inv : IState G → Prop)
    (interp : IState G → MetaBlock G → Except Err (IState G × List (PBlock K))) : Prop :=
  ∀ st m st' new, interp st m = .ok (st', new) → Inv st → NonNegBlock m →
    Inv st' ∧ st'.tlast = some (blockTimes m).2 ∧
    (∀ l, st.tlast = some l → ∃ t, l = .fin t ∧ t ≤ (blockTimes m).1) ∧
    ∀ rest, ChainAfter ((blockTimes m).2.mulNat sr) rest → ChainLB (ceil ((blockTimes m).1 * sr)) (new ++ rest)

omit [RMod V] [LawfulRMod V] in
/-- The processing blocks of a whole accepted timeline are ordered and disjoint, start where the first metadata block
starts, and continue a chain after the end time the interpreter had recorded before. -/
theorem TimedStep.chain {G K : Type} {sr : Nat} {Inv : IState G → Prop}
    {interp : IState G → MetaBlock G → Except Err (IState G × List (PBlock K))} (hstep : TimedStep sr Inv interp) :
    ∀ (blocks : List (MetaBlock G)) (st : IState G) (all : List (PBlock K)),
    interpAll interp st blocks = .ok all → Inv st → (∀ m ∈ blocks, NonNegBlock m) →
    (∀ lb, (∀ m ms, blocks = m :: ms → lb ≤ ceil ((blockTimes m).1 * sr)) → ChainLB lb all) ∧
    (∀ m ms, blocks = m :: ms → ∀ l, st.tlast = some l → ∃ t, l = .fin t ∧ t ≤ (blockTimes m).1) ∧
    (∀ E, st.tlast = some E → ChainAfter (E.mulNat sr) all) := by
  intro blocks
  induction blocks with
  | nil =>
    intro st all h _ _
    simp only [interpAll] at h; cases h
    refine ⟨fun _ _ => trivial, fun m ms h => (by cases h), fun E _ => ?_⟩
    cases E with
    | inf => exact rfl
    | fin q => trivial
  | cons m ms ih =>
    intro st all h hst hnn
    obtain ⟨st', new, rest, hi, hr, rfl⟩ := interpAll_cons_ok h
    obtain ⟨hst', htl, hprev, hglue⟩ := hstep st m st' new hi hst (hnn m List.mem_cons_self)
    obtain ⟨-, -, ihC⟩ := ih st' rest hr hst' (fun m' hm' => hnn m' (List.mem_cons_of_mem _ hm'))
    have hA : ∀ lb, lb ≤ ceil ((blockTimes m).1 * sr) → ChainLB lb (new ++ rest) :=
      fun lb hlb => (hglue rest (ihC _ htl)).mono hlb
    refine ⟨fun lb hlb => hA lb (hlb m ms rfl), fun m' ms' hms => by cases hms; exact hprev, fun E hE => ?_⟩
    obtain ⟨t, rfl, hle⟩ := hprev E hE
    exact hA _ (ceil_mono (mul_natCast_le hle sr))

omit [RMod V] [LawfulRMod V] in
/-- The lower bound at which `TimedStep.chain` is read for a channel that begins at sample 0. -/
theorem start_lb {G : Type} (sr : Nat) (blocks : List (MetaBlock G))
    (h0 : ∀ m ms, blocks = m :: ms → 0 ≤ (blockTimes m).1) :
    ∀ m ms, blocks = m :: ms → (0 : Int) ≤ ceil ((blockTimes m).1 * sr) := fun m ms hm => by
  rw [← ceil_zero]
  exact ceil_mono (mul_nonneg (h0 m ms hm) (by positivity))

theorem obj_timedStep (sr : Nat) : TimedStep sr StOK (interpObject (V := V) sr) := by
  intro st m st' new h hst hnn
  obtain ⟨-, hst', hprev, hglue⟩ := obj_block_spec h hst hnn
  exact ⟨by rw [hst']; exact ⟨rfl, Or.inr ⟨_, rfl⟩⟩, by rw [hst'], hprev, hglue⟩

theorem obj_all_spec {sr : Nat} : ∀ (blocks : List (MetaBlock V)) (st : IState V) (all : List (PBlock (GainKern V))),
    interpAll (interpObject sr) st blocks = .ok all → StOK st → (∀ m ∈ blocks, NonNegBlock m) →
    (∀ t x o, effAll GainKern.upd all t x o =
        o + RMod.smul x (gainAt sr (objTimeline (statePrev st) blocks) t).row) ∧
    (∀ lb, (∀ m ms, blocks = m :: ms → lb ≤ ceil ((blockTimes m).1 * sr)) → ChainLB lb all) ∧
    (∀ m ms, blocks = m :: ms → ∀ l, st.tlast = some l → ∃ t, l = .fin t ∧ t ≤ (blockTimes m).1) := by
  intro blocks st all h hst hnn
  obtain ⟨hA, hB, -⟩ := (obj_timedStep sr).chain blocks st all h hst hnn
  refine ⟨?_, hA, hB⟩
  clear hA hB
  induction blocks generalizing st all with
  | nil =>
    intro t x o
    simp only [interpAll] at h; cases h
    exact (silent_row x o).symm
  | cons m ms ih =>
    intro t x o
    obtain ⟨st', new, rest, hi, hr, rfl⟩ := interpAll_cons_ok h
    have hnn' : ∀ m' ∈ ms, NonNegBlock m' := fun m' hm' => hnn m' (List.mem_cons_of_mem _ hm')
    obtain ⟨heff, hst'eq, -, -⟩ := obj_block_spec hi hst (hnn m List.mem_cons_self)
    obtain ⟨hst', htl, -, -⟩ := obj_timedStep sr st m st' new hi hst (hnn m List.mem_cons_self)
    rw [effAll_append, heff, objTimeline_cons, gainAt_cons sr _ (objTimeline _ ms)]
    by_cases hc : (specBlockOf (statePrev st) m).covers sr t = true
    · -- later blocks do not reach back to `t`
      rw [if_pos hc, if_pos hc]
      have hlt := ((specCovers_iff sr _ t).mp hc).2
      rw [specBlockOf_end] at hlt
      obtain ⟨-, -, hafter⟩ := (obj_timedStep sr).chain ms st' rest hr hst' hnn'
      exact effAll_chainAfter_id _ (hafter _ htl) t hlt x _
    · rw [if_neg hc, if_neg hc, ih st' rest hr hst' hnn', hst'eq]
      rfl

omit [RMod V] [LawfulRMod V] in
theorem interpObject_yield_le_two {sr : Nat} (st : IState V) (m : MetaBlock V) (st' : IState V)
    (new : List (PBlock (GainKern V))) (h : interpObject sr st m = .ok (st', new)) : new.length ≤ 2 := by
  obtain ⟨s, e, _, _, T, frm, _, hnew⟩ := interpObject_ok h
  rw [hnew, List.length_append]
  have h1 : ∀ (c : Prop) [Decidable c] (a : PBlock (GainKern V)), (if c then [a] else []).length ≤ 1 := by
    intro c _ a; split <;> simp
  have := h1 (Ext.fin (s * (sr : Rat)) ≠ Ext.fin (T * sr)) (mkInterp (s * sr) (T * sr) frm m.gains)
  have := h1 (Ext.fin (T * (sr : Rat)) ≠ e.mulNat sr) (mkFixed (T * sr) (e.mulNat sr) m.gains)
  omega

end Eff

end Earverif.Timeline
