/-
C13 — the polar path with channel lock and zone exclusion (`renderPolarLock`: lock → pan →
zone downmix on the gains) over ℝ:
  * what the zone downmix does to the unit gain vector of a locked loudspeaker (`renderPolar_unit`, row `k` of the
    matrix: `downmix_row_real`, `groupRow_*`, `power_of_row`), and `renderPolarLock_eq_some`;
  * an object at a loudspeaker locks to it (`lock_at_speaker`), with the table check `separatedB` on squared
    rational distances and `lock_at_speaker_table`;
  * the models over ℝ on a table cast from ℚ are the casts of the models over ℚ (`downmixForExcluded_cast`, and for
    the Cartesian mask `alloExcluded_cast`), so that matrices and masks evaluated over ℚ serve the theorems over ℝ.
-/
import Earverif.Proofs.C13CartLock
import Earverif.Proofs.C13LockReal
import Earverif.Proofs.IndRow
import Mathlib.Algebra.BigOperators.Group.List.Basic
import Mathlib.Algebra.Order.BigOperators.Group.List
import Mathlib.Tactic.Ring
import Mathlib.Tactic.Positivity

namespace Earverif.C13
open Earverif.Zone Earverif.Zone.Scalar Earverif.Zone.ScalarSqrt Earverif.Lock Earverif.CartLock

-- lets `decide` settle equations between positions of the rational tables (`norm050_two_rat` of `Props/C13.lean`); the
-- model file derives no instances
deriving instance DecidableEq for Earverif.Zone.P3

theorem sumList_real (l : List ℝ) : sumList l = l.sum := List.sum_eq_foldl.symm

/-- the unit gain vector `e_k` over ℝ; the Cartesian path (`renderCart_unit`, `cart_lock_one_speaker`) writes its body
out, C05 has the same list as `PointSource.Cover.unitV`, and `unitVec` of `Props/C13.lean` is `e_k` over any scalar -/
noncomputable def unitR (n k : Nat) : List ℝ := (List.replicate n (0 : ℝ)).set k 1

@[simp] theorem unitR_length (n k : Nat) : (unitR n k).length = n := by simp [unitR]

theorem unitR_mem (n k : Nat) (v : ℝ) (h : v ∈ unitR n k) : v = 0 ∨ v = 1 := by
  rcases List.mem_or_eq_of_mem_set h with h | h
  · left; exact (List.mem_replicate.mp h).2
  · right; exact h

theorem unitR_eq_indRow (n k : Nat) : unitR n k = indRow n [k] 1 := by
  rw [indRow_singleton]
  apply List.ext_getElem
  · simp
  · intro j h1 h2
    simp only [unitR, List.getElem_set, List.getElem_replicate, List.getElem_map, List.getElem_range, beq_iff_eq]

theorem unitR_nonneg (n k : Nat) : ∀ v ∈ unitR n k, 0 ≤ v := by
  rw [unitR_eq_indRow]; exact indRow_nonneg n [k] zero_le_one

theorem zipWith_zeros_sum {β : Type} (f : β → ℝ) : ∀ (n : Nat) (D : List β),
    (List.zipWith (fun a row => a * f row) (List.replicate n (0 : ℝ)) D).sum = 0 := by
  intro n
  induction n with
  | zero => intro D; simp
  | succ n ih =>
    intro D
    cases D with
    | nil => simp
    | cons r D => simp [List.replicate_succ, ih D]

theorem zipWith_unit_sum {β : Type} (f : β → ℝ) : ∀ (n k : Nat) (D : List β) (hk : k < D.length), k < n →
    (List.zipWith (fun a row => a * f row) (unitR n k) D).sum = f D[k] := by
  intro n
  induction n with
  | zero => intro k D _ h; omega
  | succ n ih =>
    intro k D hk hn
    cases D with
    | nil => simp at hk
    | cons r D =>
      cases k with
      | zero => simp [unitR, List.replicate_succ, zipWith_zeros_sum]
      | succ k =>
        rw [show unitR (n + 1) (k + 1) = 0 :: unitR n k by simp [unitR, List.replicate_succ]]
        simp only [List.zipWith_cons_cons, List.sum_cons, zero_mul, zero_add, List.getElem_cons_succ]
        exact ih k D (by simpa using hk) (by omega)

theorem unitR_sq (n k : Nat) : (unitR n k).map (fun g => g * g) = unitR n k := by
  apply List.ext_getElem
  · simp
  · intro j h1 h2
    simp only [List.getElem_map]
    rcases unitR_mem n k _ (List.getElem_mem (by simpa using h2)) with h | h <;> rw [h] <;> simp

theorem applyDownmix_unit (n k : Nat) (D : List (List ℝ)) (hk : k < D.length) (hn : k < n) :
    applyDownmix n (unitR n k) D = (List.range n).map fun j => Real.sqrt (D[k].getD j 0) := by
  unfold applyDownmix
  apply List.map_congr_left
  intro j _
  simp only [real_sqrt, dotCol, sumList_real, real_mul, real_zero, unitR_sq]
  rw [zipWith_unit_sum (fun row => row.getD j 0) n k D hk hn]

theorem range_map_getD_comp (row : List ℝ) (f : ℝ → ℝ) :
    ((List.range row.length).map fun j => f (row.getD j 0)) = row.map f := by
  simpa [List.map_map, Function.comp_def] using congrArg (List.map f) (range_map_getD row 0)

theorem renderPolar_unit (n k : Nat) (gs : List (List (List Nat))) (mask : List Bool) (D : List (List ℝ))
    (row : List ℝ) (hD : downmixForExcluded n gs mask = some D) (hrow : D[k]? = some row) (hrl : row.length = n)
    (hn : k < n) (gain diffuse : ℝ) :
    renderPolar n gs mask [unitR n k] [Scalar.one] gain diffuse =
      some (row.map (fun v => Real.sqrt v * gain * Real.sqrt (1 - diffuse)),
            row.map (fun v => Real.sqrt v * gain * Real.sqrt diffuse)) := by
  obtain ⟨hk, hrow'⟩ := List.getElem?_eq_some_iff.mp hrow
  unfold renderPolar zoneHandle
  rw [hD]
  simp only [Option.bind_some]
  rw [powerSum_single n (unitR n k) (unitR_length n k) (unitR_nonneg n k)]
  rw [applyDownmix_unit n k D hk hn, hrow']
  subst hrl
  rw [range_map_getD_comp row Real.sqrt, finishGains_real, List.map_map, List.map_map]
  rfl

theorem groupRow_real (n : Nat) (ne : List Nat) : (groupRow n ne : List ℝ) = indRow n ne (1 / (ne.length : ℝ)) := rfl

theorem downmix_row_real {n : Nat} {gs : List (List (List Nat))} {mask : List Bool} {D : List (List ℝ)}
    (hD : downmixForExcluded n gs mask = some D) (hgl : gs.length = n) {k : Nat} (hk : k < n) :
    ∃ row, D[k]? = some row ∧ row.length = n ∧
      (((mask.all id || mask.all fun b => !b) = true ∧ row = unitR n k) ∨
       ((mask.all id || mask.all fun b => !b) = false ∧
         ∃ grp, ∃ (_ : grp ∈ gs.getD k []), grp.all (isExcl mask) = false ∧
           downmixRow (α := ℝ) n mask (gs.getD k []) = some row ∧
           row = groupRow n (notExcluded mask grp))) := by
  rcases (downmixForExcluded_some hD).2 with ⟨htriv, rfl⟩ | ⟨htriv, hD⟩
  · refine ⟨unitR n k, ?_, by simp, Or.inl ⟨htriv, rfl⟩⟩
    simp only [eye, List.getElem?_map, List.getElem?_range hk, Option.map_some, Option.some.injEq]
    rw [unitR_eq_indRow, indRow_singleton]
    rfl
  · obtain ⟨row, h1, h2⟩ := mapM_some_getElem? hD k _ (List.getElem?_eq_getElem (by omega))
    have hgk : gs.getD k [] = gs[k]'(by omega) := by
      simp [List.getD, List.getElem?_eq_getElem (show k < gs.length by omega)]
    obtain ⟨grp, hgrp, hnotall, hr⟩ := downmixRow_some n mask _ row h2
    refine ⟨row, h1, ?_, Or.inr ⟨htriv, grp, by rw [hgk]; exact hgrp, hnotall, by rw [hgk]; exact h2, ?_⟩⟩
    · rw [hr]; simp [groupRow]
    · exact hr

theorem groupRow_nonneg (n : Nat) (ne : List Nat) : ∀ v ∈ (groupRow n ne : List ℝ), 0 ≤ v :=
  indRow_nonneg n ne (c := 1 / (ne.length : ℝ)) (by positivity)

theorem groupRow_sum (n : Nat) (ne : List Nat) (hnd : nodupB ne = true) (hlt : ∀ x ∈ ne, x < n)
    (hpos : 0 < ne.length) : (groupRow n ne : List ℝ).sum = 1 :=
  indRow_inv_sum n ne (nodupB_nodup ne hnd) hlt (List.length_pos_iff.mp hpos)

theorem groupRow_sum_rat (n : Nat) (ne : List Nat) (hnd : nodupB ne = true) (hlt : ∀ x ∈ ne, x < n)
    (hpos : 0 < ne.length) : sumList (groupRow n ne : List Rat) = 1 :=
  (sumList_rat _).trans (indRow_inv_sum n ne (nodupB_nodup ne hnd) hlt (List.length_pos_iff.mp hpos))

theorem groupRow_excluded_zero (n : Nat) (mask : List Bool) (grp : List Nat) (j : Nat) (hj : isExcl mask j = true) :
    (groupRow n (notExcluded mask grp) : List ℝ).getD j 0 = 0 :=
  groupRow_getD_of_not_mem n _ j (not_mem_notExcluded mask grp j hj)

theorem downmixRow_self (n : Nat) (mask : List Bool) (k : Nat) (rest : List (List Nat)) (hk : isExcl mask k = false) :
    downmixRow (α := ℝ) n mask ([k] :: rest) = some (unitR n k) := by
  rw [downmixRow_eq_find?, List.find?_cons_of_pos (by simp [hk]), unitR_eq_indRow]
  simp [notExcluded, hk, groupRow_real]

theorem power_of_row (row : List ℝ) (gain diffuse : ℝ) (h0 : ∀ v ∈ row, 0 ≤ v) (hs : row.sum = 1)
    (hd0 : 0 ≤ diffuse) (hd1 : diffuse ≤ 1) :
    ((row.map (fun v => Real.sqrt v * gain * Real.sqrt (1 - diffuse))).map (fun x => x * x)).sum +
    ((row.map (fun v => Real.sqrt v * gain * Real.sqrt diffuse)).map (fun x => x * x)).sum = gain * gain := by
  have key : ∀ (c : ℝ), 0 ≤ c →
      ((row.map (fun v => Real.sqrt v * gain * Real.sqrt c)).map (fun x => x * x)).sum = gain * gain * c * row.sum := by
    intro c hc
    rw [List.map_map]
    have : ∀ v ∈ row, ((fun x => x * x) ∘ fun v => Real.sqrt v * gain * Real.sqrt c) v = gain * gain * c * v := by
      intro v hv
      simp only [Function.comp]
      linear_combination (gain * gain * (Real.sqrt c * Real.sqrt c)) * Real.mul_self_sqrt (h0 v hv) +
        (gain * gain * v) * Real.mul_self_sqrt hc
    rw [List.map_congr_left this, List.sum_map_mul_left, List.map_id']
  rw [key (1 - diffuse) (by linarith), key diffuse hd0, hs]
  ring

theorem renderPolarLock_eq_some {α : Type} [ScalarSqrt α] {fuel : Nat} {spks : List (Spk α)} {norm : List (P3 α)}
    {prio : List Nat} {groups : List (List (List Nat))} {zones : List (Zone α)} {pan : P3 α → Option (List α)}
    {p : P3 α} {lock : Option (Option α)} {gain diffuse : α} {zmask : List Bool} {lk : LockOut}
    {out : List α × List α} :
    renderPolarLock fuel spks norm prio groups zones pan p lock gain diffuse = some (zmask, lk, out) ↔
    lk = lockHandle false norm prio (List.replicate norm.length false) p lock ∧
    ∃ q g, lockedPosition norm p lk = some q ∧ pan q = some g ∧ getExcluded fuel spks zones = some zmask ∧
      renderPolar norm.length groups zmask [g] [Scalar.one] gain diffuse = some out := by
  unfold renderPolarLock
  simp only [Option.bind_eq_some_iff, Option.some.injEq, Prod.mk.injEq]
  constructor
  · rintro ⟨q, h1, g, h2, zm, h3, o, h4, rfl, rfl, rfl⟩
    exact ⟨rfl, q, g, h1, h2, h3, h4⟩
  · rintro ⟨rfl, q, g, h1, h2, h3, h4⟩
    exact ⟨q, h1, g, h2, zmask, h3, out, h4, rfl, rfl, rfl⟩

theorem isExcl_replicate_false (n j : Nat) : isExcl (List.replicate n false) j = false :=
  isExcl_of_all_false (fun _ hb => (List.mem_replicate.mp hb).2) j

theorem unitR_sum (n k : Nat) (hk : k < n) : (unitR n k).sum = 1 := by
  rw [unitR_eq_indRow]; exact indRow_singleton_sum n k hk

theorem unitR_getD (n k j : Nat) (hjk : j ≠ k) : (unitR n k).getD j 0 = 0 := by
  rw [unitR_eq_indRow]; exact indRow_getD n [k] 1 j (by simpa using hjk)

theorem lock_at_speaker (allo : Bool) (pos : List (P3 ℝ)) (prio : List Nat) (excluded : List Bool) (k : Nat) (c : P3 ℝ)
    (hk : pos[k]? = some c) (hex : isExcl excluded k = false)
    (hsep : ∀ j, j ≠ k → j < pos.length → 1e-5 ≤ spkDistW allo pos c j) :
    lockHandle allo pos prio excluded c (some none) = .locked k := by
  have hkl : k < pos.length := (List.getElem?_eq_some_iff.mp hk).1
  have hck : LockCandidate pos excluded c none k := ⟨hkl, hex, fun md h => by simp at h⟩
  have hwk : spkDistW allo pos c k = 0 := by
    simp only [spkDistW, hk]
    cases allo <;> simp [Lock.dist, Lock.distW]
  rcases lockHandle_spec allo pos prio excluded c none with ⟨hno, _⟩ | ⟨i, hci, hsel, m, hcm, hmin, hnear, _⟩
  · exact absurd hck (hno k)
  · by_cases hik : i = k
    · rw [hsel, hik]
    · -- `i` is within `1e-5` of the minimum, which is at most the distance 0 of `k`
      have h1 := hmin k hck
      rw [hwk] at h1
      exact absurd (hnear.trans_le (add_le_of_nonpos_left h1)) (not_lt.mpr (hsep i hik hci.1))

def sqDistQ (p c : P3 Rat) : Rat :=
  (p.x - c.x) * (p.x - c.x) + (p.y - c.y) * (p.y - c.y) + (p.z - c.z) * (p.z - c.z)

def sqDistWQ (p c : P3 Rat) : Rat :=
  1 / 16 * ((p.x - c.x) * (p.x - c.x)) + 4 * ((p.y - c.y) * (p.y - c.y)) + 32 * ((p.z - c.z) * (p.z - c.z))

theorem dist_cast (p c : P3 Rat) : Lock.dist (castP3 p) (castP3 c) = Real.sqrt ((sqDistQ p c : Rat) : ℝ) := by
  simp only [Lock.dist, castP3, sqDistQ, real_sqrt, real_add, real_mul, real_sub, Rat.cast_add, Rat.cast_mul,
    Rat.cast_sub]

theorem distW_cast (p c : P3 Rat) : Lock.distW (castP3 p) (castP3 c) = Real.sqrt ((sqDistWQ p c : Rat) : ℝ) := by
  simp only [Lock.distW, castP3, sqDistWQ, real_sqrt, real_add, real_mul, real_sub, real_div, real_one, real_ofNat,
    Rat.cast_add, Rat.cast_mul, Rat.cast_sub, Rat.cast_div, Rat.cast_one, Rat.cast_ofNat, Nat.cast_ofNat]

/-- table check: any two different loudspeakers are at least `1e-5` apart in the handler's distance
(squared distance at least `1e-10`, exact rational arithmetic) -/
def separatedB (allo : Bool) (ps : List (P3 Rat)) : Bool :=
  (List.range ps.length).all fun j => (List.range ps.length).all fun k =>
    j == k ||
      match ps[j]?, ps[k]? with
      | some a, some b => decide (mkRat 1 10000000000 ≤ (if allo then sqDistWQ a b else sqDistQ a b))
      | _, _ => true

theorem sqDistQ_comm (a b : P3 Rat) : sqDistQ a b = sqDistQ b a := by unfold sqDistQ; ring

theorem sqDistWQ_comm (a b : P3 Rat) : sqDistWQ a b = sqDistWQ b a := by unfold sqDistWQ; ring

/-- the pairs `k < j` of `separatedB`: half of the table to evaluate -/
def separatedLowerB (allo : Bool) (ps : List (P3 Rat)) : Bool :=
  (List.range ps.length).all fun j => (List.range j).all fun k =>
    match ps[j]?, ps[k]? with
    | some a, some b => decide (mkRat 1 10000000000 ≤ (if allo then sqDistWQ a b else sqDistQ a b))
    | _, _ => true

/-- both squared distances are symmetric, so the pairs `k < j` decide `separatedB` -/
theorem separatedB_of_lower (allo : Bool) (ps : List (P3 Rat)) (h : separatedLowerB allo ps = true) :
    separatedB allo ps = true := by
  simp only [separatedLowerB, List.all_eq_true, List.mem_range] at h
  simp only [separatedB, List.all_eq_true, List.mem_range, Bool.or_eq_true, beq_iff_eq]
  intro j hj k hk
  rcases Nat.lt_trichotomy j k with hjk | hjk | hjk
  · have := h k hk j hjk
    simp only [List.getElem?_eq_getElem hj, List.getElem?_eq_getElem hk] at this ⊢
    rw [sqDistWQ_comm ps[j], sqDistQ_comm ps[j]]
    exact .inr this
  · exact .inl hjk
  · exact .inr (h j hj k hjk)

theorem sqrt_ge_tol (x : Rat) (h : mkRat 1 10000000000 ≤ x) : (1e-5 : ℝ) ≤ Real.sqrt ((x : Rat) : ℝ) := by
  apply Real.le_sqrt_of_sq_le
  have e : ((mkRat 1 10000000000 : Rat) : ℝ) = (1e-5 : ℝ) ^ 2 := by
    rw [Rat.mkRat_eq_div]; push_cast; norm_num
  exact e ▸ Rat.cast_le.mpr h

theorem lock_at_speaker_table (allo : Bool) (ps : List (P3 Rat)) (hsep : separatedB allo ps = true)
    (prio : List Nat) (excluded : List Bool) (k : Nat) (hk : k < ps.length) (hex : isExcl excluded k = false) :
    lockHandle allo (ps.map castP3) prio excluded (castP3 ps[k]) (some none) = .locked k := by
  apply lock_at_speaker allo (ps.map castP3) prio excluded k (castP3 ps[k]) (by simp [hk]) hex
  intro j hjk hj
  have hj' : j < ps.length := by simpa using hj
  simp only [separatedB, List.all_eq_true, List.mem_range, Bool.or_eq_true, beq_iff_eq] at hsep
  have := hsep k hk j hj'
  rcases this with h | h
  · exact absurd h.symm hjk
  · simp only [List.getElem?_eq_getElem hk, List.getElem?_eq_getElem hj', decide_eq_true_eq] at h
    simp only [spkDistW, List.getElem?_map, List.getElem?_eq_getElem hj', Option.map_some]
    cases allo with
    | true =>
      simp only [↓reduceIte] at h ⊢
      rw [distW_cast]; exact sqrt_ge_tol _ h
    | false =>
      simp only [Bool.false_eq_true, ↓reduceIte] at h ⊢
      rw [dist_cast]; exact sqrt_ge_tol _ h

theorem mapOpt_map {β γ δ : Type} (f : β → Option γ) (h : γ → δ) :
    ∀ (l : List β), mapOpt (fun x => (f x).map h) l = (mapOpt f l).map (List.map h) := by
  intro l
  induction l with
  | nil => rfl
  | cons x xs ih =>
    simp only [mapOpt, ih]
    cases f x <;> cases mapOpt f xs <;> rfl

def castRow (row : List Rat) : List ℝ := row.map fun x => ((x : Rat) : ℝ)

theorem groupRow_cast (n : Nat) (ne : List Nat) : (groupRow n ne : List ℝ) = castRow (groupRow n ne) := by
  simp only [groupRow, castRow, List.map_map]
  exact List.map_congr_left fun j _ => by
    simp only [Function.comp, real_div, real_one, real_ofNat, real_zero, rat_div, rat_one, rat_ofNat, rat_zero]
    split <;> simp

theorem downmixRow_cast (n : Nat) (mask : List Bool) (g : List (List Nat)) :
    downmixRow (α := ℝ) n mask g = (downmixRow (α := Rat) n mask g).map castRow := by
  rw [downmixRow_eq_find?, downmixRow_eq_find?, Option.map_map]
  congr 1
  exact funext fun grp => groupRow_cast n _

theorem downmixForExcluded_cast (n : Nat) (gs : List (List (List Nat))) (mask : List Bool) :
    downmixForExcluded (α := ℝ) n gs mask = (downmixForExcluded (α := Rat) n gs mask).map (List.map castRow) := by
  unfold downmixForExcluded
  split
  · rfl
  · split
    · simp only [Option.map_some, Option.some.injEq, eye, List.map_map]
      apply List.map_congr_left
      intro i _
      simp only [Function.comp, castRow, List.map_map]
      apply List.map_congr_left
      intro j _
      simp only [Function.comp, real_one, real_zero, rat_one, rat_zero]
      split <;> simp
    · rw [← mapOpt_map]
      congr 1
      funext g
      exact downmixRow_cast n mask g

theorem eq_cast (a b : Rat) : Scalar.eq ((a : Rat) : ℝ) ((b : Rat) : ℝ) = Scalar.eq a b := by
  simp only [real_eq, rat_eq, Rat.cast_inj]
  by_cases h : a = b <;> simp [h]

theorem abs_cast (a : Rat) : Scalar.abs ((a : Rat) : ℝ) = (((Scalar.abs a : Rat)) : ℝ) := by
  show |((a : Rat) : ℝ)| = (((if a < 0 then -a else a : Rat)) : ℝ)
  split
  · rename_i h
    have : ((a : Rat) : ℝ) < 0 := by exact_mod_cast h
    rw [abs_of_neg this]; push_cast; rfl
  · rename_i h
    have : (0 : ℝ) ≤ ((a : Rat) : ℝ) := by exact_mod_cast (not_lt.mp h)
    rw [abs_of_nonneg this]

theorem extendStep_cast (ps : List (P3 Rat)) (m : List Bool) (i : Nat) (c : P3 Rat) :
    extendStep (ps.map castP3) m i (castP3 c) = extendStep ps m i c := by
  have h1 : (Scalar.one : ℝ) = (((Scalar.one : Rat)) : ℝ) := by simp
  unfold extendStep
  simp only [castP3, abs_cast, h1, eq_cast]
  split
  · simp only [List.zipWith_map_left, castP3, eq_cast]
  · rfl

theorem alloExtendFrom_cast (ps : List (P3 Rat)) : ∀ (cs : List (P3 Rat)) (i : Nat) (m : List Bool),
    alloExtendFrom (ps.map castP3) (cs.map castP3) i m = alloExtendFrom ps cs i m := by
  intro cs
  induction cs with
  | nil => intro i m; rfl
  | cons c cs ih =>
    intro i m
    simp only [List.map_cons, alloExtendFrom, extendStep_cast, ih]

theorem alloExcluded_cast (ps : List (P3 Rat)) (m : List Bool) :
    alloExcluded (ps.map castP3) m = alloExcluded ps m := by
  unfold alloExcluded alloExtend
  simp only [alloExtendFrom_cast]

end Earverif.C13
