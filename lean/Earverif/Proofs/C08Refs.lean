/-
C08 — lemmas about the id map and reference resolution model (`Model/AdmRefs.lean`): uniqueness of lookup, the
duplicate pass, and the resolution loop (invariants, totality on closed documents, rejection of dangling references,
the resolved value of every plain reference field).  The property-level statements are in `Props/C08.lean`.
-/
import Earverif.Model.AdmRefs
import Earverif.Proofs.MapM
import Mathlib.Data.List.Nodup

namespace Earverif.AdmRefs
variable {ι : Type} [DecidableEq ι] (up : ι → ι)

/-- the upper-cased ids of the elements that have one -/
def keys (els : List (Elem ι)) : List ι := els.filterMap fun e => e.id.map up

theorem eq_of_nodup_filterMap {α β : Type} (f : α → Option β) :
    ∀ (l : List α), (l.filterMap f).Nodup → ∀ a b k, a ∈ l → b ∈ l → f a = some k → f b = some k → a = b := by
  intro l hnd a b k ha hb hfa hfb
  have h := hnd.map (f := some) fun _ _ => Option.some.inj
  rw [List.map_filterMap_some_eq_filter_map_isSome, List.filter_map] at h
  exact List.inj_on_of_nodup_map h (List.mem_filter.mpr ⟨ha, by simp [hfa]⟩) (List.mem_filter.mpr ⟨hb, by simp [hfb]⟩)
    (hfa.trans hfb.symm)

theorem matchesKey_iff (key : ι) (e : Elem ι) : matchesKey up key e = true ↔ e.id.map up = some (up key) :=
  decide_eq_true_iff

theorem lookup_eq_some_iff (els : List (Elem ι)) (h : (keys up els).Nodup) (key : ι) (e : Elem ι) :
    lookup up els key = some e ↔ e ∈ els ∧ e.id.map up = some (up key) := by
  constructor
  · intro hf
    exact ⟨List.mem_of_find?_eq_some hf, (matchesKey_iff up key e).mp (List.find?_some hf)⟩
  · rintro ⟨hm, hk⟩
    cases hf : lookup up els key with
    | none => exact absurd ((matchesKey_iff up key e).mpr hk) (by simpa using List.find?_eq_none.mp hf e hm)
    | some e' =>
      rw [eq_of_nodup_filterMap _ els h e e' (up key) hm (List.mem_of_find?_eq_some hf) hk
        ((matchesKey_iff up key e').mp (List.find?_some hf))]

theorem lookup_eq_none_iff (els : List (Elem ι)) (key : ι) :
    lookup up els key = none ↔ ∀ e ∈ els, e.id.map up ≠ some (up key) := by
  simp only [lookup, List.find?_eq_none, matchesKey_iff, ne_eq]

theorem mem_dedupKeys (l : List ι) (k : ι) : k ∈ dedupKeys l ↔ k ∈ l := by
  induction l with
  | nil => simp [dedupKeys]
  | cons x xs ih =>
    simp only [dedupKeys, List.mem_cons, List.mem_filter, ih, decide_eq_true_eq]
    by_cases h : k = x <;> simp [h]

theorem nodup_dedupKeys (l : List ι) : (dedupKeys l).Nodup := by
  induction l with
  | nil => simp [dedupKeys]
  | cons x xs ih =>
    simp only [dedupKeys, List.nodup_cons, List.mem_filter, decide_eq_true_eq, ne_eq, not_true_eq_false, and_false,
      not_false_eq_true, true_and]
    exact ih.filter _

/-- no two common definitions of the list share an id -/
def CommonsDistinct (l : List (Elem ι)) : Prop :=
  ∀ k, ((l.filter fun e => decide (e.id.map up = some k)).filter (·.common)).length ≤ 1

theorem pickOne_dup (l : List (Elem ι)) (hc : CommonsDistinct up l) (k : ι)
    (h : 1 < ((l.filter fun e => decide (e.id.map up = some k)).filter (!·.common)).length) :
    pickOne up l k = .error .admIDError := by
  unfold pickOne
  simp only [if_neg (Nat.not_lt.mpr (hc k)), if_pos h]

/-- a key of the dictionary is answered, unless two non-common elements carry it (`AdmIDError`): some element has that
id, so the final `assert common or non_common` cannot fail -/
theorem pickOne_ok_or (l : List (Elem ι)) (hc : CommonsDistinct up l) (k : ι) (hk : k ∈ keys up l) :
    (∃ e, pickOne up l k = .ok e) ∨
    (pickOne up l k = .error .admIDError ∧
      1 < ((l.filter fun e => decide (e.id.map up = some k)).filter (!·.common)).length) := by
  by_cases h2 : 1 < ((l.filter fun e => decide (e.id.map up = some k)).filter (!·.common)).length
  · exact Or.inr ⟨pickOne_dup up l hc k h2, h2⟩
  · left
    obtain ⟨e0, he0, hke0⟩ := List.mem_filterMap.mp hk
    have hmem0 : e0 ∈ l.filter fun e => decide (e.id.map up = some k) :=
      List.mem_filter.mpr ⟨he0, decide_eq_true hke0⟩
    unfold pickOne
    simp only [if_neg (Nat.not_lt.mpr (hc k)), if_neg h2]
    generalize (l.filter fun e => decide (e.id.map up = some k)) = objs at hmem0 ⊢
    cases hn : objs.filter (!·.common) with
    | cons n ns => exact ⟨n, rfl⟩
    | nil =>
      cases hcm : objs.filter (·.common) with
      | cons c cs => exact ⟨c, rfl⟩
      | nil =>
        -- `e0` is among the elements under the key, common or not
        exfalso
        cases hb : e0.common
        · have : e0 ∈ objs.filter (!·.common) := List.mem_filter.mpr ⟨hmem0, by simp [hb]⟩
          rw [hn] at this; cases this
        · have : e0 ∈ objs.filter (·.common) := List.mem_filter.mpr ⟨hmem0, hb⟩
          rw [hcm] at this; cases this

theorem mapM_ok_or_err {α β : Type} {E : Type} (f : α → Except E β) (x : E) (ks : List α)
    (h : ∀ k ∈ ks, (∃ b, f k = .ok b) ∨ f k = .error x) :
    ((∃ bs, ks.mapM f = .ok bs ∧ ∀ k ∈ ks, ∃ b, f k = .ok b) ∨
     (ks.mapM f = .error x ∧ ∃ k ∈ ks, f k = .error x)) := by
  cases hm : ks.mapM f with
  | ok bs =>
    exact Or.inl ⟨bs, rfl, fun k hk => (mem_of_map_eq ((mapM_ok_iff f ks bs).mp hm) hk).imp fun _ hb => hb.2⟩
  | error e =>
    -- the first failure is a failure of some element, and elements fail with `x` only
    obtain ⟨k, hk, hke⟩ := mapM_error_mem hm
    rcases h k hk with ⟨b, hb⟩ | hx
    · rw [hb] at hke; cases hke
    · obtain rfl : x = e := Except.error.inj (hx.symm.trans hke)
      exact Or.inr ⟨rfl, k, hk, hx⟩

/-- two different positions of the list hold non-common elements with the same (upper-cased) id -/
def HasDuplicate (l : List (Elem ι)) : Prop :=
  ∃ (i j : Nat) (a b : Elem ι) (k : ι), i < j ∧ l[i]? = some a ∧ l[j]? = some b ∧ a.common = false ∧ b.common = false ∧
    a.id.map up = some k ∧ b.id.map up = some k

theorem filter_length_two {α : Type} (p : α → Bool) (l : List α) (i j : Nat) (a b : α) (hij : i < j)
    (ha : l[i]? = some a) (hb : l[j]? = some b) (hpa : p a = true) (hpb : p b = true) :
    1 < (l.filter p).length := by
  -- `a` is kept from the first `j` elements, `b` from the rest
  have h1 : a ∈ (l.take j).filter p :=
    List.mem_filter.mpr ⟨List.mem_of_getElem? (by rw [List.getElem?_take_of_lt hij]; exact ha), hpa⟩
  have h2 : b ∈ (l.drop j).filter p :=
    List.mem_filter.mpr ⟨List.mem_of_getElem? (i := 0) (by rw [List.getElem?_drop]; exact hb), hpb⟩
  have := List.length_pos_of_mem h1
  have := List.length_pos_of_mem h2
  rw [← List.take_append_drop j l, List.filter_append, List.length_append]
  omega

/-- `_without_duplicates` on a list without repeated common definitions: either it answers (then no id is shared by
two non-common elements), or it raises `AdmIDError` (then some id is) -/
theorem withoutDuplicates_cases (l : List (Elem ι)) (hc : CommonsDistinct up l) :
    ((∃ l', withoutDuplicates up l = .ok l') ∧ ¬ HasDuplicate up l) ∨
    (withoutDuplicates up l = .error .admIDError ∧
      ∃ k, 1 < ((l.filter fun e => decide (e.id.map up = some k)).filter (!·.common)).length) := by
  have hpick := fun k (hk : k ∈ dedupKeys (keys up l)) => pickOne_ok_or up l hc k ((mem_dedupKeys _ _).mp hk)
  have hm := mapM_ok_or_err (pickOne up l) .admIDError (dedupKeys (keys up l)) fun k hk => (hpick k hk).imp id And.left
  unfold withoutDuplicates
  unfold keys at hm
  rcases hm with ⟨bs, hbs, hall⟩ | ⟨herr, k, hk, hke⟩
  · refine Or.inl ⟨⟨l.filter (·.id.isNone) ++ bs, by simp [hbs, bind, Except.bind, pure, Except.pure]⟩, ?_⟩
    -- the key of a duplicate is in the dictionary, and its `pickOne` would have raised
    rintro ⟨i, j, a, b, k, hij, ha, hb, hac, hbc, hak, hbk⟩
    obtain ⟨e, he⟩ := hall k ((mem_dedupKeys _ _).mpr (List.mem_filterMap.mpr ⟨a, List.mem_of_getElem? ha, hak⟩))
    rw [pickOne_dup up l hc k (by
      rw [List.filter_filter]
      exact filter_length_two _ l i j a b hij ha hb (by simp [hak, hac]) (by simp [hbk, hbc]))] at he
    cases he
  · refine Or.inr ⟨by simp [herr, bind, Except.bind], k, ?_⟩
    rcases hpick k hk with ⟨e, he⟩ | ⟨_, hlen⟩
    · rw [he] at hke; cases hke
    · exact hlen

def ADM.lists (a : ADM ι) : List (List (Elem ι)) :=
  [a.programmes, a.contents, a.objects, a.packFormats, a.channelFormats, a.streamFormats, a.trackFormats, a.trackUIDs]

theorem bind_error_of_ok_or {α β E : Type} (x : Except E α) (f : α → Except E β) (e : E)
    (hx : (∃ a, x = .ok a) ∨ x = .error e) (hf : ∀ a, x = .ok a → f a = .error e) : x >>= f = .error e := by
  rcases hx with ⟨a, rfl⟩ | rfl
  · exact hf a rfl
  · rfl

theorem dedupAll_dup (a : ADM ι) (hc : ∀ l ∈ a.lists, CommonsDistinct up l) (hd : ∃ l ∈ a.lists, HasDuplicate up l) :
    dedupAll up a = .error .admIDError := by
  obtain ⟨l, hl, hdup⟩ := hd
  have herr : withoutDuplicates up l = .error .admIDError :=
    (withoutDuplicates_cases up l (hc l hl)).elim (fun h => absurd hdup h.2) And.left
  have hok : ∀ l ∈ a.lists, (∃ l', withoutDuplicates up l = .ok l') ∨ withoutDuplicates up l = .error .admIDError :=
    fun l hl => (withoutDuplicates_cases up l (hc l hl)).imp And.left And.left
  have hok8 := hok
  simp only [ADM.lists, List.forall_mem_cons] at hok8
  obtain ⟨o1, o2, o3, o4, o5, o6, o7, o8, -⟩ := hok8
  unfold dedupAll
  refine bind_error_of_ok_or _ _ _ o1 fun l1 e1 => ?_
  refine bind_error_of_ok_or _ _ _ o2 fun l2 e2 => ?_
  refine bind_error_of_ok_or _ _ _ o3 fun l3 e3 => ?_
  refine bind_error_of_ok_or _ _ _ o4 fun l4 e4 => ?_
  refine bind_error_of_ok_or _ _ _ o5 fun l5 e5 => ?_
  refine bind_error_of_ok_or _ _ _ o6 fun l6 e6 => ?_
  refine bind_error_of_ok_or _ _ _ o7 fun l7 e7 => ?_
  refine bind_error_of_ok_or _ _ _ o8 fun l8 e8 => ?_
  -- all eight lists were answered, and `l` is one of them
  have : ∀ l' ∈ a.lists, ∃ r, withoutDuplicates up l' = .ok r := by
    simp only [ADM.lists, List.forall_mem_cons]
    exact ⟨⟨_, e1⟩, ⟨_, e2⟩, ⟨_, e3⟩, ⟨_, e4⟩, ⟨_, e5⟩, ⟨_, e6⟩, ⟨_, e7⟩, ⟨_, e8⟩, fun _ h => nomatch h⟩
  obtain ⟨r, hr⟩ := this l hl
  rw [herr] at hr; cases hr

theorem filter_key_of_nodup {α β : Type} [DecidableEq β] (key : α → β) (l : List α) (hnd : (l.map key).Nodup)
    (e : α) (he : e ∈ l) : l.filter (fun x => decide (key x = key e)) = [e] := by
  -- the keys of the filtered list are the one occurrence of `key e` among the keys of `l`
  have hlen : (l.filter fun x => decide (key x = key e)).length = 1 := by
    have := congrArg List.length (List.filter_map (f := key) (p := fun b => decide (b = key e)) (l := l))
    rw [List.filter_eq, List.count_eq_one_of_mem hnd (List.mem_map_of_mem he)] at this
    simpa [Function.comp_def] using this.symm
  obtain ⟨a, ha⟩ := List.length_eq_one_iff.mp hlen
  have : e ∈ [a] := ha ▸ List.mem_filter.mpr ⟨he, by simp⟩
  rw [ha, List.mem_singleton.mp this]

theorem dedupKeys_of_nodup (l : List ι) (h : l.Nodup) : dedupKeys l = l := by
  induction l with
  | nil => rfl
  | cons x xs ih =>
    obtain ⟨hx, hxs⟩ := List.nodup_cons.mp h
    rw [dedupKeys, ih hxs, List.filter_eq_self.mpr fun y hy => by simpa using fun (hyx : y = x) => hx (hyx ▸ hy)]

/-- every element has an id and the (upper-cased) ids are pairwise distinct -/
def DistinctIds (l : List (Elem ι)) : Prop := (∀ e ∈ l, e.id.isSome) ∧ (l.map fun e => e.id.map up).Nodup

theorem withoutDuplicates_of_distinct (l : List (Elem ι)) (h : DistinctIds up l) : withoutDuplicates up l = .ok l := by
  obtain ⟨hsome, hnd⟩ := h
  unfold withoutDuplicates
  have hnone : l.filter (·.id.isNone) = [] :=
    List.filter_eq_nil_iff.mpr fun e he => by simp [Option.isSome_iff_ne_none.mp (hsome e he)]
  have hpick : ∀ e ∈ l, ∀ k, e.id.map up = some k → pickOne up l k = .ok e := by
    intro e he k hk
    have hf := filter_key_of_nodup (fun e : Elem ι => e.id.map up) l hnd e he
    unfold pickOne
    simp only
    have : (l.filter fun x => decide (x.id.map up = some k)) = [e] := by rw [← hk]; exact hf
    rw [this]
    cases hc : e.common <;> simp [hc]
  -- key by key, `pickOne` answers the element the key came from
  have hmap : (l.filterMap fun e => e.id.map up).mapM (pickOne up l) = .ok l := by
    rw [mapM_ok_iff, List.map_filterMap, ← List.filterMap_eq_map]
    refine List.filterMap_congr fun e he => ?_
    obtain ⟨i, hi⟩ := Option.isSome_iff_exists.mp (hsome e he)
    simp [hi, hpick e he (up i) (by simp [hi])]
  have hkn : (l.filterMap fun e => e.id.map up).Nodup :=
    List.Nodup.of_map some (by rw [List.map_filterMap_some_eq_filter_map_isSome]; exact hnd.filter _)
  rw [dedupKeys_of_nodup _ hkn, hmap, hnone]
  rfl

/-- the part of an element that no resolution step changes -/
structure Fixed (ι : Type) where
  oid : Oid
  cls : Cls
  id : Option ι
  avs : List (Oid × Option ι)

def fixedPart (e : Elem ι) : Fixed ι := ⟨e.oid, e.cls, e.id, e.avs⟩

def fieldAt (st : List (Elem ι)) (t : Nat × Nat) : Option (Field ι) := (st[t.1]?).bind fun e => e.fields[t.2]?

omit [DecidableEq ι] in
theorem fieldAt_eq_some_iff {st : List (Elem ι)} {t : Nat × Nat} {f : Field ι} :
    fieldAt st t = some f ↔ ∃ e, st[t.1]? = some e ∧ e.fields[t.2]? = some f := by
  simp [fieldAt, Option.bind_eq_some_iff]

theorem lookupIdx_fixedPart {st st' : List (Elem ι)} (h : st.map fixedPart = st'.map fixedPart) (k : ι) :
    lookupIdx up st k = lookupIdx up st' k := by
  have : ∀ s : List (Elem ι), lookupIdx up s k =
      (s.map fixedPart).findIdx? (fun c => decide (c.id.map up = some (up k))) := by
    intro s
    unfold lookupIdx
    rw [List.findIdx?_map]
    rfl
  rw [this st, this st', h]

omit [DecidableEq ι] in
theorem oidAt_fixedPart {st st' : List (Elem ι)} (h : st.map fixedPart = st'.map fixedPart) (i : Option Nat) :
    oidAt st i = oidAt st' i := by
  have : ∀ s : List (Elem ι), oidAt s i = i.bind fun i => ((s.map fixedPart)[i]?).map (·.oid) := by
    intro s
    cases i with
    | none => rfl
    | some i => simp [oidAt]; rfl
  rw [this st, this st', h]

omit [DecidableEq ι] in
theorem oidAt_eq_some_iff {st : List (Elem ι)} {i : Nat} {o : Oid} :
    oidAt st (some i) = some o ↔ ∃ y, st[i]? = some y ∧ y.oid = o := by
  simp [oidAt]

theorem getElem?_modify_ite {α : Type} (st : List α) (i : Nat) (g : α → α) (j : Nat) :
    (st.modify i g)[j]? = if i = j then (st[j]?).map g else st[j]? := by
  rw [List.getElem?_modify]
  by_cases h : i = j <;> cases st[j]? <;> simp [h]

omit [DecidableEq ι] in
theorem fieldAt_modify_keep (st : List (Elem ι)) (i : Nat) (g : Elem ι → Elem ι) (hg : ∀ e, (g e).fields = e.fields)
    (t : Nat × Nat) : fieldAt (st.modify i g) t = fieldAt st t := by
  unfold fieldAt
  simp only [getElem?_modify_ite]
  split
  · cases st[t.1]? <;> simp [hg]
  · rfl

omit [DecidableEq ι] in
theorem fieldAt_setField (st : List (Elem ι)) (i j : Nat) (f : Field ι) (t : Nat × Nat) :
    fieldAt (setField st i j f) t =
      if t = (i, j) then (fieldAt st t).map (fun _ => f) else fieldAt st t := by
  obtain ⟨a, b⟩ := t
  unfold fieldAt setField
  simp only [getElem?_modify_ite, Prod.mk.injEq]
  by_cases hi : i = a
  · subst hi
    simp only [if_true, true_and]
    cases st[i]? with
    | none => simp
    | some e =>
      simp only [Option.map_some, Option.bind_some, List.getElem?_set]
      by_cases hj : j = b
      · subst hj
        simp only [if_true]
        by_cases hlt : j < e.fields.length <;> simp [hlt]
      · have : ¬ b = j := fun h => hj h.symm
        simp [hj, this]
  · have : ¬ a = i := fun h => hi h.symm
    simp [hi, this]

/-- a fold whose steps either keep the invariant or raise `x` exactly at the marked elements -/
theorem foldlM_cases {S α E : Type} (f : S → α → Except E S) (P : S → Prop) (R : S → S → Prop) (B : α → Prop) (x : E)
    (hrefl : ∀ s, R s s) (htrans : ∀ a b c, R a b → R b c → R a c) (l : List α)
    (hstep : ∀ s a, a ∈ l → P s → ((¬ B a) → ∃ s', f s a = .ok s' ∧ P s' ∧ R s s') ∧ (B a → f s a = .error x)) :
    ∀ s, P s → ((¬ ∃ a ∈ l, B a) → ∃ s', l.foldlM f s = .ok s' ∧ P s' ∧ R s s') ∧
      ((∃ a ∈ l, B a) → l.foldlM f s = .error x) := by
  induction l with
  | nil => exact fun s hs => ⟨fun _ => ⟨s, rfl, hs, hrefl s⟩, fun ⟨a, ha, _⟩ => by cases ha⟩
  | cons a l ih =>
    intro s hs
    obtain ⟨hok, herr⟩ := hstep s a (by simp) hs
    by_cases hB : B a
    · exact ⟨fun h => absurd ⟨a, by simp, hB⟩ h, fun _ => by simp [List.foldlM_cons, herr hB, bind, Except.bind]⟩
    · obtain ⟨s1, h1, hp1, hr1⟩ := hok hB
      obtain ⟨ih1, ih2⟩ := ih (fun s a ha hp => hstep s a (by simp [ha]) hp) s1 hp1
      have hfold : (a :: l).foldlM f s = l.foldlM f s1 := by simp [List.foldlM_cons, h1, bind, Except.bind]
      rw [hfold]
      refine ⟨fun h => ?_, fun ⟨b, hb, hBb⟩ => ih2 ?_⟩
      · obtain ⟨s2, h2, hp2, hr2⟩ := ih1 fun ⟨b, hb, hBb⟩ => h ⟨b, by simp [hb], hBb⟩
        exact ⟨s2, h2, hp2, htrans _ _ _ hr1 hr2⟩
      · rcases List.mem_cons.mp hb with rfl | hb'
        · exact absurd hBb hB
        · exact ⟨b, hb', hBb⟩

/-- `mapM` in `Except` over elements each of which answers `g a` or raises `x` exactly when marked -/
theorem mapM_cases {α β E : Type} (f : α → Except E β) (g : α → β) (B : α → Prop) (x : E) (l : List α)
    (h : ∀ a ∈ l, ((¬ B a) → f a = .ok (g a)) ∧ (B a → f a = .error x)) :
    ((¬ ∃ a ∈ l, B a) → l.mapM f = .ok (l.map g)) ∧ ((∃ a ∈ l, B a) → l.mapM f = .error x) := by
  refine ⟨fun hn => mapM_eq_pure_map fun a ha => (h a ha).1 fun hB => hn ⟨a, ha, hB⟩, fun ⟨a, ha, hB⟩ => ?_⟩
  have hor := mapM_ok_or_err f x l fun b hb => by
    by_cases hb' : B b
    · exact Or.inr ((h b hb).2 hb')
    · exact Or.inl ⟨_, (h b hb).1 hb'⟩
  rcases hor with ⟨_, _, hall⟩ | ⟨herr, _⟩
  · obtain ⟨b, hb⟩ := hall a ha
    rw [(h a ha).2 hB] at hb; cases hb
  · exact herr

theorem oidAt_lookupIdx (st : List (Elem ι)) (k : ι) :
    oidAt st (lookupIdx up st k) = (lookup up st k).map (·.oid) := by
  unfold lookup lookupIdx
  rw [List.find?_eq_bind_findIdx?_getElem?]
  cases st.findIdx? (matchesKey up k) <;> simp [oidAt]

/-- every audioTrackFormat that is linked to a stream is linked to the stream `σ` names for it.  `σ` is not in the code:
it is a track format → stream format assignment chosen by whoever proves `Static`; the links found in the document and
the ones the loop makes all agree with it, which is why "linked to more than one audioStreamFormat" cannot be raised. -/
def LinkInv (σ : Oid → Oid) (st : List (Elem ι)) : Prop :=
  ∀ (i : Nat) (e : Elem ι), st[i]? = some e → ∀ s, e.streamLink = some s → s = σ e.oid

/-- the loop state is the initial chain up to field contents and link attributes, and the links agree with `σ` -/
structure Good (σ : Oid → Oid) (st0 st : List (Elem ι)) : Prop where
  fixed : st.map fixedPart = st0.map fixedPart
  links : LinkInv σ st

/-- (state before, state after): no reference field has changed -/
def SameFields (st st' : List (Elem ι)) : Prop := ∀ t, fieldAt st' t = fieldAt st t

omit [DecidableEq ι] in
theorem good_modify {σ : Oid → Oid} {st0 st : List (Elem ι)} (hG : Good σ st0 st) (i : Nat) (g : Elem ι → Elem ι)
    (hfixed : ∀ e, fixedPart (g e) = fixedPart e)
    (hlink : ∀ e, st[i]? = some e → ∀ s, (g e).streamLink = some s → s = σ e.oid) : Good σ st0 (st.modify i g) := by
  refine ⟨?_, fun j e he s hs => ?_⟩
  · rw [← hG.fixed]
    apply List.ext_getElem?
    intro j
    simp only [List.getElem?_map, getElem?_modify_ite]
    split
    · cases st[j]? <;> simp [hfixed]
    · rfl
  · rw [getElem?_modify_ite] at he
    split at he
    · rename_i hij; subst hij
      cases hst : st[i]? with
      | none => simp [hst] at he
      | some e0 =>
        simp only [hst, Option.map_some, Option.some.injEq] at he
        subst he
        rw [show (g e0).oid = e0.oid from congrArg Fixed.oid (hfixed e0)]
        exact hlink e0 hst s hs
    · exact hG.links j e he s hs

omit [DecidableEq ι] in
theorem good_getElem? {σ : Oid → Oid} {st0 s : List (Elem ι)} (hG : Good σ st0 s) {i : Nat} {x : Elem ι}
    (hx : s[i]? = some x) : ∃ x0, st0[i]? = some x0 ∧ x.oid = x0.oid ∧ x.cls = x0.cls := by
  have := congrArg (fun l => l[i]?) hG.fixed
  simp only [List.getElem?_map, hx] at this
  cases h0 : st0[i]? with
  | none => simp [h0] at this
  | some x0 =>
    simp only [h0, Option.map_some, Option.some.injEq, fixedPart, Fixed.mk.injEq] at this
    exact ⟨x0, rfl, this.1, this.2.1⟩

omit [DecidableEq ι] in
theorem addEncode_good {σ : Oid → Oid} {st0 st : List (Elem ι)} (hG : Good σ st0 st) (d : Nat) (o : Oid)
    (hd : ∀ e0, st0[d]? = some e0 → e0.cls = .pack) :
    ∃ st', addEncode st d o = .ok st' ∧ Good σ st0 st' ∧ SameFields st st' := by
  unfold addEncode
  cases hst : st[d]? with
  | none => exact ⟨st, rfl, hG, fun _ => rfl⟩
  | some de =>
    obtain ⟨x0, hx0, -, hcls⟩ := good_getElem? hG hst
    simp only [hcls, hd x0 hx0, ne_eq, not_true_eq_false, if_false]
    split
    · exact ⟨st, rfl, hG, fun _ => rfl⟩
    · exact ⟨_, rfl, good_modify hG d _ (fun _ => rfl) (fun e he s hs => hG.links d e he s hs),
        fieldAt_modify_keep st d _ (fun _ => rfl)⟩

omit [DecidableEq ι] in
theorem linkTrackStream_good {σ : Oid → Oid} {st0 st : List (Elem ι)} (hG : Good σ st0 st) (ti : Nat) (so : Oid)
    (ht : ∀ e0, st0[ti]? = some e0 → e0.cls = .track ∧ σ e0.oid = so) :
    ∃ st', linkTrackStream st ti so = .ok st' ∧ Good σ st0 st' ∧ SameFields st st' := by
  unfold linkTrackStream
  cases hst : st[ti]? with
  | none => exact ⟨st, rfl, hG, fun _ => rfl⟩
  | some te =>
    obtain ⟨x0, hx0, hoid, hcls⟩ := good_getElem? hG hst
    obtain ⟨hc, hs⟩ := ht x0 hx0
    rw [← hoid] at hs
    simp only [hcls, hc, ne_eq, not_true_eq_false, if_false]
    cases hl : te.streamLink with
    | some s =>
      simp only [hG.links ti te hst s hl, hs, not_true_eq_false, if_false]
      exact ⟨st, rfl, hG, fun _ => rfl⟩
    | none =>
      refine ⟨_, rfl, good_modify hG ti _ (fun _ => rfl) (fun e he s hs' => ?_),
        fieldAt_modify_keep st ti _ (fun _ => rfl)⟩
      obtain rfl := Option.some.inj (hst.symm.trans he)
      exact (Option.some.inj hs').symm.trans hs.symm

/-- what the step for reference `r` of a field of `self` with mode `m` needs in order not to raise anything but
`KeyError`: `None` only where the silent track may stand; the pack found by a `decodePackFormatIDRef` is an
audioPackFormat, `encodePackFormatIDRef` sits on an audioPackFormat; the element found by a stream's
`audioTrackFormatIDRef` is an audioTrackFormat whose stream (`σ`) is this stream; an audioTrackFormat's
`audioStreamFormatIDRef` finds the stream `σ` names for it -/
def RefOK (σ : Oid → Oid) (st0 : List (Elem ι)) (self : Elem ι) (m : Mode) (r : Option ι) : Prop :=
  match r with
  | none => m = .silentOK
  | some k => ∀ (i : Nat) (tgt : Elem ι), lookupIdx up st0 k = some i → st0[i]? = some tgt →
      (m = .decode → tgt.cls = .pack) ∧ (m = .encode → self.cls = .pack) ∧
      (m = .linkTracks → tgt.cls = .track ∧ σ tgt.oid = self.oid) ∧
      (m = .linkStream → self.cls = .track ∧ σ self.oid = tgt.oid)

/-- the reference names no element of the document -/
def Dangling (st0 : List (Elem ι)) (r : Option ι) : Prop := ∃ k, r = some k ∧ lookupIdx up st0 k = none

/-- the conditions on the chain as it is before the loop under which no statement raises anything but `KeyError`: the
stream links already present agree with `σ`, and every reference of every field that is not an alternativeValueSet
reference is `RefOK` -/
structure Static (σ : Oid → Oid) (st0 : List (Elem ι)) : Prop where
  link : LinkInv σ st0
  refs : ∀ (i : Nat) (e : Elem ι), st0[i]? = some e → ∀ f ∈ e.fields, f.mode ≠ .avs → ∀ refs, f.pending = some refs →
    ∀ r ∈ refs, RefOK up σ st0 e f.mode r

/-- the loop invariant: identities, classes, ids and link consistency are those of the initial chain (`Good`), and a
field either is resolved (`IDRef = None`) or is still exactly the field the initial chain has at that place -/
structure Inv (σ : Oid → Oid) (st0 st : List (Elem ι)) : Prop where
  good : Good σ st0 st
  field : ∀ t f, fieldAt st t = some f → f.pending = none ∨ fieldAt st0 t = some f

omit [DecidableEq ι] in
theorem inv_refl {σ : Oid → Oid} {st0 : List (Elem ι)} (h : LinkInv σ st0) : Inv σ st0 st0 :=
  ⟨⟨rfl, h⟩, fun _ _ hf => Or.inr hf⟩

/-- the value `lazy_lookup_references` stores for a plain reference list: for each id the element `lookup_element`
finds in the document as it was before the loop (`None` stays `None`) -/
def resolvedValue (st0 : List (Elem ι)) (refs : List (Option ι)) : List (Option Oid) :=
  refs.map fun r => r.bind fun k => (lookup up st0 k).map (·.oid)

/-- the field at `t` of `st'` is `f` with its `IDRef` list `refs` resolved (`IDRef = None`): same name and mode, a plain
reference list replaced by the elements found -/
def ResolvedAt (st0 st' : List (Elem ι)) (t : Nat × Nat) (f : Field ι) (refs : List (Option ι)) : Prop :=
  ∃ f', fieldAt st' t = some f' ∧ f'.pending = none ∧ f'.name = f.name ∧ f'.mode = f.mode ∧
    ((f.mode = .plain ∨ f.mode = .silentOK) → f'.resolved = resolvedValue up st0 refs)

/-- what a successful step on a field with the `IDRef` list `refs` leaves: the invariant, every other field untouched,
the field itself resolved -/
def StepOK (σ : Oid → Oid) (st0 st : List (Elem ι)) (t : Nat × Nat) (f : Field ι) (refs : List (Option ι))
    (st' : List (Elem ι)) : Prop :=
  Inv σ st0 st' ∧ (∀ t', t' ≠ t → fieldAt st' t' = fieldAt st t') ∧ ResolvedAt up st0 st' t f refs

theorem finish_setField {σ : Oid → Oid} {st0 st st2 : List (Elem ι)} {t : Nat × Nat} {f : Field ι} (f' : Field ι)
    {refs : List (Option ι)} (hI : Inv σ st0 st) (hG : Good σ st0 st2) (hF : SameFields st st2)
    (hf : fieldAt st t = some f) (hp : f'.pending = none) (hn : f'.name = f.name) (hm : f'.mode = f.mode)
    (hr : (f.mode = .plain ∨ f.mode = .silentOK) → f'.resolved = resolvedValue up st0 refs) :
    StepOK up σ st0 st t f refs (setField st2 t.1 t.2 f') := by
  have hat : fieldAt (setField st2 t.1 t.2 f') t = some f' := by
    rw [fieldAt_setField, if_pos rfl, hF t, hf]; rfl
  have hother : ∀ t', t' ≠ t → fieldAt (setField st2 t.1 t.2 f') t' = fieldAt st t' := by
    intro t' hne
    rw [fieldAt_setField, if_neg hne, hF t']
  refine ⟨⟨good_modify hG _ _ (fun _ => rfl) (fun e he x hx => hG.links _ e he x hx), ?_⟩, hother, f', hat, hp, hn, hm, hr⟩
  intro t' g hg
  by_cases hne : t' = t
  · subst hne
    rw [hat] at hg; injection hg with hg; subst hg
    exact Or.inl hp
  · rw [hother t' hne] at hg
    exact hI.field t' g hg

/-- the context of a step whose field has a pending reference list -/
structure Ctx (σ : Oid → Oid) (st0 st : List (Elem ι)) (t : Nat × Nat) (e : Elem ι) (f : Field ι)
    (refs : List (Option ι)) : Prop where
  elem : st[t.1]? = some e
  field : e.fields[t.2]? = some f
  pending : f.pending = some refs
  /-- the element at that place of the initial chain: same identity, and `Static` speaks of its references -/
  init : ∃ e0, st0[t.1]? = some e0 ∧ e.oid = e0.oid ∧ ∀ r ∈ refs, f.mode ≠ .avs → RefOK up σ st0 e0 f.mode r

theorem ctx_of {σ : Oid → Oid} {st0 st : List (Elem ι)} (hS : Static up σ st0) (hI : Inv σ st0 st) {t : Nat × Nat}
    {e : Elem ι} {f : Field ι} {refs : List (Option ι)} (he : st[t.1]? = some e) (hf : e.fields[t.2]? = some f)
    (hp : f.pending = some refs) : Ctx up σ st0 st t e f refs := by
  refine ⟨he, hf, hp, ?_⟩
  have hat : fieldAt st t = some f := fieldAt_eq_some_iff.mpr ⟨e, he, hf⟩
  rcases hI.field t f hat with h | h
  · rw [hp] at h; cases h
  · obtain ⟨e0, he0, hc, -⟩ := good_getElem? hI.good he
    refine ⟨e0, he0, hc, ?_⟩
    intro r hr hm
    have hf0 : e0.fields[t.2]? = some f := by simpa [fieldAt, he0] using h
    exact hS.refs t.1 e0 he0 f (List.mem_of_getElem? hf0) hm refs hp r hr

theorem found_of_not_dangling {st0 : List (Elem ι)} {k : ι} (h : ¬ Dangling up st0 (some k)) :
    ∃ i, lookupIdx up st0 k = some i := by
  cases hl : lookupIdx up st0 k with
  | none => exact absurd ⟨k, rfl, hl⟩ h
  | some i => exact ⟨i, rfl⟩

/-- one `lookup_element` in a state of the loop: `KeyError` iff the id names nothing in the initial chain, otherwise the
position found there (an id is found in a state of the loop where the initial chain has it) -/
theorem lookupRef_cases {σ : Oid → Oid} {st0 st : List (Elem ι)} (hG : Good σ st0 st) (silent : Bool) (r : Option ι)
    (hnone : r = none → silent = true) :
    ((¬ Dangling up st0 r) → lookupRef up st silent r = .ok (r.bind (lookupIdx up st0))) ∧
    (Dangling up st0 r → lookupRef up st silent r = .error .keyError) := by
  cases r with
  | none => exact ⟨fun _ => by simp [lookupRef, hnone rfl], fun ⟨k, hk, _⟩ => nomatch hk⟩
  | some k =>
    simp only [lookupRef, lookupIdx_fixedPart up hG.fixed, Option.bind_some]
    cases hl : lookupIdx up st0 k with
    | none => exact ⟨fun h => absurd ⟨k, rfl, hl⟩ h, fun _ => rfl⟩
    | some i =>
      refine ⟨fun _ => rfl, fun ⟨k', hk', hl'⟩ => ?_⟩
      obtain rfl := Option.some.inj hk'
      rw [hl] at hl'; cases hl'

theorem mapM_lookupRef_cases {σ : Oid → Oid} {st0 st : List (Elem ι)} (hG : Good σ st0 st) (silent : Bool)
    (refs : List (Option ι)) (hnone : ∀ r ∈ refs, r = none → silent = true) :
    ((¬ ∃ r ∈ refs, Dangling up st0 r) →
      refs.mapM (lookupRef up st silent) = .ok (refs.map fun r => r.bind (lookupIdx up st0))) ∧
    ((∃ r ∈ refs, Dangling up st0 r) → refs.mapM (lookupRef up st silent) = .error .keyError) :=
  mapM_cases _ _ _ _ refs fun r hr => lookupRef_cases up hG silent r (hnone r hr)

/-- the step for a field with the `IDRef` list `refs`: `KeyError` iff one of the ids names nothing -/
def StepSpec (σ : Oid → Oid) (st0 st : List (Elem ι)) (t : Nat × Nat) (f : Field ι) (refs : List (Option ι)) : Prop :=
  ((¬ ∃ r ∈ refs, Dangling up st0 r) → ∃ st', step up st t = .ok st' ∧ StepOK up σ st0 st t f refs st') ∧
  ((∃ r ∈ refs, Dangling up st0 r) → step up st t = .error .keyError)

omit [DecidableEq ι] in
theorem sameFields_refl (st : List (Elem ι)) : SameFields st st := fun _ => rfl
omit [DecidableEq ι] in
theorem sameFields_trans (a b c : List (Elem ι)) (h1 : SameFields a b) (h2 : SameFields b c) : SameFields a c :=
  fun t => (h2 t).trans (h1 t)

theorem mem_map_bind_lookup {st : List (Elem ι)} {refs : List (Option ι)} {d : Nat}
    (h : some d ∈ refs.map fun r => r.bind (lookupIdx up st)) : ∃ k, some k ∈ refs ∧ lookupIdx up st k = some d := by
  obtain ⟨r, hr, hrr⟩ := List.mem_map.mp h
  cases r with
  | none => simp at hrr
  | some k => exact ⟨k, hr, by simpa using hrr⟩

theorem linkTracksOne_cases {σ : Oid → Oid} {st0 : List (Elem ι)} {e e0 : Elem ι} (hc : e.oid = e0.oid)
    {r : Option ι} (hok : RefOK up σ st0 e0 .linkTracks r) {s : List (Elem ι)} (hP : Good σ st0 s) :
    ((¬ Dangling up st0 r) → ∃ s', linkTracksOne up e.oid s r = .ok s' ∧ Good σ st0 s' ∧ SameFields s s') ∧
    (Dangling up st0 r → linkTracksOne up e.oid s r = .error .keyError) := by
  cases r with
  | none => simp [RefOK] at hok
  | some k =>
    obtain ⟨hfound, hmiss⟩ := lookupRef_cases up hP false (some k) nofun
    refine ⟨fun hnd => ?_, fun hd => by simp only [linkTracksOne, hmiss hd, bind, Except.bind]⟩
    obtain ⟨i, hl⟩ := found_of_not_dangling up hnd
    have hlr := hfound hnd
    rw [Option.bind_some, hl] at hlr
    obtain ⟨s', h1, h2, h3⟩ := linkTrackStream_good hP i e.oid fun x0 hx0 => by
      rw [hc]; exact (hok i x0 hl hx0).2.2.1 rfl
    exact ⟨s', by simp only [linkTracksOne, hlr, bind, Except.bind, h1], h2, h3⟩

theorem linkStreamOne_cases {σ : Oid → Oid} {st0 : List (Elem ι)} {ti : Nat} {e0 : Elem ι} (he0 : st0[ti]? = some e0)
    {r : Option ι} (hok : RefOK up σ st0 e0 .linkStream r) {s : List (Elem ι)} (hP : Good σ st0 s) :
    ((¬ Dangling up st0 r) → ∃ s', linkStreamOne up ti s r = .ok s' ∧ Good σ st0 s' ∧ SameFields s s') ∧
    (Dangling up st0 r → linkStreamOne up ti s r = .error .keyError) := by
  cases r with
  | none => simp [RefOK] at hok
  | some k =>
    obtain ⟨hfound, hmiss⟩ := lookupRef_cases up hP false (some k) nofun
    refine ⟨fun hnd => ?_, fun hd => by simp only [linkStreamOne, hmiss hd, bind, Except.bind]⟩
    obtain ⟨i, hl⟩ := found_of_not_dangling up hnd
    have hlr := hfound hnd
    rw [Option.bind_some, hl] at hlr
    cases ho : oidAt s (some i) with
    | none =>
      exact ⟨s, by simp only [linkStreamOne, hlr, bind, Except.bind, ho]; rfl, hP, sameFields_refl s⟩
    | some so =>
      obtain ⟨y0, hy0, hyo⟩ := oidAt_eq_some_iff.mp ((oidAt_fixedPart hP.fixed _).symm.trans ho)
      obtain ⟨s', h1, h2, h3⟩ := linkTrackStream_good hP ti so fun x0 hx0 => by
        obtain rfl := Option.some.inj (he0.symm.trans hx0)
        rw [← hyo]; exact (hok i y0 hl hy0).2.2.2 rfl
      exact ⟨s', by simp only [linkStreamOne, hlr, bind, Except.bind, ho, h1], h2, h3⟩

/-- a step that runs `X` on the chain and then clears the `IDRef` list of its field -/
theorem stepSpec_of_effect {σ : Oid → Oid} {st0 st : List (Elem ι)} (hI : Inv σ st0 st) {t : Nat × Nat} {f : Field ι}
    {refs : List (Option ι)} (hat : fieldAt st t = some f) (hm : f.mode ≠ .plain ∧ f.mode ≠ .silentOK)
    (X : Except Err (List (Elem ι)))
    (hstep : step up st t = X >>= fun st2 => pure (setField st2 t.1 t.2 { f with pending := none }))
    (hok : (¬ ∃ r ∈ refs, Dangling up st0 r) → ∃ st2, X = .ok st2 ∧ Good σ st0 st2 ∧ SameFields st st2)
    (herr : (∃ r ∈ refs, Dangling up st0 r) → X = .error .keyError) : StepSpec up σ st0 st t f refs := by
  constructor
  · intro hnd
    obtain ⟨st2, h2, hG2, hF2⟩ := hok hnd
    exact ⟨_, by rw [hstep, h2]; rfl, finish_setField up { f with pending := none } hI hG2 hF2
      hat rfl rfl rfl fun h => absurd h (by simp [hm.1, hm.2])⟩
  · intro hd
    rw [hstep, herr hd]; rfl

section Modes
variable {σ : Oid → Oid} {st0 st : List (Elem ι)} (hI : Inv σ st0 st) {t : Nat × Nat} {e : Elem ι} {f : Field ι}
  {refs : List (Option ι)} (C : Ctx up σ st0 st t e f refs)
include hI C

theorem step_plain (hm : f.mode = .plain ∨ f.mode = .silentOK) : StepSpec up σ st0 st t f refs := by
  obtain ⟨he, hf, hp, e0, he0, hc, hok⟩ := C
  have hat : fieldAt st t = some f := fieldAt_eq_some_iff.mpr ⟨e, he, hf⟩
  -- both modes run the same statement; `None` is looked up only for the silent track
  have hstep : step up st t = refs.mapM (lookupRef up st (decide (f.mode = .silentOK))) >>= fun rs =>
      pure (setField st t.1 t.2 { f with pending := none, resolved := rs.map (oidAt st) }) := by
    unfold step
    rcases hm with h | h <;> simp only [he, hf, hp, h] <;> rfl
  have hlook := mapM_lookupRef_cases up hI.good (decide (f.mode = .silentOK)) refs (fun r hr hn => by
    have := hok r hr (by rcases hm with h | h <;> simp [h])
    subst hn
    exact decide_eq_true this)
  constructor
  · intro hnd
    have hval : (refs.map fun r => r.bind (lookupIdx up st0)).map (oidAt st) = resolvedValue up st0 refs := by
      rw [List.map_map]
      apply List.map_congr_left
      intro r _
      cases r with
      | none => rfl
      | some k =>
        simp only [Function.comp, Option.bind_some]
        rw [← oidAt_lookupIdx, oidAt_fixedPart hI.good.fixed]
    refine ⟨_, by rw [hstep, hlook.1 hnd]; rfl, ?_⟩
    exact finish_setField up _ hI hI.good (fun _ => rfl) hat rfl rfl rfl fun _ => hval
  · intro hd
    rw [hstep, hlook.2 hd]; rfl

/-- the two pack-format modes: all lookups first, then one `add_encodePackFormat` per pack found -/
theorem stepSpec_of_lookups (hm : f.mode = .decode ∨ f.mode = .encode)
    (g : List (Elem ι) → Option Nat → Except Err (List (Elem ι)))
    (hstep : step up st t = refs.mapM (lookupRef up st false) >>= fun rs => rs.foldlM g st >>= fun st2 =>
      pure (setField st2 t.1 t.2 { f with pending := none }))
    (hg : ∀ s r', r' ∈ refs.map (fun r => r.bind (lookupIdx up st0)) → Good σ st0 s →
      ∃ s', g s r' = .ok s' ∧ Good σ st0 s' ∧ SameFields s s') : StepSpec up σ st0 st t f refs := by
  obtain ⟨he, hf, hp, e0, he0, hc, hok⟩ := C
  have hlook := mapM_lookupRef_cases up hI.good false refs (fun r hr hn => by
    have := hok r hr (by rcases hm with h | h <;> simp [h])
    subst hn
    rcases hm with h | h <;> simp [RefOK, h] at this)
  refine stepSpec_of_effect up hI (fieldAt_eq_some_iff.mpr ⟨e, he, hf⟩) (by rcases hm with h | h <;> simp [h])
    (refs.mapM (lookupRef up st false) >>= fun rs => rs.foldlM g st) ?_ (fun hnd => ?_)
    (fun hd => by rw [hlook.2 hd]; rfl)
  · rw [hstep]
    cases refs.mapM (lookupRef up st false) <;> rfl
  · rw [hlook.1 hnd]
    exact (foldlM_cases g (Good σ st0) SameFields (fun _ => False) .keyError sameFields_refl sameFields_trans _
      (fun s r' hr' hP => ⟨fun _ => hg s r' hr' hP, False.elim⟩) st hI.good).1 (by simp)

theorem step_decode (hm : f.mode = .decode) : StepSpec up σ st0 st t f refs := by
  refine stepSpec_of_lookups up hI C (Or.inl hm) (decodeOne e.oid)
    (by unfold step; simp only [C.elem, C.field, C.pending, hm]) ?_
  obtain ⟨he, hf, hp, e0, he0, hc, hok⟩ := C
  intro s r' hr' hP
  cases r' with
  | none => exact ⟨s, rfl, hP, sameFields_refl s⟩
  | some d =>
    obtain ⟨k, hk, hl⟩ := mem_map_bind_lookup up hr'
    exact addEncode_good hP d e.oid fun x0 hx0 => (hok (some k) hk (by simp [hm]) d x0 hl hx0).1 hm

theorem step_encode (hm : f.mode = .encode) : StepSpec up σ st0 st t f refs := by
  refine stepSpec_of_lookups up hI C (Or.inr hm) (encodeOne t.1)
    (by unfold step; simp only [C.elem, C.field, C.pending, hm]) ?_
  obtain ⟨he, hf, hp, e0, he0, hc, hok⟩ := C
  intro s r' hr' hP
  unfold encodeOne
  cases ho : oidAt s r' with
  | none => exact ⟨s, rfl, hP, sameFields_refl s⟩
  | some o =>
    cases r' with
    | none => simp [oidAt] at ho
    | some d =>
      obtain ⟨k, hk, hl⟩ := mem_map_bind_lookup up hr'
      rw [oidAt_fixedPart hP.fixed] at ho
      obtain ⟨y0, hy0, -⟩ := oidAt_eq_some_iff.mp ho
      refine addEncode_good hP t.1 o fun x0 hx0 => ?_
      obtain rfl := Option.some.inj (he0.symm.trans hx0)
      exact (hok (some k) hk (by simp [hm]) d y0 hl hy0).2.1 hm

theorem step_linkTracks (hm : f.mode = .linkTracks) : StepSpec up σ st0 st t f refs := by
  obtain ⟨he, hf, hp, e0, he0, hc, hok⟩ := C
  have hfold := foldlM_cases (linkTracksOne up e.oid) (Good σ st0) SameFields (Dangling up st0) Err.keyError
    sameFields_refl sameFields_trans refs (fun s r hr hP =>
      linkTracksOne_cases up hc (by have := hok r hr (by simp [hm]); rwa [hm] at this) hP) st hI.good
  refine stepSpec_of_effect up hI (fieldAt_eq_some_iff.mpr ⟨e, he, hf⟩) (by simp [hm])
    (refs.foldlM (linkTracksOne up e.oid) st) ?_ hfold.1 hfold.2
  unfold step
  simp only [he, hf, hp, hm]

theorem step_linkStream (hm : f.mode = .linkStream) : StepSpec up σ st0 st t f refs := by
  obtain ⟨he, hf, hp, e0, he0, hc, hok⟩ := C
  have hfold := foldlM_cases (linkStreamOne up t.1) (Good σ st0) SameFields (Dangling up st0) Err.keyError
    sameFields_refl sameFields_trans refs (fun s r hr hP =>
      linkStreamOne_cases up he0 (by have := hok r hr (by simp [hm]); rwa [hm] at this) hP) st hI.good
  refine stepSpec_of_effect up hI (fieldAt_eq_some_iff.mpr ⟨e, he, hf⟩) (by simp [hm])
    (refs.foldlM (linkStreamOne up t.1) st) ?_ hfold.1 hfold.2
  unfold step
  simp only [he, hf, hp, hm]

end Modes

/-- the field at `t` still has its `IDRef` list and one of the ids names nothing -/
def DanglingAt (st0 st : List (Elem ι)) (t : Nat × Nat) : Prop :=
  ∃ f refs, fieldAt st t = some f ∧ f.mode ≠ .avs ∧ f.pending = some refs ∧ ∃ r ∈ refs, Dangling up st0 r

/-- the field at `t` after its step, in terms of the field before -/
def StepDone (st0 st st' : List (Elem ι)) (t : Nat × Nat) : Prop :=
  ∀ f, fieldAt st t = some f →
    ((f.pending = none ∨ f.mode = .avs) → fieldAt st' t = some f) ∧
    (∀ refs, f.pending = some refs → f.mode ≠ .avs → ResolvedAt up st0 st' t f refs)

theorem step_cases (σ : Oid → Oid) (st0 st : List (Elem ι)) (hS : Static up σ st0) (hI : Inv σ st0 st) (t : Nat × Nat) :
    ((¬ DanglingAt up st0 st t) → ∃ st', step up st t = .ok st' ∧ Inv σ st0 st' ∧
      (∀ t', t' ≠ t → fieldAt st' t' = fieldAt st t') ∧ StepDone up st0 st st' t) ∧
    (DanglingAt up st0 st t → step up st t = .error .keyError) := by
  by_cases hlive : ∃ f refs, fieldAt st t = some f ∧ f.mode ≠ .avs ∧ f.pending = some refs
  · -- a field with references to resolve: the lemma of its mode
    obtain ⟨f, refs, hat, hm, hp⟩ := hlive
    obtain ⟨e, he, hf⟩ := fieldAt_eq_some_iff.mp hat
    have only_f : ∀ g, fieldAt st t = some g → g = f := fun g hg => Option.some.inj (hg.symm.trans hat)
    have C := ctx_of up hS hI he hf hp
    have hspec : StepSpec up σ st0 st t f refs := by
      cases hmode : f.mode with
      | avs => exact absurd hmode hm
      | plain => exact step_plain up hI C (Or.inl hmode)
      | silentOK => exact step_plain up hI C (Or.inr hmode)
      | decode => exact step_decode up hI C hmode
      | encode => exact step_encode up hI C hmode
      | linkTracks => exact step_linkTracks up hI C hmode
      | linkStream => exact step_linkStream up hI C hmode
    have hdang : DanglingAt up st0 st t ↔ ∃ r ∈ refs, Dangling up st0 r := by
      constructor
      · rintro ⟨g, refs', hg, _, hgp, hd⟩
        obtain rfl := only_f g hg
        obtain rfl : refs = refs' := Option.some.inj (hp.symm.trans hgp)
        exact hd
      · exact fun hd => ⟨f, refs, hat, hm, hp, hd⟩
    refine ⟨fun hnd => ?_, fun hd => hspec.2 (hdang.mp hd)⟩
    obtain ⟨st', hs, hI', hfr, hres⟩ := hspec.1 (fun hd => hnd (hdang.mpr hd))
    refine ⟨st', hs, hI', hfr, fun g hg => ?_⟩
    obtain rfl := only_f g hg
    refine ⟨fun h => ?_, fun refs' hp'' _ => ?_⟩
    · rcases h with h | h
      · rw [hp] at h; cases h
      · exact absurd h hm
    · obtain rfl : refs = refs' := Option.some.inj (hp.symm.trans hp'')
      exact hres
  · -- nothing to resolve at `t`: the statement does nothing
    have hs : step up st t = .ok st := by
      unfold step
      split
      next => rfl
      next e he =>
        split
        next => rfl
        next f hf =>
          split
          next => rfl
          next refs hp =>
            by_cases hm : f.mode = .avs
            · simp only [hm]
            · exact absurd ⟨f, refs, fieldAt_eq_some_iff.mpr ⟨e, he, hf⟩, hm, hp⟩ hlive
    exact ⟨fun _ => ⟨st, hs, hI, fun _ _ => rfl, fun f hff =>
        ⟨fun _ => hff, fun refs hp hm => absurd ⟨f, refs, hff, hm, hp⟩ hlive⟩⟩,
      fun ⟨f, refs, hff, hm, hp, _⟩ => absurd ⟨f, refs, hff, hm, hp⟩ hlive⟩

theorem danglingAt_congr (st0 st st' : List (Elem ι)) (t : Nat × Nat) (h : fieldAt st' t = fieldAt st t) :
    DanglingAt up st0 st' t ↔ DanglingAt up st0 st t := by
  unfold DanglingAt; rw [h]

theorem stepDone_congr (st0 st st1 st' st'' : List (Elem ι)) (t : Nat × Nat) (h1 : fieldAt st1 t = fieldAt st t)
    (h2 : fieldAt st'' t = fieldAt st' t) (h : StepDone up st0 st1 st' t) : StepDone up st0 st st'' t := by
  unfold StepDone ResolvedAt at *
  rw [← h1, h2]; exact h

/-- the statements of the loop, each field at most once: no `KeyError` iff no live field has a dangling id.  Its own
induction: whether a task fails (`DanglingAt … st t`) depends on the state reached, which `B` of `foldlM_cases` cannot -/
theorem run_tasks (σ : Oid → Oid) (st0 : List (Elem ι)) (hS : Static up σ st0) :
    ∀ (ts : List (Nat × Nat)), ts.Nodup → ∀ st, Inv σ st0 st →
      ((¬ ∃ t ∈ ts, DanglingAt up st0 st t) → ∃ st', ts.foldlM (step up) st = .ok st' ∧ Inv σ st0 st' ∧
        (∀ t, t ∉ ts → fieldAt st' t = fieldAt st t) ∧ (∀ t ∈ ts, StepDone up st0 st st' t)) ∧
      ((∃ t ∈ ts, DanglingAt up st0 st t) → ts.foldlM (step up) st = .error .keyError) := by
  intro ts
  induction ts with
  | nil =>
    intro _ st hI
    refine ⟨fun _ => ⟨st, rfl, hI, fun _ _ => rfl, fun t ht => by simp at ht⟩, ?_⟩
    rintro ⟨t, ht, _⟩; simp at ht
  | cons t ts ih =>
    intro hnd st hI
    rw [List.nodup_cons] at hnd
    obtain ⟨hc1, hc2⟩ := step_cases up σ st0 st hS hI t
    by_cases hdt : DanglingAt up st0 st t
    · have herr : (t :: ts).foldlM (step up) st = .error .keyError := by
        simp [List.foldlM_cons, hc2 hdt, bind, Except.bind]
      exact ⟨fun h => absurd ⟨t, by simp, hdt⟩ h, fun _ => herr⟩
    · obtain ⟨st1, hs1, hI1, hfr1, hdone1⟩ := hc1 hdt
      obtain ⟨ih1, ih2⟩ := ih hnd.2 st1 hI1
      have hne : ∀ t' ∈ ts, t' ≠ t := fun t' ht' h => hnd.1 (h ▸ ht')
      have hfold : (t :: ts).foldlM (step up) st = ts.foldlM (step up) st1 := by
        simp [List.foldlM_cons, hs1, bind, Except.bind]
      constructor
      · intro hno
        obtain ⟨st', hs', hI', hfr', hdone'⟩ := ih1 (by
          rintro ⟨t', ht', hd'⟩
          exact hno ⟨t', by simp [ht'], (danglingAt_congr up st0 st st1 t' (hfr1 t' (hne t' ht'))).mp hd'⟩)
        refine ⟨st', by rw [hfold]; exact hs', hI', ?_, ?_⟩
        · intro t' ht'
          simp only [List.mem_cons, not_or] at ht'
          rw [hfr' t' ht'.2, hfr1 t' ht'.1]
        · intro t' ht'
          rcases List.mem_cons.mp ht' with rfl | ht''
          · exact stepDone_congr up st0 st st st1 st' t' rfl (hfr' t' hnd.1) hdone1
          · exact stepDone_congr up st0 st st1 st' st' t' (hfr1 t' (hne t' ht'')) rfl (hdone' t' ht'')
      · rintro ⟨t', ht', hd'⟩
        rw [hfold]
        rcases List.mem_cons.mp ht' with rfl | ht''
        · exact absurd hd' hdt
        · exact ih2 ⟨t', ht'', (danglingAt_congr up st0 st st1 t' (hfr1 t' (hne t' ht''))).mpr hd'⟩

omit [DecidableEq ι] in
theorem nodup_tasks (st : List (Elem ι)) : (tasks st).Nodup := by
  unfold tasks
  rw [List.nodup_flatMap]
  refine ⟨?_, ?_⟩
  · intro i _
    exact (List.nodup_range).map (fun a b h => by simpa using h)
  · have hr : (List.range st.length).Pairwise (· ≠ ·) := List.nodup_range
    refine hr.imp ?_
    intro a b hab
    simp only [Function.onFun]
    intro x hx hy
    obtain ⟨j, _, rfl⟩ := List.mem_map.mp hx
    obtain ⟨j', _, hj'⟩ := List.mem_map.mp hy
    simp only [Prod.mk.injEq] at hj'
    exact hab hj'.1.symm

omit [DecidableEq ι] in
theorem mem_tasks_of_fieldAt {st : List (Elem ι)} {t : Nat × Nat} {f : Field ι} (h : fieldAt st t = some f) :
    t ∈ tasks st := by
  obtain ⟨e, he, hf⟩ := fieldAt_eq_some_iff.mp h
  obtain ⟨hi, -⟩ := List.getElem?_eq_some_iff.mp he
  obtain ⟨hj, -⟩ := List.getElem?_eq_some_iff.mp hf
  unfold tasks
  exact List.mem_flatMap.mpr ⟨t.1, List.mem_range.mpr hi,
    List.mem_map.mpr ⟨t.2, List.mem_range.mpr (by simp [he, hj]), rfl⟩⟩

omit [DecidableEq ι] in
theorem avsTable_fixedPart {st st' : List (Elem ι)} (h : st.map fixedPart = st'.map fixedPart) :
    (st.filter (·.cls = .object)).flatMap (·.avs) = (st'.filter (·.cls = .object)).flatMap (·.avs) := by
  -- the table is read off the fixed parts
  have : ∀ s : List (Elem ι), (s.filter (·.cls = .object)).flatMap (·.avs) =
      ((s.map fixedPart).filter (fun c => decide (c.cls = .object))).flatMap (·.avs) := by
    intro s
    rw [List.filter_map, List.flatMap_map]
    rfl
  rw [this st, this st', h]

/-- the alternativeValueSets of the audioObjects have pairwise distinct ids, and every `alternativeValueSetIDRef` of an
audioProgramme / audioContent names one of them -/
structure AvsOK (st0 : List (Elem ι)) : Prop where
  table : ∃ tbl, avsTable up st0 = .ok tbl
  refs : ∀ tbl, avsTable up st0 = .ok tbl → ∀ (i : Nat) (e : Elem ι), st0[i]? = some e →
    ∀ f ∈ e.fields, f.mode = .avs → ∀ refs, f.pending = some refs → ∀ r ∈ refs, ∃ o, getAvs up tbl r = .ok o

/-- `get_avs` as a function: the alternativeValueSet found, where there is one -/
def getAvsP (tbl : List (ι × Oid)) (r : Option ι) : Option Oid :=
  match getAvs up tbl r with
  | .ok o => o
  | .error _ => none

/-- what `avsElem` does to one field when every id is in the table -/
def avsFieldP (tbl : List (ι × Oid)) (f : Field ι) : Field ι :=
  if f.mode ≠ .avs then f else
  match f.pending with
  | none => f
  | some refs => { f with pending := none, resolved := refs.map (getAvsP up tbl) }

/-- `avsElem` as a function: where every `alternativeValueSetIDRef` names an alternativeValueSet, the pass is a `map`
of this (`avsElem_eq_pure`, `avsPass_eq`) -/
def avsElemP (tbl : List (ι × Oid)) (e : Elem ι) : Elem ι :=
  if e.cls ≠ .programme ∧ e.cls ≠ .content then e else { e with fields := e.fields.map (avsFieldP up tbl) }

theorem avsFieldP_of_ne {tbl : List (ι × Oid)} {f : Field ι} (h : f.mode ≠ .avs) : avsFieldP up tbl f = f := if_pos h

theorem avsElem_eq_pure (tbl : List (ι × Oid)) (e : Elem ι)
    (h : ∀ f ∈ e.fields, f.mode = .avs → ∀ refs, f.pending = some refs → ∀ r ∈ refs, ∃ o, getAvs up tbl r = .ok o) :
    avsElem up tbl e = .ok (avsElemP up tbl e) := by
  unfold avsElem avsElemP
  split
  · rfl
  · rw [mapM_eq_pure_map (g := avsFieldP up tbl)]
    · rfl
    · intro f hf
      unfold avsFieldP
      by_cases hm : f.mode ≠ .avs
      · rw [if_pos hm, if_pos hm]
      · rw [if_neg hm, if_neg hm]
        cases hp : f.pending with
        | none => rfl
        | some refs =>
          have := mapM_eq_pure_map (f := getAvs up tbl) (g := getAvsP up tbl) (l := refs) fun r hr => by
            obtain ⟨o, ho⟩ := h f hf (by simpa using hm) refs hp r hr
            simp [getAvsP, ho, pure, Except.pure]
          simp only [this]
          rfl

theorem fieldAt_map_avsElemP (tbl : List (ι × Oid)) (st : List (Elem ι)) (t : Nat × Nat) (f : Field ι)
    (hf : fieldAt st t = some f) (hm : f.mode ≠ .avs) : fieldAt (st.map (avsElemP up tbl)) t = some f := by
  obtain ⟨e, he, hfe⟩ := fieldAt_eq_some_iff.mp hf
  refine fieldAt_eq_some_iff.mpr ⟨avsElemP up tbl e, by simp [he], ?_⟩
  unfold avsElemP
  split
  · exact hfe
  · simp [hfe, avsFieldP_of_ne up hm]

/-- `_lazy_lookup_alternativeValueSets` after the loop, under `AvsOK`: the chain with `avsElemP` applied to every
element, `tbl` being the table of the alternativeValueSets of the initial chain -/
theorem avsPass_eq {σ : Oid → Oid} {st0 st1 : List (Elem ι)} (hI : Inv σ st0 st1) (hA : AvsOK up st0)
    {tbl : List (ι × Oid)} (htbl : avsTable up st0 = .ok tbl) : avsPass up st1 = .ok (st1.map (avsElemP up tbl)) := by
  have htbl1 : avsTable up st1 = .ok tbl := by
    unfold avsTable at htbl ⊢
    rw [avsTable_fixedPart hI.good.fixed]; exact htbl
  unfold avsPass
  rw [htbl1]
  refine mapM_eq_pure_map fun e he => avsElem_eq_pure up tbl e fun f hf hm refs hp => ?_
  -- a field that still has its `IDRef` list is as it was in the initial chain, where `AvsOK` speaks of it
  obtain ⟨i, hi⟩ := List.getElem?_of_mem he
  obtain ⟨j, hj⟩ := List.getElem?_of_mem hf
  rcases hI.field (i, j) f (fieldAt_eq_some_iff.mpr ⟨e, hi, hj⟩) with hh | hh
  · rw [hp] at hh; cases hh
  · obtain ⟨e0, he0, hf0⟩ := fieldAt_eq_some_iff.mp hh
    exact hA.refs tbl htbl i e0 he0 f (List.mem_of_getElem? hf0) hm refs hp

theorem avsPass_spec (σ : Oid → Oid) (st0 st1 : List (Elem ι)) (hI : Inv σ st0 st1) (hA : AvsOK up st0) :
    ∃ st2, avsPass up st1 = .ok st2 ∧ st2.length = st1.length ∧
      (∀ t f, fieldAt st1 t = some f → f.mode ≠ .avs → fieldAt st2 t = some f) := by
  obtain ⟨tbl, htbl⟩ := hA.table
  exact ⟨_, avsPass_eq up hI hA htbl, List.length_map _, fieldAt_map_avsElemP up tbl st1⟩

/-- every id in every (non-alternativeValueSet) `IDRef` attribute of the chain names an element of the chain -/
def Closed (st0 : List (Elem ι)) : Prop := ¬ ∃ t, DanglingAt up st0 st0 t

theorem resolveChain_closed (σ : Oid → Oid) (st0 : List (Elem ι)) (hS : Static up σ st0) (hA : AvsOK up st0)
    (hC : Closed up st0) :
    ∃ st', resolveChain up st0 = .ok st' ∧ st'.length = st0.length ∧
      ∀ t f, fieldAt st0 t = some f → (f.mode = .plain ∨ f.mode = .silentOK) →
        ∃ f', fieldAt st' t = some f' ∧ f'.name = f.name ∧ f'.mode = f.mode ∧
          (∀ refs, f.pending = some refs → f'.pending = none ∧ f'.resolved = resolvedValue up st0 refs) ∧
          (f.pending = none → f' = f) := by
  obtain ⟨h1, _⟩ := run_tasks up σ st0 hS (tasks st0) (nodup_tasks st0) st0 (inv_refl hS.link)
  obtain ⟨st1, hs1, hI1, _, hdone⟩ := h1 (fun ⟨t, _, hd⟩ => hC ⟨t, hd⟩)
  obtain ⟨st2, hs2, hlen2, hkeep⟩ := avsPass_spec up σ st0 st1 hI1 hA
  refine ⟨st2, by unfold resolveChain; simp [hs1, hs2, bind, Except.bind],
    by rw [hlen2]; simpa using congrArg List.length hI1.good.fixed, ?_⟩
  intro t f hf hm
  have hnavs : f.mode ≠ .avs := by rcases hm with h | h <;> simp [h]
  obtain ⟨hd1, hd2⟩ := hdone t (mem_tasks_of_fieldAt hf) f hf
  cases hp : f.pending with
  | none =>
    have h1 := hd1 (Or.inl hp)
    exact ⟨f, hkeep t f h1 hnavs, rfl, rfl, fun refs h => (by cases h), fun _ => rfl⟩
  | some refs =>
    obtain ⟨f', hf', hp', hn', hm', hres⟩ := hd2 refs hp hnavs
    refine ⟨f', hkeep t f' hf' (by rw [hm']; exact hnavs), hn', hm', ?_, fun h => (by cases h)⟩
    intro refs' h
    injection h with h; subst h
    exact ⟨hp', hres hm⟩

theorem resolveChain_dangling (σ : Oid → Oid) (st0 : List (Elem ι)) (hS : Static up σ st0)
    (hD : ∃ t, DanglingAt up st0 st0 t) : resolveChain up st0 = .error .keyError := by
  obtain ⟨_, h2⟩ := run_tasks up σ st0 hS (tasks st0) (nodup_tasks st0) st0 (inv_refl hS.link)
  obtain ⟨t, hd⟩ := hD
  have ht : t ∈ tasks st0 := by
    obtain ⟨f, _, hf, _⟩ := hd
    exact mem_tasks_of_fieldAt hf
  unfold resolveChain
  simp [h2 ⟨t, ht, hd⟩, bind, Except.bind]

-- nothing here compares ids, but `omit [DecidableEq ι]` would take the instance argument out of a statement the harness
-- compares as it stands
set_option linter.unusedSectionVars false in
theorem rebuild_elements (a : ADM ι) (st : List (Elem ι)) : (rebuild a st).elements = st := by
  unfold rebuild ADM.elements
  simp only [Nat.add_sub_cancel_left]
  rw [← List.take_add, ← List.take_add, ← List.take_add, ← List.take_add, ← List.take_add, ← List.take_add,
    List.take_append_drop]

theorem dedupAll_of_distinct (a : ADM ι) (h : ∀ l ∈ a.lists, DistinctIds up l) : dedupAll up a = .ok a := by
  simp only [ADM.lists, List.forall_mem_cons] at h
  obtain ⟨d1, d2, d3, d4, d5, d6, d7, d8, -⟩ := h
  unfold dedupAll
  simp only [withoutDuplicates_of_distinct up _ d1, withoutDuplicates_of_distinct up _ d2,
    withoutDuplicates_of_distinct up _ d3, withoutDuplicates_of_distinct up _ d4,
    withoutDuplicates_of_distinct up _ d5, withoutDuplicates_of_distinct up _ d6,
    withoutDuplicates_of_distinct up _ d7, withoutDuplicates_of_distinct up _ d8, bind, Except.bind, pure, Except.pure]

theorem closed_of_forall (st0 : List (Elem ι))
    (h : ∀ e ∈ st0, ∀ f ∈ e.fields, f.mode ≠ .avs → ∀ refs, f.pending = some refs → ∀ k, some k ∈ refs →
      ∃ i, lookupIdx up st0 k = some i) : Closed up st0 := by
  rintro ⟨t, f, refs, hf, hm, hp, r, hr, k, hk, hl⟩
  obtain ⟨e, he, hfe⟩ := fieldAt_eq_some_iff.mp hf
  subst hk
  obtain ⟨i, hi⟩ := h e (List.mem_of_getElem? he) f (List.mem_of_getElem? hfe) hm refs hp k hr
  rw [hl] at hi; cases hi

theorem static_of_forall (σ : Oid → Oid) (st0 : List (Elem ι))
    (hl : ∀ e ∈ st0, ∀ s, e.streamLink = some s → s = σ e.oid)
    (hr : ∀ e ∈ st0, ∀ f ∈ e.fields, f.mode ≠ .avs → ∀ refs, f.pending = some refs → ∀ r ∈ refs,
      RefOK up σ st0 e f.mode r) : Static up σ st0 :=
  ⟨fun _ e he s hs => hl e (List.mem_of_getElem? he) s hs,
    fun _ e he f hf hm refs hp r hr' => hr e (List.mem_of_getElem? he) f hf hm refs hp r hr'⟩

end Earverif.AdmRefs
