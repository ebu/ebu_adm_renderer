/-
Lemmas for C17 (truncated files): prefixes of chunk sequences; the chunk walk over a file cut inside its chunks
(`walk_prefix`, and `walk_cut`: it fails or records chunks that hold under each id nothing or what the complete list
holds, `Holds.of_prefix`); the reader on such a file, whatever the chunks are (`trunc_chunks`); what a prefix of the
writer's late chunks is (`prefix_lateC`, a characterisation of `lateC` on which nothing here rests); truncated headers.
-/
import Earverif.Props.C09

namespace Earverif.Bw64

theorem readAt_take_full (f : Bytes) {k p n : Nat} (h : p + n ≤ k) : readAt (f.take k) p n = readAt f p n := by
  simp only [readAt, List.drop_take, List.take_take]
  congr 1; omega

theorem readAt_take_short (f : Bytes) {k p n : Nat} (h : k < p + n) (hn : 0 < n) :
    (readAt (f.take k) p n).length ≠ n :=
  readAt_short (by simp only [List.length_take]; omega) hn

/-- `_read_chunk_header` on the eight bytes `data` + `0xFFFFFFFF` of a plain RIFF file (no ds64 chunk):
"data chunk size has not been set". -/
theorem readChunkHeader_placeholder {f pre rest : Bytes} (hf : f = pre ++ (idData ++ (ffff ++ rest))) :
    readChunkHeader f none pre.length = .placeholder := by
  rw [readChunkHeader_valid none hf rfl rfl (by decide)]
  rfl

theorem readChunks_placeholder {f : Bytes} {ds : Option Ds64} {fuel pos : Nat} {t : Table} {w : List Warn}
    (hh : readChunkHeader f ds pos = .placeholder) :
    readChunks f ds (fuel + 1) pos t w = .error .dataPlaceholder := by
  rw [readChunks, hh]

theorem riff_walk (cs : List Chunk) (hok : ∀ c ∈ cs, c.OK none) (s4 tail f : Bytes) (hs : s4.length = 4)
    (hf : f = idRIFF ++ (s4 ++ (idWAVE ++ (encAll cs ++ tail)))) :
    ∃ fuel, readFile f = (readChunks f none (fuel + 1) (12 + (encAll cs).length) (walkTable 12 cs []) []).bind
      fun tw => finishRead f idRIFF none tw.1 tw.2 := by
  have hf' : f = (idRIFF ++ (s4 ++ idWAVE)) ++ (encAll cs ++ tail) := by rw [hf]; simp
  have h12 : (idRIFF ++ (s4 ++ idWAVE)).length = 12 := by simp [idRIFF, idWAVE, hs]
  have hle := length_le_encAll cs (fun c hc => (hok c hc).idLen)
  have hfl : f.length = 12 + (encAll cs).length + tail.length := by rw [hf', List.length_append, h12]; simp; omega
  obtain ⟨fuel, hfuel⟩ : ∃ k, f.length + 1 = cs.length + (k + 1) := ⟨f.length - cs.length, by omega⟩
  have hw := walk_chunks_then none cs hok _ f _ (fuel + 1) [] [] hf'
  rw [h12] at hw
  refine ⟨fuel, ?_⟩
  simp only [readFile, readHead_riff hf hs, hfuel, hw]
  cases readChunks f none (fuel + 1) (12 + (encAll cs).length) (walkTable 12 cs []) [] <;> rfl

theorem take_encAll (cs : List Chunk) : ∀ m, m < (encAll cs).length →
    ∃ A c B j, cs = A ++ c :: B ∧ j < c.enc.length ∧ m = (encAll A).length + j ∧
      (encAll cs).take m = encAll A ++ c.enc.take j := by
  induction cs with
  | nil => intro m hm; simp at hm
  | cons c cs ih =>
    intro m hm
    by_cases h : m < c.enc.length
    · refine ⟨[], c, cs, m, rfl, h, by simp, ?_⟩
      simp [List.take_append_of_le_length (Nat.le_of_lt h)]
    · simp only [encAll_cons, List.length_append] at hm
      obtain ⟨A, c', B, j, h1, h2, h3, h4⟩ := ih (m - c.enc.length) (by omega)
      refine ⟨c :: A, c', B, j, by simp [h1], h2, by simp; omega, ?_⟩
      simp only [encAll_cons, List.take_append, h4, List.append_assoc]
      rw [List.take_of_length_le (by omega)]

/-- what `_read_chunks` makes of a file cut `j` bytes into chunk `c` (after the complete chunks `A`) -/
def prefixOutcome (p0 : Nat) (A : List Chunk) (c : Chunk) (j : Nat) : Except Err (Table × List Warn) :=
  if j < 8 then .ok (walkTable p0 A [], [])
  else if c.body.length % 2 = 1 ∧ c.id = idData ∧ j = 8 + c.body.length then
    .ok ((c.id, c.body.length, p0 + (encAll A).length) :: walkTable p0 A [], [.dataPad])
  else .error .chunkEnd

/-- On a file cut inside chunk `c` (`j` bytes of it remain) after the complete
well-formed chunks `A`, `_read_chunks` stops with EOF if the cut is inside the header of `c` (the complete
chunks before it are recorded, nothing else), raises "chunk ends after the end of the file" if the cut is
inside the body or removes the pad byte — except for a `data` chunk that lacks only its pad byte, which is
recorded with a warning.  The fuel: one step per complete chunk, one for `c`, one for the EOF after a `data` chunk
without pad. -/
theorem walk_prefix (ds : Option Ds64) (A : List Chunk) (c : Chunk) (hA : ∀ x ∈ A, x.OK ds) (hc : c.OK ds)
    (pre f : Bytes) (j : Nat) (hj : j < c.enc.length) (hf : f = pre ++ (encAll A ++ c.enc.take j))
    (fuel : Nat) (hfuel : A.length + 2 ≤ fuel) :
    readChunks f ds fuel pre.length [] [] = prefixOutcome pre.length A c j := by
  obtain ⟨k, rfl⟩ : ∃ k, fuel = A.length + (k + 2) := ⟨fuel - A.length - 2, by omega⟩
  rw [walk_chunks_then ds A hA pre f (c.enc.take j) (k + 2) [] [] hf]
  have hlen := c.enc_length hc.idLen hc.padLen
  have hfl : f.length = pre.length + (encAll A).length + j := by
    rw [hf]; simp only [List.length_append, List.length_take]; omega
  unfold prefixOutcome
  by_cases h8 : j < 8
  · simp only [h8, ↓reduceIte]
    exact readChunks_eof (by omega)
  · simp only [h8, ↓reduceIte]
    have htake : c.enc.take j = c.id ++ (le 4 c.szField ++ (c.body ++ c.padB).take (j - 8)) := by
      simp only [Chunk.enc, List.take_append, hc.idLen, le_length]
      rw [List.take_of_length_le (by rw [hc.idLen]; omega), List.take_of_length_le (by rw [le_length]; omega)]
      congr 2
    have hh := readChunkHeader_ok (f := f) (pre := pre ++ encAll A) (rest := (c.body ++ c.padB).take (j - 8)) hc
      (by rw [hf, htake]; simp)
    rw [List.length_append] at hh
    rw [show k + 2 = (k + 1) + 1 from rfl, readChunks, hh]
    have he : pre.length + (encAll A).length + 8 + (c.body.length + c.body.length % 2) > f.length := by omega
    simp only [he, ↓reduceIte]
    -- the chunk ends one byte after the end of the file exactly when only its pad byte is missing
    have hpad : (c.body.length % 2 = 1 ∧ c.id = idData ∧
        pre.length + (encAll A).length + 8 + (c.body.length + c.body.length % 2) = f.length + 1) ↔
        (c.body.length % 2 = 1 ∧ c.id = idData ∧ j = 8 + c.body.length) := by
      constructor <;> rintro ⟨h1, h2, h3⟩ <;> exact ⟨h1, h2, by omega⟩
    rw [if_congr hpad rfl rfl]
    split
    · rw [readChunks_eof (by omega)]; rfl
    · rfl

theorem walkTable_snoc (A : List Chunk) (x : Chunk) : ∀ (p : Nat) (t : Table),
    walkTable p (A ++ [x]) t = (x.id, x.body.length, p + (encAll A).length) :: walkTable p A t := by
  induction A with
  | nil => intro p t; simp [walkTable]
  | cons a A ih =>
    intro p t
    simp only [List.cons_append, walkTable, ih, encAll_cons, List.length_append]
    congr 3; omega

theorem Holds.of_prefix {A B : List Chunk} {id : Bytes} {o : Option Bytes} (h : Holds (A ++ B) id o) :
    Holds A id none ∨ Holds A id o := by
  unfold Holds at h ⊢
  rw [bodiesOf_append] at h
  cases hA : bodiesOf id A with
  | nil => exact Or.inl rfl
  | cons x xs =>
    rw [hA] at h
    cases o with
    | none => simp at h
    | some b =>
      simp only [Option.toList, List.cons_append, List.cons.injEq, List.append_eq_nil_iff] at h
      exact Or.inr (by rw [h.1, h.2.1]; rfl)

theorem walk_cut (ds : Option Ds64) (cs : List Chunk) (hok : ∀ x ∈ cs, x.OK ds) {pre tail f : Bytes}
    (hf : f = pre ++ (encAll cs ++ tail)) (hpre : 1 ≤ pre.length) {k : Nat} (hk1 : pre.length ≤ k)
    (hk2 : k < pre.length + (encAll cs).length) :
    readChunks (f.take k) ds ((f.take k).length + 1) pre.length [] [] = .error .chunkEnd ∨
    ∃ A' tail' w, readChunks (f.take k) ds ((f.take k).length + 1) pre.length [] [] = .ok (walkTable pre.length A' [], w) ∧
      f.take k = pre ++ (encAll A' ++ tail') ∧ ∀ id o, Holds cs id o → Holds A' id none ∨ Holds A' id o := by
  obtain ⟨A, c, B, j, rfl, hj, -, htk⟩ := take_encAll cs (k - pre.length) (by omega)
  have hfk : f.take k = pre ++ (encAll A ++ c.enc.take j) := by
    rw [hf, List.take_append, List.take_of_length_le hk1, List.take_append_of_le_length (by omega), htk]
  have hAok : ∀ x ∈ A, x.OK ds := fun x hx => hok x (by simp [hx])
  have hAl := length_le_encAll A (fun x hx => (hAok x hx).idLen)
  -- the constructor's fuel, `length + 1`, is enough for `walk_prefix` because `pre` is not empty
  rw [walk_prefix ds A c hAok (hok c (by simp)) pre _ j hj hfk _
    (by rw [hfk]; simp only [List.length_append, List.length_take]; omega)]
  unfold prefixOutcome
  by_cases h8 : j < 8
  · exact Or.inr ⟨A, c.enc.take j, [], by rw [if_pos h8], hfk, fun id o h => h.of_prefix⟩
  rw [if_neg h8]
  by_cases hp : c.body.length % 2 = 1 ∧ c.id = idData ∧ j = 8 + c.body.length
  · -- a `data` chunk that lacks only its pad byte: recorded like the complete chunk
    have hidl := (hok c (by simp)).idLen
    have htake : c.enc.take j = (Chunk.mk c.id c.szField c.body []).enc := by
      rw [hp.2.2]
      show List.take (8 + c.body.length) (c.id ++ (le 4 c.szField ++ (c.body ++ c.padB))) =
        c.id ++ (le 4 c.szField ++ (c.body ++ []))
      rw [show c.id ++ (le 4 c.szField ++ (c.body ++ c.padB)) = (c.id ++ (le 4 c.szField ++ c.body)) ++ c.padB by simp,
        List.take_left' (by simp [hidl, le_length]; omega)]
      simp
    refine Or.inr ⟨A ++ [⟨c.id, c.szField, c.body, []⟩], [], [.dataPad], ?_, by rw [hfk, htake]; simp, fun id o h => ?_⟩
    · rw [if_pos hp, walkTable_snoc]
    · have h' : Holds ((A ++ [c]) ++ B) id o := by simpa using h
      simpa [Holds] using h'.of_prefix
  · exact Or.inl (by rw [if_neg hp])

theorem finishRead_noData {f ff : Bytes} {ds : Option Ds64} {t : Table} {w : List Warn}
    (h : tlookup t idData = none) : finishRead f ff ds t w = .error .missingChunk := by
  unfold finishRead
  cases tlookup t idFmt <;> simp [h]

theorem finishRead_noFmt {f ff : Bytes} {ds : Option Ds64} {t : Table} {w : List Warn}
    (h : tlookup t idFmt = none) : finishRead f ff ds t w = .error .missingChunk := by
  unfold finishRead
  simp [h]

/-- The verdict on a truncated file is acceptable w.r.t. what the complete file holds (format, frame count,
sample bytes, metadata chunks): rejected, or accepted with the same format, frame count and sample bytes and
each metadata chunk either absent or identical. -/
def TruncOK (fm : RFmt) (frames : Nat) (data : Bytes) (chna : Option (List ChnaEntry)) (axml bext : Option Bytes) :
    Except Err (Parsed × List Warn) → Prop
  | .error _ => True
  | .ok (r, _) => r.fmt = fm ∧ r.frames = frames ∧ r.data = data ∧
      (r.chna = none ∨ r.chna = chna) ∧ (r.axml = none ∨ r.axml = axml) ∧ (r.bext = none ∨ r.bext = bext)

section
variable {cs : List Chunk} {fmt : Fmt} {data : Bytes} {chna : Option (List ChnaEntry)} {axml bext : Option Bytes}
  (hfmt : FmtOK fmt) (hchna : ChnaOK chna)
  (H : Content cs fmt data chna axml bext)
  {ds : Option Ds64} (hds : ∀ d, ds = some d → d.dataSize = data.length) (hdata : data.length % fmt.blockAlign = 0)
include hfmt hchna H hds hdata

theorem truncOK_of_sub {g pre tail ff : Bytes} {w : List Warn} {A' : List Chunk} (hg : g = pre ++ (encAll A' ++ tail))
    (hsub : ∀ id o, Holds cs id o → Holds A' id none ∨ Holds A' id o) :
    TruncOK ⟨1, fmt.channels, fmt.rate, fmt.bits⟩ (data.length / fmt.blockAlign) data chna axml bext
      (finishRead g ff ds (walkTable pre.length A' []) w) := by
  rcases hsub _ _ H.fmt with n1 | s1
  · rw [finishRead_noFmt (n1.lookup_none _ [])]; trivial
  rcases hsub _ _ H.data with n2 | s2
  · rw [finishRead_noData (n2.lookup_none _ [])]; trivial
  obtain ⟨c', hc', hcc⟩ : ∃ c', Holds A' idChna (c'.map chnaPayload) ∧ (c' = none ∨ c' = chna) := by
    rcases hsub _ _ H.chna with h | h
    · exact ⟨none, h, Or.inl rfl⟩
    · exact ⟨chna, h, Or.inr rfl⟩
  have pick : ∀ {id o}, Holds cs id o → ∃ o', Holds A' id o' ∧ (o' = none ∨ o' = o) := fun h =>
    (hsub _ _ h).elim (fun h => ⟨none, h, Or.inl rfl⟩) (fun h => ⟨_, h, Or.inr rfl⟩)
  obtain ⟨a', ha', hac⟩ := pick H.axml
  obtain ⟨b', hb', hbc⟩ := pick H.bext
  rw [finishRead_chunks hg hfmt (by rcases hcc with rfl | rfl; trivial; exact hchna) ⟨s1, s2, hc', ha', hb'⟩ hds hdata]
  exact ⟨rfl, rfl, rfl, hcc, hac, hbc⟩

theorem trunc_chunks {f pre ff : Bytes} (hf : f = pre ++ encAll cs) (hok : ∀ x ∈ cs, x.OK ds)
    (hpre : 1 ≤ pre.length) (k : Nat) (hk1 : pre.length ≤ k) (hk2 : k < f.length) (t : Table) (w : List Warn)
    (hw : readChunks (f.take k) ds ((f.take k).length + 1) pre.length [] [] = .ok (t, w)) :
    TruncOK ⟨1, fmt.channels, fmt.rate, fmt.bits⟩ (data.length / fmt.blockAlign) data chna axml bext
      (finishRead (f.take k) ff ds t w) := by
  rcases walk_cut ds cs hok (f := f) (tail := []) (by rw [List.append_nil]; exact hf) hpre hk1
    (by rw [hf, List.length_append] at hk2; exact hk2) with he | ⟨A', tail', w', hw', hfk, hsub⟩
  · rw [he] at hw; cases hw
  · rw [hw'] at hw; cases hw
    exact truncOK_of_sub hfmt hchna H hds hdata hfk hsub

end

theorem trunc_body {f pre ff : Bytes} {F : List Chunk} {fmt : Fmt} {c0 cF : Option (List ChnaEntry)}
    {a0 b0 aF bF : Option Bytes} {sz : Nat} {data : Bytes} {ds : Option Ds64}
    (hfmt : FmtOK fmt) (hc0 : ChnaOK c0) (hcF : ChnaOK cF)
    (hf : f = pre ++ encAll (F ++ bodyC fmt c0 a0 b0 sz data (pad data.length) cF aF bF))
    (hF : ∀ x ∈ F, x.id = idJUNK)
    (hok : ∀ x ∈ F ++ bodyC fmt c0 a0 b0 sz data (pad data.length) cF aF bF, x.OK ds)
    (hds : ∀ d, ds = some d → d.dataSize = data.length)
    (hdata : data.length % fmt.blockAlign = 0)
    (hpre : 1 ≤ pre.length) (k : Nat) (hk1 : pre.length ≤ k) (hk2 : k < f.length) :
    TruncOK ⟨1, fmt.channels, fmt.rate, fmt.bits⟩ (data.length / fmt.blockAlign) data
        (effChna c0 cF) (effMeta a0 aF) (effMeta b0 bF)
      (match readChunks (f.take k) ds ((f.take k).length + 1) pre.length [] [] with
       | .error e => .error e
       | .ok (t, w) => finishRead (f.take k) ff ds t w) := by
  cases hw : readChunks (f.take k) ds ((f.take k).length + 1) pre.length [] [] with
  | error e => trivial
  | ok tw =>
    obtain ⟨t, w⟩ := tw
    exact trunc_chunks hfmt (chnaOK_effChna hc0 hcF)
      (bodyC_holds hF fmt c0 a0 b0 sz data (pad data.length) cF aF bF) hds hdata hf hok hpre k hk1 hk2 t w hw

theorem prefix_short {α : Type} {L M X W : List α} (hX : X.length ≤ 1) (h : L ++ M = X ++ W) :
    L = [] ∨ ∃ L', L = X ++ L' ∧ L' ++ M = W := by
  cases X with
  | nil => exact Or.inr ⟨L, rfl, by simpa using h⟩
  | cons x X =>
    have : X = [] := by cases X with
      | nil => rfl
      | cons _ _ => simp at hX
    subst this
    cases L with
    | nil => exact Or.inl rfl
    | cons l L =>
      simp at h
      exact Or.inr ⟨L, by rw [h.1]; rfl, h.2⟩

theorem optChnaC_length (c : Option (List ChnaEntry)) : (optChnaC c).length ≤ 1 := by cases c <;> simp [optChnaC]
theorem optMetaC_length (id : Bytes) (v : Option Bytes) : (optMetaC id v).length ≤ 1 := by
  rcases v with _ | _ | ⟨x, xs⟩ <;> simp [optMetaC]

/-- A prefix of the writer's late chunks is the late chunks for weaker pending values: each of chna / axml / bext as
it was or `None` (a file cut between two late chunks is the finalised file of such a history). -/
theorem prefix_lateC {cw aw bw : Bool} {c : Option (List ChnaEntry)} {a b : Option Bytes} {L M : List Chunk}
    (h : L ++ M = lateC cw aw bw c a b) :
    ∃ c' a' b', (c' = c ∨ c' = none) ∧ (a' = a ∨ a' = none) ∧ (b' = b ∨ b' = none) ∧
      L = lateC cw aw bw c' a' b' := by
  have nilC : (if cw then [] else optChnaC none) = ([] : List Chunk) := by cases cw <;> rfl
  have nilA : (if aw then [] else optMetaC idAxml none) = ([] : List Chunk) := by cases aw <;> rfl
  have nilB : (if bw then [] else optMetaC idBext none) = ([] : List Chunk) := by cases bw <;> rfl
  unfold lateC at h
  rcases prefix_short (by cases cw <;> simp [optChnaC_length]) h with rfl | ⟨L1, rfl, h1⟩
  · exact ⟨none, none, none, Or.inr rfl, Or.inr rfl, Or.inr rfl, by simp [lateC, nilC, nilA, nilB]⟩
  · rcases prefix_short (by cases aw <;> simp [optMetaC_length]) h1 with rfl | ⟨L2, rfl, h2⟩
    · exact ⟨c, none, none, Or.inl rfl, Or.inr rfl, Or.inr rfl, by simp [lateC, nilA, nilB]⟩
    · have h2' : L2 ++ M = (if bw then [] else optMetaC idBext b) ++ [] := by simpa using h2
      rcases prefix_short (by cases bw <;> simp [optMetaC_length]) h2' with rfl | ⟨L3, rfl, h3⟩
      · exact ⟨c, a, none, Or.inl rfl, Or.inl rfl, Or.inr rfl, by simp [lateC, nilB]⟩
      · have : L3 = [] := (List.append_eq_nil_iff.1 h3).1
        subst this
        exact ⟨c, a, b, Or.inl rfl, Or.inl rfl, Or.inl rfl, by simp [lateC]⟩

theorem readRiff_short {f id s4 rest : Bytes} (hf : f = id ++ (s4 ++ (idWAVE ++ rest)))
    (hid : id = idRIFF ∨ id = idBW64) (hs : s4.length = 4) {k : Nat} (hk : k < 12) :
    readRiff (f.take k) = .error .struct := by
  have hidl : id.length = 4 := by rcases hid with rfl | rfl <;> rfl
  by_cases h8 : k < 8
  · have := readAt_take_short f (p := 0) (n := 8) (by omega) (by omega)
    simp [readRiff, this]
  · have h8' : readAt (f.take k) 0 8 = id ++ s4 := by
      rw [readAt_take_full f (by omega)]
      exact readAt_mid (a := []) (b := id ++ s4) (r := idWAVE ++ rest) (by simp [hf]) rfl (by simp [hidl, hs])
    have ht : (id ++ s4).take 4 = id := by rw [← hidl]; simp
    have h4 := readAt_take_short f (k := k) (p := 8) (n := 4) (by omega) (by omega)
    simp only [readRiff, h8', ht]
    rcases hid with rfl | rfl <;> simp [hs, h4, idRIFF, idRF64, idBW64]

theorem readHead_riff_short {f s4 rest : Bytes} (hf : f = idRIFF ++ (s4 ++ (idWAVE ++ rest))) (hs : s4.length = 4)
    {k : Nat} (hk : k < 12) : readHead (f.take k) = .error .struct := by
  simp only [readHead, readRiff_short hf (Or.inl rfl) hs hk]

theorem readHead_bw64_short {f rest : Bytes} {R n : Nat}
    (hf : f = idBW64 ++ (ffff ++ (idWAVE ++ (ds64Chunk R n ++ rest)))) {k : Nat} (hk : k < 48) :
    readHead (f.take k) = .error .struct := by
  by_cases h12 : k < 12
  · simp only [readHead, readRiff_short hf (Or.inr rfl) rfl h12]
  · have hfk : f.take k = idBW64 ++ (ffff ++ (idWAVE ++ (ds64Chunk R n ++ rest).take (k - 12))) := by
      have : f = (idBW64 ++ (ffff ++ idWAVE)) ++ (ds64Chunk R n ++ rest) := by simp [hf]
      rw [this, List.take_append, List.take_of_length_le (by simp [idBW64, ffff, idWAVE]; omega)]
      simp [idBW64, ffff, idWAVE]
    have hds : readDs64 (f.take k) = .error .struct := by
      by_cases h20 : k < 20
      · have := readAt_take_short f (k := k) (p := 12) (n := 8) (by omega) (by omega)
        simp [readDs64, this]
      · have h8 : readAt (f.take k) 12 8 = idDs64 ++ le 4 28 := by
          rw [readAt_take_full f (by omega)]
          exact readAt_mid (a := idBW64 ++ (ffff ++ idWAVE)) (b := idDs64 ++ le 4 28)
            (r := (le 8 R ++ le 8 n ++ le 8 0 ++ le 4 0) ++ rest) (by simp [hf, ds64Chunk]) rfl rfl
        have hd4 : (idDs64 ++ le 4 28).take 4 = idDs64 := by decide
        have hd5 : fromLE ((idDs64 ++ le 4 28).drop 4) = 28 := by decide
        have hshort := readAt_take_short f (k := k) (p := 20) (n := 28) (by omega) (by omega)
        have hle : (readAt (f.take k) 20 28).length ≤ 28 := by simp only [readAt, List.length_take]; omega
        have hfix : ¬ (min 28 (readAt (f.take k) 20 28).length = 28) := by omega
        simp only [readDs64, h8, hd4, hd5]
        simp [hfix, idDs64]
    simp only [readHead, readRiff_ok hfk (Or.inr rfl) rfl, hds]
    simp [idRF64, idBW64]

theorem WrittenHead.readHead_take {force : Bool} {n : Nat} {pre ff : Bytes} {ds : Option Ds64}
    (h : WrittenHead force n pre ff ds) (rest : Bytes) {k : Nat} (hk : k < pre.length) :
    readHead ((pre ++ rest).take k) = .error .struct := by
  cases h with
  | riff _ R =>
    exact readHead_riff_short (s4 := le 4 R) (rest := rest) (by simp) (le_length 4 R)
      (by simpa [idRIFF, idWAVE, le_length] using hk)
  | bw64 R =>
    exact readHead_bw64_short (R := R) (n := n) (rest := rest) (by simp)
      (by simpa [idBW64, ffff, idWAVE, ds64Chunk, idDs64, le_length] using hk)

end Earverif.Bw64
