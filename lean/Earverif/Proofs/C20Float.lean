/-
C20 — the processors with the ms → samples conversion computed in binary64 (`stepG delaySamplesF`,
what the code does) coincide with the exact-arithmetic processors (`step`) on every spec whose
coefficient delays convert to the same number of samples either way (`Spec.floatExact`).
Core Lean only.
-/
import Earverif.Proofs.C20
namespace Earverif.TrackSpec
variable {α : Type} [Sample α]

theorem initDelayG_eq (fs : Int) (ms : Rat) (st : Option (Int × List α))
    (h : delaySamplesF fs ms = delaySamples fs ms) :
    initDelayG delaySamplesF fs ms st = initDelay fs ms st := by
  cases st with
  | none => simp only [initDelayG, initDelay, h]
  | some v => rfl

mutual
theorem stepG_eq (fs : Int) (nch : Nat) : ∀ (p : Proc α) (b : List (List α)), p.floatExact fs = true →
    stepG delaySamplesF fs nch p b = step fs nch p b
  | .silent, b, _ => rfl
  | .direct i, b, _ => rfl
  | .mix ps, b, h => by
    simp only [Proc.floatExact] at h
    simp only [stepG, step, stepListG_eq fs nch ps b h]
  | .gain p g, b, h => by
    simp only [Proc.floatExact] at h
    simp only [stepG, step, stepG_eq fs nch p b h]
  | .matrix p g d st, b, h => by
    simp only [Proc.floatExact, Bool.and_eq_true] at h
    simp only [stepG, step, stepG_eq fs nch p b h.1]
    cases d with
    | none => rfl
    | some ms =>
      have := h.2; simp only [decide_eq_true_eq] at this
      simp only [initDelayG_eq fs ms st this]
theorem stepListG_eq (fs : Int) (nch : Nat) : ∀ (ps : List (Proc α)) (b : List (List α)),
    Proc.floatExactList fs ps = true → stepListG delaySamplesF fs nch ps b = stepList fs nch ps b
  | [], _, _ => rfl
  | p :: ps, b, h => by
    simp only [Proc.floatExactList, Bool.and_eq_true] at h
    simp only [stepListG, stepList, stepG_eq fs nch p b h.1, stepListG_eq fs nch ps b h.2]
end

mutual
/-- a `process` call changes only delay memories, so float-exactness at any rate `fs'` (not only the rate
`fs` of the call) is the same before and after -/
theorem step_floatExact (fs fs' : Int) (nch : Nat) : ∀ (p : Proc α) (b : List (List α)) (r : Proc α × List α),
    step fs nch p b = .ok r → r.1.floatExact fs' = p.floatExact fs'
  | .silent, b, r, h => by cases h; rfl
  | .direct i, b, r, h => by
    simp only [step] at h
    split at h <;> cases h
    rfl
  | .mix ps, b, r, h => by
    simp only [step] at h
    split at h <;> cases h
    exact stepList_floatExact fs fs' nch ps b _ ‹_›
  | .gain p g, b, r, h => by
    simp only [step] at h
    split at h <;> cases h
    rename_i p' s heq
    exact step_floatExact fs fs' nch p b (p', s) heq
  | .matrix p g d st, b, r, h => by
    simp only [step] at h
    split at h
    · cases h
    · rename_i p' s heq
      have ih := step_floatExact fs fs' nch p b (p', s) heq
      cases d with
      | none => cases h; simp only [Proc.floatExact, ih]
      | some ms =>
        simp only at h
        split at h <;> cases h
        simp only [Proc.floatExact, ih]
theorem stepList_floatExact (fs fs' : Int) (nch : Nat) : ∀ (ps : List (Proc α)) (b : List (List α))
    (r : List (Proc α) × List (List α)),
    stepList fs nch ps b = .ok r → Proc.floatExactList fs' r.1 = Proc.floatExactList fs' ps
  | [], _, r, h => by cases h; rfl
  | p :: ps, b, r, h => by
    simp only [stepList] at h
    split at h
    · cases h
    · split at h <;> cases h
      rename_i p' o h1 _ ps' os h2
      simp only [Proc.floatExactList, step_floatExact fs fs' nch p b (p', o) h1,
        stepList_floatExact fs fs' nch ps b (ps', os) h2]
end

theorem runG_eq (fs : Int) (nch : Nat) : ∀ (parts : List (List (List α))) (p : Proc α),
    p.floatExact fs = true → runG delaySamplesF fs nch p parts = run fs nch p parts
  | [], _, _ => rfl
  | b :: rest, p, h => by
    simp only [runG, run, stepG_eq fs nch p b h]
    cases h1 : step fs nch p b with
    | error e => rfl
    | ok r => simp only [runG_eq fs nch rest r.1 ((step_floatExact fs fs nch p b r h1).trans h)]

theorem runMultiG_eq (fs : Int) (nch : Nat) : ∀ (parts : List (List (List α))) (ps : List (Proc α)),
    Proc.floatExactList fs ps = true → runMultiG delaySamplesF fs nch ps parts = runMulti fs nch ps parts
  | [], _, _ => rfl
  | b :: rest, ps, h => by
    simp only [runMultiG, runMulti, stepMultiG, stepMulti, stepListG_eq fs nch ps b h]
    cases h1 : stepList fs nch ps b with
    | error e => rfl
    | ok r =>
      have ih := runMultiG_eq fs nch rest r.1 ((stepList_floatExact fs fs nch ps b r h1).trans h)
      obtain ⟨ps', cols⟩ := r
      cases hc : cols.isEmpty <;> simp [hc, ih]

omit [Sample α] in
mutual
theorem build_floatExact (fs : Int) : ∀ (s : Spec α) (p : Proc α), build s = .ok p → s.floatExact fs = true →
    p.floatExact fs = true
  | .silent, p, h, _ => by cases h; rfl
  | .direct i, p, h, _ => by cases h; rfl
  | .mix ts, p, h, hf => by
    simp only [build] at h
    split at h
    · cases h
    · split at h <;> cases h
      exact buildList_floatExact fs ts _ ‹_› hf
  | .gain t g, p, h, hf => by
    simp only [build] at h
    split at h <;> cases h
    rename_i q heq
    exact build_floatExact fs t q heq hf
  | .matrix t g d, p, h, hf => by
    simp only [Spec.floatExact, Bool.and_eq_true] at hf
    simp only [build] at h
    split at h <;> cases h
    rename_i q heq
    simp only [Proc.floatExact, build_floatExact fs t q heq hf.1, hf.2, Bool.and_self]
theorem buildList_floatExact (fs : Int) : ∀ (ts : List (Spec α)) (ps : List (Proc α)), buildList ts = .ok ps →
    Spec.floatExactList fs ts = true → Proc.floatExactList fs ps = true
  | [], ps, h, _ => by cases h; rfl
  | t :: ts, ps, h, hf => by
    simp only [Spec.floatExactList, Bool.and_eq_true] at hf
    simp only [buildList] at h
    split at h
    · cases h
    · split at h <;> cases h
      rename_i q h1 _ qs h2
      simp only [Proc.floatExactList, build_floatExact fs t q h1 hf.1, buildList_floatExact fs ts qs h2 hf.2,
        Bool.and_self]
end

omit [Sample α] in
theorem Spec.floatExactList_eq_all (fs : Int) : ∀ ts : List (Spec α),
    Spec.floatExactList fs ts = ts.all (Spec.floatExact fs)
  | [] => rfl
  | t :: ts => by simp only [Spec.floatExactList, List.all_cons, Spec.floatExactList_eq_all fs ts]

variable [DecidableEq α]

omit [Sample α] [DecidableEq α] in
theorem floatExact_nodeWise (fs : Int) : NodeWise (α := α) (Spec.floatExact fs)
    (fun d => match d with | none => true | some ms => decide (delaySamplesF fs ms = delaySamples fs ms)) where
  silent := rfl
  mix ts := by simp only [Spec.floatExact, Spec.floatExactList_eq_all]
  gain _ _ := by simp only [Spec.floatExact]
  matrix _ _ d := by cases d <;> simp only [Spec.floatExact]

theorem simplifyList_floatExact (fs : Int) : ∀ (ts : List (Spec α)),
    Spec.floatExactList fs ts = true → Spec.floatExactList fs (simplifyList ts) = true := fun ts h => by
  rw [Spec.floatExactList_eq_all] at h ⊢
  exact simplifyList_preserves (floatExact_nodeWise fs) ts h

theorem simplify_floatExact (fs : Int) (s : Spec α) (h : s.floatExact fs = true) :
    (simplify s).floatExact fs = true :=
  simplify_preserves (floatExact_nodeWise fs) s h

theorem runSpecF_eq (fs : Int) (nch : Nat) (s : Spec α) (h : s.floatExact fs = true)
    (parts : List (List (List α))) : runSpecF fs nch s parts = runSpec fs nch s parts := by
  simp only [runSpecF, runSpec, runBuilt]
  cases h1 : build (simplify s) with
  | error e => rfl
  | ok p => exact runG_eq fs nch parts p (build_floatExact fs _ p h1 (simplify_floatExact fs s h))

theorem runMultiSpecF_eq (fs : Int) (nch : Nat) (ss : List (Spec α)) (h : Spec.floatExactList fs ss = true)
    (parts : List (List (List α))) : runMultiSpecF fs nch ss parts = runMultiSpec fs nch ss parts := by
  simp only [runMultiSpecF, runMultiSpec, buildMulti_eq_buildList]
  cases h1 : buildList (simplifyList ss) with
  | error e => rfl
  | ok ps => exact runMultiG_eq fs nch parts ps (buildList_floatExact fs _ ps h1 (simplifyList_floatExact fs ss h))

end Earverif.TrackSpec
