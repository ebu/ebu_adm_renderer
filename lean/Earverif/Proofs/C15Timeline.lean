/-
C15 — the renderer-side acceptance model of `Model/TimingFix.lean` (`accepted`, `blockStartEnd`,
`overlaps`, `interpCheck`) is the error behaviour of the metadata interpreters of
`Model/Timeline.lean` (`Timeline.blockStartEnd`, `interpObject`, `interpFixed`), which is the model
C02/C03 render with.  `accepted o bs` = the verdict of feeding the channel's blocks, as `MetaBlock`s
with the object's start / duration as `extra_data`, to ONE interpreter instance starting from the
initial state — for every sample rate (the sample rate only decides which processing blocks are
yielded, never whether an exception is raised).
-/
import Earverif.Model.Timeline
import Earverif.Proofs.C15


namespace Earverif.TimingFix
open Earverif.Timeline (MetaBlock IState Ext)

/-- the `TypeMetadata` the renderer sees for block `b` of a channel rendered for object `o`
(`extra_data.object_start`, `extra_data.object_duration`); the gains payload plays no role -/
def toMeta (o : Obj) (b : Block) : MetaBlock Unit :=
  ⟨o.start, o.duration, b.rtime, b.duration, b.jp, b.il, ()⟩

/-- exceptions of the interpreters as verdicts (`underrun` / `align` are raised by
`BlockProcessingChannel` / the aligner, never by an interpreter: `interpObject_raises`, `interpFixed_raises`) -/
def errVerdict : Timeline.Err → Verdict
  | .endsAfterObject => .endsAfterObject
  | .rtimeDurationMix => .mixedTiming
  | .overlapping => .overlap
  | .interpTooLong => .interpTooLong
  | .assertInf => .assertInf
  | .underrun => .ok
  | .align _ => .ok

/-- feed the metadata blocks in sequence to one `InterpretObjectMetadata` instance -/
def runObject (sr : Nat) : IState Unit → List (MetaBlock Unit) → Verdict
  | _, [] => .ok
  | st, m :: rest =>
    match Timeline.interpObject sr st m with
    | .error e => errVerdict e
    | .ok r => runObject sr r.1 rest

/-- feed the metadata blocks in sequence to one `InterpretDirectSpeakersMetadata` instance -/
def runFixed (sr : Nat) : IState Unit → List (MetaBlock Unit) → Verdict
  | _, [] => .ok
  | st, m :: rest =>
    match Timeline.interpFixed sr st m with
    | .error e => errVerdict e
    | .ok r => runFixed sr r.1 rest

/-- `None` end = `np.inf` -/
def extOf : Option Rat → Ext Rat
  | some x => .fin x
  | none => .inf

theorem overlapCheck_link (last : Option (Option Rat)) (s : Rat) (e : Ext Rat) :
    (match last.map extOf with
     | some l => if l.gtFin s then Except.error Timeline.Err.overlapping else Except.ok (s, e)
     | none => Except.ok (s, e)) =
      if overlaps last s then Except.error Timeline.Err.overlapping else Except.ok (s, e) := by
  rcases last with _ | _ | le <;> rfl

/-- `Timeline.blockStartEnd` (incl. its overlap check) in terms of the `TimingFix` pieces -/
theorem blockStartEnd_link (o : Obj) (b : Block) (last : Option (Option Rat)) :
    (match blockStartEnd o b with
     | .error v => ∃ err, Timeline.blockStartEnd (last.map extOf) (toMeta o b) = .error err ∧ errVerdict err = v
     | .ok (s, e) => Timeline.blockStartEnd (last.map extOf) (toMeta o b) =
         if overlaps last s then .error .overlapping else .ok (s, extOf e)) := by
  rcases b with ⟨_|r, _|d, io, jp, il⟩ <;> rcases o with ⟨os, _|D⟩ <;>
    simp only [Timeline.blockStartEnd, blockStartEnd, toMeta, Ext.ltFin, Option.map_none, Option.map_some, gt_iff_lt]
  · exact overlapCheck_link last _ _
  · exact overlapCheck_link last _ _
  · exact ⟨_, rfl, rfl⟩
  · exact ⟨_, rfl, rfl⟩
  · exact ⟨_, rfl, rfl⟩
  · exact ⟨_, rfl, rfl⟩
  · exact overlapCheck_link last _ _
  · by_cases h : os.getD 0 + D < os.getD 0 + r + d
    · simp only [h, decide_true, if_true]
      exact ⟨_, rfl, rfl⟩
    · simp only [h, decide_false, Bool.false_eq_true, if_false]
      exact overlapCheck_link last _ _

/-- DirectSpeakers (and any non-Objects) channel: `acceptGo` is `InterpretDirectSpeakersMetadata` -/
theorem acceptGo_eq_runFixed (sr : Nat) (o : Obj) : ∀ (bs : List Block) (last : Option (Option Rat))
    (st : IState Unit), (∀ b ∈ bs, b.isObjects = false) → st.tlast = last.map extOf →
    runFixed sr st (bs.map (toMeta o)) = acceptGo o last bs
  | [], _, _, _, _ => rfl
  | b :: rest, last, st, hb, h1 => by
    obtain ⟨hio, hb⟩ := List.forall_mem_cons.1 hb
    have hl := blockStartEnd_link o b last
    rw [← h1] at hl
    rw [acceptGo_cons]
    simp only [List.map, runFixed, Timeline.interpFixed]
    cases hbs : blockStartEnd o b with
    | error v =>
      rw [hbs] at hl
      obtain ⟨err, h3, h4⟩ := hl
      simp only [h3, h4]
    | ok p =>
      obtain ⟨s, e⟩ := p
      rw [hbs] at hl
      simp only at hl ⊢
      rw [hl]
      by_cases hov : overlaps last s = true
      · simp only [hov, if_true]; rfl
      · simp only [hov, Bool.false_eq_true, if_false, interpCheck, hio]
        exact acceptGo_eq_runFixed sr o rest (some e) _ hb rfl

/-- `InterpretObjectMetadata.__call__` after `block_start_end` has returned `(s, e)`: the target time of the
interpolation decides everything (`ys`, the processing blocks yielded, depend on `sr`; the verdict does not) -/
theorem interpObject_eq {V : Type} (sr : Nat) (st : IState V) (m : MetaBlock V) (s : Rat) (e : Ext Rat)
    (h : Timeline.blockStartEnd st.tlast m = .ok (s, e)) :
    ∃ ys, Timeline.interpObject sr st m =
      if (Ext.addFin s (Timeline.interpLength m (e.subFin s))).gt e then .error .interpTooLong
      else if st.last_block_end = some (.fin s) ∧ Ext.addFin s (Timeline.interpLength m (e.subFin s)) = .inf
        then .error .assertInf
      else .ok (⟨some e, some e, some m.gains⟩, ys) := by
  simp only [Timeline.interpObject, h]
  generalize Ext.addFin s (Timeline.interpLength m (e.subFin s)) = T
  by_cases hT : T.gt e = true
  · exact ⟨[], by simp only [hT, if_true]⟩
  · by_cases hc : st.last_block_end = some (.fin s)
    · cases T with
      | inf =>
        refine ⟨[], ?_⟩
        simp only [hT, hc, if_true, if_false, and_self, Ext.mulNat, ne_eq, reduceCtorEq, not_false_eq_true]
      | fin t =>
        apply Exists.intro
        simp only [hT, hc, if_true, if_false, Ext.mulNat, ← apply_ite Except.ok, reduceCtorEq, and_false]
        rfl
    · apply Exists.intro
      simp only [hT, hc, if_false, false_and, Ext.mulNat, ← apply_ite Except.ok]
      rfl

/-- `interp_length = interpolationLength or 0 if jumpPosition.flag else end - start` -/
theorem target_link (o : Obj) (b : Block) (s : Rat) (e : Option Rat) :
    Ext.addFin s (Timeline.interpLength (toMeta o b) ((extOf e).subFin s)) =
      if b.jp then .fin (s + b.il.getD 0) else extOf e := by
  cases hj : b.jp
  · simp only [Timeline.interpLength, toMeta, hj, Bool.false_eq_true, if_false]
    cases e with
    | none => rfl
    | some e => simp only [extOf, Ext.subFin, Ext.addFin, add_sub_self]
  · simp only [Timeline.interpLength, toMeta, hj, if_true]
    cases b.il <;> rfl

/-- `InterpretObjectMetadata.__call__` after `block_start_end` has returned: it raises exactly when and what
`interpCheck` says, and otherwise leaves both state fields at the block end -/
theorem interpObject_tail (sr : Nat) (o : Obj) (b : Block) (last : Option (Option Rat)) (st : IState Unit)
    (s : Rat) (e : Option Rat) (h2 : st.last_block_end = last.map extOf)
    (hbs : Timeline.blockStartEnd st.tlast (toMeta o b) = .ok (s, extOf e)) (hio : b.isObjects = true) :
    (match interpCheck b last s e with
     | some v => ∃ err, Timeline.interpObject sr st (toMeta o b) = .error err ∧ errVerdict err = v
     | none => ∃ st' ys, Timeline.interpObject sr st (toMeta o b) = .ok (st', ys) ∧
         st'.tlast = some (extOf e) ∧ st'.last_block_end = some (extOf e)) := by
  obtain ⟨ys, h⟩ := interpObject_eq sr st (toMeta o b) s (extOf e) hbs
  rw [target_link, h2] at h
  rw [h]
  have hl : (last.map extOf = some (.fin s)) = (last = some (some s)) := by
    rcases last with _ | _ | x <;> simp [extOf]
  simp only [interpCheck, hio, if_true, hl]
  cases e with
  | some e' =>
    cases hj : b.jp with
    | false =>
      -- finite end, no jump: the target is the end, never too long, never infinite
      simp only [Bool.false_eq_true, if_false, extOf, Ext.gt, Rat.lt_irrefl, decide_false, reduceCtorEq, and_false,
        Bool.false_and]
      exact ⟨_, _, rfl, rfl, rfl⟩
    | true =>
      -- finite end, jump: the target is `s + il`, too long exactly if it lies after the end
      by_cases hlt : e' < s + b.il.getD 0
      · simp only [if_true, extOf, Ext.gt, gt_iff_lt, hlt, decide_true, Bool.and_self]
        exact ⟨_, rfl, rfl⟩
      · simp only [if_true, extOf, Ext.gt, gt_iff_lt, hlt, decide_false, Bool.and_false, Bool.false_eq_true, if_false,
          reduceCtorEq, and_false]
        exact ⟨_, _, rfl, rfl, rfl⟩
  | none =>
    cases hj : b.jp with
    | true =>
      -- infinite end, jump: the target `s + il` is finite
      simp only [if_true, extOf, Ext.gt, Bool.false_eq_true, if_false, reduceCtorEq, and_false, Bool.not_true,
        Bool.false_and]
      exact ⟨_, _, rfl, rfl, rfl⟩
    | false =>
      -- infinite end, no jump: the target is infinite, which the assertion rejects exactly if the block is contiguous
      -- with the previous one (only then is the target used)
      simp only [Bool.false_eq_true, if_false, extOf, Ext.gt, and_true, Bool.not_false, Bool.true_and, beq_iff_eq]
      by_cases hls : last = some (some s)
      · simp only [hls, if_true]
        exact ⟨_, rfl, rfl⟩
      · simp only [hls, if_false]
        exact ⟨_, _, rfl, rfl, rfl⟩

/-- Objects channel: `acceptGo` is `InterpretObjectMetadata` -/
theorem acceptGo_eq_runObject (sr : Nat) (o : Obj) : ∀ (bs : List Block) (last : Option (Option Rat))
    (st : IState Unit), (∀ b ∈ bs, b.isObjects = true) → st.tlast = last.map extOf →
    st.last_block_end = last.map extOf → runObject sr st (bs.map (toMeta o)) = acceptGo o last bs
  | [], _, _, _, _, _ => rfl
  | b :: rest, last, st, hb, h1, h2 => by
    obtain ⟨hio, hb⟩ := List.forall_mem_cons.1 hb
    have hl := blockStartEnd_link o b last
    rw [← h1] at hl
    rw [acceptGo_cons]
    simp only [List.map, runObject]
    cases hbs : blockStartEnd o b with
    | error v =>
      rw [hbs] at hl
      obtain ⟨err, h3, h4⟩ := hl
      simp only [Timeline.interpObject, h3, h4]
    | ok p =>
      obtain ⟨s, e⟩ := p
      rw [hbs] at hl
      simp only at hl ⊢
      by_cases hov : overlaps last s = true
      · simp only [hov, if_true] at hl ⊢
        simp only [Timeline.interpObject, hl]; rfl
      · simp only [hov, Bool.false_eq_true, if_false] at hl ⊢
        have ht := interpObject_tail sr o b last st s e h2 hl hio
        cases hc : interpCheck b last s e with
        | some v =>
          rw [hc] at ht
          obtain ⟨err, h3, h4⟩ := ht
          simp only [h3, h4]
        | none =>
          rw [hc] at ht
          obtain ⟨st', ys, h3, h4, h5⟩ := ht
          simp only [h3]
          exact acceptGo_eq_runObject sr o rest (some e) st' hb h4 h5

theorem blockStartEnd_raises {G : Type} (lbe : Option (Ext Rat)) (m : MetaBlock G) (e : Timeline.Err)
    (h : Timeline.blockStartEnd lbe m = .error e) : errVerdict e ≠ .ok := by
  simp only [Timeline.blockStartEnd] at h
  split at h
  · rename_i h'
    cases h
    repeat' split at h'
    all_goals cases h'
    all_goals nofun
  · repeat' split at h
    all_goals cases h
    all_goals nofun

/-- What an interpreter raises is never one of the two exceptions `errVerdict` sends to `.ok`: a run has verdict `.ok`
only if no call raised. -/
theorem interpObject_raises {V : Type} (sr : Nat) (st : IState V) (m : MetaBlock V) (e : Timeline.Err)
    (h : Timeline.interpObject sr st m = .error e) : errVerdict e ≠ .ok := by
  cases hb : Timeline.blockStartEnd st.tlast m with
  | error e' =>
    simp only [Timeline.interpObject, hb] at h
    cases h
    exact blockStartEnd_raises _ _ _ hb
  | ok p =>
    obtain ⟨ys, h'⟩ := interpObject_eq sr st m p.1 p.2 hb
    rw [h'] at h
    repeat' split at h
    all_goals cases h
    all_goals nofun

theorem interpFixed_raises {G : Type} (sr : Nat) (st : IState G) (m : MetaBlock G) (e : Timeline.Err)
    (h : Timeline.interpFixed sr st m = .error e) : errVerdict e ≠ .ok := by
  simp only [Timeline.interpFixed] at h
  split at h
  · cases h; exact blockStartEnd_raises _ _ _ ‹_›
  · cases h

/-- The verdict is that of the exception raised by the first failing block, `.ok` if there is none (`errVerdict` sends `underrun` / `align` to `.ok` as well, but no interpreter raises them:
`interpObject_raises`, `interpFixed_raises`). -/
theorem accepted_eq_interpreters (sr : Nat) (o : Obj) (bs : List Block) :
    ((∀ b ∈ bs, b.isObjects = true) → runObject sr {} (bs.map (toMeta o)) = accepted o bs) ∧
    ((∀ b ∈ bs, b.isObjects = false) → runFixed sr {} (bs.map (toMeta o)) = accepted o bs) :=
  ⟨fun h => acceptGo_eq_runObject sr o bs none {} h rfl rfl,
   fun h => acceptGo_eq_runFixed sr o bs none {} h rfl⟩

theorem accepted_ok_iff_object (sr : Nat) (o : Obj) (bs : List Block) (h : ∀ b ∈ bs, b.isObjects = true) :
    accepted o bs = .ok ↔ runObject sr {} (bs.map (toMeta o)) = .ok := by
  rw [(accepted_eq_interpreters sr o bs).1 h]

theorem accepted_ok_iff_fixed (sr : Nat) (o : Obj) (bs : List Block) (h : ∀ b ∈ bs, b.isObjects = false) :
    accepted o bs = .ok ↔ runFixed sr {} (bs.map (toMeta o)) = .ok := by
  rw [(accepted_eq_interpreters sr o bs).2 h]

end Earverif.TimingFix
