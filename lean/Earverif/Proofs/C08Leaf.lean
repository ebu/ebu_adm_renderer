/-
Table rows → model properties: the attribute keys, element names and text handlers of `ofRows` are computed from
the strings of the rows, so that these parts of `KeysOK` are decided on the extracted tables (`keysOK_ofRows`; the
argument lists stay a hypothesis, because the arguments of the hand-written handlers are not in the rows), the
concrete leaf codecs round-trip on their domains, and the field hypotheses of a declarative row follow from checks on
the row (`rowDefaultOK`, `rowEnumOK`, `rowParseOnlyOK`) and on the object's value (`RowValueOK`, `CdOK`): `fieldOK_ofRow`.
-/
import Earverif.Model.XmlLeaf
import Earverif.Proofs.C08Codec
import Earverif.Proofs.C08Digits

namespace Earverif.XmlCodec
open Earverif.Digits

def rowAttrKeys (r : Row) : List String :=
  if r.kind = "Attribute" then [r.admName]
  else if r.kind = "TypeAttribute" then [r.admName, r.labelName] else []

def rowElemNames (r : Row) : List String :=
  if r.kind = "AttrElement" ∨ r.kind = "ListElement" ∨ r.kind = "CustomElement" then [r.admName] else []

def rowDeclArg? (r : Row) : Option String :=
  if r.kind = "Attribute" ∨ r.kind = "HandleText" ∨ r.kind = "TypeAttribute" then some r.argName
  else if r.kind = "AttrElement" ∨ r.kind = "ListElement" then (if r.parseOnly then none else some r.argName)
  else none

def rowIsText (r : Row) : Bool := r.kind == "HandleText"

def rowsKeysOK (rows : List Row) : Bool :=
  decide (rows.flatMap rowAttrKeys).Nodup && decide (rows.flatMap rowElemNames).Nodup &&
  decide (rows.filterMap rowDeclArg?).Nodup && decide ((rows.filter rowIsText).length ≤ 1)

theorem ofRowG_kind {V : Type} (lift : Codec Leaf → Codec V) (inj : Leaf → V) (impl : Row → CustomImpl V) (r : Row)
    (P : Property V → Prop)
    (h1 : r.kind = "Attribute" →
      P (.attr r.admName r.argName (lift (codecOf r.ty)) r.required (inj (leafOfRepr r.handlerDefault))))
    (h2 : r.kind = "AttrElement" →
      P (.attrElement r.admName r.argName (lift (codecOf r.ty)) r.required (inj (leafOfRepr r.handlerDefault))
        r.parseOnly))
    (h3 : r.kind = "ListElement" →
      P (.listElement r.admName r.argName (lift (codecOf r.ty)) r.required r.parseOnly))
    (h4 : r.kind = "HandleText" → P (.handleText r.argName (lift (codecOf r.ty))))
    (h5 : r.kind = "TypeAttribute" →
      P (.typeAttribute r.admName r.labelName r.argName (lift (enumDefCodec r.enum)) (lift (enumLabelCodec r.enum))
        r.required))
    (h6 : r.kind = "CustomElement" → P (.customElement r.admName (optArg r.argName) r.required (impl r)))
    (h7 : r.kind ≠ "Attribute" → r.kind ≠ "AttrElement" → r.kind ≠ "ListElement" → r.kind ≠ "HandleText" →
      r.kind ≠ "TypeAttribute" → r.kind ≠ "CustomElement" →
      P (.genericElement (optArg r.argName) r.required (impl r))) :
    P (ofRowG lift inj impl r) := by
  unfold ofRowG
  by_cases k1 : r.kind = "Attribute"
  · rw [if_pos k1]; exact h1 k1
  rw [if_neg k1]
  by_cases k2 : r.kind = "AttrElement"
  · rw [if_pos k2]; exact h2 k2
  rw [if_neg k2]
  by_cases k3 : r.kind = "ListElement"
  · rw [if_pos k3]; exact h3 k3
  rw [if_neg k3]
  by_cases k4 : r.kind = "HandleText"
  · rw [if_pos k4]; exact h4 k4
  rw [if_neg k4]
  by_cases k5 : r.kind = "TypeAttribute"
  · rw [if_pos k5]; exact h5 k5
  rw [if_neg k5]
  by_cases k6 : r.kind = "CustomElement"
  · rw [if_pos k6]; exact h6 k6
  rw [if_neg k6]
  exact h7 k1 k2 k3 k4 k5 k6

theorem attrKeys_ofRow (impl : Row → CustomImpl Leaf) (r : Row) : (ofRow impl r).attrKeys = rowAttrKeys r := by
  refine ofRowG_kind id id impl r (fun p => p.attrKeys = rowAttrKeys r) ?_ ?_ ?_ ?_ ?_ ?_ ?_
  all_goals
    intros
    simp [rowAttrKeys, Property.attrKeys, *]

theorem elemNames_ofRow (impl : Row → CustomImpl Leaf) (r : Row) : (ofRow impl r).elemNames = rowElemNames r := by
  refine ofRowG_kind id id impl r (fun p => p.elemNames = rowElemNames r) ?_ ?_ ?_ ?_ ?_ ?_ ?_
  all_goals
    intros
    simp [rowElemNames, Property.elemNames, *]

theorem declArg_ofRow (impl : Row → CustomImpl Leaf) (r : Row) : (ofRow impl r).declArg? = rowDeclArg? r := by
  refine ofRowG_kind id id impl r (fun p => p.declArg? = rowDeclArg? r) ?_ ?_ ?_ ?_ ?_ ?_ ?_
  all_goals
    intros
    simp [rowDeclArg?, Property.declArg?, *]

theorem textHandler_ofRow (impl : Row → CustomImpl Leaf) (r : Row) :
    ((ofRow impl r).textHandler?).isSome = rowIsText r := by
  refine ofRowG_kind id id impl r (fun p => p.textHandler?.isSome = rowIsText r) ?_ ?_ ?_ ?_ ?_ ?_ ?_
  all_goals
    intros
    simp [rowIsText, Property.textHandler?, *]

/-- the third conjunct of `rowsKeysOK` (distinct declarative arguments) is not used here; a caller whose rows are all
declarative gets `hargs` from it (`handlers_codec_roundtrip_pure`, Props/C08) -/
theorem keysOK_ofRows (impl : Row → CustomImpl Leaf) (rows : List Row) (h : rowsKeysOK rows = true)
    (hargs : (allArgs (ofRows impl rows)).Nodup) :
    KeysOK (ofRows impl rows) := by
  simp only [rowsKeysOK, Bool.and_eq_true, decide_eq_true_eq] at h
  obtain ⟨⟨⟨h1, h2⟩, _⟩, h4⟩ := h
  refine ⟨?_, ?_, hargs, ?_⟩
  · simpa [ofRows, List.flatMap_map, attrKeys_ofRow] using h1
  · simpa [ofRows, List.flatMap_map, elemNames_ofRow] using h2
  · rw [ofRows, List.filterMap_map, List.length_filterMap_eq_countP, List.countP_eq_length_filter]
    simpa [Function.comp_def, textHandler_ofRow] using h4

theorem stringCodec_roundtrip (s : String) : stringCodec.loads (stringCodec.dumps (.str s)) = some (.str s) := rfl

theorem trackUIDRefCodec_roundtrip_none :
    trackUIDRefCodec.loads (trackUIDRefCodec.dumps .none) = some .none := by
  simp [trackUIDRefCodec]

/-- an audioTrackUID reference whose id is not the reserved one (guaranteed by `ids_not_reserved`) -/
theorem trackUIDRefCodec_roundtrip_str (s : String) (h : s ≠ "ATU_00000000") :
    trackUIDRefCodec.loads (trackUIDRefCodec.dumps (.str s)) = some (.str s) := by
  simp [trackUIDRefCodec, h]

theorem boolCodec_roundtrip (b : Bool) : boolCodec.loads (boolCodec.dumps (.bool b)) = some (.bool b) := by
  cases b <;> simp [boolCodec]

theorem allDec_decStr (n : Nat) : allDec (decStr n) = true := by
  unfold allDec
  simp only [Bool.and_eq_true, Bool.not_eq_true', List.all_eq_true]
  refine ⟨?_, decStr_all_dec n⟩
  cases h : decStr n with
  | nil => exact absurd h (decStr_ne_nil n)
  | cons c cs => rfl

theorem isDec_minus : isDec '-' = false := by decide

theorem decStr_head_ne_minus (n : Nat) : ∃ c cs, decStr n = c :: cs ∧ c ≠ '-' := by
  cases h : decStr n with
  | nil => exact absurd h (decStr_ne_nil n)
  | cons c cs =>
    refine ⟨c, cs, rfl, ?_⟩
    rintro rfl
    have := decStr_all_dec n '-' (by rw [h]; simp)
    rw [isDec_minus] at this; cases this

theorem loadsInt_dumpsInt (i : Int) : loadsInt (dumpsInt i) = some i := by
  unfold loadsInt dumpsInt
  by_cases hi : i < 0
  · simp only [hi, if_true, String.toList_ofList, allDec_decStr, decNat_decStr]
    congr 1; omega
  · simp only [hi, if_false, String.toList_ofList]
    obtain ⟨c, cs, hcs, hc⟩ := decStr_head_ne_minus i.natAbs
    have hall := allDec_decStr i.natAbs
    have hval := decNat_decStr i.natAbs
    rw [hcs] at hall hval ⊢
    split
    · rename_i ds heq; injection heq with h1 _; exact absurd h1 hc
    · simp only [hall, if_true, hval]
      congr 1; omega

theorem intCodec_roundtrip (i : Int) : intCodec.loads (intCodec.dumps (.int i)) = some (.int i) := by
  simp [intCodec, loadsInt_dumpsInt]

theorem isDec_dot : isDec '.' = false := by decide

theorem loadsNumAbs_body (n : Nat) :
    loadsNumAbs (decStr (n / 100000) ++ '.' :: decPad 5 (n % 100000)) = some n := by
  unfold loadsNumAbs
  have hs := takeWhile_isDec (decStr (n / 100000)) ('.' :: decPad 5 (n % 100000)) (decStr_all_dec _)
    (Or.inr ⟨'.', _, rfl, isDec_dot⟩)
  simp only [hs.1, hs.2]
  have hl : (decPad 5 (n % 100000)).length = 5 := decPad_length 5 _ (by omega) (by omega)
  have ha : (decPad 5 (n % 100000)).all isDec = true := by
    rw [List.all_eq_true]; exact decPad_all_dec 5 _
  have hne : (decStr (n / 100000)).isEmpty = false := by
    cases h : decStr (n / 100000) with
    | nil => exact absurd h (decStr_ne_nil _)
    | cons c cs => rfl
  simp only [hne, hl, ha, decNat_decStr, decNat_decPad, Bool.not_false, Bool.and_self, decide_true, if_true]
  congr 1
  have := Nat.div_add_mod n 100000
  omega

theorem loadsNum_dumpsNum (k : Int) : loadsNum (dumpsNum k) = some k := by
  unfold loadsNum dumpsNum
  by_cases hk : k < 0
  · simp only [hk, if_true, String.toList_ofList, loadsNumAbs_body]
    congr 1; simp only [Int.ofNat_eq_natCast]; omega
  · simp only [hk, if_false, String.toList_ofList]
    obtain ⟨c, cs, hcs, hc⟩ := decStr_head_ne_minus (k.natAbs / 100000)
    have := loadsNumAbs_body k.natAbs
    rw [hcs] at this ⊢
    simp only [List.cons_append] at this ⊢
    split
    · rename_i ds heq; injection heq with h1 _; exact absurd h1 hc
    · simp only [this]
      congr 1; simp only [Int.ofNat_eq_natCast]; omega

/-- floats on the printable grid -/
theorem floatCodec_roundtrip (k : Int) : floatCodec.loads (floatCodec.dumps (.num k)) = some (.num k) := by
  simp [floatCodec, loadsNum_dumpsNum]

theorem find?_unique {α} {q : α → Bool} {x : α} {l : List α} (hx : x ∈ l) (hq : q x = true)
    (hu : ∀ y ∈ l, q y = true → y = x) : l.find? q = some x := by
  rw [← List.findSome?_guard]
  exact (findSome?_owner hx (fun y hy hs => hu y hy (by simpa using hs))).trans (by simp [hq])

theorem hexDigitVal_hexChar : ∀ d, d < 16 → hexDigitVal? (hexChar d) = some d := by decide

theorem foldlM_hex (ds : List Nat) (h : ∀ d ∈ ds, d < 16) (a : Nat) :
    (ds.map hexChar).foldlM (fun a c => (hexDigitVal? c).map fun d => a * 16 + d) a
      = some (ds.foldl (fun a d => a * 16 + d) a) := by
  induction ds generalizing a with
  | nil => rfl
  | cons d ds ih =>
    simp only [List.map_cons, List.foldlM_cons, List.foldl_cons, hexDigitVal_hexChar d (h d (by simp)),
      Option.map_some, Option.bind_eq_bind, Option.bind_some]
    exact ih (fun x hx => h x (by simp [hx])) _

theorem loadsHex_hexPad (w n : Nat) (hw : 1 ≤ w) : loadsHex (String.ofList (hexPad w n)) = some n := by
  unfold loadsHex
  rw [String.toList_ofList]
  -- `natDigits b` is in base `b + 2`: 14 is hexadecimal
  have hrep : hexPad w n = (List.replicate (w - (natDigits 14 n).length) 0 ++ natDigits 14 n).map hexChar := by
    unfold hexPad padLeft
    simp [List.map_append, List.map_replicate, hexChar]
  have hne : hexPad w n ≠ [] := by
    intro h
    have := hexPad_length_ge w n
    rw [h] at this; simp at this; omega
  cases hc : hexPad w n with
  | nil => exact absurd hc hne
  | cons c cs =>
    simp only
    rw [← hc, hrep, foldlM_hex]
    · congr 1
      have := ofDigits_replicate_zero 16 (w - (natDigits 14 n).length) (natDigits 14 n)
      unfold ofDigits at this
      rw [this]
      exact ofDigits_natDigits 14 n
    · intro d hd
      rw [List.mem_append] at hd
      rcases hd with hd | hd
      · rw [List.mem_replicate] at hd; omega
      · exact natDigits_lt 14 n d hd

theorem enumCodecs_roundtrip (tbl : List (String × Nat)) (n : String) (v : Nat) (hm : (n, v) ∈ tbl)
    (hn : (tbl.map (·.1)).Nodup) (hv : (tbl.map (·.2)).Nodup) :
    (enumDefCodec tbl).loads ((enumDefCodec tbl).dumps (.enum n v)) = some (.enum n v) ∧
    (enumLabelCodec tbl).loads ((enumLabelCodec tbl).dumps (.enum n v)) = some (.enum n v) := by
  have u1 : ∀ y ∈ tbl, y.1 = n → y = (n, v) := fun y hy hyn =>
    nodup_flatMap_unique (f := fun e => [e.1]) (by rwa [← List.map_eq_flatMap]) y hy (n, v) hm n (by simp [hyn])
      (by simp)
  have u2 : ∀ y ∈ tbl, y.2 = v → y = (n, v) := fun y hy hyv =>
    nodup_flatMap_unique (f := fun e => [e.2]) (by rwa [← List.map_eq_flatMap]) y hy (n, v) hm v (by simp [hyv])
      (by simp)
  constructor
  · simp only [enumDefCodec]
    rw [find?_unique (x := (n, v)) hm (by simp) (fun y hy h => u1 y hy (by simpa using h))]
    rfl
  · simp only [enumLabelCodec, loadsHex_hexPad 4 v (by omega), Option.bind_some]
    rw [find?_unique (x := (n, v)) hm (by simp) (fun y hy h => u2 y hy (by simpa using h))]
    rfl

/-- default elision is symmetric for this row: an optional item elides exactly the constructor default; a
required item is never elided (`default=None`) -/
def rowDefaultOK (r : Row) : Bool :=
  !(r.kind == "Attribute" || r.kind == "AttrElement") || (r.kind == "AttrElement" && r.parseOnly) ||
  (if r.required then r.handlerDefault == "None"
   else r.classDefault == "<no-class>" || r.handlerDefault == r.classDefault)

/-- `TypeAttribute` enum table: member names and values pairwise distinct, values fit four hex digits (the width
bound is about the shape of the text; the round trip, `fieldOK_ofRow`, needs the two `Nodup`s only) -/
def rowEnumOK (r : Row) : Bool :=
  !(r.kind == "TypeAttribute") ||
  (!r.enum.isEmpty && decide ((r.enum.map (·.1)).Nodup) && decide ((r.enum.map (·.2)).Nodup) &&
    r.enum.all (fun e => e.2 ≤ 0xFFFF))

def rowParseOnlyOK (r : Row) : Bool := !r.parseOnly || !r.required

/-- the object's value for a declarative row lies in the domain of the row's codec -/
def RowValueOK (o : Obj Leaf) (r : Row) : Prop :=
  if r.kind = "Attribute" ∨ (r.kind = "AttrElement" ∧ r.parseOnly = false) then
    ∃ v, o r.argName = .one v ∧
      (v ≠ leafOfRepr r.handlerDefault → (codecOf r.ty).loads ((codecOf r.ty).dumps v) = some v) ∧
      (r.required = true → v ≠ .none)
  else if r.kind = "ListElement" ∧ r.parseOnly = false then
    ∃ vs, o r.argName = .many vs ∧ (∀ v ∈ vs, (codecOf r.ty).loads ((codecOf r.ty).dumps v) = some v) ∧
      (vs = [] → r.required = false)
  else if r.kind = "HandleText" then
    ∃ v, o r.argName = .one v ∧ (codecOf r.ty).loads ((codecOf r.ty).dumps v) = some v
  else if r.kind = "TypeAttribute" then
    ∃ n v, o r.argName = .one (.enum n v) ∧ (n, v) ∈ r.enum
  else True

/-- `cd` is the constructor-default map the table records: an optional scalar argument defaults to the listed
constructor default, a list argument to "no entries" -/
def CdOK (cd : Obj Leaf) (r : Row) : Prop :=
  ((r.kind = "Attribute" ∨ (r.kind = "AttrElement" ∧ r.parseOnly = false)) → r.required = false →
    cd r.argName = .one (leafOfRepr (if r.classDefault = "<no-class>" then r.handlerDefault else r.classDefault))) ∧
  (r.kind = "ListElement" → r.parseOnly = false → cd r.argName = .many [])

theorem fieldOK_ofRow (impl : Row → CustomImpl Leaf) (ps : List (Property Leaf)) (e : Xml)
    (o cd : Obj Leaf) (r : Row)
    (hdef : rowDefaultOK r = true) (henum : rowEnumOK r = true) (hpo : rowParseOnlyOK r = true)
    (hv : RowValueOK o r) (hcd : CdOK cd r)
    (hfr : r.kind ≠ "Attribute" → r.kind ≠ "AttrElement" → r.kind ≠ "ListElement" → r.kind ≠ "HandleText" →
      r.kind ≠ "TypeAttribute" → FieldOK ps e o cd (ofRow impl r)) :
    FieldOK ps e o cd (ofRow impl r) := by
  have scalar : (r.kind = "Attribute" ∨ (r.kind = "AttrElement" ∧ r.parseOnly = false)) →
      ScalarOK o cd r.argName (codecOf r.ty) r.required (leafOfRepr r.handlerDefault) := by
    intro hk
    unfold RowValueOK at hv
    rw [if_pos hk] at hv
    obtain ⟨v, hov, hrt, hreq⟩ := hv
    refine ⟨v, hov, hrt, ?_⟩
    have hk' : (r.kind == "Attribute" || r.kind == "AttrElement") = true := by
      rcases hk with h | h <;> simp [h]
    have hex : (r.kind == "AttrElement" && r.parseOnly) = false := by
      rcases hk with h | h
      · simp [h]
      · simp [h.2]
    have hif : (if r.required then r.handlerDefault == "None"
        else r.classDefault == "<no-class>" || r.handlerDefault == r.classDefault) = true := by
      simpa [rowDefaultOK, hk', hex] using hdef
    cases hr : r.required with
    | true =>
      simp only [if_true]
      rw [hr] at hif
      simp only [if_true, beq_iff_eq] at hif
      rw [hif]; exact hreq hr
    | false =>
      simp only [Bool.false_eq_true, if_false]
      have h1 := hcd.1 hk hr
      rw [hr] at hif
      simp only [Bool.false_eq_true, if_false, Bool.or_eq_true, beq_iff_eq] at hif
      by_cases hc : r.classDefault = "<no-class>"
      · simpa [hc] using h1
      · simp only [hc, if_false] at h1
        rcases hif with h | h
        · exact absurd h hc
        · rw [h]; exact h1
  have parseOnly : r.parseOnly = true → r.required = false := fun hp => by simpa [rowParseOnlyOK, hp] using hpo
  -- the motive carries `ofRow impl r = p` so that the two hand-written kinds can hand back `hfr`, stated about `ofRow impl r`
  refine ofRowG_kind id id impl r (fun p => ofRow impl r = p → FieldOK ps e o cd p) ?_ ?_ ?_ ?_ ?_ ?_ ?_ rfl
  · intro k _
    exact scalar (Or.inl k)
  · intro k _
    cases hp : r.parseOnly with
    | true => exact Or.inl ⟨rfl, parseOnly hp⟩
    | false => exact Or.inr ⟨rfl, scalar (Or.inr ⟨k, hp⟩)⟩
  · intro k _
    cases hp : r.parseOnly with
    | true => exact Or.inl ⟨rfl, parseOnly hp⟩
    | false =>
      rw [RowValueOK, if_neg (by simp [k]), if_pos ⟨k, hp⟩] at hv
      obtain ⟨vs, hov, hrt, hreq⟩ := hv
      exact Or.inr ⟨rfl, vs, hov, hrt, fun hn => ⟨hreq hn, hcd.2 k hp⟩⟩
  · intro k _
    rw [RowValueOK, if_neg (by simp [k]), if_neg (by simp [k]), if_pos k] at hv
    exact hv
  · intro k _
    rw [RowValueOK, if_neg (by simp [k]), if_neg (by simp [k]), if_neg (by simp [k]), if_pos k] at hv
    obtain ⟨n, v, hov, hm⟩ := hv
    simp only [rowEnumOK, k, beq_self_eq_true, Bool.not_true, Bool.false_or, Bool.and_eq_true,
      decide_eq_true_eq] at henum
    have := enumCodecs_roundtrip r.enum n v hm henum.1.1.2 henum.1.2
    exact ⟨.enum n v, hov, this.1, this.2⟩
  · intro k he
    rw [← he]
    exact hfr (by simp [k]) (by simp [k]) (by simp [k]) (by simp [k]) (by simp [k])
  · intro k1 k2 k3 k4 k5 _ he
    rw [← he]
    exact hfr k1 k2 k3 k4 k5

end Earverif.XmlCodec
