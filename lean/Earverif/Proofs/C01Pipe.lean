/- C01: lemmas about the parts of `GainCalc.render` before the panners — `np.interp`, `extent_mod`, the
   distance/depth logic of `PolarExtentHandler.handle`, `diverge` positions. -/
import Earverif.Proofs.C01Sub

namespace Earverif.GainCalc

/-! ### `np.interp`: the clamp on the left, two small tables, and the bounds of the table values -/

theorem interp_of_le {x x0 : ℝ} (h : x ≤ x0) (f0 : ℝ) (xs fs : List ℝ) : interp x (x0 :: xs) (f0 :: fs) = f0 := by
  simp only [interp, if_pos h]

theorem interp_two_of_ge {x x0 x1 : ℝ} (h0 : x0 < x) (h1 : x1 ≤ x) (f0 f1 : ℝ) : interp x [x0, x1] [f0, f1] = f1 := by
  simp only [interp, if_neg (not_le.mpr h0), interp.go]
  split
  · rfl
  · rw [if_neg (not_lt.mpr h1)]

/-- the table `[0, e, c] ↦ [0, 0, c]` (that of `extent_mod` for extent 0) on its flat part -/
theorem interp_flat {x e : ℝ} (h : x ≤ e) (c : ℝ) : interp x [0, e, c] [0, 0, c] = 0 := by
  simp only [interp, interp.go]
  split
  · rfl
  · split
    · rfl
    · rename_i hne
      rw [if_pos (lt_of_le_of_ne h fun he => hne ((eqS_real x e).mpr he)), sub_self, zero_div, zero_mul, add_zero]

/-- the same table from its knee `e` to its end `c`: the line through `(e, 0)` and `(c, c)` -/
theorem interp_ramp_eq {x e c : ℝ} (he : 0 ≤ e) (hx : e ≤ x) (hc : x ≤ c) (hec : e < c) :
    interp x [0, e, c] [0, 0, c] = c / (c - e) * (x - e) := by
  rcases hx.eq_or_lt with rfl | hx
  · rw [interp_flat le_rfl, sub_self, mul_zero]
  have hne : eqS x e = false := eqS_of_ne hx.ne'
  simp only [interp, if_neg (not_le.mpr (he.trans_lt hx)), interp.go, hne, Bool.false_eq_true, if_false,
    if_neg (not_lt.mpr hx.le), sub_zero, add_zero, eqS_eq_decide, decide_eq_true_eq]
  split
  · rename_i h
    rw [h, div_mul_cancel₀ _ (sub_pos.mpr hec).ne']
  · rename_i h
    rw [if_pos (lt_of_le_of_ne hc h)]

/-- one segment of `np.interp`, `slope * (x - xa) + fa`, is the convex combination `(1 - t)·fa + t·fb` with
    `t = (x - xa)/(xb - xa)` in [0, 1]: it stays between bounds of its two ordinates -/
theorem interp_seg_bounds {x xa xb fa fb lo hi : ℝ} (hab : xa < xb) (h1 : xa ≤ x) (h2 : x ≤ xb)
    (hfa : lo ≤ fa ∧ fa ≤ hi) (hfb : lo ≤ fb ∧ fb ≤ hi) :
    lo ≤ (fb - fa) / (xb - xa) * (x - xa) + fa ∧ (fb - fa) / (xb - xa) * (x - xa) + fa ≤ hi := by
  have hd : 0 < xb - xa := sub_pos.mpr hab
  have ht0 : 0 ≤ (x - xa) / (xb - xa) := div_nonneg (sub_nonneg.mpr h1) hd.le
  have ht1 : 0 ≤ 1 - (x - xa) / (xb - xa) := sub_nonneg.mpr ((div_le_one hd).mpr (sub_le_sub_right h2 xa))
  rw [show (fb - fa) / (xb - xa) * (x - xa) + fa = (1 - (x - xa) / (xb - xa)) * fa + (x - xa) / (xb - xa) * fb by ring]
  generalize (x - xa) / (xb - xa) = t at ht0 ht1
  constructor
  · calc lo = (1 - t) * lo + t * lo := by ring
      _ ≤ _ := add_le_add (mul_le_mul_of_nonneg_left hfa.1 ht1) (mul_le_mul_of_nonneg_left hfb.1 ht0)
  · calc _ ≤ (1 - t) * hi + t * hi :=
        add_le_add (mul_le_mul_of_nonneg_left hfa.2 ht1) (mul_le_mul_of_nonneg_left hfb.2 ht0)
      _ = hi := by ring

theorem interp_go_bounds (x lo hi : ℝ) : ∀ (xs fs : List ℝ) (xa fa : ℝ), xa < x → lo ≤ fa → fa ≤ hi →
    (∀ f ∈ fs, lo ≤ f ∧ f ≤ hi) → lo ≤ interp.go x xa fa xs fs ∧ interp.go x xa fa xs fs ≤ hi
  | [], _, _, _, _, h1, h2, _ => by simp only [interp.go]; exact ⟨h1, h2⟩
  | _ :: _, [], _, _, _, h1, h2, _ => by simp only [interp.go]; exact ⟨h1, h2⟩
  | xb :: xs, fb :: fs, xa, fa, hx, h1, h2, hf => by
    have hfb := hf fb (by simp)
    simp only [interp.go]
    split
    · exact hfb
    · rename_i hne
      split
      · rename_i hlt
        exact interp_seg_bounds (hx.trans hlt) hx.le hlt.le ⟨h1, h2⟩ hfb
      · rename_i hnlt
        have hxb : xb < x := by
          rcases lt_trichotomy x xb with h | h | h
          · exact absurd h hnlt
          · exact absurd ((eqS_real x xb).mpr h) hne
          · exact h
        exact interp_go_bounds x lo hi xs fs xb fb hxb hfb.1 hfb.2 (fun f hf' => hf f (by simp [hf']))

theorem interp_bounds (x lo hi x0 f0 : ℝ) (xs fs : List ℝ) (hf : ∀ f ∈ f0 :: fs, lo ≤ f ∧ f ≤ hi) :
    lo ≤ interp x (x0 :: xs) (f0 :: fs) ∧ interp x (x0 :: xs) (f0 :: fs) ≤ hi := by
  have h0 := hf f0 (by simp)
  simp only [interp]
  split
  · exact h0
  · rename_i hle
    exact interp_go_bounds x lo hi xs fs x0 f0 (lt_of_not_ge hle) h0.1 h0.2 (fun f hf' => hf f (by simp [hf']))

theorem amountSpread_range (w h : ℝ) : 0 ≤ amountSpread w h ∧ amountSpread w h ≤ 1 := by
  simp only [amountSpread, zero_real, one_real]
  exact interp_bounds _ 0 1 _ _ _ _ (by
    intro f hf
    simp only [List.mem_cons, List.not_mem_nil, or_false] at hf
    rcases hf with rfl | rfl <;> norm_num)

theorem amountSpread_zero : amountSpread (0 : ℝ) 0 = 0 := by
  simp [amountSpread, maxS, interp]

theorem le_maxS_left (a b : ℝ) : a ≤ maxS a b := by
  simp only [maxS]
  split
  · rename_i h; exact h.le
  · exact le_rfl

/-- `ammount_spread = 1` once the larger of width and height reaches `fade_width` = 10 degrees -/
theorem amountSpread_of_ge {w h : ℝ} (hm : 10 ≤ maxS w h) : amountSpread w h = 1 := by
  simp only [amountSpread, zero_real, one_real, k_real, Rat.cast_ofNat]
  exact interp_two_of_ge (by linarith) hm 0 1

/-- below `fade_width`: `max(width, height) / 10`, the ramp of the fade -/
theorem amountSpread_of_le {w h : ℝ} (h0 : 0 ≤ maxS w h) (h10 : maxS w h ≤ 10) : amountSpread w h = maxS w h / 10 := by
  simp only [amountSpread, zero_real, one_real, k_real, Rat.cast_ofNat]
  generalize maxS w h = m at h0 h10
  rcases h0.eq_or_lt with rfl | hpos
  · rw [interp_of_le le_rfl, zero_div]
  simp only [interp, if_neg (not_le.mpr hpos), interp.go, eqS_eq_decide, decide_eq_true_eq]
  split
  · rename_i h; rw [h]; norm_num
  · rename_i h
    rw [if_pos (lt_of_le_of_ne h10 h)]; ring

theorem extentMod_range (extent distance : ℝ) (h0 : 0 ≤ extent) (h1 : extent ≤ 360) :
    0 ≤ extentMod extent distance ∧ extentMod extent distance ≤ 360 := by
  have h360 : ((360 : ℚ) : ℝ) = 360 := by norm_num
  simp only [extentMod, zero_real, k_real, h360]
  exact interp_bounds _ 0 360 _ _ _ _ (by
    intro f hf
    simp only [List.mem_cons, List.not_mem_nil, or_false] at hf
    rcases hf with rfl | rfl | rfl
    · norm_num
    · exact ⟨h0, h1⟩
    · norm_num)

/-! ### `PolarExtentHandler.handle`: one or two end distances, never negative -/

theorem polarDistances_zero (d : ℝ) : polarDistances d (zero : ℝ) = [d] := by
  simp only [polarDistances]
  rw [if_pos ((eqS_real _ _).mpr rfl)]

theorem polarExtents_zero_depth (d w h : ℝ) : polarExtents d w h zero = [(extentMod w d, extentMod h d)] := by
  simp only [polarExtents, polarDistances_zero, List.map_cons, List.map_nil]

theorem polarDistances_cases (distance depth : ℝ) :
    (polarDistances distance depth = [distance]) ∨ ∃ d1 d2, polarDistances distance depth = [d1, d2] ∧ 0 ≤ d1 ∧ 0 ≤ d2 := by
  simp only [polarDistances, zero_real]
  split
  · left; rfl
  · right
    refine ⟨_, _, rfl, ?_, ?_⟩ <;> · split <;> [exact le_rfl; (rename_i h; exact le_of_not_gt h)]

/-! ### `norm3`, `degrees`, `radians` over ℝ -/

theorem norm3_nonneg (p : V3 ℝ) : 0 ≤ norm3 p := Real.sqrt_nonneg _

theorem degrees_real (x : ℝ) : degrees x = x * (180 / Real.pi) := by
  simp only [degrees, k_real, pi_real, Rat.cast_ofNat]

theorem radians_real (x : ℝ) : radians x = x * (Real.pi / 180) := by
  simp only [radians, k_real, pi_real, Rat.cast_ofNat]

theorem radians_90 : radians (90 : ℝ) = Real.pi / 2 := by
  rw [radians_real]; ring

theorem radians_zero : radians (0 : ℝ) = 0 := by rw [radians_real, zero_mul]

theorem degrees_le_degrees {x y : ℝ} (h : x ≤ y) : degrees x ≤ degrees y := by
  rw [degrees_real, degrees_real]
  exact mul_le_mul_of_nonneg_right h (div_pos (by norm_num) Real.pi_pos).le

/-! ### `diverge`: positions -/

theorem clip_range (x : ℝ) {lo hi : ℝ} (h : lo ≤ hi) : lo ≤ clip x lo hi ∧ clip x lo hi ≤ hi := by
  simp only [clip]
  split
  · exact ⟨le_rfl, h⟩
  · split
    · exact ⟨h, le_rfl⟩
    · exact ⟨le_of_not_gt ‹_›, le_of_not_gt ‹_›⟩

theorem clip_one_range (x : ℝ) : -1 ≤ clip x (-one) one ∧ clip x (-one) one ≤ 1 := by
  simpa using clip_range x (lo := -one) (hi := one) (by simp)

/-- the first shape condition of `render` -/
theorem divergePositions_length (cartesian : Bool) (position : V3 ℝ) (value ar pr : Option ℝ) (v2 : Bool) :
    (divergePositions cartesian position value ar pr v2).length = (divergeGains value).length := by
  cases value with
  | none => simp [divergePositions, divergeGains]
  | some v =>
    simp only [divergePositions, divergeGains]
    split
    · rfl
    · cases cartesian <;> simp

theorem diverge_cart_in_cube (position : V3 ℝ) (v : ℝ) (hv : v ≠ 0) (ar pr : Option ℝ) (v2 : Bool) :
    ∀ q ∈ divergePositions true position (some v) ar pr v2,
      (-1 ≤ q.1 ∧ q.1 ≤ 1) ∧ (-1 ≤ q.2.1 ∧ q.2.1 ≤ 1) ∧ (-1 ≤ q.2.2 ∧ q.2.2 ≤ 1) := by
  have hne : eqS v zero = false := eqS_of_ne (by rwa [zero_real])
  intro q hq
  simp only [divergePositions, hne, Bool.false_eq_true, if_false, if_true, List.mem_cons, List.not_mem_nil,
    or_false] at hq
  rcases hq with rfl | rfl | rfl <;> exact ⟨clip_one_range _, clip_one_range _, clip_one_range _⟩

theorem diverge_polar_keeps_centre (position : V3 ℝ) (value ar pr : Option ℝ) (v2 : Bool) :
    position ∈ divergePositions false position value ar pr v2 := by
  cases value with
  | none => simp [divergePositions]
  | some v =>
    simp only [divergePositions]
    split <;> simp

end Earverif.GainCalc
