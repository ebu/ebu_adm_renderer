/- C19: azimuths outside the ADM range `[-180, 180]`.  The real `geom.relative_angle` wraps its argument with two
   `while` loops; with enough loop fuel the model's value is THE representative of `y` modulo 360 in `[x, x + 360)`
   (`relativeAngle_unique`), hence periodic in `y`; so are `inside_angle_range`, `_find_sector` and `point_polar_to_cart`, which therefore
   succeeds for every azimuth within the fuel, with the value of the representative in `[-180, 180)`.
   "Within the fuel" at sector level is `180 - 360 (m + 1) ≤ az < -180 + 360 (m + 2)`: the window
   `x - 360 n ≤ y < x + 360 (n + 1)` of `relativeAngle_periodic` for every `x = right.az ∈ (-180, 180]` at once. -/
import Earverif.Proofs.C19Extent

namespace Earverif.Conv

/-- Whole turns added to the angle do not change `relative_angle`, as long as both
arguments are within the loops' fuel (the real `while` loops have no bound, so for them this is every input). -/
theorem relativeAngle_periodic (n : Nat) (x y : ℝ) (t : ℤ)
    (h1 : x - 360 * n ≤ y) (h2 : y < x + 360 * (n + 1))
    (h1' : x - 360 * n ≤ y + 360 * t) (h2' : y + 360 * t < x + 360 * (n + 1)) :
    relativeAngle n x (y + 360 * t) = relativeAngle n x y := by
  obtain ⟨m1, m2⟩ := relativeAngle_mem n x y h1 h2
  obtain ⟨i, hi⟩ := relativeAngle_cong n x y
  exact relativeAngle_unique n x (y + 360 * t) _ (i - t) h1' h2' (by rw [hi]; push_cast; ring) m1 m2

/-- the premises are satisfiable at a non-trivial point: 190° seen from −180° is −170° + 360 = 190, and 550 ↦ 190 -/
example : relativeAngle 3 (-180 : ℝ) (190 + 360 * (1 : ℤ)) = relativeAngle 3 (-180 : ℝ) 190 := by
  apply relativeAngle_periodic <;> norm_num

theorem insideAngleRange_periodic (n : Nat) (x start stop tol : ℝ) (t : ℤ)
    (h1 : start - tol - 360 * n ≤ x) (h2 : x < start - tol + 360 * (n + 1))
    (h1' : start - tol - 360 * n ≤ x + 360 * t) (h2' : x + 360 * t < start - tol + 360 * (n + 1)) :
    insideAngleRange n (x + 360 * t) start stop tol = insideAngleRange n x start stop tol := by
  have h := relativeAngle_periodic n (start - tol) x t h1 h2 h1' h2'
  unfold relativeAngle at h
  unfold insideAngleRange
  simp only [h]

theorem findSector_periodic (m : Nat) (az : ℝ) (t : ℤ)
    (h1 : 180 - 360 * (m + 1 : ℕ) ≤ az) (h2 : az < -180 + 360 * ((m + 1 : ℕ) + 1))
    (h1' : 180 - 360 * (m + 1 : ℕ) ≤ az + 360 * t) (h2' : az + 360 * t < -180 + 360 * ((m + 1 : ℕ) + 1)) :
    findSector (RP (m + 1)) (az + 360 * t) = findSector (RP (m + 1)) az := by
  unfold findSector
  apply List.find?_congr
  intro s hs
  have g := good_of_mem hs
  have hf : (RP (m + 1)).fuel = m + 1 := (RP_consts (m + 1)).2.2.1
  rw [hf]
  rw [k0]
  have gR1 := g.hR1; have gR2 := g.hR2
  apply insideAngleRange_periodic <;> simp only [sub_zero] <;> linarith

theorem pointPolarToCart_periodic (m : Nat) (az el d : ℝ) (t : ℤ)
    (h1 : 180 - 360 * (m + 1 : ℕ) ≤ az) (h2 : az < -180 + 360 * ((m + 1 : ℕ) + 1))
    (h1' : 180 - 360 * (m + 1 : ℕ) ≤ az + 360 * t) (h2' : az + 360 * t < -180 + 360 * ((m + 1 : ℕ) + 1)) :
    pointPolarToCart (RP (m + 1)) (az + 360 * t) el d = pointPolarToCart (RP (m + 1)) az el d := by
  rw [pointPolarToCart_eq, pointPolarToCart_eq, findSector_periodic m az t h1 h2 h1' h2']
  cases hfs : findSector (RP (m + 1)) az with
  -- not `rfl`: that compares the two functions under `Option.map` first, `az + 360 * t` against `az` in ℝ
  | none => rw [Option.map_none, Option.map_none]
  | some s =>
    have g := good_of_mem (find_polar_sound m az s hfs).1
    have gR1 := g.hR1; have gR2 := g.hR2
    rw [Option.map_some, Option.map_some]
    unfold polarToCartIn
    rw [g.azToP_eq, g.azToP_eq,
      relativeAngle_periodic (m + 1) s.right.az az t (by linarith) (by linarith) (by linarith) (by linarith)]

/-- non-vacuity: 545° (= 185 + 360) and 185° with fuel 3 -/
example : pointPolarToCart (RP 3) (185 + 360 * (1 : ℤ)) 10 1 = pointPolarToCart (RP 3) 185 10 1 := by
  apply pointPolarToCart_periodic 2 <;> norm_num

theorem az_representative (az : ℝ) : ∃ (az0 : ℝ) (t : ℤ), az = az0 + 360 * t ∧ -180 ≤ az0 ∧ az0 < 180 := by
  refine ⟨az - 360 * ⌊(az + 180) / 360⌋, ⌊(az + 180) / 360⌋, by ring, ?_, ?_⟩
  · have := Int.floor_le ((az + 180) / 360); linarith
  · have := Int.lt_floor_add_one ((az + 180) / 360); linarith

theorem pointPolarToCart_total_any_az (m : Nat) (az el d : ℝ)
    (hf1 : 180 - 360 * (m + 1 : ℕ) ≤ az) (hf2 : az < -180 + 360 * ((m + 1 : ℕ) + 1)) :
    ∃ (az0 : ℝ) (t : ℤ) (r : (ℝ × ℝ × ℝ) × Nat), az = az0 + 360 * t ∧ -180 ≤ az0 ∧ az0 < 180 ∧
      pointPolarToCart (RP (m + 1)) az el d = some r ∧ pointPolarToCart (RP (m + 1)) az0 el d = some r := by
  obtain ⟨az0, t, he, h1, h2⟩ := az_representative az
  obtain ⟨r, hr⟩ := pointPolarToCart_total m az0 el d h1 (le_of_lt h2)
  have hm : (0 : ℝ) ≤ ((m : ℕ) : ℝ) := Nat.cast_nonneg m
  refine ⟨az0, t, r, he, h1, h2, ?_, hr⟩
  rw [he, pointPolarToCart_periodic m az0 el d t (by push_cast; linarith) (by push_cast; linarith)
    (by rw [← he]; exact hf1) (by rw [← he]; exact hf2)]
  exact hr

end Earverif.Conv
