/-
C09, sample level: joins the PCM model (`Model/Pcm.lean`, C16) with the writer/reader byte models.
What `write(samples)` appends, as a flattened list of fixed-width code blocks; slices of it decode and
de-interleave to the corresponding slice of the written frames mapped through `decode ∘ encode`.  Then: sample-level
histories as byte-level ones (`runS_eq`, `encOps_spec`), and `read` on written audio (`readSamples_written`).
-/
import Earverif.Proofs.C09Read
import Earverif.Props.C16
import Earverif.Props.C18
import Earverif.Proofs.ListLemmas

namespace Earverif.Pcm
open Earverif.Ieee

theorem flatten_drop_take_uniform {α : Type} (w : ℕ) : ∀ (L : List (List α)), (∀ l ∈ L, l.length = w) →
    ∀ c n, (L.flatten.drop (w * c)).take (w * n) = ((L.drop c).take n).flatten
  | [], _, c, n => by simp
  | l :: L, h, 0, 0 => by simp
  | l :: L, h, 0, n + 1 => by
    have hl := h l (by simp)
    have ih := flatten_drop_take_uniform w L (fun x hx => h x (by simp [hx])) 0 n
    simp only [Nat.mul_zero, List.drop_zero] at ih ⊢
    have e : w * (n + 1) = l.length + w * n := by rw [hl]; ring
    rw [List.flatten_cons, e, List.take_length_add_append, ih]
    simp
  | l :: L, h, c + 1, n => by
    have hl := h l (by simp)
    have ih := flatten_drop_take_uniform w L (fun x hx => h x (by simp [hx])) c n
    have e : w * (c + 1) = l.length + w * c := by rw [hl]; ring
    rw [List.flatten_cons, e, List.drop_length_add_append, ih]
    simp

theorem flatten_length_uniform {α : Type} (w : ℕ) (L : List (List α)) (h : ∀ l ∈ L, l.length = w) :
    L.flatten.length = w * L.length := by
  induction L with
  | nil => simp
  | cons l L ih =>
    rw [List.flatten_cons, List.length_append, ih (fun x hx => h x (by simp [hx])), h l (by simp), List.length_cons]
    ring

theorem interleave_cons {α : Type} [Inhabited α] (ch : ℕ) (hch : 0 < ch) (fr : List α) (frames : List (List α))
    (h : fr.length = ch) : interleave ch (fr :: frames) = fr ++ interleave ch frames := by
  unfold interleave
  simp only [List.length_cons]
  rw [show (frames.length + 1) * ch = ch + frames.length * ch by ring, List.range_add, List.map_append,
    List.map_map]
  congr 1
  · conv_rhs => rw [← range_map_getD fr default, h]
    apply List.map_congr_left
    intro i hi
    have hi' : i < ch := by simpa using hi
    simp [Nat.div_eq_of_lt hi', Nat.mod_eq_of_lt hi']
  · apply List.map_congr_left
    intro j _
    simp [Function.comp, Nat.add_div_left _ hch, Nat.add_mod_left]

theorem interleave_eq_flatten {α : Type} [Inhabited α] (ch : ℕ) (hch : 0 < ch) (frames : List (List α))
    (h : ∀ fr ∈ frames, fr.length = ch) : interleave ch frames = frames.flatten := by
  induction frames with
  | nil => simp [interleave]
  | cons fr frames ih =>
    rw [interleave_cons ch hch fr frames (h fr (by simp)), ih (fun x hx => h x (by simp [hx]))]
    simp

def codeBytes (b : ℕ) (v : ℤ) : List ℕ := (packCode b v).getD []

theorem codeBytes_length (b : ℕ) (hb : Depth b) (v : ℤ) : (codeBytes b v).length = b / 8 := by
  rcases hb with rfl | rfl | rfl <;> simp [codeBytes, packCode, length_toLE]

theorem pack_eq (b : ℕ) (hb : Depth b) (cs : List ℤ) : pack b cs = some ((cs.map (codeBytes b)).flatten) := by
  induction cs with
  | nil => rcases hb with rfl | rfl | rfl <;> simp [pack]
  | cons v vs ih =>
    rcases hb with rfl | rfl | rfl <;> simp [pack, ih, codeBytes, packCode]

theorem encodeBytes_eq (b : ℕ) (hb : Depth b) (xs : List ℚ) :
    encodeBytes b xs = some (((xs.map (encode b)).map (codeBytes b)).flatten) := pack_eq b hb _

theorem encodeBytes_append (b : ℕ) (hb : Depth b) (xs ys : List ℚ) (a c : List ℕ)
    (h1 : encodeBytes b xs = some a) (h2 : encodeBytes b ys = some c) : encodeBytes b (xs ++ ys) = some (a ++ c) := by
  rw [encodeBytes_eq b hb] at h1 h2 ⊢
  obtain rfl := Option.some.inj h1
  obtain rfl := Option.some.inj h2
  simp

theorem decodeBytes_pack (b : ℕ) (hb : Depth b) (cs : List ℤ) (h : ∀ c ∈ cs, IsCode b c) :
    decodeBytes b ((cs.map (codeBytes b)).flatten) = some (cs.map (decode b)) := by
  obtain ⟨bs, p, u, -⟩ := pack_unpack b hb cs h
  rw [pack_eq b hb] at p
  obtain rfl := Option.some.inj p
  simp [decodeBytes, u]

/-- If `data` is what the encoder makes of the concatenated rows of the
`ch`-channel frames `F`, then `data` holds `F.length` frames of `b/8 * ch` bytes, and the bytes of frames
`[c, c+n)` decode and de-interleave (no exception) to frames `[c, c+n)` of `F`, each sample mapped
through `decode ∘ encode`. -/
theorem decode_slice (b ch : ℕ) (hb : Depth b) (hch : 0 < ch) (F : List (List ℚ))
    (hF : ∀ fr ∈ F, fr.length = ch) (data : List ℕ) (hd : encodeBytes b F.flatten = some data) (c n : ℕ) :
    data.length = b / 8 * ch * F.length ∧
    (decodeBytes b ((data.drop (b / 8 * ch * c)).take (b / 8 * ch * n))).bind (deinterleave ch) =
      some (((F.drop c).take n).map (·.map (fun x => decode b (encode b x)))) := by
  rw [encodeBytes_eq b hb] at hd
  obtain rfl := Option.some.inj hd
  have hw : ∀ l ∈ (F.flatten.map (encode b)).map (codeBytes b), l.length = b / 8 := by
    intro l hl
    obtain ⟨v, -, rfl⟩ := List.mem_map.mp hl
    exact codeBytes_length b hb v
  constructor
  · rw [flatten_length_uniform (b / 8) _ hw, List.length_map, List.length_map, flatten_length_uniform ch F hF]
    ring
  · have e1 : b / 8 * ch * c = b / 8 * (ch * c) := by ring
    have e2 : b / 8 * ch * n = b / 8 * (ch * n) := by ring
    rw [e1, e2, flatten_drop_take_uniform (b / 8) _ hw]
    simp only [← List.map_drop, ← List.map_take]
    rw [flatten_drop_take_uniform ch F hF]
    set G := (F.drop c).take n with hG
    have hGr : ∀ fr ∈ G, fr.length = ch := fun fr hfr => hF fr (List.mem_of_mem_drop (List.mem_of_mem_take hfr))
    rw [decodeBytes_pack b hb _ (by
      intro v hv
      obtain ⟨x, -, rfl⟩ := List.mem_map.mp hv
      exact (encode_isCode b hb x).1)]
    simp only [Option.bind_some, List.map_map]
    have e3 : List.map (decode b ∘ encode b) G.flatten = (G.map (·.map (fun x => decode b (encode b x)))).flatten := by
      rw [List.map_flatten]; rfl
    rw [e3, ← interleave_eq_flatten ch hch _ (by
      intro fr hfr
      obtain ⟨g, hg, rfl⟩ := List.mem_map.mp hfr
      simpa using hGr g hg)]
    exact interleave_deinterleave ch hch _ (by
      intro fr hfr
      obtain ⟨g, hg, rfl⟩ := List.mem_map.mp hfr
      simpa using hGr g hg)

end Earverif.Pcm

namespace Earverif.Bw64
open Earverif.Pcm

def framesOf : List SOp → List (List Rat)
  | [] => []
  | .write fr :: ops => fr ++ framesOf ops
  | _ :: ops => framesOf ops

def BlocksOK (ch : ℕ) : List SOp → Prop
  | [] => True
  | .write frames :: ops => (∀ fr ∈ frames, fr.length = ch) ∧ BlocksOK ch ops
  | _ :: ops => BlocksOK ch ops

def pendChnaS (init : Option (List ChnaEntry)) : List SOp → Option (List ChnaEntry)
  | [] => init
  | .setChna v :: ops => pendChnaS v ops
  | _ :: ops => pendChnaS init ops

def pendAxmlS (init : Option Bytes) : List SOp → Option Bytes
  | [] => init
  | .setAxml v :: ops => pendAxmlS v ops
  | _ :: ops => pendAxmlS init ops

def pendBextS (init : Option Bytes) : List SOp → Option Bytes
  | [] => init
  | .setBext v :: ops => pendBextS v ops
  | _ :: ops => pendBextS init ops

theorem stepW_fmt (s : WState) (op : WOp) : (stepW s op).fmt = s.fmt := by cases op <;> rfl

/-- `Bw64Writer.write(samples)` is `append (encode_pcm_samples (interleave samples))`: the sample-level run
is the byte-level run on the encoded blocks, and raises exactly when a block cannot be encoded. -/
theorem runS_eq (sops : List SOp) : ∀ (s : WState), runS s sops = (encOps s.fmt sops).map (runW s) := by
  induction sops with
  | nil => intro s; simp [runS, encOps, runW]
  | cons op ops ih =>
    intro s
    cases op with
    | write frames =>
      simp only [runS, stepS, encOps, SOp.enc]
      cases hb : encodeBlock s.fmt frames with
      | none => simp
      | some b =>
        simp only [Option.map_some]
        rw [ih]
        cases encOps s.fmt ops <;> simp [runW, stepW]
    | setChna v | setAxml v | setBext v =>
      simp only [runS, stepS, encOps, SOp.enc]
      rw [ih]
      cases encOps s.fmt ops <;> simp [runW, stepW]

theorem openW_fmt (fmt : Fmt) (c0 : Option (List ChnaEntry)) (a0 b0 : Option Bytes) (force : Bool) :
    (openW fmt c0 a0 b0 force).fmt = fmt := by
  rw [openW_eq]

theorem closedFileS_eq (fmt : Fmt) (c0 : Option (List ChnaEntry)) (a0 b0 : Option Bytes) (force : Bool)
    (sops : List SOp) :
    closedFileS fmt c0 a0 b0 force sops = (encOps fmt sops).map (closedFile fmt c0 a0 b0 force) := by
  simp only [closedFileS, runS_eq, openW_fmt, Option.map_map]
  rfl

theorem unclosedFileS_eq (fmt : Fmt) (c0 : Option (List ChnaEntry)) (a0 b0 : Option Bytes) (force : Bool)
    (sops : List SOp) :
    unclosedFileS fmt c0 a0 b0 force sops = (encOps fmt sops).map (unclosedFile fmt c0 a0 b0 force) := by
  simp only [unclosedFileS, runS_eq, openW_fmt, Option.map_map]
  rfl

theorem encodeBlock_eq (fmt : Fmt) (_hb : Depth fmt.bits) (hch : 0 < fmt.channels) (frames : List (List Rat))
    (h : ∀ fr ∈ frames, fr.length = fmt.channels) :
    encodeBlock fmt frames = encodeBytes fmt.bits frames.flatten := by
  have : frames.all (fun fr => fr.length == fmt.channels) = true := by
    rw [List.all_eq_true]; intro fr hfr; simpa using h fr hfr
  simp only [encodeBlock, this, ↓reduceIte, interleave_eq_flatten fmt.channels hch frames h]

/-- With well-shaped blocks nothing raises; the data bytes of the byte-level history
are the encoder's output on all written frames concatenated, whatever the partition into `write` calls; the
setter calls are unchanged. -/
theorem encOps_spec (fmt : Fmt) (hb : Depth fmt.bits) (hch : 0 < fmt.channels) :
    ∀ (sops : List SOp), BlocksOK fmt.channels sops →
    ∃ wops, encOps fmt sops = some wops ∧
      encodeBytes fmt.bits (framesOf sops).flatten = some (dataOf wops) ∧
      (∀ fr ∈ framesOf sops, fr.length = fmt.channels) ∧
      (∀ c, pendChna c wops = pendChnaS c sops) ∧ (∀ a, pendAxml a wops = pendAxmlS a sops) ∧
      (∀ a, pendBext a wops = pendBextS a sops) := by
  intro sops
  induction sops with
  | nil =>
    intro _
    refine ⟨[], rfl, ?_, by simp [framesOf], fun _ => rfl, fun _ => rfl, fun _ => rfl⟩
    rw [encodeBytes_eq fmt.bits hb]; simp [framesOf, dataOf]
  | cons op ops ih =>
    intro hok
    cases op with
    | write frames =>
      obtain ⟨hfr, hrest⟩ := hok
      obtain ⟨wops, e, d, r, pc, pa, pb⟩ := ih hrest
      have hblk := encodeBlock_eq fmt hb hch frames hfr
      obtain ⟨bts, hbts⟩ : ∃ bts, encodeBytes fmt.bits frames.flatten = some bts := ⟨_, encodeBytes_eq fmt.bits hb _⟩
      refine ⟨.write bts :: wops, by simp [encOps, SOp.enc, hblk, hbts, e], ?_, ?_, ?_, ?_, ?_⟩
      · simp only [framesOf, List.flatten_append, dataOf]
        exact encodeBytes_append fmt.bits hb _ _ _ _ hbts d
      · exact List.forall_mem_append.2 ⟨hfr, r⟩
      · intro c; simp [pendChna, pendChnaS, pc]
      · intro c; simp [pendAxml, pendAxmlS, pa]
      · intro c; simp [pendBext, pendBextS, pb]
    | setChna v | setAxml v | setBext v =>
      obtain ⟨wops, e, d, r, pc, pa, pb⟩ := ih hok
      -- the witness is what `encOps` computes: the same setter in front of `wops`
      apply Exists.intro
      refine ⟨?_, ?_⟩
      · simp only [encOps, SOp.enc, e]; rfl
      · exact ⟨by simpa [framesOf, dataOf] using d, by simpa [framesOf] using r,
          fun c => by simp [pendChna, pendChnaS, pc], fun c => by simp [pendAxml, pendAxmlS, pa],
          fun c => by simp [pendBext, pendBextS, pb]⟩

theorem readAt_slice {f P data R : Bytes} (hf : f = P ++ (data ++ R)) (k m : ℕ) (h : k + m ≤ data.length) :
    readAt f (P.length + k) m = (data.drop k).take m := by
  subst hf
  simp only [readAt, List.drop_length_add_append]
  rw [List.drop_append_of_le_length (by omega), List.take_append_of_le_length (by simp; omega)]

/-- In a file that holds, from offset `P.length`, the encoder's
output for the `ch`-channel frames `F`, the `A·n` bytes at offset `P.length + A·c` (`A = ch·bits/8`, the
block alignment) decode and de-interleave to frames `[c, c+n)` of `F` mapped through `decode ∘ encode`.
(`ch * b / 8` is the model's block alignment, Python's `int(ch*bits/8)`; the slices of `decode_slice` are counted in
codes of `b / 8` bytes, `ch` per frame: for the three depths the two agree.) -/
theorem framesAt_written {f P data R : Bytes} (hf : f = P ++ (data ++ R)) (b ch : ℕ) (hb : Depth b) (hch : 0 < ch)
    (F : List (List ℚ)) (hF : ∀ fr ∈ F, fr.length = ch) (hd : encodeBytes b F.flatten = some data) (c n : ℕ)
    (hcn : c + n ≤ F.length) :
    framesAt f b ch (P.length + ch * b / 8 * c) (ch * b / 8 * n) =
      some (((F.drop c).take n).map (·.map (fun x => decode b (encode b x)))) := by
  obtain ⟨hl, hs⟩ := decode_slice b ch hb hch F hF data hd c n
  have hA : ch * b / 8 = b / 8 * ch := by rcases hb with rfl | rfl | rfl <;> omega
  rw [hA]
  unfold framesAt
  rw [readAt_slice hf _ _ (by
    rw [hl]
    calc b / 8 * ch * c + b / 8 * ch * n = b / 8 * ch * (c + n) := by ring
      _ ≤ b / 8 * ch * F.length := Nat.mul_le_mul_left _ hcn)]
  exact hs

section
variable {f P data R : Bytes} (hf : f = P ++ (data ++ R)) {b ch : ℕ} (hb : Depth b) (hch : 0 < ch)
  {F : List (List ℚ)} (hF : ∀ fr ∈ F, fr.length = ch) (hd : encodeBytes b F.flatten = some data)
include hb hch hF hd

theorem encoded_length : data.length = ch * b / 8 * F.length := by
  obtain ⟨hl, -⟩ := decode_slice b ch hb hch F hF data hd 0 0
  have hA : ch * b / 8 = b / 8 * ch := by rcases hb with rfl | rfl | rfl <;> omega
  rw [hl, hA]

include hf

theorem wf_written :
    Cursor.WF ⟨(P.length : ℕ), (ch * b / 8 : ℕ), (data.length : ℕ), (f.length : ℕ)⟩ (F.length : ℕ) := by
  have hpos : 0 < ch * b / 8 := by rcases hb with rfl | rfl | rfl <;> omega
  refine ⟨Int.natCast_pos.2 hpos, by omega, ?_, ?_⟩
  · rw [encoded_length hb hch hF hd]; push_cast; rfl
  · rw [hf]; simp only [List.length_append]; push_cast; omega

theorem readSamples_written (tag rate : ℕ) (c n : ℕ) (hc : c ≤ F.length) :
    readSamples f ⟨tag, ch, rate, b⟩ ⟨(P.length : ℕ), (ch * b / 8 : ℕ), (data.length : ℕ), (f.length : ℕ)⟩
        ((P.length : ℕ) + ((ch * b / 8 : ℕ) : ℤ) * (c : ℤ)) (n : ℤ) =
      ((P.length : ℕ) + ((ch * b / 8 : ℕ) : ℤ) * ((min (c + n) F.length : ℕ) : ℤ),
        some (((F.drop c).take n).map (·.map (fun x => decode b (encode b x))))) := by
  have hr := Cursor.read_frames (wf_written hf hb hch hF hd) c n hc
  simp only at hr
  simp only [readSamples, hr]
  have e1 : (((P.length : ℕ) : ℤ) + ((ch * b / 8 : ℕ) : ℤ) * (c : ℤ)).toNat = P.length + ch * b / 8 * c := by omega
  have e2 : (((ch * b / 8 : ℕ) : ℤ) * ((min n (F.length - c) : ℕ) : ℤ)).toNat = ch * b / 8 * min n (F.length - c) := by
    rw [← Nat.cast_mul, Int.toNat_natCast]
  rw [e1, e2, framesAt_written hf b ch hb hch F hF hd c _ (by omega), List.take_eq_take_min (i := n),
    List.length_drop]

end

end Earverif.Bw64
