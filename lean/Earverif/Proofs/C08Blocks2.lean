/-
Class-level round trips of the Matrix coefficient and of the DirectSpeakers, HOA, Binaural and Matrix block
formats (`make_block_format_*_handler`, both versions); at the end `objects_ofObj` for the Objects block format, which
needs `get_optTime` of `Proofs/C08Nested.lean`.
-/
import Earverif.Proofs.C08Nested

namespace Earverif.XmlBlocks
open Earverif.XmlCodec Earverif.XmlCustom Earverif.TimeFormat

/-- gain attribute (both versions) on an element that carries further attributes with other names -/
theorem gainAttribute_roundtrip' (v2 : Bool) (g : Option Int) (tag : QName) (rest : List (String × String))
    (cs : List Xml) (text : String) (hrest : ∀ kv ∈ rest, kv.1 ≠ "gain" ∧ kv.1 ≠ "gainUnit") :
    handleGainAttribute v2 (.node tag (gainAttributeToXml g ++ rest) cs text) = some (g.map .linear) := by
  have h1 : rest.find? (·.1 == "gain") = none := List.find?_eq_none.mpr fun kv h => by simpa using (hrest kv h).1
  have h2 : rest.find? (·.1 == "gainUnit") = none := List.find?_eq_none.mpr fun kv h => by simpa using (hrest kv h).2
  cases g <;> cases v2 <;>
    simp [handleGainAttribute, gainAttributeToXml, parseGain, attr?, Xml.attrs, loadsNum_dumpsNum, h1, h2]

theorem attr_key {adm arg : String} {c : Codec XV} {req : Bool} {d : XV} {o : Obj XV} {kv : String × String}
    (h : kv ∈ (Property.attr adm arg c req d).attrsOut o) : kv.1 = adm := by
  simp only [Property.attrsOut] at h
  split at h
  · split at h
    · simp at h; rw [h]
    · cases h
  · cases h

theorem coeff_keys : ∀ v2, KeysOK (coeffPs v2) := by decide +kernel

theorem coeff_attrs (v2 : Bool) (name : String) (c : Coefficient) :
    ∃ rest, (toXml (coeffPs v2) name c.toObj).attrs = gainAttributeToXml c.gain ++ rest ∧
      ∀ kv ∈ rest, kv.1 ≠ "gain" ∧ kv.1 ≠ "gainUnit" := by
  refine ⟨((coeffPs v2).drop 2).flatMap (·.attrsOut c.toObj), ?_, ?_⟩
  · have : coeffPs v2 = (coeffPs v2).take 2 ++ (coeffPs v2).drop 2 := (List.take_append_drop 2 _).symm
    simp only [toXml, Xml.attrs]
    rw [this, List.flatMap_append]
    congr 1
    have hg : c.toObj "gain" = .one (optNumV c.gain) := by simp [Coefficient.toObj]
    simp only [coeffPs, List.take_succ_cons, List.take_zero, List.flatMap_cons, List.flatMap_nil, Property.attrsOut,
      gainAttrImpl, hg, List.nil_append, List.append_nil]
    cases c.gain <;> rfl
  · intro kv hkv
    obtain ⟨p, hp, hk⟩ := List.mem_flatMap.mp hkv
    simp only [coeffPs, List.drop_succ_cons, List.drop_zero, List.mem_cons, List.not_mem_nil, or_false] at hp
    rcases hp with rfl | rfl | rfl | rfl | rfl <;> (rw [attr_key hk]; decide)

theorem coeff_props (v2 : Bool) (name : String) (c : Coefficient) :
    ∀ p ∈ coeffPs v2, PropOK (coeffPs v2) (toXml (coeffPs v2) name c.toObj) c.toObj noneDefaults p := by
  intro p hp
  simp only [coeffPs, List.mem_cons, List.not_mem_nil, or_false] at hp
  rcases hp with rfl | rfl | rfl | rfl | rfl | rfl | rfl
  · exact .decl rfl ⟨.leaf (.str c.inputChannelFormat), by simp [Coefficient.toObj],
      lift_roundtrip (stringCodec_roundtrip _)⟩
  · have hg : c.toObj "gain" = .one (optNumV c.gain) := by simp [Coefficient.toObj]
    refine propOK_generic1 "gain" rfl (by simp [gainAttrImpl]) ?_ (fun kw _ => ?_)
    · intro kv hkv
      have : kv.1 = "gain" := by
        simp only [gainAttrImpl] at hkv
        split at hkv
        · simp [gainAttributeToXml] at hkv; rw [hkv]
        · cases hkv
      rw [this]
      exact lookupAttr_none (by cases v2 <;> decide +kernel)
    · obtain ⟨rest, hattrs, hrest⟩ := coeff_attrs v2 name c
      have hh : handleGainAttribute v2 (toXml (coeffPs v2) name c.toObj) = some (c.gain.map .linear) := by
        have := gainAttribute_roundtrip' v2 c.gain (outName name) rest
          ((coeffPs v2).flatMap (·.childrenOut c.toObj)) (textOut (coeffPs v2) c.toObj) hrest
        rwa [← hattrs] at this
      cases h : c.gain with
      | none =>
        exact Or.inl ⟨by simp [gainAttrImpl, hh, h], by simp [gainAttrImpl, hg, h, optNumV],
          by simp [hg, h, optNumV, noneDefaults]⟩
      | some k =>
        exact Or.inr ⟨by simp [gainAttrImpl, hh, h, hg, optNumV, gainValue, setOne], by simp [gainAttrImpl, hg, h, optNumV]⟩
  · exact .attr (scalar_optNum c.phase (by simp [Coefficient.toObj]) rfl)
  · exact .attr (scalar_optNum c.delay (by simp [Coefficient.toObj]) rfl)
  · exact .attr (scalar_optStr c.gainVar (by simp [Coefficient.toObj]) rfl)
  · exact .attr (scalar_optStr c.phaseVar (by simp [Coefficient.toObj]) rfl)
  · exact .attr (scalar_optStr c.delayVar (by simp [Coefficient.toObj]) rfl)

/-- Matrix coefficient, class level (either version): input channel reference, gain / phase / delay on the
grid and the three `*Var` strings in any combination -/
theorem coeff_roundtrip (v2 : Bool) (name : String) (c : Coefficient) :
    parse (coeffPs v2) noneDefaults (toXml (coeffPs v2) name c.toObj) = some c.toObj ∧
    (parse (coeffPs v2) noneDefaults (toXml (coeffPs v2) name c.toObj)).map (toXml (coeffPs v2) name)
      = some (toXml (coeffPs v2) name c.toObj) := by
  refine codec_roundtrip_props (coeffPs v2) name c.toObj noneDefaults (coeff_keys v2) (coeff_props v2 name c) ?_
  intro a ha
  simp [allArgs, coeffPs, Property.ownArgs, gainAttrImpl] at ha
  simp [Coefficient.toObj, noneDefaults, ha]

theorem coeff_ofObj (c : Coefficient) : Coefficient.ofObj c.toObj = some c := by
  simp [Coefficient.ofObj, Coefficient.toObj, getStr, get_optNumV, get_optStrV]

theorem coeff_read (v2 : Bool) (c : Coefficient) :
    parseCoefficient v2 (toXml (coeffPs v2) "coefficient" c.toObj) = some c := by
  unfold parseCoefficient
  rw [(coeff_roundtrip v2 _ c).1]; simp [coeff_ofObj]

theorem matrix_read (v2 : Bool) (cs : List Coefficient) :
    ((xpathChildren (.node (outName "matrix") [] (cs.map fun c => toXml (coeffPs v2) "coefficient" c.toObj) "")
      "coefficient").mapM (parseCoefficient v2)) = some cs := by
  rw [xpath_all (fun c hc => by obtain ⟨d, _, rfl⟩ := List.mem_map.mp hc; rfl), mapM_some_iff, List.map_map]
  exact List.map_congr_left fun c _ => coeff_read v2 c

theorem head_props {v2 : Bool} {ps : List (Property XV)} {e : Xml} {o cd : Obj XV} (id : String)
    (rt du : Option Time) (hid : o "id" = .one (.leaf (.str id))) (hrt : o "rtime" = .one (optTime rt))
    (hdu : o "duration" = .one (optTime du)) (hc1 : cd "rtime" = .one noneLeaf) (hc2 : cd "duration" = .one noneLeaf)
    (ht1 : TimeOK v2 rt) (ht2 : TimeOK v2 du) : ∀ p ∈ blockHead v2, PropOK ps e o cd p := by
  intro p hp
  simp only [blockHead, List.mem_cons, List.not_mem_nil, or_false] at hp
  rcases hp with rfl | rfl | rfl
  · exact .attr (scalar_reqStr id hid)
  · exact .attr (scalar_optTime rt hrt hc1 ht1)
  · exact .attr (scalar_optTime du hdu hc2 ht2)

theorem head_tags (v2 : Bool) : ∀ q ∈ blockHead v2, TagsOK q :=
  fun q hq => tagsOK_decl ((by cases v2 <;> decide : ∀ q ∈ blockHead v2, q.isCustom = false) q hq)

/-- `gain` (a BS.2076-2 sub-element of these block formats) -/
theorem propOK_gainV2 {v2 : Bool} {ps : List (Property XV)} {e : Xml} {o cd : Obj XV} (k : Int)
    (hg : o "gain" = .one (.leaf (.num k))) (hd : cd "gain" = .one (.leaf (.num 100000))) :
    PropOK ps e o cd (gainElemV2 v2) := by
  cases v2
  · exact propOK_noV2
  · exact propOK_gain k hg hd

theorem propOK_importanceV2 {v2 : Bool} {ps : List (Property XV)} {e : Xml} {o cd : Obj XV} (k : Int)
    (hi : o "importance" = .one (.leaf (.int k))) (hcd : cd "importance" = .one (.leaf (.int 10))) :
    PropOK ps e o cd (importanceV2 v2) := by
  cases v2
  · exact propOK_noV2
  · exact .attrElement (scalar_int k 10 hi hcd)

theorem gainV2_tags (v2 : Bool) : TagsOK (gainElemV2 v2) := by
  cases v2
  · exact tagsOK_noV2
  · exact tagsOK_gain true

theorem importanceV2_tags (v2 : Bool) : TagsOK (importanceV2 v2) := by
  cases v2
  · exact tagsOK_noV2
  · exact tagsOK_decl rfl

/-- BS.2076-1 has no `gain` / `importance` sub-elements in these block formats: `to_xml` raises for
non-default values, so they are outside the domain -/
def V1Default (v2 : Bool) (gain importance : Int) : Prop := v2 = false → gain = 100000 ∧ importance = 10

structure BinauralValid (v2 : Bool) (b : BinauralBlock) : Prop where
  rtime : TimeOK v2 b.rtime
  duration : TimeOK v2 b.duration
  v1 : V1Default v2 b.gain b.importance

theorem binaural_keys : ∀ v2, KeysOK (binauralPs v2) := by decide +kernel

theorem binaural_props (v2 : Bool) (name : String) (b : BinauralBlock) (hv : BinauralValid v2 b) :
    ∀ p ∈ binauralPs v2, PropOK (binauralPs v2) (toXml (binauralPs v2) name b.toObj) b.toObj blockDefaults p := by
  intro p hp
  simp only [binauralPs, List.mem_append, List.mem_cons, List.not_mem_nil, or_false] at hp
  rcases hp with hp | rfl | rfl
  · exact head_props b.id b.rtime b.duration (by simp [BinauralBlock.toObj]) (by simp [BinauralBlock.toObj])
      (by simp [BinauralBlock.toObj]) (by simp [blockDefaults]) (by simp [blockDefaults]) hv.rtime hv.duration p hp
  · exact propOK_gainV2 b.gain (by simp [BinauralBlock.toObj]) (by simp [blockDefaults])
  · exact propOK_importanceV2 b.importance (by simp [BinauralBlock.toObj]) (by simp [blockDefaults])

theorem binauralBlock_roundtrip (v2 : Bool) (name : String) (b : BinauralBlock) (hv : BinauralValid v2 b) :
    parse (binauralPs v2) blockDefaults (toXml (binauralPs v2) name b.toObj) = some b.toObj ∧
    (parse (binauralPs v2) blockDefaults (toXml (binauralPs v2) name b.toObj)).map (toXml (binauralPs v2) name)
      = some (toXml (binauralPs v2) name b.toObj) := by
  refine codec_roundtrip_props (binauralPs v2) name b.toObj blockDefaults (binaural_keys v2) (binaural_props v2 name b hv) ?_
  intro a ha
  cases v2
  · obtain ⟨hg, hi⟩ := hv.v1 rfl
    simp [allArgs, binauralPs, blockHead, gainElemV2, importanceV2, Property.ownArgs, noV2Impl] at ha
    simp [BinauralBlock.toObj, blockDefaults, ha, hg, hi]
  · simp [allArgs, binauralPs, blockHead, gainElemV2, importanceV2, Property.ownArgs, gainImpl] at ha
    simp [BinauralBlock.toObj, blockDefaults, ha]

theorem binaural_ofObj (b : BinauralBlock) : BinauralBlock.ofObj b.toObj = some b := by
  simp [BinauralBlock.ofObj, BinauralBlock.toObj, getStr, getNum, getInt, get_optTime]

example : BinauralValid true ⟨"AB_00051001_00000001", none, none, 50000, 3⟩ ∧
    BinauralValid false ⟨"AB_00051001_00000001", none, none, 100000, 10⟩ :=
  ⟨⟨fun _ h => by simp at h, fun _ h => by simp at h, fun h => by simp at h⟩,
   ⟨fun _ h => by simp at h, fun _ h => by simp at h, fun _ => ⟨rfl, rfl⟩⟩⟩

structure HoaValid (v2 : Bool) (b : HoaBlock) : Prop where
  rtime : TimeOK v2 b.rtime
  duration : TimeOK v2 b.duration
  v1 : V1Default v2 b.gain b.importance

theorem hoa_keys : ∀ v2, KeysOK (hoaPs v2) := by decide +kernel

theorem hoa_props (v2 : Bool) (name : String) (b : HoaBlock) (hv : HoaValid v2 b) :
    ∀ p ∈ hoaPs v2, PropOK (hoaPs v2) (toXml (hoaPs v2) name b.toObj) b.toObj blockDefaults p := by
  intro p hp
  simp only [hoaPs, List.mem_append, List.mem_cons, List.not_mem_nil, or_false] at hp
  rcases hp with hp | rfl | rfl | rfl | rfl | rfl | rfl | rfl | rfl
  · exact head_props b.id b.rtime b.duration (by simp [HoaBlock.toObj]) (by simp [HoaBlock.toObj])
      (by simp [HoaBlock.toObj]) (by simp [blockDefaults]) (by simp [blockDefaults]) hv.rtime hv.duration p hp
  · exact .attrElement (scalar_optStr b.equation (by simp [HoaBlock.toObj]) (by simp [blockDefaults]))
  · exact .attrElement (scalar_optInt b.order (by simp [HoaBlock.toObj]) (by simp [blockDefaults]))
  · exact .attrElement (scalar_optInt b.degree (by simp [HoaBlock.toObj]) (by simp [blockDefaults]))
  · exact .attrElement (scalar_optStr b.normalization (by simp [HoaBlock.toObj]) (by simp [blockDefaults]))
  · exact .attrElement (scalar_optNum b.nfcRefDist (by simp [HoaBlock.toObj]) (by simp [blockDefaults]))
  · exact .attrElement (scalar_optBool b.screenRef (by simp [HoaBlock.toObj]) (by simp [blockDefaults]))
  · exact propOK_gainV2 b.gain (by simp [HoaBlock.toObj]) (by simp [blockDefaults])
  · exact propOK_importanceV2 b.importance (by simp [HoaBlock.toObj]) (by simp [blockDefaults])

theorem hoaBlock_roundtrip (v2 : Bool) (name : String) (b : HoaBlock) (hv : HoaValid v2 b) :
    parse (hoaPs v2) blockDefaults (toXml (hoaPs v2) name b.toObj) = some b.toObj ∧
    (parse (hoaPs v2) blockDefaults (toXml (hoaPs v2) name b.toObj)).map (toXml (hoaPs v2) name)
      = some (toXml (hoaPs v2) name b.toObj) := by
  refine codec_roundtrip_props (hoaPs v2) name b.toObj blockDefaults (hoa_keys v2) (hoa_props v2 name b hv) ?_
  intro a ha
  cases v2
  · obtain ⟨hg, hi⟩ := hv.v1 rfl
    simp [allArgs, hoaPs, blockHead, gainElemV2, importanceV2, Property.ownArgs, noV2Impl] at ha
    simp [HoaBlock.toObj, blockDefaults, ha, hg, hi]
  · simp [allArgs, hoaPs, blockHead, gainElemV2, importanceV2, Property.ownArgs, gainImpl] at ha
    simp [HoaBlock.toObj, blockDefaults, ha]

theorem hoa_ofObj (b : HoaBlock) : HoaBlock.ofObj b.toObj = some b := by
  simp [HoaBlock.ofObj, HoaBlock.toObj, getStr, getNum, getInt, get_optTime, get_optStrV, get_optIntV, get_optNumV,
    get_optBoolV]

example : HoaValid true ⟨"AB_00041001_00000001", none, none, some "eq", some 1, some (-1), some "SN3D", some 200000,
    some true, 50000, 3⟩ :=
  ⟨fun _ h => by simp at h, fun _ h => by simp at h, fun h => by simp at h⟩

theorem dumpBound_tag {c : String} {b : Bound} {s : Option String} :
    ∀ x ∈ dumpBound c b s, x.tag = outName "position" := by
  intro x hx
  simp only [dumpBound, List.mem_append, List.mem_singleton] at hx
  rcases hx with (rfl | hx) | hx
  · rfl
  · split at hx <;> simp at hx; subst hx; rfl
  · split at hx <;> simp at hx; subst hx; rfl

theorem speakerPositionToXml_tag (p : SpeakerPosition) : ∀ x ∈ speakerPositionToXml p, x.tag = outName "position" := by
  cases p with
  | polar az el di sel =>
    simp only [speakerPositionToXml, List.forall_mem_append]
    refine ⟨⟨dumpBound_tag, dumpBound_tag⟩, ?_⟩
    split
    · exact dumpBound_tag
    · simp
  | cartesian a b c sel =>
    simp only [speakerPositionToXml, List.forall_mem_append]
    exact ⟨⟨dumpBound_tag, dumpBound_tag⟩, dumpBound_tag⟩

theorem speakerPositionToXml_ne (p : SpeakerPosition) : (speakerPositionToXml p).isEmpty = false := by
  cases p <;> simp [speakerPositionToXml, dumpBound]

structure DSValid (v2 : Bool) (b : DirectSpeakersBlock) : Prop where
  sel : SelOK b.position.sel
  rtime : TimeOK v2 b.rtime
  duration : TimeOK v2 b.duration
  v1 : V1Default v2 b.gain b.importance

theorem ds_keys : ∀ v2, KeysOK (dsPs v2) := by decide +kernel

theorem ds_tags (v2 : Bool) : ∀ q ∈ dsPs v2, TagsOK q := by
  intro q hq
  simp only [dsPs, List.mem_append, List.mem_cons, List.not_mem_nil, or_false] at hq
  rcases hq with hq | rfl | rfl | rfl | rfl
  · exact head_tags v2 q hq
  · exact tagsOK_decl rfl
  · exact tagsOK_generic (tags_xpath (fun v x hx => by
      split at hx
      · exact speakerPositionToXml_tag _ x hx
      · cases hx))
  · exact gainV2_tags v2
  · exact importanceV2_tags v2

theorem ds_props (v2 : Bool) (name : String) (b : DirectSpeakersBlock) (hv : DSValid v2 b) :
    ∀ p ∈ dsPs v2, PropOK (dsPs v2) (toXml (dsPs v2) name b.toObj) b.toObj dsDefaults p := by
  intro p hp
  simp only [dsPs, List.mem_append, List.mem_cons, List.not_mem_nil, or_false] at hp
  rcases hp with hp | rfl | rfl | rfl | rfl
  · exact head_props b.id b.rtime b.duration (by simp [DirectSpeakersBlock.toObj])
      (by simp [DirectSpeakersBlock.toObj]) (by simp [DirectSpeakersBlock.toObj]) (by simp [dsDefaults, blockDefaults])
      (by simp [dsDefaults, blockDefaults]) hv.rtime hv.duration p hp
  · exact propOK_strs b.speakerLabel (by simp [DirectSpeakersBlock.toObj]) (by simp [dsDefaults])
  · exact propOK_xpath (.spos b.position) (by simp [dsPs, speakerImpl]) (ds_tags v2)
      (by cases v2 <;> decide +kernel) (by cases v2 <;> decide +kernel) (by simp [DirectSpeakersBlock.toObj])
      (Or.inr ⟨fun h => by simpa [h] using speakerPositionToXml_ne b.position,
        by simp [speakerPosition_roundtrip b.position hv.sel]⟩)
  · exact propOK_gainV2 b.gain (by simp [DirectSpeakersBlock.toObj]) (by simp [dsDefaults, blockDefaults])
  · exact propOK_importanceV2 b.importance (by simp [DirectSpeakersBlock.toObj])
      (by simp [dsDefaults, blockDefaults])

theorem directSpeakersBlock_roundtrip (v2 : Bool) (name : String) (b : DirectSpeakersBlock) (hv : DSValid v2 b) :
    parse (dsPs v2) dsDefaults (toXml (dsPs v2) name b.toObj) = some b.toObj ∧
    (parse (dsPs v2) dsDefaults (toXml (dsPs v2) name b.toObj)).map (toXml (dsPs v2) name)
      = some (toXml (dsPs v2) name b.toObj) := by
  refine codec_roundtrip_props (dsPs v2) name b.toObj dsDefaults (ds_keys v2) (ds_props v2 name b hv) ?_
  intro a ha
  cases v2
  · obtain ⟨hg, hi⟩ := hv.v1 rfl
    simp [allArgs, dsPs, blockHead, gainElemV2, importanceV2, Property.ownArgs, noV2Impl, speakerImpl,
      xpathImpl] at ha
    simp [DirectSpeakersBlock.toObj, dsDefaults, blockDefaults, ha, hg, hi]
  · simp [allArgs, dsPs, blockHead, gainElemV2, importanceV2, Property.ownArgs, gainImpl, speakerImpl,
      xpathImpl] at ha
    simp [DirectSpeakersBlock.toObj, dsDefaults, blockDefaults, ha]

theorem getStrs_map (ss : List String) : getStrs (.many (ss.map fun s => .leaf (.str s))) = some ss := by
  rw [getStrs, mapM_some_iff, List.map_map]
  rfl

theorem ds_ofObj (b : DirectSpeakersBlock) : DirectSpeakersBlock.ofObj b.toObj = some b := by
  simp [DirectSpeakersBlock.ofObj, DirectSpeakersBlock.toObj, getStr, getNum, getInt, get_optTime, getStrs_map]

example : DSValid true ⟨"AB_00011001_00000001", none, none, ["M+030"],
    .polar ⟨3000000, some 2500000, some 3500000⟩ ⟨0, none, none⟩ ⟨100000, none, none⟩ ⟨none, none⟩, 50000, 3⟩ :=
  ⟨⟨Or.inl rfl, Or.inl rfl⟩, fun _ h => by simp at h, fun _ h => by simp at h, fun h => by simp at h⟩

structure MatrixValid (v2 : Bool) (b : MatrixBlock) : Prop where
  rtime : TimeOK v2 b.rtime
  duration : TimeOK v2 b.duration
  v1 : V1Default v2 b.gain b.importance

theorem matrix_keys : ∀ v2, KeysOK (matrixPs v2) := by decide +kernel

theorem matrix_props (v2 : Bool) (name : String) (b : MatrixBlock) (hv : MatrixValid v2 b) :
    ∀ p ∈ matrixPs v2, PropOK (matrixPs v2) (toXml (matrixPs v2) name b.toObj) b.toObj matrixDefaults p := by
  intro p hp
  simp only [matrixPs, List.mem_append, List.mem_cons, List.not_mem_nil, or_false] at hp
  rcases hp with hp | rfl | rfl | rfl | rfl | rfl
  · exact head_props b.id b.rtime b.duration (by simp [MatrixBlock.toObj])
      (by simp [MatrixBlock.toObj]) (by simp [MatrixBlock.toObj]) (by simp [matrixDefaults, blockDefaults])
      (by simp [matrixDefaults, blockDefaults]) hv.rtime hv.duration p hp
  · exact .attrElement (scalar_optStr b.outputChannelFormat (by simp [MatrixBlock.toObj])
      (by simp [matrixDefaults, blockDefaults]))
  · exact .decl rfl (Or.inl ⟨rfl, rfl⟩)
  · refine propOK_single (.coeffs b.matrix) (by simp [MatrixBlock.toObj]) ?_
      (Or.inr ⟨_, rfl, by simp [matrix_read]⟩)
    intro x hx
    simp at hx
    subst hx
    rfl
  · exact propOK_gainV2 b.gain (by simp [MatrixBlock.toObj]) (by simp [matrixDefaults, blockDefaults])
  · exact propOK_importanceV2 b.importance (by simp [MatrixBlock.toObj])
      (by simp [matrixDefaults, blockDefaults])

/-- AudioBlockFormatMatrix, class level: output channel reference, any list of coefficients (each with input
channel reference, gain / phase / delay or their `*Var` forms) -/
theorem matrixBlock_roundtrip (v2 : Bool) (name : String) (b : MatrixBlock) (hv : MatrixValid v2 b) :
    parse (matrixPs v2) matrixDefaults (toXml (matrixPs v2) name b.toObj) = some b.toObj ∧
    (parse (matrixPs v2) matrixDefaults (toXml (matrixPs v2) name b.toObj)).map (toXml (matrixPs v2) name)
      = some (toXml (matrixPs v2) name b.toObj) := by
  refine codec_roundtrip_props (matrixPs v2) name b.toObj matrixDefaults (matrix_keys v2) (matrix_props v2 name b hv) ?_
  intro a ha
  cases v2
  · obtain ⟨hg, hi⟩ := hv.v1 rfl
    simp [allArgs, matrixPs, blockHead, gainElemV2, importanceV2, Property.ownArgs, noV2Impl, matrixImpl,
      singleImpl] at ha
    simp [MatrixBlock.toObj, matrixDefaults, blockDefaults, ha, hg, hi]
  · simp [allArgs, matrixPs, blockHead, gainElemV2, importanceV2, Property.ownArgs, gainImpl, matrixImpl,
      singleImpl] at ha
    simp [MatrixBlock.toObj, matrixDefaults, blockDefaults, ha]

theorem matrix_ofObj (b : MatrixBlock) : MatrixBlock.ofObj b.toObj = some b := by
  simp [MatrixBlock.ofObj, MatrixBlock.toObj, getStr, getNum, getInt, get_optTime, get_optStrV]

example : MatrixValid true ⟨"AB_00021001_00000001", none, none, some "AC_00011001",
    [⟨"AC_00010001", some 50000, none, some 100000, none, some "phi", none⟩, ⟨"AC_00010002", none, none, none, some "g", none, none⟩],
    100000, 10⟩ :=
  ⟨fun _ h => by simp at h, fun _ h => by simp at h, fun h => by simp at h⟩

theorem objects_ofObj (b : ObjectsBlock) : ObjectsBlock.ofObj b.toObj = some b := by
  obtain ⟨id, rt, du, pos, cl, jp, dv, w, h, d, df, c, sr, z, g, im⟩ := b
  cases cl <;> cases dv <;>
    simp [ObjectsBlock.ofObj, ObjectsBlock.toObj, getStr, getNum, getInt, getBool, get_optTime]

end Earverif.XmlBlocks
