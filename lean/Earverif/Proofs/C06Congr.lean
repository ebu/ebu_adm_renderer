/-
C06: how selection transfers from a document to a re-declared one.  Selection is a loop over the states of the
comprehension; so it is enough to relate the complementary-object selection, the states and the items of
corresponding states (`select_map_of_states`: equality, `select_perm_of_states`: up to order).  The items of a state
read the document only through `extraOf`, `getImportance` and the allocation problem (`itemsOfState_congr`); the
states only through the child reference lists (`specStates_congr`).
-/
import Earverif.Proofs.C06Select

namespace Earverif.Adm

theorem select_map_of_states {a a' : Adm} {given given' : Option Nat} {sel sel' : List Nat} {r : State → State}
    {g : Item → Item} (hfmt : a'.fmt = a.fmt)
    (he : ∀ e, selectComplementary a sel = .error e → selectComplementary a' sel' = .error e)
    (hok : ∀ ign, selectComplementary a sel = .ok ign → ∃ ign', selectComplementary a' sel' = .ok ign' ∧
      specStates a' (selectProgramme a' given') ign' = (specStates a (selectProgramme a given) ign).map r ∧
      ∀ st ∈ specStates a (selectProgramme a given) ign,
        itemsOfState a' (r st) = (itemsOfState a st).map (List.map g)) :
    selectRenderingItems a' given' sel' = (selectRenderingItems a given sel).map (List.map g) := by
  cases hw : wrappedPacks a.fmt with
  | error e => simp [selectRenderingItems, hfmt, hw, Except.map]
  | ok wps =>
    cases hc : selectComplementary a sel with
    | error e => simp [selectRenderingItems, hfmt, hw, hc, he e hc, Except.map]
    | ok ign =>
      obtain ⟨ign', hc', hst, hit⟩ := hok ign hc
      rw [select_of_ok hw hc, select_of_ok (hfmt ▸ hw) hc', hst, flatMapE_map]
      exact flatMapE_results_map hit

theorem select_perm_of_states {a a' : Adm} {given given' : Option Nat} {sel sel' : List Nat} {r : State → State}
    {g : Item → Item} (hw : ∀ wps, wrappedPacks a.fmt = .ok wps → ∃ wps', wrappedPacks a'.fmt = .ok wps')
    (hok : ∀ ign, selectComplementary a sel = .ok ign → ∃ ign', selectComplementary a' sel' = .ok ign' ∧
      (specStates a' (selectProgramme a' given') ign').Perm ((specStates a (selectProgramme a given) ign).map r) ∧
      ∀ st ∈ specStates a (selectProgramme a given) ign, ∀ its, itemsOfState a st = .ok its →
        ∃ its', itemsOfState a' (r st) = .ok its' ∧ its'.Perm (its.map g))
    {items : List Item} (hs : selectRenderingItems a given sel = .ok items) :
    ∃ items', selectRenderingItems a' given' sel' = .ok items' ∧ items'.Perm (items.map g) := by
  obtain ⟨wps, ign, hwps, hc, h⟩ := select_ok_inv hs
  obtain ⟨wps', hwps'⟩ := hw wps hwps
  obtain ⟨ign', hc', hst, hit⟩ := hok ign hc
  rw [select_of_ok hwps' hc']
  exact flatMapE_perm_map hst hit h

theorem itemsOfPack_congr {a a' : Adm} {st st' : State} {g : Item → Item}
    (hg : ∀ it : Item, it.state = st →
      g it = { it with programme := st'.programme, content := st'.content, objPath := st'.objPath })
    (hfmt : a'.fmt = a.fmt) (hex : ∀ ch ad, extraOf a' st' ch ad = extraOf a st ch ad)
    (himp : ∀ pp, getImportance a' st' pp = getImportance a st pp) (ap : AllocPack) :
    itemsOfPack a' st' ap = (itemsOfPack a st ap).map (List.map g) := by
  have hged : ∀ ppc ch, getExtraData a' st' ppc ch = getExtraData a st ppc ch := by
    intro ppc ch; unfold getExtraData; simp only [hfmt, hex]
  have hsingle : ∀ ty p ct, singleItem a' st' ty p ct = (singleItem a st ty p ct).map g := by
    intro ty p ct
    unfold singleItem
    simp only [hfmt, hged, himp]
    cases getPackFormatPath a.fmt p ct.1 with
    | error e => rfl
    | ok pp =>
      simp only
      cases getExtraData a st [(pp, ct.1)] (some ct.1) with
      | error e => rfl
      | ok ex =>
        refine congrArg Except.ok (Eq.symm ?_)
        apply hg
        rfl
  have hhoa : hoaItem a' st' ap = (hoaItem a st ap).map g := by
    unfold hoaItem
    simp only [hfmt, hged, himp]
    cases mapE (hoaPathOf a.fmt ap.pack) ap.alloc with
    | error e => rfl
    | ok ppc =>
      simp only
      cases hoaMetaOf a.fmt ppc with
      | error e => rfl
      | ok hm =>
        simp only
        cases getExtraData a st ppc none with
        | error e => rfl
        | ok ex =>
          refine congrArg Except.ok (Eq.symm ?_)
          apply hg
          rfl
  unfold itemsOfPack
  simp only [hfmt]
  split
  · exact mapE_results_map fun ct _ => hsingle _ _ ct
  · split
    · rw [hhoa]
      cases hoaItem a st ap <;> rfl
    · rfl

theorem itemsOfState_congr {a a' : Adm} {st st' : State} {g : Item → Item}
    (hg : ∀ it : Item, it.state = st →
      g it = { it with programme := st'.programme, content := st'.content, objPath := st'.objPath })
    (hfmt : a'.fmt = a.fmt) (hex : ∀ ch ad, extraOf a' st' ch ad = extraOf a st ch ad)
    (himp : ∀ pp, getImportance a' st' pp = getImportance a st pp)
    (hprob : ∀ wps, allocProblem a' st' wps = allocProblem a st wps) :
    itemsOfState a' st' = (itemsOfState a st).map (List.map g) := by
  have hmap : selectPackMapping a' st' = selectPackMapping a st := by
    unfold selectPackMapping; simp only [hfmt, hprob]
  unfold itemsOfState
  rw [hmap]
  cases selectPackMapping a st with
  | error e => rfl
  | ok packs => exact flatMapE_results_map fun ap _ => itemsOfPack_congr hg hfmt hex himp ap

theorem itemsOfPack_eq_of {a a' : Adm} {st : State} (hfmt : a'.fmt = a.fmt)
    (hex : ∀ ch ad, extraOf a' st ch ad = extraOf a st ch ad)
    (himp : ∀ pp, getImportance a' st pp = getImportance a st pp) (ap : AllocPack) :
    itemsOfPack a' st ap = itemsOfPack a st ap := by
  rw [itemsOfPack_congr (g := id) (fun it h => by subst h; rfl) hfmt hex himp, except_map_list_id]

theorem itemsOfState_eq_of {a a' : Adm} {st : State} (hfmt : a'.fmt = a.fmt)
    (hex : ∀ ch ad, extraOf a' st ch ad = extraOf a st ch ad)
    (himp : ∀ pp, getImportance a' st pp = getImportance a st pp)
    (hprob : ∀ wps, allocProblem a' st wps = allocProblem a st wps) :
    itemsOfState a' st = itemsOfState a st := by
  rw [itemsOfState_congr (g := id) (fun it h => by subst h; rfl) hfmt hex himp hprob, except_map_list_id]

/-- an audioObject without its four reference lists: what `extraOf`, `getImportance` and `getAvs` read of it. -/
def Obj.own (o : Obj) : Obj := { o with packs := [], tracks := [], subObjects := [], complementary := [] }

theorem extraOf_congr {a a' : Adm} {st st' : State} (hfmt : a'.fmt = a.fmt)
    (hscr : (st'.programme.map fun p => (a'.prog p).screen) = st.programme.map fun p => (a.prog p).screen)
    (hleaf : (st'.leaf a').map Obj.own = (st.leaf a).map Obj.own)
    (hrefs : avsRefs a' st' = avsRefs a st) (ch : Option Nat) (ad : Option Rat) :
    extraOf a' st' ch ad = extraOf a st ch ad := by
  have havs : getAvs a' st' = getAvs a st :=
    getAvs_congr (by have := congrArg (Option.map (·.avs)) hleaf; rwa [Option.map_map, Option.map_map] at this) hrefs
  simp only [extraOf_fields, havs, hfmt]
  generalize st'.leaf a' = l' at hleaf ⊢
  generalize st.leaf a = l at hleaf ⊢
  -- programmes both absent or both present with the same screen; then the same for the leaves
  cases hp' : st'.programme <;> cases hp : st.programme <;> rw [hp', hp] at hscr <;>
    simp only [Option.map_none, Option.map_some, Option.some.injEq, reduceCtorEq] at hscr <;> simp only [hscr]
  all_goals
    rcases l' with _ | o' <;> rcases l with _ | o <;>
      simp only [Option.map_none, Option.map_some, Option.some.injEq, reduceCtorEq] at hleaf
    · rfl
    · cases o; cases o'; simp only [Obj.own, Obj.mk.injEq] at hleaf
      obtain ⟨_, _, _, _, rfl, rfl, rfl, rfl, rfl, _, _⟩ := hleaf
      rfl

theorem getImportance_congr {a a' : Adm} {st st' : State} (hfmt : a'.fmt = a.fmt)
    (himp : (st'.objPath.map fun p => p.map fun o => (a'.obj o).importance) =
      st.objPath.map fun p => p.map fun o => (a.obj o).importance) (pp : List Nat) :
    getImportance a' st' pp = getImportance a st pp := by
  unfold getImportance
  rw [hfmt]
  cases h' : st'.objPath <;> cases h0 : st.objPath <;> rw [h', h0] at himp <;>
    simp only [Option.map_none, Option.map_some, Option.some.injEq, reduceCtorEq] at himp <;> simp only [himp]

theorem obj_of_objects_eq {a a' : Adm} (h : a'.objects = a.objects) (i : Nat) : a'.obj i = a.obj i := by
  unfold Adm.obj; rw [h]

theorem prog_of_programmes_eq {a a' : Adm} (h : a'.programmes = a.programmes) (p : Nat) : a'.prog p = a.prog p := by
  unfold Adm.prog; rw [h]

theorem cont_of_contents_eq {a a' : Adm} (h : a'.contents = a.contents) (c : Nat) : a'.cont c = a.cont c := by
  unfold Adm.cont; rw [h]

theorem itemsOfState_of_objects_eq {a a' : Adm} {st st' : State} {g : Item → Item}
    (hg : ∀ it : Item, it.state = st →
      g it = { it with programme := st'.programme, content := st'.content, objPath := st'.objPath })
    (hobj : a'.objects = a.objects) (hfmt : a'.fmt = a.fmt) (hpath : st'.objPath = st.objPath)
    (hscr : (st'.programme.map fun p => (a'.prog p).screen) = st.programme.map fun p => (a.prog p).screen)
    (hrefs : avsRefs a' st' = avsRefs a st) :
    itemsOfState a' st' = (itemsOfState a st).map (List.map g) := by
  have ho := obj_of_objects_eq hobj
  exact itemsOfState_congr hg hfmt (extraOf_congr hfmt hscr (by unfold State.leaf; simp only [hpath, ho]) hrefs)
    (getImportance_congr hfmt (by simp only [hpath, ho]))
    fun wps => by unfold allocProblem; simp only [hfmt, hpath, ho]

theorem nil_iff_of_length_eq {α β : Type} {l : List α} {l' : List β} (h : l'.length = l.length) :
    l' = [] ↔ l = [] := by
  rw [← List.length_eq_zero_iff, ← List.length_eq_zero_iff, h]

theorem mem_nonRoot (a : Adm) (x : Nat) :
    x ∈ a.objects.flatMap (·.subObjects) ↔ ∃ o, o < a.objects.length ∧ x ∈ a.subs o := by
  simp only [List.mem_flatMap, Adm.subs, Adm.obj]
  constructor
  · rintro ⟨ob, hob, hx⟩
    obtain ⟨i, hi, rfl⟩ := List.mem_iff_getElem.1 hob
    exact ⟨i, hi, by simpa [List.getD_eq_getElem?_getD, List.getElem?_eq_getElem hi] using hx⟩
  · rintro ⟨o, ho, hx⟩
    refine ⟨a.objects[o], List.getElem_mem ho, ?_⟩
    simpa [List.getD_eq_getElem?_getD, List.getElem?_eq_getElem ho] using hx

/-- the root objects depend on the sub-object lists as sets only. -/
theorem rootObjects_congr {a a' : Adm} (hn : a'.objects.length = a.objects.length)
    (hs : ∀ o x, x ∈ a'.subs o ↔ x ∈ a.subs o) : rootObjects a' = rootObjects a := by
  unfold rootObjects
  simp only [hn]
  apply List.filter_congr
  intro i _
  congr 1
  rw [Bool.eq_iff_iff]
  simp only [List.contains_iff_mem, mem_nonRoot, hn, hs]

theorem specPaths_congr {a a' : Adm} (hn : a'.objects.length = a.objects.length) (hs : a'.subs = a.subs)
    (ign : List Nat) (r : Nat) : specPaths a' ign r = specPaths a ign r := by
  unfold specPaths objectPathsFrom
  rw [hn, hs]

theorem specPaths_of_objects_eq {a a' : Adm} (h : a'.objects = a.objects) (ign : List Nat) (r : Nat) :
    specPaths a' ign r = specPaths a ign r :=
  specPaths_congr (by rw [h]) (funext fun i => by unfold Adm.subs; rw [obj_of_objects_eq h]) ign r

theorem specStates_congr {a a' : Adm} (hp : a'.programmes = [] ↔ a.programmes = [])
    (hn : a'.objects.length = a.objects.length) (hprog : ∀ p, (a'.prog p).contents = (a.prog p).contents)
    (hcont : ∀ c, (a'.cont c).objects = (a.cont c).objects) (hs : a'.subs = a.subs) (prog : Option Nat)
    (ign : List Nat) : specStates a' prog ign = specStates a prog ign := by
  unfold specStates
  simp only [hp, nil_iff_of_length_eq hn, rootObjects_congr hn (fun o x => by rw [hs]), hprog, hcont,
    specPaths_congr hn hs]

theorem specStates_of_content_eq {a a' : Adm} (hp : a'.programmes = a.programmes) (hc : a'.contents = a.contents)
    (hn : a'.objects.length = a.objects.length) (hs : a'.subs = a.subs) (prog : Option Nat) (ign : List Nat) :
    specStates a' prog ign = specStates a prog ign :=
  specStates_congr (by rw [hp]) hn (fun p => by rw [prog_of_programmes_eq hp]) (fun c => by rw [cont_of_contents_eq hc])
    hs prog ign

theorem notIgnored_congr {ign ign' : List Nat} (hm : ∀ x, x ∈ ign' ↔ x ∈ ign) (p : List Nat) :
    notIgnored ign' p = notIgnored ign p := by
  unfold notIgnored
  congr 2
  funext x
  rw [Bool.eq_iff_iff]
  simp only [List.contains_iff_mem, hm]

/-- the states depend on the ignored objects as a set only. -/
theorem specStates_ign_congr (a : Adm) (prog : Option Nat) {ign ign' : List Nat} (hm : ∀ x, x ∈ ign' ↔ x ∈ ign) :
    specStates a prog ign' = specStates a prog ign := by
  unfold specStates specPaths
  rw [funext (notIgnored_congr hm)]

/-- the complementary-object selection reads the number of objects and their complementary-object lists. -/
theorem selectComplementary_congr {a a' : Adm} (hn : a'.objects.length = a.objects.length)
    (hc : ∀ i, (a'.obj i).complementary = (a.obj i).complementary) (sel : List Nat) :
    selectComplementary a' sel = selectComplementary a sel := by
  have hroots : compRoots a' = compRoots a := by
    unfold compRoots; simp only [hn, hc]
  have hg : compGroup a' = compGroup a := by
    funext r; unfold compGroup; rw [hc]
  unfold selectComplementary compAllSelected
  simp only [hroots, hg]

theorem selectComplementary_of_objects_eq {a a' : Adm} (h : a'.objects = a.objects) (sel : List Nat) :
    selectComplementary a' sel = selectComplementary a sel :=
  selectComplementary_congr (by rw [h]) (fun i => by rw [obj_of_objects_eq h]) sel

theorem strip_obj (a : Adm) (i : Nat) :
    a.strip.obj i = { a.obj i with subObjects := [], complementary := [] } := by
  unfold Adm.obj Adm.strip
  exact getD_map_default (fun o : Obj => { o with subObjects := [], complementary := [] }) a.objects i default

theorem strip_prog (a : Adm) (i : Nat) : a.strip.prog i = { a.prog i with contents := [] } := by
  unfold Adm.prog Adm.strip
  exact getD_map_default (fun p : Programme => { p with contents := [] }) a.programmes i default

theorem strip_cont (a : Adm) (i : Nat) : a.strip.cont i = { a.cont i with objects := [] } := by
  unfold Adm.cont Adm.strip
  exact getD_map_default (fun c : Content => { c with objects := [] }) a.contents i default

theorem strip_fmt (a : Adm) : a.strip.fmt = a.fmt := rfl

theorem leaf_strip (a : Adm) (st : State) :
    st.leaf a.strip = (st.leaf a).map fun o => { o with subObjects := [], complementary := [] } := by
  unfold State.leaf
  cases st.objPath <;> simp [strip_obj]

theorem itemsOfState_strip (a : Adm) (st : State) : itemsOfState a.strip st = itemsOfState a st := by
  refine itemsOfState_eq_of rfl
    (extraOf_congr rfl (by simp only [strip_prog]) (by rw [leaf_strip, Option.map_map]; rfl)
      (by unfold avsRefs; cases st.programme <;> cases st.content <;> simp only [strip_prog, strip_cont]))
    (getImportance_congr rfl (by simp only [strip_obj])) (fun wps => ?_)
  · unfold allocProblem
    cases st.objPath <;> simp [strip_obj, strip_fmt]

theorem keys_of_strip_eq {a a' : Adm} (h : a'.strip = a.strip) :
    a'.programmes.map (·.idKey) = a.programmes.map (·.idKey) := by
  have := congrArg (fun x => x.programmes.map (·.idKey)) h
  simpa [Adm.strip, List.map_map, Function.comp_def] using this

theorem fmt_of_strip_eq {a a' : Adm} (h : a'.strip = a.strip) : a'.fmt = a.fmt :=
  show a'.strip.fmt = a.strip.fmt from congrArg Adm.fmt h

theorem nprog_of_keys {a a' : Adm} (h : a'.programmes.map (·.idKey) = a.programmes.map (·.idKey)) :
    a'.programmes = [] ↔ a.programmes = [] :=
  nil_iff_of_length_eq (by simpa using congrArg List.length h)

theorem itemsOfState_of_strip_eq {a a' : Adm} (h : a'.strip = a.strip) (st : State) :
    itemsOfState a' st = itemsOfState a st := by
  rw [← itemsOfState_strip a', h, itemsOfState_strip]

theorem minByIdGo_congr : ∀ (ps qs : List Programme) (i : Nat) (b : Option (Nat × Nat)),
    ps.map (·.idKey) = qs.map (·.idKey) → minByIdGo ps i b = minByIdGo qs i b
  | [], [], _, _, _ => rfl
  | [], _ :: _, _, _, h => by simp at h
  | _ :: _, [], _, _, h => by simp at h
  | p :: ps, q :: qs, i, b, h => by
    simp only [List.map_cons, List.cons.injEq] at h
    cases b with
    | none => simp only [minByIdGo, h.1]; exact minByIdGo_congr ps qs _ _ h.2
    | some bb =>
      obtain ⟨bi, bk⟩ := bb
      simp only [minByIdGo, h.1]
      split <;> exact minByIdGo_congr ps qs _ _ h.2

/-- the chosen programme only depends on the ids, in declaration order. -/
theorem selectProgramme_congr {a a' : Adm} (h : a'.programmes.map (·.idKey) = a.programmes.map (·.idKey))
    (given : Option Nat) : selectProgramme a' given = selectProgramme a given := by
  cases given with
  | some p => rfl
  | none =>
    rw [selectProgramme_none, selectProgramme_none]
    unfold minById
    rw [minByIdGo_congr _ _ _ _ h]

end Earverif.Adm
