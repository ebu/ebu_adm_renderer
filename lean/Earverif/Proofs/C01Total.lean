/- C01: the hypotheses "`renderConcreteCart … = some r`" / "`renderConcretePolarPoint … = some r`" of the headline theorems are
   satisfiable on the regenerated tables (non-vacuity), by partial TOTALITY results:
   * `polarEdges_front`: a polar screen centred straight ahead (azimuth = elevation = 0, distance > 0, 0 < width < 180
     — the default reference screen and the screen of every BS.2051 layout) has edges (no ValueError);
   * `renderConcreteCart_plain_total`: a Cartesian point block without positionOffset, screenRef, screenEdgeLock, zones and
     channelLock (any position, any divergence, gains, diffuse) is rendered — no `none` — on every environment with pairwise
     distinct allocentric positions;
   * `pspHandle_some_at_vertex`: at the first loudspeaker of every Triplet of a checked table the C05 panner returns a
     result;  `renderConcretePolarPoint_front_total`: a polar point block straight ahead at distance 1 is rendered on a
     layout whose table has a Triplet starting with the front loudspeaker (0, 1, 0);
   * `ngon_some_at_centre`, `pspHandle_some_at_centre`, `renderConcretePolarPoint_up_total`: the same straight up, at the
     virtual centre of a VirtualNgon, also through the 0+2+0 stereo wrapper. -/
import Earverif.Proofs.C01Far
import Earverif.Proofs.C01Glue
import Earverif.Proofs.C01Stereo
import Earverif.Proofs.C01Tables

namespace Earverif.GainCalc
open Earverif.PointSource (RawLayout RawRegion Region Vec3 Mat3 F2 P3)

/-! ### `PolarEdges.from_screen` for a screen straight ahead -/

theorem azimuthOf_of_x_neg (x y z : ℝ) (hx : x < 0) : 0 < azimuthOf (x, y, z) := by
  rw [azimuthOf, atan2_real, degrees_real]
  exact neg_pos.mpr (mul_neg_of_neg_of_pos (Complex.arg_neg_iff.mpr hx) (div_pos (by norm_num) Real.pi_pos))

theorem azimuthOf_of_x_nonneg (x y z : ℝ) (hx : 0 ≤ x) : azimuthOf (x, y, z) ≤ 0 := by
  rw [azimuthOf, atan2_real, degrees_real]
  exact neg_nonpos.mpr (mul_nonneg (Complex.arg_nonneg_iff.mpr hx) (div_pos (by norm_num) Real.pi_pos).le)

theorem polarEdges_front (s : ScreenSpec ℝ) (hp : s.polar = true) (d : ℝ) (hc : s.centre = (0, 0, d)) (hd : 0 < d)
    (hw0 : 0 < s.width) (hw1 : s.width < 180) : ∃ e, polarEdges s = some e := by
  have h90 : ((90 : ℚ) : ℝ) = 90 := by norm_num
  have h2 : ((2 : ℚ) : ℝ) = 2 := by norm_num
  -- the half width of the screen in the plane at distance d
  have hang0 : 0 < radians (s.width / 2) := by
    rw [radians_real]
    exact mul_pos (by linarith) (div_pos Real.pi_pos (by norm_num))
  have hang1 : radians (s.width / 2) < Real.pi / 2 := by
    rw [radians_real]
    have : s.width / 2 * (Real.pi / 180) = s.width * Real.pi / 360 := by ring
    rw [this, div_lt_div_iff₀ (by norm_num) (by norm_num)]
    nlinarith [Real.pi_pos]
  have hW : 0 < d * Real.tan (radians (s.width / 2)) := mul_pos hd (Real.tan_pos_of_pos_of_lt_pi_div_two hang0 hang1)
  have e1 : radians (- -90 : ℝ) = Real.pi / 2 := by rw [neg_neg]; exact radians_90
  have e2 : radians (90 : ℝ) = Real.pi / 2 := radians_90
  have htan : ∀ x : ℝ, Scalar.tan x = Real.tan x := fun _ => rfl
  have en0 : radians (-0 : ℝ) = 0 := by rw [neg_zero, radians_zero]
  simp only [polarEdges, hp, if_true, hc, k_real, h90, h2, zero_real, one_real, cart, e1, e2, radians_zero, en0, sin_real, cos_real,
    Real.sin_pi_div_two, Real.cos_pi_div_two, Real.sin_zero, Real.cos_zero, htan, vscale, vsub, vaddv, mul_one, one_mul, zero_mul,
    mul_zero, sub_zero, add_zero, zero_add, zero_sub]
  -- with W = d · tan(width/2) the centre is (0, d, 0) and the screen vectors are (W, 0, 0) and (0, 0, H): the first test compares
  -- the azimuths of (−W, d, 0) and (W, d, 0), the second those of (0, d, −H) and (0, d, H), which are equal
  split
  · rename_i hlt
    exfalso
    have hl := azimuthOf_of_x_neg (-(d * Real.tan (radians (s.width / 2)))) d 0 (by simpa using hW)
    have hr := azimuthOf_of_x_nonneg (d * Real.tan (radians (s.width / 2))) d 0 hW.le
    linarith
  · split
    · rename_i hlt
      exfalso
      simp only [azimuthOf, sub_self] at hlt
      norm_num at hlt
    · exact ⟨_, rfl⟩

/-! ### the Cartesian point path without zones and lock is total -/

theorem alloExtendFrom_allFalse (pos : List (Zone.P3 ℝ)) [Zone.Scalar ℝ] : ∀ (cs : List (Zone.P3 ℝ)) (i : Nat) (m : List Bool),
    (∀ b ∈ m, b = false) → Zone.alloExtendFrom pos cs i m = m
  | [], _, _, _ => rfl
  | c :: cs, i, m, hm => by
    have hex : Zone.isExcl m i = false := by
      simp only [Zone.isExcl, List.getD_eq_getElem?_getD]
      cases hg : m[i]? with
      | none => rfl
      | some b => simpa using hm b (List.mem_of_getElem? hg)
    simp only [Zone.alloExtendFrom, Zone.extendStep, hex, Bool.false_and, Bool.false_eq_true, if_false]
    exact alloExtendFrom_allFalse pos cs (i + 1) m hm

theorem alloExcluded_allFalse [Zone.Scalar ℝ] (pos : List (Zone.P3 ℝ)) (m : List Bool) (hm : ∀ b ∈ m, b = false) :
    Zone.alloExcluded pos m = m := by
  simp only [Zone.alloExcluded, Zone.alloExtend, alloExtendFrom_allFalse pos pos 0 m hm]
  split
  · exact (List.map_congr_left fun b hb => (hm b hb).symm).trans (List.map_id' m)
  · rfl

theorem keep_allFalse {β : Type} : ∀ (m : List Bool) (l : List β), (∀ b ∈ m, b = false) → m.length = l.length →
    CartLock.keep m l = l
  | [], [], _, _ => rfl
  | [], _ :: _, _, h => by simp at h
  | _ :: _, [], _, h => by simp at h
  | b :: m, a :: l, hm, h => by
    have hb : b = false := hm b (by simp)
    subst hb
    simp only [CartLock.keep]
    rw [keep_allFalse m l (fun b hb => hm b (by simp [hb])) (by simpa using h)]

/-- the layout's screen, if any, has edges (`GainCalc.__init__` does not raise) -/
def ScreenOk (E : LayoutEnv ℝ) : Prop := ∀ rep, E.screen = some rep → ∃ e, polarEdges rep = some e

/-- a block that uses none of positionOffset, screenRef, screenEdgeLock, zoneExclusion, channelLock -/
structure PlainBlock (b : CBlock ℝ) : Prop where
  offset : b.base.offset = none
  screenRef : b.screenRef = false
  edge : b.edge = ⟨none, none⟩
  zones : b.zones = []
  lock : b.lock = none

theorem positionBeforeLock_plain (E : LayoutEnv ℝ) (P : Conv.Params ℝ) (b : CBlock ℝ) (hs : ScreenOk E) (hb : PlainBlock b) :
    positionBeforeLock E P b = some (coordTrans b.base.cartesian b.base.coords) := by
  simp only [positionBeforeLock, hb.offset, applyOffset_none, Option.bind_some, screenScaleHandle_noRef E P _ b _ hb.screenRef]
  cases hsc : E.screen with
  | none => exact edgeLockHandle_noScreen E P _ b _ hsc
  | some rep =>
    obtain ⟨e, he⟩ := hs rep hsc
    exact edgeLockHandle_noEdge E P _ b _ rep e hsc he hb.edge

open Earverif.C13 (TreeS leaves Distinct) in
theorem renderConcreteCart_plain_total (E : LayoutEnv ℝ) (P : Conv.Params ℝ) (b : CBlock ℝ) (hE : E.spks.length = E.allo.length)
    (hd : Distinct E.allo) (hne : E.allo ≠ []) (hs : ScreenOk E) (hb : PlainBlock b) :
    ∃ r, renderConcreteCart E P b = some r := by
  have hmask : ∀ x ∈ E.spks.map (fun _ => false), x = false := by
    intro x hx; simp only [List.mem_map] at hx; obtain ⟨_, _, rfl⟩ := hx; rfl
  have hfin : Zone.alloExcluded E.allo (E.spks.map fun _ => false) = E.spks.map fun _ => false :=
    alloExcluded_allFalse _ _ hmask
  have hkeep : CartLock.keep (E.spks.map fun _ => false) E.allo = E.allo := keep_allFalse _ _ hmask (by simp [hE])
  obtain ⟨st, hst, hts, hleaves⟩ := C13.speakerTree_spec E.allo hd
  have htot : ∀ ps : List (V3 ℝ), ∃ g, (ps.mapM fun pos => alloHandle E.allo.length st pos.1 pos.2.1 pos.2.2) = some g := by
    intro ps
    exact mapM_some_of_forall _ ps (fun pos _ => alloHandle_total _ st _ _ _ (treeNonempty_of_spec E.allo hne st hts hleaves))
  simp only [renderConcreteCart, positionBeforeLock_plain E P b hs hb, Option.bind_some, hb.zones, Zone.getExcluded, hfin, hkeep,
    hb.lock, Lock.lockHandle, CartLock.lockedPosition, hst]
  obtain ⟨g, hg⟩ := htot (divergePositions true (ofP3 (toP3 (coordTrans b.base.cartesian b.base.coords))) b.base.divValue
    b.base.azimuthRange b.base.positionRange b.base.v2)
  rw [hg]
  exact ⟨_, rfl⟩

/-! ### the C05 panner returns a result at the first loudspeaker of every Triplet -/

theorem exists_region {L : RawLayout} (hwf : L.wellFormed = true) {r : RawRegion} (hr : r ∈ L.regions) :
    ∃ (regions : List (Region ℝ)) (k : Nat) (hk : k < regions.length),
      L.regions.mapM (RawRegion.toRegion (α := ℝ)) = some regions ∧ r.toRegion = some regions[k] := by
  obtain ⟨regions, hmap⟩ := PointSource.Cover.mapM_toRegion_of_wf L hwf
  obtain ⟨k, hkl, hkr⟩ := List.getElem_of_mem hr
  obtain ⟨reg, hreg, htr⟩ := mapM_some_getElem? hmap k r (by rw [List.getElem?_eq_getElem hkl, hkr])
  obtain ⟨hk, rfl⟩ := List.getElem?_eq_some_iff.mp hreg
  exact ⟨regions, k, hk, hmap, htr⟩

/-- the Triplet itself accepts its own vertex (`triplet_exact_at_vertex`; invertible by `pspNzOk`), so the first-accepting
    scan cannot come back empty.  Stated without the wrapper because its one use is the front loudspeaker of the nine
    non-stereo tables; 0+2+0 goes through `pspHandle_some_at_centre` -/
theorem pspHandle_some_at_vertex (L : RawLayout) (hwf : L.wellFormed = true) (hst : L.stereo = none) (hz : pspNzOk L = true)
    (r : RawRegion) (hr : r ∈ L.regions) (hk : r.kind = 0) (a b c : P3) (hp : r.pos = [a, b, c]) :
    ∃ p, pspHandle L (PointSource.p3 a : Vec3 ℝ) = some p := by
  obtain ⟨regions, k, hklt, hmap, htr⟩ := exists_region hwf hr
  have hregEq : regions[k] = .triplet r.ch (PointSource.p3 a, PointSource.p3 b, PointSource.p3 c) := by
    simp only [RawRegion.toRegion, hk, hp, Option.some.injEq] at htr
    exact htr.symm
  have hdet : PointSource.det3 ((PointSource.p3 a : Vec3 ℝ), PointSource.p3 b, PointSource.p3 c) ≠ 0 := by
    have := List.all_eq_true.mp hz r hr
    simp only [regionNzOk, hk, hp] at this
    exact (tripOk_sound a b c this).1
  -- the inner panner has a result
  have hne : ∀ roots, PointSource.PointSourcePanner.handle regions L.nInner roots (PointSource.p3 a : Vec3 ℝ) ≠ none := by
    intro roots hnone
    have := (PointSource.panner_none_iff regions L.nInner roots _).mp hnone k hklt
    rw [hregEq] at this
    simp only [Region.handle, (PointSource.triplet_exact_at_vertex _ hdet).1, Option.map_some] at this
    exact absurd this (by simp)
  obtain ⟨roots, _, _, he⟩ := pspHandle_eq_handle L (PointSource.p3 a : Vec3 ℝ)
  obtain ⟨v, hv⟩ := Option.ne_none_iff_exists'.mp (hne roots)
  exact ⟨_, he.trans (rawHandle_eq_some_iff.mpr ⟨regions, v, hmap, hv, by rw [hst]⟩)⟩

/-! ### a polar point block straight ahead at distance 1 -/

theorem p3_front : (PointSource.p3 (((0, 0), (1, 0), (0, 0)) : P3) : Vec3 ℝ) = (0, 1, 0) := by
  simp [PointSource.p3, PointSource.OfF2.ofF2, PointSource.f2Rat]

/-- a polar point block whose position is mapped by `coord_trans` onto a point `pos0` at distance 1 where the C05 panner has
    a result is rendered — no positionOffset, screenRef, screenEdgeLock, zones, channelLock, divergence -/
theorem renderConcretePolarPoint_at_total (E : LayoutEnv ℝ) (P : Conv.Params ℝ) (L : RawLayout)
    (hspk : E.spks.length = E.groups.length) (hs : ScreenOk E) (blk : CBlock ℝ) (hb : PlainBlock blk)
    (hpolar : blk.base.cartesian = false) (hdiv : blk.base.divValue = none) (pos0 : V3 ℝ)
    (hcart : cart blk.base.coords.1 blk.base.coords.2.1 blk.base.coords.2.2 = pos0) (hn : norm3 pos0 = 1)
    (hpv : ∃ pv, pspHandle L pos0 = some pv) :
    ∃ out, renderConcretePolarPoint E P L blk = some out := by
  obtain ⟨pv, hpv⟩ := hpv
  have hpos : positionBeforeLock E P blk = some pos0 := by
    rw [positionBeforeLock_plain E P blk hs hb, hpolar]
    simp only [coordTrans, Bool.false_eq_true, if_false, hcart]
  have hpan : polarPointPan E L pos0 = some (polarHandle E.n pv (fun _ _ => []) pos0 zero zero zero) := by
    have hext : polarExtents (1 : ℝ) (zero : ℝ) zero zero = [(0, 0)] := by
      rw [polarExtents_zero_depth, extentMod_zero_far 1 le_rfl]
    simp only [polarPointPan, hn, hext, amountSpread_zero, hpv, Option.map_some]
    rw [if_neg]
    rw [k_tiny]; norm_num
  have hmaskall : (E.spks.map fun _ => false).all (fun b => !b) = true := by simp
  have hdm : downmixForExcluded E.groups (E.spks.map fun _ => false) = some (eye E.groups.length : List (List ℝ)) := by
    simp only [downmixForExcluded, List.length_map, hspk, bne_self_eq_false, Bool.false_eq_true, if_false, hmaskall,
      Bool.or_true, if_true]
  simp only [renderConcretePolarPoint, hpos, Option.bind_some, hb.lock, Lock.lockHandle, CartLock.lockedPosition, hdiv,
    divergePositions, ofP3, toP3, List.mapM_cons, List.mapM_nil, hpan, hb.zones, Zone.getExcluded, hdm]
  exact ⟨_, rfl⟩

theorem renderConcretePolarPoint_front_total (E : LayoutEnv ℝ) (P : Conv.Params ℝ) (L : RawLayout)
    (hspk : E.spks.length = E.groups.length) (hwf : L.wellFormed = true) (hst : L.stereo = none) (hz : pspNzOk L = true)
    (hs : ScreenOk E) (r : RawRegion) (hr : r ∈ L.regions) (hk : r.kind = 0) (b c : P3)
    (hp : r.pos = [((0, 0), (1, 0), (0, 0)), b, c]) (blk : CBlock ℝ) (hb : PlainBlock blk)
    (hpolar : blk.base.cartesian = false) (hcoords : blk.base.coords = (0, 0, 1)) (hdiv : blk.base.divValue = none) :
    ∃ out, renderConcretePolarPoint E P L blk = some out := by
  have hpv := pspHandle_some_at_vertex L hwf hst hz r hr hk _ b c hp
  rw [p3_front] at hpv
  refine renderConcretePolarPoint_at_total E P L hspk hs blk hb hpolar hdiv (0, 1, 0) ?_ (by simp [norm3]) hpv
  rw [hcoords]; exact cart_front 1

/-! ### straight up: the virtual centre of a VirtualNgon (also through the 0+2+0 stereo wrapper) -/

theorem cart_up : cart (0 : ℝ) 90 1 = (0, 0, 1) := by
  have e : radians (90 : ℝ) = Real.pi / 2 := radians_90
  simp only [cart, e, sin_real, cos_real, Real.sin_pi_div_two, Real.cos_pi_div_two]
  simp [radians]

theorem p3_up : (PointSource.p3 (((0, 0), (0, 0), (1, 0)) : P3) : Vec3 ℝ) = (0, 0, 1) := by
  simp [PointSource.p3, PointSource.OfF2.ofF2, PointSource.f2Rat]

/-- the first fan triangle already accepts the virtual centre -/
theorem ngon_some_at_centre (n : Nat) (r : RawRegion) (hw : r.wellFormed n = true) (hz : regionNzOk r = true)
    (hk : r.kind = 1) (reg : Region ℝ) (hreg : r.toRegion = some reg) (roots : Option ℝ × Option ℝ) :
    reg.handle roots (PointSource.p3 r.centre : Vec3 ℝ) ≠ none := by
  obtain ⟨kind, ch, posl, centre, cdm, order⟩ := r
  simp only at hk
  subst hk
  simp only [RawRegion.toRegion, Option.some.injEq] at hreg
  subst hreg
  simp only [RawRegion.wellFormed, Bool.and_eq_true, decide_eq_true_eq, beq_iff_eq] at hw
  obtain ⟨⟨_, hpl⟩, ⟨⟨⟨hk3, _⟩, _⟩, _⟩⟩ := hw
  have hpos0 : 0 < posl.length := by omega
  simp only [regionNzOk, List.all_eq_true, List.mem_range, Bool.and_eq_true, decide_eq_true_eq, bne_iff_ne, ne_eq] at hz
  obtain ⟨⟨⟨hoi, hoj⟩, _⟩, htri⟩ := hz 0 hpos0
  obtain ⟨hd, _⟩ := tripOk_sound _ _ _ htri
  rw [← getD_map_p3 posl _ hoi, ← getD_map_p3 posl _ hoj] at hd
  simp only [Region.handle, PointSource.VirtualNgon.handle]
  intro hnone
  have hall := PointSource.firstAccept_eq_none.mp hnone
  have hmem : (([order.getD 0 0, order.getD ((0 + 1) % posl.length) 0, posl.length],
      ((posl.map (PointSource.p3 (α := ℝ))).getD (order.getD 0 0) PointSource.zero3,
       (posl.map (PointSource.p3 (α := ℝ))).getD (order.getD ((0 + 1) % posl.length) 0) PointSource.zero3,
       (PointSource.p3 centre : Vec3 ℝ))) : List Nat × Mat3 ℝ) ∈
      (PointSource.VirtualNgon.regions ⟨posl.map PointSource.p3, PointSource.p3 centre, cdm.map PointSource.OfF2.ofF2, order⟩) := by
    simp only [PointSource.VirtualNgon.regions, List.mem_map, List.mem_range, List.length_map]
    exact ⟨0, hpos0, rfl⟩
  have := hall _ (List.mem_map.mpr ⟨_, hmem, rfl⟩)
  simp only [(PointSource.triplet_exact_at_vertex _ hd).2.2, Option.map_some, PointSource.remap] at this
  exact absurd this (by simp)

theorem pspHandle_some_at_centre (L : RawLayout) (hwf : L.wellFormed = true) (hz : pspNzOk L = true)
    (r : RawRegion) (hr : r ∈ L.regions) (hk : r.kind = 1) (hc : r.centre = ((0, 0), (0, 0), (1, 0))) :
    ∃ p, pspHandle L ((0, 0, 1) : V3 ℝ) = some p := by
  have hw := hwf
  simp only [RawLayout.wellFormed, Bool.and_eq_true, List.all_eq_true] at hw
  obtain ⟨⟨⟨hregs, _⟩, hdm⟩, hstw⟩ := hw
  obtain ⟨regions, k, hklt, hmap, htr⟩ := exists_region hwf hr
  have hup : (PointSource.p3 r.centre : Vec3 ℝ) = (0, 0, 1) := by rw [hc]; exact p3_up
  have hne : ∀ roots, PointSource.PointSourcePanner.handle regions L.nInner roots ((0, 0, 1) : Vec3 ℝ) ≠ none := by
    intro roots hnone
    have := (PointSource.panner_none_iff regions L.nInner roots _).mp hnone k hklt
    rw [← hup] at this
    exact ngon_some_at_centre L.nInner r (hregs r hr) (List.all_eq_true.mp hz r hr) hk _ htr _ this
  obtain ⟨roots, hr1, hr2, he⟩ := pspHandle_eq_handle L ((0, 0, 1) : V3 ℝ)
  obtain ⟨v, hv⟩ := Option.ne_none_iff_exists'.mp (hne roots)
  rw [he]
  cases hst : L.stereo with
  | none => exact ⟨_, rawHandle_eq_some_iff.mpr ⟨regions, v, hmap, hv, by rw [hst]⟩⟩
  | some lr =>
    obtain ⟨l, r2⟩ := lr
    have hQ := panner_inner_spec L hwf hz regions hmap roots hr1 hr2 (0, 0, 1) (by norm_num) v hv
    simp only [hst, decide_eq_true_eq, Bool.and_eq_true, beq_iff_eq] at hstw
    obtain ⟨out', ho', _⟩ := stereoPan_inner L hdm hstw.2 v hQ.1 hQ.2.1 hQ.2.2
    exact ⟨_, rawHandle_eq_some_iff.mpr ⟨regions, v, hmap, hv, by rw [hst]; exact congrArg (PointSource.remap [l, r2] 2) ho'⟩⟩

theorem renderConcretePolarPoint_up_total (E : LayoutEnv ℝ) (P : Conv.Params ℝ) (L : RawLayout)
    (hspk : E.spks.length = E.groups.length) (hwf : L.wellFormed = true) (hz : pspNzOk L = true)
    (hs : ScreenOk E) (r : RawRegion) (hr : r ∈ L.regions) (hk : r.kind = 1) (hc : r.centre = ((0, 0), (0, 0), (1, 0)))
    (blk : CBlock ℝ) (hb : PlainBlock blk) (hpolar : blk.base.cartesian = false) (hcoords : blk.base.coords = (0, 90, 1))
    (hdiv : blk.base.divValue = none) :
    ∃ out, renderConcretePolarPoint E P L blk = some out := by
  refine renderConcretePolarPoint_at_total E P L hspk hs blk hb hpolar hdiv (0, 0, 1) ?_ (by simp [norm3])
    (pspHandle_some_at_centre L hwf hz r hr hk hc)
  rw [hcoords]; exact cart_up

end Earverif.GainCalc
