/-
C20 — when does the binary64 evaluation of `int(math.ceil((sample_rate * delay) / 1000.0 - 0.5))`
(`delaySamplesF`) give the nearest sample of the exact value (`delaySamples`)?  Whenever
`x = sample_rate·delay/1000` keeps a relative distance of `2^-50` from every half-integer
(`delaySamplesF_eq_of_margin`).  What it needs of `rn53` is in `Proofs/C16Ieee.lean` (Mathlib), above all the relative error
`rn53_rel_abs`, the representable numbers `rn53_dyadic` / `rn53_int`, and that `rn53` does not cross one (`rn53_le_of_le`).
Built on top of `Props/C20.lean`, so that `Props/C20.lean` itself (imported by `Props/C02.lean` and
`Proofs/C06Decl.lean`) stays free of Mathlib.
Second part: the cases the margin theorem leaves out — delay 0 (`delaySamplesF_zero`), exact half samples
(`delaySamplesF_tie`) — and delays written with five decimals, at every sample rate whose period `1000/fs` ms has
a denominator prime to 5 (`decimal_delay_exact`; 44.1/48/96 kHz: `five_decimal_delay_exact`).
-/
import Earverif.Proofs.C16Ieee
import Earverif.Props.C20
import Earverif.Proofs.C20Driver

namespace Earverif.TrackSpec
open Earverif.Ieee

theorem two_pow_53 : (2 : ℚ) ^ (53 : ℤ) = 9007199254740992 := by
  rw [show (53 : ℤ) = (53 : ℕ) by norm_num, zpow_natCast]; norm_num

theorem two_pow_52 : (2 : ℚ) ^ (52 : ℤ) = 4503599627370496 := by
  rw [show (52 : ℤ) = (52 : ℕ) by norm_num, zpow_natCast]; norm_num

theorem two_pow_neg53 : (2 : ℚ) ^ (-53 : ℤ) = 1 / 9007199254740992 := by
  rw [zpow_neg, two_pow_53, one_div]

theorem two_pow_neg50 : (2 : ℚ) ^ (-50 : ℤ) = 8 * (2 : ℚ) ^ (-53 : ℤ) := by
  rw [show (-50 : ℤ) = -53 + 3 by norm_num, zpow_add₀ (by norm_num : (2 : ℚ) ≠ 0)]; norm_num

theorem lt_two_pow_53 {n : ℤ} (h : n ≤ 10 ^ 14) : (n : ℚ) < (2 : ℚ) ^ (53 : ℤ) := by
  have : (n : ℚ) ≤ ((10 ^ 14 : ℤ) : ℚ) := Int.cast_le.mpr h
  rw [two_pow_53]
  push_cast at this
  linarith

/-- the product and the quotient of the conversion: two roundings lose at most `3·2^-53` relatively -/
theorem rn53_mul_div_err {a : ℚ} (ha : 0 < a) :
    |rn53 (rn53 a / 1000) - a / 1000| ≤ 3 * (a / 1000 * (2 : ℚ) ^ (-53 : ℤ)) := by
  have hrel := rn53_rel
  have hu0 := two_zpow_pos (-53)
  have hu1 : (2 : ℚ) ^ (-53 : ℤ) < 1 := by rw [two_pow_neg53]; norm_num
  generalize (2 : ℚ) ^ (-53 : ℤ) = u at *
  have hp := abs_le.mp (hrel a ha)
  generalize rn53 a = p at *
  have hau : a * u < a := mul_lt_of_lt_one_right ha hu1
  have hq := abs_le.mp (hrel (p / 1000) (by linarith only [hp.1, hau]))
  generalize rn53 (p / 1000) = q at *
  have hpu : p * u ≤ (a + a * u) * u := mul_le_mul_of_nonneg_right (by linarith only [hp.2]) hu0.le
  have hauu : a * u * u < a * u := mul_lt_of_lt_one_right (mul_pos ha hu0) hu1
  rw [abs_le]
  constructor <;> linarith only [hp.1, hp.2, hq.1, hq.2, hpu, hauu]

/-- a value further than `M` from every half-integer lies in the interior of its rounding interval
`(k - 1/2, k + 1/2]`, `M` away from both ends -/
theorem ceil_sub_half_margin {x M : ℚ} (hm : ∀ m : ℤ, M < |x - ((m : ℚ) + 1 / 2)|) :
    ((x - 1 / 2).ceil : ℚ) - 1 / 2 + M < x ∧ x + M < ((x - 1 / 2).ceil : ℚ) + 1 / 2 := by
  have hk1 : x - 1 / 2 ≤ ((x - 1 / 2).ceil : ℚ) := Rat.le_ceil
  have hk2 : ((x - 1 / 2).ceil : ℚ) < x - 1 / 2 + 1 := Rat.ceil_lt
  have h1 := hm ((x - 1 / 2).ceil - 1)
  have h2 := hm (x - 1 / 2).ceil
  generalize (x - 1 / 2).ceil = k at *
  push_cast at h1
  rw [abs_of_nonneg (by linarith only [hk2])] at h1
  rw [abs_of_nonpos (by linarith only [hk1])] at h2
  exact ⟨by linarith only [h1], by linarith only [h2]⟩

/-- Within the distance `x·2^-50` of a half-integer it need not hold: `float_delay_counterexample`. -/
theorem delaySamplesF_eq_of_margin (fs : ℤ) (ms : ℚ) (hfs : 0 < fs) (hfs' : (fs : ℚ) < (2 : ℚ) ^ (53 : ℤ))
    (hms : 0 < ms) (hx52 : (fs : ℚ) * ms / 1000 < (2 : ℚ) ^ (52 : ℤ))
    (hm : ∀ m : ℤ, (fs : ℚ) * ms / 1000 * (2 : ℚ) ^ (-50 : ℤ) < |(fs : ℚ) * ms / 1000 - ((m : ℚ) + 1 / 2)|) :
    delaySamplesF fs ms = delaySamples fs ms := by
  have ha : 0 < (fs : ℚ) * ms := mul_pos (Int.cast_pos.mpr hfs) hms
  unfold delaySamplesF delaySamples
  rw [rn53_int fs hfs.le hfs']
  -- `q`, the rounded quotient, is within `3xu` of `x` (`u = 2^-53`); `x` is `8xu = x·2^-50` inside its rounding
  -- interval, which leaves `5xu` for the last rounding: its argument is at most `2x`, so it moves by at most `2xu`
  have hq := abs_le.mp (rn53_mul_div_err ha)
  obtain ⟨hm1, hm2⟩ := ceil_sub_half_margin hm
  have hx0 : 0 < (fs : ℚ) * ms / 1000 := div_pos ha (by norm_num)
  have hrel := rn53_rel_abs (rn53 (rn53 ((fs : ℚ) * ms) / 1000) - 1 / 2)
  have hle := fun h0 h53 => rn53_le_of_le (y := rn53 (rn53 ((fs : ℚ) * ms) / 1000) - 1 / 2)
    (rn53_int ((fs : ℚ) * ms / 1000 - 1 / 2).ceil h0 h53)
  have hu0 := two_zpow_pos (-53)
  have hu1 : (2 : ℚ) ^ (-53 : ℤ) < 1 / 8 := by rw [two_pow_neg53]; norm_num
  rw [two_pow_neg50] at hm1 hm2
  rw [two_pow_53] at hle
  rw [two_pow_52] at hx52
  generalize (2 : ℚ) ^ (-53 : ℤ) = u at *
  generalize rn53 (rn53 ((fs : ℚ) * ms) / 1000) = q at *
  generalize (fs : ℚ) * ms / 1000 = x at *
  generalize (x - 1 / 2).ceil = k at *
  have hxu : 0 < x * u := mul_pos hx0 hu0
  have hxu8 : x * (8 * u) = 8 * (x * u) := by ring
  rw [hxu8] at hm1 hm2
  have hk0 : 0 ≤ k := by
    have : (-1 : ℚ) < k := by linarith only [hm2, hxu, hx0]
    have : (-1 : ℤ) < k := by exact_mod_cast this
    omega
  refine ceil_eq_of _ k ?_ (hle hk0 (by linarith only [hm1, hxu, hx52]) (by linarith only [hq.2, hm2, hxu]))
  rw [abs_le] at hrel
  rcases lt_or_ge 0 k with hk | hk
  · -- the argument of the last rounding is positive and at most `2x`
    have hk1 : (1 : ℚ) ≤ k := by exact_mod_cast hk
    rw [abs_of_nonneg (by linarith only [hk1, hq.1, hm1, hxu])] at hrel
    have : (q - 1 / 2) * u ≤ 2 * x * u :=
      mul_le_mul_of_nonneg_right (by linarith only [hk1, hq.2, hm1, hm2, hxu]) hu0.le
    linarith only [this, hrel.1, hq.1, hm1, hxu]
  · -- the argument is in `(-1/2, 0)`, because `0 < q`
    have hk1 : (k : ℚ) ≤ 0 := by exact_mod_cast hk
    have hq0 : x * u < x * (1 / 8) := mul_lt_mul_of_pos_left hu1 hx0
    rw [abs_of_nonpos (by linarith only [hk1, hq.2, hm2, hxu])] at hrel
    have : -(q - 1 / 2) * u ≤ 1 / 2 * u := mul_le_mul_of_nonneg_right (by linarith only [hq.1, hq0, hx0]) hu0.le
    linarith only [this, hrel.1, hq.1, hq0, hx0, hk1, hu1]

/-- `delaySamplesF_eq_of_margin` as a statement about specs -/
theorem floatExact_of_margin {α : Type} (fs : Int) (t : Spec α) (g : Option α) (ms : Rat)
    (ht : t.floatExact fs = true) (hfs : 0 < fs) (hfs' : (fs : Rat) < (2 : Rat) ^ (53 : Int)) (hms : 0 < ms)
    (hx52 : (fs : Rat) * ms / 1000 < (2 : Rat) ^ (52 : Int))
    (hm : ∀ m : Int, (fs : Rat) * ms / 1000 * (2 : Rat) ^ (-50 : Int) <
      |(fs : Rat) * ms / 1000 - ((m : Rat) + 1 / 2)|) :
    (Spec.matrix t g (some ms)).floatExact fs = true := by
  simp only [Spec.floatExact, ht, Bool.true_and, decide_eq_true_eq]
  exact delaySamplesF_eq_of_margin fs ms hfs hfs' hms hx52 hm

/-- non-vacuity of the margin: 1/32 ms at 48 kHz is 1.5 samples … an exact tie, so the margin
hypothesis fails there (distance 0) although the float evaluation is exact; 1/64 ms (0.75 samples)
meets it -/
example : ∀ m : Int, (48000 : Rat) * (1 / 64) / 1000 * (2 : Rat) ^ (-50 : Int) <
    |(48000 : Rat) * (1 / 64) / 1000 - ((m : Rat) + 1 / 2)| := by
  intro m
  rw [two_pow_neg50, two_pow_neg53, show (48000 : Rat) * (1 / 64) / 1000 = 3 / 4 by norm_num]
  rcases le_or_gt m 0 with h | h
  · have : (m : Rat) ≤ 0 := by exact_mod_cast h
    rw [abs_of_pos (by linarith)]; linarith
  · have : (1 : Rat) ≤ m := by exact_mod_cast h
    rw [abs_of_neg (by linarith)]; linarith


/-- `delaySamplesF_eq_of_margin` needs `0 < ms` -/
theorem delaySamplesF_zero (fs : ℤ) : delaySamplesF fs 0 = 0 ∧ delaySamples fs 0 = 0 := by
  have c : (-(1 / 2 : ℚ)).ceil = 0 := ceil_eq_of _ 0 (by norm_num) (by norm_num)
  have h : rn53 (-(1 / 2 : ℚ)) = -(1 / 2) := by
    have := fix_neg (rn53_two_zpow (-1))
    rwa [zpow_neg_one, ← one_div] at this
  constructor
  · unfold delaySamplesF
    rw [mul_zero, rn53_zero, zero_div, rn53_zero, zero_sub, h, c]
  · unfold delaySamples
    rw [mul_zero, zero_div, zero_sub, c]

/-- An exact half sample is converted exactly by the code: every intermediate result (`fs·ms = 500·(2m+1)`,
`m + 1/2`, `m`) is a binary64 number, and both conversions give the earlier sample `m`. -/
theorem delaySamplesF_tie (fs : ℤ) (ms : ℚ) (m : ℤ) (hfs : 0 < fs) (hfs' : (fs : ℚ) < (2 : ℚ) ^ (53 : ℤ))
    (hm0 : 0 ≤ m) (hm : ((500 * (2 * m + 1) : ℤ) : ℚ) < (2 : ℚ) ^ (53 : ℤ))
    (hx : (fs : ℚ) * ms / 1000 = (m : ℚ) + 1 / 2) :
    delaySamplesF fs ms = m ∧ delaySamples fs ms = m := by
  have hmq : (0 : ℚ) ≤ m := by exact_mod_cast hm0
  have hm' : ((2 * m + 1 : ℤ) : ℚ) < (2 : ℚ) ^ (53 : ℤ) := by
    push_cast at hm ⊢; linarith only [hm, hmq]
  have hm'' : (m : ℚ) < (2 : ℚ) ^ (53 : ℤ) := by push_cast at hm'; linarith only [hm', hmq]
  have hds : delaySamples fs ms = m := by
    unfold delaySamples; rw [hx, add_sub_cancel_right, Rat.ceil_intCast]
  refine ⟨?_, hds⟩
  -- no operation of the binary64 evaluation rounds: `fs`, `fs·ms = 500(2m+1)`, `(2m+1)/2`, `m`
  rw [delaySamplesF_eq_of_exact fs ms (rn53_int fs hfs.le hfs') ?_ ?_ ?_, hds]
  · rw [show (fs : ℚ) * ms = ((500 * (2 * m + 1) : ℤ) : ℚ) by push_cast; linarith only [hx]]
    exact rn53_int _ (by omega) hm
  · rw [hx, show (m : ℚ) + 1 / 2 = ((2 * m + 1 : ℤ) : ℚ) * (2 : ℚ) ^ (-1 : ℤ) by
      rw [zpow_neg_one]; push_cast; ring]
    exact rn53_dyadic _ _ (by omega) hm'
  · rw [hx, add_sub_cancel_right]
    exact rn53_int m hm0 hm''

/-- 0.03125 ms at 48 kHz = 1.5 samples, 0.15625 ms = 7.5 samples, 5 ms at 44.1 kHz = 220.5 samples -/
example : (((48000 : ℤ) : ℚ) * (1 / 32) / 1000 = ((1 : ℤ) : ℚ) + 1 / 2) ∧
    (((48000 : ℤ) : ℚ) * (5 / 32) / 1000 = ((7 : ℤ) : ℚ) + 1 / 2) ∧
    (((44100 : ℤ) : ℚ) * 5 / 1000 = ((220 : ℤ) : ℚ) + 1 / 2) := by norm_num

/-- A value `x` further than `δ > 10·x·u` from every half-integer, moved relatively by at most `u` to `x'`:
`x'` keeps the margin `8·x'·u` of `delaySamplesF_eq_of_margin`, and has the same nearest sample.  (Of the `10·x·u`,
8 are the margin, 1 the move from `x` to `x'`, 1 covers `8·x'·u` against `8·x·u` when `u ≤ 1/8`.) -/
theorem margin_of_perturbed {x x' u δ : ℚ} (hu0 : 0 < u) (hu1 : u ≤ 1 / 8) (hx0 : 0 < x)
    (hxx : |x' - x| ≤ x * u) (hδ : 10 * (x * u) < δ) (hdist : ∀ m : ℤ, δ ≤ |x - ((m : ℚ) + 1 / 2)|) :
    (∀ m : ℤ, x' * (8 * u) < |x' - ((m : ℚ) + 1 / 2)|) ∧ (x' - 1 / 2).ceil = (x - 1 / 2).ceil := by
  have hw0 : 0 < x * u := mul_pos hx0 hu0
  have hwu : x * u * u ≤ x * u * (1 / 8) := mul_le_mul_of_nonneg_left hu1 hw0.le
  obtain ⟨g3, g4⟩ := ceil_sub_half_margin (M := x * u)
    (fun m => lt_of_lt_of_le (by linarith only [hδ, hw0]) (hdist m))
  have hx' := abs_le.mp hxx
  refine ⟨fun m => ?_, ceil_eq_of _ _ (by linarith only [g3, hx'.1]) (by linarith only [g4, hx'.2])⟩
  have t := abs_sub_le x x' ((m : ℚ) + 1 / 2)
  rw [abs_sub_comm x x'] at t
  have : x' * (8 * u) ≤ (x + x * u) * (8 * u) := mul_le_mul_of_nonneg_right (by linarith only [hx'.2]) (by linarith only [hu0])
  linarith only [this, t, hxx, hdist m, hδ, hwu]

/-- The margin theorem for a delay `d` ms that reaches the code as the nearest binary64 number `rn53 d`. -/
theorem delaySamplesF_rn53_eq_of_dist (fs : ℤ) (d δ : ℚ) (hfs : 0 < fs) (hfs' : (fs : ℚ) < (2 : ℚ) ^ (53 : ℤ))
    (hd : 0 < d) (hx : (fs : ℚ) * d / 1000 ≤ (2 : ℚ) ^ (51 : ℤ))
    (hδ : 10 * ((fs : ℚ) * d / 1000 * (2 : ℚ) ^ (-53 : ℤ)) < δ)
    (hdist : ∀ m : ℤ, δ ≤ |(fs : ℚ) * d / 1000 - ((m : ℚ) + 1 / 2)|) :
    delaySamplesF fs (rn53 d) = delaySamples fs (rn53 d) ∧ delaySamples fs (rn53 d) = delaySamples fs d := by
  have hfsq : (0 : ℚ) < fs := Int.cast_pos.mpr hfs
  have hu0 := two_zpow_pos (-53)
  have hu : (2 : ℚ) ^ (-53 : ℤ) < 1 / 8 := by rw [two_pow_neg53]; norm_num
  have hx0 : 0 < (fs : ℚ) * d / 1000 := div_pos (mul_pos hfsq hd) (by norm_num)
  have hrel := rn53_rel d hd
  -- read as a double the delay moves by at most `x·2^-53` samples
  have hxx : |(fs : ℚ) * rn53 d / 1000 - (fs : ℚ) * d / 1000| ≤ (fs : ℚ) * d / 1000 * (2 : ℚ) ^ (-53 : ℤ) := by
    rw [show (fs : ℚ) * rn53 d / 1000 - (fs : ℚ) * d / 1000 = (fs : ℚ) / 1000 * (rn53 d - d) by ring, abs_mul,
      abs_of_pos (by positivity : (0 : ℚ) < (fs : ℚ) / 1000)]
    calc (fs : ℚ) / 1000 * |rn53 d - d| ≤ (fs : ℚ) / 1000 * (d * (2 : ℚ) ^ (-53 : ℤ)) :=
          mul_le_mul_of_nonneg_left hrel (by positivity)
      _ = _ := by ring
  have hms0 : 0 < rn53 d := by
    have := mul_lt_of_lt_one_right hd (lt_trans hu (by norm_num))
    linarith only [this, (abs_le.mp hrel).1]
  obtain ⟨g2, g3⟩ := margin_of_perturbed hu0 hu.le hx0 hxx hδ hdist
  refine ⟨delaySamplesF_eq_of_margin fs _ hfs hfs' hms0 ?_ (by rwa [two_pow_neg50]), g3⟩
  have := mul_lt_mul_of_pos_left hu hx0
  rw [show (52 : ℤ) = 51 + 1 by norm_num, zpow_add_one₀ (by norm_num : (2 : ℚ) ≠ 0)]
  linarith only [(abs_le.mp hxx).2, this, hx, hx0]

/-- A delay written with five decimals, `k/10^5` ms, that is not a half sample (`fs·k ≤ 10^14`: at most `10^6` samples
of delay). -/
theorem delaySamplesF_decimal_nontie (fs : ℤ) (k : ℕ) (hfs : 0 < fs) (hk : 0 < k)
    (hb : fs * k ≤ 10 ^ 14) (hnt : ∀ m : ℤ, 2 * fs * k ≠ 10 ^ 8 * (2 * m + 1)) :
    delaySamplesF fs (rn53 ((k : ℚ) / 10 ^ 5)) = delaySamples fs (rn53 ((k : ℚ) / 10 ^ 5)) ∧
    delaySamples fs (rn53 ((k : ℚ) / 10 ^ 5)) = delaySamples fs ((k : ℚ) / 10 ^ 5) := by
  have hkq : (0 : ℚ) < k := Nat.cast_pos.mpr hk
  have hfs53 := lt_two_pow_53 (le_trans (le_mul_of_one_le_right hfs.le (by exact_mod_cast hk)) hb)
  -- `x`, the decimal delay in samples, is at most `10^6` and at least `1/(2·10^8)` from every half sample
  have ex : (fs : ℚ) * ((k : ℚ) / 10 ^ 5) / 1000 = ((fs * k : ℤ) : ℚ) / 10 ^ 8 := by push_cast; ring
  have hx6 : ((fs * k : ℤ) : ℚ) / 10 ^ 8 ≤ 10 ^ 6 := by
    rw [div_le_iff₀ (by norm_num)]; exact_mod_cast hb
  refine delaySamplesF_rn53_eq_of_dist fs _ (1 / (2 * 10 ^ 8)) hfs hfs53 (div_pos hkq (by norm_num)) ?_ ?_ fun m => ?_
  · rw [ex, show (51 : ℤ) = (51 : ℕ) by norm_num, zpow_natCast]
    exact le_trans hx6 (by norm_num)
  · rw [ex, two_pow_neg53]
    linarith only [hx6]
  · have h1 : (1 : ℚ) ≤ |((2 * fs * k - 10 ^ 8 * (2 * m + 1) : ℤ) : ℚ)| := by
      exact_mod_cast Int.one_le_abs (sub_ne_zero.mpr (hnt m))
    have e : (fs : ℚ) * ((k : ℚ) / 10 ^ 5) / 1000 - ((m : ℚ) + 1 / 2) =
        ((2 * fs * k - 10 ^ 8 * (2 * m + 1) : ℤ) : ℚ) / (2 * 10 ^ 8) := by
      push_cast; ring
    rw [e, abs_div, abs_of_pos (by norm_num : (0 : ℚ) < 2 * 10 ^ 8)]
    exact div_le_div_of_nonneg_right h1 (by norm_num)

/-- A five-decimal delay `k/10^5` ms that is an exact half sample at a rate `fs` whose period `1000/fs` ms
is a fraction with a denominator `c` prime to 5 (`fs ∣ 1000·c`) is a multiple of `1/32` ms: `5^5 ∣ k`. -/
theorem decimal_tie_dvd (fs c : ℤ) (k : ℕ) (m : ℤ) (hdiv : fs ∣ 1000 * c) (hc : Int.gcd 5 c = 1)
    (htie : 2 * fs * k = 10 ^ 8 * (2 * m + 1)) : (3125 : ℤ) ∣ k := by
  obtain ⟨q, hq⟩ := hdiv
  have h : c * k = 3125 * (16 * (2 * m + 1) * q) := by
    apply Int.eq_of_mul_eq_mul_left (show (2000 : ℤ) ≠ 0 by norm_num)
    calc 2000 * (c * k) = 2 * (1000 * c) * k := by ring
      _ = 2 * fs * k * q := by rw [hq]; ring
      _ = 2000 * (3125 * (16 * (2 * m + 1) * q)) := by rw [htie]; ring
  exact Int.dvd_of_dvd_mul_right_of_gcd_one ⟨_, h⟩ (Nat.Coprime.pow_left 5 hc)

/-- A tie makes `k/10^5` a multiple of `1/32` ms, hence a
binary64 number, and then nothing is rounded (`delaySamplesF_tie`); otherwise
`delaySamplesF_decimal_nontie` applies. -/
theorem decimal_delay_exact (fs c : ℤ) (k : ℕ) (hfs : 0 < fs) (hdiv : fs ∣ 1000 * c) (hc : Int.gcd 5 c = 1)
    (hb : fs * k ≤ 10 ^ 14) :
    delaySamplesF fs (rn53 ((k : ℚ) / 10 ^ 5)) = delaySamples fs (rn53 ((k : ℚ) / 10 ^ 5)) ∧
    delaySamples fs (rn53 ((k : ℚ) / 10 ^ 5)) = delaySamples fs ((k : ℚ) / 10 ^ 5) := by
  rcases Nat.eq_zero_or_pos k with rfl | hk
  · simp only [Nat.cast_zero, zero_div, rn53_zero, (delaySamplesF_zero fs).1, (delaySamplesF_zero fs).2,
      and_self]
  by_cases htie : ∃ m : ℤ, 2 * fs * k = 10 ^ 8 * (2 * m + 1)
  · obtain ⟨m, hm⟩ := htie
    have hkz : (0 : ℤ) < k := Int.natCast_pos.mpr hk
    -- the delay is a multiple of 1/32 ms, hence a binary64 number
    obtain ⟨t, ht⟩ := decimal_tie_dvd fs c k m hdiv hc hm
    have hkb : (k : ℤ) ≤ 10 ^ 14 := le_trans (le_mul_of_one_le_left hkz.le hfs) hb
    have hrep : rn53 ((k : ℚ) / 10 ^ 5) = (k : ℚ) / 10 ^ 5 := by
      have e : (k : ℚ) / 10 ^ 5 = (t : ℚ) * (2 : ℚ) ^ (-5 : ℤ) := by
        have : ((k : ℤ) : ℚ) = ((3125 * t : ℤ) : ℚ) := congrArg _ ht
        push_cast at this
        rw [this, show (-5 : ℤ) = -(5 : ℕ) by norm_num, zpow_neg, zpow_natCast]; ring
      rw [e]
      exact rn53_dyadic t (-5) (by omega) (lt_two_pow_53 (by omega))
    rw [hrep]
    refine ⟨?_, rfl⟩
    have hx : (fs : ℚ) * ((k : ℚ) / 10 ^ 5) / 1000 = (m : ℚ) + 1 / 2 := by
      have : ((2 * fs * k : ℤ) : ℚ) = ((10 ^ 8 * (2 * m + 1) : ℤ) : ℚ) := congrArg _ hm
      push_cast at this
      linarith only [this]
    have hfk : fs ≤ fs * k := le_mul_of_one_le_right hfs.le hkz
    rw [mul_assoc] at hm
    generalize fs * (k : ℤ) = P at hm hb hfk
    obtain ⟨a, b⟩ := delaySamplesF_tie fs _ m hfs (lt_two_pow_53 (hfk.trans hb)) (by omega)
      (lt_two_pow_53 (by omega)) hx
    rw [a, b]
  · exact delaySamplesF_decimal_nontie fs k hfs hk hb (fun m h => htie ⟨m, h⟩)

/-- The deviation of `float_delay_counterexample` cannot be reached from five-decimal delays (up to 10 s) at 44.1, 48
and 96 kHz.  Exact ties do occur among them — 0.03125 ms is 1.5 samples at 48 kHz — but then everything is computed
exactly: `decimal_delay_exact`. -/
theorem five_decimal_delay_exact (fs : ℤ) (hfs : fs = 44100 ∨ fs = 48000 ∨ fs = 96000) (k : ℕ)
    (hk : k ≤ 10 ^ 9) :
    delaySamplesF fs (rn53 ((k : ℚ) / 10 ^ 5)) = delaySamples fs (rn53 ((k : ℚ) / 10 ^ 5)) ∧
    delaySamples fs (rn53 ((k : ℚ) / 10 ^ 5)) = delaySamples fs ((k : ℚ) / 10 ^ 5) := by
  -- the sample period `1000/fs` ms is `10/441`, `1/48`, `1/96` ms
  obtain ⟨c, h0, h5, hdiv, hc⟩ : ∃ c : ℤ, 0 < fs ∧ fs ≤ 10 ^ 5 ∧ fs ∣ 1000 * c ∧ Int.gcd 5 c = 1 := by
    rcases hfs with rfl | rfl | rfl
    · exact ⟨441, by decide, by decide, ⟨10, by decide⟩, by decide⟩
    · exact ⟨48, by decide, by decide, ⟨1, by decide⟩, by decide⟩
    · exact ⟨96, by decide, by decide, ⟨1, by decide⟩, by decide⟩
  have hkz : (k : ℤ) ≤ 10 ^ 9 := by exact_mod_cast hk
  exact decimal_delay_exact fs c k h0 hdiv hc
    (le_trans (Int.mul_le_mul h5 hkz (Int.natCast_nonneg k) (by decide)) (by decide))

/-- `five_decimal_delay_exact` as a statement about specs, so that `processorF_eq_meaningStrict` /
`driver_eq_meaningStrict` apply to every spec built from such nodes -/
theorem floatExact_of_five_decimal {α : Type} (fs : Int) (hfs : fs = 44100 ∨ fs = 48000 ∨ fs = 96000)
    (t : Spec α) (g : Option α) (k : Nat) (hk : k ≤ 10 ^ 9) (ht : t.floatExact fs = true) :
    (Spec.matrix t g (some (rn53 ((k : Rat) / 10 ^ 5)))).floatExact fs = true := by
  simp only [Spec.floatExact, ht, Bool.true_and, decide_eq_true_eq]
  exact (five_decimal_delay_exact fs hfs k hk).1

/-- non-vacuity of `delaySamplesF_decimal_nontie`: 0.00001 ms and 0.05208 ms (2.49984 samples, the
five-decimal neighbour of the counterexample delay) at 48 kHz are not half samples -/
example : (0 : ℤ) < 48000 ∧ 0 < 5208 ∧ (48000 : ℤ) * (5208 : ℕ) ≤ 10 ^ 14 ∧
    ∀ m : ℤ, 2 * (48000 : ℤ) * (5208 : ℕ) ≠ 10 ^ 8 * (2 * m + 1) := by
  refine ⟨by norm_num, by norm_num, by norm_num, fun m h => ?_⟩
  norm_num at h; omega
/-- instances of `five_decimal_delay_exact`: 0.03125 ms at 48 kHz (an exact tie, 1.5 samples) and
0.05208 ms (no tie); the statement then says the code converts them like exact arithmetic -/
example : delaySamplesF 48000 (rn53 ((3125 : ℕ) / 10 ^ 5)) = delaySamples 48000 ((3125 : ℕ) / 10 ^ 5) := by
  have := five_decimal_delay_exact 48000 (Or.inr (Or.inl rfl)) 3125 (by norm_num)
  rw [this.1, this.2]
example : delaySamplesF 48000 (rn53 ((5208 : ℕ) / 10 ^ 5)) = 2 ∧ delaySamples 48000 ((5208 : ℕ) / 10 ^ 5) = 2 := by
  decide +kernel

end Earverif.TrackSpec
