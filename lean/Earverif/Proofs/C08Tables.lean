/-
The link between the handler tables extracted on every run (`Gen/C08_Handlers.lean`) and the concrete parsers the
class-level theorems are about.  For 35 of the 36 table entries (17 element classes in both versions and the reference
screen; the inner `zoneExclusion` parser is modelled by the hand-written `parseZoneExclusionElement` and has no link)
`…Rows_eq` says that the entry, looked up by its key, is the copy kept in `Proofs/C08Frozen.lean`, and `…Props_eq` that
`ofRowG` — with the hand-written handlers chosen by the handler names recorded in the rows (`implX`) — builds exactly
the concrete parser of the model from those rows.
-/
import Earverif.Proofs.C08Frozen
import Earverif.Proofs.C08Elements

namespace Earverif.XmlElements
open Earverif.XmlCodec Earverif.XmlCustom Earverif.XmlBlocks Earverif.TimeFormat Earverif.C08Frozen

def rowsOf (v2 : Bool) (nm : String) : List Row :=
  (Earverif.Gen.C08.parsers.lookup ((if v2 then "v2/" else "v1/") ++ nm)).getD []

/-- closes `parsers.lookup key = some rows`: `simp` walks the table comparing the key strings; the entry found is a
constant whose value is literally the frozen row list, so the final `rfl` compares string literals syntactically and
never evaluates string equality on the rows -/
macro "table_lookup" : tactic =>
  `(tactic| (simp only [Gen.C08.parsers, List.lookup, String.reduceAppend, String.reduceBEq]; rfl))

theorem rowsOf_eq {nm : String} {r1 r2 : List Row} (h1 : Gen.C08.parsers.lookup ("v1/" ++ nm) = some r1)
    (h2 : Gen.C08.parsers.lookup ("v2/" ++ nm) = some r2) : ∀ v2, rowsOf v2 nm = if v2 then r2 else r1 := by
  intro v2
  cases v2
  · simp [rowsOf, h1]
  · simp [rowsOf, h2]

/- what every `…Props_eq` below unfolds: the row-to-property map with its handler and codec selectors, and the
abbreviations the concrete parsers are written with -/
attribute [local simp] propsX ofRowG implX codecOf optArg blockHead gainElemV2 importanceV2 refListV2 typeProp formatProp
  typeTable formatTable leafOfRepr_values

theorem dsRows_eq : ∀ v2, rowsOf v2 "audioBlockFormat:DirectSpeakers" = (if v2 then f_v2_audioBlockFormat_DirectSpeakers else f_v1_audioBlockFormat_DirectSpeakers) :=
  rowsOf_eq (by table_lookup) (by table_lookup)

theorem dsProps_eq (v2 : Bool) : propsX v2 (rowsOf v2 "audioBlockFormat:DirectSpeakers") = dsPs v2 := by
  rw [dsRows_eq]
  cases v2 <;> simp [f_v1_audioBlockFormat_DirectSpeakers, f_v2_audioBlockFormat_DirectSpeakers, dsPs]

theorem hoaRows_eq : ∀ v2, rowsOf v2 "audioBlockFormat:HOA" = (if v2 then f_v2_audioBlockFormat_HOA else f_v1_audioBlockFormat_HOA) :=
  rowsOf_eq (by table_lookup) (by table_lookup)

theorem hoaProps_eq (v2 : Bool) : propsX v2 (rowsOf v2 "audioBlockFormat:HOA") = hoaPs v2 := by
  rw [hoaRows_eq]
  cases v2 <;> simp [f_v1_audioBlockFormat_HOA, f_v2_audioBlockFormat_HOA, hoaPs]

theorem binauralRows_eq : ∀ v2, rowsOf v2 "audioBlockFormat:Binaural" = (if v2 then f_v2_audioBlockFormat_Binaural else f_v1_audioBlockFormat_Binaural) :=
  rowsOf_eq (by table_lookup) (by table_lookup)

theorem binauralProps_eq (v2 : Bool) : propsX v2 (rowsOf v2 "audioBlockFormat:Binaural") = binauralPs v2 := by
  rw [binauralRows_eq]
  cases v2 <;> simp [f_v1_audioBlockFormat_Binaural, f_v2_audioBlockFormat_Binaural, binauralPs]

theorem matrixRows_eq : ∀ v2, rowsOf v2 "audioBlockFormat:Matrix" = (if v2 then f_v2_audioBlockFormat_Matrix else f_v1_audioBlockFormat_Matrix) :=
  rowsOf_eq (by table_lookup) (by table_lookup)

theorem matrixProps_eq (v2 : Bool) : propsX v2 (rowsOf v2 "audioBlockFormat:Matrix") = matrixPs v2 := by
  rw [matrixRows_eq]
  cases v2 <;> simp [f_v1_audioBlockFormat_Matrix, f_v2_audioBlockFormat_Matrix, matrixPs]

/- the Objects block format is linked twice: here against the frozen rows like every class, and in
`Proofs/C08Blocks.lean` (`objectsRows_eq`, `objectsProps_eq`) against the rows `objectsBlock_roundtrip` is stated over -/
theorem objectsXRows_eq : ∀ v2, rowsOf v2 "audioBlockFormat:Objects" = (if v2 then f_v2_audioBlockFormat_Objects else f_v1_audioBlockFormat_Objects) :=
  rowsOf_eq (by table_lookup) (by table_lookup)

theorem objectsXProps_eq (v2 : Bool) : propsX v2 (rowsOf v2 "audioBlockFormat:Objects") = objPs v2 := by
  rw [objectsXRows_eq]
  cases v2 <;> simp [f_v1_audioBlockFormat_Objects, f_v2_audioBlockFormat_Objects, objPs]

theorem coeffRows_eq : ∀ v2, rowsOf v2 "coefficient" = (if v2 then f_v2_coefficient else f_v1_coefficient) :=
  rowsOf_eq (by table_lookup) (by table_lookup)

theorem coeffProps_eq (v2 : Bool) : propsX v2 (rowsOf v2 "coefficient") = coeffPs v2 := by
  rw [coeffRows_eq]
  cases v2 <;> simp [f_v1_coefficient, f_v2_coefficient, coeffPs]

theorem loudnessRows_eq : ∀ v2, rowsOf v2 "loudnessMetadata" = (if v2 then f_v2_loudnessMetadata else f_v1_loudnessMetadata) :=
  rowsOf_eq (by table_lookup) (by table_lookup)

theorem loudnessProps_eq (v2 : Bool) : propsX v2 (rowsOf v2 "loudnessMetadata") = loudnessPs := by
  rw [loudnessRows_eq]
  cases v2 <;> simp [f_v1_loudnessMetadata, f_v2_loudnessMetadata, loudnessPs]

theorem interactionRows_eq : ∀ v2, rowsOf v2 "audioObjectInteraction" = (if v2 then f_v2_audioObjectInteraction else f_v1_audioObjectInteraction) :=
  rowsOf_eq (by table_lookup) (by table_lookup)

theorem interactionProps_eq (v2 : Bool) : propsX v2 (rowsOf v2 "audioObjectInteraction") = interactionPs v2 := by
  rw [interactionRows_eq]
  cases v2 <;> simp [f_v1_audioObjectInteraction, f_v2_audioObjectInteraction, interactionPs]

theorem avsRows_eq : ∀ v2, rowsOf v2 "alternativeValueSet" = (if v2 then f_v2_alternativeValueSet else f_v1_alternativeValueSet) :=
  rowsOf_eq (by table_lookup) (by table_lookup)

theorem avsProps_eq (v2 : Bool) : propsX v2 (rowsOf v2 "alternativeValueSet") = avsPs v2 := by
  rw [avsRows_eq]
  cases v2 <;> simp [f_v1_alternativeValueSet, f_v2_alternativeValueSet, avsPs]

theorem programmeRows_eq : ∀ v2, rowsOf v2 "audioProgramme" = (if v2 then f_v2_audioProgramme else f_v1_audioProgramme) :=
  rowsOf_eq (by table_lookup) (by table_lookup)

theorem programmeProps_eq (v2 : Bool) : propsX v2 (rowsOf v2 "audioProgramme") = programmePs v2 := by
  rw [programmeRows_eq]
  cases v2 <;> simp [f_v1_audioProgramme, f_v2_audioProgramme, programmePs]

theorem contentRows_eq : ∀ v2, rowsOf v2 "audioContent" = (if v2 then f_v2_audioContent else f_v1_audioContent) :=
  rowsOf_eq (by table_lookup) (by table_lookup)

theorem contentProps_eq (v2 : Bool) : propsX v2 (rowsOf v2 "audioContent") = contentPs v2 := by
  rw [contentRows_eq]
  cases v2 <;> simp [f_v1_audioContent, f_v2_audioContent, contentPs]

theorem objectRows_eq : ∀ v2, rowsOf v2 "audioObject" = (if v2 then f_v2_audioObject else f_v1_audioObject) :=
  rowsOf_eq (by table_lookup) (by table_lookup)

theorem objectProps_eq (v2 : Bool) : propsX v2 (rowsOf v2 "audioObject") = objectPs v2 := by
  rw [objectRows_eq]
  cases v2 <;> simp [f_v1_audioObject, f_v2_audioObject, objectPs, objectHead]

theorem packRows_eq : ∀ v2, rowsOf v2 "audioPackFormat" = (if v2 then f_v2_audioPackFormat else f_v1_audioPackFormat) :=
  rowsOf_eq (by table_lookup) (by table_lookup)

theorem packProps_eq (v2 : Bool) : propsX v2 (rowsOf v2 "audioPackFormat") = packPs := by
  rw [packRows_eq]
  cases v2 <;> simp [f_v1_audioPackFormat, f_v2_audioPackFormat, packPs]

theorem channelRows_eq : ∀ v2, rowsOf v2 "audioChannelFormat" = (if v2 then f_v2_audioChannelFormat else f_v1_audioChannelFormat) :=
  rowsOf_eq (by table_lookup) (by table_lookup)

theorem channelProps_eq (v2 : Bool) : propsX v2 (rowsOf v2 "audioChannelFormat") = channelPs v2 := by
  rw [channelRows_eq]
  cases v2 <;> simp [f_v1_audioChannelFormat, f_v2_audioChannelFormat, channelPs]

theorem streamRows_eq : ∀ v2, rowsOf v2 "audioStreamFormat" = (if v2 then f_v2_audioStreamFormat else f_v1_audioStreamFormat) :=
  rowsOf_eq (by table_lookup) (by table_lookup)

theorem streamProps_eq (v2 : Bool) : propsX v2 (rowsOf v2 "audioStreamFormat") = streamPs := by
  rw [streamRows_eq]
  cases v2 <;> simp [f_v1_audioStreamFormat, f_v2_audioStreamFormat, streamPs]

theorem trackRows_eq : ∀ v2, rowsOf v2 "audioTrackFormat" = (if v2 then f_v2_audioTrackFormat else f_v1_audioTrackFormat) :=
  rowsOf_eq (by table_lookup) (by table_lookup)

theorem trackProps_eq (v2 : Bool) : propsX v2 (rowsOf v2 "audioTrackFormat") = trackPs := by
  rw [trackRows_eq]
  cases v2 <;> simp [f_v1_audioTrackFormat, f_v2_audioTrackFormat, trackPs]

theorem trackUIDRows_eq : ∀ v2, rowsOf v2 "audioTrackUID" = (if v2 then f_v2_audioTrackUID else f_v1_audioTrackUID) :=
  rowsOf_eq (by table_lookup) (by table_lookup)

theorem trackUIDProps_eq (v2 : Bool) : propsX v2 (rowsOf v2 "audioTrackUID") = trackUIDPs v2 := by
  rw [trackUIDRows_eq]
  cases v2 <;> simp [f_v1_audioTrackUID, f_v2_audioTrackUID, trackUIDPs]

/-- the reference-screen parser (one table entry, no version) -/
theorem screenRows_eq : (Earverif.Gen.C08.parsers.lookup "audioProgrammeReferenceScreen").getD [] =
    f_audioProgrammeReferenceScreen := by
  rw [show Gen.C08.parsers.lookup "audioProgrammeReferenceScreen" = some f_audioProgrammeReferenceScreen by table_lookup]
  rfl

theorem screenProps_eq (v2 : Bool) :
    propsX v2 ((Earverif.Gen.C08.parsers.lookup "audioProgrammeReferenceScreen").getD []) = screenPs := by
  rw [screenRows_eq]
  simp [f_audioProgrammeReferenceScreen, screenPs]

end Earverif.XmlElements
