/-
Reusable facts about the recurring shapes of hand-written handlers (`singleImpl`, `listImpl`, `xpathImpl`, the
gain handlers, the BS.2076-1 "not before v2" stubs, the one-element handlers of the Objects block format) and about
scalar fields over the extended value type: what each class-level theorem needs to establish `PropOK` (the field
hypotheses and the stored-value condition of `codec_roundtrip_full`) for one property.  A handler with one argument
of its own is described by `Restores` (`Proofs/C08Codec.lean`), for an arbitrary object with a hypothesis on the
value under that argument.
-/
import Earverif.Model.XmlBlocks
import Earverif.Proofs.C08Custom

namespace Earverif.XmlBlocks
open Earverif.XmlCodec Earverif.XmlCustom Earverif.TimeFormat

theorem lift_roundtrip {c : Codec Leaf} {l : Leaf} (h : c.loads (c.dumps l) = some l) :
    (liftCodec c).loads ((liftCodec c).dumps (.leaf l)) = some (.leaf l) := by
  simp [liftCodec, h]

theorem xpathChildren_filter {tag : QName} {as : List (String × String)} {cs : List Xml} {text name : String}
    (h : ∀ c ∈ cs, c.tag.name = name → c.tag = outName name) :
    xpathChildren (.node tag as cs text) name = cs.filter (fun c => c.tag = outName name) := by
  have hf : ∀ ns : Option String, cs.filter (fun c => decide (c.tag = ⟨ns, name⟩)) =
      if ns = some defaultNs then cs.filter (fun c => c.tag = outName name) else [] := by
    intro ns
    split
    · next hns => subst hns; rfl
    · next hns =>
      refine List.filter_eq_nil_iff.mpr (fun c hc => ?_)
      simp only [decide_eq_true_eq]
      intro heq
      have := h c hc (by rw [heq])
      rw [heq] at this
      simp only [outName, QName.mk.injEq, and_true] at this
      exact hns this
  simp [xpathChildren, Xml.children, namespaces, hf, defaultNs]

theorem ctag_attrElement {adm arg : String} {c : Codec XV} {req : Bool} {d : XV} {po : Bool} {o : Obj XV} :
    ∀ x ∈ (Property.attrElement adm arg c req d po).childrenOut o, x.tag = outName adm := by
  intro x hx
  simp only [Property.childrenOut] at hx
  split at hx
  · cases hx
  · split at hx
    · split at hx
      · simp at hx; subst hx; rfl
      · cases hx
    · cases hx

def outNames : Property XV → List String
  | .attrElement adm _ _ _ _ _ => [adm]
  | .listElement adm _ _ _ _ => [adm]
  | .customElement adm _ _ _ => [adm]
  | .genericElement _ _ impl => impl.childNames
  | _ => []

/-- every child a property writes is in the default namespace and has one of the property's names; with the names
counted on the concrete list this shows that an `xpath`-reading `GenericElement` sees exactly its own children
(`xpath_own`, `not_mem_of_count_one`, `propOK_xpath`).  For a `GenericElement` the names are `CustomImpl.childNames`:
a handler that leaves them empty (`positionImpl`) cannot take this route -/
def TagsOK (p : Property XV) : Prop := ∀ o : Obj XV, ∀ x ∈ p.childrenOut o, ∃ n ∈ outNames p, x.tag = outName n

theorem tagsOK_decl {p : Property XV} (h : p.isCustom = false) : TagsOK p := by
  intro o x hx
  cases p with
  | attrElement adm arg c req d po => exact ⟨adm, by simp [outNames], ctag_attrElement x hx⟩
  | listElement adm arg c req po =>
    refine ⟨adm, by simp [outNames], ?_⟩
    simp only [Property.childrenOut] at hx
    split at hx
    · cases hx
    · split at hx
      · obtain ⟨v, _, rfl⟩ := List.mem_map.mp hx; rfl
      · cases hx
  | customElement adm arg req impl => cases h
  | genericElement arg req impl => cases h
  | _ => cases hx

theorem tagsOK_text (arg : String) (c : Codec XV) : TagsOK (.handleText arg c) := tagsOK_decl rfl

theorem tagsOK_type (d l arg : String) (cD cL : Codec XV) (req : Bool) : TagsOK (.typeAttribute d l arg cD cL req) :=
  tagsOK_decl rfl

theorem tagsOK_custom {adm : String} {arg : Option String} {req : Bool} {impl : CustomImpl XV}
    (h : ∀ o, ∀ x ∈ impl.childrenOut o, x.tag = outName adm) : TagsOK (.customElement adm arg req impl) := by
  intro o x hx
  exact ⟨adm, by simp [outNames], h o x hx⟩

theorem tagsOK_generic {arg : Option String} {req : Bool} {impl : CustomImpl XV}
    (h : ∀ o, ∀ x ∈ impl.childrenOut o, ∃ n ∈ impl.childNames, x.tag = outName n) :
    TagsOK (.genericElement arg req impl) := fun o x hx => h o x hx

theorem tags_single {arg adm : String} {read : Bool → Xml → Option XV} {write : XV → List Xml}
    (h : ∀ v, ∀ x ∈ write v, x.tag = outName adm) :
    ∀ o, ∀ x ∈ (singleImpl arg adm read write).childrenOut o, x.tag = outName adm := by
  intro o x hx
  simp only [singleImpl] at hx
  split at hx
  · exact h _ x hx
  · cases hx

theorem TagsOK.single {arg adm : String} {read : Bool → Xml → Option XV} {write : XV → List Xml} {argOpt : Option String}
    {req : Bool} (h : TagsOK (.customElement adm argOpt req (singleImpl arg adm read write))) (v : XV) :
    ∀ x ∈ write v, x.tag = outName adm := by
  intro x hx
  obtain ⟨n, hn, ht⟩ := h (fun _ => .one v) x hx
  rwa [List.mem_singleton.mp hn] at ht

theorem tags_list {arg adm : String} {read : Kw XV → Xml → Option XV} {write : Obj XV → XV → Xml}
    (h : ∀ o v, (write o v).tag = outName adm) :
    ∀ o, ∀ x ∈ (listImpl arg adm read write).childrenOut o, x.tag = outName adm := by
  intro o x hx
  simp only [listImpl] at hx
  split at hx
  · obtain ⟨v, _, rfl⟩ := List.mem_map.mp hx; exact h o v
  · cases hx

theorem tags_xpath {arg adm : String} {read : List Xml → Option (Option XV)} {write : XV → List Xml}
    (h : ∀ v, ∀ x ∈ write v, x.tag = outName adm) :
    ∀ o, ∀ x ∈ (xpathImpl arg adm read write).childrenOut o,
      ∃ n ∈ (xpathImpl arg adm read write).childNames, x.tag = outName n := by
  intro o x hx
  simp only [xpathImpl] at hx ⊢
  split at hx
  · exact ⟨adm, by simp, h _ x hx⟩
  · cases hx

theorem ctag_gain (v2 : Bool) (o : Obj XV) : ∀ x ∈ (gainImpl v2).childrenOut o, x.tag = outName "gain" := by
  intro x hx
  simp only [gainImpl, gainToXml] at hx
  split at hx
  · split at hx
    · simp at hx; subst hx; rfl
    · cases hx
  · cases hx

theorem tagsOK_noV2 {adm : String} : TagsOK (.customElement adm none false noV2Impl) :=
  tagsOK_custom (fun o x hx => by simp [noV2Impl] at hx)

theorem tagsOK_gain (v2 : Bool) : TagsOK (.customElement "gain" none false (gainImpl v2)) :=
  tagsOK_custom (fun o x hx => ctag_gain v2 o x hx)

theorem toXml_tag (ps : List (Property XV)) (name : String) (o : Obj XV) : (toXml ps name o).tag = outName name := rfl

theorem outName_inj {a b : String} (h : outName a = outName b) : a = b := by
  simpa [outName] using h

/-- what a `GenericElement` handler finds with `xpath(element, "{ns}nm")` in the element `to_xml` wrote: exactly the
children its own `to_xml` wrote, if these are all named `nm` (default namespace) and the other properties write no
child with that local name -/
theorem xpath_split (name : String) (o : Obj XV) (l1 l2 : List (Property XV)) (p : Property XV) (nm : String)
    (hp : ∀ x ∈ p.childrenOut o, x.tag = outName nm)
    (hoth : ∀ q ∈ l1 ++ l2, ∀ x ∈ q.childrenOut o, x.tag.name ≠ nm) :
    xpathChildren (toXml (l1 ++ p :: l2) name o) nm = p.childrenOut o := by
  have hnil : ∀ l : List (Property XV), (∀ q ∈ l, q ∈ l1 ++ l2) →
      (l.flatMap (·.childrenOut o)).filter (fun c => c.tag = outName nm) = [] := fun l hl =>
    List.filter_eq_nil_iff.mpr fun c hc => by
      obtain ⟨q, hq, hcq⟩ := List.mem_flatMap.mp hc
      simp only [decide_eq_true_eq]
      intro h; exact hoth q (hl q hq) c hcq (by rw [h]; rfl)
  have hch : (l1 ++ p :: l2).flatMap (·.childrenOut o) =
      l1.flatMap (·.childrenOut o) ++ (p.childrenOut o ++ l2.flatMap (·.childrenOut o)) := by
    rw [List.flatMap_append, List.flatMap_cons]
  have hns : ∀ c ∈ (l1 ++ p :: l2).flatMap (·.childrenOut o), c.tag.name = nm → c.tag = outName nm := by
    intro c hc hn
    rw [hch, List.mem_append, List.mem_append] at hc
    rcases hc with hc | hc | hc
    · obtain ⟨q, hq, hcq⟩ := List.mem_flatMap.mp hc
      exact absurd hn (hoth q (by simp [hq]) c hcq)
    · exact hp c hc
    · obtain ⟨q, hq, hcq⟩ := List.mem_flatMap.mp hc
      exact absurd hn (hoth q (by simp [hq]) c hcq)
  unfold toXml
  rw [xpathChildren_filter hns, hch, List.filter_append, List.filter_append, hnil l1 (fun q hq => by simp [hq]),
    hnil l2 (fun q hq => by simp [hq]), List.filter_eq_self.mpr (fun c hc => by simp [hp c hc]), List.nil_append,
    List.append_nil]

theorem xpath_own (ps : List (Property XV)) (name : String) (o : Obj XV) (l1 l2 : List (Property XV))
    (p : Property XV) (nm : String) (hps : ps = l1 ++ p :: l2) (htags : ∀ q ∈ ps, TagsOK q)
    (hp : ∀ x ∈ p.childrenOut o, x.tag = outName nm)
    (hnot : ∀ q ∈ l1 ++ l2, nm ∉ outNames q) :
    xpathChildren (toXml ps name o) nm = p.childrenOut o := by
  subst hps
  refine xpath_split name o l1 l2 p nm hp fun q hq x hx hn => ?_
  obtain ⟨n, hnq, ht⟩ := htags q (by rcases List.mem_append.mp hq with h | h <;> simp [h]) o x hx
  rw [ht] at hn
  exact hnot q hq (by rwa [← show n = nm from hn])

theorem not_mem_of_count_one {ps l1 l2 : List (Property XV)} {p : Property XV} {nm : String}
    (hps : ps = l1 ++ p :: l2) (hnm : nm ∈ outNames p) (h1 : (ps.flatMap outNames).count nm = 1) :
    ∀ q ∈ l1 ++ l2, nm ∉ outNames q := by
  subst hps
  rw [List.flatMap_append, List.flatMap_cons, List.count_append, List.count_append] at h1
  have hp : 0 < (outNames p).count nm := List.count_pos_iff.mpr hnm
  intro q hq hqn
  have : 0 < (l1.flatMap outNames).count nm + (l2.flatMap outNames).count nm := by
    rcases List.mem_append.mp hq with h | h
    · exact Nat.add_pos_left (List.count_pos_iff.mpr (List.mem_flatMap.mpr ⟨q, h, hqn⟩)) _
    · exact Nat.add_pos_right _ (List.count_pos_iff.mpr (List.mem_flatMap.mpr ⟨q, h, hqn⟩))
  omega

theorem xpath_all {tag : QName} {as : List (String × String)} {cs : List Xml} {text nm : String}
    (h : ∀ c ∈ cs, c.tag = outName nm) : xpathChildren (.node tag as cs text) nm = cs := by
  rw [xpathChildren_filter (fun c hc _ => h c hc)]
  exact List.filter_eq_self.mpr (fun c hc => by simp [h c hc])

theorem restores_single (arg adm : String) (read : Bool → Xml → Option XV) (write : XV → List Xml) (o cd : Obj XV)
    (v : XV) (hv : o arg = .one v)
    (h : (write v = [] ∧ cd arg = .one v) ∨ ∃ x, write v = [x] ∧ read false x = some v) :
    Restores (singleImpl arg adm read write) arg o cd
      (fun kw => ((singleImpl arg adm read write).childrenOut o).foldlM (singleImpl arg adm read write).handle kw) := by
  intro kw hk
  rcases h with ⟨hw, hd⟩ | ⟨x, hx, hr⟩
  · exact Or.inl ⟨by simp [singleImpl, hv, hw], by simp [singleImpl, hv, hw], by rw [hd, hv]⟩
  · exact Or.inr ⟨by simp [singleImpl, hv, hx, hk, hr, setOne], by simp [singleImpl, hv, hx]⟩

theorem run_single (arg adm : String) (read : Bool → Xml → Option XV) (write : XV → List Xml) (o : Obj XV) (v : XV)
    (hv : o arg = .one v) (h : write v = [] ∨ ∃ x, write v = [x] ∧ read false x = some v) :
    RunOK o (singleImpl arg adm read write)
      (fun kw => ((singleImpl arg adm read write).childrenOut o).foldlM (singleImpl arg adm read write).handle kw) :=
  (restores_single arg adm read write o o v hv (h.imp (fun hw => ⟨hw, hv⟩) id)).runOK rfl

theorem propOK_single {ps : List (Property XV)} {e : Xml} {o cd : Obj XV} {arg adm : String}
    {read : Bool → Xml → Option XV} {write : XV → List Xml} {argOpt : Option String} (v : XV)
    (hv : o arg = .one v) (htag : ∀ x ∈ write v, x.tag = outName adm)
    (h : (write v = [] ∧ cd arg = .one v) ∨ ∃ x, write v = [x] ∧ read false x = some v) :
    PropOK ps e o cd (.customElement adm argOpt false (singleImpl arg adm read write)) :=
  propOK_custom1 arg rfl rfl (fun x hx => by simp only [singleImpl, hv] at hx; exact htag x hx)
    (restores_single arg adm read write o cd v hv h)

theorem run_list (arg adm : String) (read : Kw XV → Xml → Option XV) (write : Obj XV → XV → Xml) (o : Obj XV)
    (C : Kw XV → Prop) (hC : ∀ kw x, C kw → C (kw.set arg x)) (vs : List XV) (hv : o arg = .many vs)
    (hr : ∀ kw, C kw → ∀ v ∈ vs, read kw (write o v) = some v) :
    RunOKC C o (listImpl arg adm read write)
      (fun kw => ((listImpl arg adm read write).childrenOut o).foldlM (listImpl arg adm read write).handle kw) := by
  intro kw hc hnone
  obtain ⟨kw', h1, h2, h3⟩ := append_fold (listImpl arg adm read write).handle arg (write o) C hC vs [] kw hc
    (hnone _ (by simp [listImpl])) (fun kw acc hc hk v hv => by
      by_cases ha : acc = [] <;> simp [listImpl, hr kw hc v hv, hk, optMany, ha])
  refine ⟨kw', by simpa [listImpl, hv] using h1, fun a ha => ?_, fun b hb => h3 b (by simpa [listImpl] using hb)⟩
  simp only [listImpl, List.mem_singleton] at ha; subst ha
  simpa [listImpl, hv, optMany] using h2

theorem customEff_list {adm arg : String} {read : Kw XV → Xml → Option XV} {write : Obj XV → XV → Xml}
    {argOpt : Option String} {req : Bool} {o cd : Obj XV} (vs : List XV) (hv : o arg = .many vs)
    (hd : cd arg = .many []) :
    ∀ a ∈ (Property.customElement adm argOpt req (listImpl arg adm read write)).ownArgs,
      ((Property.customElement adm argOpt req (listImpl arg adm read write)).customEff o a).getD (cd a) = o a := by
  intro a ha
  simp only [Property.ownArgs, listImpl, List.mem_singleton] at ha; subst ha
  cases vs with
  | nil => simp [Property.customEff, listImpl, hv, hd]
  | cons x xs => simp [Property.customEff, listImpl, hv]

theorem restores_xpath (arg adm : String) (read : List Xml → Option (Option XV)) (write : XV → List Xml) (o cd : Obj XV)
    (e : Xml) (v : XV) (hv : o arg = .one v) (hx : xpathChildren e adm = write v)
    (h : (write v = [] ∧ cd arg = .one v ∧ read [] = some none) ∨ (write v ≠ [] ∧ read (write v) = some (some v))) :
    Restores (xpathImpl arg adm read write) arg o cd (fun kw => (xpathImpl arg adm read write).handle kw e) := by
  intro kw _
  rcases h with ⟨hw, hd, hr⟩ | ⟨hw, hr⟩
  · exact Or.inl ⟨by simp [xpathImpl, hx, hw, hr], by simp [xpathImpl, hv, hw], by rw [hd, hv]⟩
  · exact Or.inr ⟨by simp [xpathImpl, hx, hr, hv, setOne], by simp [xpathImpl, hv, hw]⟩

theorem run_xpath (arg adm : String) (read : List Xml → Option (Option XV)) (write : XV → List Xml) (o : Obj XV)
    (e : Xml) (v : XV) (hv : o arg = .one v) (hx : xpathChildren e adm = write v)
    (hr : read (write v) = some (if (write v).isEmpty then none else some v)) :
    RunOK o (xpathImpl arg adm read write) (fun kw => (xpathImpl arg adm read write).handle kw e) := by
  refine (restores_xpath arg adm read write o o e v hv hx ?_).runOK rfl
  by_cases hw : write v = []
  · exact Or.inl ⟨hw, hv, by simpa [hw] using hr⟩
  · exact Or.inr ⟨hw, by simpa [hw] using hr⟩

theorem propOK_xpath {ps : List (Property XV)} {name : String} {o cd : Obj XV} {arg adm : String}
    {read : List Xml → Option (Option XV)} {write : XV → List Xml} (v : XV)
    (hp : .genericElement none false (xpathImpl arg adm read write) ∈ ps)
    (htags : ∀ q ∈ ps, TagsOK q) (h1 : (ps.flatMap outNames).count adm = 1)
    (hlook : adm ∉ ps.flatMap (·.elemNames)) (hv : o arg = .one v)
    (h : (write v = [] ∧ cd arg = .one v ∧ read [] = some none) ∨ (write v ≠ [] ∧ read (write v) = some (some v))) :
    PropOK ps (toXml ps name o) o cd (.genericElement none false (xpathImpl arg adm read write)) := by
  obtain ⟨l1, l2, hps⟩ := List.append_of_mem hp
  have hout : (Property.genericElement none false (xpathImpl arg adm read write)).childrenOut o = write v := by
    simp [Property.childrenOut, xpathImpl, hv]
  have htag : ∀ x ∈ write v, x.tag = outName adm := by
    intro x hx
    obtain ⟨n, hn, ht⟩ := htags _ hp o x (by rw [hout]; exact hx)
    rw [ht, List.mem_singleton.mp hn]
  have hx := xpath_own ps name o l1 l2 _ adm hps htags (by rw [hout]; exact htag)
    (not_mem_of_count_one hps (by simp [outNames, xpathImpl]) h1)
  rw [hout] at hx
  refine propOK_generic1 arg rfl (fun x hx' => ?_) (by simp [xpathImpl])
    (restores_xpath arg adm read write o cd _ v hv hx h)
  simp only [xpathImpl, hv] at hx'
  rw [htag x hx']
  exact lookupElem_none hlook

theorem restores_gain (v2 : Bool) (o cd : Obj XV) (k : Int) (hg : o "gain" = .one (.leaf (.num k)))
    (hd : cd "gain" = .one (.leaf (.num 100000))) :
    Restores (gainImpl v2) "gain" o cd (fun kw => ((gainImpl v2).childrenOut o).foldlM (gainImpl v2).handle kw) := by
  intro kw hk
  by_cases h : k = 100000
  · exact Or.inl ⟨by simp [gainImpl, hg, h, gainToXml], by simp [gainImpl, hg, h], by rw [hd, hg, h]⟩
  · exact Or.inr ⟨by simp [gainImpl, hg, gainToXml, h, hk, handleGainElement_written, gainValue, setOne],
      by simp [gainImpl, hg, h]⟩

theorem run_gain' (v2 : Bool) (o : Obj XV) (k : Int) (hg : o "gain" = .one (.leaf (.num k))) :
    RunOK o (gainImpl v2) (fun kw => ((gainImpl v2).childrenOut o).foldlM (gainImpl v2).handle kw) :=
  (restores_gain v2 o (fun _ => .one (.leaf (.num 100000))) k hg rfl).runOK rfl

theorem propOK_gain {ps : List (Property XV)} {e : Xml} {o cd : Obj XV} {v2 : Bool} (k : Int)
    (hg : o "gain" = .one (.leaf (.num k))) (hd : cd "gain" = .one (.leaf (.num 100000))) :
    PropOK ps e o cd (.customElement "gain" none false (gainImpl v2)) :=
  propOK_custom1 "gain" rfl rfl (ctag_gain v2 o) (restores_gain v2 o cd k hg hd)

theorem propOK_noV2 {ps : List (Property XV)} {e : Xml} {o cd : Obj XV} {adm : String} :
    PropOK ps e o cd (.customElement adm none false noV2Impl) := by
  refine ⟨⟨by simp [noV2Impl], by simp [noV2Impl], ?_, by simp⟩, fun _ a ha => by simp [Property.ownArgs, noV2Impl] at ha⟩
  intro kw _ _
  exact ⟨kw, by simp [noV2Impl], by simp [noV2Impl], fun _ _ => rfl⟩

theorem scalar_leaf {o cd : Obj XV} {arg : String} (c : Codec Leaf) (req : Bool) (dflt l : Leaf)
    (ho : o arg = .one (.leaf l)) (hrt : l ≠ dflt → c.loads (c.dumps l) = some l)
    (hd : if req then l ≠ dflt else cd arg = .one (.leaf dflt)) :
    ScalarOK o cd arg (liftCodec c) req (.leaf dflt) := by
  refine ⟨.leaf l, ho, fun h => lift_roundtrip (hrt (fun hl => h (by rw [hl]))), ?_⟩
  cases req with
  | true => simp only [if_true] at hd ⊢; intro h; exact hd (by simpa using h)
  | false => simpa using hd

theorem scalar_reqStr {o cd : Obj XV} {arg : String} (s : String) (ho : o arg = .one (.leaf (.str s))) :
    ScalarOK o cd arg (liftCodec stringCodec) true noneLeaf :=
  scalar_leaf stringCodec true .none (.str s) ho (fun _ => stringCodec_roundtrip s) (by simp)

theorem scalar_opt {α : Type} {o cd : Obj XV} {arg : String} (c : Codec Leaf) (mk : α → Leaf)
    (s : Option α) (hrt : ∀ x, s = some x → c.loads (c.dumps (mk x)) = some (mk x))
    (ho : o arg = .one (.leaf (s.elim .none mk))) (hcd : cd arg = .one noneLeaf) :
    ScalarOK o cd arg (liftCodec c) false noneLeaf := by
  cases s with
  | none => exact scalar_leaf c false .none .none ho (fun h => absurd rfl h) (by simpa using hcd)
  | some x => exact scalar_leaf c false .none (mk x) ho (fun _ => hrt x rfl) (by simpa using hcd)

theorem scalar_optStr {o cd : Obj XV} {arg : String} (s : Option String) (ho : o arg = .one (optStrV s))
    (hcd : cd arg = .one noneLeaf) : ScalarOK o cd arg (liftCodec stringCodec) false noneLeaf :=
  scalar_opt stringCodec .str s (fun x _ => stringCodec_roundtrip x) (by cases s <;> exact ho) hcd

theorem scalar_optNum {o cd : Obj XV} {arg : String} (k : Option Int) (ho : o arg = .one (optNumV k))
    (hcd : cd arg = .one noneLeaf) : ScalarOK o cd arg (liftCodec floatCodec) false noneLeaf :=
  scalar_opt floatCodec .num k (fun x _ => floatCodec_roundtrip x) (by cases k <;> exact ho) hcd

theorem scalar_optInt {o cd : Obj XV} {arg : String} (k : Option Int) (ho : o arg = .one (optIntV k))
    (hcd : cd arg = .one noneLeaf) : ScalarOK o cd arg (liftCodec intCodec) false noneLeaf :=
  scalar_opt intCodec .int k (fun x _ => intCodec_roundtrip x) (by cases k <;> exact ho) hcd

theorem scalar_optBool {o cd : Obj XV} {arg : String} (b : Option Bool) (ho : o arg = .one (optBoolV b))
    (hcd : cd arg = .one noneLeaf) : ScalarOK o cd arg (liftCodec boolCodec) false noneLeaf :=
  scalar_opt boolCodec .bool b (fun x _ => boolCodec_roundtrip x) (by cases b <;> exact ho) hcd

def TimeOK (v2 : Bool) (t : Option Time) : Prop :=
  ∀ x, t = some x → (timeCodec v2).loads ((timeCodec v2).dumps (.time x)) = some (.time x)

theorem scalar_optTime {v2 : Bool} {o cd : Obj XV} {arg : String} (t : Option Time) (ho : o arg = .one (optTime t))
    (hcd : cd arg = .one noneLeaf) (ht : TimeOK v2 t) :
    ScalarOK o cd arg (liftCodec (timeCodec v2)) false noneLeaf :=
  scalar_opt (timeCodec v2) .time t ht (by cases t <;> exact ho) hcd

theorem scalar_int {o cd : Obj XV} {arg : String} (k d : Int) (ho : o arg = .one (.leaf (.int k)))
    (hcd : cd arg = .one (.leaf (.int d))) : ScalarOK o cd arg (liftCodec intCodec) false (.leaf (.int d)) :=
  scalar_leaf intCodec false (.int d) (.int k) ho (fun _ => intCodec_roundtrip k) (by simpa using hcd)

theorem propOK_strs {ps : List (Property XV)} {e : Xml} {o cd : Obj XV} {adm arg : String} (ss : List String)
    (ho : o arg = .many (ss.map fun s => .leaf (.str s))) (hcd : cd arg = .many []) :
    PropOK ps e o cd (.listElement adm arg (liftCodec stringCodec) false false) := by
  refine .decl rfl (Or.inr ⟨rfl, _, ho, ?_, fun _ => ⟨rfl, hcd⟩⟩)
  intro v hv
  obtain ⟨s, _, rfl⟩ := List.mem_map.mp hv
  exact lift_roundtrip (stringCodec_roundtrip s)

/-- a list handler whose element parser does not look at the other keyword arguments (`as_list_handler`) -/
theorem propOK_list {ps : List (Property XV)} {e : Xml} {o cd : Obj XV} {arg adm : String}
    {read : Kw XV → Xml → Option XV} {write : Obj XV → XV → Xml} {argOpt : Option String} (vs : List XV)
    (hv : o arg = .many vs) (hcd : cd arg = .many []) (htag : ∀ v, (write o v).tag = outName adm)
    (hr : ∀ kw, ∀ v ∈ vs, read kw (write o v) = some v) :
    PropOK ps e o cd (.customElement adm argOpt false (listImpl arg adm read write)) := by
  refine ⟨fieldOK_custom (fun x hx => ?_) rfl ?_, fun _ => customEff_list vs hv hcd⟩
  · simp only [listImpl, hv] at hx
    obtain ⟨v, _, rfl⟩ := List.mem_map.mp hx
    exact htag v
  · exact RunOKC.mono (C := fun _ => True) (fun _ _ => trivial)
      (run_list arg adm read write o (fun _ => True) (fun _ _ _ => trivial) vs hv (fun kw _ v hv => hr kw v hv))

theorem frequencyToXml_tag (f : Frequency) : ∀ x ∈ frequencyToXml f, x.tag = outName "frequency" := by
  intro x hx
  simp only [frequencyToXml, List.mem_append] at hx
  rcases hx with hx | hx <;> (split at hx <;> simp at hx; subst hx; rfl)

theorem restores_frequency (o cd : Obj XV) (f : Frequency) (hf : o "frequency" = .one (.freq f))
    (hcd : cd "frequency" = .one (.freq ⟨none, none⟩)) :
    Restores frequencyImpl "frequency" o cd (fun kw => (frequencyImpl.childrenOut o).foldlM frequencyImpl.handle kw) := by
  intro kw hk
  obtain ⟨lo, hi⟩ := f
  cases lo <;> cases hi
  · exact Or.inl ⟨by simp [frequencyImpl, hf, frequencyToXml], by simp [frequencyImpl, hf], by rw [hcd, hf]⟩
  all_goals
    exact Or.inr ⟨by simp [frequencyImpl, hf, frequencyToXml, handleFrequency_low, handleFrequency_high, hk, setOne,
      Kw.set_same, Kw.set_set], by simp [frequencyImpl, hf]⟩

theorem run_frequency (o : Obj XV) (f : Frequency) (hf : o "frequency" = .one (.freq f)) :
    RunOK o frequencyImpl (fun kw => (frequencyImpl.childrenOut o).foldlM frequencyImpl.handle kw) :=
  (restores_frequency o (fun _ => .one (.freq ⟨none, none⟩)) f hf rfl).runOK rfl

theorem propOK_frequency {ps : List (Property XV)} {e : Xml} {o cd : Obj XV} (f : Frequency)
    (hf : o "frequency" = .one (.freq f)) (hcd : cd "frequency" = .one (.freq ⟨none, none⟩)) :
    PropOK ps e o cd (.customElement "frequency" none false frequencyImpl) :=
  propOK_custom1 "frequency" rfl rfl
    (fun x hx => by simp only [frequencyImpl, hf] at hx; exact frequencyToXml_tag f x hx) (restores_frequency o cd f hf hcd)


def optClock : Option ChannelLock → XV
  | some c => .clock c
  | none => noneLeaf

def optDiverg : Option ObjectDivergence → XV
  | some d => .diverg d
  | none => noneLeaf

theorem ctag_channelLock (o : Obj XV) : ∀ x ∈ channelLockImpl.childrenOut o, x.tag = outName "channelLock" := by
  intro x hx
  simp only [channelLockImpl] at hx
  split at hx
  · simp [channelLockToXml] at hx; subst hx; rfl
  · cases hx

theorem ctag_jump (o : Obj XV) : ∀ x ∈ jumpImpl.childrenOut o, x.tag = outName "jumpPosition" := by
  intro x hx
  simp only [jumpImpl, jumpPositionToXml] at hx
  split at hx
  · split at hx
    · simp at hx; subst hx; rfl
    · cases hx
  · cases hx

theorem ctag_divergence (o : Obj XV) : ∀ x ∈ divergenceImpl.childrenOut o, x.tag = outName "objectDivergence" := by
  intro x hx
  simp only [divergenceImpl] at hx
  split at hx
  · simp [divergenceToXml] at hx; subst hx; rfl
  · cases hx

theorem ctag_zones (o : Obj XV) : ∀ x ∈ zoneImpl.childrenOut o, x.tag = outName "zoneExclusion" := by
  intro x hx
  simp only [zoneImpl, zoneExclusionToXml] at hx
  split at hx
  · split at hx
    · simp at hx; subst hx; rfl
    · cases hx
  · cases hx

theorem propOK_channelLock {ps : List (Property XV)} {e : Xml} {o cd : Obj XV} (c : Option ChannelLock)
    (ho : o "channelLock" = .one (optClock c)) (hcd : cd "channelLock" = .one noneLeaf) :
    PropOK ps e o cd (.customElement "channelLock" none false channelLockImpl) := by
  refine propOK_custom1 "channelLock" rfl rfl (ctag_channelLock o) (fun kw _ => ?_)
  simp only [channelLockImpl, ho]
  cases c with
  | none => exact Or.inl ⟨rfl, by simp [optClock], by rw [hcd]; rfl⟩
  | some c =>
    have hx := handleChannelLock_written c
    simp only [channelLockToXml, List.forall_mem_singleton] at hx
    exact Or.inr ⟨by simp [optClock, channelLockToXml, hx, setOne], by simp [optClock]⟩

/-- `hj` excludes the point at which `jump_position_to_xml` loses data: flag unset, interpolationLength set -/
theorem propOK_jump {ps : List (Property XV)} {e : Xml} {o cd : Obj XV} (j : JumpPosition)
    (ho : o "jumpPosition" = .one (.jump j)) (hcd : cd "jumpPosition" = .one (.jump ⟨false, none⟩))
    (hj : j.flag = true ∨ j.interpolationLength = none) :
    PropOK ps e o cd (.customElement "jumpPosition" none false jumpImpl) := by
  refine propOK_custom1 "jumpPosition" rfl rfl (ctag_jump o) (fun kw _ => ?_)
  simp only [jumpImpl, ho]
  obtain ⟨flag, il⟩ := j
  cases flag with
  | false =>
    simp at hj; subst hj
    exact Or.inl ⟨rfl, by simp, by rw [hcd]⟩
  | true =>
    have hx := handleJumpPosition_written il
    simp only [jumpPositionToXml, if_true, List.forall_mem_singleton] at hx
    exact Or.inr ⟨by simp [jumpPositionToXml, hx, setOne], by simp⟩

theorem propOK_divergence {ps : List (Property XV)} {e : Xml} {o cd : Obj XV} (d : Option ObjectDivergence)
    (ho : o "objectDivergence" = .one (optDiverg d)) (hcd : cd "objectDivergence" = .one noneLeaf) :
    PropOK ps e o cd (.customElement "objectDivergence" none false divergenceImpl) := by
  refine propOK_custom1 "objectDivergence" rfl rfl (ctag_divergence o) (fun kw _ => ?_)
  simp only [divergenceImpl, ho]
  cases d with
  | none => exact Or.inl ⟨rfl, by simp [optDiverg], by rw [hcd]; rfl⟩
  | some d =>
    have hx := handleDivergence_written d
    simp only [divergenceToXml, List.forall_mem_singleton] at hx
    exact Or.inr ⟨by simp [optDiverg, divergenceToXml, hx, setOne], by simp [optDiverg]⟩

theorem propOK_zones {ps : List (Property XV)} {e : Xml} {o cd : Obj XV} (zs : List Zone)
    (ho : o "zoneExclusion" = .one (.zones zs)) (hcd : cd "zoneExclusion" = .one (.zones [])) :
    PropOK ps e o cd (.customElement "zoneExclusion" (some "zoneExclusion") false zoneImpl) := by
  refine propOK_custom1 "zoneExclusion" rfl rfl (ctag_zones o) (fun kw _ => ?_)
  simp only [zoneImpl, ho, zoneExclusionToXml]
  by_cases hz : zs = []
  · exact Or.inl ⟨by simp [hz], by simp [hz], by rw [hcd, hz]⟩
  · exact Or.inr ⟨by simp [hz, parseZoneExclusionElement_written, setOne], by simp [hz]⟩

end Earverif.XmlBlocks
