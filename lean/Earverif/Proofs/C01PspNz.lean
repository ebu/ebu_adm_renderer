/- C01: the C05 point-source panner, walked over its regenerated table (`pspHandle`), never answers a direction of
   length > 1/2 with the all-zero vector (`pspHandle_hasPos`), so that its answer has unit power
   (`pspHandle_unit`): the hypothesis "the result is not the zero vector" of `pspHandle_contract` is discharged for
   every position `polarPointPan` visits (`polarPoint_far`, Proofs/C01Far: the point-only regime implies distance > 1/2).

   Why a length bound and not just `pos ≠ 0`: `Triplet.handle` accepts on the ABSOLUTE threshold `pv ≥ -1e-11`, so a
   direction of length 1e-12 pointing away from a triplet is accepted by it and clipped to the zero vector
   (numpy: 0/‖·‖ then clip; the result is exactly zero, no NaN).  For ‖pos‖ > 1/2 an accepted direction has a strictly
   positive un-normalised gain: `pos = pv · P` with `|P_ij| ≤ 2` and `-1e-11 ≤ pv_i ≤ 0` would give ‖pos‖ ≤ 1.1e-10.

   Table obligation (`pspNzOk`, decided by the kernel on the regenerated `Gen/C05_Tables.lean` in Props/C01.lean):
   every Triplet and every inner triplet of a VirtualNgon has a non-zero determinant and coordinates in [-2, 2]
   (exact rational arithmetic on the binary64 values). -/
import Earverif.Proofs.C01Psp

namespace Earverif.GainCalc
open Earverif.PointSource (RawLayout RawRegion Region Vec3 Mat3 F2 P3)

def HasPos (v : List ℝ) : Prop := ∃ x ∈ v, 0 < x

theorem HasPos.ne_zero {v : List ℝ} (h : HasPos v) : ∃ x ∈ v, x ≠ 0 := by
  obtain ⟨x, hx, h0⟩ := h
  exact ⟨x, hx, h0.ne'⟩

theorem sumsq_pos_of_hasPos : ∀ {v : List ℝ}, HasPos v → 0 < PointSource.sumsq v
  | [], h => by obtain ⟨x, hx, _⟩ := h; simp at hx
  | y :: ys, h => by
    obtain ⟨x, hx, h0⟩ := h
    have hn := PointSource.sumsq_nonneg ys
    simp only [PointSource.sumsq]
    rcases List.mem_cons.mp hx with rfl | hx
    · linarith [mul_pos h0 h0]
    · have := sumsq_pos_of_hasPos (v := ys) ⟨x, hx, h0⟩
      linarith [mul_self_nonneg y]

theorem hasPos_of_sumsq_pos : ∀ {v : List ℝ}, (∀ x ∈ v, 0 ≤ x) → 0 < PointSource.sumsq v → HasPos v
  | [], _, h => by simp [PointSource.sumsq] at h
  | y :: ys, hn, h => by
    by_cases hy : 0 < y
    · exact ⟨y, by simp, hy⟩
    · have hy0 : y = 0 := le_antisymm (not_lt.mp hy) (hn y (by simp))
      simp only [PointSource.sumsq, hy0, mul_zero, zero_add] at h
      obtain ⟨x, hx, h0⟩ := hasPos_of_sumsq_pos (v := ys) (fun x hx => hn x (by simp [hx])) h
      exact ⟨x, by simp [hx], h0⟩

theorem normalise_hasPos {v : List ℝ} (h : HasPos v) : HasPos (PointSource.normalise v) := by
  have hs := sumsq_pos_of_hasPos h
  obtain ⟨x, hx, h0⟩ := h
  refine ⟨x / PointSource.norm v, ?_, ?_⟩
  · simp only [PointSource.normalise, List.mem_map]
    exact ⟨x, hx, rfl⟩
  · apply div_pos h0
    simp only [PointSource.norm, PointSource.sqrt_real]
    exact Real.sqrt_pos.mpr hs

/-! ### `scatter` with distinct in-range indices -/

theorem scatter_hasPos (idx : List Nat) (vals out : List ℝ) (hd : PointSource.allDistinct idx = true)
    (hr : ∀ i ∈ idx, i < out.length) (hl : vals.length = idx.length) (h : HasPos vals) :
    HasPos (PointSource.scatter out idx vals) := by
  obtain ⟨x, hx, h0⟩ := h
  obtain ⟨k, hk, hxk⟩ := List.getElem_of_mem hx
  have hki : k < idx.length := hl ▸ hk
  have := PointSource.scatter_getElem?_nodup idx vals out (PointSource.allDistinct_nodup hd) hr k idx[k] x
    (List.getElem?_eq_getElem hki)
    (by rw [List.getElem?_eq_getElem hk, hxk])
  exact ⟨x, List.mem_of_getElem? this, h0⟩

/-! ### Triplet: an accepted direction of length > 1/2 gets a strictly positive gain -/

theorem vecMat_pv (P : Mat3 ℝ) (hd : PointSource.det3 P ≠ 0) (p : Vec3 ℝ) :
    PointSource.vecMat (PointSource.Triplet.pv P p) P = p := by
  obtain ⟨⟨a0, a1, a2⟩, ⟨b0, b1, b2⟩, ⟨c0, c1, c2⟩⟩ := P
  obtain ⟨p0, p1, p2⟩ := p
  simp only [PointSource.det3] at hd
  simp only [PointSource.Triplet.pv, PointSource.vecMat, PointSource.inv3, PointSource.det3]
  -- each component is `pᵢ · det P / det P` by the cofactor expansion
  refine Prod.ext (Eq.trans ?_ (mul_div_cancel_right₀ p0 hd)) (Prod.ext (Eq.trans ?_ (mul_div_cancel_right₀ p1 hd))
    (Eq.trans ?_ (mul_div_cancel_right₀ p2 hd))) <;> simp only <;> ring

def MatBounded (P : Mat3 ℝ) : Prop :=
  (|P.1.1| ≤ 2 ∧ |P.1.2.1| ≤ 2 ∧ |P.1.2.2| ≤ 2) ∧ (|P.2.1.1| ≤ 2 ∧ |P.2.1.2.1| ≤ 2 ∧ |P.2.1.2.2| ≤ 2) ∧
  (|P.2.2.1| ≤ 2 ∧ |P.2.2.2.1| ≤ 2 ∧ |P.2.2.2.2| ≤ 2)

/-- three terms, each at most `2e` in absolute value: `36 = (3 · 2)²` (at the use site `e` is the acceptance threshold 1e-11) -/
theorem small_comb (e v1 v2 v3 x1 x2 x3 : ℝ) (he : 0 ≤ e) (h1 : -e ≤ v1 ∧ v1 ≤ 0) (h2 : -e ≤ v2 ∧ v2 ≤ 0)
    (h3 : -e ≤ v3 ∧ v3 ≤ 0) (b1 : |x1| ≤ 2) (b2 : |x2| ≤ 2) (b3 : |x3| ≤ 2) :
    (v1 * x1 + v2 * x2 + v3 * x3) * (v1 * x1 + v2 * x2 + v3 * x3) ≤ 36 * (e * e) := by
  have t : ∀ v x : ℝ, -e ≤ v ∧ v ≤ 0 → |x| ≤ 2 → |v * x| ≤ 2 * e := by
    intro v x hv hx
    rw [abs_mul]
    have : |v| ≤ e := abs_le.mpr ⟨hv.1, by linarith⟩
    calc |v| * |x| ≤ e * 2 := mul_le_mul this hx (abs_nonneg _) he
      _ = 2 * e := by ring
  have hs : |v1 * x1 + v2 * x2 + v3 * x3| ≤ 6 * e := by
    have a1 := abs_add_le (v1 * x1 + v2 * x2) (v3 * x3)
    have a2 := abs_add_le (v1 * x1) (v2 * x2)
    linarith [t v1 x1 h1 b1, t v2 x2 h2 b2, t v3 x3 h3 b3]
  rw [← abs_mul_abs_self]
  calc |v1 * x1 + v2 * x2 + v3 * x3| * |v1 * x1 + v2 * x2 + v3 * x3| ≤ 6 * e * (6 * e) :=
        mul_le_mul hs hs (abs_nonneg _) (by linarith)
    _ = 36 * (e * e) := by ring

theorem vecMat_small {P : Mat3 ℝ} (hB : MatBounded P) {v : Vec3 ℝ} {e : ℝ} (he : 0 ≤ e) (h1 : -e ≤ v.1 ∧ v.1 ≤ 0)
    (h2 : -e ≤ v.2.1 ∧ v.2.1 ≤ 0) (h3 : -e ≤ v.2.2 ∧ v.2.2 ≤ 0) :
    (PointSource.vecMat v P).1 * (PointSource.vecMat v P).1 + (PointSource.vecMat v P).2.1 * (PointSource.vecMat v P).2.1 +
      (PointSource.vecMat v P).2.2 * (PointSource.vecMat v P).2.2 ≤ 108 * (e * e) := by
  obtain ⟨⟨a0, a1, a2⟩, ⟨b0, b1, b2⟩, ⟨c0, c1, c2⟩⟩ := P
  obtain ⟨⟨ha0, ha1, ha2⟩, ⟨hb0, hb1, hb2⟩, ⟨hc0, hc1, hc2⟩⟩ := hB
  have q0 := small_comb e _ _ _ a0 b0 c0 he h1 h2 h3 ha0 hb0 hc0
  have q1 := small_comb e _ _ _ a1 b1 c1 he h1 h2 h3 ha1 hb1 hc1
  have q2 := small_comb e _ _ _ a2 b2 c2 he h1 h2 h3 ha2 hb2 hc2
  simp only [PointSource.vecMat]
  linarith

theorem clip01_pos {x : ℝ} (h : 0 < x) : 0 < PointSource.clip01 x := by
  simp only [PointSource.clip01, PointSource.min_real, PointSource.max_real, PointSource.zero_real,
    PointSource.one_real]
  exact lt_min (lt_max_of_lt_left h) one_pos

theorem triplet_gain_pos (P : Mat3 ℝ) (hd : PointSource.det3 P ≠ 0) (hB : MatBounded P) (p g : Vec3 ℝ)
    (hp : 1 / 4 < p.1 * p.1 + p.2.1 * p.2.1 + p.2.2 * p.2.2) (h : PointSource.Triplet.handle P p = some g) :
    HasPos (PointSource.vecList g) := by
  unfold PointSource.Triplet.handle at h
  split at h
  · rename_i hacc
    cases h
    simp only [PointSource.Triplet.accepts, PointSource.tripletEps_real] at hacc
    have hvp := vecMat_pv P hd p
    simp only [PointSource.Triplet.gains, PointSource.sqrt_real, PointSource.vecList]
    generalize PointSource.Triplet.pv P p = v at hacc hvp ⊢
    -- some un-normalised gain is strictly positive: otherwise `p = v · P` would be shorter than 1.1e-10
    have hpos : 0 < v.1 ∨ 0 < v.2.1 ∨ 0 < v.2.2 := by
      by_contra hcon
      simp only [not_or, not_lt] at hcon
      have hs := vecMat_small hB (by norm_num) ⟨hacc.1, hcon.1⟩ ⟨hacc.2.1, hcon.2.1⟩ ⟨hacc.2.2, hcon.2.2⟩
      rw [hvp] at hs
      linarith
    have hn : 0 < Real.sqrt (v.1 * v.1 + v.2.1 * v.2.1 + v.2.2 * v.2.2) :=
      Real.sqrt_pos.mpr (by
        rcases hpos with h | h | h <;>
          linarith [mul_pos h h, mul_self_nonneg v.1, mul_self_nonneg v.2.1, mul_self_nonneg v.2.2])
    rcases hpos with h | h | h
    · exact ⟨_, by simp, clip01_pos (div_pos h hn)⟩
    · exact ⟨_, by simp, clip01_pos (div_pos h hn)⟩
    · exact ⟨_, by simp, clip01_pos (div_pos h hn)⟩
  · simp at h

/-! ### VirtualNgon, QuadRegion -/

/-- one fan triangle of a VirtualNgon: the inner triplet's answer (some gain strictly positive), written to slots
    `oi ≠ oj < n` and `n` (the virtual centre), then `pv[:-1] += pv[-1] * centre_downmix` with positive coefficients and
    the normalisation: some entry stays strictly positive -/
theorem ngon_cand_hasPos (cd : List ℝ) (hcd : ∀ d ∈ cd, 0 < d) (oi oj : Nat) (hoi : oi < cd.length)
    (hoj : oj < cd.length) (hne : oi ≠ oj) (gv : Vec3 ℝ) (hg : HasPos (PointSource.vecList gv))
    (hgn : ∀ x ∈ PointSource.vecList gv, 0 ≤ x) :
    HasPos (PointSource.VirtualNgon.mix cd
      (PointSource.scatter (PointSource.zeros (cd.length + 1)) [oi, oj, cd.length] (PointSource.vecList gv))) := by
  obtain ⟨a, b, c⟩ := gv
  simp only [PointSource.vecList] at hg hgn ⊢
  have ha : 0 ≤ a := hgn a (by simp)
  have hb : 0 ≤ b := hgn b (by simp)
  have hc : 0 ≤ c := hgn c (by simp)
  set n := cd.length with hn
  set pv := PointSource.scatter (PointSource.zeros (n + 1)) [oi, oj, n] [a, b, c] with hpv
  have hnd : [oi, oj, n].Nodup := by
    simp only [List.nodup_cons, List.mem_cons, List.not_mem_nil, or_false, not_or, not_false_eq_true, List.nodup_nil,
      and_true]
    exact ⟨⟨hne, by omega⟩, by omega⟩
  have hin : ∀ i ∈ [oi, oj, n], i < (PointSource.zeros (n + 1) : List ℝ).length := by
    intro i hi
    simp only [List.mem_cons, List.not_mem_nil, or_false] at hi
    simp only [PointSource.zeros, List.length_replicate]
    rcases hi with rfl | rfl | rfl <;> omega
  have e0 : pv[oi]? = some a := PointSource.scatter_getElem?_nodup _ _ _ hnd hin 0 oi a (by simp) (by simp)
  have e1 : pv[oj]? = some b := PointSource.scatter_getElem?_nodup _ _ _ hnd hin 1 oj b (by simp) (by simp)
  have e2 : pv[n]? = some c := PointSource.scatter_getElem?_nodup _ _ _ hnd hin 2 n c (by simp) (by simp)
  have hlast : pv.getD n PointSource.zero = c := by rw [List.getD_eq_getElem?_getD, e2]; rfl
  apply normalise_hasPos
  rw [hlast]
  have hcdi : ∃ di, cd[oi]? = some di ∧ 0 < di :=
    ⟨cd[oi], List.getElem?_eq_getElem hoi, hcd _ (List.getElem_mem hoi)⟩
  have hcdj : ∃ dj, cd[oj]? = some dj ∧ 0 < dj :=
    ⟨cd[oj], List.getElem?_eq_getElem hoj, hcd _ (List.getElem_mem hoj)⟩
  obtain ⟨di, hdi, hdi0⟩ := hcdi
  obtain ⟨dj, hdj, hdj0⟩ := hcdj
  have mi : (List.zipWith (fun x d => x + c * d) (pv.take n) cd)[oi]? = some (a + c * di) := by
    rw [List.getElem?_zipWith, List.getElem?_take, if_pos hoi, e0, hdi]
  have mj : (List.zipWith (fun x d => x + c * d) (pv.take n) cd)[oj]? = some (b + c * dj) := by
    rw [List.getElem?_zipWith, List.getElem?_take, if_pos hoj, e1, hdj]
  obtain ⟨x, hx, hx0⟩ := hg
  simp only [List.mem_cons, List.not_mem_nil, or_false] at hx
  rcases hx with rfl | rfl | rfl
  · exact ⟨_, List.mem_of_getElem? mi, add_pos_of_pos_of_nonneg hx0 (mul_nonneg hc hdi0.le)⟩
  · exact ⟨_, List.mem_of_getElem? mj, add_pos_of_pos_of_nonneg hx0 (mul_nonneg hc hdj0.le)⟩
  · exact ⟨_, List.mem_of_getElem? mj, add_pos_of_nonneg_of_pos hb (mul_pos hx0 hdj0)⟩

/-! ### the decidable table obligation (exact rational arithmetic on the binary64 table values) -/

abbrev Q3 := Rat × Rat × Rat

def q3 (v : P3) : Q3 := (PointSource.f2Rat v.1, PointSource.f2Rat v.2.1, PointSource.f2Rat v.2.2)

/-- the determinant of the matrix with rows `a b c` (same expansion as `PointSource.det3`) -/
def detQ (a b c : Q3) : Rat :=
  a.1 * (b.2.1 * c.2.2 - b.2.2 * c.2.1) - a.2.1 * (b.1 * c.2.2 - b.2.2 * c.1) + a.2.2 * (b.1 * c.2.1 - b.2.1 * c.1)

def boundedQ (a : Q3) : Bool :=
  decide (-2 ≤ a.1) && decide (a.1 ≤ 2) && decide (-2 ≤ a.2.1) && decide (a.2.1 ≤ 2) && decide (-2 ≤ a.2.2) &&
    decide (a.2.2 ≤ 2)

def tripOk (a b c : P3) : Bool :=
  (detQ (q3 a) (q3 b) (q3 c) != 0) && boundedQ (q3 a) && boundedQ (q3 b) && boundedQ (q3 c)

def zP3 : P3 := ((0, 0), (0, 0), (0, 0))

/-- Triplet: invertible and bounded.  VirtualNgon: every fan triangle `(order[i], order[i+1 mod n], centre)` has two
    distinct vertex slots `< n` and is invertible and bounded.  QuadRegion: nothing (its answer is normalised
    bilinear weights, `quad_nonneg_unit`). -/
def regionNzOk (r : RawRegion) : Bool :=
  match r.kind, r.pos with
  | 0, [a, b, c] => tripOk a b c
  | 1, _ =>
    let n := r.pos.length
    (List.range n).all fun i =>
      let oi := r.order.getD i 0
      let oj := r.order.getD ((i + 1) % n) 0
      decide (oi < n) && decide (oj < n) && (oi != oj) && tripOk (r.pos.getD oi zP3) (r.pos.getD oj zP3) r.centre
  | 2, _ => true
  | _, _ => false

/-- the table obligation of `pspHandle_hasPos` -/
def pspNzOk (L : RawLayout) : Bool := L.regions.all regionNzOk

theorem p3_real (v : P3) : (PointSource.p3 v : Vec3 ℝ) = (((q3 v).1 : ℝ), ((q3 v).2.1 : ℝ), ((q3 v).2.2 : ℝ)) := rfl

theorem det3_p3 (a b c : P3) :
    PointSource.det3 ((PointSource.p3 a : Vec3 ℝ), PointSource.p3 b, PointSource.p3 c) =
      ((detQ (q3 a) (q3 b) (q3 c) : ℚ) : ℝ) := by
  simp only [p3_real, PointSource.det3, detQ]
  push_cast
  ring

theorem abs_cast_le_two (q : ℚ) (h1 : -2 ≤ q) (h2 : q ≤ 2) : |(q : ℝ)| ≤ 2 := by
  rw [abs_le]
  exact ⟨by exact_mod_cast h1, by exact_mod_cast h2⟩

theorem tripOk_sound (a b c : P3) (h : tripOk a b c = true) :
    PointSource.det3 ((PointSource.p3 a : Vec3 ℝ), PointSource.p3 b, PointSource.p3 c) ≠ 0 ∧
    MatBounded ((PointSource.p3 a : Vec3 ℝ), PointSource.p3 b, PointSource.p3 c) := by
  simp only [tripOk, boundedQ, Bool.and_eq_true, bne_iff_ne, ne_eq, decide_eq_true_eq] at h
  obtain ⟨⟨⟨hd, ha⟩, hb⟩, hc⟩ := h
  constructor
  · rw [det3_p3]
    exact_mod_cast hd
  · simp only [MatBounded, p3_real]
    obtain ⟨⟨⟨⟨⟨a1, a2⟩, a3⟩, a4⟩, a5⟩, a6⟩ := ha
    obtain ⟨⟨⟨⟨⟨b1, b2⟩, b3⟩, b4⟩, b5⟩, b6⟩ := hb
    obtain ⟨⟨⟨⟨⟨c1, c2⟩, c3⟩, c4⟩, c5⟩, c6⟩ := hc
    exact ⟨⟨abs_cast_le_two _ a1 a2, abs_cast_le_two _ a3 a4, abs_cast_le_two _ a5 a6⟩,
      ⟨abs_cast_le_two _ b1 b2, abs_cast_le_two _ b3 b4, abs_cast_le_two _ b5 b6⟩,
      ⟨abs_cast_le_two _ c1 c2, abs_cast_le_two _ c3 c4, abs_cast_le_two _ c5 c6⟩⟩

theorem getD_map_p3 (l : List P3) (i : Nat) (hi : i < l.length) :
    (l.map (PointSource.p3 (α := ℝ))).getD i PointSource.zero3 = PointSource.p3 (l.getD i zP3) := by
  simp [List.getD_eq_getElem?_getD, hi]

/-! ### every region of a checked table answers a direction longer than 1/2 with a strictly positive gain -/

theorem length_mix (cd pv : List ℝ) (h : cd.length < pv.length) : (PointSource.VirtualNgon.mix cd pv).length = cd.length := by
  simp only [PointSource.VirtualNgon.mix, PointSource.Cover.length_normalise, List.length_zipWith, List.length_take]
  omega

theorem region_hasPos (n : Nat) (raw : RawRegion) (hw : raw.wellFormed n = true) (hz : regionNzOk raw = true)
    (reg : Region ℝ) (hreg : raw.toRegion = some reg) (x y : Option ℝ) (hx : ∀ v, x = some v → 0 ≤ v ∧ v ≤ 1)
    (hy : ∀ v, y = some v → 0 ≤ v ∧ v ≤ 1) (p : Vec3 ℝ) (hp : 1 / 4 < p.1 * p.1 + p.2.1 * p.2.1 + p.2.2 * p.2.2)
    (g : List ℝ) (h : PointSource.remap reg.channels n (reg.handle (x, y) p) = some g) : HasPos g := by
  simp only [PointSource.remap, Option.map_eq_some_iff] at h
  obtain ⟨vals, hvals, rfl⟩ := h
  obtain ⟨kind, ch, posl, centre, cdm, order⟩ := raw
  have hw' := hw
  simp only [RawRegion.wellFormed, Bool.and_eq_true, List.all_eq_true, decide_eq_true_eq, beq_iff_eq] at hw
  obtain ⟨⟨⟨hchr, hchd⟩, hpl⟩, hk⟩ := hw
  have hzl : ∀ i ∈ reg.channels, reg.channels = ch → i < (PointSource.zeros n : List ℝ).length := by
    intro i hi hc
    simp only [PointSource.zeros, List.length_replicate]
    exact hchr i (hc ▸ hi)
  rcases PointSource.Cover.toRegion_cases hw' with ⟨a, b, c, hkind, hpos, ht⟩ | ⟨hkind, ht⟩ | ⟨hkind, ht⟩ <;>
    (simp only at hkind; subst hkind; rw [ht] at hreg; cases hreg)
  · -- Triplet
    simp only at hpos
    subst hpos
    simp only [regionNzOk] at hz
    obtain ⟨gv, hgv, rfl⟩ := Option.map_eq_some_iff.mp hvals
    obtain ⟨hd, hB⟩ := tripOk_sound a b c hz
    have hk' : ch.length = 3 := by simpa using hk
    exact scatter_hasPos _ _ _ hchd (fun i hi => hzl i hi rfl) (by simp [PointSource.vecList, hk', Region.channels])
      (triplet_gain_pos _ hd hB p gv hp hgv)
  · -- VirtualNgon
    simp only [Bool.and_eq_true, decide_eq_true_eq, beq_iff_eq, List.all_eq_true] at hk
    obtain ⟨⟨⟨hk3, hcl⟩, _⟩, hcdp⟩ := hk
    simp only [Region.handle] at hvals
    have hcd : ∀ d ∈ cdm.map (PointSource.OfF2.ofF2 (α := ℝ)), 0 < d := by
      intro d hd
      simp only [List.mem_map] at hd
      obtain ⟨f, hf, rfl⟩ := hd
      exact ofF2_pos f (hcdp f hf)
    have hcdl : (cdm.map (PointSource.OfF2.ofF2 (α := ℝ))).length = posl.length := by
      simp only [List.length_map]; omega
    -- the chosen fan triangle
    obtain ⟨r, hr, gv, ht, hrv⟩ := PointSource.ngon_handle_eq_some hvals
    replace hrv := hrv.symm
    simp only [PointSource.VirtualNgon.regions, List.mem_map, List.mem_range, List.length_map] at hr
    obtain ⟨i, hi, rfl⟩ := hr
    simp only [regionNzOk, List.all_eq_true, List.mem_range, Bool.and_eq_true, decide_eq_true_eq, bne_iff_ne, ne_eq] at hz
    obtain ⟨⟨⟨hoi, hoj⟩, hne⟩, htri⟩ := hz i hi
    obtain ⟨hd, hB⟩ := tripOk_sound _ _ _ htri
    rw [← getD_map_p3 posl _ hoi, ← getD_map_p3 posl _ hoj] at hd hB
    simp only at ht hrv
    have hg := triplet_gain_pos _ hd hB p gv hp ht
    have hgn := PointSource.vecList_nonneg (PointSource.triplet_nonneg _ _ _ ht)
    have hcand := ngon_cand_hasPos _ hcd _ _ (hcdl ▸ hoi) (hcdl ▸ hoj) hne gv hg hgn
    rw [hcdl] at hcand hrv
    rw [hrv] at hcand
    refine scatter_hasPos _ _ _ hchd (fun j hj => hzl j hj rfl) ?_ hcand
    rw [← hrv, length_mix _ _ (by rw [PointSource.scatter_length]; simp [PointSource.zeros]; omega)]
    simp only [Region.channels, List.length_map]
    omega
  · -- QuadRegion
    simp only [Region.handle] at hvals
    simp only [Bool.and_eq_true, beq_iff_eq] at hk
    cases x with
    | none => simp [PointSource.QuadRegion.handle] at hvals
    | some xv =>
      cases y with
      | none => simp [PointSource.QuadRegion.handle] at hvals
      | some yv =>
        have hq := PointSource.quad_nonneg_unit _ p xv yv vals hk.2 (hx xv rfl).1 (hx xv rfl).2 (hy yv rfl).1
          (hy yv rfl).2 hvals
        refine scatter_hasPos _ _ _ hchd (fun j hj => hzl j hj rfl) ?_
          (hasPos_of_sumsq_pos hq.1 (by rw [hq.2]; exact one_pos))
        simp only [PointSource.QuadRegion.handle] at hvals
        split at hvals
        · simp at hvals
        · simp only [Option.some.injEq] at hvals
          subst hvals
          simp [PointSource.Cover.length_normalise, PointSource.scatter_length, PointSource.zeros, Region.channels, hk.1]

/-! ### the downmix wrapper keeps a strictly positive entry -/

theorem dot_ge_term : ∀ (a b : List ℝ) (j : Nat) (s t : ℝ), (∀ x ∈ a, 0 ≤ x) → (∀ x ∈ b, 0 ≤ x) → a[j]? = some s →
    b[j]? = some t → s * t ≤ PointSource.dot a b
  | [], _, _, _, _, _, _, h, _ => by simp at h
  | _ :: _, [], _, _, _, _, _, _, h => by simp at h
  | x :: xs, y :: ys, j, s, t, ha, hb, hs, ht => by
    have hxy : 0 ≤ x * y := mul_nonneg (ha x (by simp)) (hb y (by simp))
    have hrest : 0 ≤ PointSource.dot xs ys :=
      PointSource.dot_nonneg (fun z hz => ha z (by simp [hz])) (fun z hz => hb z (by simp [hz]))
    simp only [PointSource.dot]
    cases j with
    | zero =>
      simp only [List.getElem?_cons_zero, Option.some.injEq] at hs ht
      subst hs; subst ht
      linarith
    | succ j =>
      simp only [List.getElem?_cons_succ] at hs ht
      have := dot_ge_term xs ys j s t (fun z hz => ha z (by simp [hz])) (fun z hz => hb z (by simp [hz])) hs ht
      linarith

/-- `downmixOk`: every inner channel (real or virtual) is mapped onto some real channel with a positive coefficient, so
    a non-negative inner vector with a strictly positive entry is not mapped to zero -/
theorem downmix_hasPos (L : RawLayout) (hd : L.downmixOk = true) (v : List ℝ) (hl : v.length = L.nInner)
    (hn : ∀ x ∈ v, 0 ≤ x) (h : HasPos v) : HasPos (PointSource.matVec (L.downmixRows : List (List ℝ)) v) := by
  obtain ⟨t, ht, ht0⟩ := h
  obtain ⟨j, hj, hjt⟩ := List.getElem_of_mem ht
  have hjI : j < L.nInner := hl ▸ hj
  have hall := hd
  simp only [RawLayout.downmixOk, Bool.and_eq_true, List.all_eq_true, decide_eq_true_eq, List.mem_range,
    Bool.or_eq_true, List.any_eq_true, beq_iff_eq] at hall
  obtain ⟨⟨⟨hle, hent⟩, hid⟩, hcol⟩ := hall
  -- an entry of column j
  have hex : ∃ e ∈ L.downmix, e.2.1 = j := by
    rcases hcol j hjI with hlt | ⟨e, he, hej⟩
    · obtain ⟨⟨e, he, hee⟩, _⟩ := hid j hlt
      exact ⟨e, he, hee.1.2⟩
    · exact ⟨e, he, hej⟩
  obtain ⟨e, he, hej⟩ := hex
  have hei : e.1 < L.nReal := (hent e he).1.1
  -- the (e.1, j) entry of the matrix is positive
  cases hf : L.downmix.find? (fun e' => e'.1 == e.1 && e'.2.1 == j) with
  | none =>
    have := List.find?_eq_none.mp hf e he
    simp [hej] at this
  | some e' =>
    have he' := List.mem_of_find?_eq_some hf
    have hpos : (0 : ℝ) < PointSource.OfF2.ofF2 e'.2.2 := ofF2_pos _ (hent e' he').2
    have hlen : e.1 < (L.downmixRows : List (List ℝ)).length := by simp [RawLayout.downmixRows, hei]
    have hmem : (L.downmixRows : List (List ℝ))[e.1] ∈ (L.downmixRows : List (List ℝ)) := List.getElem_mem hlen
    have hrj : ((L.downmixRows : List (List ℝ))[e.1])[j]? = some (PointSource.OfF2.ofF2 e'.2.2) := by
      simp [RawLayout.downmixRows, hjI, hf]
    have hrown := downmixRows_nonneg L hd _ hmem
    have hge := dot_ge_term _ v j _ t hrown hn hrj (by rw [List.getElem?_eq_getElem hj, hjt])
    refine ⟨PointSource.dot ((L.downmixRows : List (List ℝ))[e.1]) v, ?_, lt_of_lt_of_le (mul_pos hpos ht0) hge⟩
    simp only [PointSource.matVec, List.mem_map]
    exact ⟨_, hmem, rfl⟩

/-! ### the panner over its table -/

theorem panner_inner_spec (L : RawLayout) (hwf : L.wellFormed = true) (hz : pspNzOk L = true)
    (regions : List (Region ℝ)) (hmap : L.regions.mapM (RawRegion.toRegion (α := ℝ)) = some regions)
    (roots : Nat → Option ℝ × Option ℝ) (hr1 : ∀ k xv, (roots k).1 = some xv → 0 ≤ xv ∧ xv ≤ 1)
    (hr2 : ∀ k yv, (roots k).2 = some yv → 0 ≤ yv ∧ yv ≤ 1)
    (pos : V3 ℝ) (hpos : 1 / 4 < pos.1 * pos.1 + pos.2.1 * pos.2.1 + pos.2.2 * pos.2.2) (v : List ℝ)
    (hv : PointSource.PointSourcePanner.handle regions L.nInner roots pos = some v) :
    (∀ x ∈ v, 0 ≤ x) ∧ HasPos v ∧ v.length = L.nInner := by
  refine PointSource.panner_inherits regions L.nInner _ pos
    (fun g => (∀ x ∈ g, 0 ≤ x) ∧ HasPos g ∧ g.length = L.nInner) ?_ v hv
  intro kk hk g hg
  obtain ⟨raw, hraw, hreg⟩ := mapM_some_mem_rev hmap regions[kk] (List.getElem_mem hk)
  have hw := PointSource.Cover.region_wf hwf hraw
  simp only [pspNzOk, List.all_eq_true] at hz
  refine ⟨region_nonneg L.nInner raw hw regions[kk] hreg _ _ (hr1 kk) (hr2 kk) pos g hg,
    region_hasPos L.nInner raw hw (hz raw hraw) regions[kk] hreg _ _ (hr1 kk) (hr2 kk) pos hpos g hg, ?_⟩
  simp only [PointSource.remap, Option.map_eq_some_iff] at hg
  obtain ⟨vals, _, rfl⟩ := hg
  simp [PointSource.scatter_length, PointSource.zeros]

theorem downmixed_spec (L : RawLayout) (hdm : L.downmixOk = true) (v : List ℝ) (hn : ∀ x ∈ v, 0 ≤ x) (hp : HasPos v)
    (hl : v.length = L.nInner) :
    let w := PointSource.normalise (PointSource.matVec (L.downmixRows : List (List ℝ)) v)
    (∀ x ∈ w, 0 ≤ x) ∧ PointSource.sumsq w = 1 ∧ HasPos w ∧ w.length = L.nReal := by
  have hD := downmixRows_nonneg L hdm
  have hmp := downmix_hasPos L hdm v hl hn hp
  refine ⟨PointSource.normalise_nonneg (PointSource.matVec_nonneg hD hn),
    PointSource.sumsq_normalise (sumsq_pos_of_hasPos hmp).ne', normalise_hasPos hmp, ?_⟩
  simp [PointSource.normalise, PointSource.matVec, RawLayout.downmixRows]

theorem pspHandle_hasPos (L : RawLayout) (hwf : L.wellFormed = true) (hst : L.stereo = none) (hz : pspNzOk L = true)
    (pos : V3 ℝ) (hpos : 1 / 4 < pos.1 * pos.1 + pos.2.1 * pos.2.1 + pos.2.2 * pos.2.2) (p : List ℝ)
    (h : pspHandle L pos = some p) : HasPos p := by
  obtain ⟨roots, hr1, hr2, he⟩ := pspHandle_eq_handle L pos
  obtain ⟨regions, v, hmap, hv, hp⟩ := rawHandle_eq_some_iff.mp (he ▸ h)
  rw [hst] at hp
  obtain rfl := Option.some.inj hp
  obtain ⟨hn, hp, hl⟩ := panner_inner_spec L hwf hz regions hmap roots hr1 hr2 pos hpos v hv
  exact (downmixed_spec L (wellFormed_downmixOk hwf) v hn hp hl).2.2.1

/-- `pspHandle_contract` without the non-zero hypothesis, for directions longer than 1/2 -/
theorem pspHandle_unit (L : RawLayout) (hwf : L.wellFormed = true) (hst : L.stereo = none) (hz : pspNzOk L = true)
    (pos : V3 ℝ) (hpos : 1 / 4 < pos.1 * pos.1 + pos.2.1 * pos.2.1 + pos.2.2 * pos.2.2) (p : List ℝ)
    (h : pspHandle L pos = some p) : p.length = L.nReal ∧ Nonneg p ∧ sumSq p = 1 :=
  pspHandle_contract L hwf hst pos p h (pspHandle_hasPos L hwf hst hz pos hpos p h).ne_zero

end Earverif.GainCalc
