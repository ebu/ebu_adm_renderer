/-
`BlockProcessingChannel` over any partition of the sample stream = per-sample effect of the
(eagerly interpreted) list of processing blocks.
-/
import Earverif.Model.Timeline
namespace Earverif.Timeline
open Earverif.Stream

variable {M S K ι V : Type}

def PBlock.covers (pb : PBlock K) (s : Int) : Bool :=
  decide (pb.first_sample ≤ s) && pb.last_sample.gtFin s

/-- Effect of one processing block on the output row of sample `s` with input sample `x`. -/
def PBlock.eff (upd : K → Nat → ι → V → V) (pb : PBlock K) (s : Int) (x : ι) (o : V) : V :=
  if pb.covers s then upd pb.k (s - pb.first_sample).toNat x o else o

def effAll (upd : K → Nat → ι → V → V) (pbs : List (PBlock K)) (s : Int) (x : ι) (o : V) : V :=
  pbs.foldl (fun o pb => pb.eff upd s x o) o

/-- `out[j] := F j inp[j] out[j]` for the rows that have an input sample. -/
def mapRows (F : Nat → ι → V → V) (inp : List ι) (out : List V) : List V :=
  out.mapIdx fun j o => match inp[j]? with | some x => F j x o | none => o

theorem getElem?_mapRows (F : Nat → ι → V → V) (inp : List ι) (out : List V) (i : Nat) :
    (mapRows F inp out)[i]? = (out[i]?).map (fun o => match inp[i]? with | some x => F i x o | none => o) := by
  simp only [mapRows, List.getElem?_mapIdx]

theorem mapRows_length (F : Nat → ι → V → V) (a : List ι) (b : List V) : (mapRows F a b).length = b.length :=
  List.length_mapIdx

theorem mapRows_congr (F G : Nat → ι → V → V) (inp : List ι) (out : List V)
    (h : ∀ j x o, inp[j]? = some x → F j x o = G j x o) : mapRows F inp out = mapRows G inp out := by
  apply List.ext_getElem?
  intro j
  rw [getElem?_mapRows, getElem?_mapRows]
  cases hi : inp[j]? with
  | none => rfl
  | some x => exact congrArg (Option.map · out[j]?) (funext fun o => h j x o hi)

theorem mapRows_mapRows (F G : Nat → ι → V → V) (inp : List ι) (out : List V) :
    mapRows G inp (mapRows F inp out) = mapRows (fun j x o => G j x (F j x o)) inp out := by
  apply List.ext_getElem?
  intro j
  simp only [getElem?_mapRows, Option.map_map]
  cases inp[j]? <;> rfl

theorem mapRows_id (inp : List ι) (out : List V) : mapRows (fun _ _ o => o) inp out = out := by
  apply List.ext_getElem?
  intro j
  rw [getElem?_mapRows]
  cases inp[j]? <;> exact Option.map_id'

theorem mapRows_append (F : Nat → ι → V → V) (a a' : List ι) (b b' : List V) (h : b.length = a.length) :
    mapRows F (a ++ a') (b ++ b') = mapRows F a b ++ mapRows (fun j => F (a.length + j)) a' b' := by
  apply List.ext_getElem?
  intro j
  simp only [getElem?_mapRows, List.getElem?_append, mapRows_length, h]
  by_cases hj : j < a.length
  · simp only [hj, if_true]
  · simp only [hj, if_false, Nat.add_sub_cancel' (Nat.le_of_not_lt hj)]

/-- `ProcessingBlock.overlap` read at row `j` of a block that starts at sample `S`: the row is inside the returned
sample range exactly when the block covers sample `S + j`, and the state index it gets is the offset of that sample
from `first_sample`. -/
theorem PBlock.overlap_spec (pb : PBlock K) (S : Int) {n j : Nat} (hj : j < n) :
    ((pb.overlap S n).2.1 ≤ (j : Int) ∧ (j : Int) < (pb.overlap S n).2.2 ↔ pb.covers (S + j) = true) ∧
    ((pb.overlap S n).2.1 ≤ (j : Int) → (j : Int) < (pb.overlap S n).2.2 →
      (pb.overlap S n).1.1 + ((j : Int) - (pb.overlap S n).2.1) = S + j - pb.first_sample) := by
  rcases pb with ⟨ss, es, f, l, k⟩
  -- with or without an end, and whether or not the overlap is empty: linear arithmetic over `max`/`min`
  cases l <;>
    simp only [PBlock.overlap, PBlock.covers, Ext.gtFin, Bool.and_eq_true, Bool.and_true, decide_eq_true_eq] <;>
    split <;> dsimp only <;> omega

theorem process_eq (upd : K → Nat → ι → V → V) (pb : PBlock K) (S : Int) (inp : List ι) (out : List V) :
    pb.process upd S inp out = mapRows (fun j x o => pb.eff upd (S + j) x o) inp out := by
  apply List.ext_getElem?
  intro j
  rw [getElem?_mapRows]
  simp only [PBlock.process, applyOverlap, List.getElem?_mapIdx]
  cases hi : inp[j]? with
  | none => simp only [ite_self]
  | some x =>
    obtain ⟨h1, h2⟩ := pb.overlap_spec S (List.getElem?_eq_some_iff.mp hi).1
    refine congrArg (Option.map · out[j]?) (funext fun o => ?_)
    dsimp only [PBlock.eff]
    by_cases hc : pb.covers (S + j) = true
    · rw [if_pos (h1.mpr hc), if_pos hc, h2 (h1.mpr hc).1 (h1.mpr hc).2]
    · rw [if_neg (mt h1.mp hc), if_neg hc]

/-- All processing blocks the interpreter will yield for the remaining source. -/
def interpAll (interp : S → M → Except Err (S × List (PBlock K))) : S → List M → Except Err (List (PBlock K))
  | _, [] => .ok []
  | st, m :: ms =>
    match interp st m with
    | .error e => .error e
    | .ok (st', new) =>
      match interpAll interp st' ms with
      | .error e => .error e
      | .ok rest => .ok (new ++ rest)

theorem interpAll_cons_ok {interp : S → M → Except Err (S × List (PBlock K))} {st : S} {m : M}
    {ms : List M} {all : List (PBlock K)} (h : interpAll interp st (m :: ms) = .ok all) :
    ∃ st' new rest, interp st m = .ok (st', new) ∧ interpAll interp st' ms = .ok rest ∧ all = new ++ rest := by
  simp only [interpAll] at h
  cases hi : interp st m with
  | error e => rw [hi] at h; cases h
  | ok r =>
    obtain ⟨st', new⟩ := r
    rw [hi] at h; simp only at h
    cases hr : interpAll interp st' ms with
    | error e => rw [hr] at h; cases h
    | ok rest => rw [hr] at h; cases h; exact ⟨st', new, rest, rfl, hr, rfl⟩

/-- Ordered, non-overlapping blocks starting at or after `lb`; an endless block is the last one. A block may be empty
(`first_sample = last_sample`): the interpreters yield a block whenever its two times differ, also when both round up to
the same sample. -/
def ChainLB : Int → List (PBlock K) → Prop
  | _, [] => True
  | lb, pb :: rest =>
    lb ≤ pb.first_sample ∧
      match pb.last_sample with
      | .fin l => pb.first_sample ≤ l ∧ ChainLB l rest
      | .inf => rest = []

theorem ChainLB.mono {lb lb' : Int} (h : lb' ≤ lb) : ∀ {l : List (PBlock K)}, ChainLB lb l → ChainLB lb' l
  | [], _ => trivial
  | _ :: _, ⟨h1, h2⟩ => ⟨by omega, h2⟩

theorem ChainLB.first_ge {lb : Int} : ∀ {l : List (PBlock K)}, ChainLB lb l → ∀ pb ∈ l, lb ≤ pb.first_sample
  | [], _, _, h => by simp at h
  | p :: rest, ⟨h1, h2⟩, pb, hm => by
    rcases List.mem_cons.mp hm with rfl | hm
    · exact h1
    · cases hl : p.last_sample with
      | inf => rw [hl] at h2; simp only at h2; subst h2; simp at hm
      | fin l =>
        rw [hl] at h2; simp only at h2
        have := ChainLB.first_ge h2.2 pb hm
        omega

theorem ChainLB.append {lb : Int} : ∀ {l r : List (PBlock K)}, ChainLB lb (l ++ r) → ChainLB lb l
  | [], _, _ => trivial
  | p :: rest, r, ⟨h1, h2⟩ => by
    refine ⟨h1, ?_⟩
    cases hl : p.last_sample with
    | inf =>
      rw [hl] at h2; simp only at h2 ⊢
      exact (List.append_eq_nil_iff.mp h2).1
    | fin l =>
      rw [hl] at h2; simp only at h2 ⊢
      exact ⟨h2.1, ChainLB.append h2.2⟩

/-- `_refil_processing_queue` on a channel whose remaining metadata interprets to `rest`. `check` is the underrun test
(`some S0` at the top of `process`, `none` inside the loop); it passes when the pending blocks start at or after it. The
refilled channel has the same pending blocks `q ++ rest`, split so that its queue is empty only if nothing is
pending; the last conjunct is the loop's fuel measure (`2 *`: at most two blocks per metadata block, `hy`). -/
theorem refill_spec (interp : S → M → Except Err (S × List (PBlock K)))
    (hy : ∀ st m st' new, interp st m = .ok (st', new) → new.length ≤ 2) (check : Option Int) :
    ∀ (src : List M) (st : S) (q rest : List (PBlock K)),
      interpAll interp st src = .ok rest →
      (∀ ss, check = some ss → q = [] → ∀ pb ∈ rest, ss ≤ pb.first_sample) →
      ∃ b1 rest1, refill interp check src st q = .ok b1 ∧
        interpAll interp b1.istate b1.source = .ok rest1 ∧
        q ++ rest = b1.queue ++ rest1 ∧ (b1.queue = [] → rest1 = []) ∧
        b1.queue.length + 2 * b1.source.length ≤ q.length + 2 * src.length := by
  intro src
  induction src with
  | nil =>
    intro st q rest h _
    simp only [interpAll] at h
    cases h
    exact ⟨⟨[], st, q⟩, [], rfl, rfl, rfl, fun _ => rfl, Nat.le_refl _⟩
  | cons m ms ih =>
    intro st q rest h hc
    by_cases hq : q = []
    · subst hq
      obtain ⟨st', new, rest', hi, hr, rfl⟩ := interpAll_cons_ok h
      have hnew := hy _ _ _ _ hi
      obtain ⟨b1, rest1, e1, e2, e3, e4, e5⟩ := ih st' new rest' hr (by
        intro ss hs hn pb hp
        exact hc ss hs rfl pb (List.mem_append_right _ hp))
      refine ⟨b1, rest1, ?_, e2, by simpa using e3, e4, by simp at e5 ⊢; omega⟩
      simp only [refill, ne_eq, not_true_eq_false, if_false, hi, bind, Except.bind, List.nil_append]
      cases check with
      | none => simpa using e1
      | some ss =>
        have : new.any (fun b => decide (b.first_sample < ss)) = false := by
          rw [List.any_eq_false]
          intro pb hp
          have := hc ss rfl rfl pb (List.mem_append_left _ hp)
          simp; omega
        simp only [this]
        simpa using e1
    · refine ⟨⟨m :: ms, st, q⟩, rest, ?_, h, rfl, fun h' => absurd h' hq, Nat.le_refl _⟩
      simp only [refill, ne_eq, hq, not_false_eq_true, if_true]; rfl

@[simp] theorem effAll_nil (upd : K → Nat → ι → V → V) (s : Int) (x : ι) (o : V) :
    effAll upd [] s x o = o := rfl

@[simp] theorem effAll_cons (upd : K → Nat → ι → V → V) (pb : PBlock K) (r : List (PBlock K)) (s : Int)
    (x : ι) (o : V) : effAll upd (pb :: r) s x o = effAll upd r s x (pb.eff upd s x o) := rfl

theorem eff_of_covers (upd : K → Nat → ι → V → V) (pb : PBlock K) (t : Int) (x : ι) (o : V)
    (h : pb.covers t = true) : pb.eff upd t x o = upd pb.k (t - pb.first_sample).toNat x o :=
  if_pos h

theorem eff_of_not_covers (upd : K → Nat → ι → V → V) (pb : PBlock K) (t : Int) (x : ι) (o : V)
    (h : pb.covers t = false) : pb.eff upd t x o = o :=
  if_neg (by rw [h]; exact Bool.false_ne_true)

theorem effAll_append (upd : K → Nat → ι → V → V) (l r : List (PBlock K)) (s : Int) (x : ι) (o : V) :
    effAll upd (l ++ r) s x o = effAll upd r s x (effAll upd l s x o) := by
  simp [effAll, List.foldl_append]

theorem effAll_id (upd : K → Nat → ι → V → V) (l : List (PBlock K)) (s : Int) (x : ι) (o : V)
    (h : ∀ pb ∈ l, pb.covers s = false) : effAll upd l s x o = o := by
  induction l with
  | nil => rfl
  | cons p r ih =>
    rw [effAll_cons, eff_of_not_covers upd p s x o (h p List.mem_cons_self)]
    exact ih (fun pb hp => h pb (List.mem_cons_of_mem _ hp))

theorem not_covers_of_lt {pb : PBlock K} {s : Int} (h : s < pb.first_sample) : pb.covers s = false := by
  simp [PBlock.covers]; intro; omega

theorem effAll_chain_id (upd : K → Nat → ι → V → V) {l : Int} {r : List (PBlock K)} (hc : ChainLB l r)
    (s : Int) (hs : s < l) (x : ι) (o : V) : effAll upd r s x o = o :=
  effAll_id upd r s x o (fun pb hp => not_covers_of_lt (by have := hc.first_ge pb hp; omega))

/-- `last_sample ≤ e`. -/
def PBlock.endsBy (pb : PBlock K) (e : Int) : Prop := ∃ l, pb.last_sample = .fin l ∧ l ≤ e

theorem not_covers_of_endsBy {pb : PBlock K} {e s : Int} (h : pb.endsBy e) (hs : e ≤ s) : pb.covers s = false := by
  obtain ⟨l, hl, hle⟩ := h
  simp [PBlock.covers, hl, Ext.gtFin]; intro; omega

/-- State of a channel that has consumed the samples before `S0`, relative to the list `all` of all
processing blocks of its timeline. -/
def BpcInv (interp : S → M → Except Err (S × List (PBlock K))) (all : List (PBlock K)) (b : Bpc M S K)
    (S0 : Int) : Prop :=
  ∃ done rest, interpAll interp b.istate b.source = .ok rest ∧ all = done ++ (b.queue ++ rest) ∧
    (∀ pb ∈ done, pb.endsBy S0) ∧ (b.queue = [] → ∀ pb ∈ rest, S0 ≤ pb.first_sample)

theorem PBlock.endsBy.mono {pb : PBlock K} {e e' : Int} (h : pb.endsBy e) (he : e ≤ e') : pb.endsBy e' := by
  obtain ⟨l, h1, h2⟩ := h; exact ⟨l, h1, by omega⟩

theorem BpcInv.append_done {interp : S → M → Except Err (S × List (PBlock K))} {all : List (PBlock K)}
    {b : Bpc M S K} {S0 : Int} (h : BpcInv interp all b S0) {done : List (PBlock K)}
    (hd : ∀ pb ∈ done, pb.endsBy S0) : BpcInv interp (done ++ all) b S0 := by
  obtain ⟨d, rest, h1, h2, h3, h4⟩ := h
  exact ⟨done ++ d, rest, h1, by rw [h2, List.append_assoc],
    fun pb hp => (List.mem_append.mp hp).elim (hd pb) (h3 pb), h4⟩

/-- After a block that does not end before `e`, the rest of a chain does not touch the samples before `e`. -/
theorem ChainLB.tail_id (upd : K → Nat → ι → V → V) {lb : Int} {pb : PBlock K} {r : List (PBlock K)}
    (hc : ChainLB lb (pb :: r)) {e : Int} (he : pb.last_sample.ltFin e = false) (s : Int) (hs : s < e) (x : ι)
    (o : V) : effAll upd r s x o = o := by
  have h2 := hc.2
  cases hl : pb.last_sample with
  | inf => rw [hl] at h2; rw [show r = [] from h2]; rfl
  | fin l =>
    rw [hl] at h2 he
    have : ¬ l < e := by simpa [Ext.ltFin] using he
    exact effAll_chain_id upd h2.2 s (by omega) x o

/-- The `while` loop of `BlockProcessingChannel.process` on a refilled channel: every row gets the effect of all
pending blocks, and the channel ends up in the state `BpcInv` for the end of the sample block. -/
theorem bpcLoop_spec (interp : S → M → Except Err (S × List (PBlock K)))
    (hy : ∀ st m st' new, interp st m = .ok (st', new) → new.length ≤ 2)
    (upd : K → Nat → ι → V → V) (S0 : Int) (inp : List ι) :
    ∀ (fuel : Nat) (b : Bpc M S K) (rest : List (PBlock K)) (out : List V),
      interpAll interp b.istate b.source = .ok rest →
      (∃ lb, ChainLB lb (b.queue ++ rest)) →
      (b.queue = [] → rest = []) →
      b.queue.length + 2 * b.source.length < fuel →
      ∃ b', bpcLoop interp upd S0 inp fuel b out =
          .ok (b', mapRows (fun j x o => effAll upd (b.queue ++ rest) (S0 + j) x o) inp out) ∧
        BpcInv interp (b.queue ++ rest) b' (S0 + inp.length) := by
  intro fuel
  induction fuel with
  | zero => intro b rest out _ _ _ h; omega
  | succ fuel ih =>
    intro b rest out hint ⟨lb, hch⟩ hq hfuel
    rcases b with ⟨src, ist, queue⟩
    cases queue with
    | nil =>
      cases hq rfl
      refine ⟨⟨src, ist, []⟩, ?_, [], [], hint, rfl, fun _ h => (nomatch h), fun _ _ h => (nomatch h)⟩
      simp only [bpcLoop, List.append_nil, effAll_nil, mapRows_id]
      rfl
    | cons pb q =>
      simp only [bpcLoop, process_eq]
      have hch : ChainLB lb (pb :: (q ++ rest)) := hch
      by_cases h1 : pb.last_sample.ltFin (S0 + inp.length) = true
      · -- the block ends inside this call: refill and go on with the next block
        rw [if_pos h1]
        obtain ⟨l, hl, hlt⟩ : ∃ l, pb.last_sample = .fin l ∧ l < S0 + inp.length := by
          cases hl : pb.last_sample with
          | inf => rw [hl] at h1; cases h1
          | fin l => exact ⟨l, rfl, by simpa [hl, Ext.ltFin] using h1⟩
        have hchain : ChainLB l (q ++ rest) := by
          have := hch.2
          rw [hl] at this
          exact this.2
        obtain ⟨b1, rest1, e1, e2, e3, e4, e5⟩ :=
          refill_spec interp hy none src ist q rest hint (by intro ss h; cases h)
        simp only [e1, bind, Except.bind]
        obtain ⟨b', f1, f2⟩ :=
          ih b1 rest1 (mapRows (fun j x o => pb.eff upd (S0 + j) x o) inp out) e2
            ⟨l, e3 ▸ hchain⟩ e4 (by simp only [List.length_cons] at hfuel; omega)
        refine ⟨b', ?_, ?_⟩
        · rw [f1, mapRows_mapRows, ← e3]; rfl
        · rw [← e3] at f2
          exact f2.append_done (done := [pb]) fun p hp => by
            rw [List.mem_singleton] at hp; subst hp; exact ⟨l, hl, by omega⟩
      · rw [if_neg h1]
        -- the block reaches the end of this call: later blocks do not touch its rows
        have hid : mapRows (fun j x o => pb.eff upd (S0 + j) x o) inp out =
            mapRows (fun j x o => effAll upd (pb :: q ++ rest) (S0 + j) x o) inp out :=
          mapRows_congr _ _ _ _ fun j x o hj => by
            have hj' : j < inp.length := (List.getElem?_eq_some_iff.mp hj).1
            rw [List.cons_append, effAll_cons,
              hch.tail_id upd (Bool.eq_false_iff.mpr h1) (S0 + j) (by omega)]
        rw [hid]
        by_cases h2 : pb.last_sample = .fin (S0 + inp.length)
        · rw [if_pos h2]
          refine ⟨_, rfl, [pb], rest, hint, rfl, fun p hp => ?_, fun hq' p hp => ?_⟩
          · rw [List.mem_singleton] at hp; subst hp; exact ⟨_, h2, Int.le_refl _⟩
          · have := hch.2
            rw [h2] at this
            cases hq'
            exact this.2.first_ge p hp
        · rw [if_neg h2]
          exact ⟨_, rfl, [], rest, hint, rfl, fun _ h => (nomatch h), fun h => (nomatch h)⟩

theorem ChainLB.suffix {lb : Int} : ∀ {l r : List (PBlock K)}, ChainLB lb (l ++ r) → ∃ lb', ChainLB lb' r
  | [], _, h => ⟨lb, h⟩
  | p :: l, r, ⟨_, h2⟩ => by
    cases hl : p.last_sample with
    | inf =>
      rw [hl] at h2; simp only at h2
      have := (List.append_eq_nil_iff.mp h2).2
      subst this; exact ⟨0, trivial⟩
    | fin l' =>
      rw [hl] at h2; simp only at h2
      exact ChainLB.suffix h2.2

theorem bpc_process_spec (interp : S → M → Except Err (S × List (PBlock K)))
    (hy : ∀ st m st' new, interp st m = .ok (st', new) → new.length ≤ 2)
    (upd : K → Nat → ι → V → V) {all : List (PBlock K)} {lb : Int} (hch : ChainLB lb all)
    (b : Bpc M S K) (S0 : Int) (hinv : BpcInv interp all b S0) (inp : List ι) (out : List V) :
    ∃ b', b.process interp upd S0 inp out =
        .ok (b', mapRows (fun j x o => effAll upd all (S0 + j) x o) inp out) ∧
      BpcInv interp all b' (S0 + inp.length) := by
  obtain ⟨done, rest, hint, hall, hdone, hq⟩ := hinv
  obtain ⟨b1, rest1, e1, e2, e3, e4, _⟩ :=
    refill_spec interp hy (some S0) b.source b.istate b.queue rest hint (by
      intro ss hs hq' pb hp; cases hs; exact hq hq' pb hp)
  obtain ⟨b', f1, f2⟩ :=
    bpcLoop_spec interp hy upd S0 inp b1.fuel b1 rest1 out e2 (e3 ▸ ChainLB.suffix (hall ▸ hch)) e4 (by simp [Bpc.fuel])
  rw [← e3] at f1 f2
  refine ⟨b', ?_, hall ▸ f2.append_done fun pb hp => (hdone pb hp).mono (by omega)⟩
  simp only [Bpc.process, e1, bind, Except.bind, f1]
  congr 2
  apply mapRows_congr
  intro j x o _
  -- the blocks that ended before `S0` do not touch this call's rows
  rw [hall, effAll_append upd done,
    effAll_id upd done _ x o fun pb hp => not_covers_of_endsBy (hdone pb hp) (by omega)]

/-- A channel fed block by block: `(input block, output rows to add into)` pairs. -/
def Bpc.run (interp : S → M → Except Err (S × List (PBlock K))) (upd : K → Nat → ι → V → V) :
    Bpc M S K → Int → List (List ι × List V) → Except Err (Bpc M S K × List (List V))
  | b, _, [] => .ok (b, [])
  | b, S0, (inp, out) :: rest =>
    match b.process interp upd S0 inp out with
    | .error e => .error e
    | .ok (b', o) =>
      match Bpc.run interp upd b' (S0 + inp.length) rest with
      | .error e => .error e
      | .ok (b'', os) => .ok (b'', o :: os)

/-- What the calls return, as a function of the absolute sample index only. -/
def runSpec (upd : K → Nat → ι → V → V) (all : List (PBlock K)) : Int → List (List ι × List V) → List (List V)
  | _, [] => []
  | S0, (inp, out) :: rest =>
    mapRows (fun j x o => effAll upd all (S0 + j) x o) inp out :: runSpec upd all (S0 + inp.length) rest

theorem bpc_run_spec (interp : S → M → Except Err (S × List (PBlock K)))
    (hy : ∀ st m st' new, interp st m = .ok (st', new) → new.length ≤ 2)
    (upd : K → Nat → ι → V → V) {all : List (PBlock K)} {lb : Int} (hch : ChainLB lb all) :
    ∀ (ios : List (List ι × List V)) (b : Bpc M S K) (S0 : Int), BpcInv interp all b S0 →
      ∃ b', Bpc.run interp upd b S0 ios = .ok (b', runSpec upd all S0 ios) ∧
        BpcInv interp all b' (S0 + ((ios.map (·.1)).flatten.length : Nat)) := by
  intro ios
  induction ios with
  | nil => intro b S0 h; exact ⟨b, rfl, by simpa using h⟩
  | cons io ios ih =>
    intro b S0 h
    obtain ⟨inp, out⟩ := io
    obtain ⟨b1, e1, h1⟩ := bpc_process_spec interp hy upd hch b S0 h inp out
    obtain ⟨b2, e2, h2⟩ := ih b1 _ h1
    refine ⟨b2, ?_, ?_⟩
    · simp only [Bpc.run, e1, e2, runSpec]
    · simp only [List.map_cons, List.flatten_cons, List.length_append]
      have : S0 + ((inp.length + (List.map (·.1) ios).flatten.length : Nat) : Int) =
          S0 + inp.length + ((List.map (·.1) ios).flatten.length : Nat) := by omega
      rw [this]; exact h2

/-- Initial state of a channel (`set_rendering_items`): nothing pulled yet. -/
theorem bpcInv_init (interp : S → M → Except Err (S × List (PBlock K))) (st : S) (blocks : List M)
    {all : List (PBlock K)} (hall : interpAll interp st blocks = .ok all) (hch : ChainLB 0 all) :
    BpcInv interp all ⟨blocks, st, []⟩ 0 :=
  ⟨[], all, hall, rfl, by simp, fun _ pb hp => hch.first_ge pb hp⟩

theorem runSpec_flatten (upd : K → Nat → ι → V → V) (all : List (PBlock K)) :
    ∀ (ios : List (List ι × List V)) (S0 : Int), (∀ io ∈ ios, io.2.length = io.1.length) →
      (runSpec upd all S0 ios).map List.length = ios.map (·.2.length) ∧
      (runSpec upd all S0 ios).flatten =
        mapRows (fun j x o => effAll upd all (S0 + j) x o) (ios.map (·.1)).flatten (ios.map (·.2)).flatten := by
  intro ios
  induction ios with
  | nil => intro S0 _; exact ⟨rfl, rfl⟩
  | cons io ios ih =>
    intro S0 h
    obtain ⟨inp, out⟩ := io
    obtain ⟨hl, hf⟩ := ih (S0 + inp.length) fun io hio => h io (List.mem_cons_of_mem _ hio)
    refine ⟨by simp only [runSpec, List.map_cons, mapRows_length, hl], ?_⟩
    simp only [runSpec, List.flatten_cons, List.map_cons]
    rw [mapRows_append _ _ _ _ _ (h (inp, out) List.mem_cons_self), hf]
    congr 1
    apply mapRows_congr
    intro j x o _
    rw [Int.natCast_add, Int.add_assoc]

end Earverif.Timeline
