/-
C06: re-ordering the child reference lists of the content part and the complementary-object lists.
-/
import Earverif.Proofs.C06Congr

namespace Earverif.Adm

/-- `a'` is `a` with the reference lists programme→contents, content→objects and
object→sub-objects re-ordered (everything else, including complementary references, unchanged). -/
structure ChildPerm (a a' : Adm) : Prop where
  strip : a'.strip = a.strip
  contents : ∀ p, (a'.prog p).contents.Perm (a.prog p).contents
  objects : ∀ c, (a'.cont c).objects.Perm (a.cont c).objects
  subs : ∀ o, (a'.subs o).Perm (a.subs o)
  comps : ∀ o, (a'.obj o).complementary = (a.obj o).complementary

theorem ChildPerm.rootObjects {a a' : Adm} (h : ChildPerm a a') : rootObjects a' = rootObjects a :=
  rootObjects_congr (nobj_of_strip_eq h.strip) fun o _ => (h.subs o).mem_iff

theorem ChildPerm.specPaths {a a' : Adm} (h : ChildPerm a a') (ign : List Nat) (r : Nat) :
    (specPaths a' ign r).Perm (specPaths a ign r) := by
  unfold Earverif.Adm.specPaths objectPathsFrom
  rw [nobj_of_strip_eq h.strip]
  exact (pathsFrom_perm h.subs _ _).filter _

theorem ChildPerm.specStates {a a' : Adm} (h : ChildPerm a a') (prog : Option Nat) (ign : List Nat) :
    (specStates a' prog ign).Perm (specStates a prog ign) := by
  unfold Earverif.Adm.specStates
  simp only [nprog_of_keys (keys_of_strip_eq h.strip), nil_iff_of_length_eq (nobj_of_strip_eq h.strip)]
  split
  · exact .refl _
  · cases prog with
    | none =>
      rw [h.rootObjects]
      exact perm_flatMap_congr (.refl _) fun r _ => (h.specPaths ign r).map _
    | some p =>
      exact perm_flatMap_congr (h.contents p) fun c _ =>
        perm_flatMap_congr (h.objects c) fun r _ => (h.specPaths ign r).map _

theorem ChildPerm.selectComplementary {a a' : Adm} (h : ChildPerm a a') (sel : List Nat) :
    selectComplementary a' sel = selectComplementary a sel :=
  selectComplementary_congr (nobj_of_strip_eq h.strip) h.comps sel

theorem CompPerm.rootObjects {a a' : Adm} (h : CompPerm a a') : rootObjects a' = rootObjects a :=
  rootObjects_congr (nobj_of_strip_eq h.strip) fun o _ => by rw [h.subs]

theorem CompPerm.specStates {a a' : Adm} (h : CompPerm a a') (prog : Option Nat) {ign ign' : List Nat}
    (hm : ∀ x, x ∈ ign' ↔ x ∈ ign) : specStates a' prog ign' = specStates a prog ign := by
  rw [specStates_congr (nprog_of_keys (keys_of_strip_eq h.strip)) (nobj_of_strip_eq h.strip) h.contents h.objects
    (funext h.subs), specStates_ign_congr a prog hm]

theorem CompPerm.symm {a a' : Adm} (h : CompPerm a a') : CompPerm a' a :=
  ⟨h.strip.symm, fun p => (h.contents p).symm, fun c => (h.objects c).symm, fun o => (h.subs o).symm,
    fun o => (h.comps o).symm⟩

end Earverif.Adm
