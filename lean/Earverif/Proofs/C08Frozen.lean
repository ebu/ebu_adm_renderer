/-
FROZEN copy of the handler tables (`Gen/C08_Handlers.lean` as extracted when the class-level proofs were written).
The `…Rows_eq` obligations in `Proofs/C08Tables.lean` compare the REGENERATED tables with these rows on every run
(the entry is looked up by its key, then compared by `rfl`); the `…Props_eq` theorems show that the concrete parsers of `Model/XmlBlocks.lean` /
`Model/XmlElements.lean` are what `ofRowG` builds from them.  Not regenerated.
-/
import Earverif.Model.XmlLeaf

namespace Earverif.C08Frozen
open Earverif.XmlCodec (Row)

/-- v1/audioProgramme -/
def f_v1_audioProgramme : List Row := [
  ⟨"Attribute", "audioProgrammeID", "id", "id", "StringType", "None", "None", true, false, "", [], "-"⟩,
  ⟨"Attribute", "audioProgrammeName", "audioProgrammeName", "audioProgrammeName", "StringType", "None", "None", true, false, "", [], "-"⟩,
  ⟨"Attribute", "audioProgrammeLanguage", "audioProgrammeLanguage", "audioProgrammeLanguage", "StringType", "None", "None", false, false, "", [], "-"⟩,
  ⟨"Attribute", "start", "start", "start", "TimeTypeV1", "None", "None", false, false, "", [], "-"⟩,
  ⟨"Attribute", "end", "end", "end", "TimeTypeV1", "None", "None", false, false, "", [], "-"⟩,
  ⟨"Attribute", "maxDuckingDepth", "maxDuckingDepth", "maxDuckingDepth", "FloatType", "None", "None", false, false, "", [], "-"⟩,
  ⟨"ListElement", "audioContentIDRef", "audioContentIDRef", "audioContents", "RefType", "-", "-", false, false, "", [], "-"⟩,
  ⟨"CustomElement", "audioProgrammeReferenceScreen", "referenceScreen", "referenceScreen", "-", "-", "-", false, false, "", [], "ElementParser.as_handler.<locals>.handle / ElementParser.as_handler.<locals>.to_xml"⟩,
  ⟨"CustomElement", "loudnessMetadata", "loudnessMetadata", "loudnessMetadata", "-", "-", "-", false, false, "", [], "ElementParser.as_list_handler.<locals>.handle / ElementParser.as_list_handler.<locals>.to_xml"⟩,
  ⟨"CustomElement", "alternativeValueSetIDRef", "-", "-", "-", "-", "-", false, false, "", [], "make_no_element_before_v2.<locals>.handle / make_no_element_before_v2.<locals>.to_xml"⟩
]

/-- v1/audioContent -/
def f_v1_audioContent : List Row := [
  ⟨"Attribute", "audioContentID", "id", "id", "StringType", "None", "None", true, false, "", [], "-"⟩,
  ⟨"Attribute", "audioContentName", "audioContentName", "audioContentName", "StringType", "None", "None", true, false, "", [], "-"⟩,
  ⟨"Attribute", "audioContentLanguage", "audioContentLanguage", "audioContentLanguage", "StringType", "None", "None", false, false, "", [], "-"⟩,
  ⟨"AttrElement", "dialogue", "dialogue", "dialogue", "IntType", "None", "None", false, false, "", [], "-"⟩,
  ⟨"ListElement", "audioObjectIDRef", "audioObjectIDRef", "audioObjects", "RefType", "-", "-", false, false, "", [], "-"⟩,
  ⟨"CustomElement", "loudnessMetadata", "loudnessMetadata", "loudnessMetadata", "-", "-", "-", false, false, "", [], "ElementParser.as_list_handler.<locals>.handle / ElementParser.as_list_handler.<locals>.to_xml"⟩,
  ⟨"CustomElement", "alternativeValueSetIDRef", "-", "-", "-", "-", "-", false, false, "", [], "make_no_element_before_v2.<locals>.handle / make_no_element_before_v2.<locals>.to_xml"⟩
]

/-- v1/audioObject -/
def f_v1_audioObject : List Row := [
  ⟨"Attribute", "audioObjectID", "id", "id", "StringType", "None", "None", true, false, "", [], "-"⟩,
  ⟨"Attribute", "audioObjectName", "audioObjectName", "audioObjectName", "StringType", "None", "None", true, false, "", [], "-"⟩,
  ⟨"Attribute", "start", "start", "start", "TimeTypeV1", "None", "None", false, false, "", [], "-"⟩,
  ⟨"Attribute", "duration", "duration", "duration", "TimeTypeV1", "None", "None", false, false, "", [], "-"⟩,
  ⟨"Attribute", "dialogue", "dialogue", "dialogue", "IntType", "None", "None", false, false, "", [], "-"⟩,
  ⟨"Attribute", "importance", "importance", "importance", "IntType", "None", "None", false, false, "", [], "-"⟩,
  ⟨"Attribute", "interact", "interact", "interact", "BoolType", "None", "None", false, false, "", [], "-"⟩,
  ⟨"Attribute", "disableDucking", "disableDucking", "disableDucking", "BoolType", "None", "None", false, false, "", [], "-"⟩,
  ⟨"ListElement", "audioPackFormatIDRef", "audioPackFormatIDRef", "audioPackFormats", "RefType", "-", "-", false, false, "", [], "-"⟩,
  ⟨"ListElement", "audioObjectIDRef", "audioObjectIDRef", "audioObjects", "RefType", "-", "-", false, false, "", [], "-"⟩,
  ⟨"ListElement", "audioComplementaryObjectIDRef", "audioComplementaryObjectIDRef", "audioComplementaryObjects", "RefType", "-", "-", false, false, "", [], "-"⟩,
  ⟨"ListElement", "audioTrackUIDRef", "audioTrackUIDRef", "audioTrackUIDs", "TrackUIDRefType", "-", "-", false, false, "", [], "-"⟩,
  ⟨"CustomElement", "gain", "-", "-", "-", "-", "-", false, false, "", [], "make_no_element_before_v2.<locals>.handle / make_no_element_before_v2.<locals>.to_xml"⟩,
  ⟨"CustomElement", "mute", "-", "-", "-", "-", "-", false, false, "", [], "make_no_element_before_v2.<locals>.handle / make_no_element_before_v2.<locals>.to_xml"⟩,
  ⟨"CustomElement", "positionOffset", "-", "-", "-", "-", "-", false, false, "", [], "make_no_element_before_v2.<locals>.handle / make_no_element_before_v2.<locals>.to_xml"⟩,
  ⟨"CustomElement", "alternativeValueSet", "-", "-", "-", "-", "-", false, false, "", [], "make_no_element_before_v2.<locals>.handle / make_no_element_before_v2.<locals>.to_xml"⟩,
  ⟨"CustomElement", "audioObjectInteraction", "audioObjectInteraction", "audioObjectInteraction", "-", "-", "-", false, false, "", [], "ElementParser.as_handler.<locals>.handle / ElementParser.as_handler.<locals>.to_xml"⟩
]

/-- v1/audioChannelFormat -/
def f_v1_audioChannelFormat : List Row := [
  ⟨"Attribute", "audioChannelFormatID", "id", "id", "StringType", "None", "None", true, false, "", [], "-"⟩,
  ⟨"Attribute", "audioChannelFormatName", "audioChannelFormatName", "audioChannelFormatName", "StringType", "None", "None", true, false, "", [], "-"⟩,
  ⟨"TypeAttribute", "typeDefinition", "type", "type", "-", "-", "-", true, false, "typeLabel", [("DirectSpeakers", 1), ("Matrix", 2), ("Objects", 3), ("HOA", 4), ("Binaural", 5)], "-"⟩,
  ⟨"CustomElement", "audioBlockFormat", "audioBlockFormats", "audioBlockFormats", "-", "-", "-", true, false, "", [], "MainElementHandler.make_block_format_handler.<locals>.handle / MainElementHandler.make_block_format_handler.<locals>.to_xml"⟩,
  ⟨"CustomElement", "frequency", "-", "-", "-", "-", "-", false, false, "", [], "handle_frequency / frequency_to_xml"⟩
]

/-- v1/audioPackFormat -/
def f_v1_audioPackFormat : List Row := [
  ⟨"Attribute", "audioPackFormatID", "id", "id", "StringType", "None", "None", true, false, "", [], "-"⟩,
  ⟨"Attribute", "audioPackFormatName", "audioPackFormatName", "audioPackFormatName", "StringType", "None", "None", true, false, "", [], "-"⟩,
  ⟨"TypeAttribute", "typeDefinition", "type", "type", "-", "-", "-", true, false, "typeLabel", [("DirectSpeakers", 1), ("Matrix", 2), ("Objects", 3), ("HOA", 4), ("Binaural", 5)], "-"⟩,
  ⟨"Attribute", "importance", "importance", "importance", "IntType", "None", "None", false, false, "", [], "-"⟩,
  ⟨"ListElement", "audioChannelFormatIDRef", "audioChannelFormatIDRef", "audioChannelFormats", "RefType", "-", "-", false, false, "", [], "-"⟩,
  ⟨"ListElement", "audioPackFormatIDRef", "audioPackFormatIDRef", "audioPackFormats", "RefType", "-", "-", false, false, "", [], "-"⟩,
  ⟨"AttrElement", "absoluteDistance", "absoluteDistance", "absoluteDistance", "FloatType", "None", "None", false, false, "", [], "-"⟩,
  ⟨"ListElement", "encodePackFormatIDRef", "encodePackFormatIDRef", "encodePackFormats", "RefType", "-", "-", false, false, "", [], "-"⟩,
  ⟨"ListElement", "decodePackFormatIDRef", "decodePackFormatIDRef", "decodePackFormats", "RefType", "-", "-", false, true, "", [], "-"⟩,
  ⟨"AttrElement", "inputPackFormatIDRef", "inputPackFormatIDRef", "inputPackFormat", "RefType", "None", "None", false, false, "", [], "-"⟩,
  ⟨"AttrElement", "outputPackFormatIDRef", "outputPackFormatIDRef", "outputPackFormat", "RefType", "None", "None", false, false, "", [], "-"⟩,
  ⟨"AttrElement", "normalization", "normalization", "normalization", "StringType", "None", "None", false, false, "", [], "-"⟩,
  ⟨"AttrElement", "nfcRefDist", "nfcRefDist", "nfcRefDist", "FloatType", "None", "None", false, false, "", [], "-"⟩,
  ⟨"AttrElement", "screenRef", "screenRef", "screenRef", "BoolType", "None", "None", false, false, "", [], "-"⟩
]

/-- v1/audioStreamFormat -/
def f_v1_audioStreamFormat : List Row := [
  ⟨"Attribute", "audioStreamFormatID", "id", "id", "StringType", "None", "None", true, false, "", [], "-"⟩,
  ⟨"Attribute", "audioStreamFormatName", "audioStreamFormatName", "audioStreamFormatName", "StringType", "None", "None", true, false, "", [], "-"⟩,
  ⟨"TypeAttribute", "formatDefinition", "format", "format", "-", "-", "-", true, false, "formatLabel", [("PCM", 1)], "-"⟩,
  ⟨"ListElement", "audioTrackFormatIDRef", "audioTrackFormatIDRef", "audioTrackFormats", "RefType", "-", "-", false, false, "", [], "-"⟩,
  ⟨"AttrElement", "audioChannelFormatIDRef", "audioChannelFormatIDRef", "audioChannelFormat", "RefType", "None", "None", false, false, "", [], "-"⟩,
  ⟨"AttrElement", "audioPackFormatIDRef", "audioPackFormatIDRef", "audioPackFormat", "RefType", "None", "None", false, false, "", [], "-"⟩
]

/-- v1/audioTrackFormat -/
def f_v1_audioTrackFormat : List Row := [
  ⟨"Attribute", "audioTrackFormatID", "id", "id", "StringType", "None", "None", true, false, "", [], "-"⟩,
  ⟨"Attribute", "audioTrackFormatName", "audioTrackFormatName", "audioTrackFormatName", "StringType", "None", "None", true, false, "", [], "-"⟩,
  ⟨"TypeAttribute", "formatDefinition", "format", "format", "-", "-", "-", true, false, "formatLabel", [("PCM", 1)], "-"⟩,
  ⟨"AttrElement", "audioStreamFormatIDRef", "audioStreamFormatIDRef", "audioStreamFormat", "RefType", "None", "None", false, false, "", [], "-"⟩
]

/-- v1/audioTrackUID -/
def f_v1_audioTrackUID : List Row := [
  ⟨"Attribute", "UID", "id", "id", "StringType", "None", "None", true, false, "", [], "-"⟩,
  ⟨"Attribute", "sampleRate", "sampleRate", "sampleRate", "IntType", "None", "None", false, false, "", [], "-"⟩,
  ⟨"Attribute", "bitDepth", "bitDepth", "bitDepth", "IntType", "None", "None", false, false, "", [], "-"⟩,
  ⟨"AttrElement", "audioTrackFormatIDRef", "audioTrackFormatIDRef", "audioTrackFormat", "RefType", "None", "None", false, false, "", [], "-"⟩,
  ⟨"CustomElement", "audioChannelFormatIDRef", "-", "-", "-", "-", "-", false, false, "", [], "make_no_element_before_v2.<locals>.handle / make_no_element_before_v2.<locals>.to_xml"⟩,
  ⟨"AttrElement", "audioPackFormatIDRef", "audioPackFormatIDRef", "audioPackFormat", "RefType", "None", "None", false, false, "", [], "-"⟩
]

/-- v1/audioBlockFormat:Objects -/
def f_v1_audioBlockFormat_Objects : List Row := [
  ⟨"Attribute", "audioBlockFormatID", "id", "id", "StringType", "None", "None", true, false, "", [], "-"⟩,
  ⟨"Attribute", "rtime", "rtime", "rtime", "TimeTypeV1", "None", "None", false, false, "", [], "-"⟩,
  ⟨"Attribute", "duration", "duration", "duration", "TimeTypeV1", "None", "None", false, false, "", [], "-"⟩,
  ⟨"GenericElement", "-", "-", "-", "-", "-", "-", false, false, "", [], "handle_objects_position / object_position_to_xml"⟩,
  ⟨"CustomElement", "channelLock", "-", "-", "-", "-", "-", false, false, "", [], "handle_channel_lock / channel_lock_to_xml"⟩,
  ⟨"CustomElement", "jumpPosition", "-", "-", "-", "-", "-", false, false, "", [], "handle_jump_position / jump_position_to_xml"⟩,
  ⟨"CustomElement", "objectDivergence", "-", "-", "-", "-", "-", false, false, "", [], "handle_divergence / divergence_to_xml"⟩,
  ⟨"AttrElement", "width", "width", "width", "FloatType", "0.0", "0.0", false, false, "", [], "-"⟩,
  ⟨"AttrElement", "height", "height", "height", "FloatType", "0.0", "0.0", false, false, "", [], "-"⟩,
  ⟨"AttrElement", "depth", "depth", "depth", "FloatType", "0.0", "0.0", false, false, "", [], "-"⟩,
  ⟨"AttrElement", "diffuse", "diffuse", "diffuse", "FloatType", "0.0", "0.0", false, false, "", [], "-"⟩,
  ⟨"AttrElement", "cartesian", "cartesian", "cartesian", "BoolType", "False", "False", false, false, "", [], "-"⟩,
  ⟨"AttrElement", "screenRef", "screenRef", "screenRef", "BoolType", "False", "False", false, false, "", [], "-"⟩,
  ⟨"CustomElement", "zoneExclusion", "zoneExclusion", "zoneExclusion", "-", "-", "-", false, false, "", [], "ElementParser.as_handler.<locals>.handle / ElementParser.as_handler.<locals>.to_xml"⟩,
  ⟨"CustomElement", "gain", "-", "-", "-", "-", "-", false, false, "", [], "handle_gain_element_v1 / gain_to_xml"⟩,
  ⟨"AttrElement", "importance", "importance", "importance", "IntType", "10", "10", false, false, "", [], "-"⟩
]

/-- v1/audioBlockFormat:DirectSpeakers -/
def f_v1_audioBlockFormat_DirectSpeakers : List Row := [
  ⟨"Attribute", "audioBlockFormatID", "id", "id", "StringType", "None", "None", true, false, "", [], "-"⟩,
  ⟨"Attribute", "rtime", "rtime", "rtime", "TimeTypeV1", "None", "None", false, false, "", [], "-"⟩,
  ⟨"Attribute", "duration", "duration", "duration", "TimeTypeV1", "None", "None", false, false, "", [], "-"⟩,
  ⟨"ListElement", "speakerLabel", "speakerLabel", "speakerLabel", "StringType", "-", "-", false, false, "", [], "-"⟩,
  ⟨"GenericElement", "-", "-", "-", "-", "-", "-", false, false, "", [], "handle_speaker_position / speaker_position_to_xml"⟩,
  ⟨"CustomElement", "gain", "-", "-", "-", "-", "-", false, false, "", [], "make_no_element_before_v2.<locals>.handle / make_no_element_before_v2.<locals>.to_xml"⟩,
  ⟨"CustomElement", "importance", "-", "-", "-", "-", "-", false, false, "", [], "make_no_element_before_v2.<locals>.handle / make_no_element_before_v2.<locals>.to_xml"⟩
]

/-- v1/audioBlockFormat:Binaural -/
def f_v1_audioBlockFormat_Binaural : List Row := [
  ⟨"Attribute", "audioBlockFormatID", "id", "id", "StringType", "None", "None", true, false, "", [], "-"⟩,
  ⟨"Attribute", "rtime", "rtime", "rtime", "TimeTypeV1", "None", "None", false, false, "", [], "-"⟩,
  ⟨"Attribute", "duration", "duration", "duration", "TimeTypeV1", "None", "None", false, false, "", [], "-"⟩,
  ⟨"CustomElement", "gain", "-", "-", "-", "-", "-", false, false, "", [], "make_no_element_before_v2.<locals>.handle / make_no_element_before_v2.<locals>.to_xml"⟩,
  ⟨"CustomElement", "importance", "-", "-", "-", "-", "-", false, false, "", [], "make_no_element_before_v2.<locals>.handle / make_no_element_before_v2.<locals>.to_xml"⟩
]

/-- v1/audioBlockFormat:HOA -/
def f_v1_audioBlockFormat_HOA : List Row := [
  ⟨"Attribute", "audioBlockFormatID", "id", "id", "StringType", "None", "None", true, false, "", [], "-"⟩,
  ⟨"Attribute", "rtime", "rtime", "rtime", "TimeTypeV1", "None", "None", false, false, "", [], "-"⟩,
  ⟨"Attribute", "duration", "duration", "duration", "TimeTypeV1", "None", "None", false, false, "", [], "-"⟩,
  ⟨"AttrElement", "equation", "equation", "equation", "StringType", "None", "None", false, false, "", [], "-"⟩,
  ⟨"AttrElement", "order", "order", "order", "IntType", "None", "None", false, false, "", [], "-"⟩,
  ⟨"AttrElement", "degree", "degree", "degree", "IntType", "None", "None", false, false, "", [], "-"⟩,
  ⟨"AttrElement", "normalization", "normalization", "normalization", "StringType", "None", "None", false, false, "", [], "-"⟩,
  ⟨"AttrElement", "nfcRefDist", "nfcRefDist", "nfcRefDist", "FloatType", "None", "None", false, false, "", [], "-"⟩,
  ⟨"AttrElement", "screenRef", "screenRef", "screenRef", "BoolType", "None", "None", false, false, "", [], "-"⟩,
  ⟨"CustomElement", "gain", "-", "-", "-", "-", "-", false, false, "", [], "make_no_element_before_v2.<locals>.handle / make_no_element_before_v2.<locals>.to_xml"⟩,
  ⟨"CustomElement", "importance", "-", "-", "-", "-", "-", false, false, "", [], "make_no_element_before_v2.<locals>.handle / make_no_element_before_v2.<locals>.to_xml"⟩
]

/-- v1/audioBlockFormat:Matrix -/
def f_v1_audioBlockFormat_Matrix : List Row := [
  ⟨"Attribute", "audioBlockFormatID", "id", "id", "StringType", "None", "None", true, false, "", [], "-"⟩,
  ⟨"Attribute", "rtime", "rtime", "rtime", "TimeTypeV1", "None", "None", false, false, "", [], "-"⟩,
  ⟨"Attribute", "duration", "duration", "duration", "TimeTypeV1", "None", "None", false, false, "", [], "-"⟩,
  ⟨"AttrElement", "outputChannelFormatIDRef", "outputChannelFormatIDRef", "outputChannelFormat", "RefType", "None", "None", false, false, "", [], "-"⟩,
  ⟨"AttrElement", "outputChannelIDRef", "outputChannelFormatIDRef", "outputChannelFormat", "RefType", "None", "None", false, true, "", [], "-"⟩,
  ⟨"CustomElement", "matrix", "-", "-", "-", "-", "-", false, false, "", [], "MainElementHandler.make_block_format_matrix_handler.<locals>.handle_matrix / MainElementHandler.make_block_format_matrix_handler.<locals>.matrix_to_xml"⟩,
  ⟨"CustomElement", "gain", "-", "-", "-", "-", "-", false, false, "", [], "make_no_element_before_v2.<locals>.handle / make_no_element_before_v2.<locals>.to_xml"⟩,
  ⟨"CustomElement", "importance", "-", "-", "-", "-", "-", false, false, "", [], "make_no_element_before_v2.<locals>.handle / make_no_element_before_v2.<locals>.to_xml"⟩
]

/-- v1/loudnessMetadata -/
def f_v1_loudnessMetadata : List Row := [
  ⟨"Attribute", "loudnessMethod", "loudnessMethod", "loudnessMethod", "StringType", "None", "None", false, false, "", [], "-"⟩,
  ⟨"Attribute", "loudnessRecType", "loudnessRecType", "loudnessRecType", "StringType", "None", "None", false, false, "", [], "-"⟩,
  ⟨"Attribute", "loudnessCorrectionType", "loudnessCorrectionType", "loudnessCorrectionType", "StringType", "None", "None", false, false, "", [], "-"⟩,
  ⟨"AttrElement", "integratedLoudness", "integratedLoudness", "integratedLoudness", "FloatType", "None", "None", false, false, "", [], "-"⟩,
  ⟨"AttrElement", "loudnessRange", "loudnessRange", "loudnessRange", "FloatType", "None", "None", false, false, "", [], "-"⟩,
  ⟨"AttrElement", "maxTruePeak", "maxTruePeak", "maxTruePeak", "FloatType", "None", "None", false, false, "", [], "-"⟩,
  ⟨"AttrElement", "maxMomentary", "maxMomentary", "maxMomentary", "FloatType", "None", "None", false, false, "", [], "-"⟩,
  ⟨"AttrElement", "maxShortTerm", "maxShortTerm", "maxShortTerm", "FloatType", "None", "None", false, false, "", [], "-"⟩,
  ⟨"AttrElement", "dialogueLoudness", "dialogueLoudness", "dialogueLoudness", "FloatType", "None", "None", false, false, "", [], "-"⟩
]

/-- v1/audioObjectInteraction -/
def f_v1_audioObjectInteraction : List Row := [
  ⟨"Attribute", "onOffInteract", "onOffInteract", "onOffInteract", "BoolType", "None", "False", true, false, "", [], "-"⟩,
  ⟨"Attribute", "gainInteract", "gainInteract", "gainInteract", "BoolType", "None", "None", false, false, "", [], "-"⟩,
  ⟨"Attribute", "positionInteract", "positionInteract", "positionInteract", "BoolType", "None", "None", false, false, "", [], "-"⟩,
  ⟨"GenericElement", "-", "-", "-", "-", "-", "-", false, false, "", [], "MainElementHandler.make_gainInteractionRange_handler.<locals>.handle_gainInteractionRange / MainElementHandler.make_gainInteractionRange_handler.<locals>.gainInteractionRange_to_xml"⟩,
  ⟨"GenericElement", "-", "-", "-", "-", "-", "-", false, false, "", [], "MainElementHandler.make_positionInteractionRange_handler.<locals>.handle_positionInteractionRange / MainElementHandler.make_positionInteractionRange_handler.<locals>.positionInteractionRange_to_xml"⟩
]

/-- v1/alternativeValueSet -/
def f_v1_alternativeValueSet : List Row := [
  ⟨"Attribute", "alternativeValueSetID", "id", "id", "StringType", "None", "None", true, false, "", [], "-"⟩,
  ⟨"CustomElement", "gain", "-", "-", "-", "-", "-", false, false, "", [], "handle_gain_element_v2 / optional_gain_to_xml"⟩,
  ⟨"AttrElement", "mute", "mute", "mute", "BoolType", "None", "None", false, false, "", [], "-"⟩,
  ⟨"GenericElement", "-", "-", "-", "-", "-", "-", false, false, "", [], "handle_position_offset / position_offset_to_xml"⟩,
  ⟨"CustomElement", "audioObjectInteraction", "audioObjectInteraction", "audioObjectInteraction", "-", "-", "-", false, false, "", [], "ElementParser.as_handler.<locals>.handle / ElementParser.as_handler.<locals>.to_xml"⟩
]

/-- v1/coefficient -/
def f_v1_coefficient : List Row := [
  ⟨"HandleText", "-", "inputChannelFormatIDRef", "inputChannelFormat", "RefType", "-", "-", false, false, "", [], "-"⟩,
  ⟨"GenericElement", "-", "-", "-", "-", "-", "-", false, false, "", [], "handle_gain_attribute_v1 / gain_attribute_to_xml"⟩,
  ⟨"Attribute", "phase", "phase", "phase", "FloatType", "None", "None", false, false, "", [], "-"⟩,
  ⟨"Attribute", "delay", "delay", "delay", "FloatType", "None", "None", false, false, "", [], "-"⟩,
  ⟨"Attribute", "gainVar", "gainVar", "gainVar", "StringType", "None", "None", false, false, "", [], "-"⟩,
  ⟨"Attribute", "phaseVar", "phaseVar", "phaseVar", "StringType", "None", "None", false, false, "", [], "-"⟩,
  ⟨"Attribute", "delayVar", "delayVar", "delayVar", "StringType", "None", "None", false, false, "", [], "-"⟩
]

/-- v2/audioProgramme -/
def f_v2_audioProgramme : List Row := [
  ⟨"Attribute", "audioProgrammeID", "id", "id", "StringType", "None", "None", true, false, "", [], "-"⟩,
  ⟨"Attribute", "audioProgrammeName", "audioProgrammeName", "audioProgrammeName", "StringType", "None", "None", true, false, "", [], "-"⟩,
  ⟨"Attribute", "audioProgrammeLanguage", "audioProgrammeLanguage", "audioProgrammeLanguage", "StringType", "None", "None", false, false, "", [], "-"⟩,
  ⟨"Attribute", "start", "start", "start", "TimeType", "None", "None", false, false, "", [], "-"⟩,
  ⟨"Attribute", "end", "end", "end", "TimeType", "None", "None", false, false, "", [], "-"⟩,
  ⟨"Attribute", "maxDuckingDepth", "maxDuckingDepth", "maxDuckingDepth", "FloatType", "None", "None", false, false, "", [], "-"⟩,
  ⟨"ListElement", "audioContentIDRef", "audioContentIDRef", "audioContents", "RefType", "-", "-", false, false, "", [], "-"⟩,
  ⟨"CustomElement", "audioProgrammeReferenceScreen", "referenceScreen", "referenceScreen", "-", "-", "-", false, false, "", [], "ElementParser.as_handler.<locals>.handle / ElementParser.as_handler.<locals>.to_xml"⟩,
  ⟨"CustomElement", "loudnessMetadata", "loudnessMetadata", "loudnessMetadata", "-", "-", "-", false, false, "", [], "ElementParser.as_list_handler.<locals>.handle / ElementParser.as_list_handler.<locals>.to_xml"⟩,
  ⟨"ListElement", "alternativeValueSetIDRef", "alternativeValueSetIDRef", "alternativeValueSets", "RefType", "-", "-", false, false, "", [], "-"⟩
]

/-- v2/audioContent -/
def f_v2_audioContent : List Row := [
  ⟨"Attribute", "audioContentID", "id", "id", "StringType", "None", "None", true, false, "", [], "-"⟩,
  ⟨"Attribute", "audioContentName", "audioContentName", "audioContentName", "StringType", "None", "None", true, false, "", [], "-"⟩,
  ⟨"Attribute", "audioContentLanguage", "audioContentLanguage", "audioContentLanguage", "StringType", "None", "None", false, false, "", [], "-"⟩,
  ⟨"AttrElement", "dialogue", "dialogue", "dialogue", "IntType", "None", "None", false, false, "", [], "-"⟩,
  ⟨"ListElement", "audioObjectIDRef", "audioObjectIDRef", "audioObjects", "RefType", "-", "-", false, false, "", [], "-"⟩,
  ⟨"CustomElement", "loudnessMetadata", "loudnessMetadata", "loudnessMetadata", "-", "-", "-", false, false, "", [], "ElementParser.as_list_handler.<locals>.handle / ElementParser.as_list_handler.<locals>.to_xml"⟩,
  ⟨"ListElement", "alternativeValueSetIDRef", "alternativeValueSetIDRef", "alternativeValueSets", "RefType", "-", "-", false, false, "", [], "-"⟩
]

/-- v2/audioObject -/
def f_v2_audioObject : List Row := [
  ⟨"Attribute", "audioObjectID", "id", "id", "StringType", "None", "None", true, false, "", [], "-"⟩,
  ⟨"Attribute", "audioObjectName", "audioObjectName", "audioObjectName", "StringType", "None", "None", true, false, "", [], "-"⟩,
  ⟨"Attribute", "start", "start", "start", "TimeType", "None", "None", false, false, "", [], "-"⟩,
  ⟨"Attribute", "duration", "duration", "duration", "TimeType", "None", "None", false, false, "", [], "-"⟩,
  ⟨"Attribute", "dialogue", "dialogue", "dialogue", "IntType", "None", "None", false, false, "", [], "-"⟩,
  ⟨"Attribute", "importance", "importance", "importance", "IntType", "None", "None", false, false, "", [], "-"⟩,
  ⟨"Attribute", "interact", "interact", "interact", "BoolType", "None", "None", false, false, "", [], "-"⟩,
  ⟨"Attribute", "disableDucking", "disableDucking", "disableDucking", "BoolType", "None", "None", false, false, "", [], "-"⟩,
  ⟨"ListElement", "audioPackFormatIDRef", "audioPackFormatIDRef", "audioPackFormats", "RefType", "-", "-", false, false, "", [], "-"⟩,
  ⟨"ListElement", "audioObjectIDRef", "audioObjectIDRef", "audioObjects", "RefType", "-", "-", false, false, "", [], "-"⟩,
  ⟨"ListElement", "audioComplementaryObjectIDRef", "audioComplementaryObjectIDRef", "audioComplementaryObjects", "RefType", "-", "-", false, false, "", [], "-"⟩,
  ⟨"ListElement", "audioTrackUIDRef", "audioTrackUIDRef", "audioTrackUIDs", "TrackUIDRefType", "-", "-", false, false, "", [], "-"⟩,
  ⟨"CustomElement", "gain", "-", "-", "-", "-", "-", false, false, "", [], "handle_gain_element_v2 / gain_to_xml"⟩,
  ⟨"AttrElement", "mute", "mute", "mute", "BoolType", "False", "False", false, false, "", [], "-"⟩,
  ⟨"GenericElement", "-", "-", "-", "-", "-", "-", false, false, "", [], "handle_position_offset / position_offset_to_xml"⟩,
  ⟨"CustomElement", "alternativeValueSet", "alternativeValueSets", "alternativeValueSets", "-", "-", "-", false, false, "", [], "ElementParser.as_list_handler.<locals>.handle / ElementParser.as_list_handler.<locals>.to_xml"⟩,
  ⟨"CustomElement", "audioObjectInteraction", "audioObjectInteraction", "audioObjectInteraction", "-", "-", "-", false, false, "", [], "ElementParser.as_handler.<locals>.handle / ElementParser.as_handler.<locals>.to_xml"⟩
]

/-- v2/audioChannelFormat -/
def f_v2_audioChannelFormat : List Row := [
  ⟨"Attribute", "audioChannelFormatID", "id", "id", "StringType", "None", "None", true, false, "", [], "-"⟩,
  ⟨"Attribute", "audioChannelFormatName", "audioChannelFormatName", "audioChannelFormatName", "StringType", "None", "None", true, false, "", [], "-"⟩,
  ⟨"TypeAttribute", "typeDefinition", "type", "type", "-", "-", "-", true, false, "typeLabel", [("DirectSpeakers", 1), ("Matrix", 2), ("Objects", 3), ("HOA", 4), ("Binaural", 5)], "-"⟩,
  ⟨"CustomElement", "audioBlockFormat", "audioBlockFormats", "audioBlockFormats", "-", "-", "-", true, false, "", [], "MainElementHandler.make_block_format_handler.<locals>.handle / MainElementHandler.make_block_format_handler.<locals>.to_xml"⟩,
  ⟨"CustomElement", "frequency", "-", "-", "-", "-", "-", false, false, "", [], "handle_frequency / frequency_to_xml"⟩
]

/-- v2/audioPackFormat -/
def f_v2_audioPackFormat : List Row := [
  ⟨"Attribute", "audioPackFormatID", "id", "id", "StringType", "None", "None", true, false, "", [], "-"⟩,
  ⟨"Attribute", "audioPackFormatName", "audioPackFormatName", "audioPackFormatName", "StringType", "None", "None", true, false, "", [], "-"⟩,
  ⟨"TypeAttribute", "typeDefinition", "type", "type", "-", "-", "-", true, false, "typeLabel", [("DirectSpeakers", 1), ("Matrix", 2), ("Objects", 3), ("HOA", 4), ("Binaural", 5)], "-"⟩,
  ⟨"Attribute", "importance", "importance", "importance", "IntType", "None", "None", false, false, "", [], "-"⟩,
  ⟨"ListElement", "audioChannelFormatIDRef", "audioChannelFormatIDRef", "audioChannelFormats", "RefType", "-", "-", false, false, "", [], "-"⟩,
  ⟨"ListElement", "audioPackFormatIDRef", "audioPackFormatIDRef", "audioPackFormats", "RefType", "-", "-", false, false, "", [], "-"⟩,
  ⟨"AttrElement", "absoluteDistance", "absoluteDistance", "absoluteDistance", "FloatType", "None", "None", false, false, "", [], "-"⟩,
  ⟨"ListElement", "encodePackFormatIDRef", "encodePackFormatIDRef", "encodePackFormats", "RefType", "-", "-", false, false, "", [], "-"⟩,
  ⟨"ListElement", "decodePackFormatIDRef", "decodePackFormatIDRef", "decodePackFormats", "RefType", "-", "-", false, true, "", [], "-"⟩,
  ⟨"AttrElement", "inputPackFormatIDRef", "inputPackFormatIDRef", "inputPackFormat", "RefType", "None", "None", false, false, "", [], "-"⟩,
  ⟨"AttrElement", "outputPackFormatIDRef", "outputPackFormatIDRef", "outputPackFormat", "RefType", "None", "None", false, false, "", [], "-"⟩,
  ⟨"AttrElement", "normalization", "normalization", "normalization", "StringType", "None", "None", false, false, "", [], "-"⟩,
  ⟨"AttrElement", "nfcRefDist", "nfcRefDist", "nfcRefDist", "FloatType", "None", "None", false, false, "", [], "-"⟩,
  ⟨"AttrElement", "screenRef", "screenRef", "screenRef", "BoolType", "None", "None", false, false, "", [], "-"⟩
]

/-- v2/audioStreamFormat -/
def f_v2_audioStreamFormat : List Row := [
  ⟨"Attribute", "audioStreamFormatID", "id", "id", "StringType", "None", "None", true, false, "", [], "-"⟩,
  ⟨"Attribute", "audioStreamFormatName", "audioStreamFormatName", "audioStreamFormatName", "StringType", "None", "None", true, false, "", [], "-"⟩,
  ⟨"TypeAttribute", "formatDefinition", "format", "format", "-", "-", "-", true, false, "formatLabel", [("PCM", 1)], "-"⟩,
  ⟨"ListElement", "audioTrackFormatIDRef", "audioTrackFormatIDRef", "audioTrackFormats", "RefType", "-", "-", false, false, "", [], "-"⟩,
  ⟨"AttrElement", "audioChannelFormatIDRef", "audioChannelFormatIDRef", "audioChannelFormat", "RefType", "None", "None", false, false, "", [], "-"⟩,
  ⟨"AttrElement", "audioPackFormatIDRef", "audioPackFormatIDRef", "audioPackFormat", "RefType", "None", "None", false, false, "", [], "-"⟩
]

/-- v2/audioTrackFormat -/
def f_v2_audioTrackFormat : List Row := [
  ⟨"Attribute", "audioTrackFormatID", "id", "id", "StringType", "None", "None", true, false, "", [], "-"⟩,
  ⟨"Attribute", "audioTrackFormatName", "audioTrackFormatName", "audioTrackFormatName", "StringType", "None", "None", true, false, "", [], "-"⟩,
  ⟨"TypeAttribute", "formatDefinition", "format", "format", "-", "-", "-", true, false, "formatLabel", [("PCM", 1)], "-"⟩,
  ⟨"AttrElement", "audioStreamFormatIDRef", "audioStreamFormatIDRef", "audioStreamFormat", "RefType", "None", "None", false, false, "", [], "-"⟩
]

/-- v2/audioTrackUID -/
def f_v2_audioTrackUID : List Row := [
  ⟨"Attribute", "UID", "id", "id", "StringType", "None", "None", true, false, "", [], "-"⟩,
  ⟨"Attribute", "sampleRate", "sampleRate", "sampleRate", "IntType", "None", "None", false, false, "", [], "-"⟩,
  ⟨"Attribute", "bitDepth", "bitDepth", "bitDepth", "IntType", "None", "None", false, false, "", [], "-"⟩,
  ⟨"AttrElement", "audioTrackFormatIDRef", "audioTrackFormatIDRef", "audioTrackFormat", "RefType", "None", "None", false, false, "", [], "-"⟩,
  ⟨"AttrElement", "audioChannelFormatIDRef", "audioChannelFormatIDRef", "audioChannelFormat", "RefType", "None", "None", false, false, "", [], "-"⟩,
  ⟨"AttrElement", "audioPackFormatIDRef", "audioPackFormatIDRef", "audioPackFormat", "RefType", "None", "None", false, false, "", [], "-"⟩
]

/-- v2/audioBlockFormat:Objects -/
def f_v2_audioBlockFormat_Objects : List Row := [
  ⟨"Attribute", "audioBlockFormatID", "id", "id", "StringType", "None", "None", true, false, "", [], "-"⟩,
  ⟨"Attribute", "rtime", "rtime", "rtime", "TimeType", "None", "None", false, false, "", [], "-"⟩,
  ⟨"Attribute", "duration", "duration", "duration", "TimeType", "None", "None", false, false, "", [], "-"⟩,
  ⟨"GenericElement", "-", "-", "-", "-", "-", "-", false, false, "", [], "handle_objects_position / object_position_to_xml"⟩,
  ⟨"CustomElement", "channelLock", "-", "-", "-", "-", "-", false, false, "", [], "handle_channel_lock / channel_lock_to_xml"⟩,
  ⟨"CustomElement", "jumpPosition", "-", "-", "-", "-", "-", false, false, "", [], "handle_jump_position / jump_position_to_xml"⟩,
  ⟨"CustomElement", "objectDivergence", "-", "-", "-", "-", "-", false, false, "", [], "handle_divergence / divergence_to_xml"⟩,
  ⟨"AttrElement", "width", "width", "width", "FloatType", "0.0", "0.0", false, false, "", [], "-"⟩,
  ⟨"AttrElement", "height", "height", "height", "FloatType", "0.0", "0.0", false, false, "", [], "-"⟩,
  ⟨"AttrElement", "depth", "depth", "depth", "FloatType", "0.0", "0.0", false, false, "", [], "-"⟩,
  ⟨"AttrElement", "diffuse", "diffuse", "diffuse", "FloatType", "0.0", "0.0", false, false, "", [], "-"⟩,
  ⟨"AttrElement", "cartesian", "cartesian", "cartesian", "BoolType", "False", "False", false, false, "", [], "-"⟩,
  ⟨"AttrElement", "screenRef", "screenRef", "screenRef", "BoolType", "False", "False", false, false, "", [], "-"⟩,
  ⟨"CustomElement", "zoneExclusion", "zoneExclusion", "zoneExclusion", "-", "-", "-", false, false, "", [], "ElementParser.as_handler.<locals>.handle / ElementParser.as_handler.<locals>.to_xml"⟩,
  ⟨"CustomElement", "gain", "-", "-", "-", "-", "-", false, false, "", [], "handle_gain_element_v2 / gain_to_xml"⟩,
  ⟨"AttrElement", "importance", "importance", "importance", "IntType", "10", "10", false, false, "", [], "-"⟩
]

/-- v2/audioBlockFormat:DirectSpeakers -/
def f_v2_audioBlockFormat_DirectSpeakers : List Row := [
  ⟨"Attribute", "audioBlockFormatID", "id", "id", "StringType", "None", "None", true, false, "", [], "-"⟩,
  ⟨"Attribute", "rtime", "rtime", "rtime", "TimeType", "None", "None", false, false, "", [], "-"⟩,
  ⟨"Attribute", "duration", "duration", "duration", "TimeType", "None", "None", false, false, "", [], "-"⟩,
  ⟨"ListElement", "speakerLabel", "speakerLabel", "speakerLabel", "StringType", "-", "-", false, false, "", [], "-"⟩,
  ⟨"GenericElement", "-", "-", "-", "-", "-", "-", false, false, "", [], "handle_speaker_position / speaker_position_to_xml"⟩,
  ⟨"CustomElement", "gain", "-", "-", "-", "-", "-", false, false, "", [], "handle_gain_element_v2 / gain_to_xml"⟩,
  ⟨"AttrElement", "importance", "importance", "importance", "IntType", "10", "10", false, false, "", [], "-"⟩
]

/-- v2/audioBlockFormat:Binaural -/
def f_v2_audioBlockFormat_Binaural : List Row := [
  ⟨"Attribute", "audioBlockFormatID", "id", "id", "StringType", "None", "None", true, false, "", [], "-"⟩,
  ⟨"Attribute", "rtime", "rtime", "rtime", "TimeType", "None", "None", false, false, "", [], "-"⟩,
  ⟨"Attribute", "duration", "duration", "duration", "TimeType", "None", "None", false, false, "", [], "-"⟩,
  ⟨"CustomElement", "gain", "-", "-", "-", "-", "-", false, false, "", [], "handle_gain_element_v2 / gain_to_xml"⟩,
  ⟨"AttrElement", "importance", "importance", "importance", "IntType", "10", "10", false, false, "", [], "-"⟩
]

/-- v2/audioBlockFormat:HOA -/
def f_v2_audioBlockFormat_HOA : List Row := [
  ⟨"Attribute", "audioBlockFormatID", "id", "id", "StringType", "None", "None", true, false, "", [], "-"⟩,
  ⟨"Attribute", "rtime", "rtime", "rtime", "TimeType", "None", "None", false, false, "", [], "-"⟩,
  ⟨"Attribute", "duration", "duration", "duration", "TimeType", "None", "None", false, false, "", [], "-"⟩,
  ⟨"AttrElement", "equation", "equation", "equation", "StringType", "None", "None", false, false, "", [], "-"⟩,
  ⟨"AttrElement", "order", "order", "order", "IntType", "None", "None", false, false, "", [], "-"⟩,
  ⟨"AttrElement", "degree", "degree", "degree", "IntType", "None", "None", false, false, "", [], "-"⟩,
  ⟨"AttrElement", "normalization", "normalization", "normalization", "StringType", "None", "None", false, false, "", [], "-"⟩,
  ⟨"AttrElement", "nfcRefDist", "nfcRefDist", "nfcRefDist", "FloatType", "None", "None", false, false, "", [], "-"⟩,
  ⟨"AttrElement", "screenRef", "screenRef", "screenRef", "BoolType", "None", "None", false, false, "", [], "-"⟩,
  ⟨"CustomElement", "gain", "-", "-", "-", "-", "-", false, false, "", [], "handle_gain_element_v2 / gain_to_xml"⟩,
  ⟨"AttrElement", "importance", "importance", "importance", "IntType", "10", "10", false, false, "", [], "-"⟩
]

/-- v2/audioBlockFormat:Matrix -/
def f_v2_audioBlockFormat_Matrix : List Row := [
  ⟨"Attribute", "audioBlockFormatID", "id", "id", "StringType", "None", "None", true, false, "", [], "-"⟩,
  ⟨"Attribute", "rtime", "rtime", "rtime", "TimeType", "None", "None", false, false, "", [], "-"⟩,
  ⟨"Attribute", "duration", "duration", "duration", "TimeType", "None", "None", false, false, "", [], "-"⟩,
  ⟨"AttrElement", "outputChannelFormatIDRef", "outputChannelFormatIDRef", "outputChannelFormat", "RefType", "None", "None", false, false, "", [], "-"⟩,
  ⟨"AttrElement", "outputChannelIDRef", "outputChannelFormatIDRef", "outputChannelFormat", "RefType", "None", "None", false, true, "", [], "-"⟩,
  ⟨"CustomElement", "matrix", "-", "-", "-", "-", "-", false, false, "", [], "MainElementHandler.make_block_format_matrix_handler.<locals>.handle_matrix / MainElementHandler.make_block_format_matrix_handler.<locals>.matrix_to_xml"⟩,
  ⟨"CustomElement", "gain", "-", "-", "-", "-", "-", false, false, "", [], "handle_gain_element_v2 / gain_to_xml"⟩,
  ⟨"AttrElement", "importance", "importance", "importance", "IntType", "10", "10", false, false, "", [], "-"⟩
]

/-- v2/loudnessMetadata -/
def f_v2_loudnessMetadata : List Row := [
  ⟨"Attribute", "loudnessMethod", "loudnessMethod", "loudnessMethod", "StringType", "None", "None", false, false, "", [], "-"⟩,
  ⟨"Attribute", "loudnessRecType", "loudnessRecType", "loudnessRecType", "StringType", "None", "None", false, false, "", [], "-"⟩,
  ⟨"Attribute", "loudnessCorrectionType", "loudnessCorrectionType", "loudnessCorrectionType", "StringType", "None", "None", false, false, "", [], "-"⟩,
  ⟨"AttrElement", "integratedLoudness", "integratedLoudness", "integratedLoudness", "FloatType", "None", "None", false, false, "", [], "-"⟩,
  ⟨"AttrElement", "loudnessRange", "loudnessRange", "loudnessRange", "FloatType", "None", "None", false, false, "", [], "-"⟩,
  ⟨"AttrElement", "maxTruePeak", "maxTruePeak", "maxTruePeak", "FloatType", "None", "None", false, false, "", [], "-"⟩,
  ⟨"AttrElement", "maxMomentary", "maxMomentary", "maxMomentary", "FloatType", "None", "None", false, false, "", [], "-"⟩,
  ⟨"AttrElement", "maxShortTerm", "maxShortTerm", "maxShortTerm", "FloatType", "None", "None", false, false, "", [], "-"⟩,
  ⟨"AttrElement", "dialogueLoudness", "dialogueLoudness", "dialogueLoudness", "FloatType", "None", "None", false, false, "", [], "-"⟩
]

/-- v2/audioObjectInteraction -/
def f_v2_audioObjectInteraction : List Row := [
  ⟨"Attribute", "onOffInteract", "onOffInteract", "onOffInteract", "BoolType", "None", "False", true, false, "", [], "-"⟩,
  ⟨"Attribute", "gainInteract", "gainInteract", "gainInteract", "BoolType", "None", "None", false, false, "", [], "-"⟩,
  ⟨"Attribute", "positionInteract", "positionInteract", "positionInteract", "BoolType", "None", "None", false, false, "", [], "-"⟩,
  ⟨"GenericElement", "-", "-", "-", "-", "-", "-", false, false, "", [], "MainElementHandler.make_gainInteractionRange_handler.<locals>.handle_gainInteractionRange / MainElementHandler.make_gainInteractionRange_handler.<locals>.gainInteractionRange_to_xml"⟩,
  ⟨"GenericElement", "-", "-", "-", "-", "-", "-", false, false, "", [], "MainElementHandler.make_positionInteractionRange_handler.<locals>.handle_positionInteractionRange / MainElementHandler.make_positionInteractionRange_handler.<locals>.positionInteractionRange_to_xml"⟩
]

/-- v2/alternativeValueSet -/
def f_v2_alternativeValueSet : List Row := [
  ⟨"Attribute", "alternativeValueSetID", "id", "id", "StringType", "None", "None", true, false, "", [], "-"⟩,
  ⟨"CustomElement", "gain", "-", "-", "-", "-", "-", false, false, "", [], "handle_gain_element_v2 / optional_gain_to_xml"⟩,
  ⟨"AttrElement", "mute", "mute", "mute", "BoolType", "None", "None", false, false, "", [], "-"⟩,
  ⟨"GenericElement", "-", "-", "-", "-", "-", "-", false, false, "", [], "handle_position_offset / position_offset_to_xml"⟩,
  ⟨"CustomElement", "audioObjectInteraction", "audioObjectInteraction", "audioObjectInteraction", "-", "-", "-", false, false, "", [], "ElementParser.as_handler.<locals>.handle / ElementParser.as_handler.<locals>.to_xml"⟩
]

/-- v2/coefficient -/
def f_v2_coefficient : List Row := [
  ⟨"HandleText", "-", "inputChannelFormatIDRef", "inputChannelFormat", "RefType", "-", "-", false, false, "", [], "-"⟩,
  ⟨"GenericElement", "-", "-", "-", "-", "-", "-", false, false, "", [], "handle_gain_attribute_v2 / gain_attribute_to_xml"⟩,
  ⟨"Attribute", "phase", "phase", "phase", "FloatType", "None", "None", false, false, "", [], "-"⟩,
  ⟨"Attribute", "delay", "delay", "delay", "FloatType", "None", "None", false, false, "", [], "-"⟩,
  ⟨"Attribute", "gainVar", "gainVar", "gainVar", "StringType", "None", "None", false, false, "", [], "-"⟩,
  ⟨"Attribute", "phaseVar", "phaseVar", "phaseVar", "StringType", "None", "None", false, false, "", [], "-"⟩,
  ⟨"Attribute", "delayVar", "delayVar", "delayVar", "StringType", "None", "None", false, false, "", [], "-"⟩
]

/-- audioProgrammeReferenceScreen -/
def f_audioProgrammeReferenceScreen : List Row := [
  ⟨"Attribute", "aspectRatio", "aspectRatio", "aspectRatio", "FloatType", "None", "<no-class>", true, false, "", [], "-"⟩,
  ⟨"CustomElement", "screenCentrePosition", "centrePosition", "centrePosition", "-", "-", "-", true, false, "", [], "handle_centre_position / centre_position_to_xml"⟩,
  ⟨"CustomElement", "screenWidth", "width", "width", "-", "-", "-", true, false, "", [], "handle_screen_width / screen_width_to_xml"⟩
]

/-- zoneExclusion -/
def f_zoneExclusion : List Row := [
  ⟨"CustomElement", "zone", "-", "-", "-", "-", "-", false, false, "", [], "handle_zone / zones_to_xml"⟩
]

end Earverif.C08Frozen
