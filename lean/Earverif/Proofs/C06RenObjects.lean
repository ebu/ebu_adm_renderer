/-
C06: re-numbering the audioObjects (`ObjRenamed`, `renameObjects`, `itemsOfState_renObj`); also
`selectComplementary_ok_iff`.
-/
import Earverif.Proofs.C06Congr

namespace Earverif.Adm

theorem notIgnored_rename {ρ : Nat → Nat} {n : Nat} {ign ign' : List Nat}
    (hign : ∀ o, o < n → (ρ o ∈ ign' ↔ o ∈ ign)) :
    ∀ p : List Nat, (∀ o ∈ p, o < n) → notIgnored ign' (p.map ρ) = notIgnored ign p
  | [], _ => rfl
  | x :: xs, h => by
    have ih := notIgnored_rename hign xs (fun o ho => h o (List.mem_cons_of_mem _ ho))
    have hx := hign x (h x (List.mem_cons_self ..))
    unfold notIgnored at ih ⊢
    simp only [List.map_cons, List.any_cons, Bool.not_or] at ih ⊢
    rw [ih]
    congr 1
    rw [Bool.eq_iff_iff]
    simp [hx]

def renObj (ρ : Nat → Nat) (o : Obj) : Obj :=
  { o with subObjects := o.subObjects.map ρ, complementary := o.complementary.map ρ }

/-- `a'` is `a` with the audioObjects declared in another order: object `i` of `a` is object
`ρ i` of `a'`, and every reference to an audioObject is remapped through `ρ`. -/
structure ObjRenamed (ρ : Nat → Nat) (a a' : Adm) : Prop where
  fmt : a'.fmt = a.fmt
  programmes : a'.programmes = a.programmes
  contents : a'.contents = a.contents.map fun c => { c with objects := c.objects.map ρ }
  nobj : a'.objects.length = a.objects.length
  obj : ∀ i, i < a.objects.length → a'.obj (ρ i) = renObj ρ (a.obj i)
  perm : ((List.range a.objects.length).map ρ).Perm (List.range a.objects.length)

namespace ObjRenamed
variable {ρ : Nat → Nat} {a a' : Adm}

theorem lt (h : ObjRenamed ρ a a') {i : Nat} (hi : i < a.objects.length) : ρ i < a.objects.length :=
  perm_lt h.perm hi

theorem inj (h : ObjRenamed ρ a a') {i j : Nat} (hi : i < a.objects.length) (hj : j < a.objects.length)
    (hij : ρ i = ρ j) : i = j :=
  perm_inj h.perm hi hj hij

theorem surj (h : ObjRenamed ρ a a') {j : Nat} (hj : j < a.objects.length) :
    ∃ i, i < a.objects.length ∧ ρ i = j := by
  obtain ⟨i, hi, rfl⟩ := List.mem_map.1 (h.perm.mem_iff.2 (List.mem_range.2 hj))
  exact ⟨i, List.mem_range.1 hi, rfl⟩

theorem mem_map_iff (h : ObjRenamed ρ a a') {x : Nat} {l : List Nat} (hx : x < a.objects.length)
    (hl : ∀ y ∈ l, y < a.objects.length) : ρ x ∈ l.map ρ ↔ x ∈ l :=
  perm_mem_map h.perm hx hl

theorem subs (h : ObjRenamed ρ a a') {i : Nat} (hi : i < a.objects.length) :
    a'.subs (ρ i) = (a.subs i).map ρ := by
  unfold Adm.subs; rw [h.obj i hi]; rfl

theorem comps (h : ObjRenamed ρ a a') {i : Nat} (hi : i < a.objects.length) :
    (a'.obj (ρ i)).complementary = (a.obj i).complementary.map ρ := by
  rw [h.obj i hi]; rfl

theorem cont (h : ObjRenamed ρ a a') (c : Nat) :
    a'.cont c = { a.cont c with objects := (a.cont c).objects.map ρ } := by
  unfold Adm.cont
  rw [h.contents]
  exact getD_map_default (fun c : Content => { c with objects := c.objects.map ρ }) a.contents c default

theorem specPaths (h : ObjRenamed ρ a a') (hok : ObjRefsOK a) {ign ign' : List Nat}
    (hign : ∀ o, o < a.objects.length → (ρ o ∈ ign' ↔ o ∈ ign)) {r : Nat} (hr : r < a.objects.length) :
    specPaths a' ign' (ρ r) = (specPaths a ign r).map (List.map ρ) := by
  unfold Earverif.Adm.specPaths objectPathsFrom
  rw [h.nobj, pathsFrom_rename (fun i hi => h.subs hi) (fun i _ => hok.subs i) _ r hr, List.filter_map]
  congr 1
  apply List.filter_congr
  intro p hp
  exact notIgnored_rename hign p
    ((chain_of_mem_pathsFrom _ _ _ hp).all_lt (fun i _ => hok.subs i) hr)

theorem rootObjects (h : ObjRenamed ρ a a') (hok : ObjRefsOK a) :
    (rootObjects a').Perm ((rootObjects a).map ρ) := by
  unfold Earverif.Adm.rootObjects
  rw [h.nobj]
  dsimp only
  refine List.Perm.trans (h.perm.symm.filter _) ?_
  rw [List.filter_map]
  apply List.Perm.of_eq
  congr 1
  apply List.filter_congr
  intro i hi
  have hi := List.mem_range.1 hi
  simp only [Function.comp]
  congr 1
  rw [Bool.eq_iff_iff]
  simp only [List.contains_iff_mem, mem_nonRoot, h.nobj]
  constructor
  · rintro ⟨o', ho', hx⟩
    obtain ⟨o, ho, rfl⟩ := h.surj ho'
    rw [h.subs ho] at hx
    exact ⟨o, ho, (h.mem_map_iff hi (hok.subs o)).1 hx⟩
  · rintro ⟨o, ho, hx⟩
    exact ⟨ρ o, h.lt ho, by rw [h.subs ho]; exact List.mem_map.2 ⟨i, hx, rfl⟩⟩

end ObjRenamed

def renState (ρ : Nat → Nat) (st : State) : State := { st with objPath := st.objPath.map (List.map ρ) }

theorem ObjRenamed.specStates {ρ : Nat → Nat} {a a' : Adm} (h : ObjRenamed ρ a a') (hok : ObjRefsOK a)
    {ign ign' : List Nat} (hign : ∀ o, o < a.objects.length → (ρ o ∈ ign' ↔ o ∈ ign)) (prog : Option Nat) :
    (specStates a' prog ign').Perm ((specStates a prog ign).map (renState ρ)) := by
  unfold Earverif.Adm.specStates
  simp only [h.programmes, nil_iff_of_length_eq h.nobj]
  split
  · exact .refl _
  · cases prog with
    | none =>
      simp only [List.map_flatMap, List.map_map]
      refine List.Perm.trans (List.Perm.flatMap_right _ (h.rootObjects hok)) ?_
      rw [List.flatMap_map]
      apply List.Perm.of_eq
      apply flatMap_congr'
      intro r hr
      have hr : r < a.objects.length := by
        simp only [Earverif.Adm.rootObjects, List.mem_filter, List.mem_range] at hr; exact hr.1
      rw [h.specPaths hok hign hr, List.map_map]
      rfl
    | some p =>
      apply List.Perm.of_eq
      simp only [List.map_flatMap, List.map_map, prog_of_programmes_eq h.programmes, h.cont, List.flatMap_map]
      apply flatMap_congr'
      intro c _
      apply flatMap_congr'
      intro r hr
      rw [h.specPaths hok hign (hok.cont c r hr), List.map_map]
      rfl

/-- an item with its object path renamed. -/
def renItem (ρ : Nat → Nat) (it : Item) : Item := { it with objPath := it.objPath.map (List.map ρ) }

theorem selectComplementary_ok_iff (a : Adm) (sel : List Nat) :
    (∃ ign, selectComplementary a sel = .ok ign) ↔
      (∀ s ∈ sel, s ∈ (compRoots a).flatMap (compGroup a)) ∧
      (∀ r ∈ compRoots a, ((compGroup a r).filter ((compAllSelected a sel).contains ·)).length ≤ 1) :=
  ⟨fun ⟨ign, h⟩ => let ⟨h1, h2, _⟩ := (selectComplementary_eq_ok_iff a sel ign).1 h; ⟨h1, h2⟩,
    fun ⟨h1, h2⟩ => ⟨_, (selectComplementary_eq_ok_iff a sel _).2 ⟨h1, h2, rfl⟩⟩⟩

theorem compRoots_lt (a : Adm) {r : Nat} (hr : r ∈ compRoots a) : r < a.objects.length := by
  simp only [compRoots, List.mem_filter, List.mem_range] at hr; exact hr.1

theorem compGroup_lt {a : Adm} (hok : ObjRefsOK a) {r : Nat} (hr : r < a.objects.length) :
    ∀ x ∈ compGroup a r, x < a.objects.length := by
  intro x hx
  rcases List.mem_cons.1 hx with rfl | hx
  · exact hr
  · exact hok.comps r x hx

namespace ObjRenamed
variable {ρ : Nat → Nat} {a a' : Adm}

theorem compRoots_perm (h : ObjRenamed ρ a a') : (compRoots a').Perm ((compRoots a).map ρ) := by
  unfold compRoots
  rw [h.nobj]
  refine List.Perm.trans (h.perm.symm.filter _) ?_
  rw [List.filter_map]
  apply List.Perm.of_eq
  congr 1
  apply List.filter_congr
  intro i hi
  simp only [Function.comp, h.comps (List.mem_range.1 hi)]
  cases (a.obj i).complementary <;> simp

theorem mem_compRoots (h : ObjRenamed ρ a a') {r' : Nat} :
    r' ∈ compRoots a' ↔ ∃ r ∈ compRoots a, ρ r = r' := by
  rw [h.compRoots_perm.mem_iff, List.mem_map]

theorem compGroup (h : ObjRenamed ρ a a') {r : Nat} (hr : r < a.objects.length) :
    compGroup a' (ρ r) = (compGroup a r).map ρ := by
  unfold Earverif.Adm.compGroup; rw [h.comps hr]; rfl

theorem mem_allComp (h : ObjRenamed ρ a a') (hok : ObjRefsOK a) {x : Nat} (hx : x < a.objects.length) :
    ρ x ∈ (compRoots a').flatMap (Earverif.Adm.compGroup a') ↔ x ∈ (compRoots a).flatMap (Earverif.Adm.compGroup a) := by
  simp only [List.mem_flatMap, h.mem_compRoots]
  constructor
  · rintro ⟨_, ⟨r, hr, rfl⟩, hm⟩
    have hrl := compRoots_lt a hr
    rw [h.compGroup hrl] at hm
    exact ⟨r, hr, (h.mem_map_iff hx (compGroup_lt hok hrl)).1 hm⟩
  · rintro ⟨r, hr, hm⟩
    refine ⟨ρ r, ⟨r, hr, rfl⟩, ?_⟩
    rw [h.compGroup (compRoots_lt a hr)]
    exact List.mem_map.2 ⟨x, hm, rfl⟩

theorem groupHit (h : ObjRenamed ρ a a') (hok : ObjRefsOK a) {sel : List Nat}
    (hsel : ∀ s ∈ sel, s < a.objects.length) {r : Nat} (hr : r < a.objects.length) :
    ((Earverif.Adm.compGroup a' (ρ r)).any fun x => (sel.map ρ).contains x) =
      ((Earverif.Adm.compGroup a r).any fun x => sel.contains x) := by
  rw [h.compGroup hr, List.any_map, Bool.eq_iff_iff]
  simp only [List.any_eq_true, Function.comp, List.contains_iff_mem]
  constructor
  · rintro ⟨x, hx, hm⟩; exact ⟨x, hx, (h.mem_map_iff (compGroup_lt hok hr x hx) hsel).1 hm⟩
  · rintro ⟨x, hx, hm⟩; exact ⟨x, hx, List.mem_map.2 ⟨x, hm, rfl⟩⟩

theorem mem_allSelected (h : ObjRenamed ρ a a') (hok : ObjRefsOK a) {sel : List Nat}
    (hsel : ∀ s ∈ sel, s < a.objects.length) {x : Nat} (hx : x < a.objects.length) :
    ρ x ∈ compAllSelected a' (sel.map ρ) ↔ x ∈ compAllSelected a sel := by
  unfold compAllSelected
  simp only [List.mem_append, List.mem_filter, h.mem_compRoots]
  constructor
  · rintro (hm | ⟨⟨r, hr, hrx⟩, hn⟩)
    · exact Or.inl ((h.mem_map_iff hx hsel).1 hm)
    · have hrl := compRoots_lt a hr
      have := h.inj hrl hx hrx
      subst this
      rw [h.groupHit hok hsel hrl] at hn
      exact Or.inr ⟨hr, hn⟩
  · rintro (hm | ⟨hr, hn⟩)
    · exact Or.inl (List.mem_map.2 ⟨x, hm, rfl⟩)
    · refine Or.inr ⟨⟨x, hr, rfl⟩, ?_⟩
      rw [h.groupHit hok hsel hx]; exact hn

theorem selectComplementary (h : ObjRenamed ρ a a') (hok : ObjRefsOK a) {sel ign : List Nat}
    (hsel : ∀ s ∈ sel, s < a.objects.length) (hs : Earverif.Adm.selectComplementary a sel = .ok ign) :
    ∃ ign', Earverif.Adm.selectComplementary a' (sel.map ρ) = .ok ign' ∧
      ∀ o, o < a.objects.length → (ρ o ∈ ign' ↔ o ∈ ign) := by
  obtain ⟨h1, h2⟩ := (selectComplementary_ok_iff a sel).1 ⟨ign, hs⟩
  have hex : ∃ ign', Earverif.Adm.selectComplementary a' (sel.map ρ) = .ok ign' := by
    rw [selectComplementary_ok_iff]
    constructor
    · intro s' hs'
      obtain ⟨s, hs, rfl⟩ := List.mem_map.1 hs'
      exact (h.mem_allComp hok (hsel s hs)).2 (h1 s hs)
    · intro r' hr'
      obtain ⟨r, hr, rfl⟩ := h.mem_compRoots.1 hr'
      have hrl := compRoots_lt a hr
      rw [h.compGroup hrl, List.filter_map, List.length_map]
      have : (Earverif.Adm.compGroup a r).filter ((fun x => (compAllSelected a' (sel.map ρ)).contains x) ∘ ρ) =
          (Earverif.Adm.compGroup a r).filter ((compAllSelected a sel).contains ·) := by
        apply List.filter_congr
        intro x hx
        rw [Bool.eq_iff_iff]
        simp only [Function.comp, List.contains_iff_mem]
        exact h.mem_allSelected hok hsel (compGroup_lt hok hrl x hx)
      rw [this]
      exact h2 r hr
  obtain ⟨ign', hs'⟩ := hex
  refine ⟨ign', hs', fun o ho => ?_⟩
  rw [mem_ignored_iff hs', mem_ignored_iff hs]
  constructor
  · rintro ⟨r', hr', hm, hn⟩
    obtain ⟨r, hr, rfl⟩ := h.mem_compRoots.1 hr'
    have hrl := compRoots_lt a hr
    rw [h.compGroup hrl] at hm
    exact ⟨r, hr, (h.mem_map_iff ho (compGroup_lt hok hrl)).1 hm,
      fun hc => hn ((h.mem_allSelected hok hsel ho).2 hc)⟩
  · rintro ⟨r, hr, hm, hn⟩
    refine ⟨ρ r, h.mem_compRoots.2 ⟨r, hr, rfl⟩, ?_, fun hc => hn ((h.mem_allSelected hok hsel ho).1 hc)⟩
    rw [h.compGroup (compRoots_lt a hr)]
    exact List.mem_map.2 ⟨o, hm, rfl⟩

end ObjRenamed

theorem specStates_path_lt {a : Adm} (hok : ObjRefsOK a) {prog : Option Nat} {ign : List Nat} {st : State}
    (h : st ∈ specStates a prog ign) {p : List Nat} (hp : st.objPath = some p) :
    p ≠ [] ∧ ∀ o ∈ p, o < a.objects.length := by
  rcases mem_specStates.1 h with ⟨_, rfl⟩ | ⟨_, cr, hcr, q, hq, rfl⟩
  · cases hp
  · cases hp
    have hr : cr.2 < a.objects.length := by
      cases prog with
      | none =>
        obtain ⟨r, hr, rfl⟩ := List.mem_map.1 hcr
        exact ((mem_rootObjects a r).1 hr).1
      | some pr =>
        simp only [stateRoots, List.mem_flatMap, List.mem_map] at hcr
        obtain ⟨c, _, r, hr, rfl⟩ := hcr
        exact hok.cont c r hr
    have hc := chain_of_mem_pathsFrom _ _ _ (List.mem_filter.1 hq).1
    exact ⟨hc.ne_nil, hc.all_lt (fun i _ => hok.subs i) hr⟩

/-- the items of a state whose object path is renamed, in a document whose objects on the path are the renamed
objects with their references renamed in any way (`renObj` leaves everything the items read as it is; hence a second
map `σ`, which the users take as `ρ` or `id`), are the renamed items. -/
theorem itemsOfState_renObj {a a' : Adm} {ρ σ : Nat → Nat} {n : Nat} (hfmt : a'.fmt = a.fmt)
    (hprog : ∀ p, a'.prog p = a.prog p) (hcont : ∀ c, (a'.cont c).avs = (a.cont c).avs)
    (hobj' : ∀ i, i < n → a'.obj (ρ i) = renObj σ (a.obj i)) (st : State)
    (hpath : ∀ p, st.objPath = some p → p ≠ [] ∧ ∀ o ∈ p, o < n) :
    itemsOfState a' (renState ρ st) = (itemsOfState a st).map (List.map (renItem ρ)) := by
  have hobj : ∀ p, st.objPath = some p → (∀ o ∈ p, a'.obj (ρ o) = renObj σ (a.obj o)) ∧
      a'.obj ((p.map ρ).getLastD 0) = renObj σ (a.obj (p.getLastD 0)) := by
    intro p hp
    obtain ⟨hne, hlt⟩ := hpath p hp
    obtain ⟨hl1, hl2⟩ := getLastD_map_ne_nil (ρ := ρ) hne
    exact ⟨fun o ho => hobj' o (hlt o ho), by rw [hl1]; exact hobj' _ (hlt _ hl2)⟩
  have hleaf : (renState ρ st).leaf a' = (st.leaf a).map (renObj σ) := by
    unfold State.leaf renState
    cases hp : st.objPath with
    | none => rfl
    | some p => simp only [Option.map_some, (hobj p hp).2]
  refine itemsOfState_congr (fun it hit => by subst hit; rfl) hfmt
    (extraOf_congr hfmt (by simp only [renState, hprog]) (by rw [hleaf, Option.map_map]; rfl)
      (by simp only [avsRefs, renState, hprog, hcont]))
    (getImportance_congr hfmt ?_) (fun wps => ?_)
  · cases hp : st.objPath with
    | none => simp only [renState, hp, Option.map_none]
    | some p =>
      simp only [renState, hp, Option.map_some, List.map_map]
      exact congrArg some (List.map_congr_left fun o ho => by simp only [Function.comp, (hobj p hp).1 o ho]; rfl)
  · unfold allocProblem
    cases hp : st.objPath with
    | none => simp only [renState, hp, Option.map_none, hfmt]
    | some p =>
      simp only [renState, hp, Option.map_some, (hobj p hp).2, hfmt]
      rfl

theorem renObj_id (o : Obj) : renObj id o = o := by
  cases o
  simp [renObj]

theorem itemsOfState_rename {b b' : Adm} {ρ : Nat → Nat} {n : Nat} (hfmt : b'.fmt = b.fmt)
    (hprog : ∀ p, b'.prog p = b.prog p) (hcont : ∀ c, b'.cont c = b.cont c)
    (hobj : ∀ i, i < n → b'.obj (ρ i) = b.obj i) (st : State) {p : List Nat} (hp : st.objPath = some p)
    (hne : p ≠ []) (hlt : ∀ o ∈ p, o < n) :
    itemsOfState b' (renState ρ st) = (itemsOfState b st).map (List.map (renItem ρ)) :=
  itemsOfState_renObj (σ := id) hfmt hprog (fun c => by rw [hcont]) (fun i hi => by rw [hobj i hi, renObj_id]) st
    fun q hq => by rw [hp] at hq; cases hq; exact ⟨hne, hlt⟩

theorem ObjRenamed.itemsOfState {ρ : Nat → Nat} {a a' : Adm} (h : ObjRenamed ρ a a') (hok : ObjRefsOK a)
    {prog : Option Nat} {ign : List Nat} {st : State} (hst : st ∈ Earverif.Adm.specStates a prog ign) :
    Earverif.Adm.itemsOfState a' (renState ρ st) = (Earverif.Adm.itemsOfState a st).map (List.map (renItem ρ)) :=
  itemsOfState_renObj h.fmt (prog_of_programmes_eq h.programmes) (fun c => by rw [h.cont]) h.obj st
    fun _ hp => specStates_path_lt hok hst hp

/-- the document with its audioObjects re-declared in the order given by `ρ` (`ρinv` its inverse
on the object indices) and every reference to an audioObject remapped. -/
def renameObjects (ρ ρinv : Nat → Nat) (a : Adm) : Adm :=
  { a with
    contents := a.contents.map fun c => { c with objects := c.objects.map ρ },
    objects := (List.range a.objects.length).map fun j => renObj ρ (a.obj (ρinv j)) }

theorem renameObjects_renamed {ρ ρinv : Nat → Nat} {a : Adm}
    (hperm : ((List.range a.objects.length).map ρ).Perm (List.range a.objects.length))
    (hinv : ∀ i, i < a.objects.length → ρinv (ρ i) = i) : ObjRenamed ρ a (renameObjects ρ ρinv a) := by
  refine ⟨rfl, rfl, rfl, by simp [renameObjects], fun i hi => ?_, hperm⟩
  unfold Adm.obj renameObjects
  simp only
  rw [getD_map_range, if_pos (perm_lt hperm hi), hinv i hi]
  rfl

end Earverif.Adm
