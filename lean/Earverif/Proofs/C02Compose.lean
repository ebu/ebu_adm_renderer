/-
Composition plumbing for `Renderer.render/get_tail`: a session factors into three independent
sub-renderer runs (Objects, DirectSpeakers, HOA — each threads only its own state) and one run of the
`BlockAligner` over their per-call outputs.
-/
import Earverif.Proofs.C02Laws
import Earverif.Proofs.C02Trace
namespace Earverif.Renderer
open Earverif.Stream Earverif.Timeline

variable {V : Type} [RMod V]

/-- One round of `Renderer.render` seen from the aligner: three `add`s (the first at offset `-D`), one `get`. -/
def alignRound (D : Nat) (a : Aligner V) (start : Int) (o1 o2 o3 : List V) :
    Except AlignErr (List V × Aligner V) :=
  match a.add (start - D) o1 with
  | .error e => .error e
  | .ok a1 =>
    match a1.add start o2 with
    | .error e => .error e
    | .ok a2 =>
      match a2.add start o3 with
      | .error e => .error e
      | .ok a3 => a3.get

/-- Successive rounds; `start` advances by the length `n` of the round's input block. -/
def alignRun (D : Nat) : Aligner V → Int → List (Nat × List V × List V × List V) →
    Except AlignErr (List (List V) × Aligner V)
  | a, _, [] => .ok ([], a)
  | a, start, (n, o1, o2, o3) :: rest =>
    match alignRound D a start o1 o2 o3 with
    | .error e => .error e
    | .ok (ret, a') =>
      match alignRun D a' (start + n) rest with
      | .error e => .error e
      | .ok (rets, a'') => .ok (ret :: rets, a'')

/-- A sub-renderer fed block by block (`start_sample` advances by the block length). -/
def subRun {σ : Type} (r : σ → Int → List (List Rat) → Except Err (σ × List V)) :
    σ → Int → List (List (List Rat)) → Except Err (σ × List (List V))
  | st, _, [] => .ok (st, [])
  | st, S0, b :: bs =>
    match r st S0 b with
    | .error e => .error e
    | .ok (st', o) =>
      match subRun r st' (S0 + b.length) bs with
      | .error e => .error e
      | .ok (st'', os) => .ok (st'', o :: os)

/-- The rounds the aligner sees: per `render` call the block length and the three renderers' outputs. -/
def rounds : List (List (List Rat)) → List (List V) → List (List V) → List (List V) →
    List (Nat × List V × List V × List V)
  | b :: bs, o1 :: o1s, o2 :: o2s, o3 :: o3s => (b.length, o1, o2, o3) :: rounds bs o1s o2s o3s
  | _, _, _, _ => []

omit [RMod V] in
theorem subRun_cons_ok {σ : Type} {r : σ → Int → List (List Rat) → Except Err (σ × List V)} {st st'' : σ} {S0 : Int}
    {b : List (List Rat)} {bs : List (List (List Rat))} {os : List (List V)}
    (h : subRun r st S0 (b :: bs) = .ok (st'', os)) :
    ∃ st' o os', r st S0 b = .ok (st', o) ∧ subRun r st' (S0 + b.length) bs = .ok (st'', os') ∧ os = o :: os' := by
  simp only [subRun] at h
  rcases h1 : r st S0 b with e | ⟨st1, o⟩
  · rw [h1] at h; cases h
  · rw [h1] at h; simp only at h
    rcases h2 : subRun r st1 (S0 + b.length) bs with e | ⟨st2, os'⟩
    · rw [h2] at h; cases h
    · rw [h2] at h; cases h
      exact ⟨st1, o, os', rfl, h2, rfl⟩

theorem alignRun_cons_ok {D : Nat} {a al' : Aligner V} {start : Int} {n : Nat} {o1 o2 o3 : List V}
    {rest : List (Nat × List V × List V × List V)} {outs : List (List V)}
    (h : alignRun D a start ((n, o1, o2, o3) :: rest) = .ok (outs, al')) :
    ∃ ret a1 rets, alignRound D a start o1 o2 o3 = .ok (ret, a1) ∧ alignRun D a1 (start + n) rest = .ok (rets, al') ∧
      outs = ret :: rets := by
  simp only [alignRun] at h
  rcases h1 : alignRound D a start o1 o2 o3 with e | ⟨ret, a1⟩
  · rw [h1] at h; cases h
  · rw [h1] at h; simp only at h
    rcases h2 : alignRun D a1 (start + n) rest with e | ⟨rets, a2⟩
    · rw [h2] at h; cases h
    · rw [h2] at h; cases h
      exact ⟨ret, a1, rets, rfl, h2, rfl⟩

theorem render_of_parts (c : Cfg V) (st : RState V) (b : List (List Rat)) {obj1 : ObjState V}
    {ds1 : List (Nat × DsBpc V)} {hoa1 : List (List Nat × HoaBpc V)} {o1 o2 o3 ret : List V} {al1 : Aligner V}
    (hr1 : ObjState.render c st.obj st.start_sample b = .ok (obj1, o1))
    (hr2 : dsRender c st.ds st.start_sample b = .ok (ds1, o2))
    (hr3 : hoaRender c st.hoa st.start_sample b = .ok (hoa1, o3))
    (ha : alignRound c.overall_delay st.aligner st.start_sample o1 o2 o3 = .ok (ret, al1)) :
    RState.render c st b = .ok (⟨al1, obj1, ds1, hoa1, st.start_sample + b.length⟩, ret) := by
  unfold alignRound at ha
  rcases ha1 : st.aligner.add (st.start_sample - c.overall_delay) o1 with e | a1
  · rw [ha1] at ha; cases ha
  · rw [ha1] at ha; simp only at ha
    rcases ha2 : a1.add st.start_sample o2 with e | a2
    · rw [ha2] at ha; cases ha
    · rw [ha2] at ha; simp only at ha
      rcases ha3 : a2.add st.start_sample o3 with e | a3
      · rw [ha3] at ha; cases ha
      · rw [ha3] at ha; simp only at ha
        simp only [RState.render, hr1, hr2, hr3, ha1, ha2, ha3, ha, liftA, bind, Except.bind]
        rfl

theorem run_factor (c : Cfg V) : ∀ (parts : List (List (List Rat))) (st : RState V)
    (obj' : ObjState V) (ds' : List (Nat × DsBpc V)) (hoa' : List (List Nat × HoaBpc V))
    (o1s o2s o3s outs : List (List V)) (al' : Aligner V),
    subRun (fun s S0 b => ObjState.render c s S0 b) st.obj st.start_sample parts = .ok (obj', o1s) →
    subRun (dsRender c) st.ds st.start_sample parts = .ok (ds', o2s) →
    subRun (hoaRender c) st.hoa st.start_sample parts = .ok (hoa', o3s) →
    alignRun c.overall_delay st.aligner st.start_sample (rounds parts o1s o2s o3s) = .ok (outs, al') →
    RState.run c st parts =
      .ok (⟨al', obj', ds', hoa', st.start_sample + ((parts.map List.length).sum : Nat)⟩, outs) := by
  intro parts
  induction parts with
  | nil =>
    intro st obj' ds' hoa' o1s o2s o3s outs al' h1 h2 h3 h4
    simp only [subRun] at h1 h2 h3
    cases h1; cases h2; cases h3
    simp only [rounds, alignRun] at h4
    cases h4
    simp [RState.run, pure, Except.pure]
  | cons b bs ih =>
    intro st obj' ds' hoa' o1s o2s o3s outs al' h1 h2 h3 h4
    obtain ⟨obj1, o1, o1t, hr1, hs1, rfl⟩ := subRun_cons_ok h1
    obtain ⟨ds1, o2, o2t, hr2, hs2, rfl⟩ := subRun_cons_ok h2
    obtain ⟨hoa1, o3, o3t, hr3, hs3, rfl⟩ := subRun_cons_ok h3
    obtain ⟨ret, al1, rets, ha, har, rfl⟩ := alignRun_cons_ok h4
    have := ih ⟨al1, obj1, ds1, hoa1, st.start_sample + b.length⟩ _ _ _ _ _ _ _ _ hs1 hs2 hs3 har
    simp only [RState.run, render_of_parts c st b hr1 hr2 hr3 ha, bind, Except.bind, this, pure, Except.pure,
      List.map_cons, List.sum_cons]
    congr 3
    simp only [Nat.cast_add]; omega

/-- The tail block `get_tail` feeds: `overall_delay` frames of zeros. -/
def tailBlock (c : Cfg V) : List (List Rat) := List.replicate c.overall_delay (List.replicate c.n_in 0)

set_option smartUnfolding false in
theorem renderAll_eq_run (c : Cfg V) (objs : List (ObjItem V)) (dss : List (DsItem V)) (hoas : List (HoaItem V))
    (parts : List (List (List Rat))) :
    renderAll c objs dss hoas parts =
      match RState.run c (RState.init c objs dss hoas) (parts ++ [tailBlock c]) with
      | .error e => .error e
      | .ok (_, os) => .ok os.flatten :=
  sessionG_eq_runG (RState.render c) _ _ parts

end Earverif.Renderer
