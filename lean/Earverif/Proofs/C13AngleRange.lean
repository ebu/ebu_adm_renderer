/-
C13 — `geom.inside_angle_range` in exact arithmetic: what the four `while` loops compute.
-/
import Earverif.Proofs.C13ZoneSpec
import Earverif.Proofs.Turns
import Mathlib.Tactic.Linarith
import Mathlib.Tactic.Ring
import Mathlib.Data.Rat.Cast.Order

namespace Earverif.C13
open Earverif.Zone Earverif.Zone.Scalar

/-- C13's loop answers in `Option`, so it is not of the shape `Turns.loop_spec` takes; this is its producer of
`Turns.Ran`. -/
theorem whileLoop_shift (cond : Rat → Bool) (step : Rat → Rat) (c : Rat) (hstep : ∀ e, step e = e + c)
    (fuel : Nat) (a b : Rat) (h : whileLoop cond step fuel a = some b) :
    cond b = false ∧ Turns.Ran (cond · = true) c a b := by
  obtain ⟨hc, k, _, hb, hj⟩ := whileLoop_spec cond step fuel a b h
  have hit : ∀ (j : Nat) (x : Rat), Nat.iterate step j x = x + j * c := by
    intro j
    induction j with
    | zero => intro x; rw [Nat.cast_zero, zero_mul, add_zero]; rfl
    | succ j ih => intro x; rw [Nat.iterate, ih, hstep]; push_cast; ring
  refine ⟨hc, k, by rw [hb, hit], fun h0 => ?_, fun hk => ?_⟩
  · cases k with
    | zero => rfl
    | succ k => exact absurd (hj 0 (Nat.succ_pos k)) h0
  · obtain ⟨k', rfl⟩ := Nat.exists_eq_succ_of_ne_zero hk
    have := hj k' (Nat.lt_succ_self k')
    rw [hit] at this
    rw [hb, hit, ← this]
    congr 1; push_cast; ring

/-- **`inside_angle_range(x, start, end, tol)` in exact arithmetic.** Whenever the model answers
(no loop ran out of fuel): the end of the range is moved by whole turns to `e2 = end + 360·ke`
with `start ≤ e2 ≤ start + 360` (`ke = 0` when `end` already lies there: `end = start` is a single
direction, `end = start + 360` the whole circle), and the answer is `true` exactly when some
representative `x + 360·k` of the angle lies in `[start − tol, e2 + tol]` — wrap-around ranges
(`min > max`), ranges written past ±180 and angles given a whole turn off are all covered. -/
theorem insideAngleRange_spec (fuel : Nat) (x start end_ tol : Rat) (b : Bool)
    (h : insideAngleRange fuel x start end_ tol = some b) :
    ∃ ke : Int, start ≤ end_ + 360 * (ke : Rat) ∧ end_ + 360 * (ke : Rat) ≤ start + 360 ∧
      (start ≤ end_ → end_ ≤ start + 360 → ke = 0) ∧
      (b = true ↔ ∃ k : Int, start - tol ≤ x + 360 * (k : Rat) ∧ x + 360 * (k : Rat) ≤ end_ + 360 * (ke : Rat) + tol) := by
  unfold insideAngleRange at h
  simp only [Option.bind_eq_some_iff, Option.some.injEq] at h
  obtain ⟨e1, h1, e2, h2, x1, h3, x2, h4, hb⟩ := h
  have hsub : ∀ e : Rat, Scalar.sub e (Scalar.ofNat 360) = e + (-360) := fun e => by
    rw [rat_sub, rat_ofNat, sub_eq_add_neg]; rfl
  have hadd : ∀ e : Rat, Scalar.add e (Scalar.ofNat 360) = e + 360 := fun e => rfl
  obtain ⟨c1, r1⟩ := whileLoop_shift _ _ _ hsub fuel end_ e1 h1
  obtain ⟨c2, r2⟩ := whileLoop_shift _ _ _ hadd fuel e1 e2 h2
  obtain ⟨c3, r3⟩ := whileLoop_shift _ _ _ hsub fuel x x1 h3
  obtain ⟨c4, r4⟩ := whileLoop_shift _ _ _ hadd fuel x1 x2 h4
  simp only [hsub, rat_lt, rat_le, rat_sub, decide_eq_false_iff_not, decide_eq_true_eq] at c1 c2 c3 c4 r1 r2 r3 r4
  -- `e2` is `end` in the window `[start, start + 360]`, `x2` is `x` in `[start - tol, start - tol + 360)`
  obtain ⟨⟨ke, hE⟩, elo, ehi, eid⟩ := Turns.window (B := (· ≤ start + 360)) (fun z hz => by linarith)
    (fun z hz => hz.le) r1 c1 r2 c2
  obtain ⟨hX, xlo, xhi, -⟩ := Turns.window (B := (· < start - tol + 360)) (fun z hz => by linarith)
    (fun z hz => hz) r3 c3 r4 c4
  refine ⟨ke, hE ▸ elo, hE ▸ ehi, fun hs he => ?_, ?_⟩
  · have := eid (by linarith) hs
    rw [hE] at this
    have : (ke : Rat) = 0 := by linarith
    exact_mod_cast this
  · rw [← hE, ← hb, rat_le, rat_add, decide_eq_true_eq]
    exact Turns.rep_le_iff hX xlo xhi

/-- **Polar zone test, exact arithmetic** (tolerance `1e-6`, wrap-around, poles): the loudspeaker's
nominal elevation is inside `(minEl − 1e-6, maxEl + 1e-6)` and — unless it sits at a pole
(`|el| > 90 − 1e-6`, which matches any azimuth range) — some representative of its nominal azimuth
lies in `[minAz − 1e-6, maxAz' + 1e-6]`, `maxAz'` being `maxAz` moved by whole turns into
`[minAz, minAz + 360]`. -/
theorem zoneMatch_polar_spec (fuel : Nat) (minAz maxAz minEl maxEl : Rat) (s : Spk Rat) (b : Bool)
    (h : zoneMatch fuel (.polar minAz maxAz minEl maxEl) s = some b) :
    ∃ ke : Int, minAz ≤ maxAz + 360 * (ke : Rat) ∧ maxAz + 360 * (ke : Rat) ≤ minAz + 360 ∧
      (minAz ≤ maxAz → maxAz ≤ minAz + 360 → ke = 0) ∧
      (b = true ↔ (minEl - Scalar.eps6 < s.el ∧ s.el < maxEl + Scalar.eps6 ∧
        (90 - Scalar.eps6 < Scalar.abs s.el ∨
          ∃ k : Int, minAz - Scalar.eps6 ≤ s.az + 360 * (k : Rat) ∧
            s.az + 360 * (k : Rat) ≤ maxAz + 360 * (ke : Rat) + Scalar.eps6))) := by
  simp only [zoneMatch, Option.bind_eq_some_iff, Option.some.injEq] at h
  obtain ⟨inside, hin, hb⟩ := h
  obtain ⟨ke, h1, h2, h3, h4⟩ := insideAngleRange_spec fuel s.az minAz maxAz Scalar.eps6 inside hin
  refine ⟨ke, h1, h2, h3, ?_⟩
  rw [← hb]
  simp only [rat_lt, rat_sub, rat_add, rat_ofNat, Nat.cast_ofNat, Bool.and_eq_true, Bool.or_eq_true,
    decide_eq_true_eq, h4]
  exact ⟨fun ⟨⟨ha, hb'⟩, hc⟩ => ⟨sub_lt_iff_lt_add.mpr hb', sub_lt_iff_lt_add.mp ha, hc⟩,
    fun ⟨ha, hb', hc⟩ => ⟨⟨sub_lt_iff_lt_add.mpr hb', sub_lt_iff_lt_add.mp ha⟩, hc⟩⟩

-- non-vacuity: a wrap-around range written min > max (170 … −160 through ±180) contains −170 and not 0;
-- a loudspeaker at the pole matches a polar zone whatever its azimuth range
example : insideAngleRange 4 (-170 : Rat) 170 (-160) Scalar.eps6 = some true := by decide +kernel
example : insideAngleRange 4 (0 : Rat) 170 (-160) Scalar.eps6 = some false := by decide +kernel
example : zoneMatch 4 (.polar (10 : Rat) 20 80 90) ⟨0, 0, 1, 0, 90⟩ = some true := by decide +kernel
example : zoneMatch 4 (.polar (10 : Rat) 20 (-10) 10) ⟨0, 1, 0, 0, 0⟩ = some false := by decide +kernel

end Earverif.C13
