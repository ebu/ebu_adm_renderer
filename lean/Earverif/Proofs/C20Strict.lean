/-
C20 — the strict, independently defined literal meaning (`meaningStrict`, `Model/TrackSpec.lean`)
agrees with the totalised `meaning` exactly on rectangular input and well-formed specs, and is
undefined (`none`) everywhere else (`meaningStrict_char`).  Core Lean only.
-/
import Earverif.Proofs.C20
namespace Earverif.TrackSpec
variable {α : Type} [Sample α]

/-- every frame has exactly `nch` samples (what a numpy array of shape `(n, nch)` is) -/
def Rect (nch : Nat) (x : List (List α)) : Prop := ∀ fr ∈ x, fr.length = nch

omit [Sample α] in
theorem rect_iff_all {nch : Nat} {x : List (List α)} :
    Rect nch x ↔ x.all (fun fr => fr.length == nch) = true := by
  simp [Rect]

theorem colStrict_eq_chanIdx (nch : Nat) (i : Int) : colStrict nch i = chanIdx nch i := by
  unfold colStrict chanIdx
  grind

theorem chanIdx_lt {nch : Nat} {i : Int} {k : Nat} (h : chanIdx nch i = some k) : k < nch := by
  unfold chanIdx at h
  grind

theorem columnStrict_char (nch k : Nat) (hk : k < nch) : ∀ (x : List (List α)),
    columnStrict nch k x =
      if x.all (fun fr => fr.length == nch) then some (x.map fun fr => fr.getD k Sample.zero) else none
  | [] => rfl
  | fr :: rest => by
    by_cases h1 : fr.length = nch
    · have hk' : k < fr.length := by omega
      simp only [columnStrict, h1, ↓reduceIte, columnStrict_char nch k hk rest, List.getElem?_eq_getElem hk']
      by_cases h2 : rest.all (fun fr => fr.length == nch) = true
      · simp [h1, h2, List.getD_eq_getElem?_getD, List.getElem?_eq_getElem hk']
      · simp [h1, h2]
    · simp [columnStrict, h1]

theorem addStrict_eq : ∀ (a b : List α), a.length = b.length → addStrict a b = some (vadd a b)
  | [], [], _ => rfl
  | x :: as, y :: bs, h => by
    simp only [List.length_cons, Nat.add_right_cancel_iff] at h
    simp [addStrict, addStrict_eq as bs h, vadd]
  | [], _ :: _, h => by simp at h
  | _ :: _, [], h => by simp at h

theorem sumStrictFrom_eq : ∀ (ls : List (List α)) (acc : List α), (∀ l ∈ ls, l.length = acc.length) →
    sumStrictFrom acc ls = some (ls.foldl vadd acc)
  | [], _, _ => rfl
  | l :: ls, acc, h => by
    have hl := h l (by simp)
    simp only [sumStrictFrom, addStrict_eq acc l hl.symm, List.foldl_cons]
    apply sumStrictFrom_eq
    intro l' hl'
    rw [vadd_length, hl, Nat.min_self]
    exact h l' (by simp [hl'])

theorem shiftStrict_eq (k : Nat) (l : List α) : shiftStrict k l = delayBy k l := by
  apply List.ext_getElem
  · simp [shiftStrict, delayBy]
  · intro j h1 h2
    simp only [shiftStrict, List.length_map, List.length_range] at h1
    simp only [shiftStrict, delayBy, List.getElem_map, List.getElem_range, List.getElem_take]
    by_cases hj : j < k
    · simp [hj, zeros, List.getElem_append_left]
    · have hjk : j - k < l.length := by omega
      have hle : (List.replicate k (Sample.zero : α)).length ≤ j := by simp; omega
      simp [hj, zeros, List.getElem_append_right hle, List.getElem?_eq_getElem hjk]

mutual
theorem meaningStrict_char (fs : Int) (nch : Nat) (x : List (List α)) : ∀ (s : Spec α),
    meaningStrict fs nch s x =
      if x.all (fun fr => fr.length == nch) && s.wf fs nch then some (meaning fs nch s x) else none
  | .direct i => by
    cases hc : chanIdx nch i with
    | none => simp [meaningStrict, colStrict_eq_chanIdx, Spec.wf, hc]
    | some k => simp [meaningStrict, colStrict_eq_chanIdx, Spec.wf, meaning, hc, columnStrict_char nch k (chanIdx_lt hc)]
  | .silent => by simp [meaningStrict, Spec.wf, meaning, zeros]
  | .mix ts => by
    simp only [meaningStrict, meaningStrictList_char fs nch x ts, Spec.wf, meaning, vsum, sumStrict]
    by_cases hr : x.all (fun fr => fr.length == nch) = true
    · by_cases hw : Spec.wfList fs nch ts = true
      · simp only [hr, hw, Bool.or_true, Bool.and_self, ↓reduceIte]
        exact sumStrictFrom_eq _ _ (fun l hl => by rw [meaningList_length fs nch ts x l hl]; simp)
      · simp [hr, hw]
    · simp [hr]
  | .gain t g => by
    simp only [meaningStrict, meaningStrict_char fs nch x t, Spec.wf, meaning]
    by_cases hc : (x.all (fun fr => fr.length == nch) && t.wf fs nch) = true <;> simp [hc]
  | .matrix t g d => by
    simp only [meaningStrict, meaningStrict_char fs nch x t, Spec.wf, meaning, ← Bool.and_assoc]
    by_cases hc : (x.all (fun fr => fr.length == nch) && t.wf fs nch) = true
    · cases d with
      | none => cases g <;> simp [hc, scaleOpt]
      | some ms =>
        by_cases hk : delaySamples fs ms < 0
        · simp [hc, hk, Int.not_le.mpr hk]
        · cases g <;> simp [hc, hk, Int.not_lt.mp hk, shiftStrict_eq, scaleOpt]
    · simp [hc]
/-- for the empty list the input is not looked at -/
theorem meaningStrictList_char (fs : Int) (nch : Nat) (x : List (List α)) : ∀ (ts : List (Spec α)),
    meaningStrictList fs nch ts x =
      if (ts.isEmpty || x.all (fun fr => fr.length == nch)) && Spec.wfList fs nch ts then
        some (meaningList fs nch ts x) else none
  | [] => rfl
  | t :: ts => by
    simp only [meaningStrictList, meaningStrict_char fs nch x t, meaningStrictList_char fs nch x ts, Spec.wfList,
      meaningList]
    by_cases hr : x.all (fun fr => fr.length == nch) = true <;> by_cases h1 : t.wf fs nch = true <;>
      by_cases h2 : Spec.wfList fs nch ts = true <;> simp [hr, h1, h2]
end

theorem meaningStrict_eq (fs : Int) (nch : Nat) (x : List (List α)) (hx : Rect nch x) :
    ∀ (s : Spec α), s.wf fs nch = true → meaningStrict fs nch s x = some (meaning fs nch s x) :=
  fun s h => by rw [meaningStrict_char, rect_iff_all.mp hx, h]; rfl

theorem meaningStrictList_eq (fs : Int) (nch : Nat) (x : List (List α)) (hx : Rect nch x) :
    ∀ (ts : List (Spec α)), Spec.wfList fs nch ts = true →
      meaningStrictList fs nch ts x = some (meaningList fs nch ts x) :=
  fun ts h => by rw [meaningStrictList_char, rect_iff_all.mp hx, h, Bool.or_true]; rfl

theorem meaningStrict_ragged (fs : Int) (nch : Nat) (x : List (List α)) (hx : ¬ Rect nch x) :
    ∀ (s : Spec α), meaningStrict fs nch s x = none :=
  fun s => by rw [meaningStrict_char, Bool.eq_false_iff.mpr (mt rect_iff_all.mpr hx)]; rfl

/-- outside the quantifier (a direct index numpy rejects, a delay rounding below zero) the strict
meaning is undefined -/
theorem meaningStrict_not_wf (fs : Int) (nch : Nat) (x : List (List α)) :
    ∀ (s : Spec α), s.wf fs nch = false → meaningStrict fs nch s x = none :=
  fun s h => by rw [meaningStrict_char, h, Bool.and_false]; rfl

theorem meaningStrictList_not_wf (fs : Int) (nch : Nat) (x : List (List α)) :
    ∀ (ts : List (Spec α)), Spec.wfList fs nch ts = false → meaningStrictList fs nch ts x = none :=
  fun ts h => by rw [meaningStrictList_char, h, Bool.and_false]; rfl

end Earverif.TrackSpec
