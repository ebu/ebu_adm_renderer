/-
C07 — no duplicates: no two solutions yielded by the pack-allocation search are `~`.

Method: every solution found below a candidate of `candidate_partial_solutions` extends
that candidate's partial solution in place (`sol = F ++ E`, `Fills np F`); two different
candidates for a real head track put that track into entries that can never be the same
`AllocatedPack` of a solution (each already-open entry holds a real track, and real tracks
occur once); for a silent head track there is a single candidate unless a new pack must be
opened, and then the `packs[pack_i:]` restriction makes the pack opened by an earlier
candidate unavailable below every later candidate.
-/
import Earverif.Proofs.C07Sound

namespace Earverif.PackAlloc
open List

/-- The `AllocatedPack` already holds a real track. -/
def HasReal (a : Allocated) : Prop := ∃ tr : Track, some tr ∈ filledSlots a.allocation

theorem fills_hasReal {X Y : Sol} (h : Fills X Y) (hr : ∀ a ∈ X, HasReal a) : ∀ g ∈ Y, HasReal g := by
  intro g hg
  obtain ⟨a, ha, _, hs⟩ := h.exists_of_mem_right hg
  obtain ⟨tr, htr⟩ := hr a ha
  exact ⟨tr, fillsSlots_filled_sub hs htr⟩

/-! ### a real track cannot sit in two places -/

theorem mem_realTracks_of {S : Sol} {y : Allocated} {tr : Track} (hy : y ∈ S)
    (h : some tr ∈ filledSlots y.allocation) : tr ∈ realTracks S :=
  mem_filterMap.2 ⟨some tr, (mem_filled S _).2 ⟨y, hy, h⟩, rfl⟩

theorem not_nodup_of_two_entries {L R : Sol} {x y : Allocated} {tr : Track}
    (hx : some tr ∈ filledSlots x.allocation) (hy : y ∈ L ++ R)
    (hy' : some tr ∈ filledSlots y.allocation) : ¬ (realTracks (L ++ x :: R)).Nodup := by
  intro hn
  have hsplit : realTracks (L ++ x :: R) =
      realTracks L ++ ((filledSlots x.allocation).filterMap id ++ realTracks R) := by
    simp only [realTracks, filled_append, filled_cons, filterMap_append]
  rw [hsplit, nodup_append] at hn
  obtain ⟨_, h2, h3⟩ := hn
  have hmid : tr ∈ (filledSlots x.allocation).filterMap id := mem_filterMap.2 ⟨some tr, hx, rfl⟩
  rcases mem_append.1 hy with hy | hy
  · exact h3 tr (mem_realTracks_of hy hy') tr (mem_append_left _ hmid) rfl
  · exact (nodup_append.1 h2).2.2 tr hmid tr (mem_realTracks_of hy hy') rfl

/-- Two partial solutions that put `t` into entries which can never be the same
`AllocatedPack` of a solution: different packs, or the first entry holds a real track
that also sits in another entry of the second partial solution. -/
def PlacedApart (t : TrackRef) (np1 np2 : Sol) : Prop :=
  ∃ A1 a1 B1 A2 a2 B2, np1 = A1 ++ a1 :: B1 ∧ np2 = A2 ++ a2 :: B2 ∧
    t ∈ filledSlots a1.allocation ∧ t ∈ filledSlots a2.allocation ∧
    (a1.pack ≠ a2.pack ∨ ∃ (u : Track) (y : Allocated),
      some u ∈ filledSlots a1.allocation ∧ y ∈ A2 ++ B2 ∧ some u ∈ filledSlots y.allocation)

theorem placedApart_no_common {tr : Track} {np1 np2 F1 E1 F2 E2 : Sol} (hd : PlacedApart (some tr) np1 np2)
    (h1 : Fills np1 F1) (h2 : Fills np2 F2) (hn : (realTracks (F2 ++ E2)).Nodup)
    (hp : F1 ++ E1 ~ F2 ++ E2) : False := by
  obtain ⟨A1, a1, B1, A2, a2, B2, rfl, rfl, t1, t2, hcase⟩ := hd
  obtain ⟨FA1, FX1, rfl, _, hX1⟩ := h1.append_inv
  obtain ⟨f1, FB1, rfl, ⟨p1, s1⟩, _⟩ := hX1.cons_inv
  obtain ⟨FA2, FX2, rfl, hA2, hX2⟩ := h2.append_inv
  obtain ⟨f2, FB2, rfl, ⟨p2, s2⟩, hB2⟩ := hX2.cons_inv
  have tf1 := fillsSlots_filled_sub s1 t1
  have tf2 := fillsSlots_filled_sub s2 t2
  have hsol2 : FA2 ++ f2 :: FB2 ++ E2 = FA2 ++ f2 :: (FB2 ++ E2) := by
    rw [append_assoc, cons_append]
  rw [hsol2] at hn hp
  -- the entry `f1` that holds `tr` in the first solution is the one that holds it in the second
  have key : f1 = f2 := by
    have hmem : f1 ∈ FA2 ++ f2 :: (FB2 ++ E2) := hp.mem_iff.1 (by simp)
    rcases mem_append.1 hmem with h | h
    · exact absurd hn (not_nodup_of_two_entries tf2 (mem_append_left _ h) tf1)
    · rcases mem_cons.1 h with h | h
      · exact h
      · exact absurd hn (not_nodup_of_two_entries tf2 (mem_append_right _ h) tf1)
  rcases hcase with hne | ⟨u, y, hu, hy, hy'⟩
  · exact hne (by rw [← p1, ← p2, key])
  · obtain ⟨g, hg, _, hgs⟩ := (hA2.append hB2).exists_of_mem_left hy
    have uf2 : some u ∈ filledSlots f2.allocation := key ▸ fillsSlots_filled_sub s1 hu
    refine not_nodup_of_two_entries uf2 ?_ (fillsSlots_filled_sub hgs hy') hn
    rcases mem_append.1 hg with hg | hg
    · exact mem_append_left _ hg
    · exact mem_append_right _ (mem_append_left _ hg)

/-! ### the candidates of one node are pairwise `PlacedApart` (real head track) -/

/-- A candidate that put `t` into an open entry `a` is `PlacedApart` from any partial solution that still
has `a` itself beside the entry where it put `t`. -/
theorem placedApart_of_existing {t : TrackRef} {a a' a2 : Allocated} {A B A2 B2 : Sol}
    (h : tryAllocate t a = some a') (hr : HasReal a) (ha : a ∈ A2 ++ B2)
    (ht2 : t ∈ filledSlots a2.allocation) : PlacedApart t (A ++ a' :: B) (A2 ++ a2 :: B2) :=
  let ⟨u, hu⟩ := hr
  ⟨A, a', B, A2, a2, B2, rfl, rfl, tryAllocate_mem h, ht2,
    Or.inr ⟨u, a, fillsSlots_filled_sub (tryAllocate_fills h).2 hu, ha, hu⟩⟩

theorem existingCandidates_pairwise (t : TrackRef) (post pre : List Allocated)
    (hr : ∀ a ∈ post, HasReal a) : (existingCandidates t pre post).Pairwise (PlacedApart t) := by
  induction post generalizing pre with
  | nil => exact Pairwise.nil
  | cons a post ih =>
    have ih := ih (pre ++ [a]) fun x hx => hr x (mem_cons_of_mem _ hx)
    rw [existingCandidates]
    split
    · rename_i a' ha
      refine pairwise_cons.2 ⟨fun np2 hnp2 => ?_, ih⟩
      obtain ⟨A, b, b', B, _, rfl, e3⟩ := mem_existingCandidates hnp2
      exact placedApart_of_existing ha (hr a mem_cons_self) (by simp) (tryAllocate_mem e3)
    · exact ih

/-- Two candidates of `candidate_new_packs`: different packs; for a silent track the earlier candidate's
pack is not available below the later one (`packs[pack_i:]`). -/
def NewPackApart (t : TrackRef) (c1 c2 : Pack × List Pack × Option (List Nat)) : Prop :=
  c1.1 ≠ c2.1 ∧ (t = none → c1.1 ∉ c2.2.1 ∧ c2.1 ∈ c2.2.1)

theorem candidateNewPacksAux_pairwise (t : TrackRef) (refs : Option (List Nat)) (all : List Pack)
    (suffix : List Pack) (hnd : suffix.Nodup) :
    (candidateNewPacksAux t refs all suffix).Pairwise (NewPackApart t) := by
  induction suffix with
  | nil => exact Pairwise.nil
  | cons p rest ih =>
    rw [nodup_cons] at hnd
    rw [candidateNewPacksAux_cons]
    refine pairwise_append.2 ⟨by cases useRef refs p.root <;> simp, ih hnd.2, fun c1 hc1 c2 hc2 => ?_⟩
    -- a later candidate's pack, and for a silent track all it keeps available, lie in `rest`
    obtain ⟨rr, _, rfl⟩ := Option.map_eq_some_iff.1 (Option.mem_toList.1 hc1)
    obtain ⟨⟨pre, post, e1, e2⟩, _⟩ := mem_candidateNewPacksAux hc2
    have hsub : c2.1 :: post ⊆ rest := e1 ▸ subset_append_right _ _
    refine ⟨fun e => hnd.1 (hsub (e ▸ mem_cons_self)), fun ht => ?_⟩
    rw [e2, ht]
    exact ⟨fun hm => hnd.1 (hsub hm), mem_cons_self⟩

theorem candidateNewPacks_pairwise (t : TrackRef) (refs : Option (List Nat)) (packs : List Pack)
    (hnd : packs.Nodup) : (candidateNewPacks t refs packs).Pairwise (NewPackApart t) := by
  unfold candidateNewPacks
  split
  · exact Pairwise.nil
  · exact candidateNewPacksAux_pairwise t refs packs packs hnd

theorem newCandidates_pairwise {t : TrackRef} {packs : List Pack} {refs : Option (List Nat)} {P : Sol}
    {S : Sol × List Pack × Option (List Nat) → Sol × List Pack × Option (List Nat) → Prop}
    (hnd : packs.Nodup)
    (hS : ∀ p1 rp1 rr1 p2 rp2 rr2 a1 a2, NewPackApart t (p1, rp1, rr1) (p2, rp2, rr2) →
      tryAllocate t (emptyAllocation p1) = some a1 → tryAllocate t (emptyAllocation p2) = some a2 →
      S (P ++ [a1], rp1, rr1) (P ++ [a2], rp2, rr2)) :
    (newCandidates t packs refs P).Pairwise S := by
  refine Pairwise.filterMap _ ?_ (candidateNewPacks_pairwise t refs packs hnd)
  intro ⟨p1, rp1, rr1⟩ ⟨p2, rp2, rr2⟩ hraw b1 hb1 b2 hb2
  obtain ⟨a1, h1, rfl⟩ := Option.map_eq_some_iff.1 hb1
  obtain ⟨a2, h2, rfl⟩ := Option.map_eq_some_iff.1 hb2
  exact hS _ _ _ _ _ _ _ _ hraw h1 h2

/-- Every candidate extends `P` in place or appends one freshly opened pack. -/
theorem candidate_extends {t : TrackRef} {packs : List Pack} {refs : Option (List Nat)} {P : Sol}
    {c : Sol × List Pack × Option (List Nat)} (h : c ∈ candidatePartialSolutions t packs refs P) :
    c.2.1 <+ packs ∧
    (Fills P c.1 ∨ ∃ a, c.1 = P ++ [a] ∧ a.pack ∈ packs ∧ t ∈ filledSlots a.allocation) := by
  rcases mem_candidatePartialSolutions h with ⟨np, hnp, rfl⟩ | h
  · exact ⟨Sublist.refl _, Or.inl (existing_fills hnp).1⟩
  · obtain ⟨p, rp, rr, a, hc, ht, rfl⟩ := newCandidates_mem h
    obtain ⟨hp, hsl⟩ := candidateNewPacks_sublist hc
    exact ⟨hsl, Or.inr ⟨a, rfl, (tryAllocate_fills ht).1 ▸ hp, tryAllocate_mem ht⟩⟩

theorem candidatePartialSolutions_pairwise_real (tr : Track) (packs : List Pack) (refs : Option (List Nat)) (P : Sol)
    (hreal : ∀ a ∈ P, HasReal a) (hnd : packs.Nodup) :
    (candidatePartialSolutions (some tr) packs refs P).Pairwise
      (fun c1 c2 => PlacedApart (some tr) c1.1 c2.1) := by
  rw [candidatePartialSolutions]
  refine pairwise_append.2 ⟨?_, ?_, ?_⟩
  · exact pairwise_map.2 (existingCandidates_pairwise (some tr) P [] hreal)
  · refine newCandidates_pairwise hnd fun p1 _ _ p2 _ _ a1 a2 hraw h1 h2 => ?_
    refine ⟨P, a1, [], P, a2, [], rfl, rfl, tryAllocate_mem h1, tryAllocate_mem h2, Or.inl ?_⟩
    rw [(tryAllocate_fills h1).1, (tryAllocate_fills h2).1]
    exact hraw.1
  · intro c1 hc1 c2 hc2
    obtain ⟨np, hnp, rfl⟩ := mem_map.1 hc1
    obtain ⟨p, rp, rr, a2, _, ht, rfl⟩ := newCandidates_mem hc2
    obtain ⟨A, a, a', B, e1, rfl, e3⟩ := mem_existingCandidates hnp
    have ha : a ∈ P := by rw [e1]; simp
    rw [nil_append]
    exact placedApart_of_existing e3 (hreal a ha) (mem_append_left _ ha) (tryAllocate_mem ht)

/-- Silent head track, no `_EMPTY` entry left: two candidates open different packs and
the earlier one's pack is not available below the later one. -/
def SilentApart (P : Sol) (c1 c2 : Sol × List Pack × Option (List Nat)) : Prop :=
  ∃ a1 a2, c1.1 = P ++ [a1] ∧ c2.1 = P ++ [a2] ∧ a1.pack ∉ c2.2.1 ∧ a2.pack ∈ c2.2.1

theorem candidatePartialSolutions_pairwise_silent (packs : List Pack) (refs : Option (List Nat)) (P : Sol)
    (hnd : packs.Nodup) (hex : existingCandidates none [] P = []) :
    (candidatePartialSolutions none packs refs P).Pairwise (SilentApart P) := by
  rw [candidatePartialSolutions, hex]
  refine newCandidates_pairwise hnd fun p1 _ _ p2 _ _ a1 a2 hraw h1 h2 => ?_
  obtain ⟨g1, g2⟩ := hraw.2 rfl
  exact ⟨a1, a2, rfl, rfl, (tryAllocate_fills h1).1 ▸ g1, (tryAllocate_fills h2).1 ▸ g2⟩

theorem silentApart_no_common {P E1 E2 F1 F2 : Sol} {c1 c2 : Sol × List Pack × Option (List Nat)}
    (hd : SilentApart P c1 c2) (hfull : ∀ a ∈ P, Full a.allocation)
    (h1 : Fills c1.1 F1) (h2 : Fills c2.1 F2) (hE2 : ∀ e ∈ E2, e.pack ∈ c2.2.1)
    (hp : F1 ++ E1 ~ F2 ++ E2) : False := by
  obtain ⟨a1, a2, e1, e2, hn, hm⟩ := hd
  rw [e1] at h1
  rw [e2] at h2
  obtain ⟨FP1, FX1, rfl, hP1, hX1⟩ := h1.append_inv
  obtain ⟨f1, FB1, rfl, ⟨p1, _⟩, _⟩ := hX1.cons_inv
  obtain ⟨FP2, FX2, rfl, hP2, hX2⟩ := h2.append_inv
  obtain ⟨f2, FB2, rfl, ⟨p2, _⟩, hB2⟩ := hX2.cons_inv
  rw [hB2.nil_inv, fills_of_full hP1 hfull, fills_of_full hP2 hfull, append_assoc, append_assoc,
    perm_append_left_iff] at hp
  -- the pack opened first occurs in the second solution: as the pack opened there, or later
  rcases mem_cons.1 (hp.mem_iff.1 mem_cons_self : f1 ∈ f2 :: E2) with h | h
  · exact hn (by rw [← p1, h, p2]; exact hm)
  · exact hn (by rw [← p1]; exact hE2 f1 h)

/-! ### solutions extend the partial solution in place -/

/-- What we know of a solution found from partial solution `P` with pack list `packs`. -/
def Extends (packs : List Pack) (P sol : Sol) : Prop :=
  ∃ F E, sol = F ++ E ∧ Fills P F ∧ ∀ e ∈ E, e.pack ∈ packs

theorem allocObviousWith_extends {k : List Pack → List TrackRef → Option (List Nat) → Sol → List Sol}
    (hk : ∀ packs tracks refs P sol, sol ∈ k packs tracks refs P → Extends packs P sol)
    {rp : List Pack} {rest : List TrackRef} {rr : Option (List Nat)} {np sol : Sol}
    (h : sol ∈ allocObviousWith k rp rest rr np) : Extends rp np sol := by
  obtain ⟨np', tracks', hob, h⟩ := mem_allocObviousWith.1 h
  obtain ⟨F, E, rfl, hF, hE⟩ := hk _ _ _ _ _ h
  exact ⟨F, E, rfl, fills_trans (obviousPacks_eq_some hob).1 hF, hE⟩

theorem allocImpl_extends (fuel : Nat) (packs : List Pack) (tracks : List TrackRef)
    (refs : Option (List Nat)) (P sol : Sol) (h : sol ∈ allocImpl fuel packs tracks refs P) :
    Extends packs P sol := by
  induction fuel generalizing packs tracks refs P sol with
  | zero => cases h
  | succ fuel ih =>
  cases tracks with
  | nil =>
    rw [(mem_allocImpl_nil.1 h).2]
    exact ⟨P, [], (append_nil _).symm, fills_refl P, nofun⟩
  | cons t rest =>
    obtain ⟨_, ⟨np, rp, rr⟩, hc, np', tracks', hob, hs⟩ := mem_allocImpl_cons.1 h
    obtain ⟨F, E, rfl, hF, hE⟩ := ih _ _ _ _ _ hs
    replace hF := fills_trans (obviousPacks_eq_some hob).1 hF
    obtain ⟨hsub, hcase⟩ := candidate_extends hc
    dsimp only at hsub hcase hF hE
    have hpk : ∀ p ∈ rp, p ∈ packs := fun p hp => (mem_filter.1 (hsub.subset hp)).1
    rcases hcase with hfill | ⟨a, rfl, ha, _⟩
    · exact ⟨F, E, rfl, fills_trans hfill hF, fun e he => hpk _ (hE e he)⟩
    · obtain ⟨FP, FX, rfl, hP, hX⟩ := hF.append_inv
      obtain ⟨f, FB, rfl, ⟨pf, _⟩, hB⟩ := hX.cons_inv
      rw [hB.nil_inv]
      exact ⟨FP, f :: E, by rw [append_assoc]; rfl, hP,
        forall_mem_cons.2 ⟨pf ▸ (mem_filter.1 ha).1, fun e he => hpk _ (hE e he)⟩⟩

/-- The invariant of the no-duplicates induction (the counterpart of completeness' `Inv`), for a node
`(packs, tracks, P)` of the search: `packs0` is the pack list of the problem, `packs` what pruning and the
`packs[pack_i:]` rule have left of it; `sub` and `good` are the hypotheses of `allocImpl_sound`. -/
structure NodupInv (packs0 packs : List Pack) (tracks : List TrackRef) (P : Sol) : Prop where
  sub : ∀ p ∈ packs, p ∈ packs0
  good : Good packs0 P
  packsNodup : packs.Nodup
  /-- distinct track objects: every real track, placed or pending, occurs once -/
  realNodup : ((filled P ++ tracks).filterMap id).Nodup
  silentLast : SilentLast tracks
  /-- while real tracks are pending every open `AllocatedPack` holds one (a pack is only ever opened
  with a real track then), which is what `PlacedApart`'s second alternative needs; once only silent tracks
  are left, packs are opened with silent tracks and this no longer holds -/
  realInv : (∀ x ∈ tracks, x = none) ∨ ∀ a ∈ P, HasReal a

theorem allocImpl_nodup (packs0 : List Pack) (fuel : Nat) (packs : List Pack)
    (tracks : List TrackRef) (refs : Option (List Nat)) (P : Sol) (h : NodupInv packs0 packs tracks P) :
    (allocImpl fuel packs tracks refs P).Pairwise (fun a b => ¬ a ~ b) := by
  induction fuel generalizing packs tracks refs P with
  | zero => exact Pairwise.nil
  | succ fuel ih =>
  cases tracks with
  | nil =>
    rw [allocImpl]
    split
    · exact pairwise_singleton _ _
    · exact Pairwise.nil
  | cons t rest =>
    by_cases hprune : (t :: rest).length < countEmpty P
    · rw [allocImpl, if_pos hprune]
      exact Pairwise.nil
    -- every solution below this node has each real track once
    have hsub' : ∀ p ∈ packs.filter (couldPossiblyAllocate (t :: rest) refs (countEmpty P)),
        p ∈ packs0 := fun p hp => h.sub p (mem_filter.1 hp).1
    have hreal : ∀ c ∈ candidatePartialSolutions t
        (packs.filter (couldPossiblyAllocate (t :: rest) refs (countEmpty P))) refs P,
        ∀ y ∈ allocObviousWith (allocImpl fuel) c.2.1 rest c.2.2 c.1, (realTracks y).Nodup := by
      intro c hc y hy
      have hy' : y ∈ allocImpl (fuel + 1) packs (t :: rest) refs P :=
        mem_allocImpl_cons.2 ⟨hprune, c, hc, mem_allocObviousWith.1 hy⟩
      obtain ⟨_, _, hf, _⟩ := allocImpl_sound h.sub h.good hy'
      exact ((hf.filterMap id).nodup_iff).2 h.realNodup
    have hP : ∀ tr, t = some tr → ∀ a ∈ P, HasReal a := fun tr ht =>
      h.realInv.resolve_left fun hl => by cases ht ▸ hl t mem_cons_self
    rw [allocImpl, if_neg hprune, pairwise_flatMap]
    constructor
    · -- inside one candidate: induction
      intro ⟨np, rp, rr⟩ hc
      dsimp only
      rw [allocObviousWith]
      split
      · exact Pairwise.nil
      · rename_i np' tracks' hob
        have st := candidatePartialSolutions_stepOK hsub' h.good hc
        obtain ⟨f1, o2, f2, o4⟩ := obviousPacks_eq_some hob
        obtain ⟨hsl, hcase⟩ := candidate_extends hc
        dsimp only at hsl hcase
        refine ih rp tracks' rr np' ⟨fun p hp => hsub' p (st.packs_sub p hp), o4 _ st.good,
          (h.packsNodup.sublist filter_sublist).sublist hsl, ?_, h.silentLast.tail.sublist f2, ?_⟩
        · -- filled np' ++ tracks' ~ filled np ++ rest ~ filled P ++ t :: rest
          have hp : filled np' ++ tracks' ~ filled P ++ t :: rest :=
            o2.trans ((st.filled.append_right _).trans perm_middle.symm)
          exact ((hp.filterMap id).nodup_iff).2 h.realNodup
        · cases t with
          | none =>
            exact Or.inl fun x hx =>
              silentLast_all_none h.silentLast x (mem_cons_of_mem _ (f2.subset hx))
          | some tr =>
            refine Or.inr (fills_hasReal f1 ?_)
            rcases hcase with hfill | ⟨a, rfl, _, ta⟩
            · exact fills_hasReal hfill (hP tr rfl)
            · exact forall_mem_append.2 ⟨hP tr rfl, forall_mem_singleton.2 ⟨tr, ta⟩⟩
    · -- two different candidates
      cases t with
      | some tr =>
        refine Pairwise.imp_of_mem ?_
          (candidatePartialSolutions_pairwise_real tr _ refs P (hP tr rfl) (h.packsNodup.sublist filter_sublist))
        intro c1 c2 _ hc2 hd x hx y hy hperm
        obtain ⟨F1, E1, rfl, hF1, _⟩ := allocObviousWith_extends (allocImpl_extends fuel) hx
        obtain ⟨F2, E2, rfl, hF2, _⟩ := allocObviousWith_extends (allocImpl_extends fuel) hy
        exact placedApart_no_common hd hF1 hF2 (hreal c2 hc2 _ hy) hperm
      | none =>
        cases hex : existingCandidates none [] P with
        | cons e tl =>
          rw [candidatePartialSolutions, hex]
          exact pairwise_singleton _ _
        | nil =>
          refine Pairwise.imp ?_
            (candidatePartialSolutions_pairwise_silent _ refs P (h.packsNodup.sublist filter_sublist) hex)
          intro c1 c2 hd x hx y hy hperm
          obtain ⟨F1, E1, rfl, hF1, _⟩ := allocObviousWith_extends (allocImpl_extends fuel) hx
          obtain ⟨F2, E2, rfl, hF2, hE2⟩ := allocObviousWith_extends (allocImpl_extends fuel) hy
          exact silentApart_no_common hd (full_of_existingCandidates_nil hex) hF1 hF2 hE2 hperm

end Earverif.PackAlloc
