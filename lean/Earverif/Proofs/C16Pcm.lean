/-
C16: error analysis of the decode/encode round trip of one sample code (`div_mul_pos`), the codes that are exact for a
reason (0, ±M), and what is read off the tables of `Proofs/C16Table.lean` (`powOk_spec`, `specialOk_spec`).
-/
import Earverif.Proofs.C16Ieee
import Earverif.Proofs.C16Table

namespace Earverif.Pcm
open Earverif.Ieee

/-- Positive code `c` that is not a power of two and lies below full scale `M = 2^k - 1`:
`c / M` lies in the binade `f - k` when `c` lies in the binade `f`, so the rounding error of
the division, multiplied by `M`, stays strictly below half a grid step of `c`'s binade and
the rounded product is `c` again.  (At `c = 2^f` the product can fall just below `2^f`, where the grid is half as wide
and the same error is a whole step: these codes are read off the table.) -/
theorem div_mul_pos (k f : ℕ) (c : ℤ) (hf52 : f ≤ 52) (hfk : f < k)
    (h1 : (2 : ℤ) ^ f < c) (h2 : c < (2 : ℤ) ^ (f + 1)) (hM : c < (2 : ℤ) ^ k - 1) :
    rn53 (rn53 ((c : ℚ) / (((2 : ℤ) ^ k - 1 : ℤ) : ℚ)) * (((2 : ℤ) ^ k - 1 : ℤ) : ℚ)) = c := by
  obtain ⟨F, hF⟩ : ∃ F : ℚ, F = 2 ^ (f : ℤ) := ⟨_, rfl⟩
  obtain ⟨K, hK⟩ : ∃ K : ℚ, K = 2 ^ (k : ℤ) := ⟨_, rfl⟩
  have hMK : (((2 : ℤ) ^ k - 1 : ℤ) : ℚ) = K - 1 := by rw [hK, zpow_natCast]; push_cast; rfl
  have c1 : F + 1 ≤ c := by
    rw [hF, zpow_natCast]; exact_mod_cast Int.add_one_le_iff.mpr h1
  have c2 : (c : ℚ) + 1 ≤ 2 * F := by
    rw [hF, zpow_natCast, ← pow_succ']; exact_mod_cast Int.add_one_le_iff.mpr h2
  have c3 : (c : ℚ) + 2 ≤ K := by
    rw [hK, zpow_natCast]; exact_mod_cast (show c + 2 ≤ 2 ^ k by omega)
  have hFK : 2 * F ≤ K := by
    rw [hF, hK, ← zpow_one_add₀ two_ne_zero]; exact zpow_le_zpow_right₀ one_le_two (by omega)
  have hF0 : 0 < F := hF ▸ two_zpow_pos f
  have hK0 : 0 < K := hK ▸ two_zpow_pos k
  have hM0 : 0 < K - 1 := by linarith
  have z : (2 : ℚ) ^ ((f : ℤ) - k) = F / K := by rw [zpow_sub₀ two_ne_zero, hF, hK]
  rw [hMK]
  -- the quotient lies in the binade `f - k`
  have hx1 : (2 : ℚ) ^ ((f : ℤ) - k) ≤ c / (K - 1) := by
    rw [z, div_le_div_iff₀ hK0 hM0]
    linarith [mul_nonneg (show (0 : ℚ) ≤ c - F by linarith) hK0.le]
  have hx2 : c / (K - 1) < (2 : ℚ) ^ ((f : ℤ) - k + 1) := by
    rw [zpow_add_one₀ two_ne_zero, z, div_mul_eq_mul_div, div_lt_div_iff₀ hM0 hK0]
    linarith [mul_nonneg (show (0 : ℚ) ≤ 2 * F - c - 1 by linarith) hM0.le]
  have hx0 := lt_of_lt_of_le (two_zpow_pos _) hx1
  have herr := rn53_error _ ((f : ℤ) - k) (by rwa [abs_of_pos hx0]) (by rwa [abs_of_pos hx0])
  generalize rn53 (c / (K - 1)) = q at herr ⊢
  -- so the product is within half a grid step of `c`, which is a grid point of its binade `f`
  have hy : |q * (K - 1) - c| < (2 : ℚ) ^ ((f : ℤ) - 53) := by
    have e : (2 : ℚ) ^ ((f : ℤ) - k - 53) * K = 2 ^ ((f : ℤ) - 53) := by
      rw [hK, ← zpow_add₀ two_ne_zero]; congr 1; ring
    rw [← e, ← div_mul_cancel₀ (c : ℚ) hM0.ne', ← sub_mul, abs_mul, abs_of_pos hM0]
    exact (mul_le_mul_of_nonneg_right herr hM0.le).trans_lt
      (mul_lt_mul_of_pos_left (by linarith) (two_zpow_pos _))
  have hhalf : (2 : ℚ) ^ ((f : ℤ) - 53) ≤ 2 ^ (-1 : ℤ) := zpow_le_zpow_right₀ one_le_two (by omega)
  rw [zpow_neg_one] at hhalf
  obtain ⟨yl, yr⟩ := abs_lt.mp hy
  have b1 : (2 : ℚ) ^ (f : ℤ) ≤ q * (K - 1) := by rw [← hF]; linarith
  have b2 : q * (K - 1) < (2 : ℚ) ^ ((f : ℤ) + 1) := by rw [zpow_add_one₀ two_ne_zero, ← hF]; linarith
  obtain ⟨N, hN⟩ := grid_refine c (show (f : ℤ) - 52 ≤ 0 by omega)
  rw [zpow_zero, mul_one] at hN
  rw [hN] at hy ⊢
  exact rn53_snap _ f N b1 b2 hy

theorem truncZ_int (n : ℤ) : truncZ (n : ℚ) = n := by
  unfold truncZ
  split_ifs with h
  · rw [floor_eq, Int.floor_intCast]
  · rw [← Int.cast_neg, floor_eq, Int.floor_intCast, neg_neg]

theorem truncZ_neg (x : ℚ) : truncZ (-x) = -truncZ x := by
  induction x using neg_induction with
  | neg x ih => rw [neg_neg] at ih; rw [ih, neg_neg]
  | zero => simp [truncZ, floor_eq]
  | pos x h => rw [truncZ, truncZ, if_neg (not_le.mpr (neg_neg_of_pos h)), if_pos h.le, neg_neg]

theorem clip_neg (x : ℚ) : clip (-x) = -clip x := by
  unfold clip
  split_ifs <;> first | rfl | (exfalso; linarith)

theorem clip_id (x : ℚ) (h1 : -1 ≤ x) (h2 : x ≤ 1) : clip x = x := by
  unfold clip
  rw [if_neg (by linarith), if_neg (by linarith)]

theorem decode_neg (b : ℕ) (c : ℤ) : decode b (-c) = -decode b c := by
  unfold decode
  rw [Int.cast_neg, neg_div, rn53_neg]

theorem encode_neg (b : ℕ) (x : ℚ) : encode b (-x) = -encode b x := by
  unfold encode
  rw [clip_neg, neg_mul, rn53_neg, truncZ_neg]

theorem truncZ_nonneg (y : ℚ) (h : 0 ≤ y) : (truncZ y : ℚ) ≤ y ∧ y < (truncZ y : ℚ) + 1 ∧ 0 ≤ truncZ y := by
  unfold truncZ
  rw [if_pos h, floor_eq]
  exact ⟨Int.floor_le y, Int.lt_floor_add_one y, Int.floor_nonneg.mpr h⟩

theorem clip_pos (x : ℚ) (h : 0 < x) : 0 < clip x ∧ clip x ≤ 1 := by
  unfold clip
  split_ifs with h1 h2
  · exact ⟨one_pos, le_rfl⟩
  · linarith
  · exact ⟨h, not_lt.mp h1⟩

theorem encode_zero (b : ℕ) : encode b 0 = 0 := by
  rw [encode, clip_id 0 (by norm_num) (by norm_num), zero_mul, rn53_zero]
  exact_mod_cast truncZ_int 0

theorem decode_zero (b : ℕ) : decode b 0 = 0 := by
  rw [decode, Int.cast_zero, zero_div, rn53_zero]

/-- full scale decodes to exactly 1: the quotient `M / M` is not rounded -/
theorem decode_scale (b : ℕ) (hM : 0 < scale b) : decode b (scale b) = 1 := by
  rw [decode, div_self (Int.cast_ne_zero.mpr hM.ne'), rn53_one]

theorem rn53_scale (b : ℕ) (hM : 0 < scale b) (hM52 : scale b < (2 : ℤ) ^ 52) : rn53 (scale b : ℚ) = scale b :=
  rn53_int _ hM.le (lt_trans (b := (2 : ℚ) ^ 52) (by exact_mod_cast hM52) (by norm_num))

theorem abs_div_scale_le_one (b : ℕ) (hM : 0 < scale b) (c : ℤ) (h : |c| ≤ scale b) :
    |(c : ℚ) / (scale b : ℚ)| ≤ 1 := by
  have hMq : (0 : ℚ) < scale b := by exact_mod_cast hM
  rw [abs_div, abs_of_pos hMq, div_le_one hMq]
  exact_mod_cast h

/-- what the table says of a power-of-two code: the rounded quotient times the scale rounds back to it -/
theorem powOk_spec {b f : ℕ} (h : powOk b f = true) :
    rn53 (decode b (2 ^ f) * (scale b : ℚ)) = ((2 ^ f : ℤ) : ℚ) := by
  simp only [powOk, Bool.and_eq_true, beq_iff_eq] at h
  exact h.2

/-- what the table says of the most negative code: it comes back as the negated maximum, and its decoded value lies
in `[-1 - 1/M, -1)` (the other conjuncts of `specialOk`, about 0 and `±M`, hold for a reason: `decode_zero`,
`encode_zero`, `decode_scale`, `rn53_scale`) -/
theorem specialOk_spec {b : ℕ} (h : specialOk b = true) :
    encode b (decode b (-(2 ^ (b - 1)))) = -(scale b) ∧
    -1 - 1 / (scale b : ℚ) ≤ decode b (-(2 ^ (b - 1))) ∧
    decode b (-(2 ^ (b - 1))) < -1 := by
  simp only [specialOk, Bool.and_eq_true, beq_iff_eq, decide_eq_true_eq, and_assoc] at h
  obtain ⟨-, -, -, h4, h5, h6, -⟩ := h
  exact ⟨h4, h5, h6⟩

end Earverif.Pcm
