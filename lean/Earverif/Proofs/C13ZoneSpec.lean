/-
C13 — what `get_excluded` computes, in terms of the per-zone, per-loudspeaker test:
`mask[i] ⇔ some zone of the list matches loudspeaker i`; and what a fuelled `while` returns.
-/
import Earverif.Proofs.C13Zone
import Mathlib.Logic.Function.Iterate
import Mathlib.Data.List.Basic

namespace Earverif.C13
open Earverif.Zone Earverif.Zone.Scalar

theorem orMask_isExcl : ∀ (a b : List Bool), a.length = b.length → ∀ i,
    isExcl (orMask a b) i = (isExcl a i || isExcl b i)
  | [], [], _, _ => rfl
  | [], _ :: _, h, _ => nomatch h
  | _ :: _, [], h, _ => nomatch h
  | _ :: _, _ :: _, _, 0 => rfl
  | _ :: as, _ :: bs, h, i + 1 => orMask_isExcl as bs (Nat.succ.inj h) i

/-- Whenever `getExcluded` answers (no `while` ran out of fuel); `zoneMatch` is the Cartesian box test with the `1e-6`
tolerance, or the elevation test and [pole or azimuth inside the range] for a polar zone; every zone's test on that
loudspeaker is then defined.  Any scalar type. -/
theorem getExcluded_spec {α : Type} [Scalar α] (fuel : Nat) (spks : List (Spk α)) :
    ∀ (zones : List (Zone α)) (m : List Bool), getExcluded fuel spks zones = some m →
      ∀ (i : Nat) (hi : i < spks.length),
        (isExcl m i = true ↔ ∃ z ∈ zones, zoneMatch fuel z spks[i] = some true) ∧
        ∀ z ∈ zones, (zoneMatch fuel z spks[i]).isSome := by
  intro zones
  induction zones with
  | nil =>
    intro m h i hi
    cases h
    refine ⟨⟨fun h => ?_, fun ⟨z, hz, _⟩ => nomatch hz⟩, fun z hz => nomatch hz⟩
    rw [isExcl_map_false] at h
    exact Bool.noConfusion h
  | cons z zs ih =>
    intro m h i hi
    obtain ⟨m1, m2, h1, h2, rfl⟩ := getExcluded_cons_some h
    have hl : m1.length = m2.length :=
      (mapM_some_length h1).trans (getExcluded_length fuel spks zs m2 h2).symm
    obtain ⟨y, hy1, hy2⟩ := mapM_some_getElem? h1 i _ (List.getElem?_eq_getElem hi)
    obtain ⟨ih1, ih2⟩ := ih m2 h2 i hi
    have hm1 : isExcl m1 i = y := by rw [isExcl, List.getD, hy1]; rfl
    rw [orMask_isExcl m1 m2 hl i, hm1, Bool.or_eq_true, ih1, List.exists_mem_cons_iff, hy2, Option.some.injEq]
    exact ⟨Iff.rfl, List.forall_mem_cons.mpr ⟨by rw [hy2]; rfl, ih2⟩⟩

/-- **Cartesian zone test, exact arithmetic**: the loudspeaker's nominal position is inside the
box widened by `1e-6` (the double's exact value) on every side, all comparisons strict. -/
theorem zoneMatch_cart_spec (fuel : Nat) (minX maxX minY maxY minZ maxZ : Rat) (s : Spk Rat) :
    ∃ b, zoneMatch fuel (.cart minX maxX minY maxY minZ maxZ) s = some b ∧
      (b = true ↔ (minX - Scalar.eps6 < s.x ∧ s.x < maxX + Scalar.eps6 ∧ minY - Scalar.eps6 < s.y ∧
        s.y < maxY + Scalar.eps6 ∧ minZ - Scalar.eps6 < s.z ∧ s.z < maxZ + Scalar.eps6)) := by
  refine ⟨_, rfl, ?_⟩
  simp only [rat_lt, rat_sub, rat_add, Bool.and_eq_true, decide_eq_true_eq]
  grind  -- the model tests `x - ε < max` and `min < x + ε`; move `ε` across in each of the six

theorem whileLoop_spec {α : Type} (cond : α → Bool) (step : α → α) : ∀ (fuel : Nat) (x y : α),
    whileLoop cond step fuel x = some y →
      cond y = false ∧ ∃ k, k ≤ fuel ∧ y = Nat.iterate step k x ∧ ∀ j, j < k → cond (Nat.iterate step j x) = true := by
  intro fuel
  induction fuel with
  | zero =>
    intro x y h
    rw [whileLoop] at h
    split at h
    · cases h
    · cases h
      exact ⟨Bool.eq_false_iff.mpr ‹_›, 0, Nat.le_refl 0, rfl, fun j hj => absurd hj (Nat.not_lt_zero j)⟩
  | succ f ih =>
    intro x y h
    rw [whileLoop] at h
    split at h
    · rename_i hc
      obtain ⟨h1, k, hk, hy, hj⟩ := ih (step x) y h
      refine ⟨h1, k + 1, Nat.succ_le_succ hk, hy, fun j hjk => ?_⟩
      cases j with
      | zero => exact hc
      | succ j => exact hj j (Nat.lt_of_succ_lt_succ hjk)
    · cases h
      exact ⟨Bool.eq_false_iff.mpr ‹_›, 0, Nat.zero_le _, rfl, fun j hj => absurd hj (Nat.not_lt_zero j)⟩

end Earverif.C13
