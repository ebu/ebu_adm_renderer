/- Angles modulo whole turns: what a fuelled `while cond(y): y ±= 360` loop does (`loop_spec`, from the loop's two
   equations, so that it serves each model's own copy of a loop of that shape), what the pair of loops of `geom.relative_angle` /
   `geom.inside_angle_range` leaves (`window`), and the comparison that `inside_angle_range` ends with, said of all
   representatives of the angle (`rep_le_iff`).  Over any ordered field: the models use ℚ and ℝ. -/
import Mathlib.Tactic.Linarith
import Mathlib.Tactic.Ring
import Mathlib.Algebra.Order.Field.Basic

namespace Earverif.Turns
variable {K : Type} [Field K]

/-- `b` is `a` after some steps of `while cond(y): y += c`: whole steps, none if the condition was false at `a`, and
if any was made the condition held one step before `b`.  This is all that the specifications of `relative_angle` /
`inside_angle_range` need to know of a loop, whatever its encoding: `loop_spec` (or a model's own lemma about its loop)
produces it, `window` consumes it.  That the condition is false at `b` is not part of it: `loop_spec` gives that apart,
for enough fuel. -/
def Ran (cond : K → Prop) (c a b : K) : Prop :=
  ∃ k : ℕ, b = a + k * c ∧ (¬ cond a → k = 0) ∧ (k ≠ 0 → cond (b - c))

theorem loop_spec {cond : K → Prop} {c : K} {f : ℕ → K → K} (h0 : ∀ y, f 0 y = y)
    (hs : ∀ n y, cond y → f (n + 1) y = f n (y + c)) (hn : ∀ n y, ¬ cond y → f (n + 1) y = y) :
    ∀ (n : ℕ) (a : K), Ran cond c a (f n a) ∧ (¬ cond (a + n * c) → ¬ cond (f n a))
  | 0, a => by
    rw [h0]
    exact ⟨⟨0, by simp, fun _ => rfl, fun h => absurd rfl h⟩, by simp⟩
  | n + 1, a => by
    by_cases h : cond a
    · rw [hs n a h]
      obtain ⟨⟨k, e, -, p⟩, st⟩ := loop_spec h0 hs hn n (a + c)
      refine ⟨⟨k + 1, by rw [e]; push_cast; ring, fun h' => absurd h h', fun _ => ?_⟩, fun hf => st ?_⟩
      · rcases Nat.eq_zero_or_pos k with rfl | hk
        · rw [e]; simpa using h
        · exact p hk.ne'
      · rwa [show a + c + n * c = a + (n + 1 : ℕ) * c by push_cast; ring]
    · rw [hn n a h]
      exact ⟨⟨0, by simp, fun _ => rfl, fun h' => absurd rfl h'⟩, fun _ => h⟩

variable [LinearOrder K] [IsStrictOrderedRing K]

/-- `y` after a `-= 360` loop (condition `P`, ended at `d`) and a `while d < lo: d += 360` loop (ended at `r`): `r` is `y`
moved by whole turns, at least `lo`, and within the bound `B` that the end of the first loop gives (`≤ lo + 360` for
`while y - 360 > lo`, `< lo + 360` for `>=`; `hB` is the case that the second loop made no step, `hB'` the case that
it made one); nothing moves if `y` needed no step. -/
theorem window {P B : K → Prop} {lo y d r : K} (hB : ∀ z, ¬ P z → B z) (hB' : ∀ z, z < lo + 360 → B z)
    (h1 : Ran P (-360) y d) (s1 : ¬ P d) (h2 : Ran (· < lo) 360 d r) (s2 : ¬ r < lo) :
    (∃ k : ℤ, r = y + 360 * k) ∧ lo ≤ r ∧ B r ∧ (¬ P y → lo ≤ y → r = y) := by
  obtain ⟨k1, e1, z1, -⟩ := h1
  obtain ⟨k2, e2, z2, p2⟩ := h2
  refine ⟨⟨(k2 : ℤ) - k1, by rw [e2, e1]; push_cast; ring⟩, not_lt.mp s2, ?_, fun hy hlo => ?_⟩
  · rcases Nat.eq_zero_or_pos k2 with rfl | hk
    · rw [e2, Nat.cast_zero, zero_mul, add_zero]; exact hB d s1
    · exact hB' r (by linarith [p2 hk.ne'])
  · rw [z1 hy, Nat.cast_zero, zero_mul, add_zero] at e1
    rw [e2, z2 (by rw [e1]; exact not_lt.mpr hlo), e1, Nat.cast_zero, zero_mul, add_zero]

theorem rep_le_iff {lo x r E : K} (hr : ∃ k : ℤ, r = x + 360 * k) (h1 : lo ≤ r) (h2 : r < lo + 360) :
    r ≤ E ↔ ∃ k : ℤ, lo ≤ x + 360 * k ∧ x + 360 * k ≤ E := by
  obtain ⟨k', rfl⟩ := hr
  refine ⟨fun h => ⟨k', h1, h⟩, fun ⟨k, a, b⟩ => le_trans ?_ b⟩
  have h3 : ((k' - k - 1 : ℤ) : K) < 0 := by push_cast; linarith
  have : k' ≤ k := by have := Int.cast_lt.mp (h3.trans_eq Int.cast_zero.symm); omega
  have : (k' : K) ≤ k := Int.cast_le.mpr this
  linarith

theorem rep_unique {lo r s : K} {j : ℤ} (h : r = s + 360 * j) (hr1 : lo ≤ r) (hr2 : r < lo + 360) (hs1 : lo ≤ s)
    (hs2 : s < lo + 360) : r = s :=
  le_antisymm ((rep_le_iff ⟨j, h⟩ hr1 hr2).mpr ⟨0, by simpa using hs1, by simp⟩)
    ((rep_le_iff (x := r) ⟨-j, by rw [h]; push_cast; ring⟩ hs1 hs2).mpr ⟨0, by simpa using hr1, by simp⟩)

end Earverif.Turns
