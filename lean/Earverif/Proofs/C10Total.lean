/- C10, concrete model: which calls `handleC` rejects (lemmas for `Props/C10.lean`).  `cart az el d` is the zero vector
   only for `d = 0` (from C01 `norm3_cart`); the C05 panner answers with one gain per loudspeaker and, on a C05 table,
   for every non-zero position (`PointSource.pspHandle_total_layouts`, Props/C05); `np.interp` on three / four points
   stays between its ordinates, so `compensate_position` keeps the azimuth in [-180, 180]; the Cartesian screen edge
   lock never asserts on the C19 table (`handleVectorCart_total`, from `Conv.pointCartToPolar_total`,
   `Conv.polar_range_partial`, `Conv.pointPolarToCart_total`); where an error of `lateExitC` comes from; what an answer
   and what an error of `handleNoGainC` / `handleC` is made of. -/
import Earverif.Proofs.C10Concrete
import Earverif.Proofs.C01Glue
import Earverif.Proofs.C19Extent
import Earverif.Props.C05

namespace Earverif.DS
open Earverif.GainCalc (V3 k Nonneg)
open Earverif.PointSource (RawLayout RawRegion Region)

/-! ### the zero vector -/

theorem cart_eq_zero_iff (az el d : ℝ) : GainCalc.cart az el d = (0, 0, 0) ↔ d = 0 := by
  constructor
  · intro h
    have hn := GainCalc.norm3_cart az el d
    rw [h] at hn
    simp [GainCalc.norm3] at hn
    exact abs_eq_zero.mp hn.symm
  · rintro rfl
    simp [GainCalc.cart]

/-! ### length of the C05 panner's answer -/

/-- two behind the stereo wrapper -/
theorem pspHandle_length (L : RawLayout) (pos : V3 ℝ) (p : List ℝ) (h : GainCalc.pspHandle L pos = some p) :
    p.length = if L.stereo.isSome then 2 else L.nReal := by
  obtain ⟨roots, -, -, he⟩ := GainCalc.pspHandle_eq_handle L pos
  obtain ⟨regions, v, -, -, hp⟩ := GainCalc.rawHandle_eq_some_iff.mp (he ▸ h)
  cases hs : L.stereo with
  | none =>
    rw [hs] at hp
    obtain rfl := Option.some.inj hp
    -- `downmixRows` has `nReal` rows
    simp [PointSource.normalise, PointSource.matVec, RawLayout.downmixRows]
  | some lr =>
    obtain ⟨a, b⟩ := lr
    rw [hs] at hp
    obtain ⟨out, -, rfl⟩ := Option.map_eq_some_iff.mp hp
    simp [PointSource.scatter_length, PointSource.zeros]

/-! ### the polar fallback answers for every non-zero position -/

theorem fallbackC_polar_total (E : CEnv) (hpsp : E.psp ∈ Earverif.Gen.C05.layouts)
    (hcount : (if E.psp.stereo.isSome then 2 else E.psp.nReal) = (E.L.isLfe.filter (!·)).length)
    (s : Shifted ℝ) (hs : s.polar = true) (hnz : s.pan ≠ (0, 0, 0)) :
    ∃ g, fallbackC E s = .ok g ∧ g.length = (E.L.isLfe.filter (!·)).length := by
  have ht := PointSource.pspHandle_total_layouts E.psp hpsp s.pan hnz
  cases hg : GainCalc.pspHandle E.psp s.pan with
  | none => exact absurd hg ht
  | some g =>
    refine ⟨g, ?_, by rw [pspHandle_length _ _ _ hg, hcount]⟩
    unfold fallbackC
    simp only [hs, if_true, hg]

/-! ### `np.interp` stays between its ordinates; `compensate_position` keeps the azimuth range -/

section interp
open Earverif.Zone Earverif.C13

/-- one segment of `interp4` / `interp3` stays between its two ordinates (`GainCalc.interp_seg_bounds`) -/
theorem interp4_seg_range (x xa xb ya yb lo hi : ℝ) (hab : xa < xb) (h1 : xa ≤ x) (h2 : x ≤ xb)
    (hya : lo ≤ ya ∧ ya ≤ hi) (hyb : lo ≤ yb ∧ yb ≤ hi) :
    lo ≤ Lock.interp4.seg x xa xb ya yb ∧ Lock.interp4.seg x xa xb ya yb ≤ hi := by
  unfold Lock.interp4.seg
  simp only [real_eq, real_add, real_mul, real_div, real_sub, decide_eq_true_eq]
  by_cases h : xa = x
  · rw [if_pos h]; exact hya
  rw [if_neg h]
  exact GainCalc.interp_seg_bounds hab h1 h2 hya hyb

theorem interp4_range (x0 x1 x2 x3 y0 y1 y2 y3 lo hi x : ℝ) (h01 : x0 < x1) (h12 : x1 < x2) (h23 : x2 < x3)
    (hy0 : lo ≤ y0 ∧ y0 ≤ hi) (hy1 : lo ≤ y1 ∧ y1 ≤ hi) (hy2 : lo ≤ y2 ∧ y2 ≤ hi) (hy3 : lo ≤ y3 ∧ y3 ≤ hi) :
    lo ≤ Lock.interp4 x0 x1 x2 x3 y0 y1 y2 y3 x ∧ Lock.interp4 x0 x1 x2 x3 y0 y1 y2 y3 x ≤ hi := by
  unfold Lock.interp4
  simp only [real_lt, real_le, decide_eq_true_eq, Bool.not_eq_true', decide_eq_false_iff_not, not_le]
  by_cases hgt : x3 < x
  · rw [if_pos hgt]; exact hy3
  rw [if_neg hgt]
  by_cases hlt0 : x < x0
  · rw [if_pos hlt0]; exact hy0
  rw [if_neg hlt0]
  by_cases hlt1 : x < x1
  · rw [if_pos hlt1]; exact interp4_seg_range x x0 x1 y0 y1 lo hi h01 (not_lt.mp hlt0) hlt1.le hy0 hy1
  rw [if_neg hlt1]
  by_cases hlt2 : x < x2
  · rw [if_pos hlt2]; exact interp4_seg_range x x1 x2 y1 y2 lo hi h12 (not_lt.mp hlt1) hlt2.le hy1 hy2
  rw [if_neg hlt2]
  by_cases hlt3 : x < x3
  · rw [if_pos hlt3]; exact interp4_seg_range x x2 x3 y2 y3 lo hi h23 (not_lt.mp hlt2) hlt3.le hy2 hy3
  rw [if_neg hlt3]; exact hy3

/-- `interp3` is built from the same segments (`Lock.interp4.seg`) as `interp4`. -/
theorem interp3_range (x0 x1 x2 y0 y1 y2 lo hi x : ℝ) (h01 : x0 < x1) (h12 : x1 < x2)
    (hy0 : lo ≤ y0 ∧ y0 ≤ hi) (hy1 : lo ≤ y1 ∧ y1 ≤ hi) (hy2 : lo ≤ y2 ∧ y2 ≤ hi) :
    lo ≤ CartLock.interp3 x0 x1 x2 y0 y1 y2 x ∧ CartLock.interp3 x0 x1 x2 y0 y1 y2 x ≤ hi := by
  unfold CartLock.interp3
  simp only [real_lt, real_le, decide_eq_true_eq, Bool.not_eq_true', decide_eq_false_iff_not, not_le]
  by_cases hgt : x2 < x
  · rw [if_pos hgt]; exact hy2
  rw [if_neg hgt]
  by_cases hlt0 : x < x0
  · rw [if_pos hlt0]; exact hy0
  rw [if_neg hlt0]
  by_cases hlt1 : x < x1
  · rw [if_pos hlt1]; exact interp4_seg_range x x0 x1 y0 y1 lo hi h01 (not_lt.mp hlt0) hlt1.le hy0 hy1
  rw [if_neg hlt1]
  by_cases hlt2 : x < x2
  · rw [if_pos hlt2]; exact interp4_seg_range x x1 x2 y1 y2 lo hi h12 (not_lt.mp hlt1) hlt2.le hy1 hy2
  rw [if_neg hlt2]; exact hy2

/-- `compensate_position` keeps an azimuth of [-180, 180] in [-180, 180] (with U+045 in the layout it maps EVERY
    azimuth into that range: `np.interp` clamps). -/
theorem compensate_az_range (hasU045 : Bool) (az el : ℝ) (h1 : -180 ≤ az) (h2 : az ≤ 180) :
    -180 ≤ (CartLock.compensatePosition hasU045 az el).1 ∧ (CartLock.compensatePosition hasU045 az el).1 ≤ 180 := by
  unfold CartLock.compensatePosition
  cases hasU045 with
  | false => exact ⟨h1, h2⟩
  | true =>
    simp only [if_true, real_ofNat, real_sub, real_zero, real_mul, real_div]
    -- `compensate_position`'s tables: right_az = interp(el, [0, 30, 90], [30, 20, 30]) lies in [20, 30], and
    -- new_az = interp(az, [-180, -30, 30, 180], [-180, -right_az, right_az, 180]) has all ordinates in [-180, 180]
    have hr := interp3_range ((0 : ℕ) : ℝ) ((30 : ℕ) : ℝ) ((90 : ℕ) : ℝ) ((30 : ℕ) : ℝ)
      (((30 : ℕ) : ℝ) * (((30 : ℕ) : ℝ) / ((45 : ℕ) : ℝ))) ((30 : ℕ) : ℝ) 20 30 el
      (by norm_num) (by norm_num) (by norm_num) (by norm_num) (by norm_num)
    set r := CartLock.interp3 ((0 : ℕ) : ℝ) ((30 : ℕ) : ℝ) ((90 : ℕ) : ℝ) ((30 : ℕ) : ℝ)
      (((30 : ℕ) : ℝ) * (((30 : ℕ) : ℝ) / ((45 : ℕ) : ℝ))) ((30 : ℕ) : ℝ) el
    exact interp4_range _ _ _ _ _ _ _ _ (-180) 180 az (by norm_num) (by norm_num) (by norm_num)
      (by norm_num) (by constructor <;> linarith [hr.1, hr.2]) (by constructor <;> linarith [hr.1, hr.2]) (by norm_num)

end interp

/-! ### the Cartesian screen edge lock never asserts -/

/-- the table's screen edges are azimuths of [-180, 180] (decidable; discharged for the ten layouts in Props/C10) -/
def edgesOkB (E : CEnv) : Bool :=
  match E.G.edges with
  | none => true
  | some e => decide (-180 ≤ e.left) && decide (e.left ≤ 180) && decide (-180 ≤ e.right) && decide (e.right ≤ 180)

theorem lockEdgeC_az_cases (e : ScreenEdges) (az el : ℝ) (sel : ScreenEdgeLock) :
    (lockEdgeC e az el sel).1 = ((e.left : Rat) : ℝ) ∨ (lockEdgeC e az el sel).1 = ((e.right : Rat) : ℝ) ∨
      (lockEdgeC e az el sel).1 = az := by
  unfold lockEdgeC
  simp only [GainCalc.k_real]
  split_ifs <;> simp

/-- `ScreenEdgeLockHandler.handle_vector(…, cartesian=True)` never asserts on the C19 table (`Conv.RP`, any fuel ≥ 1):
    `point_cart_to_polar` finds a sector for every point, its azimuth is in [-180, 180), the locked azimuth is a table
    edge or that azimuth, `compensate_position` keeps the range, so `point_polar_to_cart` finds a sector. -/
theorem handleVectorCart_total (E : CEnv) (hE : edgesOkB E = true) (m : Nat) (p : V3 ℝ) (sel : ScreenEdgeLock) :
    ∃ q, handleVectorCart E (Conv.RP (m + 1)) p sel = some q := by
  unfold handleVectorCart
  unfold edgesOkB at hE
  cases he : E.G.edges with
  | none => exact ⟨p, rfl⟩
  | some e =>
    rw [he] at hE
    simp only [Bool.and_eq_true, decide_eq_true_eq] at hE
    obtain ⟨⟨⟨hl1, hl2⟩, hr1⟩, hr2⟩ := hE
    simp only
    split
    · obtain ⟨⟨⟨az, el, d⟩, i⟩, hr⟩ := Conv.pointCartToPolar_total m p.1 p.2.1 p.2.2
      rw [hr]
      simp only
      have hrange := Conv.polar_range_partial (Conv.RP (m + 1)) (by rw [(Conv.RP_consts (m + 1)).2.2.1]; omega)
        (Conv.RP_consts (m + 1)).2.2.2 (Conv.RP_el (m + 1)).1 (Conv.RP_el (m + 1)).2.1 (Conv.RP_el (m + 1)).2.2.1
        (Conv.RP_el (m + 1)).2.2.2 p.1 p.2.1 p.2.2 az el d i hr
      have hlaz : -180 ≤ (lockEdgeC e az el sel).1 ∧ (lockEdgeC e az el sel).1 ≤ 180 := by
        rcases lockEdgeC_az_cases e az el sel with h | h | h <;> rw [h]
        · exact ⟨by exact_mod_cast hl1, by exact_mod_cast hl2⟩
        · exact ⟨by exact_mod_cast hr1, by exact_mod_cast hr2⟩
        · exact ⟨hrange.1.1, hrange.1.2.le⟩
      have hc := compensate_az_range E.hasU045 (lockEdgeC e az el sel).1 (lockEdgeC e az el sel).2 hlaz.1 hlaz.2
      obtain ⟨r, hr'⟩ := Conv.pointPolarToCart_total m
        (CartLock.compensatePosition E.hasU045 (lockEdgeC e az el sel).1 (lockEdgeC e az el sel).2).1
        (CartLock.compensatePosition E.hasU045 (lockEdgeC e az el sel).1 (lockEdgeC e az el sel).2).2 d hc.1 hc.2
      exact ⟨r.1, by rw [hr']; rfl⟩
    · exact ⟨p, rfl⟩

/-! ### where an error comes from -/

/-- an error of the exits after the label match: the block is not an LFE channel, and either the fallback panner
    failed with that error or it answered with the wrong number of gains -/
theorem lateExitC_error {L : Layout} {lfe : Bool} {wb : List Bool} {cl : Option Nat}
    {fb : Unit → Except CError (List ℝ)} {err : CError} (h : lateExitC L lfe wb cl fb = .error err) :
    lfe = false ∧ (fb () = .error err ∨ ∃ g, fb () = .ok g ∧ scatterC L.isLfe g = none ∧ err = .ds .pspShape) := by
  unfold lateExitC at h
  simp only at h
  split at h
  · cases h
  · split at h
    · split at h <;> cases h
    · rename_i hlfe
      refine ⟨by simpa using hlfe, ?_⟩
      split at h
      · rename_i e he
        cases h
        exact Or.inl he
      · rename_i g hg
        split at h
        · cases h
        · rename_i hsc
          cases h
          exact Or.inr ⟨g, hg, hsc, rfl⟩

/-! ### `handleNoGainC`, `handleC` taken apart -/

section
-- `I` is the `itu_packs` table (`P` in Proofs/C10.lean); `P` here is the conversion parameters
variable {R : List MappingRule} {I : List (String × String)} {E : CEnv} {P : Conv.Params ℝ} {b : Block} {pos : PositionC}
  {tol : Rat} {e : Exit} {pv : List ℝ} {err : CError}

/-- The concrete model returns the vector of an early exit, or shifts the position and returns what the exits after
    the label match return. -/
theorem handleNoGainC_ok (h : handleNoGainC R I E P b pos tol = .ok (e, pv)) :
    (∃ pvQ, earlyExit R I E.L b = .ok (some (e, pvQ)) ∧ pv = castV pvQ) ∨
    (∃ s, shift E P pos tol = .ok s ∧
      lateExitC E.L (isLfeChannel b) s.wb
        (closestIndexC s.positions s.cart (candidates E.L (isLfeChannel b) s.wb) (GainCalc.k tol))
        (fun _ => fallbackC E s) = .ok (e, pv)) := by
  unfold handleNoGainC at h
  split at h
  · cases h
  · split at h
    · cases h
    · rename_i r hr
      cases h
      exact Or.inl ⟨r.2, hr, rfl⟩
    · split at h
      · cases h
      · rename_i s hs
        exact Or.inr ⟨s, hs, h⟩

/-- it fails at the positionOffset test, in an early exit, in the screen edge lock, or in the exits after the label match -/
theorem handleNoGainC_error (h : handleNoGainC R I E P b pos tol = .error err) :
    (err = .ds .positionOffset ∧ b.hasPositionOffset = true) ∨
    (∃ e', earlyExit R I E.L b = .error e' ∧ err = .ds e') ∨
    shift E P pos tol = .error err ∨
    (∃ s, shift E P pos tol = .ok s ∧
      lateExitC E.L (isLfeChannel b) s.wb
        (closestIndexC s.positions s.cart (candidates E.L (isLfeChannel b) s.wb) (GainCalc.k tol))
        (fun _ => fallbackC E s) = .error err) := by
  unfold handleNoGainC at h
  split at h
  · rename_i hoff
    cases h
    exact Or.inl ⟨rfl, hoff⟩
  · split at h
    · rename_i e' he
      cases h
      exact Or.inr (Or.inl ⟨e', he, rfl⟩)
    · cases h
    · split at h
      · rename_i e' hs
        cases h
        exact Or.inr (Or.inr (Or.inl hs))
      · rename_i s hs
        exact Or.inr (Or.inr (Or.inr ⟨s, hs, h⟩))

theorem handleC_ok (h : handleC R I E P b pos tol = .ok (e, pv)) :
    ∃ pv0, handleNoGainC R I E P b pos tol = .ok (e, pv0) ∧ pv = scaleC b pv0 := by
  unfold handleC at h
  split at h
  · cases h
  · rename_i e' pv0 h0
    cases h
    exact ⟨pv0, h0, rfl⟩

end

end Earverif.DS
