/-
`List.mapM` into `Option` and into `Except ε`: the loop succeeds with `out` iff mapping `f` over the input gives the
successes `out`, entry by entry (`mapM_some_iff`, `mapM_ok_iff`); if it fails with `e`, some element does
(`mapM_error_mem`).  What proofs need about lengths, entries and members is then read off `List.map`
(`length_of_map_eq`, …); for `Option`, where many proofs in several properties want them, the same facts also stand
directly on the loop (`mapM_some_length`, …).  Names: `mapM_some_…` speaks of a run into `Option` that succeeded,
`mapM_ok_…` / `mapM_error_…` of a run into `Except`; of a pair of directions the plain name goes from an entry of the
input to the result, `…_rev` from an entry of the result back.  What the first hypothesis determines is implicit (the
iffs take `f l out` explicitly, for `rw`).  `mapM_eq_pure_map`: in any lawful monad a pass of pure calls is a `map`.
Core Lean only.  The model's hand-written loops (`FileRenderLayout.mapE`, `Zone.mapOpt`, …) are `List.mapM`; each has its
`…_eq_mapM` next to its users.
-/

namespace Earverif

universe u v w

theorem mapM_eq_pure_map {m : Type u → Type v} [Monad m] [LawfulMonad m] {α : Type w} {β : Type u} {f : α → m β}
    {g : α → β} :
    ∀ {l : List α}, (∀ a ∈ l, f a = pure (g a)) → l.mapM f = pure (l.map g)
  | [], _ => rfl
  | a :: l, h => by
    rw [List.mapM_cons, h a (by simp), mapM_eq_pure_map fun b hb => h b (by simp [hb])]
    simp

/-! ### two lists mapped to the same list: `l.map f = out.map c` (`c = some`, `c = Except.ok`) -/

section MapEq
variable {α β γ : Type _} {f : α → γ} {c : β → γ} {l : List α} {out : List β}

theorem length_of_map_eq (h : l.map f = out.map c) : out.length = l.length := by
  simpa using (congrArg List.length h).symm

theorem getElem?_of_map_eq (h : l.map f = out.map c) (k : Nat) : l[k]?.map f = out[k]?.map c := by
  simpa using congrArg (·[k]?) h

theorem mem_of_map_eq (h : l.map f = out.map c) {a : α} (ha : a ∈ l) : ∃ r ∈ out, f a = c r := by
  obtain ⟨r, hr, e⟩ := List.mem_map.mp (h ▸ List.mem_map.mpr ⟨a, ha, rfl⟩)
  exact ⟨r, hr, e.symm⟩

theorem mem_of_map_eq_rev (h : l.map f = out.map c) {r : β} (hr : r ∈ out) : ∃ a ∈ l, f a = c r :=
  List.mem_map.mp (h ▸ List.mem_map.mpr ⟨r, hr, rfl⟩)

theorem map_eq_map_of_map_eq {δ : Type _} {g : β → δ} {g' : α → δ} (hg : ∀ a b, f a = c b → g b = g' a) :
    ∀ {l : List α} {out : List β}, l.map f = out.map c → out.map g = l.map g'
  | [], [], _ => rfl
  | [], _ :: _, h => nomatch h
  | _ :: _, [], h => nomatch h
  | a :: l, b :: out, h => by
    rw [List.map_cons, List.map_cons, List.cons.injEq] at h
    rw [List.map_cons, List.map_cons, hg a b h.1, map_eq_map_of_map_eq hg h.2]

end MapEq

theorem mapM_some_iff {α β : Type _} (f : α → Option β) : ∀ (l : List α) (out : List β),
    l.mapM f = some out ↔ l.map f = out.map some
  | [], out => by cases out <;> simp
  | a :: l, out => by
    simp only [List.mapM_cons, Option.bind_eq_bind, Option.pure_def, Option.bind_eq_some_iff, Option.some.injEq,
      List.map_cons]
    constructor
    · rintro ⟨c, hc, cs, hcs, rfl⟩
      rw [hc, (mapM_some_iff f l cs).mp hcs]
      rfl
    · intro h
      cases out with
      | nil => simp at h
      | cons c cs =>
        simp only [List.map_cons, List.cons.injEq] at h
        exact ⟨c, h.1, cs, (mapM_some_iff f l cs).mpr h.2, rfl⟩

theorem mapM_some_cons {α β : Type _} {f : α → Option β} {a : α} {l : List α} {out : List β}
    (h : (a :: l).mapM f = some out) : ∃ b bs, f a = some b ∧ l.mapM f = some bs ∧ out = b :: bs := by
  rw [mapM_some_iff] at h
  cases out with
  | nil => cases h
  | cons b bs =>
    rw [List.map_cons, List.map_cons, List.cons.injEq] at h
    exact ⟨b, bs, h.1, (mapM_some_iff f l bs).mpr h.2, rfl⟩

theorem mapM_some_length {α β : Type _} {f : α → Option β} {l : List α} {out : List β} (h : l.mapM f = some out) :
    out.length = l.length :=
  length_of_map_eq ((mapM_some_iff f l out).mp h)

theorem mapM_some_getElem? {α β : Type _} {f : α → Option β} {l : List α} {out : List β} (h : l.mapM f = some out)
    (k : Nat) (a : α) (hk : l[k]? = some a) : ∃ b, out[k]? = some b ∧ f a = some b := by
  have := getElem?_of_map_eq ((mapM_some_iff f l out).mp h) k
  rw [hk, Option.map_some] at this
  obtain ⟨b, hb, e⟩ := Option.map_eq_some_iff.mp this.symm
  exact ⟨b, hb, e.symm⟩

theorem mapM_some_getElem?_rev {α β : Type _} {f : α → Option β} {l : List α} {out : List β} (h : l.mapM f = some out)
    (k : Nat) (b : β) (hk : out[k]? = some b) : ∃ a, l[k]? = some a ∧ f a = some b := by
  have := getElem?_of_map_eq ((mapM_some_iff f l out).mp h) k
  rw [hk, Option.map_some] at this
  exact Option.map_eq_some_iff.mp this

theorem mapM_some_mem_rev {α β : Type _} {f : α → Option β} {l : List α} {out : List β} (h : l.mapM f = some out) :
    ∀ b ∈ out, ∃ a ∈ l, f a = some b :=
  fun _ hb => mem_of_map_eq_rev ((mapM_some_iff f l out).mp h) hb

theorem mapM_some_eq_filterMap {α β : Type _} {f : α → Option β} {l : List α} {out : List β} (h : l.mapM f = some out) :
    out = l.filterMap f := by
  simpa [List.filterMap_map] using (congrArg (List.filterMap id) ((mapM_some_iff f l out).mp h)).symm

theorem mapM_some_of_forall {α β : Type _} (f : α → Option β) (l : List α) (h : ∀ a ∈ l, ∃ b, f a = some b) :
    ∃ out, l.mapM f = some out := by
  induction l with
  | nil => exact ⟨[], rfl⟩
  | cons a l ih =>
    obtain ⟨b, hb⟩ := h a (by simp)
    obtain ⟨bs, hbs⟩ := ih fun x hx => h x (by simp [hx])
    exact ⟨b :: bs, by rw [List.mapM_cons, hb, hbs]; rfl⟩

theorem mapM_ok_iff {ε α β : Type _} (f : α → Except ε β) : ∀ (l : List α) (out : List β),
    l.mapM f = .ok out ↔ l.map f = out.map .ok
  | [], out => by cases out <;> simp [pure, Except.pure]
  | a :: l, out => by
    rw [List.mapM_cons, List.map_cons]
    cases ha : f a with
    | error e => cases out <;> simp [bind, Except.bind]
    | ok b =>
      cases hl : l.mapM f with
      | error e =>
        have := mapM_ok_iff f l
        cases out with
        | nil => simp [bind, Except.bind]
        | cons c cs =>
          simp only [bind, Except.bind, reduceCtorEq, List.map_cons, List.cons.injEq, false_iff, not_and]
          intro _ h; rw [(this cs).mpr h] at hl; cases hl
      | ok bs =>
        have := (mapM_ok_iff f l bs).mp hl
        cases out with
        | nil => simp [bind, Except.bind, pure, Except.pure]
        | cons c cs =>
          simp only [bind, Except.bind, pure, Except.pure, Except.ok.injEq, List.cons.injEq, List.map_cons, this]
          constructor
          · rintro ⟨rfl, rfl⟩; exact ⟨rfl, rfl⟩
          · rintro ⟨h1, h2⟩
            exact ⟨h1, (List.map_inj_right fun _ _ h => Except.ok.inj h).mp h2⟩

theorem mapM_error_mem {ε α β : Type _} {f : α → Except ε β} {e : ε} :
    ∀ {l : List α}, l.mapM f = .error e → ∃ a ∈ l, f a = .error e
  | [], h => nomatch h
  | a :: l, h => by
    rw [List.mapM_cons] at h
    cases ha : f a with
    | error e' => rw [ha] at h; exact ⟨a, List.mem_cons_self, Except.error.inj h ▸ ha⟩
    | ok b =>
      rw [ha] at h
      cases hl : l.mapM f with
      | ok bs => rw [hl] at h; nomatch h
      | error e' =>
        rw [hl] at h
        obtain ⟨x, hx, hfx⟩ := mapM_error_mem hl
        exact ⟨x, List.mem_cons_of_mem a hx, Except.error.inj h ▸ hfx⟩

theorem mapM_ok_of_forall {ε α β : Type _} {f : α → Except ε β} {l : List α} (h : ∀ a ∈ l, ∃ b, f a = .ok b) :
    ∃ out, l.mapM f = .ok out := by
  cases hm : l.mapM f with
  | ok out => exact ⟨out, rfl⟩
  | error e =>
    obtain ⟨a, ha, he⟩ := mapM_error_mem hm
    obtain ⟨b, hb⟩ := h a ha
    rw [hb] at he; cases he

end Earverif
