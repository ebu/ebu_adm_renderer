/- C05, Stage 1 — a certificate-based covering theorem (pure geometry over ℝ).

   Cells `k` with an outward normal `n_k`, an offset `c_k > 0` and three vertices (or four coplanar ones, in cyclic
   order) on the plane `n_k · x = c_k`; for every edge of a cell some cell `j` of the list whose plane contains
   the two vertices of the edge and has the remaining vertex STRICTLY inside (`n_j · v < c_j`).  If the normals sum
   to zero and three of them are linearly independent, then every `p ≠ 0` lies in the vertex cone of some cell
   (`cover_of_cells`).  The normals are not unit vectors: the certificates use the cross products of the edges
   (`Cover.rawNormal`: twice the area vector of the cell), which sum to zero over any closed surface and are integers on
   the scaled tables.

   Proof: some `n_k · p > 0` (else all are 0 and `p = 0`); take `k` maximising `(n_k · p) / c_k =: λ > 0`; then
   `x = p / λ` is on the plane of `k` and inside every plane `j`; in affine coordinates of the triangle,
   `D (n_j·x − c_j) = γ (n_j·v₃ − c_j)` for the neighbour across the edge opposite `v₃`, so `γ / D ≥ 0`; likewise for
   the other two.  A coplanar quad is cut along the diagonal `v₁v₃`; the sign of the coordinate across the diagonal
   decides which of the two triangles contains `x`. -/
import Earverif.Proofs.PointSourceReal

namespace Earverif.PointSource.Cover
open Earverif.PointSource

/-- `p` is a non-negative combination of `a b c` -/
def InCone3 (a b c p : Vec3 ℝ) : Prop :=
  ∃ s t u : ℝ, 0 ≤ s ∧ 0 ≤ t ∧ 0 ≤ u ∧ p = comb3 s t u (a, b, c)

theorem InCone3.smul {a b c p : Vec3 ℝ} (h : InCone3 a b c p) {l : ℝ} (hl : 0 ≤ l) : InCone3 a b c (smul3 l p) := by
  obtain ⟨s, t, u, hs, ht, hu, rfl⟩ := h
  refine ⟨l * s, l * t, l * u, mul_nonneg hl hs, mul_nonneg hl ht, mul_nonneg hl hu, ?_⟩
  simp only [comb3, add3, smul3]
  refine Prod.ext ?_ (Prod.ext ?_ ?_) <;> simp only <;> ring

theorem cramer_dot (w1 w2 w3 x m : Vec3 ℝ) :
    det3 (w1, w2, w3) * dot3 m x =
      det3 (x, w2, w3) * dot3 m w1 + det3 (w1, x, w3) * dot3 m w2 + det3 (w1, w2, x) * dot3 m w3 := by
  simp only [det3, dot3]; ring

theorem cramer_vec (w1 w2 w3 x : Vec3 ℝ) (hD : det3 (w1, w2, w3) ≠ 0) :
    x = comb3 (det3 (x, w2, w3) / det3 (w1, w2, w3)) (det3 (w1, x, w3) / det3 (w1, w2, w3))
      (det3 (w1, w2, x) / det3 (w1, w2, w3)) (w1, w2, w3) := by
  have := comb3_pv (w1, w2, w3) hD x
  rw [pv_cramer] at this
  exact this.symm

theorem eq_zero_of_dots (a b c p : Vec3 ℝ) (hD : det3 (a, b, c) ≠ 0) (ha : dot3 a p = 0) (hb : dot3 b p = 0)
    (hc : dot3 c p = 0) : p = (0, 0, 0) := by
  obtain ⟨a0, a1, a2⟩ := a
  obtain ⟨b0, b1, b2⟩ := b
  obtain ⟨c0, c1, c2⟩ := c
  obtain ⟨p0, p1, p2⟩ := p
  simp only [det3, dot3] at *
  have e0 : (a0 * (b1 * c2 - b2 * c1) - a1 * (b0 * c2 - b2 * c0) + a2 * (b0 * c1 - b1 * c0)) * p0 = 0 := by
    linear_combination (b1 * c2 - b2 * c1) * ha + (c1 * a2 - c2 * a1) * hb + (a1 * b2 - a2 * b1) * hc
  have e1 : (a0 * (b1 * c2 - b2 * c1) - a1 * (b0 * c2 - b2 * c0) + a2 * (b0 * c1 - b1 * c0)) * p1 = 0 := by
    linear_combination (b2 * c0 - b0 * c2) * ha + (c2 * a0 - c0 * a2) * hb + (a2 * b0 - a0 * b2) * hc
  have e2 : (a0 * (b1 * c2 - b2 * c1) - a1 * (b0 * c2 - b2 * c0) + a2 * (b0 * c1 - b1 * c0)) * p2 = 0 := by
    linear_combination (b0 * c1 - b1 * c0) * ha + (c0 * a1 - c1 * a0) * hb + (a0 * b1 - a1 * b0) * hc
  rw [(mul_eq_zero.mp e0).resolve_left hD, (mul_eq_zero.mp e1).resolve_left hD, (mul_eq_zero.mp e2).resolve_left hD]

theorem det3_rot (a b c : Vec3 ℝ) : det3 (b, c, a) = det3 (a, b, c) := by
  simp only [det3]; ring

theorem det3_rot2 (a b c : Vec3 ℝ) : det3 (c, a, b) = det3 (a, b, c) := (det3_rot c a b).symm

theorem det3_swap23 (a b c : Vec3 ℝ) : det3 (a, c, b) = -det3 (a, b, c) := by
  simp only [det3]; ring

/-- `x` on the plane `(n, c)` of the triangle `w₁w₂w₃`, inside the plane `(nj, cj)` which contains `w₁`, `w₂` and has
    `w₃` strictly inside: the affine coordinate of `x` at `w₃` is non-negative. -/
theorem edge_coord_nonneg (w1 w2 w3 x n nj : Vec3 ℝ) (c cj : ℝ) (hc : c ≠ 0) (h1 : dot3 n w1 = c) (h2 : dot3 n w2 = c)
    (h3 : dot3 n w3 = c) (hx : dot3 n x = c) (j1 : dot3 nj w1 = cj) (j2 : dot3 nj w2 = cj) (j3 : dot3 nj w3 < cj)
    (jx : dot3 nj x ≤ cj) (hD : det3 (w1, w2, w3) ≠ 0) : 0 ≤ det3 (w1, w2, x) / det3 (w1, w2, w3) := by
  have k1 := cramer_dot w1 w2 w3 x n
  have k2 := cramer_dot w1 w2 w3 x nj
  rw [h1, h2, h3, hx] at k1
  rw [j1, j2] at k2
  set D := det3 (w1, w2, w3) with hDdef
  set a := det3 (x, w2, w3)
  set b := det3 (w1, x, w3)
  set g := det3 (w1, w2, x)
  have hsum : a + b + g = D := by
    have : (a + b + g - D) * c = 0 := by linear_combination -k1
    have := (mul_eq_zero.mp this).resolve_right hc
    linarith
  have hmu : dot3 nj w3 - cj < 0 := by linarith
  have key : g * (dot3 nj w3 - cj) = D * (dot3 nj x - cj) := by
    have : a + b = D - g := by linarith
    linear_combination -k2 - cj * this
  have : g / D = (dot3 nj x - cj) / (dot3 nj w3 - cj) := by
    rw [div_eq_div_iff hD hmu.ne]
    linear_combination key
  rw [this]
  exact div_nonneg_of_nonpos (by linarith) hmu.le

structure GCell where
  n : Vec3 ℝ
  c : ℝ
  /-- three vertices, or four coplanar ones in cyclic order -/
  vs : List (Vec3 ℝ)

/-- `p` is in the vertex cone of the cell (of one of the two triangles of a quad) -/
def GCell.Covers (k : GCell) (p : Vec3 ℝ) : Prop :=
  match k.vs with
  | [a, b, c] => InCone3 a b c p
  | [a, b, c, d] => InCone3 a b c p ∨ InCone3 a c d p
  | _ => False

/-- some cell's plane contains `w₁`, `w₂` and has `w₃` strictly inside -/
def EdgeOk (cells : List GCell) (w1 w2 w3 : Vec3 ℝ) : Prop :=
  ∃ j ∈ cells, dot3 j.n w1 = j.c ∧ dot3 j.n w2 = j.c ∧ dot3 j.n w3 < j.c

/-- quad case: for the edges `cd`, `da` the vertex that has to be strictly inside is the other end of the diagonal `ac`,
    along which `local_covers` cuts the quad -/
def GCell.LocalOk (cells : List GCell) (k : GCell) : Prop :=
  match k.vs with
  | [a, b, c] =>
    dot3 k.n a = k.c ∧ dot3 k.n b = k.c ∧ dot3 k.n c = k.c ∧ det3 (a, b, c) ≠ 0 ∧
    EdgeOk cells a b c ∧ EdgeOk cells b c a ∧ EdgeOk cells c a b
  | [a, b, c, d] =>
    dot3 k.n a = k.c ∧ dot3 k.n b = k.c ∧ dot3 k.n c = k.c ∧ dot3 k.n d = k.c ∧
    0 < det3 (a, b, c) * det3 (a, c, d) ∧
    EdgeOk cells a b c ∧ EdgeOk cells b c a ∧ EdgeOk cells c d a ∧ EdgeOk cells d a c
  | _ => False

theorem GCell.Covers.smul {k : GCell} {p : Vec3 ℝ} (h : k.Covers p) {l : ℝ} (hl : 0 ≤ l) : k.Covers (smul3 l p) := by
  unfold GCell.Covers at *
  split
  · rename_i a b c hv; rw [hv] at h; exact InCone3.smul h hl
  · rename_i a b c d hv; rw [hv] at h
    exact h.imp (fun h => InCone3.smul h hl) (fun h => InCone3.smul h hl)
  · rename_i h3 h4
    split at h
    · rename_i hv; exact (h3 _ _ _ hv).elim
    · rename_i hv; exact (h4 _ _ _ _ hv).elim
    · exact h

theorem tri_local (cells : List GCell) (n : Vec3 ℝ) (off : ℝ) (hoff : 0 < off) (a b c x : Vec3 ℝ)
    (ha : dot3 n a = off) (hb : dot3 n b = off) (hc : dot3 n c = off) (hD : det3 (a, b, c) ≠ 0)
    (e1 : EdgeOk cells a b c) (e2 : EdgeOk cells b c a) (e3 : EdgeOk cells c a b)
    (hx : dot3 n x = off) (hin : ∀ j ∈ cells, dot3 j.n x ≤ j.c) : InCone3 a b c x := by
  obtain ⟨j1, hj1, p1, p2, p3⟩ := e1
  obtain ⟨j2, hj2, q1, q2, q3⟩ := e2
  obtain ⟨j3, hj3, r1, r2, r3⟩ := e3
  have g1 := edge_coord_nonneg a b c x n j1.n off j1.c hoff.ne' ha hb hc hx p1 p2 p3 (hin j1 hj1) hD
  have g2 := edge_coord_nonneg b c a x n j2.n off j2.c hoff.ne' hb hc ha hx q1 q2 q3 (hin j2 hj2)
    (by rw [det3_rot]; exact hD)
  have g3 := edge_coord_nonneg c a b x n j3.n off j3.c hoff.ne' hc ha hb hx r1 r2 r3 (hin j3 hj3)
    (by rw [det3_rot2]; exact hD)
  rw [det3_rot a b c, det3_rot x b c] at g2
  rw [det3_rot2 a b c, det3_rot2 a x c] at g3
  exact ⟨_, _, _, g2, g3, g1, cramer_vec a b c x hD⟩

theorem local_covers (cells : List GCell) (k : GCell) (hpos : 0 < k.c) (hl : k.LocalOk cells) (x : Vec3 ℝ)
    (hx : dot3 k.n x = k.c) (hin : ∀ j ∈ cells, dot3 j.n x ≤ j.c) : k.Covers x := by
  unfold GCell.LocalOk at hl
  unfold GCell.Covers
  split at hl
  · rename_i a b c hv
    obtain ⟨ha, hb, hc, hD, e1, e2, e3⟩ := hl
    exact tri_local cells k.n k.c hpos a b c x ha hb hc hD e1 e2 e3 hx hin
  · rename_i a b c d hv
    obtain ⟨ha, hb, hc, hd, hDD, e1, e2, e3, e4⟩ := hl
    have hD : det3 (a, b, c) ≠ 0 := left_ne_zero_of_mul hDD.ne'
    have hD' : det3 (a, c, d) ≠ 0 := right_ne_zero_of_mul hDD.ne'
    obtain ⟨j1, hj1, p1, p2, p3⟩ := e1
    obtain ⟨j2, hj2, q1, q2, q3⟩ := e2
    obtain ⟨j3, hj3, r1, r2, r3⟩ := e3
    obtain ⟨j4, hj4, s1, s2, s3⟩ := e4
    -- triangle (a, b, c): coordinates at c (edge ab) and at a (edge bc)
    have g1 := edge_coord_nonneg a b c x k.n j1.n k.c j1.c hpos.ne' ha hb hc hx p1 p2 p3 (hin j1 hj1) hD
    have g2 := edge_coord_nonneg b c a x k.n j2.n k.c j2.c hpos.ne' hb hc ha hx q1 q2 q3 (hin j2 hj2)
      (by rw [det3_rot]; exact hD)
    rw [det3_rot a b c, det3_rot x b c] at g2
    -- triangle (a, c, d): coordinates at a (edge cd) and at c (edge da)
    have g3 := edge_coord_nonneg c d a x k.n j3.n k.c j3.c hpos.ne' hc hd ha hx r1 r2 r3 (hin j3 hj3)
      (by rw [det3_rot]; exact hD')
    rw [det3_rot a c d, det3_rot x c d] at g3
    have g4 := edge_coord_nonneg d a c x k.n j4.n k.c j4.c hpos.ne' hd ha hc hx s1 s2 s3 (hin j4 hj4)
      (by rw [det3_rot2]; exact hD')
    rw [det3_rot2 a c d, det3_rot2 a x d] at g4
    by_cases hb0 : 0 ≤ det3 (a, x, c) / det3 (a, b, c)
    · exact Or.inl ⟨_, _, _, g2, hb0, g1, cramer_vec a b c x hD⟩
    · refine Or.inr ⟨_, _, _, g3, g4, ?_, cramer_vec a c d x hD'⟩
      -- the coordinate at d in (a, c, d) is −(coordinate at b in (a, b, c)) · D / D'
      have hneg : det3 (a, x, c) / det3 (a, b, c) < 0 := not_le.mp hb0
      have hsw : det3 (a, c, x) = -det3 (a, x, c) := det3_swap23 a x c
      rw [hsw]
      have hq : 0 < det3 (a, b, c) / det3 (a, c, d) := by
        rcases (mul_pos_iff.mp hDD) with ⟨h1, h2⟩ | ⟨h1, h2⟩
        · exact div_pos h1 h2
        · exact div_pos_of_neg_of_neg h1 h2
      have : -det3 (a, x, c) / det3 (a, c, d) = -(det3 (a, x, c) / det3 (a, b, c)) * (det3 (a, b, c) / det3 (a, c, d)) := by
        field_simp
      rw [this]
      exact (mul_pos (by linarith) hq).le
  · exact hl

noncomputable def sumN : List GCell → Vec3 ℝ
  | [] => (0, 0, 0)
  | k :: ks => add3 k.n (sumN ks)

theorem dot3_sumN (p : Vec3 ℝ) : ∀ cells : List GCell, dot3 (sumN cells) p = (cells.map fun k => dot3 k.n p).sum
  | [] => by simp [sumN, dot3]
  | k :: ks => by
    have ih := dot3_sumN p ks
    simp only [sumN, List.map_cons, List.sum_cons, ← ih]
    generalize sumN ks = s
    obtain ⟨n0, n1, n2⟩ := k.n
    simp only [dot3, add3]; ring

theorem exists_pos_normal (cells : List GCell) (hsum : sumN cells = (0, 0, 0))
    (hspan : ∃ a ∈ cells, ∃ b ∈ cells, ∃ c ∈ cells, det3 (a.n, b.n, c.n) ≠ 0) (p : Vec3 ℝ) (hp : p ≠ (0, 0, 0)) :
    ∃ k ∈ cells, 0 < dot3 k.n p := by
  by_contra hcon
  simp only [not_exists, not_and, not_lt] at hcon
  have hs := dot3_sumN p cells
  rw [hsum] at hs
  -- the components are `≤ 0` and sum to `0`, so all vanish
  have hall : ∀ k ∈ cells, dot3 k.n p = 0 := fun k hk => neg_eq_zero.mp <|
    List.all_zero_of_le_zero_le_of_sum_eq_zero (l := (cells.map fun k => dot3 k.n p).map fun x => -x)
      (by simpa using hcon) (by rw [← List.sum_neg, ← hs]; simp [dot3])
      (List.mem_map.mpr ⟨_, List.mem_map.mpr ⟨k, hk, rfl⟩, rfl⟩)
  obtain ⟨a, ha, b, hb, c, hc, hD⟩ := hspan
  exact hp (eq_zero_of_dots a.n b.n c.n p hD (hall a ha) (hall b hb) (hall c hc))

theorem dot3_smul (n p : Vec3 ℝ) (l : ℝ) : dot3 n (smul3 l p) = l * dot3 n p := by
  simp only [dot3, smul3]; ring

theorem smul3_smul3 (p : Vec3 ℝ) (l m : ℝ) (h : l * m = 1) : smul3 l (smul3 m p) = p := by
  simp only [smul3]
  refine Prod.ext ?_ (Prod.ext ?_ ?_) <;> simp only <;> rw [← mul_assoc, h, one_mul]

/-- **Stage 1: the covering theorem.**  Cells with positive offsets, satisfying the local (edge) conditions, whose
    normals sum to zero and span the space: every non-zero vector lies in the vertex cone of some cell. -/
theorem cover_of_cells (cells : List GCell) (hpos : ∀ k ∈ cells, 0 < k.c) (hlocal : ∀ k ∈ cells, k.LocalOk cells)
    (hsum : sumN cells = (0, 0, 0))
    (hspan : ∃ a ∈ cells, ∃ b ∈ cells, ∃ c ∈ cells, det3 (a.n, b.n, c.n) ≠ 0) (p : Vec3 ℝ) (hp : p ≠ (0, 0, 0)) :
    ∃ k ∈ cells, k.Covers p := by
  -- `hsum`, `hspan` only serve to find a normal with `n·p > 0`; then take the cell maximising `(n·p)/c`
  obtain ⟨k0, hk0, hk0pos⟩ := exists_pos_normal cells hsum hspan p hp
  classical
  obtain ⟨k, hk, hmax⟩ := Finset.exists_max_image cells.toFinset (fun j : GCell => dot3 j.n p / j.c)
    ⟨k0, List.mem_toFinset.mpr hk0⟩
  simp only [List.mem_toFinset] at hk hmax
  set lam := dot3 k.n p / k.c with hlam
  have hlpos : 0 < lam := lt_of_lt_of_le (div_pos hk0pos (hpos k0 hk0)) (hmax k0 hk0)
  refine ⟨k, hk, ?_⟩
  have hx : dot3 k.n (smul3 (1 / lam) p) = k.c := by
    rw [dot3_smul, hlam]
    have := (hpos k hk).ne'
    have hne' : dot3 k.n p ≠ 0 := by
      intro h0; rw [hlam, h0, zero_div] at hlpos; exact lt_irrefl _ hlpos
    field_simp
  have hin : ∀ j ∈ cells, dot3 j.n (smul3 (1 / lam) p) ≤ j.c := by
    intro j hj
    rw [dot3_smul, one_div, inv_mul_le_iff₀ hlpos]
    exact (div_le_iff₀ (hpos j hj)).mp (hmax j hj)
  have hcov := local_covers cells k (hpos k hk) (hlocal k hk) _ hx hin
  have := hcov.smul hlpos.le
  rwa [smul3_smul3 p lam (1 / lam) (by field_simp)] at this

/-! ### non-vacuity: the octahedron with vertices ±e₁, ±e₂, ±e₃ satisfies every hypothesis -/

section example_octahedron

private def oct (s1 s2 s3 : ℝ) : GCell := ⟨(s1, s2, s3), 1, [(s1, 0, 0), (0, s2, 0), (0, 0, s3)]⟩

private def octCells : List GCell :=
  [oct 1 1 1, oct 1 1 (-1), oct 1 (-1) 1, oct 1 (-1) (-1), oct (-1) 1 1, oct (-1) 1 (-1), oct (-1) (-1) 1, oct (-1) (-1) (-1)]

private theorem oct_mem {s1 s2 s3 : ℝ} (h1 : s1 = 1 ∨ s1 = -1) (h2 : s2 = 1 ∨ s2 = -1) (h3 : s3 = 1 ∨ s3 = -1) :
    oct s1 s2 s3 ∈ octCells := by
  rcases h1 with rfl | rfl <;> rcases h2 with rfl | rfl <;> rcases h3 with rfl | rfl <;> simp [octCells]

/-- the neighbour across an edge flips the sign of the coordinate of the opposite vertex -/
private theorem oct_localOk {s1 s2 s3 : ℝ} (h1 : s1 = 1 ∨ s1 = -1) (h2 : s2 = 1 ∨ s2 = -1) (h3 : s3 = 1 ∨ s3 = -1) :
    (oct s1 s2 s3).LocalOk octCells := by
  have sq : ∀ {s : ℝ}, s = 1 ∨ s = -1 → s * s = 1 ∧ (-s = 1 ∨ -s = -1) := by
    rintro s (rfl | rfl) <;> norm_num
  obtain ⟨q1, n1⟩ := sq h1
  obtain ⟨q2, n2⟩ := sq h2
  obtain ⟨q3, n3⟩ := sq h3
  have hdet : s1 * (s2 * s3) ≠ 0 :=
    mul_ne_zero (fun h => by simp [h] at q1) (mul_ne_zero (fun h => by simp [h] at q2) (fun h => by simp [h] at q3))
  refine ⟨?_, ?_, ?_, fun h => hdet ?_, ⟨_, oct_mem h1 h2 n3, ?_, ?_, ?_⟩, ⟨_, oct_mem n1 h2 h3, ?_, ?_, ?_⟩,
    ⟨_, oct_mem h1 n2 h3, ?_, ?_, ?_⟩⟩ <;> simp only [oct, dot3, det3] at * <;> linarith

example : (∀ k ∈ octCells, 0 < k.c) ∧ (∀ k ∈ octCells, k.LocalOk octCells) ∧ sumN octCells = (0, 0, 0) ∧
    ∃ a ∈ octCells, ∃ b ∈ octCells, ∃ c ∈ octCells, det3 (a.n, b.n, c.n) ≠ 0 := by
  have l : (1 : ℝ) = 1 ∨ (1 : ℝ) = -1 := Or.inl rfl
  have r : (-1 : ℝ) = 1 ∨ (-1 : ℝ) = -1 := Or.inr rfl
  refine ⟨?_, ?_, ?_, ?_⟩
  · intro k hk
    simp only [octCells, oct, List.mem_cons, List.mem_nil_iff, or_false] at hk
    rcases hk with rfl | rfl | rfl | rfl | rfl | rfl | rfl | rfl <;> norm_num
  · intro k hk
    simp only [octCells, List.mem_cons, List.mem_nil_iff, or_false] at hk
    rcases hk with rfl | rfl | rfl | rfl | rfl | rfl | rfl | rfl
    · exact oct_localOk l l l
    · exact oct_localOk l l r
    · exact oct_localOk l r l
    · exact oct_localOk l r r
    · exact oct_localOk r l l
    · exact oct_localOk r l r
    · exact oct_localOk r r l
    · exact oct_localOk r r r
  · simp only [octCells, oct, sumN, add3]; norm_num
  · refine ⟨oct 1 1 1, by simp [octCells], oct 1 1 (-1), by simp [octCells], oct 1 (-1) 1, by simp [octCells], ?_⟩
    simp only [oct, det3]; norm_num

end example_octahedron

end Earverif.PointSource.Cover
