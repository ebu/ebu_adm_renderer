/- C01: the `allo_extent.get_gains` skeleton (everything after the per-axis weights) is non-negative and has unit
   power whenever its pre-normalisation vector is non-zero. -/
import Earverif.Proofs.C01Sub

namespace Earverif.GainCalc

/-- `0 ≤ GainCalc.norm v` (the name `norm_nonneg` is Mathlib's) -/
theorem listNorm_nonneg (v : List ℝ) : 0 ≤ norm v := by simp only [norm, sqrt_real]; exact Real.sqrt_nonneg _

theorem length_safeNorm (v : List ℝ) : (safeNorm v).length = v.length := by
  simp only [safeNorm]; split <;> simp

theorem safeNorm_nonneg {v : List ℝ} (h : Nonneg v) : Nonneg (safeNorm v) := by
  simp only [safeNorm]
  split
  · exact nonneg_map fun y hy => div_nonneg (h y hy) (listNorm_nonneg v)
  · exact zeros_nonneg _

def ExtCh.Nonneg (c : ExtCh ℝ) : Prop :=
  0 ≤ c.fx ∧ 0 ≤ c.fy ∧ 0 ≤ c.fz ∧ 0 ≤ c.bLeft ∧ 0 ≤ c.bRight ∧ 0 ≤ c.bFront ∧ 0 ≤ c.bBack ∧ 0 ≤ c.bCeil ∧
    0 ≤ c.bFloor ∧ 0 ≤ c.gPoint

theorem fadeGains_spec (sEff : ℝ) (h0 : 0 ≤ sEff) :
    0 ≤ (fadeGains sEff).1 ∧ 0 ≤ (fadeGains sEff).2 ∧ (fadeGains sEff).1 ^ 2 + (fadeGains sEff).2 ^ 2 = 1 := by
  simp only [fadeGains, k_real, cos_real, sin_real, pi_real, zero_real, one_real, Rat.cast_div, Rat.cast_one,
    Rat.cast_ofNat]
  split
  · rename_i hlt
    -- the angle is the fraction `5 · s_eff` of a quarter turn
    have heq : sEff * Real.pi / (1 / 5 * 2) = 5 * sEff * (Real.pi / 2) := by ring
    have hq := quarter_turn_nonneg (t := 5 * sEff) (by linarith) (by linarith)
    rw [heq]
    exact ⟨hq.1, hq.2, Real.cos_sq_add_sin_sq _⟩
  · norm_num

theorem extGSize_nonneg (p mu : ℝ) (chs : List (ExtCh ℝ)) (hc : ∀ c ∈ chs, c.Nonneg) (hmu : 0 ≤ mu) :
    Nonneg (extGSize p mu chs) := by
  simp only [extGSize]
  refine zipWith_nonneg _ _ _ ?_
  intro c hcm gi hgi
  have hin : Nonneg (chs.map fun c => c.fx * c.fy * c.fz) := nonneg_map fun c' hc' =>
    mul_nonneg (mul_nonneg (hc c' hc').1 (hc c' hc').2.1) (hc c' hc').2.2.1
  have hgi0 : 0 ≤ gi := safeNorm_nonneg hin gi hgi
  obtain ⟨h1, h2, h3, h4, h5, h6, h7, h8, h9, _⟩ := hc c hcm
  simp only [pow_real]
  apply Real.rpow_nonneg
  positivity

theorem length_extGSize (p mu : ℝ) (chs : List (ExtCh ℝ)) : (extGSize p mu chs).length = chs.length := by
  simp [extGSize, length_safeNorm]

theorem extGTotal_nonneg (p mu sEff : ℝ) (chs : List (ExtCh ℝ)) (hc : ∀ c ∈ chs, c.Nonneg) (hmu : 0 ≤ mu)
    (hs : 0 ≤ sEff) : Nonneg (extGTotal p mu sEff chs) := by
  obtain ⟨ha, hb, _⟩ := fadeGains_spec sEff hs
  simp only [extGTotal]
  refine zipWith_nonneg _ _ _ ?_
  intro c hcm gs hgs
  have hgs0 : 0 ≤ gs := safeNorm_nonneg (extGSize_nonneg p mu chs hc hmu) gs hgs
  have hg : 0 ≤ c.gPoint := (hc c hcm).2.2.2.2.2.2.2.2.2
  positivity

theorem alloExtent_nonneg (p mu sEff : ℝ) (chs : List (ExtCh ℝ)) (hc : ∀ c ∈ chs, c.Nonneg) (hmu : 0 ≤ mu)
    (hs : 0 ≤ sEff) : Nonneg (alloExtentSkeleton p mu sEff chs) :=
  safeNorm_nonneg (extGTotal_nonneg p mu sEff chs hc hmu hs)

theorem alloExtent_unit (p mu sEff : ℝ) (chs : List (ExtCh ℝ))
    (h : 1 / 10000000000000000 < norm (extGTotal p mu sEff chs)) : sumSq (alloExtentSkeleton p mu sEff chs) = 1 :=
  safeNorm_unit _ h

/-- weighted sum of two non-negative vectors: the cross term only adds power -/
theorem sumSq_mix_ge (a b : ℝ) (ha : 0 ≤ a) (hb : 0 ≤ b) : ∀ (G S : List ℝ), G.length = S.length → Nonneg G → Nonneg S →
    a ^ 2 * sumSq G + b ^ 2 * sumSq S ≤ sumSq (List.zipWith (fun g s => a * g + b * s) G S)
  | [], [], _, _, _ => by simp
  | [], _ :: _, h, _, _ => by simp at h
  | _ :: _, [], h, _, _ => by simp at h
  | g :: G, s :: S, h, hG, hS => by
    have ih := sumSq_mix_ge a b ha hb G S (by simpa using h) (fun x hx => hG x (by simp [hx]))
      (fun x hx => hS x (by simp [hx]))
    have hg : 0 ≤ g := hG g (by simp)
    have hs : 0 ≤ s := hS s (by simp)
    simp only [List.zipWith_cons_cons, sumSq_cons]
    linarith [mul_nonneg (mul_nonneg ha hg) (mul_nonneg hb hs)]

/-- Sufficient condition for a non-zero total: the point gains have unit power (the allocentric point-source panner:
    `allo_unit_power`) and the size vector before its normalisation is longer than the threshold — for every fade state
    `s_eff ≥ 0`. -/
theorem alloExtent_unit_of_size (p mu sEff : ℝ) (chs : List (ExtCh ℝ)) (hc : ∀ c ∈ chs, c.Nonneg) (hmu : 0 ≤ mu)
    (hs : 0 ≤ sEff) (hpt : sumSq (chs.map (·.gPoint)) = 1)
    (hsize : 1 / 10000000000000000 < norm (extGSize p mu chs)) :
    Nonneg (alloExtentSkeleton p mu sEff chs) ∧ sumSq (alloExtentSkeleton p mu sEff chs) = 1 := by
  refine ⟨alloExtent_nonneg p mu sEff chs hc hmu hs, alloExtent_unit p mu sEff chs ?_⟩
  obtain ⟨ha, hb, hab⟩ := fadeGains_spec sEff hs
  have hSn : Nonneg (safeNorm (extGSize p mu chs)) := safeNorm_nonneg (extGSize_nonneg p mu chs hc hmu)
  have hSu : sumSq (safeNorm (extGSize p mu chs)) = 1 := safeNorm_unit _ hsize
  have hGn : Nonneg (chs.map (·.gPoint)) := nonneg_map fun c hcm => (hc c hcm).2.2.2.2.2.2.2.2.2
  have hrew : extGTotal p mu sEff chs =
      List.zipWith (fun g s => (fadeGains sEff).1 * g + (fadeGains sEff).2 * s) (chs.map (·.gPoint))
        (safeNorm (extGSize p mu chs)) := by
    simp only [extGTotal, List.zipWith_map_left]
  have hge := sumSq_mix_ge _ _ ha hb (chs.map (·.gPoint)) (safeNorm (extGSize p mu chs))
    (by simp [length_safeNorm, length_extGSize]) hGn hSn
  rw [hpt, hSu, ← hrew] at hge
  have h1 : 1 ≤ sumSq (extGTotal p mu sEff chs) := by linarith
  have : (1 : ℝ) ≤ norm (extGTotal p mu sEff chs) := by
    simp only [norm, sqrt_real]
    calc (1 : ℝ) = Real.sqrt 1 := Real.sqrt_one.symm
      _ ≤ Real.sqrt (sumSq (extGTotal p mu sEff chs)) := Real.sqrt_le_sqrt h1
  linarith

end Earverif.GainCalc
