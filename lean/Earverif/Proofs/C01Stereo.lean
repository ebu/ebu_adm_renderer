/- C01: the 0+2+0 point-source panner over its regenerated table (`StereoPanDownmix` around the inner 0+5+0 panner):
   a result for a direction longer than 1/2 has two non-negative entries with power in [1/2, 1]
   (`pspHandle_stereo_contract`; composition of `panner_inner_spec`, `downmixed_spec` and C05's `stereo_level`), and
   `calc_pv_spread` in the point-only regime keeps a power in `[lo, hi]` within `[(1 − 1e-10)·lo, hi]`. -/
import Earverif.Proofs.C01PspNz

namespace Earverif.GainCalc
open Earverif.PointSource (RawLayout RawRegion Region)

theorem stereoPan_inner (L : RawLayout) (hdm : L.downmixOk = true) (hn5 : L.nReal = 5) (v : List ℝ) (hn : ∀ x ∈ v, 0 ≤ x)
    (hp : HasPos v) (hl : v.length = L.nInner) :
    ∃ out, PointSource.StereoPanDownmix.handle (PointSource.PointSourcePannerDownmix.handle L.downmixRows (some v)) = some out ∧
      out.length = 2 ∧ (∀ x ∈ out, 0 ≤ x) ∧ 1 / 2 ≤ PointSource.sumsq out ∧ PointSource.sumsq out ≤ 1 := by
  obtain ⟨hwn, hwu, _, hwl⟩ := downmixed_spec L hdm v hn hp hl
  simp only [PointSource.PointSourcePannerDownmix.handle, Option.map_some]
  generalize PointSource.normalise (PointSource.matVec (L.downmixRows : List (List ℝ)) v) = w at hwn hwu hwl ⊢
  rw [hn5] at hwl
  match w, hwl with
  | [g0, g1, g2, g3, g4], _ =>
    exact PointSource.stereo_level g0 g1 g2 g3 g4 (hwn g0 (by simp)) (hwn g1 (by simp)) (hwn g2 (by simp))
      (hwn g3 (by simp)) (hwn g4 (by simp)) hwu

theorem pspHandle_stereo_contract (L : RawLayout) (hwf : L.wellFormed = true) (l r : Nat) (hst : L.stereo = some (l, r))
    (hz : pspNzOk L = true) (pos : V3 ℝ) (hpos : 1 / 4 < pos.1 * pos.1 + pos.2.1 * pos.2.1 + pos.2.2 * pos.2.2)
    (p : List ℝ) (h : pspHandle L pos = some p) :
    p.length = 2 ∧ Nonneg p ∧ 1 / 2 ≤ sumSq p ∧ sumSq p ≤ 1 := by
  have hw := hwf
  simp only [RawLayout.wellFormed, Bool.and_eq_true, hst, decide_eq_true_eq, bne_iff_ne, ne_eq, beq_iff_eq] at hw
  obtain ⟨⟨⟨_, _⟩, hdm⟩, ⟨⟨hl2, hr2⟩, hne⟩, hn5⟩ := hw
  obtain ⟨roots, hx, hy, he⟩ := pspHandle_eq_handle L pos
  obtain ⟨regions, v, hmap, hv, hp⟩ := rawHandle_eq_some_iff.mp (he ▸ h)
  rw [hst] at hp
  obtain ⟨out, hout, rfl⟩ := Option.map_eq_some_iff.mp hp
  -- the inner (0+5+0) answer
  have hQ := panner_inner_spec L hwf hz regions hmap roots hx hy pos hpos v hv
  obtain ⟨out', ho', hlen, hnn, hlo, hhi⟩ := stereoPan_inner L hdm hn5 v hQ.1 hQ.2.1 hQ.2.2
  obtain rfl := Option.some.inj (ho'.symm.trans hout)
  obtain ⟨e1, e2, e3⟩ := scatter_two_spec hl2 hr2 hne hlen
  rw [← sumsq_eq_sumSq, e1]
  exact ⟨e3, e2 hnn, hlo, hhi⟩

/-- the power of `p` is scaled by `1 − ammount_spread ∈ [1 − 1e-10, 1]` -/
theorem pvSpread_point_only_bounds (n : Nat) (a lo hi : ℝ) (p s : List ℝ) (h0 : 0 ≤ a)
    (hsmall : ¬ (k (1 / 10000000000) : ℝ) < a) (hp : p.length = n) (hlo : lo ≤ sumSq p) (hhi : sumSq p ≤ hi)
    (hlo0 : 0 ≤ lo) :
    (calcPvSpread n a p s).length = n ∧ Nonneg (calcPvSpread n a p s) ∧
    (1 - 1 / 10000000000) * lo ≤ sumSq (calcPvSpread n a p s) ∧ sumSq (calcPvSpread n a p s) ≤ hi := by
  rw [k_tiny] at hsmall
  have ha : a ≤ 1 / 10000000000 := not_lt.mp hsmall
  have hS := sumSq_nonneg p
  obtain ⟨hl, he⟩ := sumSq_calcPvSpread n a p s h0 (by linarith) hp fun h => absurd h hsmall
  rw [if_pos (by linarith), if_neg hsmall, add_zero] at he
  refine ⟨hl, vsqrt_nonneg _, ?_, ?_⟩ <;> rw [he]
  · exact mul_le_mul (by linarith) hlo hlo0 (by linarith)
  · exact (mul_le_of_le_one_left hS (by linarith)).trans hhi

end Earverif.GainCalc
