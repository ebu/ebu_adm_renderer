/-
C13 — the channel-lock selection over ℝ, attached to `lockHandle` (what `renderCartLock` and
`renderPolarLock` execute): `lockHandle_spec`, with the rule it states as `NearestByRule`.
-/
import Earverif.Proofs.C13Real
import Earverif.Proofs.C13Lock
import Mathlib.Tactic.Linarith
import Mathlib.Tactic.NormNum

namespace Earverif.C13
open Earverif.Zone Earverif.Zone.Scalar Earverif.Zone.ScalarSqrt Earverif.Lock

/-! the two tolerances of the instance (`Proofs/C13Real.lean` has the other `real_*`): decimal over ℝ, see there -/

@[simp] theorem real_eps5 : (Scalar.eps5 : ℝ) = 1e-5 := rfl
@[simp] theorem real_eps6 : (Scalar.eps6 : ℝ) = 1e-6 := rfl

/-- `distances[j]` of `handle`: `np.linalg.norm(position - channel_positions[j])` (0 outside the layout). -/
noncomputable def spkDist (pos : List (P3 ℝ)) (p : P3 ℝ) (j : Nat) : ℝ :=
  match pos[j]? with
  | some c => dist p c
  | none => 0

/-- `distances_w[j]` of `handle`: the weighted distance (allocentric handler) or the plain one. -/
noncomputable def spkDistW (allo : Bool) (pos : List (P3 ℝ)) (p : P3 ℝ) (j : Nat) : ℝ :=
  match pos[j]? with
  | some c => if allo then distW p c else dist p c
  | none => 0

/-- Loudspeaker `j` takes part in the lock: it is a loudspeaker of the layout, it is not
excluded, and — when `maxDistance` is given — its (unweighted) distance is below
`maxDistance + 1e-5`.  (The property's "within maxDistance" is this strict comparison with
the tolerance added.) -/
def LockCandidate (pos : List (P3 ℝ)) (excluded : List Bool) (p : P3 ℝ) (maxD : Option ℝ) (j : Nat) : Prop :=
  j < pos.length ∧ isExcl excluded j = false ∧ ∀ md, maxD = some md → spkDist pos p j < md + 1e-5

theorem mem_lockCands_real (allo : Bool) (pos : List (P3 ℝ)) (prio : List Nat) (excluded : List Bool) (p : P3 ℝ)
    (c : Cand ℝ) :
    c ∈ lockCands allo pos prio excluded p ↔
      ∃ j, j < pos.length ∧ isExcl excluded j = false ∧
        c = ⟨j, spkDist pos p j, spkDistW allo pos p j, prio.getD j 0⟩ := by
  rw [mem_lockCands]
  refine exists_congr fun j => ⟨?_, ?_⟩
  · rintro ⟨hj, hex, rfl⟩
    exact ⟨hj, hex, by simp [spkDist, spkDistW, List.getElem?_eq_getElem hj]⟩
  · rintro ⟨hj, hex, rfl⟩
    exact ⟨hj, hex, by simp [spkDist, spkDistW, List.getElem?_eq_getElem hj]⟩

/-- **The documented rule, by loudspeaker index**: `i` is a candidate (in the layout, not excluded,
at distance `< maxDistance + 1e-5` when a limit is given); its weighted distance is within `1e-5`
of the minimum over all candidates (attained at `m`); and no candidate within `1e-5` of that
minimum has a better (lower) priority value. -/
def NearestByRule (allo : Bool) (pos : List (P3 ℝ)) (prio : List Nat) (excluded : List Bool) (p : P3 ℝ)
    (maxD : Option ℝ) (i : Nat) : Prop :=
  LockCandidate pos excluded p maxD i ∧
  ∃ m, LockCandidate pos excluded p maxD m ∧
    (∀ j, LockCandidate pos excluded p maxD j → spkDistW allo pos p m ≤ spkDistW allo pos p j) ∧
    spkDistW allo pos p i < spkDistW allo pos p m + 1e-5 ∧
    ∀ j, LockCandidate pos excluded p maxD j → spkDistW allo pos p j < spkDistW allo pos p m + 1e-5 →
      prio.getD i 0 ≤ prio.getD j 0

/-- `ChannelLockHandlerBase.handle` over ℝ, by loudspeaker index, with `channelLock` set: the answer is never the
`ValueError` of the empty `argmin`; it is `position` unchanged exactly when no loudspeaker is a candidate; otherwise it
is a loudspeaker chosen by the rule: the second alternative is `∃ i, … = .locked i ∧ NearestByRule … i` written out. -/
theorem lockHandle_spec (allo : Bool) (pos : List (P3 ℝ)) (prio : List Nat) (excluded : List Bool) (p : P3 ℝ)
    (maxD : Option ℝ) :
    ((∀ j, ¬ LockCandidate pos excluded p maxD j) ∧
      lockHandle allo pos prio excluded p (some maxD) = .unchanged) ∨
    (∃ i, LockCandidate pos excluded p maxD i ∧
      lockHandle allo pos prio excluded p (some maxD) = .locked i ∧
      ∃ m, LockCandidate pos excluded p maxD m ∧
        (∀ j, LockCandidate pos excluded p maxD j → spkDistW allo pos p m ≤ spkDistW allo pos p j) ∧
        spkDistW allo pos p i < spkDistW allo pos p m + 1e-5 ∧
        ∀ j, LockCandidate pos excluded p maxD j → spkDistW allo pos p j < spkDistW allo pos p m + 1e-5 →
          prio.getD i 0 ≤ prio.getD j 0) := by
  rw [lockHandle_some, real_eps5]
  -- the candidates within the limit, on which the handler works as if there were no limit
  obtain ⟨poss, hsel, hmem⟩ : ∃ poss,
      lockSelect 1e-5 maxD (lockCands allo pos prio excluded p) = lockSelect 1e-5 none poss ∧
      ∀ c, c ∈ poss ↔ ∃ j, LockCandidate pos excluded p maxD j ∧
        c = ⟨j, spkDist pos p j, spkDistW allo pos p j, prio.getD j 0⟩ := by
    cases maxD with
    | none =>
      refine ⟨_, rfl, fun c => ?_⟩
      rw [mem_lockCands_real]
      exact exists_congr fun j =>
        ⟨fun ⟨h1, h2, h3⟩ => ⟨⟨h1, h2, fun _ e => nomatch e⟩, h3⟩, fun ⟨⟨h1, h2, _⟩, h3⟩ => ⟨h1, h2, h3⟩⟩
    | some md =>
      refine ⟨_, lockSelect_some_eq _ md _, fun c => ?_⟩
      rw [List.mem_filter, mem_lockCands_real, real_lt, real_add, decide_eq_true_iff]
      constructor
      · rintro ⟨⟨j, h1, h2, rfl⟩, hd⟩
        exact ⟨j, ⟨h1, h2, fun md' e => by cases e; exact hd⟩, rfl⟩
      · rintro ⟨j, ⟨h1, h2, hd⟩, rfl⟩
        exact ⟨⟨j, h1, h2, rfl⟩, hd md rfl⟩
  rw [hsel]
  by_cases hp : poss = []
  · left
    refine ⟨fun j hj => ?_, by rw [hp]; rfl⟩
    have := (hmem _).mpr ⟨j, hj, rfl⟩
    rw [hp] at this
    exact absurd this List.not_mem_nil
  · right
    obtain ⟨c, hc, hsel', m, hm, h1, h2, h3⟩ :=
      lockSelect_none_spec (fun _ _ => decide_eq_true_iff) (1e-5 : ℝ) (fun a => lt_add_of_pos_right a (by norm_num)) poss hp
    obtain ⟨i, hi, rfl⟩ := (hmem c).mp hc
    obtain ⟨mi, hmi, rfl⟩ := (hmem m).mp hm
    exact ⟨i, hi, hsel', mi, hmi, fun j hj => h1 _ ((hmem _).mpr ⟨j, hj, rfl⟩), h2,
      fun j hj hlt => h3 _ ((hmem _).mpr ⟨j, hj, rfl⟩) hlt⟩

/-- With pairwise different priorities (they are a permutation of `0..n-1` in the real handlers)
the rule determines the loudspeaker. -/
theorem nearestByRule_unique (allo : Bool) (pos : List (P3 ℝ)) (prio : List Nat) (excluded : List Bool) (p : P3 ℝ)
    (maxD : Option ℝ) (i i' : Nat)
    (hinj : ∀ a b, a < pos.length → b < pos.length → prio.getD a 0 = prio.getD b 0 → a = b)
    (h : NearestByRule allo pos prio excluded p maxD i) (h' : NearestByRule allo pos prio excluded p maxD i') :
    i = i' := by
  obtain ⟨hc, m, hm, hmin, hnear, hprio⟩ := h
  obtain ⟨hc', m', hm', hmin', hnear', hprio'⟩ := h'
  have e1 := hmin m' hm'
  have e2 := hmin' m hm
  have hmm : spkDistW allo pos p m = spkDistW allo pos p m' := le_antisymm e1 e2
  have p1 := hprio i' hc' (by rw [hmm]; exact hnear')
  have p2 := hprio' i hc (by rw [← hmm]; exact hnear)
  exact hinj i i' hc.1 hc'.1 (Nat.le_antisymm p1 p2)

end Earverif.C13
