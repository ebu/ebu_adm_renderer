/- Equations for numpy slice reads and assignments (`slice`, `setSlice`), and `Delay.process` (three slice copies)
= shift of the concatenation.  With them three facts about `take`/`drop` of plain lists (`take_eq_map_getD`,
`drop_prefix_add`, `take_drop_glue`) that the delay, the aligner and the convolver use. -/
import Earverif.Model.Stream
namespace Earverif.Stream

theorem setSlice_length {α : Type} (l : List α) (s : Nat) (v : List α) (h : s + v.length ≤ l.length) :
    (setSlice l s v).length = l.length := by
  simp only [setSlice, List.length_append, List.length_take, List.length_drop]; omega

theorem getElem?_setSlice {α : Type} (l : List α) (s : Nat) (v : List α) (h : s + v.length ≤ l.length) (i : Nat) :
    (setSlice l s v)[i]? = if i < s then l[i]? else if i < s + v.length then v[i - s]? else l[i]? := by
  simp only [setSlice, List.append_assoc]
  rw [List.getElem?_append]
  simp only [List.length_take]
  have hs : min s l.length = s := by omega
  rw [hs]
  split
  · rw [List.getElem?_take]; simp [*]
  · rename_i h1
    rw [List.getElem?_append]
    split
    · rename_i h2
      have : i < s + v.length := by omega
      simp [*]
    · rename_i h2
      rw [List.getElem?_drop]
      have : ¬ (i < s + v.length) := by omega
      simp only [this, if_false]
      congr 1; omega

theorem take_eq_map_getD {α : Type} (l : List α) (d : α) (n : Nat) (h : n ≤ l.length) :
    l.take n = (List.range n).map fun j => l.getD j d := by
  apply List.ext_getElem
  · rw [List.length_take, List.length_map, List.length_range, Nat.min_eq_left h]
  · intro i h1 h2
    rw [List.length_take] at h1
    rw [List.getElem_take, List.getElem_map, List.getElem_range, List.getD_eq_getElem?_getD,
      List.getElem?_eq_getElem (Nat.lt_of_lt_of_le (Nat.lt_of_lt_of_le h1 (Nat.min_le_left _ _)) h), Option.getD_some]

theorem slice_length {α : Type} (l : List α) (a b : Nat) (h : b ≤ l.length) : (slice l a b).length = b - a := by
  simp only [slice, List.length_drop, List.length_take]; omega

theorem getElem?_slice {α : Type} (l : List α) (a b i : Nat) :
    (slice l a b)[i]? = if a + i < b then l[a + i]? else none := by
  simp only [slice, List.getElem?_drop, List.getElem?_take]

theorem slice_eq_drop_take {α : Type} (l : List α) (a b : Nat) : slice l a b = (l.drop a).take (b - a) :=
  List.drop_take

theorem slice_append_slice {α : Type} (l : List α) (a b c : Nat) (hab : a ≤ b) (hbc : b ≤ c) :
    slice l a b ++ slice l b c = slice l a c := by
  have e : l.drop b = (l.drop a).drop (b - a) := by rw [List.drop_drop]; congr 1; omega
  rw [slice_eq_drop_take, slice_eq_drop_take, slice_eq_drop_take, e, ← List.take_add]
  congr 1; omega

theorem drop_prefix_add {α : Type} (P R : List α) (n i : Nat) (h : P.length = n) : (P ++ R).drop (n + i) = R.drop i := by
  subst h; exact List.drop_length_add_append i

theorem setSlice_setSlice_adj {α : Type} (out : List α) (n : Nat) (a b : List α) (h : n ≤ out.length) :
    setSlice (setSlice out n a) (n + a.length) b = setSlice out n (a ++ b) := by
  have hP : (out.take n ++ a).length = n + a.length := by rw [List.length_append, List.length_take, Nat.min_eq_left h]
  unfold setSlice
  rw [List.take_left' hP, drop_prefix_add _ _ _ _ hP, List.drop_drop, List.length_append]
  simp only [List.append_assoc, Nat.add_assoc]

theorem slice_setSlice_after {α : Type} (l : List α) (s : Nat) (v : List α) (a b : Nat) (hs : s ≤ l.length)
    (ha : s + v.length ≤ a) : slice (setSlice l s v) a b = slice l a b := by
  have hP : (l.take s ++ v).length = s + v.length := by rw [List.length_append, List.length_take, Nat.min_eq_left hs]
  obtain ⟨d, rfl⟩ := Nat.exists_eq_add_of_le ha
  rw [slice_eq_drop_take, slice_eq_drop_take]
  unfold setSlice
  rw [drop_prefix_add _ _ _ _ hP, List.drop_drop]

theorem setSlice_zero {α : Type} (l v : List α) : setSlice l 0 v = v ++ l.drop v.length := by
  simp only [setSlice, List.take_zero, List.nil_append, Nat.zero_add]

theorem setSlice_end {α : Type} (l : List α) (s : Nat) (v : List α) (h : l.length ≤ s + v.length) :
    setSlice l s v = l.take s ++ v := by
  simp only [setSlice, List.drop_eq_nil_of_le h, List.append_nil]

theorem setSlice_nil {α : Type} (l : List α) (s : Nat) : setSlice l s [] = l := by
  simp only [setSlice, List.append_nil, List.length_nil, Nat.add_zero, List.take_append_drop]

/-- The Python guards a slice copy of length `k` by `if k:` (since `a[-0:]` is the whole array); copying nothing
changes nothing. -/
theorem setSlice_guard {α : Type} (k : Nat) (l v : List α) (s : Nat) (hv : k = 0 → v = []) :
    (if k ≠ 0 then setSlice l s v else l) = setSlice l s v := by
  by_cases hk : k = 0
  · rw [if_neg (fun h => h hk), hv hk, setSlice_nil]
  · rw [if_pos hk]

theorem delay_process_eq {α : Type} (z : α) (mem inp : List α) :
    Delay.process z mem inp = ((mem ++ inp).take inp.length, (mem ++ inp).drop inp.length) := by
  unfold Delay.process
  extract_lets o1 sl o2 ov k r o3 m3 el m4
  -- the first copy (`ho2`) and, given that the middle one keeps the memory's length, the last copy (`hm4`) in closed
  -- form; then the middle copy by the three cases of `len(mem)` against `len(inp)`
  have ho2 : o2 = mem.take (min mem.length inp.length) ++ List.replicate (inp.length - mem.length) z := by
    simp only [o2, sl, o1, List.length_replicate]
    rw [setSlice_guard _ _ _ _ (fun h => by rw [h, List.take_zero]), setSlice_zero, List.drop_replicate,
      List.length_take, Nat.min_eq_left (Nat.min_le_left _ _), Nat.min_comm, ← Nat.sub_eq_sub_min]
  have hl2 : o2.length = inp.length := by
    rw [ho2, List.length_append, List.length_take, List.length_replicate, Nat.min_eq_left (Nat.min_le_left _ _),
      Nat.min_comm, Nat.sub_eq_sub_min, Nat.add_sub_cancel' (Nat.min_le_left _ _)]
  have hm4 : m3.length = mem.length → m4 = m3.take (mem.length - inp.length) ++ inp.drop (inp.length - mem.length) := by
    intro hm3
    simp only [m4, el, hm3]
    rw [setSlice_guard _ _ _ _ (fun h => List.drop_eq_nil_of_le (by rw [h]; exact Nat.le_refl _)),
      setSlice_end _ _ _ (by rw [List.length_drop]; omega)]
    rw [← Nat.sub_eq_sub_min, Nat.min_comm, ← Nat.sub_eq_sub_min]
  rw [List.take_append, List.drop_append]
  rcases Nat.lt_trichotomy mem.length inp.length with h | h | h
  · have hr : r = (mem ++ inp.take (inp.length - mem.length), mem) := by
      simp only [r, hl2, k, if_neg (Nat.lt_asymm h), if_pos h]
      rw [setSlice_end _ _ _ (by simp; omega), ho2, Nat.sub_sub_self (Nat.le_of_lt h), Nat.min_eq_left (Nat.le_of_lt h),
        List.take_length, List.take_left' rfl]
    rw [hm4 (by rw [show m3 = r.2 from rfl, hr]), show o3 = r.1 from rfl, show m3 = r.2 from rfl, hr,
      List.take_of_length_le (Nat.le_of_lt h), List.drop_eq_nil_of_le (Nat.le_of_lt h),
      Nat.sub_eq_zero_of_le (Nat.le_of_lt h), List.take_zero]
  · have hr : r = (mem, mem) := by
      simp only [r, hl2, h, Nat.lt_irrefl, if_false]
      rw [ho2, h, Nat.min_self, Nat.sub_self, ← h, List.take_length, List.replicate_zero, List.append_nil]
    rw [hm4 (by rw [show m3 = r.2 from rfl, hr]), show o3 = r.1 from rfl, show m3 = r.2 from rfl, hr, ← h,
      Nat.sub_self, List.take_length, List.drop_length, List.take_zero, List.drop_zero, List.take_zero,
      List.append_nil]
  · have hr : r = (mem.take inp.length, mem.drop inp.length ++ mem.drop (mem.length - inp.length)) := by
      simp only [r, hl2, ov, if_pos h]
      rw [setSlice_zero, ho2, Nat.sub_sub_self (Nat.le_of_lt h), Nat.min_eq_right (Nat.le_of_lt h),
        Nat.sub_eq_zero_of_le (Nat.le_of_lt h), List.length_drop, List.replicate_zero, List.append_nil]
    rw [hm4 (by rw [show m3 = r.2 from rfl, hr, List.length_append, List.length_drop, List.length_drop]; omega), show o3 = r.1 from rfl, show m3 = r.2 from rfl, hr,
      Nat.sub_eq_zero_of_le (Nat.le_of_lt h), List.take_zero, List.drop_zero, List.append_nil,
      List.take_left' (by rw [List.length_drop])]

theorem take_drop_glue {α : Type} (L F : List α) (n k : Nat) (hn : n ≤ L.length) :
    L.take n ++ (L.drop n ++ F).take k = (L ++ F).take (n + k) ∧
    (L.drop n ++ F).drop k = (L ++ F).drop (n + k) := by
  have e : L ++ F = L.take n ++ (L.drop n ++ F) := by
    rw [← List.append_assoc, List.take_append_drop]
  have hl : (L.take n).length = n := by simp; omega
  constructor
  · conv => rhs; rw [e]
    have := List.take_length_add_append (l₁ := L.take n) (l₂ := L.drop n ++ F) (i := k)
    rw [hl] at this; rw [this]
  · conv => rhs; rw [e]
    have := List.drop_length_add_append (l₁ := L.take n) (l₂ := L.drop n ++ F) (i := k)
    rw [hl] at this; rw [this]

theorem delay_run_eq {α : Type} (z : α) (parts : List (List α)) : ∀ mem : List α,
    (Delay.run z mem parts).1.flatten = (mem ++ parts.flatten).take parts.flatten.length ∧
    (Delay.run z mem parts).2 = (mem ++ parts.flatten).drop parts.flatten.length ∧
    (Delay.run z mem parts).1.map List.length = parts.map List.length := by
  induction parts with
  | nil => intro mem; simp [Delay.run]
  | cons b bs ih =>
    intro mem
    simp only [Delay.run, delay_process_eq]
    obtain ⟨h1, h2, h3⟩ := ih ((mem ++ b).drop b.length)
    have hn : b.length ≤ (mem ++ b).length := by simp
    obtain ⟨g1, g2⟩ := take_drop_glue (mem ++ b) bs.flatten b.length bs.flatten.length hn
    refine ⟨?_, ?_, ?_⟩
    · simp only [List.flatten_cons, List.length_append, h1, g1, List.append_assoc]
    · simp only [List.flatten_cons, List.length_append, h2, g2, List.append_assoc]
    · simp only [List.map_cons, h3, List.length_take, List.length_append]
      congr 1; omega

end Earverif.Stream
