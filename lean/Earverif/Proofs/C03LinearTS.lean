/-
C03, last clause ("linear in the input audio") for items with TRACK SPECS: the literal meaning of a track spec
(`TrackSpec.meaning`, C20: inputs summed, scaled by the gains, delayed by the coefficient delays) is additive and
homogeneous in the input, hence so is every item stream `sAt`, hence the specified output `outAtTS` / `outTS`
(`Model/RendererTS.lean`).
-/
import Earverif.Model.RendererTS
import Earverif.Proofs.C03Linear
import Earverif.Proofs.C20
namespace Earverif.TrackSpec
open Earverif.RenderSpec (addX smulX SameShape addX_length)

theorem vadd4 : ∀ (a b c d : List Rat), vadd (vadd a b) (vadd c d) = vadd (vadd a c) (vadd b d)
  | [], _, _, _ => by simp [vadd]
  | _ :: _, [], _, _ => by simp [vadd]
  | _ :: _, _ :: _, [], _ => by simp [vadd]
  | _ :: _, _ :: _, _ :: _, [] => by simp [vadd]
  | a :: as, b :: bs, c :: cs, d :: ds => by
    have ih := vadd4 as bs cs ds
    simp only [vadd, List.zipWith_cons_cons] at ih ⊢
    rw [ih]
    congr 1
    ring

theorem vadd_zeros_zeros (n : Nat) : vadd (zeros n : List Rat) (zeros n) = zeros n :=
  vadd_zeros _ n (zeros_length n)

theorem foldl_vadd_add : ∀ (as bs : List (List Rat)) (a0 b0 : List Rat), as.length = bs.length →
    (List.zipWith vadd as bs).foldl vadd (vadd a0 b0) = vadd (as.foldl vadd a0) (bs.foldl vadd b0)
  | [], [], _, _, _ => rfl
  | [], _ :: _, _, _, h => by simp at h
  | _ :: _, [], _, _, h => by simp at h
  | a :: as, b :: bs, a0, b0, h => by
    simp only [List.zipWith_cons_cons, List.foldl_cons]
    rw [vadd4, foldl_vadd_add as bs _ _ (by simpa using h)]

theorem map_vadd (φ : Rat → Rat) (hφ : ∀ x y, φ (x + y) = φ x + φ y) (a b : List Rat) :
    (vadd a b).map φ = vadd (a.map φ) (b.map φ) := by
  simp only [vadd, List.map_zipWith, List.zipWith_map_left, List.zipWith_map_right]
  congr 1
  funext x y
  exact hφ x y

theorem scaleOpt_vadd (g : Option Rat) (a b : List Rat) :
    scaleOpt g (vadd a b) = vadd (scaleOpt g a) (scaleOpt g b) := by
  cases g with
  | none => rfl
  | some g => exact map_vadd _ (fun x y => add_mul x y g) a b

theorem delayBy_vadd (k : Nat) (a b : List Rat) (h : a.length = b.length) :
    delayBy k (vadd a b) = vadd (delayBy k a) (delayBy k b) := by
  simp only [delayBy, vadd_length, ← h, Nat.min_self]
  have e : (zeros k : List Rat) ++ vadd a b = vadd (zeros k ++ a) (zeros k ++ b) := by
    simp only [vadd]
    rw [List.zipWith_append (by simp)]
    congr 1
    exact (vadd_zeros_zeros k).symm
  rw [e]
  simp only [vadd, List.take_zipWith]

theorem map_getD_addX (n k : Nat) : ∀ (x y : List (List Rat)), (∀ fr ∈ x, fr.length = n) → (∀ fr ∈ y, fr.length = n) →
    (addX x y).map (fun fr => fr.getD k (0 : Rat)) =
      vadd (x.map fun fr => fr.getD k 0) (y.map fun fr => fr.getD k 0)
  | [], _, _, _ => by simp [addX, vadd]
  | _ :: _, [], _, _ => by simp [addX, vadd]
  | a :: as, b :: bs, hx, hy => by
    have ih := map_getD_addX n k as bs (fun fr h => hx fr (List.mem_cons_of_mem _ h))
      (fun fr h => hy fr (List.mem_cons_of_mem _ h))
    simp only [addX, vadd, List.zipWith_cons_cons, List.map_cons] at ih ⊢
    rw [ih]
    congr 1
    exact Stream.getD_zipWith_add _ _ ((hx a List.mem_cons_self).trans (hy b List.mem_cons_self).symm) k

mutual
theorem meaning_add (fs : Int) (nch : Nat) : ∀ (s : Spec Rat) (x y : List (List Rat)), SameShape nch x y →
    meaning fs nch s (addX x y) = vadd (meaning fs nch s x) (meaning fs nch s y)
  | .direct i, x, y, h => by
    simp only [meaning]
    cases chanIdx nch i with
    | some k => exact map_getD_addX nch k x y h.wx h.wy
    | none =>
      simp only [addX_length x y h.len, ← h.len]
      exact (vadd_zeros_zeros _).symm
  | .silent, x, y, h => by
    simp only [meaning, addX_length x y h.len, ← h.len]
    exact (vadd_zeros_zeros _).symm
  | .mix ts, x, y, h => by
    simp only [meaning, vsum, addX_length x y h.len, ← h.len]
    rw [meaningList_add fs nch ts x y h]
    have hl : (meaningList fs nch ts x).length = (meaningList fs nch ts y).length := by
      rw [meaningList_eq_map, meaningList_eq_map, List.length_map, List.length_map]
    have := foldl_vadd_add _ _ (zeros x.length) (zeros x.length) hl
    rw [vadd_zeros_zeros] at this
    exact this
  | .gain t g, x, y, h => by
    simp only [meaning]
    rw [meaning_add fs nch t x y h, map_vadd _ fun x y => add_mul x y g]
  | .matrix t g d, x, y, h => by
    simp only [meaning]
    rw [meaning_add fs nch t x y h, scaleOpt_vadd]
    cases d with
    | none => rfl
    | some ms =>
      simp only
      exact delayBy_vadd _ _ _ (by
        rw [scaleOpt_length, scaleOpt_length, meaning_length, meaning_length, h.len])
theorem meaningList_add (fs : Int) (nch : Nat) : ∀ (ts : List (Spec Rat)) (x y : List (List Rat)), SameShape nch x y →
    meaningList fs nch ts (addX x y) = List.zipWith vadd (meaningList fs nch ts x) (meaningList fs nch ts y)
  | [], _, _, _ => by simp [meaningList]
  | t :: ts, x, y, h => by
    simp only [meaningList, List.zipWith_cons_cons]
    rw [meaning_add fs nch t x y h, meaningList_add fs nch ts x y h]
end

theorem map_smul_zeros (a : Rat) (n : Nat) : (zeros n : List Rat).map (a * ·) = zeros n := by
  simp only [zeros, List.map_replicate]
  congr 1
  show a * 0 = 0
  ring

theorem foldl_vadd_smul (a : Rat) : ∀ (ls : List (List Rat)) (acc : List Rat),
    (ls.map (·.map (a * ·))).foldl vadd (acc.map (a * ·)) = (ls.foldl vadd acc).map (a * ·)
  | [], _ => rfl
  | l :: ls, acc => by
    simp only [List.map_cons, List.foldl_cons]
    rw [← map_vadd _ (mul_add a), foldl_vadd_smul a ls]

theorem scaleOpt_smul (a : Rat) (g : Option Rat) (l : List Rat) :
    scaleOpt g (l.map (a * ·)) = (scaleOpt g l).map (a * ·) := by
  cases g with
  | none => rfl
  | some g =>
    simp only [scaleOpt, List.map_map]
    apply List.map_congr_left
    intro v _
    simp only [Function.comp]
    ring

theorem delayBy_smul (a : Rat) (k : Nat) (l : List Rat) : delayBy k (l.map (a * ·)) = (delayBy k l).map (a * ·) := by
  simp only [delayBy, List.length_map, List.map_take, List.map_append, map_smul_zeros]

mutual
theorem meaning_smul (fs : Int) (nch : Nat) (a : Rat) : ∀ (s : Spec Rat) (x : List (List Rat)),
    meaning fs nch s (smulX a x) = (meaning fs nch s x).map (a * ·)
  | .direct i, x => by
    simp only [meaning]
    cases chanIdx nch i with
    | some k =>
      simp only [smulX, List.map_map]
      exact List.map_congr_left fun fr _ => getD_map_of_eq (a * ·) fr k (mul_zero a)
    | none => simp only [smulX, List.length_map]; exact (map_smul_zeros a _).symm
  | .silent, x => by simp only [meaning, smulX, List.length_map]; exact (map_smul_zeros a _).symm
  | .mix ts, x => by
    simp only [meaning, vsum]
    rw [meaningList_smul fs nch a ts x]
    have : (smulX a x).length = x.length := by simp [smulX]
    rw [this, ← map_smul_zeros a x.length, foldl_vadd_smul, map_smul_zeros]
  | .gain t g, x => by
    simp only [meaning]
    rw [meaning_smul fs nch a t x]
    exact scaleOpt_smul a (some g) _
  | .matrix t g d, x => by
    simp only [meaning]
    rw [meaning_smul fs nch a t x, scaleOpt_smul]
    cases d with
    | none => rfl
    | some ms => exact delayBy_smul a _ _
theorem meaningList_smul (fs : Int) (nch : Nat) (a : Rat) : ∀ (ts : List (Spec Rat)) (x : List (List Rat)),
    meaningList fs nch ts (smulX a x) = (meaningList fs nch ts x).map (·.map (a * ·))
  | [], _ => by simp [meaningList]
  | t :: ts, x => by
    simp only [meaningList, List.map_cons]
    rw [meaning_smul fs nch a t x, meaningList_smul fs nch a ts x]
end

end Earverif.TrackSpec

namespace Earverif.RendererTS
open Earverif.Stream Earverif.Timeline Earverif.Renderer Earverif.RenderSpec
open Earverif.TrackSpec (Spec)

section
variable {V : Type}

theorem addX_tail (c : Cfg V) (x y : List (List Rat)) (h : x.length = y.length) :
    addX x y ++ tailFrames c = addX (x ++ tailFrames c) (y ++ tailFrames c) := by
  simp only [addX]
  rw [List.zipWith_append h]
  congr 1
  simp only [tailFrames]
  rw [List.zipWith_replicate, Nat.min_self]
  exact congrArg _ (TrackSpec.vadd_zeros_zeros _).symm

theorem smulX_tail (c : Cfg V) (a : Rat) (x : List (List Rat)) :
    smulX a x ++ tailFrames c = smulX a (x ++ tailFrames c) := by
  simp only [smulX, List.map_append]
  congr 1
  simp only [tailFrames, List.map_replicate]
  congr 2
  show (0 : Rat) = a * 0
  ring

theorem width_tail (c : Cfg V) {x : List (List Rat)} (h : ∀ fr ∈ x, fr.length = c.n_in) :
    ∀ fr ∈ x ++ tailFrames c, fr.length = c.n_in := by
  intro fr hfr
  rcases List.mem_append.mp hfr with hfr | hfr
  · exact h fr hfr
  · simp only [tailFrames, List.mem_replicate] at hfr; rw [hfr.2]; simp

theorem sameShape_tail (c : Cfg V) (x y : List (List Rat)) (h : SameShape c.n_in x y) :
    SameShape c.n_in (x ++ tailFrames c) (y ++ tailFrames c) :=
  ⟨by simp [h.len], width_tail c h.wx, width_tail c h.wy⟩

theorem sAt_add (c : Cfg V) (spec : Spec Rat) (x y : List (List Rat)) (h : SameShape c.n_in x y) (t : Int) :
    sAt c spec (addX x y) t = sAt c spec x t + sAt c spec y t := by
  unfold sAt
  split
  · rw [addX_tail c x y h.len, TrackSpec.meaning_add _ _ spec _ _ (sameShape_tail c x y h)]
    have hl : (TrackSpec.meaning c.sr c.n_in spec (x ++ tailFrames c)).length =
        (TrackSpec.meaning c.sr c.n_in spec (y ++ tailFrames c)).length := by
      rw [TrackSpec.meaning_length, TrackSpec.meaning_length]; simp [h.len]
    exact getD_zipWith_add _ _ hl _
  · exact (add_zero 0).symm

theorem sAt_smul (c : Cfg V) (spec : Spec Rat) (a : Rat) (x : List (List Rat)) (t : Int) :
    sAt c spec (smulX a x) t = a * sAt c spec x t := by
  unfold sAt
  split
  · rw [smulX_tail, TrackSpec.meaning_smul]
    exact getD_map_of_eq (a * ·) _ _ (mul_zero a)
  · exact (mul_zero a).symm

end

section
variable {V : Type} [RMod V] [LawfulRMod V]

theorem objAtTS_add (c : Cfg V) (objs : List (ObjItemTS V)) (x y : List (List Rat)) (h : SameShape c.n_in x y)
    (t : Int) : objAtTS c objs (addX x y) t = objAtTS c objs x t + objAtTS c objs y t :=
  sumV_map_add _ _ _ _ fun it _ => by rw [sAt_add c it.spec x y h, LawfulRMod.add_smul]

theorem objAtTS_smul (c : Cfg V) (a : Rat) (objs : List (ObjItemTS V)) (x : List (List Rat)) (t : Int) :
    objAtTS c objs (smulX a x) t = RMod.smul a (objAtTS c objs x t) :=
  sumV_map_smul _ _ _ _ fun it _ => by rw [sAt_smul, LawfulRMod.mul_smul]

theorem outAtTS_add (c : Cfg V) (objs : List (ObjItemTS V)) (dss : List (DsItemTS V)) (hoas : List (HoaItemTS V))
    (x y : List (List Rat)) (h : SameShape c.n_in x y) (s : Nat) :
    outAtTS c objs dss hoas (addX x y) s = outAtTS c objs dss hoas x s + outAtTS c objs dss hoas y s := by
  unfold outAtTS
  rw [← add_unzip4]
  congr 1
  · congr 1
    · congr 1
      · rw [objAtTS_add c objs x y h]; rfl
      · exact sumV_map_add _ _ _ _ fun k _ => by rw [objAtTS_add c objs x y h, ← LawfulRMod.pmul_add]; rfl
    · exact sumV_map_add _ _ _ _ fun it _ => by rw [sAt_add c it.spec x y h, LawfulRMod.add_smul]
  · exact sumV_map_add _ _ _ _ fun it _ => by
      simp only [sAt_add c _ x y h]
      exact mat_map_add _ _ _ _

theorem outAtTS_smul (c : Cfg V) (objs : List (ObjItemTS V)) (dss : List (DsItemTS V)) (hoas : List (HoaItemTS V))
    (a : Rat) (x : List (List Rat)) (s : Nat) :
    outAtTS c objs dss hoas (smulX a x) s = RMod.smul a (outAtTS c objs dss hoas x s) := by
  unfold outAtTS
  rw [LawfulRMod.smul_add, LawfulRMod.smul_add, LawfulRMod.smul_add]
  congr 1
  · congr 1
    · congr 1
      · rw [objAtTS_smul]; rfl
      · exact sumV_map_smul _ _ _ _ fun k _ => by rw [objAtTS_smul, ← LawfulRMod.pmul_smul]; rfl
    · exact sumV_map_smul _ _ _ _ fun it _ => by rw [sAt_smul, LawfulRMod.mul_smul]
  · exact sumV_map_smul _ _ _ _ fun it _ => by
      simp only [sAt_smul]
      exact mat_map_smul _ _ _ _

theorem outTS_add (c : Cfg V) (objs : List (ObjItemTS V)) (dss : List (DsItemTS V)) (hoas : List (HoaItemTS V))
    (x y : List (List Rat)) (h : SameShape c.n_in x y) :
    outTS c objs dss hoas (addX x y) =
      List.zipWith (· + ·) (outTS c objs dss hoas x) (outTS c objs dss hoas y) := by
  simp only [outTS, addX_length x y h.len, ← h.len]
  rw [List.zipWith_map_left, List.zipWith_map_right, List.zipWith_self]
  apply List.map_congr_left
  intro s _
  exact outAtTS_add c objs dss hoas x y h s

theorem outTS_smul (c : Cfg V) (objs : List (ObjItemTS V)) (dss : List (DsItemTS V)) (hoas : List (HoaItemTS V))
    (a : Rat) (x : List (List Rat)) :
    outTS c objs dss hoas (smulX a x) = (outTS c objs dss hoas x).map (RMod.smul a) := by
  simp only [outTS, smulX, List.length_map, List.map_map]
  apply List.map_congr_left
  intro s _
  exact outAtTS_smul c objs dss hoas a x s

end

end Earverif.RendererTS
