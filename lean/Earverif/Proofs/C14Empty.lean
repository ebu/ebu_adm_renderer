/- C14, the allocator and allocation packs without channels: `_allocate_packs_impl` never allocates
   such a pack, so removing them from `packs` changes nothing. -/
import Earverif.Proofs.C07Sound
import Earverif.Proofs.ListLemmas
namespace Earverif.PackAlloc

def hasChannels (p : Pack) : Bool := !p.channels.isEmpty

def dropEmpty (prob : Problem) : Problem := { prob with packs := prob.packs.filter hasChannels }

theorem tryAllocate_empty (t : TrackRef) {p : Pack} (h : hasChannels p = false) :
    tryAllocate t (emptyAllocation p) = none := by
  have : p.channels = [] := by simpa [hasChannels] using h
  simp [tryAllocate, emptyAllocation, this, tryAllocateSlots]

def dropRp (x : Sol × List Pack × Option (List Nat)) : Sol × List Pack × Option (List Nat) :=
  (x.1, x.2.1.filter hasChannels, x.2.2)

def newCand (track : TrackRef) (partialSol : Sol) (x : Pack × List Pack × Option (List Nat)) :
    Option (Sol × List Pack × Option (List Nat)) :=
  (tryAllocate track (emptyAllocation x.1)).map fun a => (partialSol ++ [a], x.2.1, x.2.2)

theorem newCandidates_eq (track : TrackRef) (packs : List Pack) (refs : Option (List Nat)) (partialSol : Sol) :
    newCandidates track packs refs partialSol = (candidateNewPacks track refs packs).filterMap (newCand track partialSol) := by
  unfold newCandidates
  congr 1

/-- `candidate_new_packs` over the channel-carrying packs only: a pack without channels yields no candidate
(`try_allocate` fails on its empty allocation), and for the others the two runs differ only in the `remaining_packs`
component, which `dropRp` filters -/
theorem candidateNewPacksAux_filter (track : TrackRef) (refs : Option (List Nat)) (partialSol : Sol) (all : List Pack) :
    ∀ l : List Pack,
      (candidateNewPacksAux track refs (all.filter hasChannels) (l.filter hasChannels)).filterMap (newCand track partialSol) =
      ((candidateNewPacksAux track refs all l).filterMap (newCand track partialSol)).map dropRp := by
  intro l
  induction l with
  | nil => rfl
  | cons p rest ih =>
    rw [candidateNewPacksAux_cons, List.filterMap_append, List.map_append, ← ih]
    by_cases hp : hasChannels p = true
    · rw [List.filter_cons_of_pos hp, candidateNewPacksAux_cons, List.filterMap_append]
      congr 1
      -- the head candidate: for a silent track the kept list `p :: rest` filters to `p :: rest.filter …`, because `p`
      -- has channels
      have hrem : (if track.isNone then p :: rest.filter hasChannels else all.filter hasChannels) =
          (if track.isNone then p :: rest else all).filter hasChannels := by split <;> simp [hp]
      cases useRef refs p.root with
      | none => rfl
      | some rr =>
        simp only [Option.map_some, Option.toList_some, List.filterMap_cons, List.filterMap_nil, newCand, hrem]
        cases tryAllocate track (emptyAllocation p) <;> rfl
    · -- a pack without channels yields no candidate
      rw [List.filter_cons_of_neg hp]
      cases useRef refs p.root with
      | none => rfl
      | some rr => simp [newCand, tryAllocate_empty track (by simpa using hp)]

theorem newCandidates_filter (track : TrackRef) (packs : List Pack) (refs : Option (List Nat)) (partialSol : Sol) :
    newCandidates track (packs.filter hasChannels) refs partialSol =
      (newCandidates track packs refs partialSol).map dropRp := by
  rw [newCandidates_eq, newCandidates_eq]
  unfold candidateNewPacks
  split
  · simp
  · exact candidateNewPacksAux_filter track refs partialSol packs packs

theorem candidatePartialSolutions_filter (track : TrackRef) (packs : List Pack) (refs : Option (List Nat))
    (partialSol : Sol) :
    candidatePartialSolutions track (packs.filter hasChannels) refs partialSol =
      (candidatePartialSolutions track packs refs partialSol).map dropRp := by
  unfold candidatePartialSolutions
  rw [newCandidates_filter]
  have hex : ((existingCandidates track [] partialSol).map fun np => (np, packs.filter hasChannels, refs)) =
      ((existingCandidates track [] partialSol).map fun np => (np, packs, refs)).map dropRp := by
    simp [dropRp, Function.comp_def]
  simp only
  rw [hex]
  split
  · cases h : (existingCandidates track [] partialSol).map fun np => (np, packs, refs) with
    | nil => simp
    | cons e t => simp
  · simp

theorem filter_filter_comm {α : Type} (p q : α → Bool) (l : List α) :
    (l.filter p).filter q = (l.filter q).filter p := by
  simp only [List.filter_filter]
  congr 1
  funext a
  exact Bool.and_comm _ _

/-- `_allocate_packs_impl` never allocates a pack without channels (`try_allocate` on its empty allocation returns
`None`), so such packs can be removed from `packs` without changing what is yielded -/
theorem allocImpl_filter : ∀ (fuel : Nat) (packs : List Pack) (tracks : List TrackRef) (refs : Option (List Nat))
    (partialSol : Sol),
    allocImpl fuel packs tracks refs partialSol = allocImpl fuel (packs.filter hasChannels) tracks refs partialSol := by
  intro fuel
  induction fuel with
  | zero => intro packs tracks refs partialSol; rfl
  | succ fuel ih =>
    intro packs tracks refs partialSol
    cases tracks with
    | nil => simp [allocImpl]
    | cons track rest =>
      simp only [allocImpl]
      split
      · rfl
      · -- the pruning filter (`could_possibly_allocate`) does not look at `packs`, so it commutes with `hasChannels`
        rw [filter_filter_comm, candidatePartialSolutions_filter, List.flatMap_map]
        refine flatMap_congr' ?_
        intro x _
        obtain ⟨np, rp, rr⟩ := x
        simp only [dropRp, allocObviousWith]
        cases obviousPacks rest np with
        | none => rfl
        | some y => simp only; exact ih _ _ _ _

theorem allocatePacks_dropEmpty (prob : Problem) : allocatePacks (dropEmpty prob) = allocatePacks prob := by
  unfold allocatePacks
  have : tracksIncSilent (dropEmpty prob) = tracksIncSilent prob := rfl
  rw [this]
  exact (allocImpl_filter _ _ _ _ _).symm

theorem selectPackMapping_dropEmpty (prob : Problem) :
    selectPackMapping (dropEmpty prob) = selectPackMapping prob := by
  unfold selectPackMapping
  rw [allocatePacks_dropEmpty]

/-- C07's `WF` for a problem without its channel-less allocation packs needs no "no allocation pack is empty" -/
theorem wf_dropEmpty {prob : Problem} (hp : prob.packs.Nodup) (ht : prob.tracks.Nodup)
    (hc : ∀ p ∈ prob.packs, (p.channels.map (·.cf)).Nodup) : WF (dropEmpty prob) :=
  ⟨hp.sublist List.filter_sublist, ht,
    fun p hp hnil => by simpa [hasChannels, hnil] using (List.mem_filter.mp hp).2,
    fun p hp => hc p (List.mem_filter.mp hp).1⟩

theorem valid_dropEmpty_iff (prob : Problem) (sol : Sol) :
    Valid (dropEmpty prob) sol ↔ Valid prob sol ∧ ∀ a ∈ sol, a.pack.channels ≠ [] := by
  constructor
  · intro h
    refine ⟨{ h with packs_mem := fun a ha => (List.mem_filter.mp (h.packs_mem a ha)).1 }, fun a ha hnil => ?_⟩
    simpa [hasChannels, hnil] using (List.mem_filter.mp (h.packs_mem a ha)).2
  · rintro ⟨h, hne⟩
    exact { h with packs_mem := fun a ha =>
      List.mem_filter.mpr ⟨h.packs_mem a ha, by simpa [hasChannels] using hne a ha⟩ }

end Earverif.PackAlloc
