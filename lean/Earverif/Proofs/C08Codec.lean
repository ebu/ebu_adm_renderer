/-
Round trip of the declarative XML combinators (`Model/XmlCodec.lean`): if every field codec round-trips
on the value it carries, handler keys and argument names are pairwise distinct, elided defaults agree with
the constructor defaults and the hand-written handlers (parameters) leave the declarative arguments alone,
then parsing what `to_xml` wrote gives the object back.  Plan: per pass and per property an effect (`attrEff`, `childEff`,
`textEff`, `genEff`: what the pass stores under `a` because of `p`); `pass_loop` shows that each pass ends with
`findSome? eff` or the previous state; distinct arguments make that the owner's effect (`findSome?_owner`); `propEff`
stacks the four.  Core Lean only.
-/
import Earverif.Model.XmlCodec


namespace Earverif.XmlCodec

variable {V : Type} [DecidableEq V]

theorem nodup_flatMap_unique {α β} {f : α → List β} :
    ∀ {l : List α}, (l.flatMap f).Nodup → ∀ p ∈ l, ∀ q ∈ l, ∀ k, k ∈ f p → k ∈ f q → p = q := by
  intro l
  induction l with
  | nil => intro _ p hp; cases hp
  | cons x xs ih =>
    intro h p hp q hq k hkp hkq
    rw [List.flatMap_cons, List.nodup_append] at h
    obtain ⟨_, h2, h3⟩ := h
    rcases List.mem_cons.mp hp with rfl | hp' <;> rcases List.mem_cons.mp hq with rfl | hq'
    · rfl
    · exact absurd rfl (h3 k hkp k (List.mem_flatMap.mpr ⟨q, hq', hkq⟩))
    · exact absurd rfl (h3 k hkq k (List.mem_flatMap.mpr ⟨p, hp', hkp⟩))
    · exact ih h2 p hp' q hq' k hkp hkq

theorem findSome?_owner {α β} {f : α → Option β} {p : α} :
    ∀ {l : List α}, p ∈ l → (∀ q ∈ l, (f q).isSome → q = p) → l.findSome? f = f p := by
  intro l
  induction l with
  | nil => intro h; cases h
  | cons x xs ih =>
    intro hp hu
    rw [List.findSome?_cons]
    cases hx : f x with
    | some y => rw [← hu x (by simp) (by simp [hx]), hx]
    | none =>
      simp only
      rcases List.mem_cons.mp hp with rfl | hp'
      · rw [hx]
        refine List.findSome?_eq_none_iff.mpr fun q hq => Option.not_isSome_iff_eq_none.mp fun hs => ?_
        rw [hu q (by simp [hq]) hs, hx] at hs
        cases hs
      · exact ih hp' (fun q hq => hu q (by simp [hq]))

omit [DecidableEq V] in
theorem matchesName_outName (adm : String) : matchesName (outName adm) adm = true := by
  simp [matchesName, outName, namespaces, defaultNs]

omit [DecidableEq V] in
theorem matchesName_name {key : QName} {adm : String} (h : matchesName key adm = true) : key.name = adm := by
  simp only [matchesName, Bool.and_eq_true, beq_iff_eq] at h
  exact h.1

theorem attrHandler_isSome_mem {p : Property V} {key : String} (h : (p.attrHandler? key).isSome) :
    key ∈ p.attrKeys := by
  cases p <;> simp only [Property.attrHandler?, Property.attrKeys] at h ⊢ <;> try (cases h)
  · split at h
    · simp [*]
    · cases h
  · split at h
    · simp [*]
    · split at h
      · simp [*]
      · cases h

omit [DecidableEq V] in
theorem elemHandler_isSome_mem {p : Property V} {key : QName} (h : (p.elemHandler? key).isSome) :
    key.name ∈ p.elemNames := by
  cases p <;> simp only [Property.elemHandler?, Property.elemNames] at h ⊢ <;> try (cases h)
  all_goals
    split at h
    · rename_i hm; simp [matchesName_name hm]
    · cases h

/-- key uniqueness (the obligation checked on the extracted tables) -/
structure KeysOK (ps : List (Property V)) : Prop where
  attrs : (ps.flatMap (·.attrKeys)).Nodup
  elems : (ps.flatMap (·.elemNames)).Nodup
  args : (allArgs ps).Nodup
  text : (ps.filterMap (·.textHandler?)).length ≤ 1

instance (ps : List (Property V)) : Decidable (KeysOK ps) :=
  decidable_of_iff ((ps.flatMap (·.attrKeys)).Nodup ∧ (ps.flatMap (·.elemNames)).Nodup ∧ (allArgs ps).Nodup ∧
      (ps.filterMap (·.textHandler?)).length ≤ 1)
    ⟨fun ⟨a, b, c, d⟩ => ⟨a, b, c, d⟩, fun ⟨a, b, c, d⟩ => ⟨a, b, c, d⟩⟩

theorem lookupAttr_none {ps : List (Property V)} {key : String} (h : key ∉ ps.flatMap (·.attrKeys)) :
    lookupAttr ps key = none :=
  List.findSome?_eq_none_iff.mpr fun q hq => Option.not_isSome_iff_eq_none.mp fun hs =>
    h (List.mem_flatMap.mpr ⟨q, List.mem_reverse.mp hq, attrHandler_isSome_mem hs⟩)

omit [DecidableEq V] in
theorem lookupElem_none {ps : List (Property V)} {key : QName} (h : key.name ∉ ps.flatMap (·.elemNames)) :
    lookupElem ps key = none :=
  List.findSome?_eq_none_iff.mpr fun q hq => Option.not_isSome_iff_eq_none.mp fun hs =>
    h (List.mem_flatMap.mpr ⟨q, List.mem_reverse.mp hq, elemHandler_isSome_mem hs⟩)

theorem lookupAttr_of_mem {ps : List (Property V)} (hk : (ps.flatMap (·.attrKeys)).Nodup) {p : Property V}
    (hp : p ∈ ps) {key : String} {h : Kw V → String → Option (Kw V)} (hh : p.attrHandler? key = some h) :
    lookupAttr ps key = some h := by
  unfold lookupAttr
  refine (findSome?_owner (List.mem_reverse.mpr hp) ?_).trans hh
  intro q hq hs
  have hq' := List.mem_reverse.mp hq
  exact nodup_flatMap_unique hk q hq' p hp key (attrHandler_isSome_mem hs)
    (attrHandler_isSome_mem (by simp [hh]))

omit [DecidableEq V] in
theorem lookupElem_of_mem {ps : List (Property V)} (hk : (ps.flatMap (·.elemNames)).Nodup) {p : Property V}
    (hp : p ∈ ps) {key : QName} {h : Kw V → Xml → Option (Kw V)} (hh : p.elemHandler? key = some h) :
    lookupElem ps key = some h := by
  unfold lookupElem
  refine (findSome?_owner (List.mem_reverse.mpr hp) ?_).trans hh
  intro q hq hs
  have hq' := List.mem_reverse.mp hq
  exact nodup_flatMap_unique hk q hq' p hp key.name (elemHandler_isSome_mem hs)
    (elemHandler_isSome_mem (by simp [hh]))

theorem parseAttrs_append (ps : List (Property V)) (xs ys : List (String × String)) (kw : Kw V) :
    parseAttrs ps (xs ++ ys) kw = (parseAttrs ps xs kw).bind (parseAttrs ps ys) := by
  induction xs generalizing kw with
  | nil => simp [parseAttrs]
  | cons x xs ih =>
    obtain ⟨k, v⟩ := x
    simp only [List.cons_append, parseAttrs]
    cases lookupAttr ps k with
    | none => exact ih kw
    | some h =>
      simp only
      cases h kw v with
      | none => rfl
      | some kw2 => simp only [Option.bind_some]; exact ih kw2

omit [DecidableEq V] in
theorem parseChildren_append (ps : List (Property V)) (xs ys : List Xml) (kw : Kw V) :
    parseChildren ps (xs ++ ys) kw = (parseChildren ps xs kw).bind (parseChildren ps ys) := by
  induction xs generalizing kw with
  | nil => simp [parseChildren]
  | cons x xs ih =>
    simp only [List.cons_append, parseChildren]
    cases lookupElem ps x.tag with
    | none => exact ih kw
    | some h =>
      simp only
      cases h kw x with
      | none => rfl
      | some kw2 => simp only [Option.bind_some]; exact ih kw2

theorem parseAttrs_unhandled (ps : List (Property V)) (xs : List (String × String)) (kw : Kw V)
    (h : ∀ kv ∈ xs, lookupAttr ps kv.1 = none) : parseAttrs ps xs kw = some kw := by
  induction xs with
  | nil => rfl
  | cons x xs ih =>
    obtain ⟨k, v⟩ := x
    simp only [parseAttrs, h (k, v) (by simp)]
    exact ih (fun kv hkv => h kv (by simp [hkv]))

omit [DecidableEq V] in
theorem parseChildren_unhandled (ps : List (Property V)) (xs : List Xml) (kw : Kw V)
    (h : ∀ x ∈ xs, lookupElem ps x.tag = none) : parseChildren ps xs kw = some kw := by
  induction xs with
  | nil => rfl
  | cons x xs ih =>
    simp only [parseChildren, h x (by simp)]
    exact ih (fun y hy => h y (by simp [hy]))

omit [DecidableEq V] in
theorem Kw.set_same (kw : Kw V) (a : String) (x : Val V) : (kw.set a x) a = some x := by
  simp [Kw.set]

omit [DecidableEq V] in
theorem Kw.set_other (kw : Kw V) {a b : String} (x : Val V) (h : b ≠ a) : (kw.set a x) b = kw b := by
  simp [Kw.set, h]

omit [DecidableEq V] in
theorem Kw.set_set (kw : Kw V) (a : String) (x y : Val V) : (kw.set a x).set a y = kw.set a y := by
  funext b
  by_cases hb : b = a <;> simp [Kw.set, hb]

/-- what the attribute pass stores under argument `a` because of property `p` -/
def attrEff (o : Obj V) (a : String) : Property V → Option (Val V)
  | .attr _ arg _ _ dflt =>
    if arg = a then (match o arg with | .one v => if v ≠ dflt then some (.one v) else none | .many _ => none)
    else none
  | .typeAttribute _ _ arg _ _ _ =>
    if arg = a then (match o arg with | .one v => some (.one v) | .many _ => none) else none
  | _ => none

/-- the state during the child-element pass: whatever the attribute pass stored is still there (this is what
a hand-written element handler may rely on, e.g. `kwargs["type"]` in the audioBlockFormat handler) -/
def AttrCtx (ps : List (Property V)) (o : Obj V) (kw : Kw V) : Prop :=
  ∀ a v, ps.findSome? (attrEff o a) = some v → kw a = some v

/-- a hand-written handler run on its own output, from a state in which its arguments are not yet set:
succeeds, stores exactly `eff` under its own arguments and leaves every other argument alone -/
def RunOK (o : Obj V) (impl : CustomImpl V) (run : Kw V → Option (Kw V)) : Prop :=
  ∀ kw, (∀ a ∈ impl.own, kw a = none) →
    ∃ kw', run kw = some kw' ∧ (∀ a ∈ impl.own, kw' a = impl.eff o a) ∧ (∀ b, b ∉ impl.own → kw' b = kw b)

def RunOKC (C : Kw V → Prop) (o : Obj V) (impl : CustomImpl V) (run : Kw V → Option (Kw V)) : Prop :=
  ∀ kw, C kw → (∀ a ∈ impl.own, kw a = none) →
    ∃ kw', run kw = some kw' ∧ (∀ a ∈ impl.own, kw' a = impl.eff o a) ∧ (∀ b, b ∉ impl.own → kw' b = kw b)

omit [DecidableEq V] in
theorem RunOK.ctx {C : Kw V → Prop} {o : Obj V} {impl : CustomImpl V} {run : Kw V → Option (Kw V)}
    (h : RunOK o impl run) : RunOKC C o impl run := fun kw _ hn => h kw hn

omit [DecidableEq V] in
theorem RunOKC.mono {C C' : Kw V → Prop} {o : Obj V} {impl : CustomImpl V} {run : Kw V → Option (Kw V)}
    (h : ∀ kw, C' kw → C kw) (hr : RunOKC C o impl run) : RunOKC C' o impl run :=
  fun kw hc hn => hr kw (h kw hc) hn

/-- a scalar field: the object holds a scalar that its codec round-trips (needed only when it is written, i.e.
differs from the elided default); an optional field elides exactly the constructor default, a required field
never holds the elided value -/
def ScalarOK (o cd : Obj V) (arg : String) (c : Codec V) (req : Bool) (dflt : V) : Prop :=
  ∃ v, o arg = .one v ∧ (v ≠ dflt → c.loads (c.dumps v) = some v) ∧ (if req then v ≠ dflt else cd arg = .one dflt)

/-- hypotheses per property; `e` is the whole element written by `to_xml`: only the `genericElement` case uses it
(it is what a `GenericElement` handler is given).  For the hand-written handlers: their output is routed to their
own handler (`CustomElement`) or to nobody (`GenericElement`, extra attributes), they behave as `RunOK` says, and a
required argument is one they own and deliver.  A `CustomElement` handler may rely on what the attribute pass stored
(`AttrCtx`); a `GenericElement` handler runs last, on the element itself, and gets no such context. -/
def FieldOK (ps : List (Property V)) (e : Xml) (o cd : Obj V) : Property V → Prop
  | .attr _ arg c req dflt => ScalarOK o cd arg c req dflt
  | .attrElement _ arg c req dflt po => (po = true ∧ req = false) ∨ (po = false ∧ ScalarOK o cd arg c req dflt)
  | .listElement _ arg c req po =>
    (po = true ∧ req = false) ∨ po = false ∧ ∃ vs, o arg = .many vs ∧ (∀ v ∈ vs, c.loads (c.dumps v) = some v) ∧
      (vs = [] → req = false ∧ cd arg = .many [])
  | .handleText arg c => ∃ v, o arg = .one v ∧ c.loads (c.dumps v) = some v
  | .typeAttribute _ _ arg cD cL _ =>
    ∃ v, o arg = .one v ∧ cD.loads (cD.dumps v) = some v ∧ cL.loads (cL.dumps v) = some v
  | .customElement adm arg req impl =>
    (∀ x ∈ impl.childrenOut o, matchesName x.tag adm = true) ∧
    (∀ kv ∈ impl.attrsOut o, lookupAttr ps kv.1 = none) ∧
    RunOKC (AttrCtx ps o) o impl (fun kw => (impl.childrenOut o).foldlM impl.handle kw) ∧
    (req = true → ∀ a, arg = some a → a ∈ impl.own ∧ (impl.eff o a).isSome)
  | .genericElement arg req impl =>
    (∀ x ∈ impl.childrenOut o, lookupElem ps x.tag = none) ∧
    (∀ kv ∈ impl.attrsOut o, lookupAttr ps kv.1 = none) ∧
    RunOK o impl (fun kw => impl.handle kw e) ∧
    (req = true → ∀ a, arg = some a → a ∈ impl.own ∧ (impl.eff o a).isSome)

theorem fieldOK_custom {ps : List (Property V)} {e : Xml} {o cd : Obj V} {adm : String} {arg : Option String}
    {impl : CustomImpl V} (htag : ∀ x ∈ impl.childrenOut o, x.tag = outName adm) (hattrs : impl.attrsOut o = [])
    (hrun : RunOKC (AttrCtx ps o) o impl (fun kw => (impl.childrenOut o).foldlM impl.handle kw)) :
    FieldOK ps e o cd (.customElement adm arg false impl) :=
  ⟨fun x hx => by rw [htag x hx]; exact matchesName_outName adm, by simp [hattrs], hrun, by simp⟩

def childEff (o : Obj V) (a : String) : Property V → Option (Val V)
  | .attrElement _ arg _ _ dflt po =>
    if po then none else
    if arg = a then (match o arg with | .one v => if v ≠ dflt then some (.one v) else none | .many _ => none)
    else none
  | .listElement _ arg _ _ po =>
    if po then none else
    if arg = a then (match o arg with | .many vs => if vs = [] then none else some (.many vs) | .one _ => none)
    else none
  | .customElement _ _ _ impl => if a ∈ impl.own then impl.eff o a else none
  | _ => none

def textEff (o : Obj V) (a : String) : Property V → Option (Val V)
  | .handleText arg _ => if arg = a then (match o arg with | .one v => some (.one v) | .many _ => none) else none
  | _ => none

def genEff (o : Obj V) (a : String) : Property V → Option (Val V)
  | .genericElement _ _ impl => if a ∈ impl.own then impl.eff o a else none
  | _ => none

theorem attrEff_own {o : Obj V} {a : String} {p : Property V} (h : (attrEff o a p).isSome) : a ∈ p.ownArgs := by
  cases p <;> simp only [attrEff, Property.ownArgs] at h ⊢ <;> try (cases h)
  all_goals
    split at h
    · simp [*]
    · cases h

theorem childEff_own {o : Obj V} {a : String} {p : Property V} (h : (childEff o a p).isSome) : a ∈ p.ownArgs := by
  cases p <;> simp only [childEff, Property.ownArgs] at h ⊢ <;> try (cases h)
  · split at h
    · cases h
    · split at h
      · simp [*]
      · cases h
  · split at h
    · cases h
    · split at h
      · simp [*]
      · cases h
  · split at h
    · assumption
    · cases h

omit [DecidableEq V] in
theorem textEff_own {o : Obj V} {a : String} {p : Property V} (h : (textEff o a p).isSome) : a ∈ p.ownArgs := by
  cases p <;> simp only [textEff, Property.ownArgs] at h ⊢ <;> try (cases h)
  split at h
  · simp [*]
  · cases h

omit [DecidableEq V] in
theorem genEff_own {o : Obj V} {a : String} {p : Property V} (h : (genEff o a p).isSome) : a ∈ p.ownArgs := by
  cases p <;> simp only [genEff, Property.ownArgs] at h ⊢ <;> try (cases h)
  split at h
  · assumption
  · cases h

theorem attrEff_some_childEff {o : Obj V} {a : String} {p : Property V} (h : (attrEff o a p).isSome) :
    childEff o a p = none := by
  cases p <;> simp only [attrEff, childEff] at h ⊢ <;> first | rfl | cases h

omit [DecidableEq V] in
theorem allArgs_tail_nodup {p : Property V} {l : List (Property V)} (h : (allArgs (p :: l)).Nodup) :
    (allArgs l).Nodup := by
  unfold allArgs at h ⊢
  rw [List.flatMap_cons, List.nodup_append] at h
  exact h.2.1

omit [DecidableEq V] in
theorem own_head_notin {p : Property V} {l : List (Property V)} {a : String}
    (h : (allArgs (p :: l)).Nodup) (hp : a ∈ p.ownArgs) : ∀ q ∈ l, a ∉ q.ownArgs := by
  intro q hq hqa
  unfold allArgs at h
  rw [List.flatMap_cons, List.nodup_append] at h
  exact h.2.2 a hp a (List.mem_flatMap.mpr ⟨q, hq, hqa⟩) rfl

omit [DecidableEq V] in
theorem declArg_own {p : Property V} {a : String} (h : p.declArg? = some a) : a ∈ p.ownArgs := by
  cases p <;> simp only [Property.declArg?, Property.ownArgs] at h ⊢
  · simp_all
  · split at h <;> simp_all
  · split at h <;> simp_all
  · simp_all
  · simp_all
  · cases h
  · cases h

def Property.childOwn : Property V → List String
  | .attrElement _ arg _ _ _ po => if po then [] else [arg]
  | .listElement _ arg _ _ po => if po then [] else [arg]
  | .customElement _ _ _ impl => impl.own
  | _ => []

omit [DecidableEq V] in
theorem childOwn_own {p : Property V} {a : String} (h : a ∈ p.childOwn) : a ∈ p.ownArgs := by
  cases p <;> simp only [Property.childOwn, Property.ownArgs] at h ⊢ <;> first | exact h | cases h

/-- one property's output in one pass: under its own arguments the state holds what `eff` says, else what it held
(`(eff a).or (kw a)`); the other arguments are untouched -/
def StepOK (eff : String → Option (Val V)) (own : List String) (r : Option (Kw V)) (kw : Kw V) : Prop :=
  ∃ kw2, r = some kw2 ∧ (∀ a ∈ own, kw2 a = (eff a).or (kw a)) ∧ ∀ b, b ∉ own → kw2 b = kw b

omit [DecidableEq V] in
theorem StepOK.idle {eff : String → Option (Val V)} {own : List String} {r : Option (Kw V)} {kw : Kw V}
    (hr : r = some kw) (he : ∀ a, eff a = none) : StepOK eff own r kw :=
  ⟨kw, hr, fun a _ => by simp [he a], fun _ _ => rfl⟩

omit [DecidableEq V] in
theorem StepOK.stores {eff : String → Option (Val V)} {r : Option (Kw V)} {kw kw2 : Kw V} {arg : String} {x : Val V}
    (hr : r = some kw2) (hset : kw2 arg = some x) (hoth : ∀ b, b ≠ arg → kw2 b = kw b)
    (he : ∀ a, eff a = if arg = a then some x else none) : StepOK eff [arg] r kw := by
  refine ⟨kw2, hr, fun a ha => ?_, fun b hb => hoth b (by simpa using hb)⟩
  rw [List.mem_singleton] at ha
  subst ha
  simp [he, hset]

omit [DecidableEq V] in
/-- one pass of `parse` over what the properties of `l` wrote (`G l`, run by `run`): if each property, started
where its arguments `S p` are unset and the context condition `C` holds, behaves as `StepOK` says and keeps `C`,
then every argument ends up with what the first property along `l` stored under it.  `G` is `flatMap out`, given
abstractly so that `filterMap generic?` fits.  Used with: attributes `run = parseAttrs ps`, `S = ownArgs`, `C` trivial;
children `run = parseChildren ps`, `S = childOwn` (only these are known to be unset after the attribute pass),
`C = AttrCtx ps o`; generic handlers `run = parseGenerics e`, `S` = the handler's `own`, `C` trivial.  The text pass
has a single handler and is done directly in `stages_roundtrip`. -/
theorem pass_loop {α} (run : List α → Kw V → Option (Kw V)) (out : Property V → List α)
    (G : List (Property V) → List α) (eff : String → Property V → Option (Val V)) (S : Property V → List String)
    (C : Kw V → Prop) (happ : ∀ xs ys kw, run (xs ++ ys) kw = (run xs kw).bind (run ys))
    (hnil : ∀ kw, run [] kw = some kw) (hG0 : G [] = []) (hG : ∀ p l, G (p :: l) = out p ++ G l)
    (heff : ∀ a q, (eff a q).isSome → a ∈ q.ownArgs) (hS : ∀ q a, a ∈ S q → a ∈ q.ownArgs) :
    ∀ l : List (Property V),
      (∀ p ∈ l, ∀ kw, C kw → (∀ a ∈ S p, kw a = none) →
        StepOK (eff · p) p.ownArgs (run (out p) kw) kw ∧
          ∀ kw2, (∀ a ∈ p.ownArgs, kw2 a = (eff a p).or (kw a)) → (∀ b, b ∉ p.ownArgs → kw2 b = kw b) → C kw2) →
      (allArgs l).Nodup → ∀ kw, C kw → (∀ p ∈ l, ∀ a ∈ S p, kw a = none) →
      ∃ kw', run (G l) kw = some kw' ∧ ∀ a, kw' a = (l.findSome? (eff a)).or (kw a) := by
  intro l
  induction l with
  | nil => intro _ _ kw _ _; exact ⟨kw, by rw [hG0, hnil], fun a => by simp⟩
  | cons p l ih =>
    intro hstep hnd kw hC hinv
    obtain ⟨⟨kw2, hrun, hset, hoth⟩, hC2⟩ := hstep p (by simp) kw hC (hinv p (by simp))
    obtain ⟨kw', h3, h4⟩ := ih (fun q hq => hstep q (by simp [hq])) (allArgs_tail_nodup hnd) kw2 (hC2 kw2 hset hoth)
      (fun q hq a ha => by
        rw [hoth a (fun h => own_head_notin hnd h q hq (hS q a ha))]
        exact hinv q (by simp [hq]) a ha)
    refine ⟨kw', by rw [hG, happ, hrun]; exact h3, fun a => ?_⟩
    have none_of : ∀ (q : Property V), a ∉ q.ownArgs → eff a q = none := fun q hq =>
      Option.not_isSome_iff_eq_none.mp fun hs => hq (heff a q hs)
    rw [List.findSome?_cons, h4 a]
    by_cases ha : a ∈ p.ownArgs
    · rw [List.findSome?_eq_none_iff.mpr (fun q hq => none_of q (own_head_notin hnd ha q hq)), hset a ha]
      cases h : eff a p <;> simp [h]
    · rw [none_of p ha, hoth a ha]

theorem attrs_step (ps : List (Property V)) (hk : KeysOK ps) (e : Xml) (o cd : Obj V) (p : Property V) (hp : p ∈ ps)
    (hfield : FieldOK ps e o cd p) (kw : Kw V) (hnone : ∀ a ∈ p.ownArgs, kw a = none) :
    StepOK (attrEff o · p) p.ownArgs (parseAttrs ps (p.attrsOut o) kw) kw := by
  cases p with
  | attr adm arg c req dflt =>
    obtain ⟨v, hov, hrt, _⟩ := hfield
    by_cases hvd : v = dflt
    · exact .idle (by simp [Property.attrsOut, hov, hvd, parseAttrs]) (fun a => by simp [attrEff, hov, hvd])
    · refine .stores ?_ (Kw.set_same kw arg (.one v)) (fun b hb => Kw.set_other _ _ hb)
        (fun a => by simp [attrEff, hov, hvd])
      have hlk := lookupAttr_of_mem hk.attrs hp (key := adm)
        (h := fun kw v => (c.loads v).map fun x => kw.set arg (.one x)) (by simp [Property.attrHandler?])
      simp [Property.attrsOut, hov, hvd, parseAttrs, hlk, hrt hvd]
  | typeAttribute d l' arg cD cL req =>
    obtain ⟨v, hov, hrtD, hrtL⟩ := hfield
    refine .stores ?_ (Kw.set_same kw arg (.one v)) (fun b hb => Kw.set_other _ _ hb)
      (fun a => by simp [attrEff, hov])
    have hdl : d ≠ l' := by
      rintro rfl
      simpa [Property.attrKeys] using (List.pairwise_flatMap.mp hk.attrs).1 _ hp
    have hlkL := lookupAttr_of_mem hk.attrs hp (key := l') (h := typeHandler arg cL) (by simp [Property.attrHandler?])
    have hlkD := lookupAttr_of_mem hk.attrs hp (key := d) (h := typeHandler arg cD)
      (by simp [Property.attrHandler?, hdl])
    have hnone : kw arg = none := hnone arg (by simp [Property.ownArgs])
    have h1 : typeHandler arg cL kw (cL.dumps v) = some (kw.set arg (.one v)) := by
      simp [typeHandler, hrtL, hnone]
    have h2 : typeHandler arg cD (kw.set arg (.one v)) (cD.dumps v) = some (kw.set arg (.one v)) := by
      simp only [typeHandler, hrtD, Kw.set_same, if_true, Kw.set_set]
    simp [Property.attrsOut, hov, parseAttrs, hlkL, hlkD, h1, h2]
  | attrElement adm arg c req dflt po => exact .idle rfl (fun a => rfl)
  | listElement adm arg c req po => exact .idle rfl (fun a => rfl)
  | handleText arg c => exact .idle rfl (fun a => rfl)
  | customElement adm arg req impl => exact .idle (parseAttrs_unhandled ps _ kw hfield.2.1) (fun a => rfl)
  | genericElement arg req impl => exact .idle (parseAttrs_unhandled ps _ kw hfield.2.1) (fun a => rfl)

omit [DecidableEq V] in
theorem children_routed (ps : List (Property V)) (h : Kw V → Xml → Option (Kw V)) :
    ∀ xs : List Xml, (∀ x ∈ xs, lookupElem ps x.tag = some h) → ∀ kw : Kw V, parseChildren ps xs kw = xs.foldlM h kw := by
  intro xs
  induction xs with
  | nil => intro _ kw; rfl
  | cons x xs ih =>
    intro hx kw
    simp only [parseChildren, hx x (by simp), List.foldlM_cons]
    cases h kw x with
    | none => rfl
    | some kw2 => simpa using ih (fun y hy => hx y (by simp [hy])) kw2

/-- what a list-building handler (`ListElement`, `as_list_handler`) keeps under its argument after the values `vs`:
nothing until the first one -/
def optMany (vs : List V) : Option (Val V) := if vs = [] then none else some (.many vs)

omit [DecidableEq V] in
/-- a handler that appends one value per element (`h` on the element written for `v`, in a state holding `acc`,
stores `acc ++ [v]`), folded over the elements written for `vs` -/
theorem append_fold (h : Kw V → Xml → Option (Kw V)) (arg : String) (w : V → Xml) (C : Kw V → Prop)
    (hC : ∀ kw x, C kw → C (kw.set arg x)) :
    ∀ (vs acc : List V) (kw : Kw V), C kw → kw arg = optMany acc →
      (∀ kw acc, C kw → kw arg = optMany acc → ∀ v ∈ vs, h kw (w v) = some (kw.set arg (.many (acc ++ [v])))) →
      ∃ kw', (vs.map w).foldlM h kw = some kw' ∧ kw' arg = optMany (acc ++ vs) ∧ ∀ b, b ≠ arg → kw' b = kw b := by
  intro vs
  induction vs with
  | nil => intro acc kw _ hk _; exact ⟨kw, rfl, by simpa using hk, fun _ _ => rfl⟩
  | cons v vs ih =>
    intro acc kw hc hk hstep
    obtain ⟨kw', h1, h2, h3⟩ := ih (acc ++ [v]) (kw.set arg (.many (acc ++ [v]))) (hC _ _ hc)
      (by simp [Kw.set_same, optMany]) (fun kw acc hc hk w hw => hstep kw acc hc hk w (by simp [hw]))
    refine ⟨kw', ?_, by simpa using h2, fun b hb => by rw [h3 b hb, Kw.set_other _ _ hb]⟩
    simp only [List.map_cons, List.foldlM_cons, hstep kw acc hc hk v (by simp)]
    exact h1

omit [DecidableEq V] in
theorem listElementHandler_append {arg adm : String} {c : Codec V} {kw : Kw V} {acc : List V} {v : V}
    (hrt : c.loads (c.dumps v) = some v) (hk : kw arg = optMany acc) :
    listElementHandler arg c kw (leafElem adm (c.dumps v)) = some (kw.set arg (.many (acc ++ [v]))) := by
  by_cases ha : acc = [] <;> simp [listElementHandler, leafElem, Xml.text, hrt, hk, optMany, ha]

theorem children_step (ps : List (Property V)) (hk : KeysOK ps) (e : Xml) (o cd : Obj V) (p : Property V) (hp : p ∈ ps)
    (hfield : FieldOK ps e o cd p) (kw : Kw V) (hctx : AttrCtx ps o kw) (hnone : ∀ a ∈ p.childOwn, kw a = none) :
    StepOK (childEff o · p) p.ownArgs (parseChildren ps (p.childrenOut o) kw) kw := by
  cases p with
  | attr adm arg c req dflt => exact .idle rfl (fun a => rfl)
  | typeAttribute d l' arg cD cL req => exact .idle rfl (fun a => rfl)
  | handleText arg c => exact .idle rfl (fun a => rfl)
  | attrElement adm arg c req dflt po =>
    cases po with
    | true => exact .idle (by simp [Property.childrenOut, parseChildren]) (fun a => by simp [childEff])
    | false =>
      rcases hfield with h | ⟨_, v, hov, hrt, _⟩
      · cases h.1
      by_cases hvd : v = dflt
      · exact .idle (by simp [Property.childrenOut, hov, hvd, parseChildren]) (fun a => by simp [childEff, hov, hvd])
      · refine .stores ?_ (Kw.set_same kw arg (.one v)) (fun b hb => Kw.set_other _ _ hb)
          (fun a => by simp [childEff, hov, hvd])
        have hlk := lookupElem_of_mem hk.elems hp (key := outName adm) (h := attrElementHandler arg c)
          (by simp [Property.elemHandler?, matchesName_outName])
        have hnone : kw arg = none := hnone arg (by simp [Property.childOwn])
        have hh : attrElementHandler arg c kw (leafElem adm (c.dumps v)) = some (kw.set arg (.one v)) := by
          simp [attrElementHandler, hnone, leafElem, Xml.text, hrt hvd]
        have htag : (leafElem adm (c.dumps v)).tag = outName adm := rfl
        simp [Property.childrenOut, hov, hvd, parseChildren, htag, hlk, hh]
  | listElement adm arg c req po =>
    cases po with
    | true => exact .idle (by simp [Property.childrenOut, parseChildren]) (fun a => by simp [childEff])
    | false =>
      rcases hfield with h | ⟨_, vs, hov, hrt, _⟩
      · cases h.1
      have hlk := lookupElem_of_mem hk.elems hp (key := outName adm) (h := listElementHandler arg c)
        (by simp [Property.elemHandler?, matchesName_outName])
      have hnone : kw arg = none := hnone arg (by simp [Property.childOwn])
      obtain ⟨kw2, h1, h2, h3⟩ := append_fold (listElementHandler arg c) arg (fun v => leafElem adm (c.dumps v))
        (fun _ => True) (fun _ _ _ => trivial) vs [] kw trivial hnone
        (fun kw acc _ hk v hv => listElementHandler_append (hrt v hv) hk)
      refine ⟨kw2, ?_, fun a ha => ?_, fun b hb => h3 b (by simpa [Property.ownArgs] using hb)⟩
      · simp only [Property.childrenOut, hov, Bool.false_eq_true, if_false]
        rw [children_routed ps _ _ (fun x hx => by obtain ⟨v, _, rfl⟩ := List.mem_map.mp hx; exact hlk)]
        exact h1
      · simp only [Property.ownArgs, Bool.false_eq_true, if_false, List.mem_singleton] at ha
        subst ha
        simpa [childEff, hov, hnone, optMany] using h2
  | customElement adm arg req impl =>
    obtain ⟨htags, _, hrun, _⟩ := hfield
    have hnone' : ∀ a ∈ impl.own, kw a = none := fun a ha => hnone a (by simpa [Property.childOwn] using ha)
    obtain ⟨kw2, h2, hset, hoth⟩ := hrun kw hctx hnone'
    refine ⟨kw2, ?_, fun a ha => ?_, hoth⟩
    · show parseChildren ps (impl.childrenOut o) kw = some kw2
      rw [children_routed ps impl.handle _ (fun x hx => lookupElem_of_mem hk.elems hp
        (by simp [Property.elemHandler?, htags x hx]))]
      exact h2
    · have ha' : a ∈ impl.own := ha
      simp [childEff, ha', hset a ha', hnone' a ha']
  | genericElement arg req impl => exact .idle (parseChildren_unhandled ps _ kw hfield.1) (fun a => rfl)

theorem attrCtx_step (ps : List (Property V)) (hk : KeysOK ps) (o : Obj V) (p : Property V) (hp : p ∈ ps)
    (kw kw2 : Kw V) (hctx : AttrCtx ps o kw) (hset : ∀ a ∈ p.ownArgs, kw2 a = (childEff o a p).or (kw a))
    (hoth : ∀ b, b ∉ p.ownArgs → kw2 b = kw b) : AttrCtx ps o kw2 := by
  intro a v hv
  by_cases ha : a ∈ p.ownArgs
  · have hown : ps.findSome? (attrEff o a) = attrEff o a p :=
      findSome?_owner hp (fun q hq hs => nodup_flatMap_unique hk.args q hq p hp a (attrEff_own hs) ha)
    rw [hown] at hv
    rw [hset a ha, attrEff_some_childEff (by rw [hv]; rfl)]
    simpa using hctx a v (by rw [hown]; exact hv)
  · rw [hoth a ha]; exact hctx a v hv

omit [DecidableEq V] in
theorem textHandler_mem {ps : List (Property V)} {arg : String} {c : Codec V}
    (h : ps.findSome? (·.textHandler?) = some (arg, c)) : .handleText arg c ∈ ps := by
  obtain ⟨p, hp, ht⟩ := List.exists_of_findSome?_eq_some h
  cases p <;> simp [Property.textHandler?] at ht
  obtain ⟨rfl, rfl⟩ := ht
  exact hp

theorem length_le_one_eq {α} {l : List α} (h : l.length ≤ 1) {x y : α} (hx : x ∈ l) (hy : y ∈ l) : x = y := by
  match l, h with
  | [], _ => cases hx
  | [z], _ => simp at hx hy; rw [hx, hy]
  | _ :: _ :: _, h => simp at h

omit [DecidableEq V] in
theorem parseGenerics_append (e : Xml) (xs ys : List (CustomImpl V)) (kw : Kw V) :
    parseGenerics e (xs ++ ys) kw = (parseGenerics e xs kw).bind (parseGenerics e ys) := by
  induction xs generalizing kw with
  | nil => rfl
  | cons g gs ih =>
    simp only [List.cons_append, parseGenerics]
    cases g.handle kw e with
    | none => rfl
    | some kw2 => exact ih kw2

omit [DecidableEq V] in
theorem generic_own {q : Property V} {a : String} (h : a ∈ q.generic?.toList.flatMap (·.own)) : a ∈ q.ownArgs := by
  cases q <;> simp [Property.generic?] at h
  exact h

theorem generics_step (ps : List (Property V)) (e : Xml) (o cd : Obj V) (p : Property V)
    (hfield : FieldOK ps e o cd p) (kw : Kw V) (hnone : ∀ a ∈ p.generic?.toList.flatMap (·.own), kw a = none) :
    StepOK (genEff o · p) p.ownArgs (parseGenerics e p.generic?.toList kw) kw := by
  cases p with
  | genericElement arg req impl =>
    obtain ⟨_, _, hrun, _⟩ := hfield
    have hnone' : ∀ a ∈ impl.own, kw a = none := fun a ha => hnone a (by simpa [Property.generic?] using ha)
    obtain ⟨kw2, h2, hset, hoth⟩ := hrun kw hnone'
    refine ⟨kw2, by simp [Property.generic?, parseGenerics, h2], fun a ha => ?_, hoth⟩
    have ha' : a ∈ impl.own := ha
    simp [genEff, ha', hset a ha', hnone' a ha']
  | attr adm arg c req dflt => exact .idle rfl (fun a => rfl)
  | attrElement adm arg c req dflt po => exact .idle rfl (fun a => rfl)
  | listElement adm arg c req po => exact .idle rfl (fun a => rfl)
  | handleText arg c => exact .idle rfl (fun a => rfl)
  | typeAttribute d l' arg cD cL req => exact .idle rfl (fun a => rfl)
  | customElement adm arg req impl => exact .idle rfl (fun a => rfl)

/-- the hypotheses of the round-trip theorem; `e` is the element under consideration (`toXml ps name o`) -/
structure WF (ps : List (Property V)) (e : Xml) (o cd : Obj V) : Prop where
  keys : KeysOK ps
  fields : ∀ p ∈ ps, FieldOK ps e o cd p

/-- what ends up in `kwargs[a]` because of property `p`: a later pass overwrites an earlier one, hence the order -/
def propEff (o : Obj V) (a : String) (p : Property V) : Option (Val V) :=
  (genEff o a p).or ((textEff o a p).or ((childEff o a p).or (attrEff o a p)))

/-- the four passes on what `to_xml` wrote: they succeed, and every argument holds exactly what its owner
stored (nothing if it has no owner or the owner elided it) -/
theorem stages_roundtrip (ps : List (Property V)) (name : String) (o cd : Obj V)
    (h : WF ps (toXml ps name o) o cd) :
    ∃ kw, parseStages ps (toXml ps name o) = some kw ∧
      (∀ p ∈ ps, ∀ a ∈ p.ownArgs, kw a = propEff o a p) ∧
      (∀ a, a ∉ allArgs ps → kw a = none) := by
  obtain ⟨hk, hF⟩ := h
  have owner : ∀ (f : String → Property V → Option (Val V)),
      (∀ a q, (f a q).isSome → a ∈ q.ownArgs) →
      ∀ p ∈ ps, ∀ a ∈ p.ownArgs, ps.findSome? (f a) = f a p := by
    intro f hf p hp a ha
    exact findSome?_owner hp (fun q hq hs => nodup_flatMap_unique hk.args q hq p hp a (hf a q hs) ha)
  have noowner : ∀ (f : String → Property V → Option (Val V)),
      (∀ a q, (f a q).isSome → a ∈ q.ownArgs) →
      ∀ a, a ∉ allArgs ps → ps.findSome? (f a) = none := by
    intro f hf a ha
    exact List.findSome?_eq_none_iff.mpr fun q hq => Option.not_isSome_iff_eq_none.mp fun hs =>
      ha (List.mem_flatMap.mpr ⟨q, hq, hf a q hs⟩)
  have hA := owner (attrEff o) (fun a q hs => attrEff_own hs)
  have hC := owner (childEff o) (fun a q hs => childEff_own hs)
  have hT := owner (textEff o) (fun a q hs => textEff_own hs)
  have hG := owner (genEff o) (fun a q hs => genEff_own hs)
  obtain ⟨kw1, h1, e1⟩ := pass_loop (parseAttrs ps) (·.attrsOut o) (·.flatMap (·.attrsOut o)) (attrEff o) (·.ownArgs)
    (fun _ => True) (parseAttrs_append ps) (fun _ => rfl) rfl (fun _ _ => rfl) (fun a q hs => attrEff_own hs)
    (fun _ _ h => h) ps
    (fun p hp kw _ hn => ⟨attrs_step ps hk _ o cd p hp (hF p hp) kw hn, fun _ _ _ => trivial⟩) hk.args Kw.empty
    trivial (fun _ _ _ _ => rfl)
  obtain ⟨kw2, h2, e2⟩ := pass_loop (parseChildren ps) (·.childrenOut o) (·.flatMap (·.childrenOut o)) (childEff o)
    (·.childOwn) (AttrCtx ps o) (parseChildren_append ps) (fun _ => rfl) rfl (fun _ _ => rfl)
    (fun a q hs => childEff_own hs) (fun _ _ h => childOwn_own h) ps
    (fun p hp kw hctx hn =>
      ⟨children_step ps hk _ o cd p hp (hF p hp) kw hctx hn, fun kw2 => attrCtx_step ps hk o p hp kw kw2 hctx⟩)
    hk.args kw1 (by intro a v hv; rw [e1 a, hv]; rfl) (by
    intro p hp a ha
    rw [e1 a, hA p hp a (childOwn_own ha)]
    cases p <;> simp only [Property.childOwn] at ha <;> first | cases ha | simp [attrEff, Kw.empty])
  have htext : ∃ kw3, parseText ps (toXml ps name o) kw2 = some kw3 ∧
      ∀ a, kw3 a = (ps.findSome? (textEff o a)).or (kw2 a) := by
    unfold parseText
    cases hfs : ps.findSome? (·.textHandler?) with
    | none =>
      refine ⟨kw2, rfl, fun a => ?_⟩
      have : ps.findSome? (textEff o a) = none := by
        refine List.findSome?_eq_none_iff.mpr fun q hq => ?_
        have hq' := (List.findSome?_eq_none_iff.mp hfs) q hq
        cases q <;> first | rfl | (simp [Property.textHandler?] at hq')
      simp [this]
    | some t =>
      obtain ⟨arg, c⟩ := t
      have hp0 := textHandler_mem hfs
      obtain ⟨v, hov, hrt⟩ := hF _ hp0
      have htxt : (toXml ps name o).text = c.dumps v := by
        simp [toXml, Xml.text, textOut, hfs, hov]
      -- the text handler is unique (`hk.text`), so it is the only property with a text contribution
      have uniq : ∀ a, ∀ q ∈ ps, (textEff o a q).isSome → q = .handleText arg c := by
        intro a q hq hs
        cases q <;> simp only [textEff] at hs <;> try (cases hs)
        rename_i arg' c'
        have := length_le_one_eq hk.text (x := (arg', c')) (y := (arg, c)) (List.mem_filterMap.mpr ⟨_, hq, rfl⟩)
          (List.mem_filterMap.mpr ⟨_, hp0, rfl⟩)
        cases this
        rfl
      refine ⟨kw2.set arg (.one v), by simp [htxt, hrt], fun a => ?_⟩
      rw [findSome?_owner hp0 (uniq a)]
      by_cases haa : a = arg
      · simp [textEff, hov, haa, Kw.set_same]
      · simp [textEff, Ne.symm haa, Kw.set_other _ _ haa]
  obtain ⟨kw3, h3, e3⟩ := htext
  -- the arguments of a generic handler are untouched by the first three passes
  have before_gen : ∀ p ∈ ps, ∀ a ∈ p.generic?.toList.flatMap (·.own), kw3 a = none := by
    intro p hp a ha
    have ha' := generic_own ha
    rw [e3 a, e2 a, e1 a, hT p hp a ha', hC p hp a ha', hA p hp a ha']
    cases p <;> simp [Property.generic?] at ha
    simp [textEff, childEff, attrEff, Kw.empty]
  obtain ⟨kw4, h4, e4⟩ := pass_loop (parseGenerics _) (·.generic?.toList) (·.filterMap (·.generic?)) (genEff o)
    (·.generic?.toList.flatMap (·.own)) (fun _ => True) (parseGenerics_append _) (fun _ => rfl) rfl
    (fun p l => by rw [List.filterMap_cons]; cases p.generic? <;> rfl) (fun a q hs => genEff_own hs) (fun _ _ => generic_own) ps
    (fun p hp kw _ hn => ⟨generics_step ps _ o cd p (hF p hp) kw hn, fun _ _ _ => trivial⟩) hk.args kw3 trivial
    before_gen
  refine ⟨kw4, ?_, ?_, ?_⟩
  · have ha : (toXml ps name o).attrs = ps.flatMap (·.attrsOut o) := rfl
    have hc : (toXml ps name o).children = ps.flatMap (·.childrenOut o) := rfl
    simp only [parseStages, ha, hc, h1, h2, h3, h4, Option.bind_eq_bind, Option.bind_some]
  · intro p hp a ha
    rw [e4 a, e3 a, e2 a, e1 a, hG p hp a ha, hT p hp a ha, hC p hp a ha, hA p hp a ha]
    simp [propEff, Kw.empty]
  · intro a hna
    rw [e4 a, e3 a, e2 a, e1 a,
      noowner (genEff o) (fun a q hs => genEff_own hs) a hna,
      noowner (textEff o) (fun a q hs => textEff_own hs) a hna,
      noowner (childEff o) (fun a q hs => childEff_own hs) a hna,
      noowner (attrEff o) (fun a q hs => attrEff_own hs) a hna]
    simp [Kw.empty]

omit [DecidableEq V] in
theorem mem_declArgs {ps : List (Property V)} {p : Property V} {a : String} (hp : p ∈ ps)
    (ha : p.declArg? = some a) : a ∈ declArgs ps :=
  List.mem_filterMap.mpr ⟨p, hp, ha⟩

def Property.customEff : Property V → Obj V → String → Option (Val V)
  | .customElement _ _ _ impl => impl.eff
  | .genericElement _ _ impl => impl.eff
  | _ => fun _ _ => none

theorem propEff_custom (o : Obj V) (p : Property V) (hc : p.isCustom = true) (a : String) (ha : a ∈ p.ownArgs) :
    propEff o a p = p.customEff o a := by
  cases p <;> simp [Property.isCustom] at hc
  · have : a ∈ _ := ha
    simp only [Property.ownArgs] at ha
    simp [propEff, genEff, textEff, childEff, attrEff, ha, Property.customEff]
  · simp only [Property.ownArgs] at ha
    simp [propEff, genEff, textEff, childEff, attrEff, ha, Property.customEff]

theorem declEff_value (ps : List (Property V)) (e : Xml) (o cd : Obj V) (p : Property V)
    (hf : FieldOK ps e o cd p) (hc : p.isCustom = false) (a : String) (ha : a ∈ p.ownArgs) :
    (propEff o a p).getD (cd a) = o a ∧ (p.requiredArg? = some a → (propEff o a p).isSome) := by
  cases p with
  | attr adm arg c req dflt =>
    obtain ⟨v, hov, _, hd⟩ := hf
    simp only [Property.ownArgs, List.mem_singleton] at ha; subst ha
    by_cases hvd : v = dflt
    · cases req with
      | true => simp only [if_true] at hd; exact absurd hvd hd
      | false =>
        simp only [Bool.false_eq_true, if_false] at hd
        simp [propEff, genEff, textEff, childEff, attrEff, hov, hvd, hd, Property.requiredArg?]
    · simp [propEff, genEff, textEff, childEff, attrEff, hov, hvd]
  | attrElement adm arg c req dflt po =>
    cases po with
    | true => simp [Property.ownArgs] at ha
    | false =>
      rcases hf with h | ⟨hpo, v, hov, _, hd⟩
      · cases h.1
      simp only [Property.ownArgs, Bool.false_eq_true, if_false, List.mem_singleton] at ha; subst ha
      by_cases hvd : v = dflt
      · cases req with
        | true => simp only [if_true] at hd; exact absurd hvd hd
        | false =>
          simp only [Bool.false_eq_true, if_false] at hd
          simp [propEff, genEff, textEff, childEff, attrEff, hov, hvd, hd, Property.requiredArg?]
      · simp [propEff, genEff, textEff, childEff, attrEff, hov, hvd]
  | listElement adm arg c req po =>
    cases po with
    | true => simp [Property.ownArgs] at ha
    | false =>
      rcases hf with h | ⟨hpo, vs, hov, _, hd⟩
      · cases h.1
      simp only [Property.ownArgs, Bool.false_eq_true, if_false, List.mem_singleton] at ha; subst ha
      cases vs with
      | nil =>
        obtain ⟨hr, hcd⟩ := hd rfl
        simp [propEff, genEff, textEff, childEff, attrEff, hov, hcd, Property.requiredArg?, hr]
      | cons v vs => simp [propEff, genEff, textEff, childEff, attrEff, hov]
  | handleText arg c =>
    obtain ⟨v, hov, _⟩ := hf
    simp only [Property.ownArgs, List.mem_singleton] at ha; subst ha
    simp [propEff, genEff, textEff, hov]
  | typeAttribute d l arg cD cL req =>
    obtain ⟨v, hov, _⟩ := hf
    simp only [Property.ownArgs, List.mem_singleton] at ha; subst ha
    simp [propEff, genEff, textEff, childEff, attrEff, hov]
  | customElement adm arg req impl => simp [Property.isCustom] at hc
  | genericElement arg req impl => simp [Property.isCustom] at hc

theorem requiredArg_own (ps : List (Property V)) (e : Xml) (o cd : Obj V) (p : Property V)
    (hf : FieldOK ps e o cd p) (hc : p.isCustom = false) (a : String) (ha : p.requiredArg? = some a) :
    a ∈ p.ownArgs := by
  cases p with
  | attr adm arg c req dflt => cases req <;> simp_all [Property.requiredArg?, Property.ownArgs]
  | attrElement adm arg c req dflt po =>
    cases po with
    | false => cases req <;> simp_all [Property.requiredArg?, Property.ownArgs]
    | true =>
      rcases hf with h | ⟨hpo, _⟩
      · simp [Property.requiredArg?, h.2] at ha
      · cases hpo
  | listElement adm arg c req po =>
    cases po with
    | false => cases req <;> simp_all [Property.requiredArg?, Property.ownArgs]
    | true =>
      rcases hf with h | ⟨hpo, _⟩
      · simp [Property.requiredArg?, h.2] at ha
      · cases hpo
  | handleText arg c => simp [Property.requiredArg?] at ha
  | typeAttribute d l arg cD cL req => cases req <;> simp_all [Property.requiredArg?, Property.ownArgs]
  | customElement adm arg req impl => simp [Property.isCustom] at hc
  | genericElement arg req impl => simp [Property.isCustom] at hc

theorem requiredArg_custom (ps : List (Property V)) (e : Xml) (o cd : Obj V) (p : Property V)
    (hf : FieldOK ps e o cd p) (hc : p.isCustom = true) (a : String) (ha : p.requiredArg? = some a) :
    a ∈ p.ownArgs ∧ (p.customEff o a).isSome := by
  cases p <;> simp [Property.isCustom] at hc
  all_goals
    rename_i req impl
    cases req <;> simp [Property.requiredArg?] at ha
    exact hf.2.2.2 rfl a ha

/-- Round trip of `ElementParser.parse ∘ to_xml`: under `WF` (field codecs round-trip on the values
written, handler keys / element names / arguments pairwise distinct, defaults elided symmetrically, the
hand-written handlers behave on their own output as their specification `eff` says and leave the other
arguments alone) parsing what `to_xml` wrote succeeds; the object obtained agrees with the original on every
declarative argument, holds `eff` (defaulted by the constructor) under every argument of a hand-written
handler, and the constructor default everywhere else. -/
theorem codec_roundtrip (ps : List (Property V)) (name : String) (o cd : Obj V)
    (h : WF ps (toXml ps name o) o cd) :
    ∃ o', parse ps cd (toXml ps name o) = some o' ∧
      (∀ p ∈ ps, p.isCustom = false → ∀ a ∈ p.ownArgs, o' a = o a) ∧
      (∀ p ∈ ps, p.isCustom = true → ∀ a ∈ p.ownArgs, o' a = (p.customEff o a).getD (cd a)) ∧
      (∀ a, a ∉ allArgs ps → o' a = cd a) := by
  obtain ⟨kw, hst, hown, hother⟩ := stages_roundtrip ps name o cd h
  have hall : (ps.filterMap (·.requiredArg?)).all (fun a => (kw a).isSome) = true := by
    rw [List.all_eq_true]
    intro a ha
    obtain ⟨p, hp, hpa⟩ := List.mem_filterMap.mp ha
    cases hc : p.isCustom with
    | false =>
      have hd := requiredArg_own ps _ o cd p (h.fields p hp) hc a hpa
      rw [hown p hp a hd]
      exact (declEff_value ps _ o cd p (h.fields p hp) hc a hd).2 hpa
    | true =>
      obtain ⟨hmem, hsome⟩ := requiredArg_custom ps _ o cd p (h.fields p hp) hc a hpa
      rw [hown p hp a hmem, propEff_custom o p hc a hmem]
      exact hsome
  refine ⟨fun a => (kw a).getD (cd a), ?_, ?_, ?_, ?_⟩
  · unfold parse parseKw
    rw [hst, Option.bind_some, if_pos hall]
    rfl
  · intro p hp hc a ha
    simp only [hown p hp a ha]
    exact (declEff_value ps _ o cd p (h.fields p hp) hc a ha).1
  · intro p hp hc a ha
    simp only [hown p hp a ha, propEff_custom o p hc a ha]
  · intro a hna
    simp [hother a hna]

/-- If, in addition, every hand-written handler's stored value (defaulted by the
constructor) is the object's value, and the object holds constructor defaults outside the handled arguments,
then the object itself comes back and generating XML from the parsed object reproduces the same tree. -/
theorem codec_roundtrip_full (ps : List (Property V)) (name : String) (o cd : Obj V)
    (h : WF ps (toXml ps name o) o cd)
    (hcustom : ∀ p ∈ ps, p.isCustom = true → ∀ a ∈ p.ownArgs, (p.customEff o a).getD (cd a) = o a)
    (hrest : ∀ a, a ∉ allArgs ps → o a = cd a) :
    parse ps cd (toXml ps name o) = some o ∧
    (parse ps cd (toXml ps name o)).map (toXml ps name) = some (toXml ps name o) := by
  obtain ⟨o', hp, h1, h2, h3⟩ := codec_roundtrip ps name o cd h
  have : o' = o := by
    funext a
    by_cases ha : a ∈ allArgs ps
    · obtain ⟨p, hpm, hpa⟩ := List.mem_flatMap.mp ha
      cases hc : p.isCustom with
      | false => exact h1 p hpm hc a hpa
      | true => rw [h2 p hpm hc a hpa]; exact hcustom p hpm hc a hpa
    · rw [h3 a ha, hrest a ha]
  subst this
  exact ⟨hp, by rw [hp]; rfl⟩

/-- what the class-level round trip asks of one property: the field hypotheses and, for a hand-written handler,
that what it stores (defaulted by the constructor) is the object's value -/
def PropOK (ps : List (Property V)) (e : Xml) (o cd : Obj V) (p : Property V) : Prop :=
  FieldOK ps e o cd p ∧ (p.isCustom = true → ∀ a ∈ p.ownArgs, (p.customEff o a).getD (cd a) = o a)

theorem PropOK.decl {ps : List (Property V)} {e : Xml} {o cd : Obj V} {p : Property V} (hc : p.isCustom = false)
    (h : FieldOK ps e o cd p) : PropOK ps e o cd p :=
  ⟨h, fun h' => by rw [hc] at h'; cases h'⟩

theorem PropOK.attr {ps : List (Property V)} {e : Xml} {o cd : Obj V} {adm arg : String} {c : Codec V} {req : Bool}
    {d : V} (h : ScalarOK o cd arg c req d) : PropOK ps e o cd (.attr adm arg c req d) :=
  .decl rfl h

theorem PropOK.attrElement {ps : List (Property V)} {e : Xml} {o cd : Obj V} {adm arg : String} {c : Codec V} {req : Bool}
    {d : V} (h : ScalarOK o cd arg c req d) : PropOK ps e o cd (.attrElement adm arg c req d false) :=
  .decl rfl (Or.inr ⟨rfl, h⟩)

omit [DecidableEq V] in
theorem customEff_one {p : Property V} {o cd : Obj V} {arg : String} (hown : p.ownArgs = [arg])
    (h : (p.customEff o arg).getD (cd arg) = o arg) : ∀ a ∈ p.ownArgs, (p.customEff o a).getD (cd a) = o a := by
  intro a ha
  rw [hown, List.mem_singleton] at ha
  rw [ha]
  exact h

/-- a hand-written handler whose only argument is `arg`, run on its own output from a state where `arg` is unset:
either it stores nothing, says so (`eff`), and the constructor default is the object's value; or it stores the object's
value and says so.  This is `RunOK` and the stored-value half of `PropOK` in one case analysis. -/
def Restores (impl : CustomImpl V) (arg : String) (o cd : Obj V) (run : Kw V → Option (Kw V)) : Prop :=
  ∀ kw, kw arg = none →
    (run kw = some kw ∧ impl.eff o arg = none ∧ cd arg = o arg) ∨
    (run kw = some (kw.set arg (o arg)) ∧ impl.eff o arg = some (o arg))

omit [DecidableEq V] in
theorem Restores.runOK {impl : CustomImpl V} {arg : String} {o cd : Obj V} {run : Kw V → Option (Kw V)}
    (hown : impl.own = [arg]) (h : Restores impl arg o cd run) : RunOK o impl run := by
  intro kw hnone
  have hk : kw arg = none := hnone arg (by simp [hown])
  rcases h kw hk with ⟨hr, he, _⟩ | ⟨hr, he⟩
  · refine ⟨kw, hr, fun a ha => ?_, fun _ _ => rfl⟩
    rw [hown, List.mem_singleton] at ha
    rw [ha, hk, he]
  · refine ⟨kw.set arg (o arg), hr, fun a ha => ?_, fun b hb => ?_⟩
    · rw [hown, List.mem_singleton] at ha
      rw [ha, Kw.set_same, he]
    · rw [hown, List.mem_singleton] at hb
      exact Kw.set_other _ _ hb

omit [DecidableEq V] in
theorem Restores.getD {impl : CustomImpl V} {arg : String} {o cd : Obj V} {run : Kw V → Option (Kw V)}
    (h : Restores impl arg o cd run) : (impl.eff o arg).getD (cd arg) = o arg := by
  rcases h Kw.empty rfl with ⟨_, he, hd⟩ | ⟨_, he⟩ <;> simp [*]

theorem propOK_custom1 {ps : List (Property V)} {e : Xml} {o cd : Obj V} {adm : String} (arg : String)
    {argOpt : Option String} {impl : CustomImpl V} (hown : impl.own = [arg]) (hattrs : impl.attrsOut o = [])
    (htag : ∀ x ∈ impl.childrenOut o, x.tag = outName adm)
    (h : Restores impl arg o cd (fun kw => (impl.childrenOut o).foldlM impl.handle kw)) :
    PropOK ps e o cd (.customElement adm argOpt false impl) :=
  ⟨fieldOK_custom htag hattrs (h.runOK hown).ctx, fun _ => customEff_one hown h.getD⟩

theorem propOK_generic1 {ps : List (Property V)} {e : Xml} {o cd : Obj V} (arg : String) {impl : CustomImpl V}
    (hown : impl.own = [arg]) (hch : ∀ x ∈ impl.childrenOut o, lookupElem ps x.tag = none)
    (hattrs : ∀ kv ∈ impl.attrsOut o, lookupAttr ps kv.1 = none)
    (h : Restores impl arg o cd (fun kw => impl.handle kw e)) :
    PropOK ps e o cd (.genericElement none false impl) :=
  ⟨⟨hch, hattrs, h.runOK hown, by simp⟩, fun _ => customEff_one hown h.getD⟩

/-- the form the class-level files use: one `PropOK` per property -/
theorem codec_roundtrip_props (ps : List (Property V)) (name : String) (o cd : Obj V) (hk : KeysOK ps)
    (hp : ∀ p ∈ ps, PropOK ps (toXml ps name o) o cd p) (hrest : ∀ a, a ∉ allArgs ps → o a = cd a) :
    parse ps cd (toXml ps name o) = some o ∧
    (parse ps cd (toXml ps name o)).map (toXml ps name) = some (toXml ps name o) :=
  codec_roundtrip_full ps name o cd ⟨hk, fun p h => (hp p h).1⟩ (fun p h => (hp p h).2) hrest

theorem codec_roundtrip_pure (ps : List (Property V)) (name : String) (o cd : Obj V)
    (h : WF ps (toXml ps name o) o cd) (hpure : ∀ p ∈ ps, p.isCustom = false)
    (hrest : ∀ a, a ∉ allArgs ps → o a = cd a) :
    parse ps cd (toXml ps name o) = some o ∧
    (parse ps cd (toXml ps name o)).map (toXml ps name) = some (toXml ps name o) :=
  codec_roundtrip_full ps name o cd h (fun p hp hc => by rw [hpure p hp] at hc; cases hc) hrest

/-- what the declarative properties write depends only on the declarative arguments: together with
`codec_roundtrip` this is `to_xml (parse (to_xml obj)) = to_xml obj` for the declarative part of a mixed
parser (attributes, child elements and text written by declarative properties) -/
theorem toXml_decl_congr (ps : List (Property V)) (o o' : Obj V) (h : ∀ a ∈ declArgs ps, o' a = o a) :
    (∀ p ∈ ps, p.isCustom = false → p.attrsOut o' = p.attrsOut o ∧ p.childrenOut o' = p.childrenOut o) ∧
    textOut ps o' = textOut ps o := by
  constructor
  · intro p hp hc
    cases p with
    | attr adm arg c req dflt =>
      have := h arg (mem_declArgs hp rfl)
      simp [Property.attrsOut, Property.childrenOut, this]
    | attrElement adm arg c req dflt po =>
      cases po with
      | true => simp [Property.attrsOut, Property.childrenOut]
      | false =>
        have := h arg (mem_declArgs hp rfl)
        simp [Property.attrsOut, Property.childrenOut, this]
    | listElement adm arg c req po =>
      cases po with
      | true => simp [Property.attrsOut, Property.childrenOut]
      | false =>
        have := h arg (mem_declArgs hp rfl)
        simp [Property.attrsOut, Property.childrenOut, this]
    | handleText arg c => simp [Property.attrsOut, Property.childrenOut]
    | typeAttribute d l arg cD cL req =>
      have := h arg (mem_declArgs hp rfl)
      simp [Property.attrsOut, Property.childrenOut, this]
    | customElement adm arg req impl => simp [Property.isCustom] at hc
    | genericElement arg req impl => simp [Property.isCustom] at hc
  · unfold textOut
    cases hfs : ps.findSome? (·.textHandler?) with
    | none => rfl
    | some t =>
      obtain ⟨arg, c⟩ := t
      have hp0 := textHandler_mem hfs
      simp only [h arg (mem_declArgs hp0 rfl)]

end Earverif.XmlCodec
