/-
Round trips of the exactly modelled hand-written handlers (`Model/XmlCustom.lean`), with the points at
which the real code does not round-trip stated as theorems.  For a handler called once per element, `…_written` says
what it returns on the element its `to_xml` wrote; the round trip of the fold and the handler inside a parser
(`Proofs/C08Impls.lean`) both follow from it.
-/
import Earverif.Model.XmlCustom
import Earverif.Proofs.C08Leaf
import Earverif.Proofs.MapM

namespace Earverif.XmlCustom
open Earverif.XmlCodec

theorem attr?_elem (n : String) (as : List (String × String)) (t k : String) :
    attr? (elem n as t) k = (as.find? (·.1 == k)).map (·.2) := rfl

theorem elem_text (n : String) (as : List (String × String)) (t : String) : (elem n as t).text = t := rfl

theorem elem_attrs (n : String) (as : List (String × String)) (t : String) : (elem n as t).attrs = as := rfl

theorem hasKey_elem (n : String) (as : List (String × String)) (t k : String) :
    hasKey (elem n as t) k = as.any (·.1 == k) := rfl

theorem handleFrequency_low (f : Frequency) (v : Int) (h : f.lowPass = none) :
    handleFrequency f (elem "frequency" [("typeDefinition", "lowPass")] (dumpsNum v)) = some { f with lowPass := some v } := by
  simp [handleFrequency, attr?_elem, elem_text, loadsNum_dumpsNum, h]

theorem handleFrequency_high (f : Frequency) (v : Int) (h : f.highPass = none) :
    handleFrequency f (elem "frequency" [("typeDefinition", "highPass")] (dumpsNum v)) = some { f with highPass := some v } := by
  simp [handleFrequency, attr?_elem, elem_text, loadsNum_dumpsNum, h]

/-- every `Frequency` value (both, one or no limit) survives `frequency_to_xml` + `handle_frequency` -/
theorem frequency_roundtrip (f : Frequency) : parseFrequency (frequencyToXml f) = some f := by
  obtain ⟨lo, hi⟩ := f
  cases lo <;> cases hi <;> simp [parseFrequency, frequencyToXml, handleFrequency_low, handleFrequency_high]

theorem handleJumpPosition_written (il : Option Int) :
    ∀ x ∈ jumpPositionToXml ⟨true, il⟩, handleJumpPosition x = some ⟨true, il⟩ := by
  cases il <;>
    simp [jumpPositionToXml, handleJumpPosition, boolCodec, attr?_elem, elem_text, loadsNum_dumpsNum]

theorem jumpPosition_roundtrip (j : JumpPosition) (h : j.flag = true ∨ j.interpolationLength = none) :
    parseJumpPosition (jumpPositionToXml j) = some j := by
  obtain ⟨flag, il⟩ := j
  cases flag with
  | false => simp at h; subst h; rfl
  | true =>
    rw [parseJumpPosition, jumpPositionToXml, if_pos rfl, List.foldlM_cons,
      handleJumpPosition_written il _ (by simp [jumpPositionToXml])]
    rfl

/-- the excluded point (also evaluated on the real code by the harness): with the flag unset
`jump_position_to_xml` writes nothing, so an interpolationLength is lost -/
theorem jumpPosition_excluded (k : Int) :
    parseJumpPosition (jumpPositionToXml ⟨false, some k⟩) = some ⟨false, none⟩ := by
  simp [parseJumpPosition, jumpPositionToXml]

theorem Dict.find?_absent {α} (d : Dict α) (k : String) (h : d.any (·.1 == k) = false) :
    d.find? (·.1 == k) = none := by
  rw [List.find?_eq_none]
  intro x hx
  simpa using List.any_eq_false.mp h x hx

theorem Dict.get?_absent {α} (d : Dict α) (k : String) (h : d.any (·.1 == k) = false) : Dict.get? d k = none := by
  simp [Dict.get?, Dict.find?_absent d k h]

theorem Dict.get?_append_new {α} (d : Dict α) (k : String) (v : α) (h : d.any (·.1 == k) = false) :
    Dict.get? (d ++ [(k, v)]) k = some v := by
  simp [Dict.get?, List.find?_append, Dict.find?_absent d k h]

theorem Dict.set_new {α} (d : Dict α) (k : String) (v : α) (h : d.any (·.1 == k) = false) :
    Dict.set d k v = d ++ [(k, v)] := by
  simp [Dict.set, h]

theorem Dict.set_append_last {α} (d : Dict α) (k : String) (v v' : α) (h : d.any (·.1 == k) = false) :
    Dict.set (d ++ [(k, v)]) k v' = d ++ [(k, v')] := by
  unfold Dict.set
  have hany : (d ++ [(k, v)]).any (·.1 == k) = true := by simp
  rw [hany, if_pos rfl, List.map_append]
  congr 1
  · calc d.map (fun e => if (e.1 == k) = true then (k, v') else e) = d.map id := by
          apply List.map_congr_left
          intro x hx
          have := List.any_eq_false.mp h x hx
          simp only [Bool.not_eq_true] at this
          simp [this]
      _ = d := List.map_id d
  · simp

theorem Dict.any_append_other {α} (d : Dict α) (k k' : String) (v : α) (h : d.any (·.1 == k') = false)
    (hk : k ≠ k') : (d ++ [(k, v)]).any (·.1 == k') = false := by
  simp [h, hk]

theorem Dict.get?_append {α} (l r : Dict α) (k : String) :
    Dict.get? (l ++ r) k = (Dict.get? l k).or (Dict.get? r k) := by
  simp only [Dict.get?, List.find?_append]
  cases l.find? (·.1 == k) <;> rfl

/-! Entries that are written only when a condition fails (`if p then [] else [(c, x)]`): what the loops of
`handle_position_offset` and `handle_positionInteractionRange` leave for a coordinate whose elements are elided. -/

theorem Dict.get?_optional_same {α} (p : Prop) [Decidable p] (k : String) (x : α) :
    Dict.get? (if p then [] else [(k, x)]) k = if p then none else some x := by
  split <;> simp [Dict.get?]

theorem Dict.get?_optional_other {α} (p : Prop) [Decidable p] {c k : String} (x : α) (h : c ≠ k) :
    Dict.get? (if p then [] else [(c, x)]) k = none := by
  split <;> simp [Dict.get?, h]

theorem any_optional {α} (p : Prop) [Decidable p] {c k : String} (x : α) (h : c ≠ k) :
    (if p then [] else [(c, x)] : Dict α).any (·.1 == k) = false := by
  split <;> simp [h]

/-- what a loop's end sees in a dictionary of three optional entries under distinct keys: each value (if
written), whether anything was written, and which key sets cover it -/
theorem optional3 {α} (p1 p2 p3 : Prop) [Decidable p1] [Decidable p2] [Decidable p3] (c1 c2 c3 : String)
    (x1 x2 x3 : α) (h12 : c1 ≠ c2) (h13 : c1 ≠ c3) (h23 : c2 ≠ c3) :
    let st : Dict α :=
      (if p1 then [] else [(c1, x1)]) ++ (if p2 then [] else [(c2, x2)]) ++ (if p3 then [] else [(c3, x3)])
    Dict.get? st c1 = (if p1 then none else some x1) ∧ Dict.get? st c2 = (if p2 then none else some x2) ∧
      Dict.get? st c3 = (if p3 then none else some x3) ∧
      st.isEmpty = (decide p1 && decide p2 && decide p3) ∧
      ∀ ks, subsetKeys st ks =
        ((decide p1 || ks.contains c1) && ((decide p2 || ks.contains c2) && (decide p3 || ks.contains c3))) := by
  refine ⟨?_, ?_, ?_, ?_, fun ks => ?_⟩
  · simp [Dict.get?_append, Dict.get?_optional_same, Dict.get?_optional_other, h12.symm, h13.symm]
  · simp [Dict.get?_append, Dict.get?_optional_same, Dict.get?_optional_other, h12, h23.symm]
  · simp [Dict.get?_append, Dict.get?_optional_same, Dict.get?_optional_other, h13, h23]
  · by_cases h1 : p1 <;> by_cases h2 : p2 <;> by_cases h3 : p3 <;> simp [h1, h2, h3]
  · by_cases h1 : p1 <;> by_cases h2 : p2 <;> by_cases h3 : p3 <;> simp [subsetKeys, h1, h2, h3]

/-- three coordinates written one after the other, each by a `dump` whose elements leave one optional entry -/
theorem steps3 {σ β} (step : Dict σ → Xml → Option (Dict σ)) (dump : String → β → List Xml) (p : β → Prop)
    [DecidablePred p] (val : β → σ)
    (hstep : ∀ st c x, st.any (·.1 == c) = false →
      (dump c x).foldlM step st = some (st ++ if p x then [] else [(c, val x)]))
    (c1 c2 c3 : String) (a e d : β) (h12 : c1 ≠ c2) (h13 : c1 ≠ c3) (h23 : c2 ≠ c3) :
    (dump c1 a ++ dump c2 e ++ dump c3 d).foldlM step [] =
      some ((if p a then [] else [(c1, val a)]) ++ (if p e then [] else [(c2, val e)]) ++
        (if p d then [] else [(c3, val d)])) := by
  rw [List.foldlM_append, List.foldlM_append, Option.bind_eq_bind, hstep [] c1 a rfl, Option.bind_some,
    hstep _ c2 e (by simp [any_optional, h12]), Option.bind_some,
    hstep _ c3 d (by simp [any_optional, h13, h23]), List.nil_append]

/-- the dictionary `position[coordinate]` after the elements written by `dump_bound` -/
def dictOf (b : Bound) : Dict Int :=
  [("value", b.value)] ++ (match b.max with | some v => [("max", v)] | none => []) ++
    (match b.min with | some v => [("min", v)] | none => [])

theorem boundOf_dictOf (b : Bound) : boundOf (dictOf b) = some b := by
  obtain ⟨v, mn, mx⟩ := b
  cases mn <;> cases mx <;> simp [boundOf, dictOf, Dict.get?]

/-- how the screenEdgeLock attribute of the value element updates the state -/
def selAfter (sel : ScreenEdgeLock) (horizontal : Bool) : Option String → ScreenEdgeLock
  | none => sel
  | some s => if horizontal then { sel with horizontal := some s } else { sel with vertical := some s }

def lockOK (coordinate : String) (horizontal : Bool) : Option String → Prop
  | none => True
  | some s =>
    if horizontal then (coordinate = "azimuth" ∨ coordinate = "X") ∧ (s = "left" ∨ s = "right")
    else (coordinate = "elevation" ∨ coordinate = "Z") ∧ (s = "top" ∨ s = "bottom")

/-- the elements written by `dump_bound` for a coordinate that has not been seen yet -/
theorem dumpBound_steps (st : PosState) (coordinate : String) (b : Bound) (horizontal : Bool)
    (lock : Option String) (hnew : st.position.any (·.1 == coordinate) = false)
    (hlock : lockOK coordinate horizontal lock)
    (hnotboth : horizontal = false → lock ≠ none → ¬ (coordinate = "azimuth" ∨ coordinate = "X")) :
    (dumpBound coordinate b lock).foldlM speakerStep st
      = some ⟨st.position ++ [(coordinate, dictOf b)], selAfter st.sel horizontal lock⟩ := by
  obtain ⟨pos, sel⟩ := st
  obtain ⟨v, mn, mx⟩ := b
  simp only at hnew
  have hget0 := Dict.get?_absent pos coordinate hnew
  have first : speakerStep ⟨pos, sel⟩
      (elem "position" (("coordinate", coordinate) :: lockAttrs lock) (dumpsNum v))
      = some ⟨pos ++ [(coordinate, [("value", v)])], selAfter sel horizontal lock⟩ := by
    cases lock with
    | none =>
      simp [speakerStep, attr?_elem, elem_text, loadsNum_dumpsNum, hget0, Dict.set, hnew, selAfter, lockAttrs]
    | some s =>
      cases horizontal with
      | true =>
        simp only [lockOK, if_true] at hlock
        simp [speakerStep, attr?_elem, elem_text, loadsNum_dumpsNum, hget0, Dict.set, hnew, selAfter,
          lockAttrs, hlock.1, hlock.2]
      | false =>
        simp only [lockOK, Bool.false_eq_true, if_false] at hlock
        have hn := hnotboth rfl (by simp)
        simp [speakerStep, attr?_elem, elem_text, loadsNum_dumpsNum, hget0, Dict.set, hnew, selAfter,
          lockAttrs, hlock.1, hlock.2, hn]
  have later : ∀ (d : Dict Int) (sel' : ScreenEdgeLock) (bound : String) (w : Int),
      speakerStep ⟨pos ++ [(coordinate, d)], sel'⟩
        (elem "position" [("coordinate", coordinate), ("bound", bound)] (dumpsNum w))
      = some ⟨pos ++ [(coordinate, Dict.set d bound w)], sel'⟩ := by
    intro d sel' bound w
    simp [speakerStep, attr?_elem, elem_text, loadsNum_dumpsNum, Dict.get?_append_new pos coordinate d hnew,
      Dict.set_append_last pos coordinate d _ hnew]
  cases mn <;> cases mx <;>
    simp [dumpBound, first, later, dictOf, Dict.set]

def SelOK (sel : ScreenEdgeLock) : Prop :=
  (sel.horizontal = none ∨ sel.horizontal = some "left" ∨ sel.horizontal = some "right") ∧
  (sel.vertical = none ∨ sel.vertical = some "top" ∨ sel.vertical = some "bottom")

def SpeakerPosition.sel : SpeakerPosition → ScreenEdgeLock
  | .polar _ _ _ s => s
  | .cartesian _ _ _ s => s

theorem selAfter_horizontal (v h : Option String) : selAfter ⟨none, v⟩ true h = ⟨h, v⟩ := by
  cases h <;> rfl

theorem selAfter_vertical (h v : Option String) : selAfter ⟨h, none⟩ false v = ⟨h, v⟩ := by
  cases v <;> rfl

theorem selAfter_none (s : ScreenEdgeLock) (b : Bool) : selAfter s b none = s := rfl

theorem lockOK_h (c : String) (hc : c = "azimuth" ∨ c = "X") (h : Option String)
    (hh : h = none ∨ h = some "left" ∨ h = some "right") : lockOK c true h := by
  rcases hh with rfl | rfl | rfl <;> simp [lockOK, hc]

theorem lockOK_v (c : String) (hc : c = "elevation" ∨ c = "Z") (v : Option String)
    (hv : v = none ∨ v = some "top" ∨ v = some "bottom") : lockOK c false v := by
  rcases hv with rfl | rfl | rfl <;> simp [lockOK, hc]

/-- DirectSpeakers position round trip: every polar or Cartesian speaker position — with any
combination of `min` / `max` bounds on the three coordinates, with or without screen edge locks (valid
ones: `left`/`right` on azimuth or X, `top`/`bottom` on elevation or Z), with the polar distance elided when it
is the default `BoundCoordinate(1.0)` — is read back exactly from the `position` elements written for it. -/
theorem speakerPosition_roundtrip (p : SpeakerPosition) (h : SelOK p.sel) :
    parseSpeakerPosition (speakerPositionToXml p) = some p := by
  cases p with
  | polar az el di sel =>
    obtain ⟨hh, hv⟩ := h
    obtain ⟨sh, sv⟩ := sel
    simp only [SpeakerPosition.sel] at hh hv
    have s1 := dumpBound_steps ⟨[], ⟨none, none⟩⟩ "azimuth" az true sh rfl
      (lockOK_h _ (Or.inl rfl) sh hh) (fun hf => by cases hf)
    have s2 := dumpBound_steps ⟨[("azimuth", dictOf az)], selAfter ⟨none, none⟩ true sh⟩ "elevation" el false sv
      (by simp) (lockOK_v _ (Or.inl rfl) sv hv) (fun _ _ => by decide)
    have s3 := dumpBound_steps
      ⟨[("azimuth", dictOf az), ("elevation", dictOf el)], selAfter (selAfter ⟨none, none⟩ true sh) false sv⟩
      "distance" di true none (by simp) trivial (fun hf => by cases hf)
    simp only [List.nil_append, List.cons_append, selAfter_none, selAfter_horizontal, selAfter_vertical] at s1 s2 s3
    unfold parseSpeakerPosition speakerPositionToXml
    by_cases hd : di = ⟨100000, none, none⟩
    · subst hd
      simp only [ne_eq, not_true_eq_false, if_false, List.append_nil, List.foldlM_append, Option.bind_eq_bind, s1, s2,
        Option.bind_some]
      simp [speakerFinish, sameKeys, Dict.get?, boundOf_dictOf]
    · simp only [ne_eq, hd, not_false_eq_true, if_true, List.foldlM_append, Option.bind_eq_bind, s1, s2, s3,
        Option.bind_some]
      simp [speakerFinish, sameKeys, Dict.get?, boundOf_dictOf]
  | cartesian x y z sel =>
    obtain ⟨hh, hv⟩ := h
    obtain ⟨sh, sv⟩ := sel
    simp only [SpeakerPosition.sel] at hh hv
    have s1 := dumpBound_steps ⟨[], ⟨none, none⟩⟩ "X" x true sh rfl
      (lockOK_h _ (Or.inr rfl) sh hh) (fun hf => by cases hf)
    have s2 := dumpBound_steps ⟨[("X", dictOf x)], selAfter ⟨none, none⟩ true sh⟩ "Y" y true none
      (by simp) trivial (fun hf => by cases hf)
    have s3 := dumpBound_steps ⟨[("X", dictOf x), ("Y", dictOf y)], selAfter ⟨none, none⟩ true sh⟩ "Z" z false sv
      (by simp) (lockOK_v _ (Or.inr rfl) sv hv) (fun _ _ => by decide)
    simp only [List.nil_append, List.cons_append, selAfter_none, selAfter_horizontal, selAfter_vertical] at s1 s2 s3
    unfold parseSpeakerPosition speakerPositionToXml
    simp only [List.foldlM_append, Option.bind_eq_bind, s1, s2, s3, Option.bind_some]
    simp [speakerFinish, sameKeys, Dict.get?, boundOf_dictOf]

/-- a concrete instance: a polar position with bounds on the distance -/
example : parseSpeakerPosition (speakerPositionToXml
    (.polar ⟨3000000, none, none⟩ ⟨0, some (-500000), some 500000⟩ ⟨100000, some 50000, some 200000⟩
      ⟨some "left", none⟩))
    = some (.polar ⟨3000000, none, none⟩ ⟨0, some (-500000), some 500000⟩ ⟨100000, some 50000, some 200000⟩
      ⟨some "left", none⟩) :=
  speakerPosition_roundtrip _ ⟨Or.inr (Or.inl rfl), Or.inl rfl⟩

/-- an invalid lock (e.g. `top` stored as horizontal) is written but refused by the parser: outside `SelOK` -/
theorem speakerPosition_bad_lock (az el di : Bound) :
    parseSpeakerPosition (speakerPositionToXml (.polar az el di ⟨some "top", none⟩)) = none := by
  unfold parseSpeakerPosition speakerPositionToXml
  simp [dumpBound, lockAttrs, speakerStep, attr?_elem, elem_text, loadsNum_dumpsNum]

def ObjectPosition.sel : ObjectPosition → ScreenEdgeLock
  | .polar _ _ _ s => s
  | .cartesian _ _ _ s => s

/-- the values the constructor of `ObjectPolarPosition` accepts (Cartesian positions are not range-checked) -/
def ObjectPosition.inRange : ObjectPosition → Prop
  | .polar az el di _ => -18000000 ≤ az ∧ az ≤ 18000000 ∧ -9000000 ≤ el ∧ el ≤ 9000000 ∧ 0 ≤ di
  | .cartesian _ _ _ _ => True

/-- one `position` element of `object_position_to_xml` for a coordinate that has not been seen yet -/
theorem objectStep_dumpCoordinate (st : ObjPosState) (coordinate : String) (v : Int) (horizontal : Bool)
    (lock : Option String) (hnew : st.position.any (·.1 == coordinate) = false)
    (hlock : lockOK coordinate horizontal lock) :
    objectStep st (dumpCoordinate coordinate v lock)
      = some ⟨st.position ++ [(coordinate, v)], selAfter st.sel horizontal lock⟩ := by
  cases lock with
  | none =>
    simp [objectStep, dumpCoordinate, attr?_elem, elem_text, loadsNum_dumpsNum, hnew, selAfter, lockAttrs]
  | some s =>
    cases horizontal with
    | true =>
      simp only [lockOK, if_true] at hlock
      simp [objectStep, dumpCoordinate, attr?_elem, elem_text, loadsNum_dumpsNum, hnew, selAfter,
        lockAttrs, hlock.1, hlock.2]
    | false =>
      simp only [lockOK, Bool.false_eq_true, if_false] at hlock
      have hn : ¬ (coordinate = "azimuth" ∨ coordinate = "X") := by rcases hlock.1 with h | h <;> simp [h]
      simp [objectStep, dumpCoordinate, attr?_elem, elem_text, loadsNum_dumpsNum, hnew, selAfter,
        lockAttrs, hlock.1, hlock.2, hn]

/-- Objects position round trip: polar (distance elided when 1.0) and Cartesian (Z elided when 0.0 and
not locked) positions with valid screen edge locks are read back exactly. -/
theorem objectPosition_roundtrip (p : ObjectPosition) (hs : SelOK p.sel) (hr : p.inRange) :
    parseObjectPosition (objectPositionToXml p) = some p := by
  cases p with
  | polar az el di sel =>
    obtain ⟨sh, sv⟩ := sel
    obtain ⟨hh, hv⟩ := hs
    simp only [ObjectPosition.inRange] at hr
    have s1 := objectStep_dumpCoordinate ⟨[], ⟨none, none⟩⟩ "azimuth" az true sh rfl
      (lockOK_h _ (Or.inl rfl) sh hh)
    have s2 := objectStep_dumpCoordinate ⟨[("azimuth", az)], selAfter ⟨none, none⟩ true sh⟩ "elevation" el false sv
      (by simp) (lockOK_v _ (Or.inl rfl) sv hv)
    have s3 := objectStep_dumpCoordinate
      ⟨[("azimuth", az), ("elevation", el)], selAfter (selAfter ⟨none, none⟩ true sh) false sv⟩
      "distance" di true none (by simp) trivial
    simp only [List.nil_append, List.cons_append, selAfter_none, selAfter_horizontal, selAfter_vertical] at s1 s2 s3
    unfold parseObjectPosition objectPositionToXml
    by_cases hd : di = 100000
    · subst hd
      simp only [ne_eq, not_true_eq_false, if_false, List.append_nil, List.foldlM_cons, List.foldlM_nil, s1, s2,
        Option.bind_eq_bind, Option.bind_some]
      simp [objectFinish, sameKeys, Dict.get?, hr]
    · simp only [ne_eq, hd, not_false_eq_true, if_true, List.cons_append, List.nil_append, List.foldlM_cons,
        List.foldlM_nil, s1, s2, s3, Option.bind_eq_bind, Option.bind_some]
      simp [objectFinish, sameKeys, Dict.get?, hr]
  | cartesian x y z sel =>
    obtain ⟨sh, sv⟩ := sel
    obtain ⟨hh, hv⟩ := hs
    have s1 := objectStep_dumpCoordinate ⟨[], ⟨none, none⟩⟩ "X" x true sh rfl
      (lockOK_h _ (Or.inr rfl) sh hh)
    have s2 := objectStep_dumpCoordinate ⟨[("X", x)], selAfter ⟨none, none⟩ true sh⟩ "Y" y true none
      (by simp) trivial
    have s3 := objectStep_dumpCoordinate ⟨[("X", x), ("Y", y)], selAfter ⟨none, none⟩ true sh⟩ "Z" z false sv
      (by simp) (lockOK_v _ (Or.inr rfl) sv hv)
    simp only [List.nil_append, List.cons_append, selAfter_none, selAfter_horizontal, selAfter_vertical] at s1 s2 s3
    unfold parseObjectPosition objectPositionToXml
    by_cases hz : z ≠ 0 ∨ sv ≠ none
    · simp only [hz, if_true, List.cons_append, List.nil_append, List.foldlM_cons, List.foldlM_nil, s1, s2, s3,
        Option.bind_eq_bind, Option.bind_some]
      simp [objectFinish, sameKeys, Dict.get?]
    · simp only [hz, if_false, List.append_nil, List.foldlM_cons, List.foldlM_nil, s1, s2, Option.bind_eq_bind,
        Option.bind_some]
      obtain ⟨hz0, hsv⟩ := not_or.mp hz
      simp [objectFinish, sameKeys, Dict.get?, Decidable.not_not.mp hz0, Decidable.not_not.mp hsv]

/-- outside the range the constructor refuses what was written (e.g. azimuth 181°) -/
theorem objectPosition_out_of_range :
    parseObjectPosition (objectPositionToXml (.polar 18100000 0 100000 ⟨none, none⟩)) = none := by
  simp [parseObjectPosition, objectPositionToXml, dumpCoordinate, lockAttrs, objectStep, objectFinish,
    attr?_elem, elem_text, loadsNum_dumpsNum, sameKeys, Dict.get?]

theorem handleGainElement_written (v2 : Bool) (k : Int) :
    handleGainElement v2 false (elem "gain" [] (dumpsNum k)) = some (.linear k) := by
  cases v2 <;> simp [handleGainElement, parseGain, attr?_elem, elem_text, loadsNum_dumpsNum]

/-- gain sub-element (both versions): the value comes back, `1.0` through the constructor default -/
theorem gainElement_roundtrip (v2 : Bool) (k : Int) :
    parseGainElements v2 (gainToXml k) = some (if k = 100000 then none else some (.linear k)) := by
  by_cases h : k = 100000 <;> simp [parseGainElements, gainToXml, h, handleGainElement_written]

/-- optional gain (alternativeValueSet): `None` stays `None` -/
theorem optionalGain_roundtrip (g : Option Int) :
    parseGainElements true (optionalGainToXml g) = some (g.map .linear) := by
  cases g <;> simp [parseGainElements, optionalGainToXml, handleGainElement_written]

/-- gain attribute of a matrix coefficient (both versions), on an element carrying exactly the written attributes
(with further attributes: `gainAttribute_roundtrip'`, Proofs/C08Blocks2.lean) -/
theorem gainAttribute_roundtrip (v2 : Bool) (g : Option Int) (tag : QName) (cs : List Xml) (text : String) :
    handleGainAttribute v2 (.node tag (gainAttributeToXml g) cs text) = some (g.map .linear) := by
  cases g <;> cases v2 <;>
    simp [handleGainAttribute, gainAttributeToXml, parseGain, attr?, Xml.attrs, loadsNum_dumpsNum]

/-- a gain given in dB is accepted by the BS.2076-2 parser and refused by the BS.2076-1 one; `to_xml` never
writes a unit, so a dB gain comes back as a linear value after one round trip (value `10 ** (g/20)`, not on
the printable grid: outside the property's quantifier) -/
theorem gain_dB_versions (k : Int) :
    handleGainElement true false (elem "gain" [("gainUnit", "dB")] (dumpsNum k)) = some (.dB k) ∧
    handleGainElement false false (elem "gain" [("gainUnit", "dB")] (dumpsNum k)) = none := by
  simp [handleGainElement, parseGain, attr?_elem, elem_text, loadsNum_dumpsNum]

theorem handleChannelLock_written (c : ChannelLock) :
    ∀ x ∈ channelLockToXml (some c), handleChannelLock x = some (some c) := by
  obtain ⟨m⟩ := c
  cases m <;> simp [channelLockToXml, handleChannelLock, attr?_elem, elem_text, loadsNum_dumpsNum]

theorem channelLock_roundtrip (c : Option ChannelLock) : parseChannelLock (channelLockToXml c) = some c := by
  cases c with
  | none => rfl
  | some c =>
    rw [parseChannelLock, channelLockToXml, List.foldlM_cons, handleChannelLock_written c _ (by simp [channelLockToXml])]
    rfl

theorem handleDivergence_written (d : ObjectDivergence) :
    ∀ x ∈ divergenceToXml (some d), handleDivergence x = some d := by
  obtain ⟨v, a, p⟩ := d
  cases a <;> cases p <;>
    simp [divergenceToXml, handleDivergence, optNum, attr?_elem, elem_text, loadsNum_dumpsNum]

theorem divergence_roundtrip (d : Option ObjectDivergence) : parseDivergence (divergenceToXml d) = some d := by
  cases d with
  | none => rfl
  | some d =>
    rw [parseDivergence, divergenceToXml, List.foldlM_cons, handleDivergence_written d _ (by simp [divergenceToXml])]
    rfl

theorem parseZone_zoneToXml (z : Zone) : parseZone (zoneToXml z) = some z := by
  cases z <;>
    simp [parseZone, zoneToXml, cartKeys, polarKeys, hasKey_elem, attr?_elem, loadsNum_dumpsNum]

theorem zoneToXml_tag (z : Zone) : (zoneToXml z).tag = outName "zone" := by
  cases z <;> rfl

theorem mapM_parseZone (zs : List Zone) : (zs.map zoneToXml).mapM parseZone = some zs := by
  rw [mapM_some_iff, List.map_map]
  exact List.map_congr_left fun z _ => parseZone_zoneToXml z

theorem parseZoneExclusionElement_written (zs : List Zone) :
    parseZoneExclusionElement (.node (outName "zoneExclusion") [] (zs.map zoneToXml) "") = some zs := by
  have hf : (zs.map zoneToXml).filter (fun c => matchesName c.tag "zone") = zs.map zoneToXml :=
    List.filter_eq_self.mpr fun c hc => by
      obtain ⟨z, _, rfl⟩ := List.mem_map.mp hc
      rw [zoneToXml_tag]; exact matchesName_outName "zone"
  rw [parseZoneExclusionElement, Xml.children, hf]
  exact mapM_parseZone zs

/-- any list of Cartesian / polar zones comes back; the empty list is elided and restored by the constructor
default `[]` -/
theorem zoneExclusion_roundtrip (zs : List Zone) :
    parseZoneExclusion (zoneExclusionToXml zs) = some (if zs = [] then none else some zs) := by
  by_cases h : zs = [] <;> simp [parseZoneExclusion, zoneExclusionToXml, h, parseZoneExclusionElement_written]

def PositionOffset.nonzero : PositionOffset → Prop
  | .polar a e d => a ≠ 0 ∨ e ≠ 0 ∨ d ≠ 0
  | .cartesian x y z => x ≠ 0 ∨ y ≠ 0 ∨ z ≠ 0

/-- the element written for one coordinate that has not been seen yet (none when the component is zero) -/
theorem dumpOffset_steps (d : Dict Int) (c : String) (v : Int) (hnew : d.any (·.1 == c) = false) :
    (dumpOffset c v).foldlM offsetStep d = some (d ++ if v = 0 then [] else [(c, v)]) := by
  by_cases hv : v = 0
  · simp [dumpOffset, hv]
  · simp [dumpOffset, hv, offsetStep, attr?_elem, elem_text, loadsNum_dumpsNum, hnew]

theorem getD_optional (v : Int) : (if v = 0 then none else some v).getD 0 = v := by
  split <;> simp [*]

theorem positionOffset_roundtrip (p : Option PositionOffset) (h : ∀ q, p = some q → q.nonzero) :
    parsePositionOffset (positionOffsetToXml p) = some p := by
  cases p with
  | none => simp [parsePositionOffset, positionOffsetToXml, offsetFinish]
  | some q =>
    have hq := h q rfl
    cases q with
    | polar a e d =>
      have hne : (decide (a = 0) && decide (e = 0) && decide (d = 0)) = false := by
        rcases hq with h | h | h <;> simp [h]
      obtain ⟨ga, ge, gd, hem, hsub⟩ := optional3 (a = 0) (e = 0) (d = 0) "azimuth" "elevation" "distance" a e d
        (by decide) (by decide) (by decide)
      unfold parsePositionOffset positionOffsetToXml
      rw [steps3 offsetStep dumpOffset (· = 0) id dumpOffset_steps "azimuth" "elevation" "distance" a e d (by decide)
        (by decide) (by decide), Option.bind_some]
      simp only [id_eq]
      rw [offsetFinish, hem, hsub, ga, ge, gd]
      simp [hne, getD_optional]
    | cartesian a e d =>
      have hne : (decide (a = 0) && decide (e = 0) && decide (d = 0)) = false := by
        rcases hq with h | h | h <;> simp [h]
      have hne' : ¬ (a = 0 ∧ e = 0 ∧ d = 0) := fun ⟨ha, he, hd⟩ => by simp [ha, he, hd] at hne
      obtain ⟨ga, ge, gd, hem, hsub⟩ := optional3 (a = 0) (e = 0) (d = 0) "X" "Y" "Z" a e d (by decide) (by decide)
        (by decide)
      unfold parsePositionOffset positionOffsetToXml
      rw [steps3 offsetStep dumpOffset (· = 0) id dumpOffset_steps "X" "Y" "Z" a e d (by decide) (by decide)
        (by decide), Option.bind_some]
      simp only [id_eq]
      rw [offsetFinish, hem, hsub, hsub, ga, ge, gd]
      simp [hne, hne', getD_optional]

/-- the excluded point (also evaluated on the real code by the harness): an all-zero offset writes nothing and
comes back as `None` -/
theorem positionOffset_zero_excluded :
    parsePositionOffset (positionOffsetToXml (some (.polar 0 0 0))) = some none ∧
    parsePositionOffset (positionOffsetToXml (some (.cartesian 0 0 0))) = some none := by
  constructor <;> simp [parsePositionOffset, positionOffsetToXml, dumpOffset, offsetFinish]

example : PositionOffset.nonzero (.polar 0 (-1050000) 0) := Or.inr (Or.inl (by decide))

/-- the values `PolarPosition` accepts (a Cartesian centre position is not range-checked) -/
def CentrePosition.inRange : CentrePosition → Prop
  | .polar az el di => -18000000 ≤ az ∧ az ≤ 18000000 ∧ -9000000 ≤ el ∧ el ≤ 9000000 ∧ 0 ≤ di
  | .cartesian _ _ _ => True

theorem centrePosition_roundtrip (c : CentrePosition) (h : c.inRange) (cur : Option String)
    (hcur : cur = none ∨ cur = some c.kind) :
    handleCentrePosition cur (centrePositionToXml c) = some (c, c.kind) := by
  cases c with
  | polar az el di =>
    simp only [CentrePosition.inRange] at h
    rcases hcur with rfl | rfl <;>
      simp [handleCentrePosition, centrePositionToXml, hasKey_elem, attrNum?, attr?_elem, loadsNum_dumpsNum,
        handleScreenType, CentrePosition.kind, h]
  | cartesian x y z =>
    rcases hcur with rfl | rfl <;>
      simp [handleCentrePosition, centrePositionToXml, hasKey_elem, attrNum?, attr?_elem, loadsNum_dumpsNum,
        handleScreenType, CentrePosition.kind]

/-- a polar centre position outside the ranges of `PolarPosition` is written but refused on reading -/
theorem centrePosition_out_of_range :
    handleCentrePosition none (centrePositionToXml (.polar 18100000 0 100000)) = none := by
  simp [handleCentrePosition, centrePositionToXml, hasKey_elem, attrNum?, attr?_elem, loadsNum_dumpsNum]

def widthKind (cartesian : Bool) : String := if cartesian then "cartesian" else "polar"

theorem screenWidth_roundtrip (cartesian : Bool) (w : Int) (cur : Option String)
    (hcur : cur = none ∨ cur = some (widthKind cartesian)) :
    handleScreenWidth cur (screenWidthToXml cartesian w) = some (w, widthKind cartesian) := by
  cases cartesian <;> rcases hcur with rfl | rfl <;>
    simp [handleScreenWidth, screenWidthToXml, hasKey_elem, attrNum?, attr?_elem, loadsNum_dumpsNum,
      handleScreenType, widthKind]

/-- centre position and width of different kinds are refused ("Expected … screen data") -/
theorem screen_kind_mismatch (w : Int) :
    handleScreenWidth (some "polar") (screenWidthToXml true w) = none := by
  simp [handleScreenWidth, screenWidthToXml, hasKey_elem, attrNum?, attr?_elem, loadsNum_dumpsNum,
    handleScreenType]

def linRange (mn mx : Option Int) : GainRange := ⟨mn.map .linear, mx.map .linear⟩

/-- gainInteractionRange (either version): a range with at least one bound, linear gains on the grid -/
theorem gainRange_roundtrip (v2 : Bool) (mn mx : Option Int) (h : mn.isSome ∨ mx.isSome) :
    parseGainRange v2 (gainRangeToXml (some (linRange mn mx))) = some (some (linRange mn mx)) := by
  cases mn <;> cases mx <;> simp at h <;> cases v2 <;>
    simp [parseGainRange, gainRangeToXml, linRange, linear?, gainRangeStep, parseGainEl, parseGain, attr?_elem,
      elem_text, loadsNum_dumpsNum, Dict.get?]

theorem gainRange_none (v2 : Bool) : parseGainRange v2 (gainRangeToXml none) = some none := by
  simp [parseGainRange, gainRangeToXml]

/-- the excluded point: `InteractionRange()` without bounds writes nothing and comes back as `None` -/
theorem gainRange_empty_excluded (v2 : Bool) :
    parseGainRange v2 (gainRangeToXml (some ⟨none, none⟩)) = some none := by
  simp [parseGainRange, gainRangeToXml, linear?]

def IRange.isEmpty (r : IRange) : Bool := r.min.isNone && r.max.isNone

def dictOfIRange (r : IRange) : Dict Int :=
  (match r.min with | some k => [("min", k)] | none => []) ++ (match r.max with | some k => [("max", k)] | none => [])

theorem dumpIRange_steps (st : Dict (Dict Int)) (c : String) (r : IRange) (hnew : st.any (·.1 == c) = false) :
    (dumpIRange c r).foldlM posRangeStep st = some (if r.isEmpty then st else st ++ [(c, dictOfIRange r)]) := by
  obtain ⟨mn, mx⟩ := r
  have hget0 := Dict.get?_absent st c hnew
  cases mn <;> cases mx <;>
    simp [dumpIRange, posRangeStep, attr?_elem, elem_text, loadsNum_dumpsNum, hget0, Dict.set_new, hnew,
      IRange.isEmpty, dictOfIRange, Dict.get?_append_new, Dict.set_append_last]

def PosRange.nonempty : PosRange → Prop
  | .polar a e d => a.isEmpty = false ∨ e.isEmpty = false ∨ d.isEmpty = false
  | .cartesian x y z => x.isEmpty = false ∨ y.isEmpty = false ∨ z.isEmpty = false

theorem irangeOf_absent (st : Dict (Dict Int)) (c : String) (h : st.any (·.1 == c) = false) :
    irangeOf st c = ⟨none, none⟩ := by
  simp [irangeOf, Dict.get?_absent st c h]

theorem irangeOf_eq {st : Dict (Dict Int)} {c : String} {r : IRange}
    (h : Dict.get? st c = if r.isEmpty then none else some (dictOfIRange r)) : irangeOf st c = r := by
  obtain ⟨mn, mx⟩ := r
  rw [irangeOf, h]
  cases mn <;> cases mx <;> simp [IRange.isEmpty, dictOfIRange, Dict.get?]

theorem irangeOf_nil (c : String) : irangeOf [] c = ⟨none, none⟩ := rfl

theorem dumpIRange_append (st : Dict (Dict Int)) (c : String) (r : IRange) (hnew : st.any (·.1 == c) = false) :
    (dumpIRange c r).foldlM posRangeStep st =
      some (st ++ if r.isEmpty = true then [] else [(c, dictOfIRange r)]) := by
  rw [dumpIRange_steps st c r hnew]
  cases r.isEmpty <;> simp

/-- positionInteractionRange: polar or Cartesian, any subset of the six bounds as long as one is present -/
theorem posRange_roundtrip (p : PosRange) (h : p.nonempty) :
    parsePosRange (posRangeToXml (some p)) = some (some p) := by
  cases p with
  | polar a e d =>
    have hne : (a.isEmpty && e.isEmpty && d.isEmpty) = false := by
      rcases h with h | h | h <;> simp [h]
    obtain ⟨ga, ge, gd, hem, hsub⟩ := optional3 (a.isEmpty = true) (e.isEmpty = true) (d.isEmpty = true) "azimuth"
      "elevation" "distance" (dictOfIRange a) (dictOfIRange e) (dictOfIRange d) (by decide) (by decide) (by decide)
    unfold parsePosRange posRangeToXml
    rw [steps3 posRangeStep dumpIRange (·.isEmpty = true) dictOfIRange dumpIRange_append "azimuth" "elevation"
      "distance" a e d (by decide) (by decide) (by decide), Option.bind_some, posRangeFinish, hsub, hem,
      irangeOf_eq ga, irangeOf_eq ge, irangeOf_eq gd]
    simp [hne]
  | cartesian a e d =>
    have hne : (a.isEmpty && e.isEmpty && d.isEmpty) = false := by
      rcases h with h | h | h <;> simp [h]
    obtain ⟨ga, ge, gd, hem, hsub⟩ := optional3 (a.isEmpty = true) (e.isEmpty = true) (d.isEmpty = true) "X" "Y" "Z"
      (dictOfIRange a) (dictOfIRange e) (dictOfIRange d) (by decide) (by decide) (by decide)
    unfold parsePosRange posRangeToXml
    rw [steps3 posRangeStep dumpIRange (·.isEmpty = true) dictOfIRange dumpIRange_append "X" "Y" "Z" a e d (by decide)
      (by decide) (by decide), Option.bind_some, posRangeFinish, hsub, hsub, irangeOf_eq ga, irangeOf_eq ge,
      irangeOf_eq gd]
    have hne' : ¬ (a.isEmpty = true ∧ e.isEmpty = true ∧ d.isEmpty = true) := fun ⟨ha, he, hd⟩ => by
      simp [ha, he, hd] at hne
    simp [hne']

theorem posRange_none : parsePosRange (posRangeToXml none) = some none := by
  simp [parsePosRange, posRangeToXml, posRangeFinish, subsetKeys]

/-- the excluded point: a range object without any bound writes nothing and comes back as `None` -/
theorem posRange_empty_excluded :
    parsePosRange (posRangeToXml (some (.cartesian ⟨none, none⟩ ⟨none, none⟩ ⟨none, none⟩))) = some none := by
  simp [parsePosRange, posRangeToXml, dumpIRange, posRangeFinish, subsetKeys]

end Earverif.XmlCustom
