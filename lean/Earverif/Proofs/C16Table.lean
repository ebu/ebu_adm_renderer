/-
C16: boolean checks of the model on the finitely many sample codes 0, ±2^f, ±M and the most negative code;
`Pcm.tables` (Props/C16.lean) evaluates them in the kernel for the three depths.  The proofs read off them what the
general error analysis does not give (`powOk_spec`, `specialOk_spec` in Proofs/C16Pcm.lean: the last conjunct of
`powOk`, the three of `specialOk` about the most negative code); the other conjuncts hold by argument as well
(Props/C16.lean) and are evaluated beside it.  Core Lean only.
-/
import Earverif.Model.Pcm

namespace Earverif.Pcm
open Earverif.Ieee

/-- round trip of the codes `±2^f`, `f < b - 1`, for scale `2^(b-1) - 1` -/
def powOk (b : Nat) (f : Nat) : Bool :=
  encode b (decode b (2 ^ f)) == 2 ^ f && encode b (decode b (-(2 ^ f))) == -(2 ^ f)
  && decide (decode b (2 ^ f) ≤ 1)
  && rn53 (decode b (2 ^ f) * (scale b : Rat)) == ((2 ^ f : Int) : Rat)

def specialOk (b : Nat) : Bool :=
  encode b (decode b 0) == 0
  && encode b (decode b (scale b)) == scale b
  && encode b (decode b (-(scale b))) == -(scale b)
  && encode b (decode b (-(2 ^ (b - 1)))) == -(scale b)
  && decide (-1 - 1 / (scale b : Rat) ≤ decode b (-(2 ^ (b - 1))))
  && decide (decode b (-(2 ^ (b - 1))) < -1)
  && decode b (scale b) == 1
  && decode b (-(scale b)) == -1
  && rn53 (scale b : Rat) == (scale b : Rat)
  && rn53 (decode b (scale b) * (scale b : Rat)) == (scale b : Rat)

end Earverif.Pcm
