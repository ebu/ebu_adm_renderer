/-
C07 — completeness of the pack-allocation search (with pruning, the `obvious` step and
the silent-track canonicalisation): every valid solution of a well-formed problem is
yielded up to `~`.

Method: fix a target solution, split as `F ++ E` (`F` = the completed versions of the
packs already opened in the partial solution `P`, `E` = the packs still to be opened), and
follow the branch of the search that agrees with the target; the invariant `Inv` below is
preserved by the pruning tests, by one chosen candidate of `candidate_partial_solutions`
and by `_allocate_packs_impl_obvious`.
-/
import Earverif.Proofs.C07Sound

namespace Earverif.PackAlloc
open List

/-- Contents the target `fl` puts where `al` still has `_EMPTY`.  Wherever it is used `FillsSlots al fl` holds, so the
lists are equally long and the last clause is not reached. -/
def newSlots : List (Channel × Slot) → List (Channel × Slot) → List TrackRef
  | (_, s) :: al, (_, s') :: fl => (if s.isNone then s'.toList else []) ++ newSlots al fl
  | _, _ => []

theorem newSlots_cons_none (c c' : Channel) (s' : Slot) (al fl : List (Channel × Slot)) :
    newSlots ((c, none) :: al) ((c', s') :: fl) = s'.toList ++ newSlots al fl := rfl

theorem newSlots_cons_some (c c' : Channel) (y : TrackRef) (s' : Slot) (al fl : List (Channel × Slot)) :
    newSlots ((c, some y) :: al) ((c', s') :: fl) = newSlots al fl := rfl

def ifEmpty (s : Slot) (x : TrackRef) : List TrackRef := if s.isNone then [x] else []

theorem newSlots_cons (c c' : Channel) (s : Slot) (al fl : List (Channel × Slot)) (x : TrackRef) :
    newSlots ((c, s) :: al) ((c', some x) :: fl) = ifEmpty s x ++ newSlots al fl := rfl

/-- the tracks the target `F` still adds to `P` -/
def newSol : Sol → Sol → List TrackRef
  | a :: P, f :: F => newSlots a.allocation f.allocation ++ newSol P F
  | _, _ => []

/-- The entries of a target `AllocatedPack` are complete and compatible. -/
def TargetSlots (fl : List (Channel × Slot)) : Prop :=
  ∀ cs ∈ fl, ∃ x, cs.2 = some x ∧ isCompatible x cs.1 = true

/-- A target `AllocatedPack`: `TargetSlots`, and its channel formats are distinct (`WF.cf_nodup`). -/
def TargetOK (a : Allocated) : Prop :=
  TargetSlots a.allocation ∧ (a.allocation.map (·.1.cf)).Nodup

/-- The pack references still open are the roots of the packs still to be opened.  Clause for clause the definition of the
specification's `RefsOK` (Model/PackAlloc.lean), which states it of `pack_refs` and the roots of a whole solution. -/
def RefsLeft : Option (List Nat) → List Nat → Prop
  | none, _ => True
  | some r, rootsE => rootsE ~ r

/-- The search state `(packs, tracks, refs, P)` can still reach the target `F ++ E`. -/
structure Inv (packs : List Pack) (tracks : List TrackRef) (refs : Option (List Nat))
    (P F E : Sol) : Prop where
  /-- `F` is what the target makes of the packs already opened -/
  fills : Fills P F
  /-- the packs still to be opened are available; each has a channel (`WF.nonempty`), so opening it
  consumes a track and `E` is empty once the tracks are -/
  extra : ∀ e ∈ E, e.pack ∈ packs ∧ e.allocation.map (·.1) = e.pack.channels ∧ e.allocation ≠ []
  targetF : ∀ a ∈ F, TargetOK a
  targetE : ∀ a ∈ E, TargetOK a
  /-- the tracks still to place are what the target adds to `P` plus everything it puts into `E` -/
  acct : newSol P F ++ filled E ~ tracks
  refs : RefsLeft refs (roots E)
  silentLast : SilentLast tracks

theorem mem_of_forall_eq {α : Type} {l : List α} {a : α} (hne : l ≠ []) (h : ∀ y ∈ l, y = a) :
    a ∈ l := by
  cases l with
  | nil => exact absurd rfl hne
  | cons y ys => exact h y mem_cons_self ▸ mem_cons_self

theorem TargetSlots.full {fl : List (Channel × Slot)} (h : TargetSlots fl) : Full fl := by
  intro cs hcs he
  obtain ⟨x, hx, _⟩ := h cs hcs
  rw [he] at hx
  cases hx

theorem TargetSlots.tail {f : Channel × Slot} {fl : List (Channel × Slot)}
    (h : TargetSlots (f :: fl)) : TargetSlots fl := fun cs hcs => h cs (mem_cons_of_mem _ hcs)

theorem newSlots_length_le : ∀ (al fl : List (Channel × Slot)),
    (newSlots al fl).length ≤ al.countP (fun cs => cs.2.isNone) := by
  intro al
  induction al with
  | nil => intro fl; exact Nat.le_refl 0
  | cons a al ih =>
    intro fl
    cases fl with
    | nil => exact Nat.zero_le _
    | cons f fl =>
      obtain ⟨c, s⟩ := a
      obtain ⟨c', s'⟩ := f
      have := ih fl
      cases s with
      | some y => rw [newSlots_cons_some, countP_cons]; exact Nat.le_add_right_of_le this
      | none =>
        rw [newSlots_cons_none, length_append, countP_cons_of_pos (by rfl)]
        cases s' with
        | none => exact Nat.le_succ_of_le (by simpa using this)
        | some x => simpa [Nat.add_comm] using this

theorem newSlots_length {al fl : List (Channel × Slot)} (h : FillsSlots al fl) (hf : Full fl) :
    (newSlots al fl).length = al.countP (fun cs => cs.2.isNone) := by
  induction h with
  | nil => rfl
  | @cons a f al fl _ _ ih =>
    obtain ⟨c, s⟩ := a
    obtain ⟨c', s'⟩ := f
    have ih := ih fun cs hcs => hf cs (mem_cons_of_mem _ hcs)
    cases s with
    | some y => rw [newSlots_cons_some, countP_cons_of_neg (by simp), ih]
    | none =>
      cases s' with
      | none => exact absurd rfl (hf _ mem_cons_self)
      | some x => rw [newSlots_cons_none, countP_cons_of_pos (by rfl), ← ih]; rfl

theorem newSol_length {P F : Sol} (h : Fills P F) (hf : ∀ f ∈ F, Full f.allocation) :
    (newSol P F).length = countEmpty P := by
  induction h with
  | nil => rfl
  | @cons a f P F hd _ ih =>
    have ih := ih fun x hx => hf x (mem_cons_of_mem _ hx)
    rw [countEmpty] at ih
    rw [newSol, length_append, newSlots_length hd.2 (hf f mem_cons_self), ih, countEmpty,
      slots_cons, countP_append]

theorem full_of_newSlots_nil {al fl : List (Channel × Slot)} (h : FillsSlots al fl) (hf : Full fl)
    (hn : newSlots al fl = []) : Full al := by
  have := newSlots_length h hf
  rw [hn, length_nil, eq_comm, countP_eq_zero] at this
  exact fun cs hcs he => this cs hcs (by rw [he]; rfl)

theorem full_of_newSol_nil {P F : Sol} (h : Fills P F) (hf : ∀ f ∈ F, Full f.allocation)
    (hn : newSol P F = []) : ∀ a ∈ P, Full a.allocation := by
  induction h with
  | nil => nofun
  | @cons a f P F hd _ ih =>
    rw [newSol, append_eq_nil_iff] at hn
    exact forall_mem_cons.2 ⟨full_of_newSlots_nil hd.2 (hf f mem_cons_self) hn.1,
      ih (fun y hy => hf y (mem_cons_of_mem _ hy)) hn.2⟩

theorem filledSlots_length_of_full {al : List (Channel × Slot)} (h : Full al) :
    (filledSlots al).length = al.length := by
  induction al with
  | nil => rfl
  | cons cs rest ih =>
    obtain ⟨c, s⟩ := cs
    cases s with
    | none => exact absurd rfl (h _ mem_cons_self)
    | some x =>
      rw [filledSlots_cons, length_append, ih fun cs hcs => h cs (mem_cons_of_mem _ hcs),
        length_cons, Nat.add_comm]
      rfl

theorem filledSlots_ne_nil {al : List (Channel × Slot)} (hf : Full al) (hne : al ≠ []) :
    filledSlots al ≠ [] := fun h =>
  hne (length_eq_zero_iff.1 (by rw [← filledSlots_length_of_full hf, h]; rfl))

theorem mem_filledSlots_of_mem_newSlots {x : TrackRef} {al fl : List (Channel × Slot)}
    (h : x ∈ newSlots al fl) : x ∈ filledSlots fl := by
  induction al generalizing fl with
  | nil => cases h
  | cons a al ih =>
    cases fl with
    | nil => cases h
    | cons f fl =>
      obtain ⟨c, s⟩ := a
      obtain ⟨c', s'⟩ := f
      rw [filledSlots_cons, mem_append]
      cases s with
      | some y => exact Or.inr (ih h)
      | none => exact (mem_append.1 h).imp_right ih

/-- If the target still has `t` to put into `al`, `try_allocate` puts it where the target does:
a real track fits one channel only (distinct channel formats), and a silent track is only
tried when everything still missing is silent. -/
theorem tryAllocateSlots_target {t : TrackRef} {al fl : List (Channel × Slot)}
    (h : FillsSlots al fl) (hcomp : TargetSlots fl) (ht : t ∈ newSlots al fl)
    (hnd : t ≠ none → (fl.map (·.1.cf)).Nodup)
    (hsil : t = none → ∀ y ∈ newSlots al fl, y = none) :
    ∃ al', tryAllocateSlots t al = some al' ∧ FillsSlots al' fl ∧
      newSlots al fl ~ t :: newSlots al' fl := by
  induction h with
  | nil => cases ht
  | @cons a f al fl hd tl ih =>
    obtain ⟨c, s⟩ := a
    obtain ⟨c', s'⟩ := f
    obtain ⟨hc, hs⟩ := hd
    dsimp only at hc hs
    subst hc
    obtain ⟨x, hx, hxc⟩ := hcomp _ mem_cons_self
    dsimp only at hx hxc
    subst hx
    rw [tryAllocateSlots]
    by_cases hcond : (s.isNone && isCompatible t c') = true
    · -- the code fills this entry; the target must have `t` here
      rw [if_pos hcond]
      rw [Bool.and_eq_true, Option.isNone_iff_eq_none] at hcond
      obtain ⟨rfl, htc⟩ := hcond
      rw [newSlots_cons_none] at ht hsil ⊢
      have hxt : x = t := by
        cases t with
        | none => exact hsil rfl x mem_cons_self
        | some tr =>
          rcases mem_cons.1 ht with ht | ht
          · exact ht.symm
          · -- `tr` also sits in a later entry: two channels with the same channel format
            obtain ⟨cs, hcs, e⟩ := (filledSlots_mem_iff _ _).1 (mem_filledSlots_of_mem_newSlots ht)
            obtain ⟨y, hy, hyc⟩ := hcomp cs (mem_cons_of_mem _ hcs)
            rw [e] at hy
            cases hy
            rw [isCompatible, Bool.and_eq_true, beq_iff_eq] at htc hyc
            refine absurd ?_ (nodup_cons.1 (hnd nofun)).1
            exact mem_map.2 ⟨cs, hcs, hyc.1.symm.trans htc.1⟩
      subst hxt
      exact ⟨_, rfl, .cons ⟨rfl, Or.inr rfl⟩ tl, Perm.refl _⟩
    · -- the code moves on; so must the target
      rw [if_neg hcond]
      rw [newSlots_cons] at ht hsil ⊢
      have ht' : t ∈ newSlots al fl := by
        refine (mem_append.1 ht).resolve_left fun ht => hcond ?_
        unfold ifEmpty at ht
        split at ht
        · rename_i hsn
          rw [mem_singleton.1 ht, hsn, hxc]
          rfl
        · cases ht
      obtain ⟨al', e1, e2, e3⟩ := ih hcomp.tail ht' (fun h => (nodup_cons.1 (hnd h)).2)
        (fun h y hy => hsil h y (mem_append_right _ hy))
      exact ⟨(c', s) :: al', by rw [e1]; rfl, .cons ⟨rfl, hs⟩ e2,
        (e3.append_left _).trans perm_middle⟩

/-- One existing allocation can take `t` as the target says, and the result is among the
candidates; for a silent track, when everything still missing is silent, it is the *first*
candidate (the one the code takes before its early `return`). -/
theorem existingCandidates_target {t : TrackRef} {post fpost : Sol} (h : Fills post fpost)
    (pre : Sol) (htar : ∀ f ∈ fpost, TargetOK f) (ht : t ∈ newSol post fpost)
    (hsil : t = none → ∀ y ∈ newSol post fpost, y = none) :
    ∃ post', Fills post' fpost ∧ newSol post fpost ~ t :: newSol post' fpost ∧
      pre ++ post' ∈ existingCandidates t pre post ∧
      (t = none → ∃ tl, existingCandidates t pre post = (pre ++ post') :: tl) := by
  induction h generalizing pre with
  | nil => cases ht
  | @cons a f P F hd tl ih =>
    obtain ⟨hp, hs⟩ := hd
    have htf := htar f mem_cons_self
    rw [newSol] at ht hsil ⊢
    rw [existingCandidates]
    by_cases hmem : t ∈ newSlots a.allocation f.allocation
    · obtain ⟨al', e1, e2, e3⟩ := tryAllocateSlots_target hs htf.1 hmem (fun _ => htf.2)
        (fun h y hy => hsil h y (mem_append_left _ hy))
      have e1' : tryAllocate t a = some { a with allocation := al' } := by rw [tryAllocate, e1]; rfl
      rw [e1']
      exact ⟨{ a with allocation := al' } :: P, .cons ⟨hp, e2⟩ tl, e3.append_right _, mem_cons_self,
        fun _ => ⟨_, rfl⟩⟩
    · obtain ⟨post', i1, i2, i3, i4⟩ := ih (pre ++ [a]) (fun x hx => htar x (mem_cons_of_mem _ hx))
        ((mem_append.1 ht).resolve_left hmem) (fun h y hy => hsil h y (mem_append_right _ hy))
      rw [append_assoc, singleton_append] at i3 i4
      refine ⟨a :: post', .cons ⟨hp, hs⟩ i1, (i2.append_left _).trans perm_middle, ?_, ?_⟩
      · split
        · exact mem_cons_of_mem _ i3
        · exact i3
      · intro h0
        -- a silent track not wanted here: nothing is wanted here, so there is no `_EMPTY` entry
        have hnil : newSlots a.allocation f.allocation = [] :=
          eq_nil_iff_forall_not_mem.2 fun y hy =>
            hmem (by rw [h0, ← hsil h0 y (mem_append_left _ hy)]; exact hy)
        rw [tryAllocate_of_full (full_of_newSlots_nil hs htf.1.full hnil)]
        exact i4 h0

theorem candidateNewPacksAux_mem (t : TrackRef) {refs : Option (List Nat)} (all : List Pack)
    {p : Pack} (post pre : List Pack) {rr : Option (List Nat)} (hr : useRef refs p.root = some rr) :
    (p, (if t.isNone then p :: post else all), rr) ∈
      candidateNewPacksAux t refs all (pre ++ p :: post) := by
  induction pre with
  | nil => rw [nil_append, candidateNewPacksAux_cons, hr]; exact mem_append_left _ (mem_singleton.2 rfl)
  | cons q pre ih => rw [cons_append, candidateNewPacksAux_cons]; exact mem_append_right _ ih

theorem fillsSlots_empty (fl : List (Channel × Slot)) :
    FillsSlots ((fl.map (·.1)).map fun c => (c, none)) fl ∧
      newSlots ((fl.map (·.1)).map fun c => (c, none)) fl = filledSlots fl := by
  induction fl with
  | nil => exact ⟨.nil, rfl⟩
  | cons f fl ih =>
    obtain ⟨c, s⟩ := f
    refine ⟨.cons ⟨rfl, Or.inl rfl⟩ ih.1, ?_⟩
    rw [filledSlots_cons, ← ih.2]
    rfl

theorem newSol_snoc {P F : Sol} (a f : Allocated) (h : Fills P F) :
    newSol (P ++ [a]) (F ++ [f]) = newSol P F ++ newSlots a.allocation f.allocation := by
  induction h with
  | nil => exact append_nil _
  | cons _ _ ih => rw [cons_append, cons_append, newSol, newSol, ih, append_assoc]

theorem filled_mem_split {E : Sol} {e : Allocated} (he : e ∈ E) :
    filled E ~ filledSlots e.allocation ++ filled (E.erase e) := by
  have : filled E ~ filled (e :: E.erase e) := (Perm.flatMap_right _ (perm_cons_erase he)).filterMap _
  rwa [filled_cons] at this

theorem first_needed_pack (l : List Pack) (E : Sol) (hne : E ≠ []) (h : ∀ e ∈ E, e.pack ∈ l) :
    ∃ pre p post, l = pre ++ p :: post ∧ (∃ e ∈ E, e.pack = p) ∧ ∀ e ∈ E, e.pack ∈ p :: post := by
  induction l with
  | nil =>
    cases E with
    | nil => exact absurd rfl hne
    | cons e E => cases h e mem_cons_self
  | cons q l ih =>
    by_cases hq : ∃ e ∈ E, e.pack = q
    · exact ⟨[], q, l, rfl, hq, h⟩
    · obtain ⟨pre, p, post, e1, e2, e3⟩ := ih fun e he =>
        (mem_cons.1 (h e he)).resolve_left fun this => hq ⟨e, he, this⟩
      exact ⟨q :: pre, p, post, by rw [e1]; rfl, e2, e3⟩

theorem obviousChannel_target (tracks : List TrackRef) (c : Channel) (s : Slot) (x : TrackRef)
    (hs : s = none ∨ s = some x) (hx : s = none → x ∈ tracks) (hc : isCompatible x c = true)
    (hsl : SilentLast tracks) :
    ∃ s' tracks', obviousChannel tracks c s = some (s', tracks') ∧ (s' = none ∨ s' = some x) ∧
      SilentLast tracks' ∧ ∀ R, tracks ~ ifEmpty s x ++ R → tracks' ~ ifEmpty s' x ++ R := by
  rcases hs with rfl | rfl
  · -- `_EMPTY`
    obtain ⟨j, hj⟩ := getElem?_of_mem (hx rfl)
    have hmem : (x, j) ∈ tracks.zipIdx.filter (fun ti => isCompatible ti.1 c) :=
      mem_filter.2 ⟨mk_mem_zipIdx_iff_getElem?.2 hj, hc⟩
    have hpw : (tracks.zipIdx.map Prod.fst).Pairwise (fun a b : TrackRef => a = none → b = none) := by
      rw [zipIdx_map_fst]
      exact hsl
    replace hpw := (pairwise_map.1 hpw).filter fun ti => isCompatible ti.1 c
    unfold obviousChannel
    dsimp only
    split
    · rename_i heq
      rw [heq] at hmem
      cases hmem
    · rename_i t i rest heq
      rw [heq] at hmem hpw
      have hti : (t, i) ∈ tracks.zipIdx.filter (fun ti => isCompatible ti.1 c) := heq ▸ mem_cons_self
      have hperm := perm_cons_eraseIdx (mk_mem_zipIdx_iff_getElem?.1 (mem_filter.1 hti).1)
      split
      · rename_i hcond
        -- the first compatible track is taken: it is the only one, or it is silent and so is `x`
        have hxt : x = t := by
          rcases mem_cons.1 hmem with hm | hm
          · exact (Prod.mk.inj hm).1
          · rw [Bool.or_eq_true, isEmpty_iff, Option.isNone_iff_eq_none] at hcond
            rcases hcond with rfl | rfl
            · cases hm
            · exact (pairwise_cons.1 hpw).1 (x, j) hm rfl
        subst hxt
        exact ⟨some x, tracks.eraseIdx i, rfl, Or.inr rfl, hsl.sublist (eraseIdx_sublist _ _),
          fun R hR => (hperm.symm.trans hR).cons_inv⟩
      · exact ⟨none, tracks, rfl, Or.inl rfl, hsl, fun R hR => hR⟩
  · exact ⟨some x, tracks, rfl, Or.inr rfl, hsl, fun R hR => hR⟩

theorem obviousSlots_target {al fl : List (Channel × Slot)} (h : FillsSlots al fl)
    (tracks R : List TrackRef) (hcomp : TargetSlots fl) (hp : tracks ~ newSlots al fl ++ R)
    (hsl : SilentLast tracks) :
    ∃ al' tracks', obviousSlots tracks al = some (al', tracks') ∧ FillsSlots al' fl ∧
      tracks' ~ newSlots al' fl ++ R ∧ SilentLast tracks' := by
  induction h generalizing tracks R with
  | nil => exact ⟨[], tracks, rfl, .nil, hp, hsl⟩
  | @cons a f al fl hd tl ih =>
    obtain ⟨c, s⟩ := a
    obtain ⟨c', s'⟩ := f
    obtain ⟨hc, hs⟩ := hd
    dsimp only at hc hs
    subst hc
    obtain ⟨x, hx, hxc⟩ := hcomp _ mem_cons_self
    dsimp only at hx hxc
    subst hx
    rw [newSlots_cons, append_assoc] at hp
    have hxmem : s = none → x ∈ tracks := fun h =>
      hp.mem_iff.2 (by rw [h]; exact mem_cons_self)
    obtain ⟨s1, t1, o1, o2, o4, o5⟩ := obviousChannel_target tracks c' s x
      (hs.imp_right Eq.symm) hxmem hxc hsl
    obtain ⟨al', t2, i1, i2, i3, i4⟩ := ih t1 (ifEmpty s1 x ++ R) hcomp.tail
      ((o5 _ hp).trans (perm_append_comm_assoc ..)) o4
    refine ⟨(c', s1) :: al', t2, by rw [obviousSlots, o1]; dsimp only; rw [i1],
      .cons ⟨rfl, o2.imp_right Eq.symm⟩ i2, ?_, i4⟩
    rw [newSlots_cons, append_assoc]
    exact i3.trans (perm_append_comm_assoc ..)

theorem obviousPacks_target {P F : Sol} (h : Fills P F) (tracks R : List TrackRef)
    (htar : ∀ f ∈ F, TargetOK f) (hp : tracks ~ newSol P F ++ R) (hsl : SilentLast tracks) :
    ∃ P' tracks', obviousPacks tracks P = some (P', tracks') ∧ Fills P' F ∧
      tracks' ~ newSol P' F ++ R ∧ SilentLast tracks' := by
  induction h generalizing tracks R with
  | nil => exact ⟨[], tracks, rfl, .nil, hp, hsl⟩
  | @cons a f P F hd tl ih =>
    rw [newSol, append_assoc] at hp
    obtain ⟨al', t1, o1, o2, o3, o4⟩ := obviousSlots_target hd.2 tracks (newSol P F ++ R)
      (htar f mem_cons_self).1 hp hsl
    obtain ⟨P', t2, i1, i2, i3, i4⟩ := ih t1 (newSlots al' f.allocation ++ R)
      (fun x hx => htar x (mem_cons_of_mem _ hx)) (o3.trans (perm_append_comm_assoc ..)) o4
    refine ⟨{ a with allocation := al' } :: P', t2, by rw [obviousPacks, o1]; dsimp only; rw [i1],
      .cons ⟨hd.1, o2⟩ i2, ?_, i4⟩
    rw [newSol, append_assoc]
    exact i3.trans (perm_append_comm_assoc ..)

theorem inv_count {packs tracks refs P F E} (h : Inv packs tracks refs P F E) :
    tracks.length = countEmpty P + (filled E).length := by
  have := h.acct.length_eq
  rw [length_append, newSol_length h.fills fun a ha => (h.targetF a ha).1.full] at this
  exact this.symm

theorem refs_check_false (refs : Option (List Nat)) (rootsE : List Nat) (root : Nat)
    (h : RefsLeft refs rootsE) (hm : root ∈ rootsE) :
    (match refs with
      | some r => !(inById root r)
      | none => false) = false := by
  cases refs with
  | none => rfl
  | some r =>
    have : inById root r = true := (inById_iff _ _).2 (h.mem_iff.1 hm)
    dsimp only
    rw [this]
    rfl

theorem couldPossiblyAllocate_of_inv {packs tracks refs P F E} (h : Inv packs tracks refs P F E)
    (e : Allocated) (he : e ∈ E) :
    couldPossiblyAllocate tracks refs (countEmpty P) e.pack = true := by
  obtain ⟨_, hch, _⟩ := h.extra e he
  have hte := h.targetE e he
  have hsplit := filled_mem_split he
  have hlen : e.pack.channels.length ≤ tracks.length - countEmpty P := by
    have := hsplit.length_eq
    rw [length_append, filledSlots_length_of_full hte.1.full] at this
    rw [← hch, length_map, inv_count h]
    omega
  have hfound : e.pack.channels.countP (fun c => tracks.any (fun t => isCompatible t c)) =
      e.pack.channels.length := by
    rw [countP_eq_length]
    intro c hc
    rw [← hch] at hc
    obtain ⟨cs, hcs, rfl⟩ := mem_map.1 hc
    obtain ⟨x, hx, hxc⟩ := hte.1 cs hcs
    have hxt : x ∈ tracks := h.acct.mem_iff.1 (mem_append_right _ (hsplit.mem_iff.2
      (mem_append_left _ ((filledSlots_mem_iff _ _).2 ⟨cs, hcs, hx⟩))))
    exact any_eq_true.2 ⟨x, hxt, hxc⟩
  have hR := h.refs
  have hroot : e.pack.root ∈ roots E := mem_map.2 ⟨e, he, rfl⟩
  unfold couldPossiblyAllocate
  rw [if_neg (Nat.not_lt.2 hlen)]
  cases refs with
  | none => simp [hfound]
  | some r => simp [(inById_iff _ _).2 (hR.mem_iff.1 hroot), hfound]

theorem Inv.prune {packs tracks refs P F E} (h : Inv packs tracks refs P F E) :
    Inv (packs.filter (couldPossiblyAllocate tracks refs (countEmpty P))) tracks refs P F E :=
  { h with extra := fun e he =>
      ⟨mem_filter.2 ⟨(h.extra e he).1, couldPossiblyAllocate_of_inv h e he⟩, (h.extra e he).2⟩ }

/-- Opening the pack of `e ∈ E` with track `t`, which the target has in `e`. -/
theorem open_pack_step {packs : List Pack} {t : TrackRef} {rest : List TrackRef}
    {refs : Option (List Nat)} {P F E : Sol} (h : Inv packs (t :: rest) refs P F E)
    (e : Allocated) (pre post : List Pack) (he : e ∈ E) (ht : t ∈ filledSlots e.allocation)
    (hsil : t = none → ∀ y ∈ filledSlots e.allocation, y = none)
    (hpacks : packs = pre ++ e.pack :: post)
    (hrem : ∀ e' ∈ E.erase e, e'.pack ∈ (if t.isNone then e.pack :: post else packs)) :
    ∃ c ∈ newCandidates t packs refs P,
      ∃ F' E', F' ++ E' ~ F ++ E ∧ Inv c.2.1 rest c.2.2 c.1 F' E' := by
  have hte := h.targetE e he
  obtain ⟨hfs, hns⟩ := fillsSlots_empty e.allocation
  rw [(h.extra e he).2.1] at hfs hns
  obtain ⟨al', a1, a2, a3⟩ := tryAllocateSlots_target hfs hte.1 (by rw [hns]; exact ht)
    (fun _ => hte.2) (fun h y hy => hsil h y (by rw [hns] at hy; exact hy))
  rw [hns] at a3
  have htry : tryAllocate t (emptyAllocation e.pack) = some ⟨e.pack, al'⟩ := by
    rw [tryAllocate, emptyAllocation, a1]
    rfl
  have hroots : roots E ~ e.pack.root :: roots (E.erase e) := (perm_cons_erase he).map _
  have hcand : ∃ rr, (e.pack, (if t.isNone then e.pack :: post else packs), rr) ∈
      candidateNewPacks t refs packs ∧ RefsLeft rr (roots (E.erase e)) := by
    have hrefs := h.refs
    unfold candidateNewPacks
    rw [hpacks]
    cases refs with
    | none => exact ⟨none, candidateNewPacksAux_mem t _ post pre rfl, trivial⟩
    | some r =>
      have hm : e.pack.root ∈ r := hrefs.mem_iff.1 (hroots.mem_iff.2 mem_cons_self)
      obtain ⟨i, hi⟩ := indexById_of_mem r _ hm
      refine ⟨some (r.take i ++ r.drop (i + 1)), ?_,
        (hroots.symm.trans (hrefs.trans (indexById_some r _ i hi))).cons_inv⟩
      cases r with
      | nil => cases hm
      | cons r0 rs => exact candidateNewPacksAux_mem t _ post pre (by rw [useRef, hi]; rfl)
  obtain ⟨rr, hc1, hc2⟩ := hcand
  refine ⟨(P ++ [⟨e.pack, al'⟩], _, rr), mem_filterMap.2 ⟨_, hc1, by dsimp only; rw [htry]; rfl⟩,
    F ++ [e], E.erase e, ?_, h.fills.append (.cons ⟨rfl, a2⟩ .nil), ?_, ?_, ?_, ?_, hc2,
    h.silentLast.tail⟩
  · rw [append_assoc]
    exact (perm_cons_erase he).symm.append_left _
  · exact fun e' he' => ⟨hrem e' he', (h.extra e' (mem_of_mem_erase he')).2⟩
  · exact forall_mem_append.2 ⟨h.targetF, forall_mem_singleton.2 hte⟩
  · exact fun a ha => h.targetE a (mem_of_mem_erase ha)
  · rw [newSol_snoc _ e h.fills]
    -- newSol P F ++ filled E ~ t :: rest, filled E ~ (t :: newSlots al' e) ++ filled (E.erase e)
    have h1 : newSol P F ++ filled E ~
        t :: (newSol P F ++ newSlots al' e.allocation ++ filled (E.erase e)) := by
      have : filled E ~ t :: (newSlots al' e.allocation ++ filled (E.erase e)) :=
        (filled_mem_split he).trans (a3.append_right _)
      rw [append_assoc]
      exact (this.append_left _).trans perm_middle
    exact (h1.symm.trans h.acct).cons_inv

/-- The result of following the target for one track (the target is re-split as `F' ++ E'` when a
pack is opened). -/
theorem candidate_step {packs : List Pack} {t : TrackRef} {rest : List TrackRef}
    {refs : Option (List Nat)} {P F E : Sol} (h : Inv packs (t :: rest) refs P F E) :
    ∃ c ∈ candidatePartialSolutions t packs refs P,
      ∃ F' E', F' ++ E' ~ F ++ E ∧ Inv c.2.1 rest c.2.2 c.1 F' E' := by
  have hpk : ∀ e ∈ E, e.pack ∈ packs := fun e he => (h.extra e he).1
  have htmem : t ∈ newSol P F ++ filled E := h.acct.mem_iff.2 mem_cons_self
  -- staying within the existing allocations
  have stay : ∀ post', Fills post' F → newSol P F ~ t :: newSol post' F →
      Inv packs rest refs post' F E := fun post' hf hp =>
    ⟨hf, h.extra, h.targetF, h.targetE, ((hp.append_right (filled E)).symm.trans h.acct).cons_inv,
      h.refs, h.silentLast.tail⟩
  cases t with
  | some tr =>
    rcases mem_append.1 htmem with hm | hm
    · obtain ⟨post', e2, e3, e1, _⟩ := existingCandidates_target h.fills [] h.targetF hm nofun
      exact ⟨(post', _, refs), mem_append_left _ (mem_map.2 ⟨post', e1, rfl⟩), F, E, Perm.refl _,
        stay post' e2 e3⟩
    · -- in a pack still to be opened
      obtain ⟨e, he, hte⟩ := (mem_filled E _).1 hm
      obtain ⟨pre, post, hsplit⟩ := append_of_mem (hpk e he)
      obtain ⟨c, hc, rest'⟩ := open_pack_step h e pre post he hte nofun hsplit
        (fun e' he' => hpk e' (mem_of_mem_erase he'))
      exact ⟨c, mem_append_right _ hc, rest'⟩
  | none =>
    have hall := silentLast_all_none h.silentLast
    have hallnew : ∀ y ∈ newSol P F ++ filled E, y = none :=
      fun y hy => hall y (h.acct.mem_iff.1 hy)
    by_cases hnil : newSol P F = []
    · -- nothing left to fill: a new pack, the first one the target still needs
      have hex : existingCandidates none [] P = [] := existingCandidates_of_full
        (full_of_newSol_nil h.fills (fun a ha => (h.targetF a ha).1.full) hnil)
      have hEne : E ≠ [] := by
        intro hE
        have := h.acct.length_eq
        rw [hnil, hE] at this
        cases this
      obtain ⟨pre, p, post, hsplit, ⟨e, he, hep⟩, hrem⟩ := first_needed_pack _ E hEne hpk
      subst hep
      have hfe : ∀ y ∈ filledSlots e.allocation, y = none := fun y hy =>
        hallnew y (mem_append_right _ ((filled_mem_split he).mem_iff.2 (mem_append_left _ hy)))
      have hne : none ∈ filledSlots e.allocation :=
        mem_of_forall_eq (filledSlots_ne_nil (h.targetE e he).1.full (h.extra e he).2.2) hfe
      obtain ⟨c, hc, rest'⟩ := open_pack_step h e pre post he hne (fun _ => hfe) hsplit
        (fun e' he' => hrem e' (mem_of_mem_erase he'))
      refine ⟨c, ?_, rest'⟩
      rw [candidatePartialSolutions, hex]
      exact hc
    · have hmem : none ∈ newSol P F :=
        mem_of_forall_eq hnil fun y hy => hallnew y (mem_append_left _ hy)
      obtain ⟨post', e2, e3, _, e1⟩ := existingCandidates_target h.fills [] h.targetF hmem
        (fun _ y hy => hallnew y (mem_append_left _ hy))
      obtain ⟨tl, e1⟩ := e1 rfl
      refine ⟨(post', _, refs), ?_, F, E, Perm.refl _, stay post' e2 e3⟩
      rw [candidatePartialSolutions, e1]
      exact mem_singleton.2 rfl

theorem allocImpl_complete (fuel : Nat) (packs : List Pack) (tracks : List TrackRef)
    (refs : Option (List Nat)) (P F E : Sol) (hf : tracks.length + 1 ≤ fuel)
    (h : Inv packs tracks refs P F E) : ∃ sol ∈ allocImpl fuel packs tracks refs P, sol ~ F ++ E := by
  induction fuel generalizing packs tracks refs P F E with
  | zero => cases hf
  | succ fuel ih =>
  cases tracks with
  | nil =>
    obtain ⟨h1, h2⟩ := append_eq_nil_iff.1 h.acct.eq_nil
    have hE : E = [] := by
      cases E with
      | nil => rfl
      | cons e E =>
        rw [filled_cons, append_eq_nil_iff] at h2
        exact absurd h2.1
          (filledSlots_ne_nil (h.targetE e mem_cons_self).1.full (h.extra e mem_cons_self).2.2)
    subst hE
    have hfull := fun a ha => (h.targetF a ha).1.full
    have hPF : F = P := fills_of_full h.fills (full_of_newSol_nil h.fills hfull h1)
    subst hPF
    refine ⟨F, mem_allocImpl_nil.2 ⟨⟨?_, fun cs hcs => ?_⟩, rfl⟩, by rw [append_nil]⟩
    · cases hr : refs with
      | none => rfl
      | some r =>
        have := h.refs
        rw [hr] at this
        rw [nil_perm.1 this]
        rfl
    · obtain ⟨a, ha, hcs⟩ := mem_flatMap.1 hcs
      exact Option.isSome_iff_ne_none.2 (hfull a ha cs hcs)
  | cons t rest =>
    obtain ⟨⟨np, rp, rr⟩, hc, F', E', hperm, hi⟩ := candidate_step h.prune
    obtain ⟨P', tracks', o1, o2, o3, o4⟩ := obviousPacks_target hi.fills rest (filled E') hi.targetF
      hi.acct.symm hi.silentLast
    -- the `obvious` step never adds tracks, so the fuel still suffices
    have hlen := (obviousPacks_eq_some o1).2.2.1.length_le
    obtain ⟨sol, hs1, hs2⟩ := ih rp tracks' rr P' F' E'
      (Nat.le_trans (Nat.succ_le_succ hlen) (Nat.le_of_succ_le_succ hf))
      ⟨o2, hi.extra, hi.targetF, hi.targetE, o3.symm, hi.refs, o4⟩
    exact ⟨sol, mem_allocImpl_cons.2 ⟨Nat.not_lt.2 (inv_count h ▸ Nat.le_add_right _ _), _, hc, P', tracks', o1, hs1⟩,
      hs2.trans hperm⟩

end Earverif.PackAlloc
