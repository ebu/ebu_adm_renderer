/-
C06: re-numbering the audioContents (`ContRenamed`, `renameContents`) and the audioProgrammes (`ProgRenamed`,
`renameProgrammes`, `ProgRenamed.selectProgramme_none`).
-/
import Earverif.Proofs.C06Congr

namespace Earverif.Adm

/-- `a'` is `a` with the audioContents re-declared in another order: content `c` of `a` is content `ρ c` of
`a'`, the audioProgrammes' content references remapped; everything else unchanged. -/
structure ContRenamed (ρ : Nat → Nat) (a a' : Adm) : Prop where
  objects : a'.objects = a.objects
  fmt : a'.fmt = a.fmt
  programmes : a'.programmes = a.programmes.map fun p => { p with contents := p.contents.map ρ }
  cont : ∀ c, c < a.contents.length → a'.cont (ρ c) = a.cont c
  refs : ∀ p ∈ a.programmes, ∀ c ∈ p.contents, c < a.contents.length

theorem prog_contents_lt {a : Adm} (hrefs : ∀ p ∈ a.programmes, ∀ c ∈ p.contents, c < a.contents.length) (p : Nat) :
    ∀ c ∈ (a.prog p).contents, c < a.contents.length :=
  getD_forall (P := fun p : Programme => ∀ c ∈ p.contents, c < a.contents.length) (fun _ hc => by cases hc) hrefs p

def renStateC (ρ : Nat → Nat) (st : State) : State := { st with content := st.content.map ρ }
def renItemC (ρ : Nat → Nat) (it : Item) : Item := { it with content := it.content.map ρ }

namespace ContRenamed
variable {ρ : Nat → Nat} {a a' : Adm}

theorem prog (h : ContRenamed ρ a a') (p : Nat) :
    a'.prog p = { a.prog p with contents := (a.prog p).contents.map ρ } := by
  unfold Adm.prog
  rw [h.programmes]
  exact getD_map_default (fun p : Programme => { p with contents := p.contents.map ρ }) a.programmes p default

theorem keys (h : ContRenamed ρ a a') : a'.programmes.map (·.idKey) = a.programmes.map (·.idKey) := by
  rw [h.programmes, List.map_map]; rfl

theorem specStates_eq (h : ContRenamed ρ a a') (prog : Option Nat) (ign : List Nat) :
    specStates a' prog ign = (specStates a prog ign).map (renStateC ρ) := by
  have hroot : rootObjects a' = rootObjects a := by unfold rootObjects; rw [h.objects]
  have hnp : a'.programmes = [] ↔ a.programmes = [] := by
    rw [h.programmes]; exact List.map_eq_nil_iff
  unfold specStates
  simp only [hnp, h.objects]
  split
  · rfl
  · cases prog with
    | none =>
      simp only [hroot, specPaths_of_objects_eq h.objects, List.map_flatMap, List.map_map]
      rfl
    | some p =>
      simp only [h.prog, List.flatMap_map, List.map_flatMap, List.map_map, specPaths_of_objects_eq h.objects]
      refine flatMap_congr' fun c hc => ?_
      rw [h.cont c (prog_contents_lt h.refs p c hc)]
      rfl

theorem itemsOfState (h : ContRenamed ρ a a') {st : State} (hc : ∀ c, st.content = some c → c < a.contents.length) :
    itemsOfState a' (renStateC ρ st) = (itemsOfState a st).map (List.map (renItemC ρ)) := by
  refine itemsOfState_of_objects_eq (fun it hit => by subst hit; rfl) h.objects h.fmt rfl
    (by simp only [renStateC, h.prog]) ?_
  unfold avsRefs renStateC
  cases hco : st.content with
  | none => simp only [Option.map_none, h.prog]
  | some c => simp only [Option.map_some, h.prog, h.cont c (hc c hco)]

end ContRenamed

/-- the content of a state of the comprehension is a content of the chosen programme, hence in range. -/
theorem specStates_content_lt {a : Adm} (hrefs : ∀ p ∈ a.programmes, ∀ c ∈ p.contents, c < a.contents.length)
    {prog : Option Nat} {ign : List Nat} {st : State} (hst : st ∈ specStates a prog ign) :
    ∀ c, st.content = some c → c < a.contents.length := by
  rcases mem_specStates.1 hst with ⟨_, rfl⟩ | ⟨_, cr, hcr, _, _, rfl⟩
  · intro c hc; cases hc
  · intro c hc
    cases prog with
    | none =>
      obtain ⟨_, _, rfl⟩ := List.mem_map.1 hcr
      cases hc
    | some p =>
      simp only [stateRoots, List.mem_flatMap, List.mem_map] at hcr
      obtain ⟨c0, hc0, _, _, rfl⟩ := hcr
      cases hc
      exact prog_contents_lt hrefs p _ hc0

/-- `a'` is `a` with the audioProgrammes re-declared in another order: programme `p` of `a` is programme
`ρ p` of `a'`; everything else unchanged. -/
structure ProgRenamed (ρ : Nat → Nat) (a a' : Adm) : Prop where
  objects : a'.objects = a.objects
  contents : a'.contents = a.contents
  fmt : a'.fmt = a.fmt
  perm : a'.programmes.Perm a.programmes
  prog : ∀ p, p < a.programmes.length → a'.prog (ρ p) = a.prog p
  lt : ∀ p, p < a.programmes.length → ρ p < a.programmes.length
  /-- audioProgramme ids are distinct -/
  ids : (a.programmes.map (·.idKey)).Nodup

def renStateP (ρ : Nat → Nat) (st : State) : State := { st with programme := st.programme.map ρ }
def renItemP (ρ : Nat → Nat) (it : Item) : Item := { it with programme := it.programme.map ρ }

theorem selectProgramme_none_eq_none_iff (a : Adm) : selectProgramme a none = none ↔ a.programmes = [] := by
  rw [Earverif.Adm.selectProgramme_none]
  unfold minById
  cases a.programmes with
  | nil => simp [minByIdGo]
  | cons p ps =>
    obtain ⟨ri, rk, hm, _⟩ := minByIdGo_some ps 1 0 p.idKey
    have hm' : minByIdGo (p :: ps) 0 none = some (ri, rk) := hm
    simp [hm']

namespace ProgRenamed
variable {ρ : Nat → Nat} {a a' : Adm}

theorem nprog (h : ProgRenamed ρ a a') : a'.programmes.length = a.programmes.length := h.perm.length_eq

/-- the programme chosen without an explicit choice is the same element (lowest id), at its new position. -/
theorem selectProgramme_none (h : ProgRenamed ρ a a') :
    selectProgramme a' none = (selectProgramme a none).map ρ := by
  have hids' : (a'.programmes.map (·.idKey)).Nodup := (h.perm.map _).nodup_iff.2 h.ids
  cases hs : selectProgramme a none with
  | none =>
    have hnil := (selectProgramme_none_eq_none_iff a).1 hs
    have hnil' : a'.programmes = [] := List.length_eq_zero_iff.1 (by rw [h.nprog, hnil]; rfl)
    exact (selectProgramme_none_eq_none_iff a').2 hnil'
  | some i =>
    obtain ⟨hi, _⟩ := select_programme_lowest_id hs
    cases hs' : selectProgramme a' none with
    | none =>
      exfalso
      have hnil' := (selectProgramme_none_eq_none_iff a').1 hs'
      have := h.nprog
      rw [hnil'] at this
      simp only [List.length_nil] at this
      omega
    | some i' =>
      obtain ⟨hi', _⟩ := select_programme_lowest_id hs'
      have he := select_programme_order_independent h.perm h.ids hs hs'
      have he2 := h.prog i hi
      simp only [Option.map_some, Option.some.injEq]
      have hlt : ρ i < a'.programmes.length := by rw [h.nprog]; exact h.lt i hi
      have hkey : (a'.programmes.map (·.idKey))[i']? = (a'.programmes.map (·.idKey))[ρ i]? := by
        have e1 : a'.programmes[i']? = some (a'.prog i') := by
          unfold Adm.prog; simp [List.getD_eq_getElem?_getD, List.getElem?_eq_getElem hi']
        have e2 : a'.programmes[ρ i]? = some (a'.prog (ρ i)) := by
          unfold Adm.prog; simp [List.getD_eq_getElem?_getD, List.getElem?_eq_getElem hlt]
        simp only [List.getElem?_map, e1, e2, he, he2]
      have hi'' : i' < (a'.programmes.map (·.idKey)).length := by simpa using hi'
      exact (List.getElem?_inj hi'' hids').1 hkey

theorem selectProgramme_eq (h : ProgRenamed ρ a a') (given : Option Nat) :
    selectProgramme a' (given.map ρ) = (selectProgramme a given).map ρ := by
  cases given with
  | none => exact h.selectProgramme_none
  | some p => rfl

theorem specStates_eq (h : ProgRenamed ρ a a') {prog : Option Nat} (hp : ∀ p, prog = some p → p < a.programmes.length)
    (ign : List Nat) : specStates a' (prog.map ρ) ign = (specStates a prog ign).map (renStateP ρ) := by
  have hroot : rootObjects a' = rootObjects a := by unfold rootObjects; rw [h.objects]
  unfold specStates
  simp only [nil_iff_of_length_eq h.nprog, h.objects]
  split
  · rfl
  · cases prog with
    | none =>
      simp only [Option.map_none, hroot, specPaths_of_objects_eq h.objects, List.map_flatMap, List.map_map]
      rfl
    | some p =>
      simp only [Option.map_some, h.prog p (hp p rfl), cont_of_contents_eq h.contents, List.map_flatMap, List.map_map,
        specPaths_of_objects_eq h.objects]
      rfl

theorem itemsOfState (h : ProgRenamed ρ a a') {st : State} (hp : ∀ p, st.programme = some p → p < a.programmes.length) :
    itemsOfState a' (renStateP ρ st) = (itemsOfState a st).map (List.map (renItemP ρ)) := by
  refine itemsOfState_of_objects_eq (fun it hit => by subst hit; rfl) h.objects h.fmt rfl ?_ ?_
  · unfold renStateP
    cases hpr : st.programme with
    | none => rfl
    | some p => simp only [Option.map_some, h.prog p (hp p hpr)]
  · unfold avsRefs renStateP
    cases hpr : st.programme with
    | none => simp only [Option.map_none, cont_of_contents_eq h.contents]
    | some p => simp only [Option.map_some, cont_of_contents_eq h.contents, h.prog p (hp p hpr)]

end ProgRenamed

theorem specStates_programme {a : Adm} {prog : Option Nat} {ign : List Nat} {st : State}
    (hst : st ∈ specStates a prog ign) : st.programme = none ∨ st.programme = prog := by
  rcases mem_specStates.1 hst with ⟨_, rfl⟩ | ⟨_, _, _, _, _, rfl⟩
  · exact Or.inl rfl
  · exact Or.inr rfl

/-- the audioContents re-declared in the order given by `ρ` (`ρinv` its inverse), programme references remapped. -/
def renameContents (ρ ρinv : Nat → Nat) (a : Adm) : Adm :=
  { a with
    programmes := a.programmes.map fun p => { p with contents := p.contents.map ρ },
    contents := (List.range a.contents.length).map fun j => a.cont (ρinv j) }

theorem renameContents_renamed {ρ ρinv : Nat → Nat} {a : Adm} (hwf : a.refsInRange = true)
    (hρ : ((List.range a.contents.length).map ρ).Perm (List.range a.contents.length))
    (hinv : ∀ i, i < a.contents.length → ρinv (ρ i) = i) : ContRenamed ρ a (renameContents ρ ρinv a) := by
  refine ⟨rfl, rfl, rfl, fun c hc => ?_, ?_⟩
  · unfold Adm.cont renameContents
    simp only
    rw [getD_map_range, if_pos (perm_lt hρ hc), hinv c hc]
    rfl
  · exact (refsInRange_mem hwf).1

/-- the audioProgrammes re-declared: programme `j` of the new document is programme `ρinv j` of `a`. -/
def renameProgrammes (ρinv : Nat → Nat) (a : Adm) : Adm :=
  { a with programmes := (List.range a.programmes.length).map fun j => a.prog (ρinv j) }

theorem renameProgrammes_renamed {ρ ρinv : Nat → Nat} {a : Adm}
    (hρ : ((List.range a.programmes.length).map ρ).Perm (List.range a.programmes.length))
    (hρinv : ((List.range a.programmes.length).map ρinv).Perm (List.range a.programmes.length))
    (hinv : ∀ i, i < a.programmes.length → ρinv (ρ i) = i)
    (hids : (a.programmes.map (·.idKey)).Nodup) : ProgRenamed ρ a (renameProgrammes ρinv a) := by
  refine ⟨rfl, rfl, rfl, ?_, fun p hp => ?_, fun p hp => perm_lt hρ hp, hids⟩
  · have e : (renameProgrammes ρinv a).programmes = ((List.range a.programmes.length).map ρinv).map a.prog := by
      simp [renameProgrammes, List.map_map, Function.comp_def]
    rw [e]
    refine (hρinv.map _).trans (List.Perm.of_eq ?_)
    unfold Adm.prog
    exact range_map_getD _ _
  · unfold Adm.prog renameProgrammes
    simp only
    rw [getD_map_range, if_pos (perm_lt hρ hp), hinv p hp]
    rfl

end Earverif.Adm
