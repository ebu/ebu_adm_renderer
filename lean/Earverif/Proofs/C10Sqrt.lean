/- C10: the square-root-free comparison used by the modelled `closest_channel_index` is the real
   comparison `|min_dist - dist| < tol` on the distances themselves (`dist = √s`, `min_dist = √sm`).  This is the only
   statement relating the rational `closestIndex` (squared distances) to the code's comparison of square roots as
   `closestIndexC` makes it; the two functions are not related further. -/
import Earverif.Model.DirectSpeakersGeom
import Mathlib.Analysis.Real.Sqrt
import Mathlib.Tactic.Linarith
import Mathlib.Tactic.Ring

namespace Earverif.DS

/-- For `0 ≤ a ≤ d`: `d < a + t` compared on the squares, `d² - a² - t² < 2ta`; the right side is not a square of the
    data, so the comparison is split by the sign of the left side and squared once more. -/
theorem sub_lt_iff_sq {a d t : ℝ} (ha : 0 ≤ a) (had : a ≤ d) :
    d - a < t ↔ 0 < t ∧ (d * d - a * a - t * t < 0 ∨
      (d * d - a * a - t * t) * (d * d - a * a - t * t) < 4 * t * t * (a * a)) := by
  rw [show 4 * t * t * (a * a) = (2 * t * a) * (2 * t * a) by ring]
  constructor
  · intro h
    have hx : d * d - a * a - t * t < 2 * t * a := by
      have := mul_self_lt_mul_self (le_trans ha had) (sub_lt_iff_lt_add'.mp h)
      linarith
    refine ⟨lt_of_le_of_lt (sub_nonneg.mpr had) h, ?_⟩
    by_cases h0 : d * d - a * a - t * t < 0
    · exact Or.inl h0
    · exact Or.inr (mul_self_lt_mul_self (not_lt.mp h0) hx)
  · rintro ⟨ht, h⟩
    have hy : 0 ≤ 2 * t * a := mul_nonneg (mul_nonneg zero_le_two ht.le) ha
    have hx : d * d - a * a - t * t < 2 * t * a :=
      h.elim (fun h0 => lt_of_lt_of_le h0 hy) (fun h1 => lt_of_mul_self_lt_mul_self₀ hy h1)
    have : d * d < (a + t) * (a + t) := by linarith
    exact sub_lt_iff_lt_add'.mpr (lt_of_mul_self_lt_mul_self₀ (add_nonneg ha ht.le) this)

theorem closeTo_iff_sqrt (sm tol s : Rat) (hsm : 0 ≤ sm) (hs : sm ≤ s) :
    closeTo sm tol s = true ↔ |Real.sqrt (sm : ℝ) - Real.sqrt (s : ℝ)| < (tol : ℝ) := by
  have hsmR : (0 : ℝ) ≤ (sm : ℝ) := Rat.cast_nonneg.mpr hsm
  have hsR : (sm : ℝ) ≤ (s : ℝ) := Rat.cast_le.mpr hs
  rw [abs_sub_comm, abs_of_nonneg (sub_nonneg.mpr (Real.sqrt_le_sqrt hsR)),
    sub_lt_iff_sq (Real.sqrt_nonneg _) (Real.sqrt_le_sqrt hsR),
    Real.mul_self_sqrt hsmR, Real.mul_self_sqrt (le_trans hsmR hsR)]
  simp only [closeTo, Bool.and_eq_true, decide_eq_true_eq, Bool.or_eq_true]
  norm_cast

end Earverif.DS
