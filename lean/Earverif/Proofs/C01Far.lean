/- C01: `extent_mod(0, d)` over ℝ, and with it the point-only regime of `PolarExtentHandler.handle(position, 0, 0, 0)`
   (`ammount_spread ≤ 1e-10`): it contains every distance ≥ 1 and is only reached at distance > 1/2 (not sharp; 1/2 is all
   the panner lemma needs).

   `extent_mod(0, d) = interp(4·deg(atan2(0.2, d)), [0, e1, 360], [0, 0, 360])` with `e1 = 4·deg(atan2(0.2, 1))`, and over ℝ
   `atan2 y x = Complex.arg (x + iy)`.  One fact about the angle: on the line `im = 0.2` it falls from left to right, and the
   sine of the drop between two points is known (`arg_line`).  So the table is read on its flat part for `d ≥ 1`
   (`extentMod_zero_far`), and for `0 ≤ d ≤ 1` on its ramp, where the value is a fixed multiple in [1, 5/4] of 4 times the
   excess angle `arg(d + 0.2i) − arg(1 + 0.2i)` in degrees (`extentMod_zero_of_le_one`, `extentMod_zero_bounds`).  Estimating the
   sine from below (`sin x ≤ x`, `arg_sep`) gives more than 16 degrees for `d ≤ 1/2`: `ammount_spread = 1`
   (`extentMod_zero_of_le_half`); from above (Jordan, `arg_drop_le`) at most `180 (1 − d)` for `1/2 ≤ d ≤ 1`
   (`extentMod_zero_le`; used by C13 for the binary64 unit vectors just below distance 1). -/
import Earverif.Proofs.C01Pipe
import Mathlib.Analysis.SpecialFunctions.Trigonometric.Bounds

namespace Earverif.GainCalc

theorem sin_arg_sub_arg {z w : ℂ} (hz : z ≠ 0) (hw : w ≠ 0) :
    Real.sin (z.arg - w.arg) = (z.im * w.re - z.re * w.im) / (‖z‖ * ‖w‖) := by
  have hnz := norm_ne_zero_iff.mpr hz
  have hnw := norm_ne_zero_iff.mpr hw
  rw [Real.sin_sub, Complex.sin_arg, Complex.sin_arg, Complex.cos_arg hz, Complex.cos_arg hw]
  field_simp

theorem mk_ne_zero_of_im_pos (x : ℝ) {y : ℝ} (hy : 0 < y) : (⟨x, y⟩ : ℂ) ≠ 0 :=
  fun h => hy.ne' (congrArg Complex.im h)

/-- on a horizontal line above the real axis `arg` falls from left to right, and the sine of the drop is
    `y (b − a) / (|a + yi| |b + yi|)` -/
theorem arg_line {y a b : ℝ} (hy : 0 < y) (hab : a ≤ b) :
    0 ≤ Complex.arg ⟨a, y⟩ - Complex.arg ⟨b, y⟩ ∧
    Real.sin (Complex.arg ⟨a, y⟩ - Complex.arg ⟨b, y⟩) = y * (b - a) / (‖(⟨a, y⟩ : ℂ)‖ * ‖(⟨b, y⟩ : ℂ)‖) := by
  have hsin : Real.sin (Complex.arg ⟨a, y⟩ - Complex.arg ⟨b, y⟩) = y * (b - a) / (‖(⟨a, y⟩ : ℂ)‖ * ‖(⟨b, y⟩ : ℂ)‖) := by
    rw [sin_arg_sub_arg (mk_ne_zero_of_im_pos a hy) (mk_ne_zero_of_im_pos b hy)]
    congr 1; ring
  refine ⟨?_, hsin⟩
  have ha : 0 ≤ Complex.arg ⟨a, y⟩ := Complex.arg_nonneg_iff.mpr hy.le
  have hb : Complex.arg ⟨b, y⟩ < Real.pi := Complex.arg_lt_pi_iff.mpr (Or.inr hy.ne')
  by_contra hcon
  have := Real.sin_neg_of_neg_of_neg_pi_lt (not_le.mp hcon) (by linarith)
  rw [hsin] at this
  exact absurd this (not_lt.mpr (div_nonneg (mul_nonneg hy.le (sub_nonneg.mpr hab))
    (mul_nonneg (norm_nonneg _) (norm_nonneg _))))

theorem arg_anti {y a b : ℝ} (hy : 0 < y) (hab : a ≤ b) : Complex.arg ⟨b, y⟩ ≤ Complex.arg ⟨a, y⟩ :=
  sub_nonneg.mp (arg_line hy hab).1

/-- `arg_anti` at height 1/5 between `1` and `d` (antitone in the real part) -/
theorem arg_mono (d : ℝ) (h1 : 1 ≤ d) : Complex.arg ⟨d, 1 / 5⟩ ≤ Complex.arg ⟨1, 1 / 5⟩ :=
  arg_anti (by norm_num) h1

/-- the drop from below: moduli bounded above, `sin x ≤ x` -/
theorem arg_sep (d : ℝ) (h0 : 0 ≤ d) (h1 : d ≤ 1 / 2) :
    Complex.arg ⟨1, 1 / 5⟩ + 9 / 100 ≤ Complex.arg ⟨d, 1 / 5⟩ := by
  have hy : (0 : ℝ) < 1 / 5 := by norm_num
  obtain ⟨hnn, hsin⟩ := arg_line (a := d) (b := 1) hy (h1.trans (by norm_num))
  have hr1 : ‖(⟨1, 1 / 5⟩ : ℂ)‖ ≤ 51 / 50 :=
    abs_le_of_sq_le_sq' (by rw [Complex.sq_norm, Complex.normSq_mk]; norm_num) (by norm_num) |>.2
  have hrd : ‖(⟨d, 1 / 5⟩ : ℂ)‖ ≤ 1 :=
    abs_le_of_sq_le_sq' (by rw [Complex.sq_norm, Complex.normSq_mk]; linarith [mul_le_mul h1 h1 h0 (by norm_num)])
      (by norm_num) |>.2
  have hpos : 0 < ‖(⟨d, 1 / 5⟩ : ℂ)‖ * ‖(⟨1, 1 / 5⟩ : ℂ)‖ :=
    mul_pos (norm_pos_iff.mpr (mk_ne_zero_of_im_pos d hy)) (norm_pos_iff.mpr (mk_ne_zero_of_im_pos 1 hy))
  -- sin (θ_d − θ_1) = (1 − d) / (5 ‖d + 0.2i‖ ‖1 + 0.2i‖) ≥ 0.1 / 1.02
  have : 9 / 100 ≤ Real.sin (Complex.arg ⟨d, 1 / 5⟩ - Complex.arg ⟨1, 1 / 5⟩) := by
    rw [hsin, le_div_iff₀ hpos]
    linarith only [mul_le_mul hrd hr1 (norm_nonneg _) zero_le_one, h1]
  linarith only [Real.sin_le hnn, this]

/-- Jordan's inequality `2x/π ≤ sin x` on `[0, π/2]`, solved for `x` -/
theorem le_of_sin_le {x y : ℝ} (h0 : 0 ≤ x) (h1 : x ≤ Real.pi / 2) (h : Real.sin x ≤ y) :
    x ≤ Real.pi / 2 * y := by
  have hpi := Real.pi_pos
  calc x = Real.pi / 2 * (2 / Real.pi * x) := by field_simp
    _ ≤ Real.pi / 2 * y := mul_le_mul_of_nonneg_left ((Real.mul_le_sin h0 h1).trans h) (by positivity)

/-- a point of the first quadrant right of the imaginary axis: `arg w ≤ (π/2)·(im w / re w)` -/
theorem arg_le {x y : ℝ} (hx : 0 < x) (hy : 0 ≤ y) : Complex.arg ⟨x, y⟩ ≤ Real.pi / 2 * (y / x) := by
  refine le_of_sin_le (Complex.arg_nonneg_iff.mpr hy) (Complex.arg_le_pi_div_two_iff.mpr (.inl hx.le)) ?_
  rw [Complex.sin_arg]
  exact div_le_div_of_nonneg_left hy hx ((le_abs_self _).trans (Complex.abs_re_le_norm ⟨x, y⟩))

/-- the drop from above, right of the imaginary axis: moduli bounded below by the real parts, Jordan -/
theorem arg_drop_le {y a b : ℝ} (hy : 0 < y) (ha : 0 < a) (hab : a ≤ b) :
    Complex.arg ⟨a, y⟩ - Complex.arg ⟨b, y⟩ ≤ Real.pi / 2 * (y * (b - a) / (a * b)) := by
  obtain ⟨hnn, hsin⟩ := arg_line hy hab
  have hb : 0 < b := ha.trans_le hab
  refine le_of_sin_le hnn ((sub_le_self _ (Complex.arg_nonneg_iff.mpr hy.le)).trans
    (Complex.arg_le_pi_div_two_iff.mpr (.inl ha.le))) ?_
  rw [hsin]
  exact div_le_div_of_nonneg_left (mul_nonneg hy.le (sub_nonneg.mpr hab)) (mul_pos ha hb) (mul_le_mul
    ((le_abs_self _).trans (Complex.abs_re_le_norm ⟨a, y⟩)) ((le_abs_self _).trans (Complex.abs_re_le_norm ⟨b, y⟩)) hb.le
    (norm_nonneg _))

/-- `extent_mod(0, d)`: the size at extent 0 is `min_size` = 0.2, and the angle it subtends at distance `d` is looked up in
    a table that is flat up to the angle subtended at distance 1 -/
theorem extentMod_zero (d : ℝ) :
    extentMod (zero : ℝ) d =
      interp (4 * degrees (Complex.arg ⟨d, 1 / 5⟩)) [0, 4 * degrees (Complex.arg ⟨1, 1 / 5⟩), 360] [0, 0, 360] := by
  simp only [extentMod, zero_real, one_real, interp_of_le (le_refl (0 : ℝ)), atan2_real, k_real, Rat.cast_ofNat,
    Rat.cast_div, Rat.cast_one]

theorem extentMod_zero_far (d : ℝ) (h1 : 1 ≤ d) : extentMod (zero : ℝ) d = 0 := by
  rw [extentMod_zero]
  exact interp_flat (mul_le_mul_of_nonneg_left (degrees_le_degrees (arg_mono d h1)) (by norm_num)) 360

theorem knee_range : 0 ≤ 4 * degrees (Complex.arg ⟨1, 1 / 5⟩) ∧ 4 * degrees (Complex.arg ⟨1, 1 / 5⟩) ≤ 72 := by
  have h0 : 0 ≤ Complex.arg ⟨1, 1 / 5⟩ := Complex.arg_nonneg_iff.mpr (by norm_num)
  have h1 : Complex.arg ⟨1, 1 / 5⟩ ≤ Real.pi / 10 := (arg_le one_pos (by norm_num)).trans_eq (by ring)
  have hc0 : 0 < 180 / Real.pi := div_pos (by norm_num) Real.pi_pos
  have hcpi : Real.pi / 10 * (180 / Real.pi) = 18 := by field_simp; norm_num
  rw [degrees_real]
  exact ⟨by positivity, by linarith only [mul_le_mul_of_nonneg_right h1 hc0.le, hcpi]⟩

/-- for `0 ≤ d ≤ 1` the angle subtended at distance `d` is at or beyond the knee and at most 360, where the table is the
    line from `(knee, 0)` to `(360, 360)` -/
theorem extentMod_zero_of_le_one (d : ℝ) (h0 : 0 ≤ d) (h1 : d ≤ 1) :
    extentMod (zero : ℝ) d = 360 / (360 - 4 * degrees (Complex.arg ⟨1, 1 / 5⟩)) *
      (4 * degrees (Complex.arg ⟨d, 1 / 5⟩) - 4 * degrees (Complex.arg ⟨1, 1 / 5⟩)) := by
  rw [extentMod_zero]
  refine interp_ramp_eq knee_range.1
    (mul_le_mul_of_nonneg_left (degrees_le_degrees (arg_anti (by norm_num) h1)) (by norm_num)) ?_
    (by linarith only [knee_range.2])
  -- `arg(d + 0.2i) ≤ π/2`, 90 degrees
  have hθ : Complex.arg ⟨d, 1 / 5⟩ ≤ Real.pi / 2 := Complex.arg_le_pi_div_two_iff.mpr (Or.inl h0)
  have hc0 : 0 < 180 / Real.pi := div_pos (by norm_num) Real.pi_pos
  have hcpi : Real.pi / 2 * (180 / Real.pi) = 90 := by field_simp; norm_num
  rw [degrees_real]
  linarith only [mul_le_mul_of_nonneg_right hθ hc0.le, hcpi]

/-- between 4 times the excess angle in degrees and 5/4 of that (the slope `360/(360 − knee)` is in [1, 5/4]) -/
theorem extentMod_zero_bounds (d : ℝ) (h0 : 0 ≤ d) (h1 : d ≤ 1) :
    4 * degrees (Complex.arg ⟨d, 1 / 5⟩ - Complex.arg ⟨1, 1 / 5⟩) ≤ extentMod (zero : ℝ) d ∧
    extentMod (zero : ℝ) d ≤ 5 * degrees (Complex.arg ⟨d, 1 / 5⟩ - Complex.arg ⟨1, 1 / 5⟩) := by
  obtain ⟨he0, he1⟩ := knee_range
  have hΔ : 0 ≤ degrees (Complex.arg ⟨d, 1 / 5⟩ - Complex.arg ⟨1, 1 / 5⟩) := by
    rw [degrees_real]
    exact mul_nonneg (arg_line (by norm_num) h1).1 (div_pos (by norm_num) Real.pi_pos).le
  have hlin : 4 * degrees (Complex.arg ⟨d, 1 / 5⟩) - 4 * degrees (Complex.arg ⟨1, 1 / 5⟩) =
      4 * degrees (Complex.arg ⟨d, 1 / 5⟩ - Complex.arg ⟨1, 1 / 5⟩) := by
    simp only [degrees_real]; ring
  rw [extentMod_zero_of_le_one d h0 h1, hlin]
  generalize 4 * degrees (Complex.arg ⟨1, 1 / 5⟩) = e at he0 he1
  have hpos : 0 < 360 - e := by linarith only [he1]
  constructor
  · exact le_mul_of_one_le_left (by linarith only [hΔ]) ((one_le_div hpos).mpr (by linarith only [he0]))
  · have hq : 360 / (360 - e) ≤ 5 / 4 := by rw [div_le_iff₀ hpos]; linarith only [he1]
    calc _ ≤ 5 / 4 * (4 * degrees (Complex.arg ⟨d, 1 / 5⟩ - Complex.arg ⟨1, 1 / 5⟩)) :=
          mul_le_mul_of_nonneg_right hq (by linarith only [hΔ])
      _ = _ := by ring

theorem extentMod_zero_of_le_half (d : ℝ) (h0 : 0 ≤ d) (h1 : d ≤ 1 / 2) : 16 ≤ extentMod (zero : ℝ) d := by
  refine le_trans ?_ (extentMod_zero_bounds d h0 (h1.trans (by norm_num))).1
  -- one radian is at least 45 degrees; the gap is then 4 · 45 · 0.09 > 16, and 16 > 10 = `fade_width` is what
  -- `amountSpread_of_ge` needs
  have hc : 45 ≤ 180 / Real.pi := by rw [le_div_iff₀ Real.pi_pos]; linarith [Real.pi_le_four]
  rw [degrees_real]
  linarith [mul_le_mul (by linarith [arg_sep d h0 h1] : 9 / 100 ≤ Complex.arg ⟨d, 1 / 5⟩ - Complex.arg ⟨1, 1 / 5⟩) hc
    (by norm_num) (arg_line (by norm_num) (h1.trans (by norm_num))).1]

theorem extentMod_zero_le (d : ℝ) (h0 : 1 / 2 ≤ d) (h1 : d ≤ 1) :
    0 ≤ extentMod (zero : ℝ) d ∧ extentMod (zero : ℝ) d ≤ 180 * (1 - d) := by
  have hd : (0 : ℝ) < d := lt_of_lt_of_le (by norm_num) h0
  obtain ⟨hlo, hhi⟩ := extentMod_zero_bounds d hd.le h1
  have hnn := (arg_line (y := 1 / 5) (by norm_num) h1).1
  have hup := arg_drop_le (y := 1 / 5) (by norm_num) hd h1
  -- `(1/5)(1 − d)/d ≤ (2/5)(1 − d)` since `1/d ≤ 2`
  have hq : 1 / 5 * (1 - d) / (d * 1) ≤ (1 - d) * (2 / 5) := by
    rw [mul_one, div_le_iff₀ hd]
    linarith only [mul_nonneg (sub_nonneg.mpr h1) (sub_nonneg.mpr h0)]
  have hc0 : 0 < 180 / Real.pi := div_pos (by norm_num) Real.pi_pos
  have hcpi : 180 / Real.pi * Real.pi = 180 := div_mul_cancel₀ _ Real.pi_pos.ne'
  rw [degrees_real] at hlo hhi
  generalize 180 / Real.pi = c at hc0 hcpi hlo hhi
  -- Jordan (`hup`) with `hq`: the drop is at most `(π/2)(2/5)(1 − d)` radians, that is `36 (1 − d)` degrees
  have h2 : (Complex.arg ⟨d, 1 / 5⟩ - Complex.arg ⟨1, 1 / 5⟩) * c ≤ 180 * ((1 - d) / 5) := by
    rw [← hcpi, show c * Real.pi * ((1 - d) / 5) = Real.pi / 2 * ((1 - d) * (2 / 5)) * c by ring]
    exact mul_le_mul_of_nonneg_right
      (hup.trans (mul_le_mul_of_nonneg_left hq (div_nonneg Real.pi_pos.le zero_le_two))) hc0.le
  exact ⟨le_trans (by positivity) hlo, by linarith only [hhi, h2]⟩

theorem polarPoint_far (d w h : ℝ) (hd : 0 ≤ d) (he : polarExtents d (zero : ℝ) zero zero = [(w, h)])
    (hs : ¬ (k (1 / 10000000000) : ℝ) < amountSpread w h) : 1 / 2 < d := by
  by_contra hcon
  rw [polarExtents_zero_depth] at he
  obtain ⟨rfl, rfl⟩ := Prod.mk.inj (List.cons.inj he).1
  apply hs
  rw [amountSpread_of_ge ((extentMod_zero_of_le_half d hd (not_lt.mp hcon)).trans' (by norm_num) |>.trans (le_maxS_left _ _))]
  rw [k_tiny]; norm_num

/-- the point-only class of `PolarExtentHandler.handle(position, 0, 0, 0)`: one end distance and `ammount_spread ≤ 1e-10`
    (exactly the guard of `polarPointPan`) -/
def InPointClass (pos : V3 ℝ) : Prop :=
  ∃ w h, polarExtents (norm3 pos) (zero : ℝ) zero zero = [(w, h)] ∧ ¬ (k (1 / 10000000000) : ℝ) < amountSpread w h

theorem inPointClass_of_far (pos : V3 ℝ) (h : 1 ≤ norm3 pos) : InPointClass pos := by
  refine ⟨0, 0, by rw [polarExtents_zero_depth, extentMod_zero_far _ h], ?_⟩
  rw [amountSpread_zero]
  rw [k_tiny]; norm_num

theorem InPointClass.ne_zero {pos : V3 ℝ} (h : InPointClass pos) : pos ≠ (0, 0, 0) := by
  obtain ⟨w, hh, he, hs⟩ := h
  have := polarPoint_far (norm3 pos) w hh (norm3_nonneg pos) he hs
  intro h0
  rw [h0] at this
  simp [norm3] at this
  linarith

theorem InPointClass.of_norm_eq {pos pos' : V3 ℝ} (h : InPointClass pos) (hn : norm3 pos' = norm3 pos) : InPointClass pos' := by
  obtain ⟨w, hh, he, hs⟩ := h
  exact ⟨w, hh, by rw [hn]; exact he, hs⟩

end Earverif.GainCalc
