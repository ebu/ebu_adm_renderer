/- C01: the allocentric point-source panner (`AllocentricPanner.handle`) has unit power on every
   well-formed speaker grid and every position (cos² + sin² = 1 per axis). -/
import Earverif.Proofs.C01Sub

namespace Earverif.GainCalc

/-! ### assignments into a vector: value semantics

The panner's `foldl set` is read slot by slot: `applyWrites_eq` says slot `j` ends up holding `slotVal ws j 0`, so the power of
the result is a sum over slots (`writeEnergy`).  The two cases of `axis_energy` — the same block written twice with gains
(1, 1), or two disjoint blocks with gains cos, sin — are the two outcomes of `findPair`. -/

/-- value of slot `j` after the writes `ws`, starting from `d` -/
noncomputable def slotVal : List (Nat × ℝ) → Nat → ℝ → ℝ
  | [], _, d => d
  | w :: ws, j, d => slotVal ws j (if w.1 = j then w.2 else d)

def writeIdxs (ws : List (Nat × ℝ)) : List Nat := ws.map (·.1)

theorem slotVal_append : ∀ (A B : List (Nat × ℝ)) (j : Nat) (d : ℝ), slotVal (A ++ B) j d = slotVal B j (slotVal A j d)
  | [], _, _, _ => rfl
  | w :: A, B, j, d => by simp only [List.cons_append, slotVal]; exact slotVal_append A B j _

theorem slotVal_not_mem : ∀ (B : List (Nat × ℝ)) (j : Nat) (d : ℝ), j ∉ writeIdxs B → slotVal B j d = d
  | [], _, _, _ => rfl
  | w :: B, j, d, h => by
    simp only [writeIdxs, List.map_cons, List.mem_cons, not_or] at h
    have hne : ¬ w.1 = j := fun e => h.1 e.symm
    simp only [slotVal, hne, if_false]
    exact slotVal_not_mem B j d h.2

theorem slotVal_mem_indep : ∀ (B : List (Nat × ℝ)) (j : Nat) (d d' : ℝ), j ∈ writeIdxs B → slotVal B j d = slotVal B j d'
  | [], _, _, _, h => by simp [writeIdxs] at h
  | w :: B, j, d, d', h => by
    simp only [slotVal]
    by_cases hw : w.1 = j
    · simp [hw]
    · simp only [hw, if_false]
      simp only [writeIdxs, List.map_cons, List.mem_cons] at h
      rcases h with h | h
      · exact absurd h.symm hw
      · exact slotVal_mem_indep B j d d' h

theorem slotVal_nonneg : ∀ (B : List (Nat × ℝ)) (j : Nat) (d : ℝ), 0 ≤ d → (∀ w ∈ B, 0 ≤ w.2) → 0 ≤ slotVal B j d
  | [], _, _, hd, _ => hd
  | w :: B, j, d, hd, h => by
    simp only [slotVal]
    refine slotVal_nonneg B j _ ?_ (fun w' hw' => h w' (by simp [hw']))
    split
    · exact h w (by simp)
    · exact hd

theorem length_foldl_set : ∀ (ws : List (Nat × ℝ)) (v : List ℝ),
    (ws.foldl (fun ret (w : Nat × ℝ) => ret.set w.1 w.2) v).length = v.length
  | [], _ => rfl
  | w :: ws, v => by simp only [List.foldl_cons]; rw [length_foldl_set ws]; simp

theorem alloHandle_length {n : Nat} {st : Tree ℝ} {px py pz : ℝ} {r : List ℝ} (h : alloHandle n st px py pz = some r) :
    r.length = n := by
  obtain ⟨ws, -, rfl⟩ := Option.map_eq_some_iff.mp h
  rw [applyWrites, length_foldl_set, length_zeros]

theorem getElem_foldl_set : ∀ (ws : List (Nat × ℝ)) (v : List ℝ) (j : Nat) (hj : j < v.length),
    (ws.foldl (fun ret (w : Nat × ℝ) => ret.set w.1 w.2) v)[j]? = some (slotVal ws j v[j])
  | [], v, j, hj => by simp [slotVal]
  | w :: ws, v, j, hj => by
    simp only [List.foldl_cons, slotVal]
    rw [getElem_foldl_set ws (v.set w.1 w.2) j (by simpa using hj)]
    simp only [List.getElem_set]

theorem applyWrites_eq (n : Nat) (ws : List (Nat × ℝ)) :
    applyWrites n ws = (List.range n).map fun j => slotVal ws j 0 := by
  apply List.ext_getElem?
  intro j
  by_cases hj : j < n
  · have hz : (zeros n : List ℝ)[j]'(by simpa using hj) = 0 := by simp [zeros]
    simp only [applyWrites]
    rw [getElem_foldl_set ws (zeros n) j (by simpa using hj), hz]
    simp [hj]
  · have h1 : (applyWrites n ws).length ≤ j := by
      simp only [applyWrites, length_foldl_set, length_zeros]; omega
    rw [List.getElem?_eq_none h1, List.getElem?_eq_none (by simp; omega)]

/-- power of the vector the writes produce -/
noncomputable def writeEnergy (n : Nat) (ws : List (Nat × ℝ)) : ℝ := ∑ j ∈ Finset.range n, slotVal ws j 0 * slotVal ws j 0

theorem sumSq_applyWrites (n : Nat) (ws : List (Nat × ℝ)) : sumSq (applyWrites n ws) = writeEnergy n ws := by
  rw [applyWrites_eq, sumSq, sq, List.map_map, sum_eq_listSum, listSum_range_map]
  rfl

theorem applyWrites_nonneg (n : Nat) (ws : List (Nat × ℝ)) (h : ∀ w ∈ ws, 0 ≤ w.2) : Nonneg (applyWrites n ws) := by
  rw [applyWrites_eq]
  intro x hx
  simp only [List.mem_map] at hx
  obtain ⟨j, _, rfl⟩ := hx
  exact slotVal_nonneg ws j 0 le_rfl h

theorem writeEnergy_single (n i : Nat) (x : ℝ) (hi : i < n) : writeEnergy n [(i, x)] = x * x := by
  simp only [writeEnergy, slotVal]
  rw [Finset.sum_eq_single i]
  · simp
  · intro j _ hne
    have : ¬ i = j := fun e => hne e.symm
    simp [this]
  · intro h; exact absurd (Finset.mem_range.mpr hi) h

theorem writeEnergy_double (n : Nat) (B : List (Nat × ℝ)) : writeEnergy n (B ++ B) = writeEnergy n B := by
  simp only [writeEnergy]
  refine Finset.sum_congr rfl ?_
  intro j _
  rw [slotVal_append]
  by_cases h : j ∈ writeIdxs B
  · rw [slotVal_mem_indep B j _ 0 h]
  · rw [slotVal_not_mem B j _ h]

theorem writeEnergy_disjoint (n : Nat) (A B : List (Nat × ℝ)) (h : ∀ j, j ∈ writeIdxs A → j ∉ writeIdxs B) :
    writeEnergy n (A ++ B) = writeEnergy n A + writeEnergy n B := by
  simp only [writeEnergy, ← Finset.sum_add_distrib]
  refine Finset.sum_congr rfl ?_
  intro j _
  rw [slotVal_append]
  by_cases hB : j ∈ writeIdxs B
  · have hA : j ∉ writeIdxs A := fun hA => h j hA hB
    rw [slotVal_mem_indep B j _ 0 hB, slotVal_not_mem A j 0 hA]; ring
  · rw [slotVal_not_mem B j _ hB, slotVal_not_mem B j 0 hB]; ring

theorem axis_energy (n : Nat) (A0 A1 : List (Nat × ℝ)) (c g0 g1 : ℝ)
    (h : (A0 = A1 ∧ g0 = 1 ∧ g1 = 1) ∨ ((∀ j, j ∈ writeIdxs A0 → j ∉ writeIdxs A1) ∧ g0 ^ 2 + g1 ^ 2 = 1))
    (e0 : writeEnergy n A0 = (c * g0) * (c * g0)) (e1 : writeEnergy n A1 = (c * g1) * (c * g1)) :
    writeEnergy n (A0 ++ A1) = c * c := by
  rcases h with ⟨rfl, rfl, rfl⟩ | ⟨hd, hg⟩
  · rw [writeEnergy_double, e0]; ring
  · rw [writeEnergy_disjoint n A0 A1 hd, e0, e1]
    have : c * g0 * (c * g0) + c * g1 * (c * g1) = c * c * (g0 ^ 2 + g1 ^ 2) := by ring
    rw [this, hg, mul_one]

/-! ### well-formed speaker grids -/

/-- channel indices of the leaves of a row / plane -/
def rowIdx (row : List (Leaf ℝ)) : List Nat := row.map (·.idx)
def planeIdx (pl : List (List (Leaf ℝ))) : List Nat := pl.flatten.map (·.idx)

/-- `treeNonempty` as a proposition: no empty tree, plane or row (for Proofs/C01Tables and C01Concrete, which
    meet only here) -/
theorem treeNonempty_iff {α : Type} {st : Tree α} :
    treeNonempty st = true ↔ st ≠ [] ∧ ∀ pl ∈ st, pl ≠ [] ∧ ∀ row ∈ pl, row ≠ [] := by
  simp only [treeNonempty, Bool.and_eq_true, Bool.not_eq_eq_eq_not, Bool.not_true, List.isEmpty_eq_false_iff,
    List.all_eq_true]

/-- a row of `_speaker_tree`: distinct x, distinct channel indices below `n` -/
structure RowWF (n : Nat) (row : List (Leaf ℝ)) : Prop where
  xs : (row.map (·.x)).Nodup
  ids : (rowIdx row).Nodup
  lt : ∀ l ∈ row, l.idx < n

/-- a plane: its rows are well-formed, have distinct y keys and share no channel.  The key columns are named through
    `mapM` (here and in `TreeWF.zs`) because that is the form `planeWrites` / `alloWrites` leave after `split`;
    `mapM_some_eq_filterMap` (Proofs/MapM, used in C01Tables) turns it into the `filterMap` the decidable check uses. -/
structure PlaneWF (n : Nat) (pl : List (List (Leaf ℝ))) : Prop where
  rows : ∀ row ∈ pl, RowWF n row
  ys : ∀ yc, pl.mapM rowY = some yc → yc.Nodup
  disj : ∀ (i j : Nat) (r0 r1 : List (Leaf ℝ)), i ≠ j → pl[i]? = some r0 → pl[j]? = some r1 →
    ∀ a ∈ rowIdx r0, a ∉ rowIdx r1

/-- the tree: planes well-formed, distinct z keys, no channel in two planes -/
structure TreeWF (n : Nat) (st : Tree ℝ) : Prop where
  planes : ∀ pl ∈ st, PlaneWF n pl
  zs : ∀ zc, st.mapM planeZ = some zc → zc.Nodup
  disj : ∀ (i j : Nat) (p0 p1 : List (List (Leaf ℝ))), i ≠ j → st[i]? = some p0 → st[j]? = some p1 →
    ∀ a ∈ planeIdx p0, a ∉ planeIdx p1

/-- a `Pairwise` relation holds, one way round or the other, at any two distinct positions -/
theorem pairwise_getElem?_ne {β : Type} {R : β → β → Prop} {l : List β} (h : l.Pairwise R) {i j : Nat} {a b : β}
    (hij : i ≠ j) (hi : l[i]? = some a) (hj : l[j]? = some b) : R a b ∨ R b a := by
  rw [List.pairwise_iff_getElem] at h
  obtain ⟨hi', rfl⟩ := List.getElem?_eq_some_iff.mp hi
  obtain ⟨hj', rfl⟩ := List.getElem?_eq_some_iff.mp hj
  exact (Nat.lt_or_gt_of_ne hij).imp (h i j hi' hj') (h j i hj' hi')

theorem nodup_getElem?_ne {β : Type} {l : List β} (h : l.Nodup) {i j : Nat} {a b : β}
    (hi : l[i]? = some a) (hj : l[j]? = some b) (hij : i ≠ j) : a ≠ b :=
  (pairwise_getElem?_ne h hij hi hj).elim id Ne.symm

/-! ### the three loop levels

Each level looks up a pair of neighbouring keys, pans between them and lets the two selected sub-blocks write with the two
gains.  `axis_spec` is that step for an arbitrary kind of sub-block (`W` its writes for a given gain, `I` its channels);
rows, planes and the tree instantiate it with leaves, rows and planes. -/

theorem axis_spec (n : Nat) {β : Type} (I : β → List Nat) (W : β → ℝ → Option (List (Nat × ℝ))) {items : List β}
    {keys : List ℝ} (hk : keys.Nodup)
    (hW : ∀ x ∈ items, ∀ c, 0 ≤ c → ∀ ws, W x c = some ws →
      writeEnergy n ws = c * c ∧ (∀ j ∈ writeIdxs ws, j ∈ I x) ∧ ∀ w ∈ ws, 0 ≤ w.2)
    (hdisj : ∀ (i j : Nat) (x y : β), i ≠ j → items[i]? = some x → items[j]? = some y → ∀ a ∈ I x, a ∉ I y)
    {i j : Nat} {a b : ℝ} {x y : β} (ha : keys[i]? = some a) (hb : keys[j]? = some b) (hx : items[i]? = some x)
    (hy : items[j]? = some y) (v c : ℝ) (hc : 0 ≤ c) {w0 w1 : List (Nat × ℝ)}
    (h0 : W x (c * (singleBalancePan a b v).1) = some w0) (h1 : W y (c * (singleBalancePan a b v).2) = some w1) :
    writeEnergy n (w0 ++ w1) = c * c ∧ (∀ k ∈ writeIdxs (w0 ++ w1), k ∈ I x ∨ k ∈ I y) ∧ ∀ w ∈ w0 ++ w1, 0 ≤ w.2 := by
  have hbp := balancePan_unit a b v
  simp only at hbp
  obtain ⟨hg0, hg1, hne, heq⟩ := hbp
  obtain ⟨e0, s0, n0⟩ := hW x (List.mem_of_getElem? hx) _ (mul_nonneg hc hg0) w0 h0
  obtain ⟨e1, s1, n1⟩ := hW y (List.mem_of_getElem? hy) _ (mul_nonneg hc hg1) w1 h1
  refine ⟨axis_energy n w0 w1 c _ _ ?_ e0 e1, ?_, ?_⟩
  · by_cases hij : i = j
    · -- one key found exactly: the same sub-block is written twice with gains (1, 1)
      subst hij
      have hg := heq (Option.some.inj (ha.symm.trans hb))
      obtain rfl : x = y := Option.some.inj (hx.symm.trans hy)
      rw [hg] at h0 h1 ⊢
      exact Or.inl ⟨Option.some.inj (h0.symm.trans h1), rfl, rfl⟩
    · exact Or.inr ⟨fun k hk0 hk1 => hdisj i j x y hij hx hy k (s0 k hk0) (s1 k hk1),
        hne (nodup_getElem?_ne hk ha hb hij)⟩
  · intro k hk'
    simp only [writeIdxs, List.map_append, List.mem_append] at hk'
    exact hk'.imp (s0 k) (s1 k)
  · intro w hw
    exact (List.mem_append.mp hw).elim (n0 w) (n1 w)

theorem rowWrites_spec (n : Nat) (row : List (Leaf ℝ)) (hw : RowWF n row) (px c : ℝ) (hc : 0 ≤ c)
    (ws : List (Nat × ℝ)) (h : rowWrites row px c = some ws) :
    writeEnergy n ws = c * c ∧ (∀ j ∈ writeIdxs ws, j ∈ rowIdx row) ∧ (∀ w ∈ ws, 0 ≤ w.2) := by
  simp only [rowWrites] at h
  split at h
  · rename_i a b l0 l1 ha hb hl0 hl1
    cases h
    obtain ⟨he, hs, hn⟩ := axis_spec n (fun l : Leaf ℝ => [l.idx]) (fun l c => some [(l.idx, c)]) hw.xs
      (fun l hl c hc ws hws => by
        cases hws
        exact ⟨writeEnergy_single n _ _ (hw.lt l hl), fun j hj => by simpa [writeIdxs] using hj, fun w hw' => by
          rw [List.mem_singleton.mp hw']; exact hc⟩)
      (fun i j x y hij hx hy k hk0 hk1 => by
        rw [List.mem_singleton] at hk0 hk1
        exact nodup_getElem?_ne hw.ids (by simp [rowIdx, hx]) (by simp [rowIdx, hy]) hij (hk0.symm.trans hk1))
      ha hb hl0 hl1 px c hc rfl rfl
    refine ⟨he, fun j hj => ?_, hn⟩
    rcases hs j hj with hj | hj <;> rw [List.mem_singleton.mp hj]
    · exact List.mem_map.mpr ⟨l0, List.mem_of_getElem? hl0, rfl⟩
    · exact List.mem_map.mpr ⟨l1, List.mem_of_getElem? hl1, rfl⟩
  · exact absurd h (by simp)

theorem rowIdx_sub_planeIdx {pl : List (List (Leaf ℝ))} {row : List (Leaf ℝ)} (h : row ∈ pl) :
    ∀ j ∈ rowIdx row, j ∈ planeIdx pl := by
  intro j hj
  simp only [rowIdx, List.mem_map] at hj
  obtain ⟨l, hl, rfl⟩ := hj
  exact List.mem_map.mpr ⟨l, List.mem_flatten.mpr ⟨row, h, hl⟩, rfl⟩

theorem planeWrites_spec (n : Nat) (pl : List (List (Leaf ℝ))) (hw : PlaneWF n pl) (px py c : ℝ) (hc : 0 ≤ c)
    (ws : List (Nat × ℝ)) (h : planeWrites pl px py c = some ws) :
    writeEnergy n ws = c * c ∧ (∀ j ∈ writeIdxs ws, j ∈ planeIdx pl) ∧ (∀ w ∈ ws, 0 ≤ w.2) := by
  simp only [planeWrites] at h
  split at h
  · exact absurd h (by simp)
  · rename_i yc hyc
    split at h
    · rename_i a b r0 r1 ha hb hr0 hr1
      split at h
      · rename_i w0 w1 hw0 hw1
        cases h
        obtain ⟨he, hs, hn⟩ := axis_spec n rowIdx (fun r c => rowWrites r px c) (hw.ys yc hyc)
          (fun r hr c hc ws => rowWrites_spec n r (hw.rows r hr) px c hc ws) hw.disj ha hb hr0 hr1 py c hc hw0 hw1
        exact ⟨he, fun j hj => (hs j hj).elim (rowIdx_sub_planeIdx (List.mem_of_getElem? hr0) j)
          (rowIdx_sub_planeIdx (List.mem_of_getElem? hr1) j), hn⟩
      · exact absurd h (by simp)
    · exact absurd h (by simp)

theorem alloWrites_spec (n : Nat) (st : Tree ℝ) (hw : TreeWF n st) (px py pz : ℝ)
    (ws : List (Nat × ℝ)) (h : alloWrites st px py pz = some ws) :
    writeEnergy n ws = 1 ∧ (∀ w ∈ ws, 0 ≤ w.2) := by
  simp only [alloWrites] at h
  split at h
  · exact absurd h (by simp)
  · rename_i zc hzc
    split at h
    · rename_i a b p0 p1 ha hb hp0 hp1
      split at h
      · rename_i w0 w1 hw0 hw1
        cases h
        obtain ⟨he, _, hn⟩ := axis_spec n planeIdx (fun p c => planeWrites p px py c) (hw.zs zc hzc)
          (fun p hp c hc ws => planeWrites_spec n p (hw.planes p hp) px py c hc ws) hw.disj ha hb hp0 hp1 pz 1 zero_le_one
          (by rwa [one_mul]) (by rwa [one_mul])
        exact ⟨by rw [he, one_mul], hn⟩
      · exact absurd h (by simp)
    · exact absurd h (by simp)

/-- whenever `handle` returns (no IndexError, i.e. no empty plane/row) -/
theorem allo_unit_power (n : Nat) (st : Tree ℝ) (hw : TreeWF n st) (px py pz : ℝ) (r : List ℝ)
    (h : alloHandle n st px py pz = some r) : Nonneg r ∧ sumSq r = 1 := by
  simp only [alloHandle, Option.map_eq_some_iff] at h
  obtain ⟨ws, hws, rfl⟩ := h
  obtain ⟨he, hn⟩ := alloWrites_spec n st hw px py pz ws hws
  exact ⟨applyWrites_nonneg n ws hn, by rw [sumSq_applyWrites, he]⟩

end Earverif.GainCalc
