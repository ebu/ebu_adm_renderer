/-
C06 / C20 link: the track spec that `Adm.matrixSpec` (the transliteration of `get_track_spec` inside
`MatrixAllocationPack.output_channel_allocation`, `Model/SelectItems.lean`) builds for a matrix channel
IS `TrackSpec.packSpec` (the definition C20's `matrix_pack_spec_meaning` is about, `Model/TrackSpec.lean`)
of the channel tree `toMChan` read off the document.  Core Lean only.
-/
import Earverif.Proofs.C06

namespace Earverif.Adm
open Earverif.TrackSpec (MChan packSpec packCoeffs)

/-- `[f(x) for x in xs]` where `f` may have no value. -/
def mapO {α β : Type} (f : α → Option β) : List α → Option (List β)
  | [] => some []
  | x :: xs =>
    match f x with
    | none => none
    | some y =>
      match mapO f xs with
      | none => none
      | some ys => some (y :: ys)

/-- The channel as `get_track_spec(channel_format)` sees it (C20's `MChan`): a channel of the input
allocation carries the track spec of its track; any other channel must be a Matrix channel, whose single
block format lists coefficients (input channel, gain, delay) and a gain.  `none`: the recursion reaches a
channel that is neither (the Python raises `ValueError` on `[block_format] = ...`), or runs out of `fuel`
(a loop among matrix channels; `fuel` = number of channel formats + 1 is enough otherwise). -/
def toMChan (f : Formats) (inputs : List (Nat × TSpec)) : Nat → Nat → Option (MChan Rat)
  | 0, _ => none
  | fuel + 1, ch =>
    match inputs.find? (·.1 == ch) with
    | some s => some (.input s.2)
    | none =>
      if (f.chan ch).type ≠ 2 then none
      else
        match mapO (fun (c : Coeff) =>
            match toMChan f inputs fuel c.input with
            | none => none
            | some m => some (m, c.gain, c.delay)) (f.chan ch).matrix.coeffs with
        | none => none
        | some cs => some (.matrixCh cs (f.chan ch).matrix.gain)

theorem packSpec_input (s : TSpec) : packSpec (MChan.input s) = s := by simp [packSpec]

theorem packSpec_matrixCh (cs : List (MChan Rat × Option Rat × Option Rat)) (g : Rat) :
    packSpec (MChan.matrixCh cs g) = .gain (.mix (packCoeffs cs)) g := by simp [packSpec]

theorem packCoeffs_nil : packCoeffs ([] : List (MChan Rat × Option Rat × Option Rat)) = [] := by
  simp [packCoeffs]

theorem packCoeffs_cons (c : MChan Rat) (g : Option Rat) (d : Option Rat)
    (cs : List (MChan Rat × Option Rat × Option Rat)) :
    packCoeffs ((c, g, d) :: cs) = .matrix (packSpec c) g d :: packCoeffs cs := by simp [packCoeffs]

/-- the per-coefficient step of `matrixSpec` / `toMChan` (the bodies of the two comprehensions). -/
def coeffSpec (f : Formats) (inputs : List (Nat × TSpec)) (fuel : Nat) (c : Coeff) : Except Err TSpec :=
  match matrixSpec f inputs fuel c.input with
  | .error e => .error e
  | .ok s => .ok (Earverif.TrackSpec.Spec.matrix s c.gain c.delay)

def coeffMChan (f : Formats) (inputs : List (Nat × TSpec)) (fuel : Nat) (c : Coeff) :
    Option (MChan Rat × Option Rat × Option Rat) :=
  match toMChan f inputs fuel c.input with
  | none => none
  | some m => some (m, c.gain, c.delay)

theorem matrixSpec_succ (f : Formats) (inputs : List (Nat × TSpec)) (fuel ch : Nat) :
    matrixSpec f inputs (fuel + 1) ch =
      match inputs.find? (·.1 == ch) with
      | some s => .ok s.2
      | none =>
        if (f.chan ch).type ≠ 2 then .error .internal
        else
          match mapE (coeffSpec f inputs fuel) (f.chan ch).matrix.coeffs with
          | .error e => .error e
          | .ok specs => .ok (.gain (.mix specs) (f.chan ch).matrix.gain) := by
  rw [matrixSpec]
  rfl

theorem toMChan_succ (f : Formats) (inputs : List (Nat × TSpec)) (fuel ch : Nat) :
    toMChan f inputs (fuel + 1) ch =
      match inputs.find? (·.1 == ch) with
      | some s => some (.input s.2)
      | none =>
        if (f.chan ch).type ≠ 2 then none
        else
          match mapO (coeffMChan f inputs fuel) (f.chan ch).matrix.coeffs with
          | none => none
          | some cs => some (.matrixCh cs (f.chan ch).matrix.gain) := by
  rw [toMChan]
  rfl

theorem coeffs_ok_iff (f : Formats) (inputs : List (Nat × TSpec)) (fuel : Nat)
    (ih : ∀ ch s, matrixSpec f inputs fuel ch = .ok s ↔ ∃ m, toMChan f inputs fuel ch = some m ∧ s = packSpec m) :
    ∀ (cs : List Coeff) (specs : List TSpec),
      mapE (coeffSpec f inputs fuel) cs = .ok specs ↔
        ∃ ms, mapO (coeffMChan f inputs fuel) cs = some ms ∧ specs = packCoeffs ms
  | [], specs => by
    simp only [mapE, mapO, Except.ok.injEq, Option.some.injEq]
    constructor
    · intro h; exact ⟨[], rfl, by rw [packCoeffs_nil]; exact h.symm⟩
    · rintro ⟨ms, rfl, h⟩; rw [packCoeffs_nil] at h; exact h.symm
  | c :: cs, specs => by
    have ihl := coeffs_ok_iff f inputs fuel ih cs
    simp only [mapE, mapO, coeffSpec, coeffMChan]
    cases hm : matrixSpec f inputs fuel c.input with
    | error e =>
      have hnone := eq_none_of_error (fun m ht => (ih c.input (packSpec m)).2 ⟨m, ht, rfl⟩) hm
      simp [hnone]
    | ok s =>
      obtain ⟨m, htm, rfl⟩ := (ih c.input s).1 hm
      simp only [htm]
      cases hrest : mapE (coeffSpec f inputs fuel) cs with
      | error e =>
        have hnone := eq_none_of_error (fun ms ho => (ihl (packCoeffs ms)).2 ⟨ms, ho, rfl⟩) hrest
        simp [hnone]
      | ok rest =>
        obtain ⟨ms, hms, rfl⟩ := (ihl rest).1 hrest
        simp only [hms, Except.ok.injEq, Option.some.injEq]
        constructor
        · intro h; exact ⟨_, rfl, by rw [packCoeffs_cons]; exact h.symm⟩
        · rintro ⟨ms', rfl, h⟩; rw [packCoeffs_cons] at h; exact h.symm

/-- `matrixSpec` succeeds exactly when the channel tree
`toMChan` exists, and then the spec it returns is C20's `packSpec` of that tree. -/
theorem matrixSpec_ok_iff (f : Formats) (inputs : List (Nat × TSpec)) :
    ∀ (fuel ch : Nat) (s : TSpec),
      matrixSpec f inputs fuel ch = .ok s ↔ ∃ m, toMChan f inputs fuel ch = some m ∧ s = packSpec m
  | 0, ch, s => by simp [matrixSpec, toMChan]
  | fuel + 1, ch, s => by
    have ih := matrixSpec_ok_iff f inputs fuel
    rw [matrixSpec_succ, toMChan_succ]
    cases hfind : inputs.find? (·.1 == ch) with
    | some x =>
      simp only [Except.ok.injEq, Option.some.injEq]
      constructor
      · intro h; exact ⟨_, rfl, by rw [packSpec_input]; exact h.symm⟩
      · rintro ⟨m, rfl, h⟩; rw [packSpec_input] at h; exact h.symm
    | none =>
      simp only
      by_cases hty : (f.chan ch).type ≠ 2
      · simp [hty]
      · simp only [hty, if_false]
        have hl := coeffs_ok_iff f inputs fuel ih (f.chan ch).matrix.coeffs
        cases hme : mapE (coeffSpec f inputs fuel) (f.chan ch).matrix.coeffs with
        | error e =>
          have hnone := eq_none_of_error (fun ms ho => (hl (packCoeffs ms)).2 ⟨ms, ho, rfl⟩) hme
          simp [hnone]
        | ok specs =>
          obtain ⟨ms, hms, rfl⟩ := (hl specs).1 hme
          simp only [hms, Except.ok.injEq, Option.some.injEq]
          constructor
          · intro h; exact ⟨_, rfl, by rw [packSpec_matrixCh]; exact h.symm⟩
          · rintro ⟨m, rfl, h⟩; rw [packSpec_matrixCh] at h; exact h.symm

theorem matrixSpec_eq_packSpec {f : Formats} {inputs : List (Nat × TSpec)} {fuel ch : Nat} {s : TSpec}
    (h : matrixSpec f inputs fuel ch = .ok s) :
    ∃ m, toMChan f inputs fuel ch = some m ∧ s = packSpec m :=
  (matrixSpec_ok_iff f inputs fuel ch s).1 h

/-- the tree of a channel that is not in the input allocation: a `matrixCh` node whose children are the
trees of the coefficients' input channels, in the order of the block format's `matrix` list. -/
theorem toMChan_matrix {f : Formats} {inputs : List (Nat × TSpec)} {fuel ch : Nat} {m : MChan Rat}
    (h : toMChan f inputs (fuel + 1) ch = some m) (hin : inputs.find? (·.1 == ch) = none) :
    (f.chan ch).type = 2 ∧ ∃ cs, mapO (coeffMChan f inputs fuel) (f.chan ch).matrix.coeffs = some cs ∧
      m = .matrixCh cs (f.chan ch).matrix.gain := by
  rw [toMChan_succ, hin] at h
  simp only at h
  by_cases hty : (f.chan ch).type ≠ 2
  · simp [hty] at h
  · simp only [hty, if_false] at h
    refine ⟨by omega, ?_⟩
    cases ho : mapO (coeffMChan f inputs fuel) (f.chan ch).matrix.coeffs with
    | none => simp [ho] at h
    | some cs =>
      simp only [ho, Option.some.injEq] at h
      exact ⟨cs, rfl, h.symm⟩

theorem toMChan_input {f : Formats} {inputs : List (Nat × TSpec)} {fuel ch : Nat} {x : Nat × TSpec}
    (hin : inputs.find? (·.1 == ch) = some x) : toMChan f inputs (fuel + 1) ch = some (.input x.2) := by
  rw [toMChan_succ, hin]

theorem mapO_eq_mapM {α β : Type} (f : α → Option β) : ∀ l : List α, mapO f l = l.mapM f
  | [] => rfl
  | x :: xs => by
    rw [List.mapM_cons, mapO, mapO_eq_mapM f xs]
    cases f x with
    | none => rfl
    | some y => cases xs.mapM f <;> rfl

theorem mapO_length {α β : Type} {f : α → Option β} : ∀ {l : List α} {ys : List β}, mapO f l = some ys →
    ys.length = l.length :=
  fun h => mapM_some_length (mapO_eq_mapM _ _ ▸ h)

/-- each child of the tree is the tree of the corresponding coefficient's input channel, with that
coefficient's gain and delay. -/
theorem mapO_coeffMChan_get {f : Formats} {inputs : List (Nat × TSpec)} {fuel : Nat} :
    ∀ {l : List Coeff} {cs : List (MChan Rat × Option Rat × Option Rat)},
      mapO (coeffMChan f inputs fuel) l = some cs →
      ∀ i (hi : i < l.length) (hi' : i < cs.length),
        toMChan f inputs fuel l[i].input = some cs[i].1 ∧ cs[i].2.1 = l[i].gain ∧ cs[i].2.2 = l[i].delay := by
  intro l cs h i hi hi'
  obtain ⟨y, hy, hc⟩ := mapM_some_getElem? (mapO_eq_mapM _ _ ▸ h) i l[i] (List.getElem?_eq_getElem hi)
  obtain rfl : y = cs[i] := by rw [List.getElem?_eq_getElem hi'] at hy; exact (Option.some.inj hy).symm
  unfold coeffMChan at hc
  cases ht : toMChan f inputs fuel l[i].input with
  | none => simp [ht] at hc
  | some m =>
    simp only [ht, Option.some.injEq] at hc
    rw [← hc]
    exact ⟨rfl, rfl, rfl⟩

end Earverif.Adm
