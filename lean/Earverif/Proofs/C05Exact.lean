/- C05 — exactness of the composed panner at a loudspeaker position: the analytic lemmas over ℝ.

   * Triplet: `p · P⁻¹` by Cramer (`pv_cramer`, Proofs/PointSourceReal.lean); a component below `−1e-11` ⇒
     `Triplet.handle = none`; invariance under scaling positions and direction by the same factor.
   * one pan axis of a QuadRegion with the closed-form root selection `GainCalc.quadRoot`: if the quadratic has no root
     in the acceptance window outside `[xl, xh]` and the nearly-real complex branch is not taken, every selected pan
     value is the clip of a root in `[xl, xh]` (`quadRoot_mem`); if `r0 ∈ [0,1]` is the only root in the window, the
     selection is exactly `r0` (`quadRoot_exact`, from `quadRoot_of_unit_root`).  Both rest on `quadRoot_sound` /
     `quadRoot_complete` (Proofs/C05CoverQuad.lean).
   * `NoRootIn` from sign conditions (values at the end points, discriminant, vertex position).
   * QuadRegion: the final sign test is bilinear in the two pan values, so it fails on a box if it fails at its four
     corners (`quad_handle_none_of_box`). -/
import Earverif.Proofs.C05CoverQuad
import Earverif.Proofs.C05CoverCert

namespace Earverif.PointSource.Cover
open Earverif.PointSource
open Earverif.GainCalc (quadRoot acceptRoot firstSome eqS eqS_real)

/-- a Cramer component below `−1e-11` -/
def TripletOut (a b c p : Vec3 ℝ) : Prop :=
  det3 (a, b, c) ≠ 0 ∧
    (det3 (p, b, c) / det3 (a, b, c) < -(1 / 100000000000) ∨ det3 (a, p, c) / det3 (a, b, c) < -(1 / 100000000000) ∨
      det3 (a, b, p) / det3 (a, b, c) < -(1 / 100000000000))

theorem triplet_none_of_out {a b c p : Vec3 ℝ} (h : TripletOut a b c p) : Triplet.handle (a, b, c) p = none := by
  rw [triplet_handle_eq_none_iff]
  intro hacc
  simp only [Triplet.accepts, pv_cramer, tripletEps_real] at hacc
  rcases h.2 with h' | h' | h' <;> linarith

theorem TripletOut.of_scaled {S : ℝ} (hS : 0 < S) {a b c p : Vec3 ℝ}
    (h : TripletOut (smul3 S a) (smul3 S b) (smul3 S c) (smul3 S p)) : TripletOut a b c p := by
  have hT : S ^ 3 ≠ 0 := by positivity
  obtain ⟨hd, hc⟩ := h
  rw [det3_smul] at hd hc
  rw [det3_smul, det3_smul, det3_smul, mul_div_mul_left _ _ hT, mul_div_mul_left _ _ hT, mul_div_mul_left _ _ hT] at hc
  exact ⟨fun h0 => hd (by rw [h0, mul_zero]), hc⟩

/-- `triplet_exact_at_vertex` for the rows `a b c` (the form the exactness check of harness/c05.py names) -/
theorem triplet_at_vertex (a b c : Vec3 ℝ) (hd : det3 (a, b, c) ≠ 0) :
    Triplet.handle (a, b, c) a = some (1, 0, 0) ∧ Triplet.handle (a, b, c) b = some (0, 1, 0) ∧
      Triplet.handle (a, b, c) c = some (0, 0, 1) :=
  triplet_exact_at_vertex (a, b, c) hd

def NoRootIn (A B C u v : ℝ) : Prop := ∀ t, u < t → t < v → A * t ^ 2 + B * t + C ≠ 0

theorem noRootIn_empty (A B C : ℝ) {u v : ℝ} (h : v ≤ u) : NoRootIn A B C u v :=
  fun _ h1 h2 => absurd (lt_trans h1 h2) (not_lt.mpr h)

/-- linear (`A = 0`): same weak sign at both ends, not both zero; an affine function interpolates its end values -/
theorem noRootIn_lin (A B C u v : ℝ) (hA : A = 0)
    (hs : (0 ≤ A * u ^ 2 + B * u + C ∧ 0 ≤ A * v ^ 2 + B * v + C) ∨ (A * u ^ 2 + B * u + C ≤ 0 ∧ A * v ^ 2 + B * v + C ≤ 0))
    (hne : A * u ^ 2 + B * u + C ≠ 0 ∨ A * v ^ 2 + B * v + C ≠ 0) : NoRootIn A B C u v := by
  subst hA
  intro t h1 h2 h0
  have key : (v - t) * (0 * u ^ 2 + B * u + C) + (t - u) * (0 * v ^ 2 + B * v + C) = 0 := by
    linear_combination (v - u) * h0
  have hu : 0 < v - t := sub_pos.mpr h2
  have hv : 0 < t - u := sub_pos.mpr h1
  have hz : (v - t) * (0 * u ^ 2 + B * u + C) = 0 ∧ (t - u) * (0 * v ^ 2 + B * v + C) = 0 := by
    rcases hs with ⟨a1, a2⟩ | ⟨a1, a2⟩
    · exact (add_eq_zero_iff_of_nonneg (mul_nonneg hu.le a1) (mul_nonneg hv.le a2)).mp key
    · have := (add_eq_zero_iff_of_nonneg (mul_nonneg hu.le (neg_nonneg.mpr a1))
        (mul_nonneg hv.le (neg_nonneg.mpr a2))).mp (by linarith)
      exact ⟨by linarith [this.1], by linarith [this.2]⟩
  exact hne.elim (fun h => h ((mul_eq_zero.mp hz.1).resolve_left hu.ne'))
    fun h => h ((mul_eq_zero.mp hz.2).resolve_left hv.ne')

theorem noRootIn_disc (A B C u v : ℝ) (h : B * B - 4 * A * C < 0) : NoRootIn A B C u v := by
  intro t _ _ h0
  exact absurd (disc_nonneg_of_root h0) (not_le.mpr h)

/-- `A·f ≤ 0` at both ends (`A ≠ 0`: the roots straddle the interval): `A·f` is strictly convex -/
theorem noRootIn_straddle (A B C u v : ℝ) (hA : A ≠ 0) (hu : A * (A * u ^ 2 + B * u + C) ≤ 0)
    (hv : A * (A * v ^ 2 + B * v + C) ≤ 0) : NoRootIn A B C u v := by
  intro t h1 h2 h0
  have key : (v - t) * (A * (A * u ^ 2 + B * u + C)) + (t - u) * (A * (A * v ^ 2 + B * v + C)) =
      A * A * ((t - u) * (v - t) * (v - u)) := by linear_combination (v - u) * A * h0
  have e1 := mul_nonpos_of_nonneg_of_nonpos (sub_pos.mpr h2).le hu
  have e2 := mul_nonpos_of_nonneg_of_nonpos (sub_pos.mpr h1).le hv
  have e3 := mul_pos (mul_self_pos.mpr hA)
    (mul_pos (mul_pos (sub_pos.mpr h1) (sub_pos.mpr h2)) (sub_pos.mpr (h1.trans h2)))
  linarith

/-- `A·f(u) ≥ 0` and the vertex is at or left of `u`: `A·f` expanded at `u` is positive to the right of `u` -/
theorem noRootIn_left (A B C u v : ℝ) (hA : A ≠ 0) (hu : 0 ≤ A * (A * u ^ 2 + B * u + C))
    (hvx : 0 ≤ A * (2 * A * u + B)) : NoRootIn A B C u v := by
  intro t h1 _ h0
  have key : A * (A * u ^ 2 + B * u + C) + (t - u) * (A * (2 * A * u + B)) + A * A * ((t - u) * (t - u)) = 0 := by
    linear_combination A * h0
  have e1 := mul_nonneg (sub_pos.mpr h1).le hvx
  have e2 := mul_pos (mul_self_pos.mpr hA) (mul_pos (sub_pos.mpr h1) (sub_pos.mpr h1))
  linarith

/-- `A·f(v) ≥ 0` and the vertex is at or right of `v` -/
theorem noRootIn_right (A B C u v : ℝ) (hA : A ≠ 0) (hv : 0 ≤ A * (A * v ^ 2 + B * v + C))
    (hvx : A * (2 * A * v + B) ≤ 0) : NoRootIn A B C u v := by
  intro t _ h2 h0
  have key : A * (A * v ^ 2 + B * v + C) + (v - t) * -(A * (2 * A * v + B)) + A * A * ((v - t) * (v - t)) = 0 := by
    linear_combination A * h0
  have e1 := mul_nonneg (sub_pos.mpr h2).le (neg_nonneg.mpr hvx)
  have e2 := mul_pos (mul_self_pos.mpr hA) (mul_pos (sub_pos.mpr h2) (sub_pos.mpr h2))
  linarith

theorem NoRootIn.of_scaled {S A B C u v : ℝ} (h : NoRootIn (S * A) (S * B) (S * C) u v) :
    NoRootIn A B C u v := by
  intro t h1 h2 h0
  exact h t h1 h2 (by linear_combination S * h0)

theorem CplxOk.of_scaled {S A B C : ℝ} (hS : S ≠ 0) (h : CplxOk (S * A) (S * B) (S * C)) : CplxOk A B C := by
  have hS2 : 0 < S * S := mul_self_pos.mpr hS
  rcases h with h | h | h
  · exact Or.inl ((mul_eq_zero.mp h).resolve_left hS)
  · right; left
    have : S * B * (S * B) - 4 * (S * A) * (S * C) = S * S * (B * B - 4 * A * C) := by ring
    rw [this] at h
    exact nonneg_of_mul_nonneg_right h hS2
  · right; right
    have e : 4 * (S * A * (S * A)) = S * S * (4 * (A * A)) := by ring
    have e' : -(S * B * (S * B) - 4 * (S * A) * (S * C)) * (bigE * bigE) =
        S * S * (-(B * B - 4 * A * C) * (bigE * bigE)) := by ring
    rw [e, e'] at h
    exact le_of_mul_le_mul_left h hS2

/-- **Every pan value the selection can return is the clip of a root in `[xl, xh]`**, if the quadratic has no root in
    the acceptance window left of `xl` or right of `xh` and the complex branch is excluded. -/
theorem quadRoot_mem (A B C xl xh : ℝ) (hc : CplxOk A B C) (h1 : NoRootIn A B C (-eps) xl)
    (h2 : NoRootIn A B C xh (1 + eps)) (x : ℝ) (hx : quadRoot (A, B, C) = some x) :
    ∃ r, xl ≤ r ∧ r ≤ xh ∧ x = clip01 r := by
  obtain ⟨r, hr, ha⟩ := quadRoot_sound hc hx
  obtain ⟨w1, w2, w3⟩ := acceptRoot_eq r x ha
  exact ⟨r, not_lt.mp fun hh => h1 r w1 hh hr, not_lt.mp fun hh => h2 r hh w2 hr, w3⟩

theorem quadRoot_none (A B C xl xh : ℝ) (hc : CplxOk A B C) (h1 : NoRootIn A B C (-eps) xl)
    (h2 : NoRootIn A B C xh (1 + eps)) (hlt : xh < xl) : quadRoot (A, B, C) = none := by
  cases hx : quadRoot (A, B, C) with
  | none => rfl
  | some x =>
    obtain ⟨r, hr1, hr2, _⟩ := quadRoot_mem A B C xl xh hc h1 h2 x hx
    linarith

/-- **`r0 ∈ [0,1]` is a root and the only root in the window ⇒ the selection is exactly `r0`.** -/
theorem quadRoot_exact (A B C r0 : ℝ) (h0 : 0 ≤ r0) (h1 : r0 ≤ 1) (hr : A * r0 ^ 2 + B * r0 + C = 0)
    (hne : ¬(A = 0 ∧ B = 0 ∧ C = 0)) (hl : NoRootIn A B C (-eps) r0) (hh : NoRootIn A B C r0 (1 + eps)) :
    quadRoot (A, B, C) = some r0 := by
  have he := eps_pos
  have huniq : ∀ r, -eps < r → r < 1 + eps → A * r ^ 2 + B * r + C = 0 → r = r0 := by
    intro r w1 w2 hr'
    by_contra hne'
    rcases lt_or_gt_of_ne hne' with h | h
    · exact hl r w1 h hr'
    · exact hh r h w2 hr'
  obtain ⟨x, hx, hx0, hx1, hfx⟩ := quadRoot_of_unit_root A B C ⟨r0, h0, h1, hr⟩
    (fun r w1 w2 hr' => by rw [huniq r w1 w2 hr']; exact ⟨h0, h1⟩) hne
  rw [hx, huniq x (by linarith) (by linarith) hfx]

theorem affine_nonpos {m c x X0 X1 : ℝ} (h0 : X0 ≤ x) (h1 : x ≤ X1) (e0 : m * X0 + c ≤ 0) (e1 : m * X1 + c ≤ 0) :
    m * x + c ≤ 0 := by
  by_cases hm : 0 ≤ m
  · linarith [mul_le_mul_of_nonneg_left h1 hm]
  · linarith [mul_le_mul_of_nonpos_left h0 (not_le.mp hm).le]

theorem bilinear_nonpos (al be ga de x y X0 X1 Y0 Y1 : ℝ) (hx0 : X0 ≤ x) (hx1 : x ≤ X1) (hy0 : Y0 ≤ y) (hy1 : y ≤ Y1)
    (c00 : (1 - X0) * (1 - Y0) * al + X0 * (1 - Y0) * be + X0 * Y0 * ga + (1 - X0) * Y0 * de ≤ 0)
    (c01 : (1 - X0) * (1 - Y1) * al + X0 * (1 - Y1) * be + X0 * Y1 * ga + (1 - X0) * Y1 * de ≤ 0)
    (c10 : (1 - X1) * (1 - Y0) * al + X1 * (1 - Y0) * be + X1 * Y0 * ga + (1 - X1) * Y0 * de ≤ 0)
    (c11 : (1 - X1) * (1 - Y1) * al + X1 * (1 - Y1) * be + X1 * Y1 * ga + (1 - X1) * Y1 * de ≤ 0) :
    (1 - x) * (1 - y) * al + x * (1 - y) * be + x * y * ga + (1 - x) * y * de ≤ 0 := by
  -- in y, at X0 and X1
  have a0 : (1 - X0) * (1 - y) * al + X0 * (1 - y) * be + X0 * y * ga + (1 - X0) * y * de ≤ 0 := by
    have := affine_nonpos (m := -(1 - X0) * al - X0 * be + X0 * ga + (1 - X0) * de) (c := (1 - X0) * al + X0 * be)
      hy0 hy1 (by linarith) (by linarith)
    linarith
  have a1 : (1 - X1) * (1 - y) * al + X1 * (1 - y) * be + X1 * y * ga + (1 - X1) * y * de ≤ 0 := by
    have := affine_nonpos (m := -(1 - X1) * al - X1 * be + X1 * ga + (1 - X1) * de) (c := (1 - X1) * al + X1 * be)
      hy0 hy1 (by linarith) (by linarith)
    linarith
  have := affine_nonpos (m := -(1 - y) * al + (1 - y) * be + y * ga - y * de) (c := (1 - y) * al + y * de)
    hx0 hx1 (by linarith) (by linarith)
  linarith

theorem dot3_comm (a b : Vec3 ℝ) : dot3 a b = dot3 b a := by
  simp only [dot3]; ring

/-- **`QuadRegion.handle` answers `None`** when the pan values are confined to a box on which the bilinear sign test
    fails (ordered corners `a b c d` = `order` applied to the positions) -/
theorem quad_handle_none_of_box (q0 q1 q2 q3 : Vec3 ℝ) (o : List Nat) (ho : isPermOfRange o 4 = true) (p : Vec3 ℝ)
    (x y X0 X1 Y0 Y1 : ℝ) (hx0 : X0 ≤ x) (hx1 : x ≤ X1) (hy0 : Y0 ≤ y) (hy1 : y ≤ Y1)
    (hbox : ∀ X ∈ [X0, X1], ∀ Y ∈ [Y0, Y1],
      (1 - X) * (1 - Y) * dot3 ([q0, q1, q2, q3].getD (o.getD 0 0) zero3) p +
        X * (1 - Y) * dot3 ([q0, q1, q2, q3].getD (o.getD 1 0) zero3) p +
        X * Y * dot3 ([q0, q1, q2, q3].getD (o.getD 2 0) zero3) p +
        (1 - X) * Y * dot3 ([q0, q1, q2, q3].getD (o.getD 3 0) zero3) p ≤ 0) :
    (⟨[q0, q1, q2, q3], o⟩ : QuadRegion ℝ).handle (some x) (some y) p = none := by
  simp only [QuadRegion.handle, QuadRegion.weights, one_real, zero_real]
  rw [comb_scatter4 ho, ← bil_eq_comb4, if_pos]
  rw [dot3_comm, dot3_bil, dot3_comm p, dot3_comm p, dot3_comm p, dot3_comm p]
  have := bilinear_nonpos _ _ _ _ x y X0 X1 Y0 Y1 hx0 hx1 hy0 hy1 (hbox X0 (by simp) Y0 (by simp))
    (hbox X0 (by simp) Y1 (by simp)) (hbox X1 (by simp) Y0 (by simp)) (hbox X1 (by simp) Y1 (by simp))
  linarith

/-- `f(t) = t`: `0` is a root, the only one in the window, so the selection is exactly `0` (`quadRoot_exact`) -/
example : quadRoot ((0 : ℝ), (1 : ℝ), (0 : ℝ)) = some 0 := by
  have := quadRoot_exact 0 1 0 0 (le_refl _) zero_le_one (by norm_num) (by norm_num)
    (fun t _ h2 h0 => by nlinarith) (fun t h1 _ h0 => by nlinarith)
  simpa using this

/-- `f(t) = t − 2` has no root in the window: the hypotheses of `quadRoot_mem` / `quadRoot_none` hold with the empty
    interval `xl = 1 > xh = 0` -/
example : quadRoot ((0 : ℝ), (1 : ℝ), (-2 : ℝ)) = none := by
  have he : eps < 1 := by unfold eps; norm_num
  exact quadRoot_none 0 1 (-2) 1 0 (Or.inl rfl) (fun t _ h2 h0 => by nlinarith) (fun t _ h2 h0 => by nlinarith)
    (by norm_num)

/-- a direction outside a triplet: `(0, 0, −1)` against the standard basis -/
example : TripletOut ((1 : ℝ), (0 : ℝ), (0 : ℝ)) ((0 : ℝ), (1 : ℝ), (0 : ℝ)) ((0 : ℝ), (0 : ℝ), (1 : ℝ))
    ((0 : ℝ), (0 : ℝ), (-1 : ℝ)) := by
  norm_num [TripletOut, det3]

/-- a bilinear form that is ≤ 0 at the corners of the unit box (`−1` everywhere) -/
example (x y : ℝ) (hx0 : 0 ≤ x) (hx1 : x ≤ 1) (hy0 : 0 ≤ y) (hy1 : y ≤ 1) :
    (1 - x) * (1 - y) * (-1) + x * (1 - y) * (-1) + x * y * (-1) + (1 - x) * y * (-1) ≤ (0 : ℝ) :=
  bilinear_nonpos (-1) (-1) (-1) (-1) x y 0 1 0 1 hx0 hx1 hy0 hy1 (by norm_num) (by norm_num) (by norm_num) (by norm_num)

end Earverif.PointSource.Cover
