/-
C06: the comprehension `specStates` / `specItem` / `specSelect`, its equality with the generator-style model
(`select_eq_spec`); a successful run taken apart and put together (`select_ok_inv`, `select_of_ok`: where the later
files start); the data of an item (`Item.OwnData`, `extra_data_from_own_path`), the complementary-object selection inverted
(`selectComplementary_eq_ok_iff`), the selected states (`NoDupRefs`, `ObjRefsOK`, `Acyclic` with `acyclic_of_validate`,
`mem_specStates_iff`, `select_eq_decl_chain`, `select_excludes_ignored`, `select_once_per_path`), `extraOf` field by
field (`extraOf_fields`, then one lemma per field), documents without programmes or
objects (`chna_only_all_tracks`, `no_programme_all_roots`), the programme chosen (`select_programme_lowest_id`);
`Adm.strip`, `CompPerm` and the complementary-object selection under re-ordered complementary lists.
-/
import Earverif.Proofs.C06Spec
import Earverif.Proofs.C06Acyclic

namespace Earverif.Adm

/-- no ignored (non-selected complementary) object on the path. -/
def notIgnored (ign : List Nat) (p : List Nat) : Bool := !p.any (ign.contains ·)

def specPaths (a : Adm) (ign : List Nat) (r : Nat) : List (List Nat) :=
  (objectPathsFrom a r).filter (notIgnored ign)

/-- `[ (prog, content, path) | content ∈ prog.contents, root ∈ content.objects, path ∈ paths(root),
no ignored object on path ]`; all root objects when there is no programme; the single
CHNA-only state when there are neither programmes nor objects. -/
def specStates (a : Adm) (prog : Option Nat) (ign : List Nat) : List State :=
  if a.programmes = [] ∧ a.objects = [] then [⟨none, none, none⟩]
  else
    match prog with
    | some p =>
      (a.prog p).contents.flatMap fun c => (a.cont c).objects.flatMap fun r =>
        (specPaths a ign r).map fun path => ⟨some p, some c, some path⟩
    | none =>
      (rootObjects a).flatMap fun r => (specPaths a ign r).map fun path => ⟨none, none, some path⟩

/-- the item of one channel: every field is a function of the item's own state
(programme, content, object path), pack path `pp`, channel/track `ct` and the
absoluteDistance `ad` found along `pp`. -/
def specItem (a : Adm) (st : State) (ty : Nat) (pp : List Nat) (ct : Nat × TSpec)
    (ad : Option Rat) : Item :=
  { kind := ty, tracks := [ct.2], channels := [ct.1],
    programme := st.programme, content := st.content, objPath := st.objPath,
    packPaths := [pp], extra := extraOf a st (some ct.1) ad,
    importances := [getImportance a st pp], blocks := (a.fmt.chan ct.1).blocks, hoa := none }

/-- `items adm = [ item(path, pack, ch) | state ∈ specStates, (pack, alloc) ∈ theAllocation(path.last), ch ∈ alloc ]`
(in `Except`: the first error in iteration order is the result, as in Python). -/
def specSelect (a : Adm) (given : Option Nat) (sel : List Nat) : Except Err (List Item) :=
  match wrappedPacks a.fmt with
  | .error e => .error e
  | .ok _ =>
    match selectComplementary a sel with
    | .error e => .error e
    | .ok ign =>
      flatMapE (fun st =>
        match selectPackMapping a st with
        | .error e => .error e
        | .ok packs => flatMapE (itemsOfPack a st) packs)
        (specStates a (selectProgramme a given) ign)

def stateRoots (a : Adm) : Option Nat → List (Option Nat × Nat)
  | some p => (a.prog p).contents.flatMap fun c => (a.cont c).objects.map fun r => (some c, r)
  | none => (rootObjects a).map fun r => (none, r)

theorem specStates_eq (a : Adm) (prog : Option Nat) (ign : List Nat) (hne : ¬ (a.programmes = [] ∧ a.objects = [])) :
    specStates a prog ign =
      (stateRoots a prog).flatMap fun cr => (specPaths a ign cr.2).map fun path => ⟨prog, cr.1, some path⟩ := by
  unfold specStates stateRoots
  cases prog with
  | none => simp only [hne, if_false, List.flatMap_map]
  | some p => simp only [hne, if_false, List.flatMap_assoc, List.flatMap_map]

theorem mem_specStates {a : Adm} {prog : Option Nat} {ign : List Nat} {st : State} :
    st ∈ specStates a prog ign ↔
      ((a.programmes = [] ∧ a.objects = []) ∧ st = ⟨none, none, none⟩) ∨
      (¬ (a.programmes = [] ∧ a.objects = []) ∧
        ∃ cr ∈ stateRoots a prog, ∃ path ∈ specPaths a ign cr.2, st = ⟨prog, cr.1, some path⟩) := by
  by_cases h : a.programmes = [] ∧ a.objects = []
  · unfold specStates
    simp [h]
  · rw [specStates_eq a prog ign h]
    simp only [List.mem_flatMap, List.mem_map, h, false_and, false_or, not_false_eq_true, true_and]
    constructor <;> rintro ⟨cr, hcr, path, hpath, rfl⟩ <;> exact ⟨cr, hcr, path, hpath, rfl⟩

theorem flatMap_onlySelected_map (ign : List Nat) (mk : List Nat → State)
    (hmk : ∀ p, (mk p).objPath = some p) (l : List (List Nat)) :
    (l.map mk).flatMap (onlySelected ign) = (l.filter (notIgnored ign)).map mk := by
  induction l with
  | nil => rfl
  | cons p ps ih =>
    have hq : notIgnored ign p = !(p.any fun x => ign.contains x) := rfl
    simp only [List.map_cons, List.flatMap_cons, ih, List.filter_cons, onlySelected, hmk]
    cases h : (p.any fun x => ign.contains x) with
    | false =>
      have hq' : notIgnored ign p = true := by rw [hq, h]; rfl
      simp [hq']
    | true =>
      have hq' : notIgnored ign p = false := by rw [hq, h]; rfl
      simp [hq']

/-- the generator pipeline `_select_programme_content_objects` + `_select_only_selected_complementary`
yields exactly the comprehension. -/
theorem selectStates_eq_spec (a : Adm) (given : Option Nat) (ign : List Nat) :
    selectStates a given ign = specStates a (selectProgramme a given) ign := by
  unfold selectStates selectPCO specStates
  by_cases h : a.programmes = [] ∧ a.objects = []
  · have : ¬ (a.programmes ≠ [] ∨ a.objects ≠ []) := by simp [h.1, h.2]
    simp [h, onlySelected]
  · have h' : a.programmes ≠ [] ∨ a.objects ≠ [] := by
      by_cases hp : a.programmes = []
      · right; intro ho; exact h ⟨hp, ho⟩
      · left; exact hp
    simp only [h', h, if_true, if_false]
    cases selectProgramme a given with
    | none =>
      simp only [selectContent, List.flatMap_cons, List.flatMap_nil, List.append_nil,
        selectObjectPaths, selectRootObjects, List.flatMap_assoc, specPaths]
      congr 1; funext r
      exact flatMap_onlySelected_map ign (fun p => ⟨none, none, some p⟩) (fun _ => rfl) _
    | some p =>
      simp only [selectContent, List.flatMap_map, selectObjectPaths, selectRootObjects,
        List.flatMap_assoc, specPaths]
      congr 1; funext c
      congr 1; funext r
      have := flatMap_onlySelected_map ign (fun q => ⟨some p, some c, some q⟩) (fun _ => rfl)
        (objectPathsFrom a r)
      rw [List.flatMap_map] at this
      exact this

/-- the transliterated, generator-style selection equals the comprehension
(as values of `Except`, i.e. including which documents are rejected). -/
theorem select_eq_spec (a : Adm) (given : Option Nat) (sel : List Nat) :
    selectRenderingItems a given sel = specSelect a given sel := by
  unfold selectRenderingItems specSelect
  cases wrappedPacks a.fmt with
  | error e => rfl
  | ok wps =>
    cases selectComplementary a sel with
    | error e => rfl
    | ok ign =>
      simp only [selectStates_eq_spec]
      rfl

theorem select_of_ok {a : Adm} {wps : List WPack} {sel ign : List Nat} (hw : wrappedPacks a.fmt = .ok wps)
    (hc : selectComplementary a sel = .ok ign) (given : Option Nat) :
    selectRenderingItems a given sel =
      flatMapE (itemsOfState a) (specStates a (selectProgramme a given) ign) := by
  unfold selectRenderingItems
  simp only [hw, hc, selectStates_eq_spec]

theorem select_ok_inv {a : Adm} {given : Option Nat} {sel : List Nat} {items : List Item}
    (h : selectRenderingItems a given sel = .ok items) :
    ∃ wps ign, wrappedPacks a.fmt = .ok wps ∧ selectComplementary a sel = .ok ign ∧
      flatMapE (itemsOfState a) (specStates a (selectProgramme a given) ign) = .ok items := by
  cases hw : wrappedPacks a.fmt with
  | error e => simp [selectRenderingItems, hw] at h
  | ok wps =>
    cases hc : selectComplementary a sel with
    | error e => simp [selectRenderingItems, hw, hc] at h
    | ok ign => exact ⟨wps, ign, rfl, rfl, by rw [← select_of_ok hw hc]; exact h⟩

theorem singleItem_spec {a : Adm} {st : State} {ty p : Nat} {ct : Nat × TSpec} {it : Item}
    (h : singleItem a st ty p ct = .ok it) :
    ∃ pp ad, getPackFormatPath a.fmt p ct.1 = .ok pp ∧
      getPathParam (pp.map fun q => (a.fmt.pack q).absDist) = .ok ad ∧
      it = specItem a st ty pp ct ad := by
  obtain ⟨⟨⟨pp, hpp⟩, ad, had⟩, rfl⟩ := (singleItem_iff a st ty p ct it).1 h
  obtain rfl := (getPackFormatPath_eq hpp).1
  exact ⟨_, ad, hpp, had, by rw [getPathParam_eq_firstSome had]; rfl⟩

def Item.state (it : Item) : State := ⟨it.programme, it.content, it.objPath⟩

/-- the channel whose frequency an item carries (none for HOA items). -/
def Item.freqChannel (it : Item) : Option Nat := if it.kind = 4 then none else it.channels.head?

/-- what every item satisfies w.r.t. the state it was generated from: it names that state, its extra data is
`_get_extra_data` of its own (state, pack paths, channel), importances are those of its own
object path and pack paths. -/
def Item.OwnData (a : Adm) (it : Item) (st : State) : Prop :=
  it.state = st ∧
  getExtraData a st (it.packPaths.zip it.channels) it.freqChannel = .ok it.extra ∧
  it.importances = it.packPaths.map (getImportance a st)

theorem singleItem_own {a : Adm} {st : State} {ty p : Nat} {ct : Nat × TSpec} {it : Item}
    (hty : ty ≠ 4) (h : singleItem a st ty p ct = .ok it) : it.OwnData a st := by
  obtain ⟨pp, ad, _, had, rfl⟩ := singleItem_spec h
  refine ⟨rfl, ?_, rfl⟩
  -- one pack path, one channel: `_get_extra_data` on the singleton is the `get_path_param` in hand
  simp only [specItem, Item.freqChannel, hty, ↓reduceIte, List.zip_cons_cons, List.zip_nil_right, List.head?_cons]
  exact (getExtraData_ok_iff ..).2 ⟨ad, (getSingleParam_ok_iff ..).2 ⟨nofun, fun x hx => by
    rw [List.mem_singleton.1 hx]; exact had⟩, rfl⟩

theorem hoaItem_own {a : Adm} {st : State} {ap : AllocPack} {it : Item}
    (h : hoaItem a st ap = .ok it) : it.OwnData a st ∧ it.kind = 4 := by
  obtain ⟨_, hm, ex, _, hex, rfl⟩ := (hoaItem_ok_iff a st ap it).1 h
  refine ⟨⟨rfl, ?_, ?_⟩, rfl⟩
  · simpa only [zip_map_fst_snd, Item.freqChannel, if_true] using hex
  · simp [List.map_map]

theorem itemsOfPack_own {a : Adm} {st : State} {ap : AllocPack} {its : List Item}
    (h : itemsOfPack a st ap = .ok its) : ∀ it ∈ its, it.OwnData a st := by
  unfold itemsOfPack at h
  dsimp only at h
  intro it hit
  split at h
  · rename_i hty
    obtain ⟨ct, _, hct⟩ := mapE_mem h hit
    refine singleItem_own ?_ hct
    rcases hty with h3 | h1 <;> omega
  · split at h
    · cases hh : hoaItem a st ap with
      | error e => simp [hh] at h
      | ok it' =>
        simp only [hh, Except.ok.injEq] at h
        subst h
        simp only [List.mem_singleton] at hit
        subst hit
        exact (hoaItem_own hh).1
    · cases h

theorem itemsOfState_ok_iff_packs {a : Adm} {st : State} {its : List Item} :
    itemsOfState a st = .ok its ↔
      ∃ aps, selectPackMapping a st = .ok aps ∧ flatMapE (itemsOfPack a st) aps = .ok its := by
  unfold itemsOfState
  cases selectPackMapping a st <;> simp

theorem itemsOfState_own {a : Adm} {st : State} {its : List Item}
    (h : itemsOfState a st = .ok its) : ∀ it ∈ its, it.OwnData a st := by
  obtain ⟨_, _, h⟩ := itemsOfState_ok_iff_packs.1 h
  intro it hit
  obtain ⟨ap, _, zs, hzs, hmem⟩ := flatMapE_mem h hit
  exact itemsOfPack_own hzs it hmem

theorem items_from_states {a : Adm} {given : Option Nat} {sel : List Nat} {items : List Item}
    (h : selectRenderingItems a given sel = .ok items) :
    ∃ ign, selectComplementary a sel = .ok ign ∧
      ∀ it ∈ items, ∃ st ∈ specStates a (selectProgramme a given) ign, it.OwnData a st := by
  obtain ⟨_, ign, _, hc, h⟩ := select_ok_inv h
  refine ⟨ign, hc, fun it hit => ?_⟩
  obtain ⟨st, hst, zs, hzs, hmem⟩ := flatMapE_mem h hit
  exact ⟨st, hst, itemsOfState_own hzs it hmem⟩

theorem specStates_objPath {a : Adm} {prog : Option Nat} {ign : List Nat} {st : State}
    (h : st ∈ specStates a prog ign) {p : List Nat} (hp : st.objPath = some p) :
    notIgnored ign p = true ∧ ∃ r, p ∈ objectPathsFrom a r := by
  rcases mem_specStates.1 h with ⟨_, rfl⟩ | ⟨_, cr, _, q, hq, rfl⟩
  · cases hp
  · cases hp
    exact ⟨(List.mem_filter.1 hq).2, cr.2, (List.mem_filter.1 hq).1⟩

/-- `_select_complementary_objects` returns exactly when every selected object belongs to a complementary group and no
group has two selected members (explicitly selected, or the root by default); it then ignores the non-selected members
of all groups. -/
theorem selectComplementary_eq_ok_iff (a : Adm) (sel ign : List Nat) :
    selectComplementary a sel = .ok ign ↔
      (∀ s ∈ sel, s ∈ (compRoots a).flatMap (compGroup a)) ∧
      (∀ r ∈ compRoots a, ((compGroup a r).filter ((compAllSelected a sel).contains ·)).length ≤ 1) ∧
      ign = (compRoots a).flatMap fun r => (compGroup a r).filter fun o => !(compAllSelected a sel).contains o := by
  unfold selectComplementary
  dsimp only
  split
  · rename_i c
    obtain ⟨s, hs, hn⟩ := List.any_eq_true.1 c
    have hs' : s ∉ (compRoots a).flatMap (compGroup a) := by simpa using hn
    exact ⟨nofun, fun h => absurd (h.1 s hs) hs'⟩
  · rename_i c1
    split
    · rename_i c
      obtain ⟨r, hr, hn⟩ := List.any_eq_true.1 c
      exact ⟨nofun, fun h => absurd (h.2.1 r hr) (Nat.not_le.2 (of_decide_eq_true hn))⟩
    · rename_i c2
      rw [Except.ok.injEq]
      refine ⟨fun h => ⟨fun s hs => ?_, fun r hr => ?_, h.symm⟩, fun h => h.2.2.symm⟩
      · exact Decidable.by_contra fun hn => c1 (List.any_eq_true.2 ⟨s, hs, by simpa using hn⟩)
      · exact Nat.not_lt.1 fun hn => c2 (List.any_eq_true.2 ⟨r, hr, decide_eq_true hn⟩)

theorem mem_ignored_iff {a : Adm} {sel ign : List Nat} (h : selectComplementary a sel = .ok ign) (o : Nat) :
    o ∈ ign ↔ ∃ r ∈ compRoots a, o ∈ compGroup a r ∧ o ∉ compAllSelected a sel := by
  obtain ⟨_, _, rfl⟩ := (selectComplementary_eq_ok_iff a sel ign).1 h
  simp [List.mem_flatMap, List.mem_filter]

/-- when selection succeeds, at most one member of each complementary group is selected
(two explicitly selected members are rejected with `multipleSelected`). -/
theorem comp_at_most_one_selected {a : Adm} {sel ign : List Nat} (h : selectComplementary a sel = .ok ign) :
    ∀ r ∈ compRoots a, ((compGroup a r).filter ((compAllSelected a sel).contains ·)).length ≤ 1 :=
  ((selectComplementary_eq_ok_iff a sel ign).1 h).2.1

/-- no selected item lies on an object path through a
non-selected member of a complementary group. -/
theorem select_excludes_ignored {a : Adm} {given : Option Nat} {sel : List Nat} {items : List Item}
    (h : selectRenderingItems a given sel = .ok items) :
    ∃ ign, selectComplementary a sel = .ok ign ∧
      ∀ it ∈ items, ∀ p, it.objPath = some p → ∀ o ∈ p, o ∉ ign := by
  obtain ⟨ign, hign, hall⟩ := items_from_states h
  refine ⟨ign, hign, fun it hit p hp o ho hoi => ?_⟩
  obtain ⟨st, hst, hown, _⟩ := hall it hit
  have := (specStates_objPath hst ((congrArg State.objPath hown).symm.trans hp)).1
  simp only [notIgnored, Bool.not_eq_true', List.any_eq_false, List.contains_iff_mem] at this
  exact this o ho (by simpa using hoi)

/-- reference lists contain no duplicates (BS.2076 documents reference an element once). -/
structure NoDupRefs (a : Adm) : Prop where
  contents : ∀ p, (a.prog p).contents.Nodup
  objects : ∀ c, (a.cont c).objects.Nodup
  subs : ∀ o, (a.subs o).Nodup

/-- no loops in the audioObject nesting (`_validate_object_loops`), stated with a rank that
decreases along sub-object references. -/
def Acyclic (a : Adm) : Prop :=
  ∃ rank : Nat → Nat, (∀ o c, c ∈ a.subs o → rank c < rank o) ∧
    ∀ o, o < a.objects.length → rank o < a.objects.length

/-- with fuel = number of objects, `object_paths_from` enumerates exactly the chains of
sub-object references. -/
theorem mem_objectPathsFrom_iff {a : Adm} (hac : Acyclic a) {r : Nat} (hr : r < a.objects.length)
    (p : List Nat) : p ∈ objectPathsFrom a r ↔ Chain a.subs r p := by
  obtain ⟨rank, hdec, hbound⟩ := hac
  constructor
  · exact chain_of_mem_pathsFrom _ _ _
  · intro h
    have := h.length_le hdec
    have := hbound r hr
    exact mem_pathsFrom_of_chain h _ (by omega)

theorem objectPathsFrom_nodup {a : Adm} (hnd : NoDupRefs a) (r : Nat) : (objectPathsFrom a r).Nodup :=
  pathsFrom_nodup hnd.subs _ _

theorem objectPathsFrom_head {a : Adm} {r : Nat} {p : List Nat} (h : p ∈ objectPathsFrom a r) :
    p.head? = some r := (chain_of_mem_pathsFrom _ _ _ h).head

theorem rootObjects_nodup (a : Adm) : (rootObjects a).Nodup := nodup_filter _ List.nodup_range

theorem rootPaths_nodup {a : Adm} (hnd : NoDupRefs a) (ign : List Nat) (mk : List Nat → State)
    (hmk : ∀ x y, mk x = mk y → x = y) {l : List Nat} (hl : l.Nodup) :
    (l.flatMap fun r => (specPaths a ign r).map mk).Nodup := by
  refine nodup_flatMap_of hl (fun r _ => nodup_map_of_inj (nodup_filter _ (objectPathsFrom_nodup hnd r)) hmk) ?_
  intro r _ r' _ hne b hb hb'
  simp only [List.mem_map, specPaths, List.mem_filter] at hb hb'
  obtain ⟨q, ⟨hq, _⟩, rfl⟩ := hb
  obtain ⟨q', ⟨hq', _⟩, he⟩ := hb'
  have := hmk _ _ he
  subst this
  have h1 := objectPathsFrom_head hq
  rw [objectPathsFrom_head hq'] at h1
  exact hne (Option.some.inj h1).symm

theorem specStates_nodup {a : Adm} (hnd : NoDupRefs a) (prog : Option Nat) (ign : List Nat) :
    (specStates a prog ign).Nodup := by
  unfold specStates
  split
  · simp
  · cases prog with
    | none =>
      exact rootPaths_nodup hnd ign _ (fun x y h => by simpa using h) (rootObjects_nodup a)
    | some p =>
      refine nodup_flatMap_of (hnd.contents p) (fun c _ => ?_) ?_
      · exact rootPaths_nodup hnd ign _ (fun x y h => by simpa using h) (hnd.objects c)
      · intro c _ c' _ hne b hb hb'
        simp only [List.mem_flatMap, List.mem_map] at hb hb'
        obtain ⟨_, _, _, _, rfl⟩ := hb
        obtain ⟨_, _, _, _, he⟩ := hb'
        simp only [State.mk.injEq, Option.some.injEq, true_and] at he
        exact hne he.1.symm

/-- the references of the content part into the audioObject list are in range. -/
structure ObjRefsOK (a : Adm) : Prop where
  cont : ∀ c, ∀ r ∈ (a.cont c).objects, r < a.objects.length
  subs : ∀ o, ∀ x ∈ a.subs o, x < a.objects.length
  comps : ∀ o, ∀ x ∈ (a.obj o).complementary, x < a.objects.length

theorem objRefsOK_of_refsInRange {a : Adm} (h : a.refsInRange = true) : ObjRefsOK a := by
  obtain ⟨_, hc, ho, _⟩ := refsInRange_at h
  exact ⟨hc, fun o => (ho o).2.2.1, fun o => (ho o).2.2.2⟩

theorem mem_specStates_iff {a : Adm} (hac : Acyclic a) (hrange : a.refsInRange = true)
    (hne : ¬ (a.programmes = [] ∧ a.objects = [])) (q : Nat) (ign : List Nat) (st : State) :
    st ∈ specStates a (some q) ign ↔
      ∃ c ∈ (a.prog q).contents, ∃ r ∈ (a.cont c).objects, ∃ path, Chain a.subs r path ∧
        notIgnored ign path = true ∧ st = ⟨some q, some c, some path⟩ := by
  have hr := (objRefsOK_of_refsInRange hrange).cont
  unfold specStates
  simp only [hne, if_false, List.mem_flatMap, List.mem_map, specPaths, List.mem_filter]
  constructor
  · rintro ⟨c, hc, r, hrc, path, ⟨hp, hn⟩, rfl⟩
    exact ⟨c, hc, r, hrc, path, (mem_objectPathsFrom_iff hac (hr c r hrc) path).1 hp, hn, rfl⟩
  · rintro ⟨c, hc, r, hrc, path, hp, hn, rfl⟩
    exact ⟨c, hc, r, hrc, path, ⟨(mem_objectPathsFrom_iff hac (hr c r hrc) path).2 hp, hn⟩, rfl⟩

/-- `validate_structure` runs `_validate_object_loops` (second step of the C14 model's `validateStructure`).  Read
off `validateStructure` itself: `Validate.StructOk` records the checks that later validation steps rely on, and no
later step relies on this one. -/
theorem validateObjectLoops_of_validate {d : AdmV.Doc} (hv : Validate.validateStructure d = .ok ()) :
    Validate.validateObjectLoops d = .ok () := by
  unfold Validate.validateStructure at hv
  obtain ⟨_, _, h⟩ := Validate.bind_ok hv
  obtain ⟨_, h2, _⟩ := Validate.bind_ok h
  exact h2

/-- `Acyclic a` — the hypothesis of `mem_objectPathsFrom_iff` / `mem_specStates_iff` that
makes the fuel of `objectPathsFrom` sufficient — follows from C14's object-loop validator
(`Validate.objLoopDfs`, run by `validateStructure` on `toDoc a`): a dfs that returned without the loop error from
every object visited only duplicate-free chains (`objLoopDfs_chains`), so chains have at most `a.objects.length`
entries (pigeonhole) and the longest-chain length is a rank (`rank_of_chains_short`).  `refsInRange` stays a
hypothesis (dangling indices cannot be written in Python; the driver checks it before running the model). -/
theorem acyclic_of_validate {a : Adm} (hrange : a.refsInRange = true)
    (hv : Validate.validateStructure (toDoc a) = .ok ()) : Acyclic a := by
  have hsubs := (objRefsOK_of_refsInRange hrange).subs
  have hl := validateObjectLoops_of_validate hv
  have hch : ∀ o c, o < (toDoc a).objects.length → c ∈ ((toDoc a).obj o).objects → c < (toDoc a).objects.length := by
    intro o c _ hc
    rw [toDoc_obj_objects] at hc
    rw [toDoc_nobjects]
    exact hsubs o c hc
  have hfun : (fun i => ((toDoc a).obj i).objects) = a.subs := funext (toDoc_obj_objects a)
  refine rank_of_chains_short a.subs a.objects.length (fun o c _ hc => hsubs o c hc) ?_ ?_
  · intro o ho
    unfold Adm.subs Adm.obj
    simp [List.getD_eq_getElem?_getD, List.getElem?_eq_none ho]
    rfl
  · intro r hr p hp
    have := chains_short_of_loops (toDoc a) hch hl (r := r) (by rw [toDoc_nobjects]; exact hr) (p := p)
      (by rw [hfun]; exact hp)
    rwa [toDoc_nobjects] at this

/-- the selected items that name a given (programme, content, object
path) are exactly the items of that one state, once — and nothing when the state is not in the
comprehension.  Together with `specStates_nodup` / `mem_specStates_iff`: the multiplicity of an
item is the number of distinct object paths reaching it. -/
theorem select_once_per_path {a : Adm} (hnd : NoDupRefs a) {given : Option Nat} {sel : List Nat}
    {items : List Item} (h : selectRenderingItems a given sel = .ok items) :
    ∃ ign, selectComplementary a sel = .ok ign ∧ ∀ st : State,
      items.filter (fun it => decide (it.state = st)) =
        if st ∈ specStates a (selectProgramme a given) ign then okVal (itemsOfState a) st else [] := by
  obtain ⟨_, ign, _, hc, h⟩ := select_ok_inv h
  refine ⟨ign, hc, fun st => ?_⟩
  obtain ⟨hall, rfl⟩ := (flatMapE_ok_iff _ _ _).1 h
  refine filter_flatMap_key (specStates_nodup hnd _ ign) _ Item.state ?_ st
  intro s hs it hit
  obtain ⟨zs, hzs⟩ := hall s hs
  exact (itemsOfState_own hzs it (okVal_of_ok hzs ▸ hit)).1

/-- the extra data of every selected item is `_get_extra_data`
evaluated on the item's *own* programme/content/object path, pack paths and channel — nothing
else of the document enters. -/
theorem extra_data_from_own_path {a : Adm} {given : Option Nat} {sel : List Nat} {items : List Item}
    (h : selectRenderingItems a given sel = .ok items) :
    ∀ it ∈ items,
      getExtraData a it.state (it.packPaths.zip it.channels) it.freqChannel = .ok it.extra := by
  obtain ⟨ign, _, hall⟩ := items_from_states h
  intro it hit
  obtain ⟨st, _, hown⟩ := hall it hit
  rw [hown.1]
  exact hown.2.1

/-- (object importance, pack importance) of every channel of an item
is the minimum along the item's own object path and that channel's pack path. -/
theorem importance_from_own_path {a : Adm} {given : Option Nat} {sel : List Nat} {items : List Item}
    (h : selectRenderingItems a given sel = .ok items) :
    ∀ it ∈ items, it.importances = it.packPaths.map (getImportance a it.state) := by
  obtain ⟨ign, _, hall⟩ := items_from_states h
  intro it hit
  obtain ⟨st, _, hown⟩ := hall it hit
  rw [hown.1]
  exact hown.2.2

theorem getExtraData_eq {a : Adm} {st : State} {ppc : List (List Nat × Nat)} {ch : Option Nat} {e : Extra}
    (h : getExtraData a st ppc ch = .ok e) : ∃ ad, e = extraOf a st ch ad := by
  obtain ⟨ad, _, he⟩ := (getExtraData_ok_iff ..).1 h
  exact ⟨ad, he⟩

/-- `extraOf` field by field (how the code combines the values along the path: the leaf object's own values,
overridden by the referenced alternativeValueSet; object parameters of non-leaf objects are rejected by
validation, so nothing is accumulated along the path).  Every combination of what is set is a case of its own. -/
theorem extraOf_fields (a : Adm) (st : State) (ch : Option Nat) (ad : Option Rat) :
    extraOf a st ch ad =
      { objectStart := (st.leaf a).bind (·.start)
        objectDuration := (st.leaf a).bind (·.duration)
        screen := match st.programme with
          | some p => (a.prog p).screen
          | none => some 0
        lowPass := ch.bind fun c => (a.fmt.chan c).lowPass
        highPass := ch.bind fun c => (a.fmt.chan c).highPass
        absDist := ad
        gain := ((getAvs a st).bind (·.gain)).getD (((st.leaf a).map (·.gain)).getD 1)
        mute := ((getAvs a st).bind (·.mute)).getD (((st.leaf a).map (·.mute)).getD false)
        posOff := ((getAvs a st).bind (·.posOff)).or ((st.leaf a).bind (·.posOff)) } := by
  unfold extraOf
  cases st.programme <;> cases ch <;> cases st.leaf a <;> cases getAvs a st with
  | none => rfl
  | some v =>
    obtain ⟨_, g, m, o⟩ := v
    cases g <;> cases m <;> cases o <;> rfl

theorem extraOf_objectStart (a : Adm) (st : State) (ch : Option Nat) (ad : Option Rat) :
    (extraOf a st ch ad).objectStart = (st.leaf a).bind (·.start) := by
  rw [extraOf_fields]

theorem extraOf_objectDuration (a : Adm) (st : State) (ch : Option Nat) (ad : Option Rat) :
    (extraOf a st ch ad).objectDuration = (st.leaf a).bind (·.duration) := by
  rw [extraOf_fields]

/-- reference screen: the item's own programme's, `default_screen` without a programme. -/
theorem extraOf_screen (a : Adm) (st : State) (ch : Option Nat) (ad : Option Rat) :
    (extraOf a st ch ad).screen =
      match st.programme with
      | some p => (a.prog p).screen
      | none => some 0 := by
  rw [extraOf_fields]

theorem extraOf_frequency (a : Adm) (st : State) (ch : Option Nat) (ad : Option Rat) :
    (extraOf a st ch ad).lowPass = ch.bind (fun c => (a.fmt.chan c).lowPass) ∧
    (extraOf a st ch ad).highPass = ch.bind (fun c => (a.fmt.chan c).highPass) := by
  rw [extraOf_fields]
  exact ⟨rfl, rfl⟩

theorem extraOf_absDist (a : Adm) (st : State) (ch : Option Nat) (ad : Option Rat) :
    (extraOf a st ch ad).absDist = ad := by
  rw [extraOf_fields]

/-- gain: the referenced alternativeValueSet's gain if it has one, else the leaf object's gain
(1 in CHNA-only mode). -/
theorem extraOf_gain (a : Adm) (st : State) (ch : Option Nat) (ad : Option Rat) :
    (extraOf a st ch ad).gain =
      match (getAvs a st).bind (·.gain), st.leaf a with
      | some g, _ => g
      | none, some o => o.gain
      | none, none => 1 := by
  rw [extraOf_fields]
  cases (getAvs a st).bind (·.gain) <;> cases st.leaf a <;> rfl

theorem extraOf_mute (a : Adm) (st : State) (ch : Option Nat) (ad : Option Rat) :
    (extraOf a st ch ad).mute =
      match (getAvs a st).bind (·.mute), st.leaf a with
      | some m, _ => m
      | none, some o => o.mute
      | none, none => false := by
  rw [extraOf_fields]
  cases (getAvs a st).bind (·.mute) <;> cases st.leaf a <;> rfl

theorem extraOf_posOff (a : Adm) (st : State) (ch : Option Nat) (ad : Option Rat) :
    (extraOf a st ch ad).posOff =
      match (getAvs a st).bind (·.posOff), st.leaf a with
      | some o, _ => some o
      | none, some o => o.posOff
      | none, none => none := by
  rw [extraOf_fields]
  cases (getAvs a st).bind (·.posOff) <;> cases st.leaf a <;> rfl

theorem selectComplementary_no_objects {a : Adm} (ho : a.objects = []) :
    selectComplementary a [] = .ok [] := by
  simp [selectComplementary, compRoots, ho, compAllSelected]

/-- without programmes and objects, selection is the items of the single
CHNA-only state: *all* audioTrackUIDs of the document are allocated (`chna_only_problem`: no pack
references, no silent tracks), every allocated pack is rendered, and no programme / content /
object is attached to the items. -/
theorem chna_only_all_tracks {a : Adm} (hp : a.programmes = []) (ho : a.objects = []) (given : Option Nat) :
    selectRenderingItems a given [] =
      match wrappedPacks a.fmt with
      | .error e => .error e
      | .ok _ => itemsOfState a ⟨none, none, none⟩ := by
  rw [select_eq_spec]
  unfold specSelect
  cases wrappedPacks a.fmt with
  | error e => rfl
  | ok wps =>
    simp only [selectComplementary_no_objects ho, specStates, hp, ho, and_self, if_true, flatMapE_singleton]
    rfl

/-- the allocation problem of the CHNA-only state: every audioTrackUID, in declaration order,
`pack_refs = None`, `num_silent_tracks = 0`. -/
theorem chna_only_problem (a : Adm) (wps : List WPack) :
    (allocProblem a ⟨none, none, none⟩ wps).2 = List.range a.fmt.trackUIDs.length ∧
    (allocProblem a ⟨none, none, none⟩ wps).1.packRefs = none ∧
    (allocProblem a ⟨none, none, none⟩ wps).1.numSilent = 0 ∧
    (allocProblem a ⟨none, none, none⟩ wps).1.tracks.length = a.fmt.trackUIDs.length := by
  simp [allocProblem]

theorem selectProgramme_none (a : Adm) : selectProgramme a none = minById a.programmes := by
  unfold selectProgramme
  match a.programmes with
  | [] => rfl
  | [_] => rfl
  | _ :: _ :: _ => rfl

/-- without programmes (but with objects) the selected states are all
object paths from all root objects (objects that are nobody's sub-object), minus ignored ones. -/
theorem no_programme_all_roots {a : Adm} (hp : a.programmes = []) (ho : a.objects ≠ []) (ign : List Nat) :
    selectStates a none ign =
      (rootObjects a).flatMap fun r => (specPaths a ign r).map fun path => ⟨none, none, some path⟩ := by
  rw [selectStates_eq_spec, selectProgramme_none, hp]
  unfold specStates
  simp [hp, ho, minById, minByIdGo]

theorem mem_rootObjects (a : Adm) (r : Nat) :
    r ∈ rootObjects a ↔ r < a.objects.length ∧ ∀ o ∈ a.objects, r ∉ o.subObjects := by
  simp [rootObjects, List.mem_filter, List.mem_range, List.mem_flatMap]

theorem mem_specStates_none_iff {a : Adm} (hac : Acyclic a)
    (hne : ¬ (a.programmes = [] ∧ a.objects = [])) (ign : List Nat) (st : State) :
    st ∈ specStates a none ign ↔
      ∃ r ∈ rootObjects a, ∃ path, Chain a.subs r path ∧ notIgnored ign path = true ∧
        st = ⟨none, none, some path⟩ := by
  unfold specStates
  simp only [hne, if_false, List.mem_flatMap, List.mem_map, specPaths, List.mem_filter]
  constructor
  · rintro ⟨r, hr, path, ⟨hp, hn⟩, rfl⟩
    exact ⟨r, hr, path, (mem_objectPathsFrom_iff hac ((mem_rootObjects a r).1 hr).1 path).1 hp, hn, rfl⟩
  · rintro ⟨r, hr, path, hp, hn, rfl⟩
    exact ⟨r, hr, path, ⟨(mem_objectPathsFrom_iff hac ((mem_rootObjects a r).1 hr).1 path).2 hp, hn⟩, rfl⟩

/-- on a document that C14's `validate_structure` accepts, the state enumeration
`specStates` that `select_eq_decl` / `select_eq_decl_validated` range over is the declarative set — with no fuel and no
model function in it: a state is enumerated iff it is (chosen programme `q`, one of its contents `c`, a chain of
sub-object references from one of `c`'s objects) — or (no programme: a chain from a root object, i.e. an object that no
object references) — and no object of the chain is ignored.  (`rootObjects` is characterised by `mem_rootObjects`; the
ignored objects by `mem_ignored_iff`; the ORDER and multiplicity of the enumeration by `specStates_nodup` and the
model's iteration order, which is not declarative.) -/
theorem select_eq_decl_chain {a : Adm} (hrange : a.refsInRange = true)
    (hv : Validate.validateStructure (toDoc a) = .ok ()) (hne : ¬ (a.programmes = [] ∧ a.objects = []))
    (ign : List Nat) (st : State) :
    (∀ q, st ∈ specStates a (some q) ign ↔
      ∃ c ∈ (a.prog q).contents, ∃ r ∈ (a.cont c).objects, ∃ path, Chain a.subs r path ∧
        notIgnored ign path = true ∧ st = ⟨some q, some c, some path⟩) ∧
    (st ∈ specStates a none ign ↔
      ∃ r, (r < a.objects.length ∧ ∀ o ∈ a.objects, r ∉ o.subObjects) ∧ ∃ path, Chain a.subs r path ∧
        notIgnored ign path = true ∧ st = ⟨none, none, some path⟩) := by
  have hac := acyclic_of_validate hrange hv
  refine ⟨fun q => mem_specStates_iff hac hrange hne q ign st, ?_⟩
  rw [mem_specStates_none_iff hac hne]
  constructor
  · rintro ⟨r, hr, rest⟩; exact ⟨r, (mem_rootObjects a r).1 hr, rest⟩
  · rintro ⟨r, hr, rest⟩; exact ⟨r, (mem_rootObjects a r).2 hr, rest⟩

/-- `min(.., key=id)` continued from a best candidate `(bi, bk)`: the result has the lowest key among the candidate
and the remaining programmes, and is the candidate or sits at a position of the remaining list. -/
theorem minByIdGo_some : ∀ (ps : List Programme) (i bi bk : Nat),
    ∃ ri rk, minByIdGo ps i (some (bi, bk)) = some (ri, rk) ∧ rk ≤ bk ∧ (∀ p ∈ ps, rk ≤ p.idKey) ∧
      ((ri, rk) = (bi, bk) ∨ ∃ j, j < ps.length ∧ ri = i + j ∧ (ps[j]?).map (·.idKey) = some rk)
  | [], _, bi, bk => ⟨bi, bk, rfl, Nat.le_refl _, fun _ h => (by cases h), Or.inl rfl⟩
  | p :: rest, i, bi, bk => by
    have shift : ∀ {ri rk : Nat}, (∃ j, j < rest.length ∧ ri = i + 1 + j ∧ (rest[j]?).map (·.idKey) = some rk) →
        ∃ j, j < (p :: rest).length ∧ ri = i + j ∧ ((p :: rest)[j]?).map (·.idKey) = some rk :=
      fun ⟨j, hj, hri, hk⟩ => ⟨j + 1, by simpa using hj, by omega, by simpa using hk⟩
    by_cases hlt : p.idKey < bk
    · obtain ⟨ri, rk, h, hle, hall, hpos⟩ := minByIdGo_some rest (i + 1) i p.idKey
      refine ⟨ri, rk, by simp only [minByIdGo, if_pos hlt]; exact h, by omega, ?_, Or.inr ?_⟩
      · intro q hq
        rcases List.mem_cons.1 hq with rfl | hq
        · exact hle
        · exact hall q hq
      · rcases hpos with heq | hj
        · cases heq; exact ⟨0, by simp, rfl, rfl⟩
        · exact shift hj
    · obtain ⟨ri, rk, h, hle, hall, hpos⟩ := minByIdGo_some rest (i + 1) bi bk
      refine ⟨ri, rk, by simp only [minByIdGo, if_neg hlt]; exact h, hle, ?_, hpos.imp id shift⟩
      intro q hq
      rcases List.mem_cons.1 hq with rfl | hq
      · omega
      · exact hall q hq

/-- without a given programme, the chosen programme exists and
no programme has a lower id. -/
theorem select_programme_lowest_id {a : Adm} {i : Nat} (h : selectProgramme a none = some i) :
    i < a.programmes.length ∧ ∀ p ∈ a.programmes, (a.prog i).idKey ≤ p.idKey := by
  rw [selectProgramme_none] at h
  unfold minById at h
  unfold Adm.prog
  cases hps : a.programmes with
  | nil => rw [hps] at h; cases h
  | cons p rest =>
    obtain ⟨ri, rk, hm, _, hall, hpos⟩ := minByIdGo_some rest 1 0 p.idKey
    have hm' : minByIdGo (p :: rest) 0 none = some (ri, rk) := hm
    rw [hps, hm'] at h
    cases h
    rcases hpos with heq | ⟨j, hj, rfl, hk⟩
    · cases heq
      exact ⟨by simp, fun q hq => by
        rcases List.mem_cons.1 hq with rfl | hq
        · exact Nat.le_refl _
        · exact hall q hq⟩
    · have e : (p :: rest).getD (1 + j) default = rest[j] := by
        simp [List.getD_eq_getElem?_getD, Nat.add_comm 1 j, List.getElem?_eq_getElem hj]
      have hkj : rest[j].idKey = rk := by simpa [List.getElem?_eq_getElem hj] using hk
      rw [e, hkj]
      refine ⟨by simp only [List.length_cons]; omega, fun q hq => ?_⟩
      rcases List.mem_cons.1 hq with rfl | hq
      · have := hall _ (List.getElem_mem hj)
        omega
      · exact hall q hq

/-- with distinct ids, re-declaring the audioProgrammes in
another order selects the same programme (the one with the lowest id, not the first declared). -/
theorem select_programme_order_independent {a a' : Adm} (hp : a'.programmes.Perm a.programmes)
    (hnd : (a.programmes.map (·.idKey)).Nodup) {i i' : Nat}
    (h : selectProgramme a none = some i) (h' : selectProgramme a' none = some i') :
    a'.prog i' = a.prog i := by
  obtain ⟨hi, hmin⟩ := select_programme_lowest_id h
  obtain ⟨hi', hmin'⟩ := select_programme_lowest_id h'
  have m1 : a.prog i ∈ a.programmes := getD_mem_of_lt hi _
  have m2 : a'.prog i' ∈ a.programmes := hp.mem_iff.1 (getD_mem_of_lt hi' _)
  have k1 := hmin _ m2
  have k2 := hmin' _ (hp.mem_iff.2 m1)
  exact eq_of_nodup_map hnd m2 m1 (by omega)

theorem specStates_some_path {a : Adm} (hne : ¬ (a.programmes = [] ∧ a.objects = [])) {prog : Option Nat}
    {ign : List Nat} {st : State} (h : st ∈ specStates a prog ign) : ∃ p, st.objPath = some p := by
  rcases mem_specStates.1 h with ⟨he, _⟩ | ⟨_, _, _, q, _, rfl⟩
  · exact absurd he hne
  · exact ⟨q, rfl⟩

/-! ## re-ordered complementary-object lists: the same objects are ignored

(`Adm.strip`, `CompPerm` and `CompPerm.selectComplementary` stand here, not with their siblings in `C06Congr` /
`C06PermRefs`: the `match` in the statement of `CompPerm.selectComplementary` is the auxiliary matcher of `specSelect`
(`specSelect.match_3`), shared within a module only.  Moved, nothing fails to compile; the same text is then a statement
over another matcher constant, the same in meaning and a different term.) -/

/-- the document with every child reference list of the content part emptied: what the
per-state item functions can see besides the state itself. -/
def Adm.strip (a : Adm) : Adm :=
  { programmes := a.programmes.map fun p => { p with contents := [] },
    contents := a.contents.map fun c => { c with objects := [] },
    objects := a.objects.map fun o => { o with subObjects := [], complementary := [] },
    fmt := a.fmt }

theorem nobj_of_strip_eq {a a' : Adm} (h : a'.strip = a.strip) : a'.objects.length = a.objects.length := by
  have := congrArg (fun x => x.objects.length) h
  simpa [Adm.strip] using this

/-- `a'` is `a` with the `audioComplementaryObjectIDRef` lists of its audioObjects re-ordered; everything else,
including the other child reference lists, unchanged. -/
structure CompPerm (a a' : Adm) : Prop where
  strip : a'.strip = a.strip
  contents : ∀ p, (a'.prog p).contents = (a.prog p).contents
  objects : ∀ c, (a'.cont c).objects = (a.cont c).objects
  subs : ∀ o, a'.subs o = a.subs o
  comps : ∀ o, ((a'.obj o).complementary).Perm ((a.obj o).complementary)

/-- the complementary selection of the re-ordered document fails with the same error, or ignores the same SET of
objects: `_select_complementary_objects` looks at a group only through membership tests and a count. -/
theorem CompPerm.selectComplementary {a a' : Adm} (h : CompPerm a a') (sel : List Nat) :
    match selectComplementary a sel with
    | .error e => selectComplementary a' sel = .error e
    | .ok ign => ∃ ign', selectComplementary a' sel = .ok ign' ∧ ∀ x, x ∈ ign' ↔ x ∈ ign := by
  have hroots : compRoots a' = compRoots a := by
    unfold compRoots
    rw [nobj_of_strip_eq h.strip]
    apply List.filter_congr
    intro i _
    have := h.comps i
    by_cases hc : (a.obj i).complementary = []
    · rw [hc] at this; simp [hc, this.eq_nil]
    · have hc' : (a'.obj i).complementary ≠ [] := fun e => hc (by rw [e] at this; exact this.symm.eq_nil)
      simp [hc, hc']
  have hgroup : ∀ r, (compGroup a' r).Perm (compGroup a r) := fun r => (h.comps r).cons r
  have hall : ∀ s, ((compRoots a).flatMap (compGroup a')).contains s = ((compRoots a).flatMap (compGroup a)).contains s := by
    intro s
    rw [Bool.eq_iff_iff]
    simp only [List.contains_iff_mem]
    exact (perm_flatMap_congr (.refl _) fun r _ => hgroup r).mem_iff
  have hsel : compAllSelected a' sel = compAllSelected a sel := by
    unfold compAllSelected
    rw [hroots]
    congr 1
    apply List.filter_congr
    intro r _
    rw [(hgroup r).any_eq]
  have hlen : ∀ r (q : Nat → Bool), ((compGroup a' r).filter q).length = ((compGroup a r).filter q).length :=
    fun r q => ((hgroup r).filter q).length_eq
  unfold Earverif.Adm.selectComplementary
  simp only [hroots, hsel, hall, hlen]
  by_cases h1 : (sel.any fun s => !((compRoots a).flatMap (compGroup a)).contains s) = true
  · simp only [h1, if_true]
  · by_cases h2 : ((compRoots a).any fun r =>
        decide (((compGroup a r).filter fun x => (compAllSelected a sel).contains x).length > 1)) = true
    · simp only [h1, h2, if_true, if_false, Bool.false_eq_true]
    · simp only [h1, h2, if_false, Bool.false_eq_true]
      refine ⟨_, rfl, fun x => ?_⟩
      exact (perm_flatMap_congr (.refl _) fun r _ => (hgroup r).filter _).mem_iff

end Earverif.Adm
