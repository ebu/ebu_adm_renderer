/-
C15 — the document-level repair (`Model/TimingFixDoc.lean`) acts on every audioChannelFormat as the
per-channel model (`Model/TimingFix.lean`) with `objs` = the audioObjects whose channel allocation
contains the channel (`objsFor`).  `docFix_run` says what it does in every case (`ChanRun`: it succeeds, leaves
every channel as that channel's own repair does and warns about it exactly what its own repair warns (`warnsOf`); or
the allocator raises; or it raises the error of some channel's own repair).  `docFix_channel`, `docFix_ok` and
`docFix_stable` (a table that needs no repair is returned as it is, without warnings) are read off it.  Core Lean only.
-/
import Earverif.Model.TimingFixDoc
import Earverif.Proofs.C15
import Earverif.Proofs.ListLemmas

namespace Earverif.TimingFix

theorem Table.get_set_ne (t : Table) (c c' : Nat) (x : List Block) (h : c' ≠ c) :
    Table.get (t.set c' x) c = Table.get t c :=
  (getD_set t c' c x []).trans (if_neg fun h' => h h'.1.symm)

theorem Table.get_of_le (t : Table) (c : Nat) (h : t.length ≤ c) : Table.get t c = [] := getD_ge [] h

/-- after clamping channel `c` and storing the result, reading channel `c` gives the result (also
for an index outside the document: there are no blocks then) -/
theorem Table.get_set_clamp (t : Table) (c : Nat) (D : Rat) (r : List Block × List Warn)
    (h : clampBlocks 0 D (Table.get t c) = .ok r) : Table.get (t.set c r.1) c = r.1 := by
  by_cases hc : c < t.length
  · exact (getD_set t c c r.1 []).trans (if_pos ⟨rfl, hc⟩)
  · have h0 := Table.get_of_le t c (by omega)
    rw [h0] at h
    cases h
    rw [List.set_eq_of_length_le (by omega)]
    exact h0

theorem Table.get_map (g : List Block → List Block) (hg : g [] = []) (t : Table) (c : Nat) :
    Table.get (t.map g) c = g (Table.get t c) := getD_map_of_eq g t c hg

theorem checkTimesForObjects_skip (a b : List Obj) (bs : List Block) (h : ∀ o ∈ a, o.duration = none) :
    checkTimesForObjects (a ++ b) bs = checkTimesForObjects b bs := by
  rw [checkTimesForObjects_eq, checkTimesForObjects_eq, durations, List.filterMap_append,
    List.filterMap_eq_nil_iff.2 h]
  rfl

theorem checkTimesForObjects_nil (objs : List Obj) : checkTimesForObjects objs [] = .ok ([], []) := by
  rw [checkTimesForObjects_eq]
  exact clampAll_stable _ [] (List.forall_mem_nil _) fun _ _ => ⟨List.forall_mem_nil _, List.forall_mem_nil _⟩

theorem checkTimesForObjects_objsFor_cons_none {o : Obj} (ho : o.duration = none) (chs : Option (List Nat))
    (rest : List (Obj × Option (List Nat))) (c : Nat) (bs : List Block) :
    checkTimesForObjects (objsFor ((o, chs) :: rest) c) bs = checkTimesForObjects (objsFor rest c) bs := by
  cases chs with
  | none => rfl
  | some cs =>
    exact checkTimesForObjects_skip _ _ _ fun o' ho' => by obtain ⟨_, _, rfl⟩ := List.mem_map.1 ho'; exact ho

theorem objsFor_cons_cons_self (o : Obj) (c : Nat) (cs : List Nat) (rest : List (Obj × Option (List Nat))) :
    objsFor ((o, some (c :: cs)) :: rest) c = o :: objsFor ((o, some cs) :: rest) c := by
  simp [objsFor]

theorem objsFor_cons_cons_ne (o : Obj) (c c' : Nat) (cs : List Nat) (rest : List (Obj × Option (List Nat)))
    (h : c' ≠ c) : objsFor ((o, some (c' :: cs)) :: rest) c = objsFor ((o, some cs) :: rest) c := by
  simp [objsFor, h]

def warnsOf (c : Nat) (ws : List DWarn) : List Warn := (ws.filter (·.chan == c)).map (·.warn)

theorem warnsOf_append (c : Nat) (a b : List DWarn) : warnsOf c (a ++ b) = warnsOf c a ++ warnsOf c b := by
  simp only [warnsOf, List.filter_append, List.map_append]

theorem warnsOf_map_self (c : Nat) (ws : List Warn) : warnsOf c (ws.map (⟨c, ·⟩)) = ws := by
  simp [warnsOf, List.filter_map, Function.comp_def]

theorem warnsOf_map_ne {c c' : Nat} (h : c' ≠ c) (ws : List Warn) : warnsOf c (ws.map (⟨c', ·⟩)) = [] := by
  simp [warnsOf, List.filter_map, Function.comp_def, h]

theorem mem_warnsOf {w : DWarn} {ws : List DWarn} (h : w ∈ ws) : w.warn ∈ warnsOf w.chan ws :=
  List.mem_map.2 ⟨w, List.mem_filter.2 ⟨h, beq_self_eq_true _⟩, rfl⟩

theorem warnsOf_docPass (f : List Block → List Block × List Warn) (hf : (f []).2 = []) (c : Nat) :
    ∀ (t : Table) (c0 : Nat), warnsOf (c0 + c) (docPass f c0 t).2 = (f (Table.get t c)).2 ∧
      ∀ c1, c1 < c0 → warnsOf c1 (docPass f c0 t).2 = []
  | [], _ => ⟨by rw [Table.get_of_le [] c (Nat.zero_le _), hf]; rfl, fun _ _ => rfl⟩
  | bs :: rest, c0 => by
    simp only [docPass, warnsOf_append]
    refine ⟨?_, fun c1 h1 => ?_⟩
    · cases c with
      | zero =>
        rw [Nat.add_zero, warnsOf_map_self, ((warnsOf_docPass f hf 0 rest (c0 + 1)).2 c0 (Nat.lt_succ_self _)),
          List.append_nil]
        rfl
      | succ c =>
        rw [warnsOf_map_ne (by omega), List.nil_append, ← Nat.add_assoc, Nat.add_right_comm]
        exact (warnsOf_docPass f hf c rest (c0 + 1)).1
    · rw [warnsOf_map_ne (by omega), (warnsOf_docPass f hf 0 rest (c0 + 1)).2 c1 (by omega)]
      rfl

/-- warnings `w` in front of an outcome (of the document: `ω = DWarn`; of one channel's own run: `ω = Warn`) -/
def prependW {ε α ω : Type} (w : List ω) : Except ε (α × List ω) → Except ε (α × List ω)
  | .error e => .error e
  | .ok r => .ok (r.1, w ++ r.2)

theorem prependW_nil {ε α ω : Type} (x : Except ε (α × List ω)) : prependW [] x = x := by
  cases x <;> rfl

/-- one clamp of channel `c'` against `o`, seen from channel `c`: it is the first step of `c'`'s own run (with its
warnings) and invisible to every other channel -/
theorem clampStep_chan {o : Obj} {D : Rat} (ho : o.duration = some D) {t : Table} {c' : Nat}
    {r1 : List Block × List Warn} (h1 : clampBlocks 0 D (Table.get t c') = .ok r1)
    (cs : List Nat) (rest : List (Obj × Option (List Nat))) (c : Nat) :
    checkTimesForObjects (objsFor ((o, some (c' :: cs)) :: rest) c) (Table.get t c) =
      prependW (warnsOf c (r1.2.map (⟨c', ·⟩)))
        (checkTimesForObjects (objsFor ((o, some cs) :: rest) c) (Table.get (t.set c' r1.1) c)) := by
  by_cases hc : c' = c
  · subst hc
    rw [objsFor_cons_cons_self, Table.get_set_clamp t c' D r1 h1, warnsOf_map_self]
    simp only [checkTimesForObjects, ho, h1]
    cases checkTimesForObjects _ r1.1 <;> rfl
  · rw [objsFor_cons_cons_ne _ _ _ _ _ hc, Table.get_set_ne t c c' r1.1 hc, warnsOf_map_ne hc, prependW_nil]

/-- one step of the traversal: the first channel of the first audioObject's list is clamped, the rest is the
traversal with that channel taken off the list -/
theorem docCheckTimes_peel {o : Obj} {D : Rat} (ho : o.duration = some D) {t : Table} {c' : Nat}
    {r1 : List Block × List Warn} (h1 : clampBlocks 0 D (Table.get t c') = .ok r1)
    (cs : List Nat) (rest : List (Obj × Option (List Nat))) :
    docCheckTimes ((o, some (c' :: cs)) :: rest) t =
      prependW (r1.2.map (⟨c', ·⟩)) (docCheckTimes ((o, some cs) :: rest) (t.set c' r1.1)) := by
  simp only [docCheckTimes, ho, clampChannels, h1]
  cases clampChannels D cs (t.set c' r1.1) with
  | error e => rfl
  | ok r2 =>
    simp only [prependW]
    cases docCheckTimes rest r2.1 with
    | error e => rfl
    | ok r3 => simp only [List.append_assoc]

theorem docPass_fst (f : List Block → List Block × List Warn) : ∀ (t : Table) (c : Nat),
    (docPass f c t).1 = t.map fun bs => (f bs).1
  | [], _ => rfl
  | bs :: rest, c => by simp only [docPass, List.map_cons, docPass_fst f rest (c + 1)]

theorem fixTimings_nil (objs : List Obj) : fixTimings objs [] = .ok ([], []) := by
  simp only [fixTimings, checkDurations, checkILs, checkTimesForObjects_nil]; rfl

/-- `run c`: channel `c`'s own run; `n`: the length of the table; `matched`: the allocator answers for every
audioObject that has a duration (it can fail only otherwise) -/
inductive ChanRun (run : Nat → Except Err (List Block × List Warn)) (matched : Prop) (n : Nat) :
    Except DocErr (Table × List DWarn) → Prop
  | ok (r : Table × List DWarn) (hl : r.1.length = n) (hc : ∀ c, run c = .ok (Table.get r.1 c, warnsOf c r.2)) :
      ChanRun run matched n (.ok r)
  | formatRef (h : ¬ matched) : ChanRun run matched n (.error .formatRef)
  | block (e : Err) (c : Nat) (h : run c = .error e) : ChanRun run matched n (.error (.block e))

/-- the outcome with warnings `w` in front, seen from an earlier table / a longer object list, where each channel's
own run has its share of `w` in front -/
theorem ChanRun.step {run run' : Nat → Except Err (List Block × List Warn)} {m m' : Prop} {n n' : Nat}
    (w : List DWarn) {x : Except DocErr (Table × List DWarn)} (hrun : ∀ c, run c = prependW (warnsOf c w) (run' c))
    (hn : n' = n) (hm : m → m') : ChanRun run' m' n' x → ChanRun run m n (prependW w x)
  | .ok r hl hc => .ok _ (hl.trans hn) fun c => by rw [hrun c, hc c, warnsOf_append]; rfl
  | .formatRef h => .formatRef fun h' => h (hm h')
  | .block e c h => .block e c (by rw [hrun c, h]; rfl)

theorem docCheckTimes_run : ∀ (pairs : List (Obj × Option (List Nat))) (t : Table),
    ChanRun (fun c => checkTimesForObjects (objsFor pairs c) (Table.get t c))
      (∀ p ∈ pairs, p.1.duration.isSome = true → p.2.isSome = true) t.length (docCheckTimes pairs t)
  | [], t => .ok (t, []) rfl fun _ => rfl
  | (o, chs) :: rest, t => by
    cases hd : o.duration with
    | none =>
      have e : docCheckTimes ((o, chs) :: rest) t = prependW [] (docCheckTimes rest t) := by
        rw [prependW_nil]; simp only [docCheckTimes, hd]
      rw [e]
      exact (docCheckTimes_run rest t).step []
        (fun c => by rw [checkTimesForObjects_objsFor_cons_none hd]; exact (prependW_nil _).symm) rfl
        fun hm => (List.forall_mem_cons.1 hm).2
    | some D =>
      cases chs with
      | none =>
        have e : docCheckTimes ((o, none) :: rest) t = .error .formatRef := by simp only [docCheckTimes, hd]
        rw [e]
        exact .formatRef fun hm => by have := (List.forall_mem_cons.1 hm).1 (by rw [hd]; rfl); cases this
      | some cs =>
        induction cs generalizing t with
        | nil =>
          have e : docCheckTimes ((o, some []) :: rest) t = prependW [] (docCheckTimes rest t) := by
            simp only [docCheckTimes, hd, clampChannels]
            cases docCheckTimes rest t <;> rfl
          rw [e]
          exact (docCheckTimes_run rest t).step [] (fun _ => (prependW_nil _).symm) rfl
            fun hm => (List.forall_mem_cons.1 hm).2
        | cons c' cs ih =>
          cases h1 : clampBlocks 0 D (Table.get t c') with
          | error e =>
            have e' : docCheckTimes ((o, some (c' :: cs)) :: rest) t = .error (.block e) := by
              simp only [docCheckTimes, hd, clampChannels, h1]
            rw [e']
            exact .block e c' (by rw [objsFor_cons_cons_self]; simp only [checkTimesForObjects, hd, h1])
          | ok r1 =>
            rw [docCheckTimes_peel hd h1]
            exact (ih (t.set c' r1.1)).step _ (clampStep_chan hd h1 cs rest) List.length_set
              fun hm => List.forall_mem_cons.2 ⟨fun _ => rfl, (List.forall_mem_cons.1 hm).2⟩

theorem docFix_run (pairs : List (Obj × Option (List Nat))) (t : Table) :
    ChanRun (fun c => fixTimings (objsFor pairs c) (Table.get t c))
      (∀ p ∈ pairs, p.1.duration.isSome = true → p.2.isSome = true) t.length (docFix pairs t) := by
  have key := docCheckTimes_run pairs (docPass (checkILs 0) 0 (docPass (checkDurations 0) 0 t).1).1
  have e : docFix pairs t = prependW ((docPass (checkDurations 0) 0 t).2 ++
      (docPass (checkILs 0) 0 (docPass (checkDurations 0) 0 t).1).2)
      (docCheckTimes pairs (docPass (checkILs 0) 0 (docPass (checkDurations 0) 0 t).1).1) := by
    simp only [docFix]
    cases docCheckTimes pairs (docPass (checkILs 0) 0 (docPass (checkDurations 0) 0 t).1).1 <;> rfl
  rw [e]
  refine key.step _ (fun c => ?_) (by rw [docPass_fst, docPass_fst, List.length_map, List.length_map]) id
  have w1 := (warnsOf_docPass (checkDurations 0) rfl c t 0).1
  have w2 := (warnsOf_docPass (checkILs 0) rfl c (docPass (checkDurations 0) 0 t).1 0).1
  rw [Nat.zero_add] at w1 w2
  rw [warnsOf_append, w1, w2, docPass_fst, docPass_fst, Table.get_map _ rfl, Table.get_map _ rfl, Table.get_map _ rfl]
  simp only [fixTimings]
  cases checkTimesForObjects (objsFor pairs c) (checkILs 0 (checkDurations 0 (Table.get t c)).1).1 <;> rfl

theorem docFix_length (pairs : List (Obj × Option (List Nat))) (t : Table) (r : Table × List DWarn)
    (h : docFix pairs t = .ok r) : r.1.length = t.length := by
  have := docFix_run pairs t
  rw [h] at this
  cases this with
  | ok _ hl _ => exact hl

/-- A successful document-level repair leaves every audioChannelFormat `c` as
the per-channel model `fixTimings` leaves it, with `objs` = the audioObjects whose allocation
contains `c` (in document order). -/
theorem docFix_channel (pairs : List (Obj × Option (List Nat))) (t : Table) (r : Table × List DWarn)
    (h : docFix pairs t = .ok r) (c : Nat) :
    ∃ ws, fixTimings (objsFor pairs c) (Table.get t c) = .ok (Table.get r.1 c, ws) := by
  have := docFix_run pairs t
  rw [h] at this
  cases this with
  | ok _ _ hc => exact ⟨_, hc c⟩

/-- the document-level repair succeeds when the allocator does for every audioObject with a
duration and the per-channel repair does on every channel of the document -/
theorem docFix_ok (pairs : List (Obj × Option (List Nat))) (t : Table)
    (hm : ∀ p ∈ pairs, p.1.duration.isSome = true → p.2.isSome = true)
    (h : ∀ c, c < t.length → ∃ r, fixTimings (objsFor pairs c) (Table.get t c) = .ok r) :
    ∃ r, docFix pairs t = .ok r := by
  cases hx : docFix pairs t with
  | ok r => exact ⟨r, rfl⟩
  | error err =>
    have := docFix_run pairs t
    rw [hx] at this
    cases this with
    | formatRef hp => exact absurd hm hp
    | block e c hc =>
      by_cases hlt : c < t.length
      · obtain ⟨r, hr⟩ := h c hlt
        rw [hr] at hc; cases hc
      · rw [Table.get_of_le t c (by omega), fixTimings_nil] at hc
        cases hc

theorem docFix_stable (pairs : List (Obj × Option (List Nat))) (t : Table)
    (hm : ∀ p ∈ pairs, p.1.duration.isSome = true → p.2.isSome = true)
    (h : ∀ c, c < t.length → Stable (objsFor pairs c) (Table.get t c)) :
    docFix pairs t = .ok (t, []) := by
  -- every channel's own repair returns it unchanged and silent, also outside the document
  have hs : ∀ c, fixTimings (objsFor pairs c) (Table.get t c) = .ok (Table.get t c, []) := fun c => by
    by_cases hlt : c < t.length
    · exact stable_fix _ _ (h c hlt)
    · rw [Table.get_of_le t c (by omega)]; exact fixTimings_nil _
  have := docFix_run pairs t
  cases hx : docFix pairs t with
  | error err =>
    rw [hx] at this
    cases this with
    | formatRef hp => exact absurd hm hp
    | block e c hc => rw [hs c] at hc; cases hc
  | ok r =>
    rw [hx] at this
    cases this with
    | ok _ hl hc =>
      obtain ⟨t', ws⟩ := r
      have ht : t' = t := ext_getD [] hl fun c =>
        (Prod.mk.inj (Except.ok.inj ((hs c).symm.trans (hc c)))).1.symm
      have hw : ws = [] := List.eq_nil_iff_forall_not_mem.2 fun w hw => by
        have hmem := mem_warnsOf hw
        rw [← (Prod.mk.inj (Except.ok.inj ((hs w.chan).symm.trans (hc w.chan)))).2] at hmem
        cases hmem
      rw [ht, hw]

end Earverif.TimingFix
