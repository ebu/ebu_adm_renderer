/- C13: the polar `pan` of the real `GainCalc.render` is `extent_pan(position, 0, 0, 0)` = `PolarExtentHandler.handle`
   with zero extent (`GainCalc.polarPointPan`), not the bare point-source panner.  At a locked loudspeaker the position
   handed to it is `layout.norm_positions[k]`, whose binary64 coordinates are NOT exactly of unit length (squared norm
   `1 ± 1e-16`).  Over ℝ, below distance 1 `extent_mod(0, d)` is positive, `ammount_spread` is tiny but non-zero, and
   `calc_pv_spread` returns `sqrt(1 − ammount_spread) · e_k` — still exactly one loudspeaker, scaled by `s ∈ [√(1−1e-10), 1]`.

   The value of `extent_mod(0, d)` just below distance 1 is `extentMod_zero_le` of `Proofs/C01Far.lean` (at most `180 (1 − d)`).

   * `extentMod_zero_near` / `inPointClass_of_near`: distance ≥ 1 − 1e-12 is in the point-only class (`ammount_spread ≤ 1e-10`)
   * `polarPointPan_at_unit`: where the point-source panner answers `e_k`, `polarPointPan` answers `s · e_k`
   * `renderPolar_scale`: the polar tail is homogeneous: a panner answer scaled by `s ≥ 0` = the gain scaled by `s`

   The first two items (and `InPointClass.spread`) stand in `namespace Earverif.GainCalc`: they speak of C01's model of `PolarExtentHandler`, in the
   vocabulary of `Proofs/C01Far.lean` (`InPointClass`, the point-only class of positions) and `Proofs/C01Pipe.lean`
   (`amountSpread_of_le`, `polarExtents_zero_depth`). -/
import Earverif.Proofs.C01Far
import Earverif.Proofs.C01Psp
import Earverif.Proofs.C13PolarLock

namespace Earverif.GainCalc

theorem extentMod_zero_near (d : ℝ) (h0 : 1 - 1 / 1000000000000 ≤ d) (h1 : d ≤ 1) :
    0 ≤ extentMod (zero : ℝ) d ∧ extentMod (zero : ℝ) d ≤ 1 / 1000000000 := by
  obtain ⟨hlo, hhi⟩ := extentMod_zero_le d (le_trans (by norm_num) h0) h1
  exact ⟨hlo, by linarith only [hhi, h0]⟩

theorem inPointClass_of_near (pos : V3 ℝ) (h : 1 - 1 / 1000000000000 ≤ norm3 pos) : InPointClass pos := by
  by_cases hfar : 1 ≤ norm3 pos
  · exact inPointClass_of_far pos hfar
  · obtain ⟨hW0, hW1⟩ := extentMod_zero_near (norm3 pos) h (le_of_lt (not_le.mp hfar))
    refine ⟨_, _, polarExtents_zero_depth _ _ _, ?_⟩
    generalize extentMod (zero : ℝ) (norm3 pos) = W at hW0 hW1
    have hm : maxS W W = W := by simp only [maxS, lt_irrefl, if_false]
    rw [amountSpread_of_le (by rw [hm]; exact hW0) (by rw [hm]; linarith only [hW1]), hm, k_tiny]
    linarith only [hW1]

theorem InPointClass.spread {pos : V3 ℝ} (h : InPointClass pos) :
    ∃ w hh, polarExtents (norm3 pos) (zero : ℝ) zero zero = [(w, hh)] ∧ 0 ≤ amountSpread w hh ∧
      amountSpread w hh ≤ 1 / 10000000000 := by
  obtain ⟨w, hh, he, hs⟩ := h
  refine ⟨w, hh, he, (amountSpread_range w hh).1, ?_⟩
  exact not_lt.mp (k_tiny ▸ hs)

theorem polarPointPan_at_unit (E : LayoutEnv ℝ) (L : PointSource.RawLayout) (pos : V3 ℝ) (n i : Nat) (hn : E.n = n)
    (hc : InPointClass pos) (hp : pspHandle L pos = some (Earverif.C13.unitR n i)) :
    ∃ s : ℝ, 0 ≤ s ∧ s ≤ 1 ∧ 1 - 1 / 10000000000 ≤ s * s ∧ (1 ≤ norm3 pos → s = 1) ∧
      polarPointPan E L pos = some ((Earverif.C13.unitR n i).map (· * s)) := by
  obtain ⟨w, hh, he, ha0, ha1⟩ := hc.spread
  have hs : ¬ (k (1 / 10000000000) : ℝ) < amountSpread w hh := by
    rw [k_tiny]; exact not_lt.mpr ha1
  have hpt : (k (1 / 10000000000) : ℝ) < one - amountSpread w hh := by
    rw [k_tiny, one_real]; linarith only [ha1]
  refine ⟨Real.sqrt (1 - amountSpread w hh), Real.sqrt_nonneg _, ?_, ?_, ?_, ?_⟩
  · exact Real.sqrt_le_one.mpr (sub_le_self 1 ha0)
  · rw [Real.mul_self_sqrt (by linarith only [ha1])]; linarith only [ha1]
  · intro hfar
    rw [polarExtents_zero_depth, extentMod_zero_far _ hfar] at he
    cases he
    rw [amountSpread_zero]; simp
  · simp only [polarPointPan, he]
    rw [if_neg hs, hp]
    simp only [Option.map_some, polarHandle, he, List.map_cons, List.map_nil, polarCombine, calcPvSpread, hpt, hs,
      if_true, if_false, Option.some.injEq, hn]
    -- left: `vsqrt (vadd zeros ((1 − a) · e_i²)) = √(1 − a) · e_i`, entry by entry on the entries 0 and 1 of `e_i`
    apply List.ext_getElem
    · simp [vsqrt, vadd, zeros]
    · intro j h1 h2
      have hj : j < n := by simpa using h2
      simp only [vsqrt, vadd, zeros, List.getElem_map, List.getElem_zipWith, List.getElem_replicate, zero_real,
        one_real, sqrt_real, zero_add]
      rcases Earverif.C13.unitR_mem n i _ (List.getElem_mem (l := Earverif.C13.unitR n i) (by simpa using hj)) with h | h
      · rw [h]; simp
      · rw [h]; simp

end Earverif.GainCalc

namespace Earverif.C13
open Earverif.Zone Earverif.Zone.Scalar Earverif.Zone.ScalarSqrt Earverif.Lock Earverif.CartLock

theorem zipWith_scale_sum {β : Type} (f : β → ℝ) (c : ℝ) : ∀ (u : List ℝ) (D : List β),
    (List.zipWith (fun a row => a * f row) (u.map (· * c)) D).sum =
      c * (List.zipWith (fun a row => a * f row) u D).sum := by
  intro u
  induction u with
  | nil => intro D; simp
  | cons a u ih =>
    intro D
    cases D with
    | nil => simp
    | cons r D =>
      simp only [List.map_cons, List.zipWith_cons_cons, List.sum_cons, ih D]
      ring

theorem applyDownmix_scale (n : Nat) (g : List ℝ) (s : ℝ) (hs : 0 ≤ s) (D : List (List ℝ)) :
    applyDownmix n (g.map (· * s)) D = (applyDownmix n g D).map (· * s) := by
  unfold applyDownmix
  simp only [List.map_map]
  apply List.map_congr_left
  intro j _
  have hg2 : (List.map ((fun g => Scalar.mul g g) ∘ fun x => x * s) g : List ℝ) =
      (g.map fun g => Scalar.mul g g).map (· * (s * s)) := by
    simp only [List.map_map]
    apply List.map_congr_left
    intro x _
    simp only [Function.comp, real_mul]; ring
  simp only [Function.comp, real_sqrt, dotCol, sumList_real, real_mul, real_zero] at hg2 ⊢
  rw [hg2, zipWith_scale_sum (fun row : List ℝ => row.getD j 0) (s * s), Real.sqrt_mul (mul_self_nonneg s),
    Real.sqrt_mul_self hs, mul_comm]

theorem renderPolar_scale (n : Nat) (gs : List (List (List Nat))) (mask : List Bool) (g : List ℝ) (s gain diffuse : ℝ)
    (hs : 0 ≤ s) (hl : g.length = n) (h0 : ∀ v ∈ g, 0 ≤ v) :
    renderPolar n gs mask [g.map (· * s)] [(Scalar.one : ℝ)] gain diffuse =
      renderPolar n gs mask [g] [(Scalar.one : ℝ)] (s * gain) diffuse := by
  unfold renderPolar zoneHandle
  rw [powerSum_single n g hl h0, powerSum_single n (g.map (· * s)) (by simpa using hl)
    (fun v hv => by
      obtain ⟨x, hx, rfl⟩ := List.mem_map.mp hv
      exact mul_nonneg (h0 x hx) hs)]
  cases (downmixForExcluded n gs mask : Option (List (List ℝ))) with
  | none => rfl
  | some D =>
    simp only [Option.bind_some, applyDownmix_scale n g s hs D, finishGains_real, List.map_map, Option.some.injEq,
      Prod.mk.injEq]
    constructor <;> (apply List.map_congr_left; intro x _; simp only [Function.comp]; ring)

end Earverif.C13
