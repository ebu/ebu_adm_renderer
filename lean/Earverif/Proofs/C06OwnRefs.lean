/-
C06: re-ordering an audioObject's own audioPackFormat / audioTrackUID reference lists (`OwnRefsPerm`,
`ownRefsPerm_itemsOfState`).  The tools before `OwnRefsPerm` and `accepted_transfer` are shared with
`Proofs/C06RenFormats.lean`: a permutation as a pair of inverse index maps (`perm_index_maps`), allocations with their
parts mapped (`mapAllocated`, `valid_map`), acceptance carried along maps that have an inverse.
-/
import Earverif.Proofs.C06Decl
import Earverif.Proofs.C06Congr

namespace Earverif.Adm

/-- a permutation of a list is a bijective re-indexing: position `i` of `l` is position `g i` of `l'`, and `k` is
the inverse re-indexing (both are needed: allocations are carried over with `g` and back with `k`, and the round
trip must be the identity, `accepted_transfer`). -/
theorem perm_index_maps {α : Type} {l l' : List α} (h : l.Perm l') :
    ∃ g k : Nat → Nat,
      ((List.range l.length).map g).Perm (List.range l'.length) ∧
      ((List.range l'.length).map k).Perm (List.range l.length) ∧
      (∀ i, i < l.length → l'[g i]? = l[i]?) ∧ (∀ j, j < l'.length → l[k j]? = l'[j]?) ∧
      (∀ i, i < l.length → k (g i) = i) ∧ (∀ j, j < l'.length → g (k j) = j) := by
  induction h with
  | nil => exact ⟨id, id, by simp, by simp, fun i hi => by simp at hi, fun i hi => by simp at hi,
      fun _ _ => rfl, fun _ _ => rfl⟩
  | @cons x l l' _ ih =>
    obtain ⟨g, k, hg, hk, hgi, hki, hkg, hgk⟩ := ih
    have shift : ∀ (u : Nat → Nat) (n m : Nat), ((List.range n).map u).Perm (List.range m) →
        ((List.range (n + 1)).map (fun i => match i with | 0 => 0 | i + 1 => u i + 1)).Perm (List.range (m + 1)) := by
      intro u n m hu
      simp only [List.range_succ_eq_map, List.map_cons, List.map_map]
      refine List.Perm.cons _ ?_
      have : ((fun i => match i with | 0 => 0 | i + 1 => u i + 1) ∘ Nat.succ) = Nat.succ ∘ u := by
        funext i; rfl
      rw [this, ← List.map_map]
      exact hu.map _
    refine ⟨fun i => match i with | 0 => 0 | i + 1 => g i + 1, fun i => match i with | 0 => 0 | i + 1 => k i + 1,
      shift g _ _ hg, shift k _ _ hk, ?_, ?_, ?_, ?_⟩
    · intro i hlt
      cases i with
      | zero => rfl
      | succ j => simp only [List.getElem?_cons_succ]; exact hgi j (by simpa using hlt)
    · intro i hlt
      cases i with
      | zero => rfl
      | succ j => simp only [List.getElem?_cons_succ]; exact hki j (by simpa using hlt)
    · intro i hlt
      cases i with
      | zero => rfl
      | succ j => simp only; rw [hkg j (by simpa using hlt)]
    · intro i hlt
      cases i with
      | zero => rfl
      | succ j => simp only; rw [hgk j (by simpa using hlt)]
  | swap x y l =>
    have sw : ((List.range (l.length + 1 + 1)).map (fun i => match i with | 0 => 1 | 1 => 0 | i + 2 => i + 2)).Perm
        (List.range (l.length + 1 + 1)) := by
      simp only [List.range_succ_eq_map, List.map_cons, List.map_map]
      refine (List.Perm.swap _ _ _).trans ?_
      refine List.Perm.cons _ (List.Perm.cons _ ?_)
      exact List.Perm.of_eq (List.map_congr_left fun i _ => rfl)
    refine ⟨fun i => match i with | 0 => 1 | 1 => 0 | i + 2 => i + 2,
      fun i => match i with | 0 => 1 | 1 => 0 | i + 2 => i + 2, sw, sw, ?_, ?_, ?_, ?_⟩
    all_goals
      intro i hlt
      match i with
      | 0 => rfl
      | 1 => rfl
      | j + 2 => rfl
  | @trans l₁ l₂ l₃ _ _ ih₁ ih₂ =>
    obtain ⟨g₁, k₁, hg₁, hk₁, hgi₁, hki₁, hkg₁, hgk₁⟩ := ih₁
    obtain ⟨g₂, k₂, hg₂, hk₂, hgi₂, hki₂, hkg₂, hgk₂⟩ := ih₂
    have m1 : ∀ i, i < l₁.length → g₁ i < l₂.length := fun i => perm_lt hg₁
    have m2 : ∀ j, j < l₃.length → k₂ j < l₂.length := fun j => perm_lt hk₂
    refine ⟨g₂ ∘ g₁, k₁ ∘ k₂, ?_, ?_, ?_, ?_, ?_, ?_⟩
    · rw [← List.map_map]; exact (hg₁.map g₂).trans hg₂
    · rw [← List.map_map]; exact (hk₂.map k₁).trans hk₁
    · intro i hlt
      simp only [Function.comp]
      rw [hgi₂ _ (m1 i hlt), hgi₁ i hlt]
    · intro j hlt
      simp only [Function.comp]
      rw [hki₁ _ (m2 j hlt), hki₂ j hlt]
    · intro i hlt
      simp only [Function.comp]
      rw [hkg₂ _ (m1 i hlt), hkg₁ i hlt]
    · intro j hlt
      simp only [Function.comp]
      rw [hgk₁ _ (m2 j hlt), hgk₂ j hlt]

theorem perm_index_map {α : Type} {l l' : List α} (h : l.Perm l') :
    ∃ g : Nat → Nat, ((List.range l.length).map g).Perm (List.range l'.length) ∧
      ∀ i, i < l.length → l'[g i]? = l[i]? := by
  obtain ⟨g, _, hg, _, hgi, _⟩ := perm_index_maps h
  exact ⟨g, hg, hgi⟩

/-- an `AllocationTrackUID` moved to another position of the selected-track list. -/
def reTrack (g : Nat → Nat) (t : PackAlloc.Track) : PackAlloc.Track := { t with id := g t.id }

def reSlot (g : Nat → Nat) (s : PackAlloc.Slot) : PackAlloc.Slot := s.map (Option.map (reTrack g))

def reAllocated (g : Nat → Nat) (al : PackAlloc.Allocated) : PackAlloc.Allocated :=
  ⟨al.pack, al.allocation.map fun cs => (cs.1, reSlot g cs.2)⟩

/-- an allocated pack with its pack (`P`), channels (`C`) and tracks (`T`) mapped; `reAllocated`, `renAllocated` and
their composite are of this form. -/
def mapAllocated (P : PackAlloc.Pack → PackAlloc.Pack) (C : PackAlloc.Channel → PackAlloc.Channel)
    (T : PackAlloc.Track → PackAlloc.Track) (al : PackAlloc.Allocated) : PackAlloc.Allocated :=
  ⟨P al.pack, al.allocation.map fun cs => (C cs.1, cs.2.map (Option.map T))⟩

theorem slots_mapSol (P : PackAlloc.Pack → PackAlloc.Pack) (C : PackAlloc.Channel → PackAlloc.Channel)
    (T : PackAlloc.Track → PackAlloc.Track) (sol : PackAlloc.Sol) :
    PackAlloc.slots (sol.map (mapAllocated P C T)) =
      (PackAlloc.slots sol).map fun cs => (C cs.1, cs.2.map (Option.map T)) := by
  simp [PackAlloc.slots, List.flatMap_map, List.map_flatMap, mapAllocated]

theorem filled_mapSol (P : PackAlloc.Pack → PackAlloc.Pack) (C : PackAlloc.Channel → PackAlloc.Channel)
    (T : PackAlloc.Track → PackAlloc.Track) :
    ∀ sol : PackAlloc.Sol,
      PackAlloc.filled (sol.map (mapAllocated P C T)) = (PackAlloc.filled sol).map (Option.map T) := by
  intro sol
  unfold PackAlloc.filled
  rw [slots_mapSol]
  generalize PackAlloc.slots sol = l
  induction l with
  | nil => rfl
  | cons cs rest ih =>
    obtain ⟨c, s⟩ := cs
    cases s with
    | none => exact ih
    | some t => exact congrArg (Option.map T t :: ·) ih

theorem count_none_map {α β : Type} [DecidableEq α] [DecidableEq β] (g : α → β) :
    ∀ l : List (Option α), (l.map (Option.map g)).count none = l.count none
  | [] => rfl
  | none :: l => by simp [count_none_map g l]
  | some _ :: l => by simp [count_none_map g l]

theorem valid_map {P : PackAlloc.Pack → PackAlloc.Pack} {C : PackAlloc.Channel → PackAlloc.Channel}
    {T : PackAlloc.Track → PackAlloc.Track} {R : Nat → Nat} {prob prob' : PackAlloc.Problem}
    (hP : ∀ p ∈ prob.packs, P p ∈ prob'.packs) (hPC : ∀ p, (P p).channels = p.channels.map C)
    (hroot : ∀ p, (P p).root = R p.root) (ht : (prob.tracks.map T).Perm prob'.tracks)
    (hn : prob'.numSilent = prob.numSilent)
    (hcompat : ∀ (c : PackAlloc.Channel) (t : PackAlloc.Track), t.cf = c.cf → t.pf ∈ c.pfs →
      (T t).cf = (C c).cf ∧ (T t).pf ∈ (C c).pfs)
    (hrefs : ∀ roots, PackAlloc.RefsOK prob.packRefs roots → PackAlloc.RefsOK prob'.packRefs (roots.map R))
    {sol : PackAlloc.Sol} (hv : PackAlloc.Valid prob sol) :
    PackAlloc.Valid prob' (sol.map (mapAllocated P C T)) := by
  refine ⟨?_, ?_, ?_, ?_, ?_, ?_, ?_⟩
  · intro al hal
    obtain ⟨al0, hal0, rfl⟩ := List.mem_map.1 hal
    exact hP _ (hv.packs_mem al0 hal0)
  · intro al hal
    obtain ⟨al0, hal0, rfl⟩ := List.mem_map.1 hal
    simp only [mapAllocated, List.map_map, hPC]
    rw [← hv.channels al0 hal0, List.map_map]
    rfl
  · intro cs hcs
    rw [slots_mapSol] at hcs
    obtain ⟨cs0, hcs0, rfl⟩ := List.mem_map.1 hcs
    have := hv.complete cs0 hcs0
    cases h : cs0.2 with
    | none => exact absurd h this
    | some t => simp
  · unfold PackAlloc.realTracks
    rw [filled_mapSol, filterMap_id_map]
    exact (hv.tracks.map _).trans ht
  · unfold PackAlloc.numSilentIn
    rw [filled_mapSol, count_none_map, hn]
    exact hv.silent
  · intro cs hcs t hts
    rw [slots_mapSol] at hcs
    obtain ⟨cs0, hcs0, rfl⟩ := List.mem_map.1 hcs
    cases h0 : cs0.2 with
    | none => simp [h0] at hts
    | some o =>
      cases o with
      | none => simp [h0] at hts
      | some t0 =>
        simp only [h0, Option.map_some, Option.some.injEq] at hts
        subst hts
        obtain ⟨h1, h2⟩ := hv.compat cs0 hcs0 t0 h0
        exact hcompat _ _ h1 h2
  · have := hrefs _ hv.refs
    simpa [List.map_map, mapAllocated, Function.comp_def, hroot] using this

theorem valid_retrack (g : Nat → Nat) {prob prob' : PackAlloc.Problem}
    (hp : prob'.packs = prob.packs)
    (ht : (prob.tracks.map (reTrack g)).Perm prob'.tracks)
    (hr : match prob.packRefs, prob'.packRefs with
          | none, none => True
          | some r, some r' => r.Perm r'
          | _, _ => False)
    (hn : prob'.numSilent = prob.numSilent) {sol : PackAlloc.Sol} (hv : PackAlloc.Valid prob sol) :
    PackAlloc.Valid prob' (sol.map (reAllocated g)) := by
  refine valid_map (P := id) (C := id) (T := reTrack g) (R := id) (fun p h => hp ▸ h) (fun p => (List.map_id _).symm)
    (fun _ => rfl) ht hn (fun _ _ h1 h2 => ⟨h1, h2⟩) (fun roots h => ?_) hv
  rw [List.map_id]
  cases hpr : prob.packRefs <;> cases hpr' : prob'.packRefs <;> rw [hpr, hpr'] at hr
  · trivial
  · exact hr.elim
  · exact hr.elim
  · rw [hpr] at h
    exact List.Perm.trans h hr

/-- everything of an audioObject that item selection reads besides its own pack / track reference lists. -/
def Obj.core (o : Obj) : Obj := { o with packs := [], tracks := [] }

/-- `a'` is `a` with the audioPackFormat and audioTrackUID reference lists of every audioObject re-ordered
(silent tracks included); everything else unchanged. -/
structure OwnRefsPerm (a a' : Adm) : Prop where
  programmes : a'.programmes = a.programmes
  contents : a'.contents = a.contents
  fmt : a'.fmt = a.fmt
  nobj : a'.objects.length = a.objects.length
  core : ∀ i, (a'.obj i).core = (a.obj i).core
  packs : ∀ i, (a.obj i).packs.Perm (a'.obj i).packs
  tracks : ∀ i, (a.obj i).tracks.Perm (a'.obj i).tracks

namespace OwnRefsPerm
variable {a a' : Adm}

theorem fields (h : OwnRefsPerm a a') (i : Nat) :
    (a'.obj i).subObjects = (a.obj i).subObjects ∧ (a'.obj i).complementary = (a.obj i).complementary ∧
    (a'.obj i).start = (a.obj i).start ∧ (a'.obj i).duration = (a.obj i).duration ∧
    (a'.obj i).gain = (a.obj i).gain ∧ (a'.obj i).mute = (a.obj i).mute ∧
    (a'.obj i).posOff = (a.obj i).posOff ∧ (a'.obj i).importance = (a.obj i).importance ∧
    (a'.obj i).avs = (a.obj i).avs := by
  have := h.core i
  generalize a'.obj i = o' at this
  generalize a.obj i = o at this
  cases o; cases o'
  simp only [Obj.core, Obj.mk.injEq, true_and] at this
  obtain ⟨h1, h2, h3, h4, h5, h6, h7, h8, h9⟩ := this
  exact ⟨h1, h2, h3, h4, h5, h6, h7, h8, h9⟩

theorem importance_eq (h : OwnRefsPerm a a') (i : Nat) : (a'.obj i).importance = (a.obj i).importance :=
  (h.fields i).2.2.2.2.2.2.2.1

theorem subs_eq (h : OwnRefsPerm a a') : a'.subs = a.subs := by
  funext i; unfold Adm.subs; exact (h.fields i).1

theorem specStates_eq (h : OwnRefsPerm a a') (prog : Option Nat) (ign : List Nat) :
    specStates a' prog ign = specStates a prog ign :=
  specStates_of_content_eq h.programmes h.contents h.nobj h.subs_eq prog ign

theorem selectComplementary_eq (h : OwnRefsPerm a a') (sel : List Nat) :
    selectComplementary a' sel = selectComplementary a sel :=
  selectComplementary_congr h.nobj (fun i => (h.fields i).2.1) sel

theorem own_eq (h : OwnRefsPerm a a') (i : Nat) : (a'.obj i).own = (a.obj i).own :=
  congrArg (fun o : Obj => { o with subObjects := [], complementary := [] }) (h.core i)

theorem extraOf_eq (h : OwnRefsPerm a a') (st : State) (ch : Option Nat) (ad : Option Rat) :
    extraOf a' st ch ad = extraOf a st ch ad :=
  extraOf_congr h.fmt (by simp only [prog_of_programmes_eq h.programmes])
    (by unfold State.leaf; simp only [Option.map_map, Function.comp_def, h.own_eq])
    (by simp only [avsRefs, prog_of_programmes_eq h.programmes, cont_of_contents_eq h.contents]) ch ad

theorem getImportance_eq (h : OwnRefsPerm a a') (st : State) (pp : List Nat) :
    getImportance a' st pp = getImportance a st pp :=
  getImportance_congr h.fmt (by simp only [h.importance_eq]) pp

theorem declItems_eq (h : OwnRefsPerm a a') (st : State) (ap : AllocPack) :
    declItems a' st ap = declItems a st ap := by
  unfold declItems declSingle declHoa
  simp only [h.fmt, h.extraOf_eq, h.getImportance_eq]

theorem stateUids_perm (h : OwnRefsPerm a a') (st : State) : (stateUids a st).Perm (stateUids a' st) := by
  unfold stateUids
  cases st.objPath with
  | none => rw [h.fmt]
  | some p => exact (h.tracks _).filterMap _

end OwnRefsPerm

theorem slotSpec_reSlot {f : Formats} {uids' uids'' : List Nat} {g : Nat → Nat} {s : PackAlloc.Slot}
    (hs : ∀ t, s = some (some t) → uids'[g t.id]? = uids''[t.id]?) :
    slotSpec f uids' (reSlot g s) = slotSpec f uids'' s := by
  rcases s with _ | _ | t
  · rfl
  · rfl
  · simp only [reSlot, Option.map_some, slotSpec, reTrack, hs t rfl]

theorem outputOf_reAllocated {f : Formats} {uids' uids'' : List Nat} {g : Nat → Nat} {al : PackAlloc.Allocated}
    (h : ∀ cs ∈ al.allocation, ∀ t, cs.2 = some (some t) → uids'[g t.id]? = uids''[t.id]?) :
    outputOf f uids' (reAllocated g al) = outputOf f uids'' al := by
  have e : mapE (slotEntry f uids') (reAllocated g al).allocation = mapE (slotEntry f uids'') al.allocation := by
    simp only [reAllocated]
    rw [mapE_map]
    refine mapE_congr fun cs hcs => ?_
    simp only [slotEntry, slotSpec_reSlot (h cs hcs)]
  unfold outputOf
  rw [e]
  rfl

theorem OwnRefsPerm.symm {a a' : Adm} (h : OwnRefsPerm a a') : OwnRefsPerm a' a :=
  ⟨h.programmes.symm, h.contents.symm, h.fmt.symm, h.nobj.symm, fun i => (h.core i).symm,
    fun i => (h.packs i).symm, fun i => (h.tracks i).symm⟩

/-- valid allocations of a state correspond when the object's reference lists are re-ordered: `g` sends the
position of a selected track in the old order to its position in the new one. -/
theorem ownRefs_valid {a a' : Adm} (h : OwnRefsPerm a a') (st : State) (wps : List WPack) {g : Nat → Nat}
    (hgp : ((List.range (stateUids a st).length).map g).Perm (List.range (stateUids a' st).length))
    (hgi : ∀ i, i < (stateUids a st).length → (stateUids a' st)[g i]? = (stateUids a st)[i]?)
    {sol : PackAlloc.Sol} (hv : PackAlloc.Valid (allocProblem a st wps).1 sol) :
    PackAlloc.Valid (allocProblem a' st wps).1 (sol.map (reAllocated g)) := by
  refine valid_retrack g (prob := (allocProblem a st wps).1) (prob' := (allocProblem a' st wps).1) rfl ?_ ?_ ?_ hv
  · rw [allocProblem_tracks_eq, allocProblem_tracks_eq, h.fmt, List.map_map]
    refine (List.Perm.of_eq ?_).trans (hgp.map _)
    rw [List.map_map]
    exact List.map_congr_left fun i hi => by
      simp only [Function.comp, reTrack, List.getD_eq_getElem?_getD, hgi i (List.mem_range.1 hi)]
  · simp only [allocProblem]
    cases st.objPath with
    | none => trivial
    | some p => exact h.packs _
  · simp only [allocProblem]
    cases st.objPath with
    | none => rfl
    | some p => simp only [(h.tracks _).length_eq, ((h.tracks _).filterMap id).length_eq]

theorem reAllocated_pack (g : Nat → Nat) (al : PackAlloc.Allocated) : (reAllocated g al).pack = al.pack := rfl

theorem ownRefs_valid_dropEmpty {a a' : Adm} (h : OwnRefsPerm a a') (st : State) (wps : List WPack) {g : Nat → Nat}
    (hgp : ((List.range (stateUids a st).length).map g).Perm (List.range (stateUids a' st).length))
    (hgi : ∀ i, i < (stateUids a st).length → (stateUids a' st)[g i]? = (stateUids a st)[i]?)
    {sol : PackAlloc.Sol} (hv : PackAlloc.Valid (PackAlloc.dropEmpty (allocProblem a st wps).1) sol) :
    PackAlloc.Valid (PackAlloc.dropEmpty (allocProblem a' st wps).1) (sol.map (reAllocated g)) := by
  obtain ⟨hv1, hv2⟩ := (PackAlloc.valid_dropEmpty_iff _ _).1 hv
  refine (PackAlloc.valid_dropEmpty_iff _ _).2 ⟨ownRefs_valid h st wps hgp hgi hv1, fun al hal => ?_⟩
  obtain ⟨al0, hal0, rfl⟩ := List.mem_map.1 hal
  exact hv2 al0 hal0

theorem reAllocated_inv {g k : Nat → Nat} {al : PackAlloc.Allocated}
    (h : ∀ cs ∈ al.allocation, ∀ t, cs.2 = some (some t) → g (k t.id) = t.id) :
    reAllocated g (reAllocated k al) = al := by
  obtain ⟨pk, allocation⟩ := al
  simp only [reAllocated, List.map_map, PackAlloc.Allocated.mk.injEq, true_and]
  simp only at h
  conv => rhs; rw [← List.map_id allocation]
  refine List.map_congr_left fun cs hcs => ?_
  obtain ⟨c, s⟩ := cs
  cases s with
  | none => rfl
  | some x =>
    cases x with
    | none => rfl
    | some t =>
      have := h _ hcs t rfl
      simp only [Function.comp, reSlot, Option.map_some, reTrack, this, id]

theorem valid_track_id_lt {a : Adm} {st : State} {wps : List WPack} {sol : PackAlloc.Sol}
    (hv : PackAlloc.Valid (allocProblem a st wps).1 sol) {al : PackAlloc.Allocated} (hal : al ∈ sol)
    {cs : PackAlloc.Channel × PackAlloc.Slot} (hcs : cs ∈ al.allocation) {t : PackAlloc.Track}
    (ht : cs.2 = some (some t)) : t.id < (stateUids a st).length := by
  have := hv.tracks.mem_iff.1 (PackAlloc.mem_realTracks_of hal (List.mem_filterMap.2 ⟨cs, hcs, ht⟩))
  rw [(allocProblem_fields a st wps).2.1] at this
  obtain ⟨ui, hui, rfl⟩ := List.mem_map.1 this
  have := (List.mem_zipIdx hui).2.1
  simpa using this

theorem OwnRefsPerm.itemsOfPack_eq {a a' : Adm} (h : OwnRefsPerm a a') (st : State) (ap : AllocPack) :
    itemsOfPack a' st ap = itemsOfPack a st ap :=
  itemsOfPack_eq_of h.fmt (h.extraOf_eq st) (h.getImportance_eq st) ap

/-- `select_pack_mapping` accepts `prob'` whenever it accepts `prob` (C07 `accept_iff_unique`), provided valid
allocations correspond there (`f`) and back (`k`), and going back and forth returns the allocation. -/
theorem accepted_transfer {prob prob' : PackAlloc.Problem} (hwf : PackAlloc.WF prob) (hwf' : PackAlloc.WF prob')
    {f k : PackAlloc.Allocated → PackAlloc.Allocated}
    (hv : ∀ s, PackAlloc.Valid prob s → PackAlloc.Valid prob' (s.map f))
    (hv' : ∀ s, PackAlloc.Valid prob' s → PackAlloc.Valid prob (s.map k) ∧ (s.map k).map f = s)
    {sol : PackAlloc.Sol} (hs : PackAlloc.selectPackMapping prob = .accepted sol) :
    ∃ sol', PackAlloc.selectPackMapping prob' = .accepted sol' ∧ PackAlloc.SolEquiv sol' (sol.map f) := by
  obtain ⟨hvs, hu⟩ := PackAlloc.select_accepted_unique prob hwf sol hs
  have huniq : ∀ s'', PackAlloc.Valid prob' s'' → PackAlloc.SolEquiv (sol.map f) s'' := by
    intro s'' hv''
    obtain ⟨hback, hrt⟩ := hv' s'' hv''
    have := (hu _ hback).map f
    rwa [hrt] at this
  obtain ⟨s', hs'⟩ := (PackAlloc.select_accepted_iff_unique_valid prob' hwf').2 ⟨_, hv sol hvs, huniq⟩
  exact ⟨s', hs', (PackAlloc.select_accepted_unique prob' hwf' s' hs').2 _ (hv sol hvs)⟩

theorem ownRefsPerm_itemsOfState {a a' : Adm} (h : OwnRefsPerm a a') (hmt : multitreeOK a.fmt = true) {st : State}
    {its : List Item} (hs : itemsOfState a st = .ok its) :
    ∃ its', itemsOfState a' st = .ok its' ∧ its.Perm its' := by
  obtain ⟨g, k, hgp, hkp, hgi, hki, _, hgk⟩ := perm_index_maps (h.stateUids_perm st)
  obtain ⟨wps, sol, packs, hw, hsel, hm, hs⟩ := itemsOfState_ok_inv hs
  have hv0 := PackAlloc.select_accepted_valid _ sol hsel
  have hw' : wrappedPacks a'.fmt = .ok wps := by rw [h.fmt]; exact hw
  -- acceptance on `a'`: valid allocations correspond through `g` and back through `k`
  rw [← PackAlloc.selectPackMapping_dropEmpty] at hsel
  obtain ⟨s', hs', hequiv⟩ := accepted_transfer (allocWF0_of_multitree hmt wps st hw)
    (allocWF0_of_multitree (by rw [h.fmt]; exact hmt) wps st hw')
    (fun s hv => ownRefs_valid_dropEmpty h st wps hgp hgi hv)
    (fun s hv => ⟨ownRefs_valid_dropEmpty h.symm st wps hkp hki hv, by
      rw [List.map_map]
      exact map_eq_self_iff.2 fun al hal => reAllocated_inv fun cs hcs t ht =>
        hgk _ (valid_track_id_lt ((PackAlloc.valid_dropEmpty_iff _ _).1 hv).1 hal hcs ht)⟩) hsel
  rw [PackAlloc.selectPackMapping_dropEmpty] at hs'
  -- the moved allocation has the output packs of the original, so the same items
  have hmapped : mapE (outputOf a'.fmt (stateUids a' st)) (sol.map (reAllocated g)) = .ok packs := by
    rw [mapE_map, ← hm, h.fmt]
    exact mapE_congr fun al hal => outputOf_reAllocated fun cs hcs t ht => hgi _ (valid_track_id_lt hv0 hal hcs ht)
  obtain ⟨zs, hzs, hpz⟩ := mapE_perm _ hequiv.symm hmapped
  rw [itemsOfState_of_accepted hw' hs', hzs]
  obtain ⟨its', hits', hp⟩ := flatMapE_perm_map (f' := itemsOfPack a' st) (r := id) (g := id) (l' := zs)
    (by rw [List.map_id]; exact hpz.symm)
    (fun ap _ ys hys => ⟨ys, (h.itemsOfPack_eq st ap).trans hys, by rw [List.map_id]⟩) hs
  rw [List.map_id] at hp
  exact ⟨its', hits', hp.symm⟩

end Earverif.Adm
