/- C19: the real-number instance of the conversion model's scalar class; the azimuth and elevation warps are mutually
   inverse (any sector, any elevation constants: `az_warp_left_inv` / `az_warp_right_inv`, `el_warp_inv` / `el_warp_inv_cart`); the loops of `relative_angle` over ℝ (with enough fuel the value is the
   representative of the angle modulo 360 in `[x, x + 360)`: `relativeAngle_unique`); Cramer's rule for the gains;
   `polarToCartIn` / `cartToPolarIn` (what the two point conversions compute once the sector is chosen: every round-trip
   statement downstream is about these two, `pointPolarToCart_eq` / `pointCartToPolar_off_axis` tie them to the model) with
   their ranges and in-sector round trips. -/
import Earverif.Model.Conversion
import Earverif.Proofs.Turns
import Mathlib.Analysis.SpecialFunctions.Trigonometric.Arctan
import Mathlib.Analysis.SpecialFunctions.Complex.Arg
import Mathlib.Analysis.SpecialFunctions.Trigonometric.Inverse

namespace Earverif.Conv
open Real

noncomputable instance instScalarReal : Scalar ℝ where
  ofRat q := (q : ℝ)
  pi := Real.pi
  sqrt := Real.sqrt
  tan := Real.tan
  atan := Real.arctan
  atan2 y x := Complex.arg ⟨x, y⟩
  sin := Real.sin
  cos := Real.cos
  asin := Real.arcsin
  acos := Real.arccos
  decLt := fun a b => Real.decidableLT a b
  decLe := fun a b => Real.decidableLE a b

/-- `atan2 y x` over the reals: the argument of `x + y i`. -/
noncomputable def at2 (y x : ℝ) : ℝ := Complex.arg ⟨x, y⟩

theorem abs_real (x : ℝ) : Conv.abs x = |x| := by
  simp only [Conv.abs, k, Scalar.ofRat, Rat.cast_zero]
  split_ifs with h
  · exact (abs_of_neg h).symm
  · exact (abs_of_nonneg (not_lt.mp h)).symm

theorem sign_real (x : ℝ) : Conv.sign x = if x < 0 then -1 else if 0 < x then 1 else 0 := by
  simp [Conv.sign, k, Scalar.ofRat]

theorem radians_real (x : ℝ) : radians x = x * (π / 180) := by
  simp [radians, k, Scalar.ofRat, Scalar.pi]

theorem degrees_real (x : ℝ) : degrees x = x * (180 / π) := by
  simp [degrees, k, Scalar.ofRat, Scalar.pi]

theorem k0 : (k 0 : ℝ) = 0 := by simp [k, Scalar.ofRat]
theorem k1 : (k 1 : ℝ) = 1 := by simp [k, Scalar.ofRat]
theorem k90 : (k 90 : ℝ) = 90 := by simp [k, Scalar.ofRat]
theorem k_neg180 : (k (-180) : ℝ) = -180 := by simp [k, Scalar.ofRat]
theorem k_eps : (k (1 / 10000000000) : ℝ) = 1 / 10000000000 := by simp [k, Scalar.ofRat]

theorem mapAzToLinear_real (l r a : ℝ) :
    mapAzToLinear l r a =
      at2 (1/2 + 1/2 * tan ((a - (l + r) / 2) * (π / 180)) / tan ((r - (l + r) / 2) * (π / 180)))
        (1 - (1/2 + 1/2 * tan ((a - (l + r) / 2) * (π / 180)) / tan ((r - (l + r) / 2) * (π / 180))))
        * (2 / π) := by
  simp only [mapAzToLinear, radians, k, Scalar.ofRat, Scalar.tan, Scalar.atan2, Scalar.pi, at2, Rat.cast_ofNat,
    Rat.cast_one, Rat.cast_div]

theorem mapLinearToAz_real (l r x : ℝ) :
    mapLinearToAz l r x =
      (l + r) / 2 + arctan (2 * (sin (x * (π / 2)) / (cos (x * (π / 2)) + sin (x * (π / 2))) - 1/2)
        * tan ((r - (l + r) / 2) * (π / 180))) * (180 / π) := by
  simp only [mapLinearToAz, radians, degrees, k, Scalar.ofRat, Scalar.tan, Scalar.atan, Scalar.sin, Scalar.cos, Scalar.pi,
    Rat.cast_ofNat, Rat.cast_one, Rat.cast_div]

theorem deg_rad (x : ℝ) : x * (180 / π) * (π / 180) = x := by field_simp
theorem rad_deg (x : ℝ) : x * (π / 180) * (180 / π) = x := by field_simp

theorem quarter_lin (x : ℝ) : x * (π / 2) * (2 / π) = x := by field_simp
theorem lin_quarter (x : ℝ) : x * (2 / π) * (π / 2) = x := by field_simp

theorem rad_lt {x : ℝ} (h : |x| < 90) : |x * (π / 180)| < π / 2 := by
  rw [abs_mul, abs_of_pos (by positivity : (0:ℝ) < π / 180)]
  have : |x| * (π / 180) < 90 * (π / 180) := by
    apply mul_lt_mul_of_pos_right h (by positivity)
  linarith

theorem arctan_tan_of_abs {x : ℝ} (h : |x| < π / 2) : arctan (tan x) = x :=
  arctan_tan (abs_lt.mp h).1 (abs_lt.mp h).2

theorem abs_arctan_deg_lt (q : ℝ) : |arctan q * (180 / π)| < 90 := by
  have hp : 0 < 180 / π := by positivity
  have e : π / 2 * (180 / π) = 90 := by field_simp; ring
  rw [abs_lt, ← e, ← neg_mul]
  exact ⟨mul_lt_mul_of_pos_right (neg_pi_div_two_lt_arctan q) hp, mul_lt_mul_of_pos_right (arctan_lt_pi_div_two q) hp⟩

theorem at2_polar {y x : ℝ} (hxy : ¬ (y = 0 ∧ x = 0)) :
    ∃ r, 0 < r ∧ y = r * sin (at2 y x) ∧ x = r * cos (at2 y x) := by
  have hz0 : (⟨x, y⟩ : ℂ) ≠ 0 := fun h => hxy ⟨congrArg Complex.im h, congrArg Complex.re h⟩
  have hr := norm_pos_iff.mpr hz0
  refine ⟨_, hr, ?_, ?_⟩
  · unfold at2; rw [Complex.sin_arg, mul_div_cancel₀ _ hr.ne']
  · unfold at2; rw [Complex.cos_arg hz0, mul_div_cancel₀ _ hr.ne']

theorem at2_of_polar {r θ x y : ℝ} (hr : 0 < r) (h1 : -π < θ) (h2 : θ ≤ π) (hx : x = r * cos θ)
    (hy : y = r * sin θ) : at2 y x = θ := by
  subst hx hy
  unfold at2
  have : (⟨r * cos θ, r * sin θ⟩ : ℂ) = (r : ℂ) * (Complex.cos θ + Complex.sin θ * Complex.I) := by
    apply Complex.ext <;> simp [← Complex.ofReal_cos, ← Complex.ofReal_sin]
  rw [this]
  exact Complex.arg_mul_cos_add_sin_mul_I hr ⟨h1, h2⟩

/-- For a point on the line `re + im = 1` the gain recovered from the angle is the imaginary part. -/
theorem gain_of_at2 (g : ℝ) :
    sin (at2 g (1 - g)) / (cos (at2 g (1 - g)) + sin (at2 g (1 - g))) = g := by
  obtain ⟨r, hr, hs, hc⟩ := at2_polar (y := g) (x := 1 - g) (fun h => by linarith only [h.1, h.2])
  generalize at2 g (1 - g) = θ at hs hc
  have h1 : r * (cos θ + sin θ) = 1 := by rw [mul_add, ← hc, ← hs]; ring
  rw [← mul_div_mul_left _ _ hr.ne', h1, div_one, ← hs]

theorem tan_ne_zero_of {β : ℝ} (h0 : β ≠ 0) (h : |β| < π / 2) : tan β ≠ 0 := by
  rcases lt_or_gt_of_ne h0 with hneg | hpos
  · have := tan_neg_of_neg_of_pi_div_two_lt hneg (abs_lt.mp h).1
    exact ne_of_lt this
  · have := tan_pos_of_pos_of_lt_pi_div_two hpos (abs_lt.mp h).2
    exact ne_of_gt this

/-- `r - (l + r) / 2` is the code's `az_range = right_az - mid_az`, kept so that the `_real` rewrites match. -/
theorem az_warp_left_inv (l r a : ℝ) (hr0 : r - (l + r) / 2 ≠ 0) (hr : |r - (l + r) / 2| < 90)
    (ha : |a - (l + r) / 2| < 90) :
    mapLinearToAz l r (mapAzToLinear l r a) = a := by
  rw [mapLinearToAz_real, mapAzToLinear_real]
  set β := (r - (l + r) / 2) * (π / 180) with hβ
  set ρ := (a - (l + r) / 2) * (π / 180) with hρ
  have hT : tan β ≠ 0 := tan_ne_zero_of (mul_ne_zero hr0 (by positivity)) (rad_lt hr)
  have hρ' := rad_lt ha
  set g := 1 / 2 + 1 / 2 * tan ρ / tan β with hg
  rw [lin_quarter, gain_of_at2]
  have : 2 * (g - 1 / 2) * tan β = tan ρ := by rw [hg]; field_simp; ring
  rw [this, arctan_tan_of_abs hρ', rad_deg]
  ring

theorem cos_sin_quadrant {θ : ℝ} (h0 : 0 ≤ θ) (h1 : θ ≤ π / 2) : 0 ≤ cos θ ∧ 0 ≤ sin θ ∧ 0 < cos θ + sin θ := by
  have hc : 0 ≤ cos θ := cos_nonneg_of_neg_pi_div_two_le_of_le ((neg_nonpos.mpr (by positivity)).trans h0) h1
  have hs : 0 ≤ sin θ := sin_nonneg_of_nonneg_of_le_pi h0 (h1.trans (half_le_self pi_pos.le))
  refine ⟨hc, hs, lt_of_le_of_ne (add_nonneg hc hs) fun h => ?_⟩
  -- both are `≥ 0`, so a zero sum makes both zero, and their squares sum to `1`
  obtain ⟨hc0, hs0⟩ := (add_eq_zero_iff_of_nonneg hc hs).mp h.symm
  have := sin_sq_add_cos_sq θ
  rw [hc0, hs0] at this
  norm_num at this

theorem az_warp_right_inv (l r p : ℝ) (hr0 : r - (l + r) / 2 ≠ 0) (hr : |r - (l + r) / 2| < 90)
    (hp0 : 0 ≤ p) (hp1 : p ≤ 1) :
    mapAzToLinear l r (mapLinearToAz l r p) = p := by
  rw [mapAzToLinear_real, mapLinearToAz_real]
  set β := (r - (l + r) / 2) * (π / 180) with hβ
  have hT : tan β ≠ 0 := tan_ne_zero_of (mul_ne_zero hr0 (by positivity)) (rad_lt hr)
  set θ := p * (π / 2) with hθ
  have hθ0 : 0 ≤ θ := by rw [hθ]; positivity
  have hθ1 : θ ≤ π / 2 := by rw [hθ]; exact mul_le_of_le_one_left (by positivity) hp1
  have hs : 0 < cos θ + sin θ := (cos_sin_quadrant hθ0 hθ1).2.2
  set t := 2 * (sin θ / (cos θ + sin θ) - 1 / 2) * tan β with ht
  have h1 : ((l + r) / 2 + arctan t * (180 / π) - (l + r) / 2) * (π / 180) = arctan t := by
    rw [add_sub_cancel_left, deg_rad]
  rw [h1, tan_arctan]
  have hg : 1 / 2 + 1 / 2 * t / tan β = sin θ / (cos θ + sin θ) := by
    rw [ht, mul_div_assoc, mul_div_cancel_right₀ _ hT]; ring
  have hg' : 1 - sin θ / (cos θ + sin θ) = cos θ / (cos θ + sin θ) := by
    rw [eq_div_iff hs.ne', sub_mul, one_mul, div_mul_cancel₀ _ hs.ne']; ring
  rw [hg, hg', at2_of_polar (inv_pos.mpr hs) (by linarith only [pi_pos, hθ0]) (by linarith only [pi_pos, hθ1])
    (div_eq_inv_mul _ _) (div_eq_inv_mul _ _), hθ, quarter_lin]

theorem elToCart_real (P : Params ℝ) (el d : ℝ) :
    elToCart P el d =
      if P.elTop < |el| then
        (d * Conv.sign el, d * tan ((90 - (P.elTopTilde + (90 - P.elTopTilde) * (|el| - P.elTop) / (90 - P.elTop))) * (π / 180)))
      else (tan (P.elTopTilde * el / P.elTop * (π / 180)) * d, d) := by
  simp only [elToCart, radians_real, abs_real, k, Scalar.ofRat, Scalar.tan, Rat.cast_ofNat]

theorem elToPolar_real (P : Params ℝ) (z rxy : ℝ) :
    elToPolar P z rxy =
      if P.elTopTilde < |arctan (z / rxy) * (180 / π)| then
        (Conv.sign (arctan (z / rxy) * (180 / π)) *
          (P.elTop + (90 - P.elTop) * (|arctan (z / rxy) * (180 / π)| - P.elTopTilde) / (90 - P.elTopTilde)), |z|)
      else (P.elTop * (arctan (z / rxy) * (180 / π)) / P.elTopTilde, rxy) := by
  simp only [elToPolar, degrees_real, abs_real, k, Scalar.ofRat, Scalar.atan, Rat.cast_ofNat]

theorem sign_pos {x : ℝ} (h : 0 < x) : Conv.sign x = 1 := by
  rw [sign_real, if_neg (not_lt.mpr h.le), if_pos h]

theorem sign_neg {x : ℝ} (h : x < 0) : Conv.sign x = -1 := by
  rw [sign_real, if_pos h]

theorem sign_odd (x : ℝ) : Conv.sign (-x) = -Conv.sign x := by
  rcases lt_trichotomy x 0 with h | rfl | h
  · rw [sign_neg h, sign_pos (neg_pos.mpr h), neg_neg]
  · simp [sign_real]
  · rw [sign_pos h, sign_neg (neg_neg_of_pos h)]

theorem sign_abs_le (x : ℝ) : |Conv.sign x| ≤ 1 := by
  rw [sign_real]; split_ifs <;> simp

/-! Below `el_top` the elevation warp is `el ↦ el_top_tilde * el / el_top`; above, `|el|` goes through the linear map
that takes `(el_top, 90)` onto `(el_top_tilde, 90)` (`stretch_*`; exchanging the two constants gives the inverse).  Both
conversions are odd in the elevation, so the inverse laws are proved for non-negative arguments. -/

theorem abs_scale_le {A B x : ℝ} (hA : 0 < A) (hB : 0 < B) (hx : |x| ≤ A) : |B * x / A| ≤ B := by
  rw [abs_div, abs_mul, abs_of_pos hA, abs_of_pos hB, div_le_iff₀ hA]
  exact mul_le_mul_of_nonneg_left hx hB.le

theorem stretch_gt {A B a : ℝ} (hA : A < 90) (hB : B < 90) (ha : A < a) :
    B < B + (90 - B) * (a - A) / (90 - A) :=
  lt_add_of_pos_right _ (div_pos (mul_pos (by linarith) (by linarith)) (by linarith))

theorem stretch_lt {A B a : ℝ} (hA : A < 90) (hB : B < 90) (ha : a < 90) :
    B + (90 - B) * (a - A) / (90 - A) < 90 := by
  have h : 0 < 90 - A := by linarith
  have : (90 - B) * (a - A) / (90 - A) < 90 - B := by
    rw [div_lt_iff₀ h]; exact mul_lt_mul_of_pos_left (by linarith) (by linarith)
  linarith

theorem stretch_inv {A B : ℝ} (hA : A < 90) (hB : B < 90) (a : ℝ) :
    A + (90 - A) * (B + (90 - B) * (a - A) / (90 - A) - B) / (90 - B) = a := by
  have h1 : 90 - A ≠ 0 := (sub_pos.mpr hA).ne'
  have h2 : 90 - B ≠ 0 := (sub_pos.mpr hB).ne'
  field_simp
  ring

theorem elToCart_odd (P : Params ℝ) (el d : ℝ) :
    elToCart P (-el) d = (-(elToCart P el d).1, (elToCart P el d).2) := by
  rw [elToCart_real, elToCart_real, abs_neg, sign_odd]
  split_ifs
  · rw [mul_neg]
  · rw [show P.elTopTilde * -el / P.elTop * (π / 180) = -(P.elTopTilde * el / P.elTop * (π / 180)) by ring,
      tan_neg, neg_mul]

theorem elToPolar_odd (P : Params ℝ) (z rxy : ℝ) :
    elToPolar P (-z) rxy = (-(elToPolar P z rxy).1, (elToPolar P z rxy).2) := by
  rw [elToPolar_real, elToPolar_real, neg_div, arctan_neg, neg_mul, abs_neg, abs_neg, sign_odd]
  split_ifs
  · rw [neg_mul]
  · rw [mul_neg, neg_div]

theorem el_warp_inv_low (P : Params ℝ) (hT : 0 < P.elTop) (hTt : 0 < P.elTopTilde)
    (hTt90 : P.elTopTilde < 90) (el d : ℝ) (hd : 0 < d) (hel : |el| ≤ P.elTop) :
    elToPolar P (elToCart P el d).1 (elToCart P el d).2 = (el, d) := by
  rw [elToCart_real, if_neg (not_lt.mpr hel)]
  simp only
  rw [elToPolar_real]
  have hEabs := abs_scale_le hT hTt hel
  have hrad := rad_lt (lt_of_le_of_lt hEabs hTt90)
  rw [mul_div_cancel_right₀ _ hd.ne', arctan_tan_of_abs hrad, rad_deg,
    if_neg (not_lt.mpr hEabs)]
  congr 1
  field_simp

theorem el_warp_inv_high (P : Params ℝ) (hT : 0 < P.elTop) (hT90 : P.elTop < 90) (hTt : 0 < P.elTopTilde)
    (hTt90 : P.elTopTilde < 90) (el d : ℝ) (hd : 0 < d) (hel : P.elTop < |el|) (hel90 : |el| < 90) :
    elToPolar P (elToCart P el d).1 (elToCart P el d).2 = (el, d) := by
  wlog h : 0 ≤ el generalizing el with H
  · have := H (-el) (by rwa [abs_neg]) (by rwa [abs_neg]) (neg_nonneg.mpr (le_of_not_ge h))
    rw [← neg_neg el, elToCart_odd]
    dsimp only
    rw [elToPolar_odd, this]
  rw [abs_of_nonneg h] at hel hel90
  have h0 : 0 < el := hT.trans hel
  rw [elToCart_real, abs_of_pos h0, if_pos hel, sign_pos h0, mul_one]
  simp only
  rw [elToPolar_real]
  have hE0 := stretch_gt hT90 hTt90 hel
  have hE90 := stretch_lt hT90 hTt90 hel90
  set E := P.elTopTilde + (90 - P.elTopTilde) * (el - P.elTop) / (90 - P.elTop) with hE
  have hEpos : 0 < E := hTt.trans hE0
  have hrad := rad_lt (show |E| < 90 by rw [abs_of_pos hEpos]; exact hE90)
  have htan : tan (E * (π / 180)) ≠ 0 := tan_ne_zero_of (by positivity) hrad
  have hq : d / (d * tan ((90 - E) * (π / 180))) = tan (E * (π / 180)) := by
    rw [show (90 - E) * (π / 180) = π / 2 - E * (π / 180) by ring, tan_pi_div_two_sub]
    field_simp
  rw [hq, arctan_tan_of_abs hrad, rad_deg, abs_of_pos hEpos, if_pos hE0,
    sign_pos hEpos, one_mul, hE, stretch_inv hT90 hTt90, abs_of_pos hd]

theorem el_warp_inv (P : Params ℝ) (hT : 0 < P.elTop) (hT90 : P.elTop < 90) (hTt : 0 < P.elTopTilde)
    (hTt90 : P.elTopTilde < 90) (el d : ℝ) (hd : 0 < d) (hel90 : |el| < 90) :
    elToPolar P (elToCart P el d).1 (elToCart P el d).2 = (el, d) := by
  rcases le_or_gt |el| P.elTop with h | h
  · exact el_warp_inv_low P hT hTt hTt90 el d hd h
  · exact el_warp_inv_high P hT hT90 hTt hTt90 el d hd h hel90

theorem sqrt2_mul : √2 * (√2 / 2) = 1 := by
  have := Real.mul_self_sqrt (show (0:ℝ) ≤ 2 by norm_num)
  linarith

theorem mapAzToLinear_mid (l r : ℝ) : mapAzToLinear l r ((l + r) / 2) = 1 / 2 := by
  rw [mapAzToLinear_real, sub_self, zero_mul, tan_zero, mul_zero, zero_div, add_zero, show (1:ℝ) - 1 / 2 = 1 / 2 by norm_num,
    at2_of_polar (r := √2 / 2) (θ := π / 4) (by positivity) (by linarith only [pi_pos]) (by linarith only [pi_pos])
      (by rw [cos_pi_div_four, div_mul_eq_mul_div, sqrt2_mul]) (by rw [sin_pi_div_four, div_mul_eq_mul_div, sqrt2_mul])]
  field_simp
  norm_num

theorem mapLinearToAz_zero (l r : ℝ) (hr : |r - (l + r) / 2| < 90) : mapLinearToAz l r 0 = l := by
  rw [mapLinearToAz_real]
  have hrad := rad_lt hr
  simp only [zero_mul, sin_zero, cos_zero, add_zero, zero_div, zero_sub]
  have : 2 * -(1 / 2) * tan ((r - (l + r) / 2) * (π / 180)) = tan (-((r - (l + r) / 2) * (π / 180))) := by
    rw [tan_neg]; ring
  rw [this, arctan_tan_of_abs (by rwa [abs_neg]), neg_mul, rad_deg]
  ring

theorem mapLinearToAz_one (l r : ℝ) (hr : |r - (l + r) / 2| < 90) : mapLinearToAz l r 1 = r := by
  rw [mapLinearToAz_real]
  have hrad := rad_lt hr
  simp only [one_mul, sin_pi_div_two, cos_pi_div_two, zero_add, div_one]
  have : 2 * (1 - 1 / 2) * tan ((r - (l + r) / 2) * (π / 180)) = tan ((r - (l + r) / 2) * (π / 180)) := by ring
  rw [this, arctan_tan_of_abs hrad, rad_deg]
  ring

theorem mapAzToLinear_left (l r : ℝ) (hr0 : r - (l + r) / 2 ≠ 0) (hr : |r - (l + r) / 2| < 90) :
    mapAzToLinear l r l = 0 :=
  calc mapAzToLinear l r l = mapAzToLinear l r (mapLinearToAz l r 0) := by rw [mapLinearToAz_zero l r hr]
    _ = 0 := az_warp_right_inv l r 0 hr0 hr le_rfl zero_le_one

theorem mapAzToLinear_right (l r : ℝ) (hr0 : r - (l + r) / 2 ≠ 0) (hr : |r - (l + r) / 2| < 90) :
    mapAzToLinear l r r = 1 :=
  calc mapAzToLinear l r r = mapAzToLinear l r (mapLinearToAz l r 1) := by rw [mapLinearToAz_one l r hr]
    _ = 1 := az_warp_right_inv l r 1 hr0 hr zero_le_one le_rfl

theorem cartAz_real (x y : ℝ) : cartAz x y = -(at2 x y * (180 / π)) := by
  simp [cartAz, degrees_real, Scalar.atan2, at2]

theorem cartAz_polar {x y A : ℝ} (hxy : ¬ (x = 0 ∧ y = 0)) (hA : A = cartAz x y ∨ A = cartAz x y + 360) :
    ∃ r, 0 < r ∧ x = r * sin (-A * (π / 180)) ∧ y = r * cos (-A * (π / 180)) := by
  have hsc : sin (-A * (π / 180)) = sin (at2 x y) ∧ cos (-A * (π / 180)) = cos (at2 x y) := by
    rcases hA with h | h
    · rw [h, cartAz_real, neg_neg, deg_rad]; exact ⟨rfl, rfl⟩
    · rw [show -A * (π / 180) = at2 x y - 2 * π by rw [h, cartAz_real]; field_simp; ring,
        sin_sub_two_pi, cos_sub_two_pi]; exact ⟨rfl, rfl⟩
  rw [hsc.1, hsc.2]
  exact at2_polar hxy

theorem upLt_succ (x y : ℝ) (n : Nat) :
    upLt x (n + 1) y = if y < x then upLt x n (y + 360) else y := by
  simp [upLt, k, Scalar.ofRat]

theorem downGe_succ (x y : ℝ) (n : Nat) :
    downGe x (n + 1) y = if x ≤ y - 360 then downGe x n (y - 360) else y := by
  simp [downGe, k, Scalar.ofRat]

theorem downGt_succ (x y : ℝ) (n : Nat) :
    downGt x (n + 1) y = if x < y - 360 then downGt x n (y - 360) else y := by
  simp [downGt, k, Scalar.ofRat]

theorem downGe_ran (x : ℝ) (n : Nat) (y : ℝ) : Turns.Ran (fun z => x ≤ z - 360) (-360) y (downGe x n y) ∧
    (¬ x ≤ y + n * (-360) - 360 → ¬ x ≤ downGe x n y - 360) :=
  Turns.loop_spec (fun _ => rfl) (fun n y h => by rw [downGe_succ, if_pos h, sub_eq_add_neg])
    (fun n y h => by rw [downGe_succ, if_neg h]) n y

theorem upLt_ran (x : ℝ) (n : Nat) (y : ℝ) : Turns.Ran (· < x) 360 y (upLt x n y) ∧
    (¬ y + n * 360 < x → ¬ upLt x n y < x) :=
  Turns.loop_spec (fun _ => rfl) (fun n y h => by rw [upLt_succ, if_pos h]) (fun n y h => by rw [upLt_succ, if_neg h]) n y

theorem relativeAngle_spec (n : Nat) (x y : ℝ) :
    (∃ j : ℤ, relativeAngle n x y = y + 360 * j) ∧
    (x - 360 * n ≤ y → y < x + 360 * (n + 1) → x ≤ relativeAngle n x y ∧ relativeAngle n x y < x + 360) := by
  unfold relativeAngle
  obtain ⟨r1, st1⟩ := downGe_ran x n y
  obtain ⟨r2, st2⟩ := upLt_ran x n (downGe x n y)
  obtain ⟨k1, e1, -, p1⟩ := id r1
  obtain ⟨k2, e2, -, -⟩ := id r2
  refine ⟨⟨(k2 : ℤ) - k1, by rw [e2, e1]; push_cast; ring⟩, fun h1 h2 => ?_⟩
  -- the first loop ends at `y` itself or, after a step, at least at `x`: the fuel is enough for the second too
  have hd : x - 360 * n ≤ downGe x n y := by
    rcases Nat.eq_zero_or_pos k1 with rfl | hk
    · rw [e1]; simpa using h1
    · have := p1 hk.ne'; have : (0 : ℝ) ≤ n := n.cast_nonneg; linarith
  obtain ⟨-, a, b, -⟩ := Turns.window (B := (· < x + 360)) (fun z hz => by linarith) (fun z hz => hz) r1
    (st1 (by linarith)) r2 (st2 (by linarith))
  exact ⟨a, b⟩

theorem relativeAngle_mem (n : Nat) (x y : ℝ) (h1 : x - 360 * n ≤ y) (h2 : y < x + 360 * (n + 1)) :
    x ≤ relativeAngle n x y ∧ relativeAngle n x y < x + 360 :=
  (relativeAngle_spec n x y).2 h1 h2

theorem relativeAngle_cong (n : Nat) (x y : ℝ) : ∃ j : ℤ, relativeAngle n x y = y + 360 * j :=
  (relativeAngle_spec n x y).1

theorem relativeAngle_unique (n : Nat) (x y r : ℝ) (j : ℤ) (h1 : x - 360 * n ≤ y) (h2 : y < x + 360 * (n + 1))
    (hr : r = y + 360 * j) (hr1 : x ≤ r) (hr2 : r < x + 360) : relativeAngle n x y = r := by
  obtain ⟨m1, m2⟩ := relativeAngle_mem n x y h1 h2
  obtain ⟨i, hi⟩ := relativeAngle_cong n x y
  exact Turns.rep_unique (j := i - j) (by rw [hi, hr]; push_cast; ring) m1 m2 hr1 hr2

theorem mapLinearToAz_mem (l r p : ℝ) :
    (l + r) / 2 - 90 < mapLinearToAz l r p ∧ mapLinearToAz l r p < (l + r) / 2 + 90 := by
  rw [mapLinearToAz_real, sub_eq_add_neg]
  have h := abs_lt.mp (abs_arctan_deg_lt
    (2 * (sin (p * (π / 2)) / (cos (p * (π / 2)) + sin (p * (π / 2))) - 1 / 2) * tan ((r - (l + r) / 2) * (π / 180))))
  exact ⟨(add_lt_add_iff_left _).mpr h.1, (add_lt_add_iff_left _).mpr h.2⟩

theorem pToAz_mem (P : Params ℝ) (hf : 1 ≤ P.fuel) (s : Sector ℝ)
    (hl : -180 ≤ s.left.az ∧ s.left.az ≤ 180) (hr : -180 ≤ s.right.az ∧ s.right.az ≤ 180) (p : ℝ) :
    -180 ≤ pToAz P s p ∧ pToAz P s p < 180 := by
  simp only [pToAz, k_neg180]
  have hn : (1 : ℝ) ≤ P.fuel := by exact_mod_cast hf
  have hrel := relativeAngle_mem P.fuel s.right.az s.left.az (by linarith only [hl.1, hr.2, hn]) (by linarith only [hl.2, hr.1, hn])
  have hm := mapLinearToAz_mem (relativeAngle P.fuel s.right.az s.left.az) s.right.az p
  have := relativeAngle_mem P.fuel (-180)
    (mapLinearToAz (relativeAngle P.fuel s.right.az s.left.az) s.right.az p)
    (by linarith only [hm.1, hrel.1, hr.1, hn]) (by linarith only [hm.2, hrel.2, hr.2, hn])
  constructor
  · exact this.1
  · linarith only [this.2]

theorem elToPolar_el_range (P : Params ℝ) (hT : 0 < P.elTop) (hT90 : P.elTop < 90) (hTt : 0 < P.elTopTilde)
    (hTt90 : P.elTopTilde < 90) (z rxy : ℝ) : |(elToPolar P z rxy).1| ≤ 90 := by
  rw [elToPolar_real]
  have hE90 := abs_arctan_deg_lt (z / rxy)
  set E := arctan (z / rxy) * (180 / π) with hE
  split_ifs with hc
  · simp only
    have h1 := stretch_gt hTt90 hT90 hc
    have h2 := stretch_lt hTt90 hT90 hE90
    rw [abs_mul]
    calc |Conv.sign E| * |_| ≤ 1 * 90 :=
          mul_le_mul (sign_abs_le E) (abs_le.mpr ⟨by linarith, h2.le⟩) (abs_nonneg _) zero_le_one
      _ = 90 := one_mul _
  · exact (abs_scale_le hTt hT (not_lt.mp hc)).trans hT90.le

theorem elToPolar_d_nonneg (P : Params ℝ) (z rxy : ℝ) (h : 0 ≤ rxy) : 0 ≤ (elToPolar P z rxy).2 := by
  rw [elToPolar_real]; split_ifs <;> simp [h]

theorem sectors_mem (P : Params ℝ) (s : Sector ℝ) (h : s ∈ sectors P) :
    s.left ∈ P.rows ∧ s.right ∈ P.rows := by
  unfold sectors at h
  rw [List.mem_filterMap] at h
  obtain ⟨i, _, hi⟩ := h
  split at hi
  · rename_i l r hl hr
    simp at hi; subst hi
    exact ⟨List.mem_of_getElem? hl, List.mem_of_getElem? hr⟩
  · simp at hi

theorem pointCartToPolar_eq (P : Params ℝ) (x y z : ℝ) :
    pointCartToPolar P x y z =
      if abs x < k (1 / 10000000000) ∧ abs y < k (1 / 10000000000) then
        if abs z < k (1 / 10000000000) then some ((k 0, k 0, k 0), none)
        else some ((k 0, sign z * k 90, abs z), none)
      else
        match findCartSector P (cartAz x y) with
        | none => none
        | some s =>
          some ((pToAz P s ((gains s x y).2 / ((gains s x y).1 + (gains s x y).2)),
                 elToPolar P z ((gains s x y).1 + (gains s x y).2)), some s.idx) := by
  unfold pointCartToPolar
  dsimp only
  split_ifs
  · rfl
  · rfl
  · cases findCartSector P (cartAz x y) <;> rfl

/-- Ranges of the output of `point_cart_to_polar`.  What is missing to the property: `0 ≤ d` is shown only under the
hypothesis that the sector found has a non-negative sum of gains, which needs the table (`find_cart_sound`;
`polar_range_table` in Props/C19 puts the two together). -/
theorem polar_range_partial (P : Params ℝ) (hf : 1 ≤ P.fuel)
    (hrows : ∀ r ∈ P.rows, -180 ≤ r.az ∧ r.az ≤ 180)
    (hT : 0 < P.elTop) (hT90 : P.elTop < 90) (hTt : 0 < P.elTopTilde) (hTt90 : P.elTopTilde < 90)
    (x y z az el d : ℝ) (i : Option Nat)
    (h : pointCartToPolar P x y z = some ((az, el, d), i)) :
    (-180 ≤ az ∧ az < 180) ∧ |el| ≤ 90 ∧
    ((∀ s, findCartSector P (cartAz x y) = some s → 0 ≤ (gains s x y).1 + (gains s x y).2) → 0 ≤ d) := by
  rw [pointCartToPolar_eq] at h
  have hs90 : |Conv.sign z * k 90| ≤ 90 := by
    rw [abs_mul, k90, abs_of_pos (by norm_num : (0:ℝ) < 90)]
    exact mul_le_of_le_one_left (by norm_num) (sign_abs_le z)
  split_ifs at h with hc hz
  · obtain ⟨⟨rfl, rfl, rfl⟩, -⟩ := Prod.mk.inj (Option.some.inj h)
    rw [k0]; norm_num
  · obtain ⟨⟨rfl, rfl, rfl⟩, -⟩ := Prod.mk.inj (Option.some.inj h)
    exact ⟨by rw [k0]; norm_num, hs90, fun _ => by rw [abs_real]; exact abs_nonneg z⟩
  · cases hs : findCartSector P (cartAz x y) with
    | none => rw [hs] at h; cases h
    | some s =>
      rw [hs] at h
      simp only [Option.some.injEq, Prod.mk.injEq] at h
      obtain ⟨⟨rfl, hel⟩, -⟩ := h
      have hmem := sectors_mem P s (List.mem_of_find?_eq_some hs)
      have he := elToPolar_el_range P hT hT90 hTt hTt90 z ((gains s x y).1 + (gains s x y).2)
      rw [hel] at he
      refine ⟨pToAz_mem P hf s (hrows _ hmem.1) (hrows _ hmem.2) _, he, fun hg => ?_⟩
      have hd := elToPolar_d_nonneg P z _ (hg s rfl)
      rwa [hel] at hd

theorem el_warp_inv_cart (P : Params ℝ) (hT : 0 < P.elTop) (hT90 : P.elTop < 90) (hTt : 0 < P.elTopTilde)
    (hTt90 : P.elTopTilde < 90) (z rxy : ℝ) (hr : 0 < rxy) :
    elToCart P (elToPolar P z rxy).1 (elToPolar P z rxy).2 = (z, rxy) := by
  wlog hz : 0 ≤ z generalizing z with H
  · rw [← neg_neg z, elToPolar_odd]
    dsimp only
    rw [elToCart_odd, H (-z) (neg_nonneg.mpr (le_of_not_ge hz))]
  rw [elToPolar_real]
  have hE90 := abs_arctan_deg_lt (z / rxy)
  have htanE : tan (arctan (z / rxy) * (180 / π) * (π / 180)) = z / rxy := by rw [deg_rad, tan_arctan]
  have hE0 : 0 ≤ arctan (z / rxy) * (180 / π) :=
    mul_nonneg (arctan_nonneg.mpr (div_nonneg hz hr.le)) (by positivity)
  set E := arctan (z / rxy) * (180 / π) with hE
  rw [abs_of_nonneg hE0] at hE90 ⊢
  split_ifs with hc
  · have hz0 : z ≠ 0 := by
      rintro rfl
      rw [hE, zero_div, arctan_zero, zero_mul] at hc
      exact absurd hTt (not_lt.mpr hc.le)
    have hA0 := stretch_gt hTt90 hT90 hc
    have hApos := hT.trans hA0
    rw [sign_pos (hTt.trans hc), one_mul, elToCart_real, abs_of_pos hApos, if_pos hA0, stretch_inv hTt90 hT90,
      sign_pos hApos, mul_one, show (90 - E) * (π / 180) = π / 2 - E * (π / 180) by ring,
      tan_pi_div_two_sub, htanE, abs_of_nonneg hz, inv_div, mul_div_cancel₀ _ hz0]
  · have hle := abs_scale_le hTt hT (le_of_eq_of_le (abs_of_nonneg hE0) (not_lt.mp hc))
    rw [elToCart_real, if_neg (not_lt.mpr hle), show P.elTopTilde * (P.elTop * E / P.elTopTilde) / P.elTop = E by
      field_simp, htanE, div_mul_cancel₀ _ hr.ne']

/-- Determinant of the matrix `[left_pos[[0,1]], right_pos[[0,1]]]`. -/
def Sector.det (s : Sector ℝ) : ℝ := s.left.x * s.right.y - s.left.y * s.right.x

theorem gains_real (s : Sector ℝ) (x y : ℝ) :
    gains s x y = (x * (s.right.y / s.det) + y * (-s.right.x / s.det),
                   x * (-s.left.y / s.det) + y * (s.left.x / s.det)) := rfl

/-- Cramer's rule: the gains are cross products over the determinant. -/
theorem gains_cross (s : Sector ℝ) (x y : ℝ) :
    gains s x y = ((x * s.right.y - y * s.right.x) / s.det, (s.left.x * y - s.left.y * x) / s.det) := by
  rw [gains_real]; congr 1 <;> ring

theorem gains_combination (s : Sector ℝ) (hdet : s.det ≠ 0) (a b : ℝ) :
    gains s (a * s.left.x + b * s.right.x) (a * s.left.y + b * s.right.y) = (a, b) := by
  rw [gains_cross]
  congr 1 <;> rw [div_eq_iff hdet, Sector.det] <;> ring

theorem combination_gains (s : Sector ℝ) (hdet : s.det ≠ 0) (x y : ℝ) :
    (gains s x y).1 * s.left.x + (gains s x y).2 * s.right.x = x ∧
    (gains s x y).1 * s.left.y + (gains s x y).2 * s.right.y = y := by
  rw [gains_cross]
  constructor <;>
    rw [div_mul_eq_mul_div, div_mul_eq_mul_div, ← add_div, div_eq_iff hdet, Sector.det] <;> ring

/-- What `point_polar_to_cart` computes once the sector is chosen. -/
noncomputable def polarToCartIn (P : Params ℝ) (s : Sector ℝ) (az el d : ℝ) : ℝ × ℝ × ℝ :=
  ((elToCart P el d).2 * (s.left.x + (s.right.x - s.left.x) * azToP P s az),
   (elToCart P el d).2 * (s.left.y + (s.right.y - s.left.y) * azToP P s az),
   (elToCart P el d).1)

/-- What `point_cart_to_polar` computes once the sector is chosen. -/
noncomputable def cartToPolarIn (P : Params ℝ) (s : Sector ℝ) (x y z : ℝ) : ℝ × ℝ × ℝ :=
  (pToAz P s ((gains s x y).2 / ((gains s x y).1 + (gains s x y).2)),
   elToPolar P z ((gains s x y).1 + (gains s x y).2))

theorem pointPolarToCart_eq (P : Params ℝ) (az el d : ℝ) :
    pointPolarToCart P az el d =
      (findSector P az).map fun s => (polarToCartIn P s az el d, s.idx) := by
  unfold pointPolarToCart polarToCartIn
  cases findSector P az <;> rfl

theorem pointCartToPolar_on_axis {P : Params ℝ} {x y z : ℝ} (h : |x| < 1 / 10000000000 ∧ |y| < 1 / 10000000000) :
    pointCartToPolar P x y z =
      if |z| < 1 / 10000000000 then some ((0, 0, 0), none) else some ((0, Conv.sign z * 90, |z|), none) := by
  rw [pointCartToPolar_eq, abs_real x, abs_real y, abs_real z, k_eps, k0, k90, if_pos h]

theorem pointCartToPolar_off_axis {P : Params ℝ} {x y z : ℝ}
    (h : ¬ (|x| < 1 / 10000000000 ∧ |y| < 1 / 10000000000)) :
    pointCartToPolar P x y z =
      (findCartSector P (cartAz x y)).map fun s => (cartToPolarIn P s x y z, some s.idx) := by
  rw [pointCartToPolar_eq, abs_real x, abs_real y, k_eps, if_neg h]
  unfold cartToPolarIn
  cases findCartSector P (cartAz x y) <;> rfl

theorem gains_polarToCartIn (P : Params ℝ) (s : Sector ℝ) (hdet : s.det ≠ 0) (az el d : ℝ) :
    gains s (polarToCartIn P s az el d).1 (polarToCartIn P s az el d).2.1 =
      ((elToCart P el d).2 * (1 - azToP P s az), (elToCart P el d).2 * azToP P s az) := by
  rw [← gains_combination s hdet]
  unfold polarToCartIn
  congr 1 <;> ring

theorem elToCart_rxy_pos (P : Params ℝ) (hT90 : P.elTop < 90) (hTt : 0 < P.elTopTilde)
    (hTt90 : P.elTopTilde < 90) (el d : ℝ) (hd : 0 < d) (hel90 : |el| < 90) :
    0 < (elToCart P el d).2 := by
  rw [elToCart_real]
  split_ifs with hel
  · have h1 := stretch_gt hT90 hTt90 hel
    have h2 := stretch_lt hT90 hTt90 hel90
    set E := P.elTopTilde + (90 - P.elTopTilde) * (|el| - P.elTop) / (90 - P.elTop)
    have hrad := rad_lt (show |90 - E| < 90 by rw [abs_lt]; constructor <;> linarith)
    exact mul_pos hd (tan_pos_of_pos_of_lt_pi_div_two (mul_pos (by linarith) (by positivity)) (abs_lt.mp hrad).2)
  · exact hd

/-- polar -> Cartesian -> polar with the sector held fixed, any sector and any parameters: the half of
`polar_cart_polar` without the lookups.  `hw0`, `hw` (the sector is less than a half turn
wide) and `ha` (the azimuth lies in it) are said through the loops of `relative_angle`, which stay opaque here:
for a `GoodSector` of the table model `polar_in_sector` (Proofs/C19Round) supplies them (`GoodSector.mid` through
`relLeft`) and evaluates the two loops left in the result (`relativeAngle_norm180`, Proofs/C19Table). -/
theorem polar_cart_polar_in_sector_partial (P : Params ℝ) (hT : 0 < P.elTop) (hT90 : P.elTop < 90)
    (hTt : 0 < P.elTopTilde) (hTt90 : P.elTopTilde < 90) (s : Sector ℝ) (hdet : s.det ≠ 0)
    (az el d : ℝ) (hd : 0 < d) (hel90 : |el| < 90)
    (hw0 : s.right.az - (relativeAngle P.fuel s.right.az s.left.az + s.right.az) / 2 ≠ 0)
    (hw : |s.right.az - (relativeAngle P.fuel s.right.az s.left.az + s.right.az) / 2| < 90)
    (ha : |relativeAngle P.fuel s.right.az az
            - (relativeAngle P.fuel s.right.az s.left.az + s.right.az) / 2| < 90) :
    cartToPolarIn P s (polarToCartIn P s az el d).1 (polarToCartIn P s az el d).2.1
        (polarToCartIn P s az el d).2.2 =
      (relativeAngle P.fuel (k (-180)) (relativeAngle P.fuel s.right.az az), el, d) := by
  have hrpos : 0 < (elToCart P el d).2 := elToCart_rxy_pos P hT90 hTt hTt90 el d hd hel90
  unfold cartToPolarIn
  rw [gains_polarToCartIn P s hdet]
  dsimp only
  rw [← mul_add, sub_add_cancel, mul_one, mul_div_cancel_left₀ _ hrpos.ne',
    show (polarToCartIn P s az el d).2.2 = (elToCart P el d).1 from rfl, el_warp_inv P hT hT90 hTt hTt90 el d hd hel90]
  congr 1
  dsimp only [pToAz, azToP]
  rw [az_warp_left_inv _ _ _ hw0 hw ha]

/-- Cartesian -> polar -> Cartesian with the sector held fixed, for a point of the sector's cone; the half of
`cart_polar_cart` without the lookups.  `hrel`: taking
`relative_angle(right_az, ·)` of the azimuth that `pToAz` normalised to `[-180, 180)` gives back the un-normalised warp
value (`cart_in_sector` discharges it for a `GoodSector` by `relativeAngle_renorm`, Proofs/C19Table; `hw0`, `hw` as above). -/
theorem cart_polar_cart_in_sector_partial (P : Params ℝ) (hT : 0 < P.elTop) (hT90 : P.elTop < 90)
    (hTt : 0 < P.elTopTilde) (hTt90 : P.elTopTilde < 90) (s : Sector ℝ) (hdet : s.det ≠ 0)
    (x y z : ℝ) (hg1 : 0 ≤ (gains s x y).1) (hg2 : 0 ≤ (gains s x y).2)
    (hpos : 0 < (gains s x y).1 + (gains s x y).2)
    (hw0 : s.right.az - (relativeAngle P.fuel s.right.az s.left.az + s.right.az) / 2 ≠ 0)
    (hw : |s.right.az - (relativeAngle P.fuel s.right.az s.left.az + s.right.az) / 2| < 90)
    (hrel : relativeAngle P.fuel s.right.az (cartToPolarIn P s x y z).1 =
        mapLinearToAz (relativeAngle P.fuel s.right.az s.left.az) s.right.az
          ((gains s x y).2 / ((gains s x y).1 + (gains s x y).2))) :
    polarToCartIn P s (cartToPolarIn P s x y z).1 (cartToPolarIn P s x y z).2.1
        (cartToPolarIn P s x y z).2.2 = (x, y, z) := by
  set gL := (gains s x y).1 with hgL
  set gR := (gains s x y).2 with hgR
  have hp0 : 0 ≤ gR / (gL + gR) := div_nonneg hg2 hpos.le
  have hp1 : gR / (gL + gR) ≤ 1 := by rw [div_le_one hpos]; linarith
  have hazp : azToP P s (cartToPolarIn P s x y z).1 = gR / (gL + gR) := by
    dsimp only [azToP]
    rw [hrel, az_warp_right_inv _ _ _ hw0 hw hp0 hp1]
  have hel : elToCart P (cartToPolarIn P s x y z).2.1 (cartToPolarIn P s x y z).2.2 = (z, gL + gR) := by
    unfold cartToPolarIn
    exact el_warp_inv_cart P hT hT90 hTt hTt90 z (gL + gR) hpos
  unfold polarToCartIn
  rw [hazp, hel]
  simp only
  have hc := combination_gains s hdet x y
  rw [← hgL, ← hgR] at hc
  have hne : gL + gR ≠ 0 := hpos.ne'
  congr 1
  · rw [← hc.1]; field_simp; ring
  · congr 1
    rw [← hc.2]; field_simp; ring

end Earverif.Conv
