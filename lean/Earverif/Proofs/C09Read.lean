/-
Reading back what the writer model produced (C09 / C17): the written byte groups as `Chunk`s, `readFmt` / `readChna`
on them; what a chunk list holds under an id (`Holds`: no chunk, or exactly one, with this body) and the reader's
result after the walk over any chunk list in those terms (`finishRead_chunks`); what the writer's chunk list holds
(`bodyC_holds`), hence the reader's result on it (`finishRead_written`); `readRiff` / `readDs64` / `readHead` on the two
complete header layouts (their truncated forms are in `Proofs/C17.lean`).
-/
import Earverif.Proofs.C09Layout

namespace Earverif.Bw64

theorem forall_mem_ite {α : Type} {P : α → Prop} {c : Bool} {a b : List α} (ha : ∀ x ∈ a, P x) (hb : ∀ x ∈ b, P x) :
    ∀ x ∈ (if c then a else b), P x := by cases c <;> simpa

def fmtPayload (f : Fmt) : Bytes :=
  le 2 1 ++ le 2 f.channels ++ le 4 f.rate ++ le 4 f.bytesPerSecond ++ le 2 f.blockAlign ++ le 2 f.bits

def junkC : Chunk := ⟨idJUNK, 28, le 8 0 ++ le 8 0 ++ le 8 0 ++ le 4 0, []⟩
def fmtC (f : Fmt) : Chunk := ⟨idFmt, 16, fmtPayload f, []⟩
def chnaC (es : List ChnaEntry) : Chunk := ⟨idChna, (chnaPayload es).length, chnaPayload es, []⟩
def metaC (id v : Bytes) : Chunk := ⟨id, v.length, v, pad v.length⟩
/-- the data chunk; `dp` is the pad actually present (`pad data.length` in a finalised file, nothing in a
file cut right after the last sample byte) -/
def dataC (szField : Nat) (data dp : Bytes) : Chunk := ⟨idData, szField, data, dp⟩

def optChnaC : Option (List ChnaEntry) → List Chunk
  | some es => [chnaC es]
  | none => []

def optMetaC (id : Bytes) : Option Bytes → List Chunk
  | some (x :: xs) => [metaC id (x :: xs)]
  | _ => []

def preC (c0 : Option (List ChnaEntry)) (a0 b0 : Option Bytes) : List Chunk :=
  optChnaC c0 ++ (optMetaC idAxml a0 ++ optMetaC idBext b0)

def lateC (cw aw bw : Bool) (c : Option (List ChnaEntry)) (a b : Option Bytes) : List Chunk :=
  (if cw then [] else optChnaC c) ++ ((if aw then [] else optMetaC idAxml a) ++ (if bw then [] else optMetaC idBext b))

/-- A chna entry the writer can pack and the reader takes back silently: index fits 16 bits, 38 further
bytes, and an `AC_` reference carries the `_00` suffix (always true of `AudioID.asByteArray`). -/
def ChnaEntry.OK (e : ChnaEntry) : Prop :=
  e.trackIndex < 2 ^ 16 ∧ e.rest.length = 38 ∧
    ¬ ((((e.enc.drop 14).take 14).take 3 = acPrefix) ∧ (((e.enc.drop 14).take 14).drop 11 ≠ suffix00))

def ChnaOK : Option (List ChnaEntry) → Prop
  | none => True
  | some es => es.length < 2 ^ 16 ∧ ∀ e ∈ es, e.OK

def BytesOK : Option Bytes → Prop
  | none => True
  | some v => v.length < 2 ^ 32

theorem ChnaEntry.enc_length {e : ChnaEntry} (h : e.OK) : e.enc.length = 40 := by
  simp [ChnaEntry.enc, le_length, h.2.1]

theorem entries_length (es : List ChnaEntry) (h : ∀ e ∈ es, e.OK) :
    (es.map ChnaEntry.enc).flatten.length = 40 * es.length := by
  induction es with
  | nil => rfl
  | cons e es ih =>
    simp only [List.map_cons, List.flatten_cons, List.length_append, List.length_cons]
    rw [ih (fun x hx => h x (by simp [hx])), ChnaEntry.enc_length (h e (by simp))]; omega

theorem chnaPayload_length (es : List ChnaEntry) (h : ∀ e ∈ es, e.OK) :
    (chnaPayload es).length = 4 + 40 * es.length := by
  simp [chnaPayload, le_length, entries_length es h]; omega

theorem junkChunk_eq : junkChunk = junkC.enc := by decide
theorem fmtChunk_eq (f : Fmt) : fmtChunk f = (fmtC f).enc := by
  simp [fmtChunk, fmtC, Chunk.enc, fmtPayload]
theorem metaChunk_eq (id v : Bytes) : metaChunk id v = (metaC id v).enc := by
  simp [metaChunk, metaC, Chunk.enc]
theorem chnaChunk_eq (es : List ChnaEntry) : chnaChunk es = (chnaC es).enc := by
  simp [chnaChunk, chnaC, Chunk.enc]

theorem optChnaB_eq (c : Option (List ChnaEntry)) : optChnaB c = encAll (optChnaC c) := by
  cases c with
  | none => rfl
  | some es => simp [optChnaB, optChnaC, chnaChunk_eq es]

theorem optMetaB_eq (id : Bytes) (v : Option Bytes) : optMetaB id v = encAll (optMetaC id v) := by
  rcases v with _ | _ | ⟨x, xs⟩ <;> simp [optMetaB, optMetaC, metaChunk_eq]

theorem preB_eq (c0 : Option (List ChnaEntry)) (a0 b0 : Option Bytes) :
    preB c0 a0 b0 = encAll (preC c0 a0 b0) := by
  simp [preB, preC, optChnaB_eq, optMetaB_eq]

theorem lateB_eq (cw aw bw : Bool) (c : Option (List ChnaEntry)) (a b : Option Bytes) :
    lateB cw aw bw c a b = encAll (lateC cw aw bw c a b) := by
  cases cw <;> cases aw <;> cases bw <;> simp [lateB, lateC, optChnaB_eq, optMetaB_eq]

theorem countDistinct_le (l : List Nat) : countDistinct l ≤ l.length := by
  induction l with
  | nil => simp [countDistinct]
  | cons x xs ih => simp only [countDistinct, List.length_cons]; split <;> omega

theorem numTracks_le (es : List ChnaEntry) : numTracks es ≤ es.length := by
  have := countDistinct_le (es.map (·.trackIndex)); simpa [numTracks] using this

theorem junkC_ok : junkC.OK none := ⟨by decide, by decide, by decide, by decide, by decide, by decide⟩

theorem isPlaceholder_of_ne (ds : Option Ds64) {id : Bytes} (sz : Nat) (h : id ≠ idData) :
    isPlaceholder ds id sz = false := by
  cases ds <;> simp [isPlaceholder, h]

section
-- the ds64 chunk the writer makes has an empty table, so only the `data` size is substituted
variable (ds : Option Ds64) (hds : ∀ d, ds = some d → d.table = [])
include hds

theorem Chunk.ok_of_ne {c : Chunk} (hid : c.id.length = 4) (hv : validId c.id = true) (hne : c.id ≠ idData)
    (hsz : c.body.length < 2 ^ 32) (hf : c.szField = c.body.length) (hp : c.padB.length = c.body.length % 2) :
    c.OK ds := by
  refine ⟨hid, hv, hf ▸ hsz, ?_, hp, isPlaceholder_of_ne ds _ hne⟩
  cases ds with
  | none => exact hf
  | some d => simp [effSize, hdrSize, Ds64.lookup, hds d rfl, hne, hf]

theorem fmtC_ok (f : Fmt) : (fmtC f).OK ds :=
  Chunk.ok_of_ne ds hds rfl rfl (by simp only [fmtC]; decide) (by show 16 < 2 ^ 32; decide) rfl
    (by simp [fmtC, fmtPayload, le_length])

theorem metaC_ok {id v : Bytes} (hid : id = idAxml ∨ id = idBext) (hv : v.length < 2 ^ 32) : (metaC id v).OK ds := by
  rcases hid with rfl | rfl <;>
    exact Chunk.ok_of_ne ds hds rfl rfl (by simp only [metaC]; decide) hv rfl (pad_length _)

theorem chnaC_ok {es : List ChnaEntry} (h : ChnaOK (some es)) : (chnaC es).OK ds := by
  have hl : (chnaC es).body.length = 4 + 40 * es.length := chnaPayload_length es h.2
  have := h.1
  exact Chunk.ok_of_ne ds hds rfl rfl (by simp only [chnaC]; decide) (by omega) rfl (by rw [hl]; show 0 = _; omega)

theorem optChnaC_ok {c : Option (List ChnaEntry)} (h : ChnaOK c) : ∀ x ∈ optChnaC c, x.OK ds := by
  cases c with
  | none => simp [optChnaC]
  | some es => simp [optChnaC]; exact chnaC_ok ds hds h

theorem optMetaC_ok {id : Bytes} {v : Option Bytes} (hid : id = idAxml ∨ id = idBext) (hv : BytesOK v) :
    ∀ x ∈ optMetaC id v, x.OK ds := by
  rcases v with _ | _ | ⟨x, xs⟩
  · simp [optMetaC]
  · simp [optMetaC]
  · simp [optMetaC]; exact metaC_ok ds hds hid hv

theorem preC_ok {c0 : Option (List ChnaEntry)} {a0 b0 : Option Bytes} (hc : ChnaOK c0) (ha : BytesOK a0)
    (hb : BytesOK b0) : ∀ x ∈ preC c0 a0 b0, x.OK ds := by
  simp only [preC, List.forall_mem_append]
  exact ⟨optChnaC_ok ds hds hc, optMetaC_ok ds hds (Or.inl rfl) ha, optMetaC_ok ds hds (Or.inr rfl) hb⟩

theorem lateC_ok {c : Option (List ChnaEntry)} {a b : Option Bytes} (cw aw bw : Bool) (hc : ChnaOK c)
    (ha : BytesOK a) (hb : BytesOK b) : ∀ x ∈ lateC cw aw bw c a b, x.OK ds := by
  simp only [lateC, List.forall_mem_append]
  exact ⟨forall_mem_ite (by simp) (optChnaC_ok ds hds hc), forall_mem_ite (by simp) (optMetaC_ok ds hds (Or.inl rfl) ha),
    forall_mem_ite (by simp) (optMetaC_ok ds hds (Or.inr rfl) hb)⟩

end

theorem dataC_ok {ds : Option Ds64} {sz : Nat} {data : Bytes} (hsz : sz < 2 ^ 32)
    (hsize : hdrSize ds idData sz = data.length) (hnp : isPlaceholder ds idData sz = false) :
    (dataC sz data (pad data.length)).OK ds :=
  ⟨rfl, by simp only [dataC]; decide, hsz, hsize, pad_length _, hnp⟩

/-- A format the writer can pack and `FormatInfoChunk` accepts: PCM 16/24/32 bit, at least one channel,
positive rate, every field within its `struct` width. -/
structure FmtOK (f : Fmt) : Prop where
  bits : f.bits = 16 ∨ f.bits = 24 ∨ f.bits = 32
  ch : 1 ≤ f.channels
  rate : 1 ≤ f.rate
  chLt : f.channels < 2 ^ 16
  rateLt : f.rate < 2 ^ 32
  bpsLt : f.bytesPerSecond < 2 ^ 32
  baLt : f.blockAlign < 2 ^ 16

theorem readFmt_spec {f : Bytes} {pos : Nat} {fmt : Fmt} (hok : FmtOK fmt)
    (h : readAt f (pos + 8) 16 = fmtPayload fmt) :
    readFmt f 16 pos = .ok ⟨1, fmt.channels, fmt.rate, fmt.bits⟩ := by
  obtain ⟨hb, hc, hr, hcl, hrl, hbl, hal⟩ := hok
  -- the six fields: `fmtPayload` and `le` unfold to the sixteen bytes, so each `fromLE_le…` applies as it stands
  have e0 : (fmtPayload fmt).length = 16 := rfl
  have e1 : fromLE ((fmtPayload fmt).take 2) = 1 := rfl
  have e2 : fromLE (((fmtPayload fmt).drop 2).take 2) = fmt.channels := fromLE_le2 _ hcl
  have e3 : fromLE (((fmtPayload fmt).drop 4).take 4) = fmt.rate := fromLE_le4 _ hrl
  have e4 : fromLE (((fmtPayload fmt).drop 8).take 4) = fmt.bytesPerSecond := fromLE_le4 _ hbl
  have e5 : fromLE (((fmtPayload fmt).drop 12).take 2) = fmt.blockAlign := fromLE_le2 _ hal
  have e6 : fromLE (((fmtPayload fmt).drop 14).take 2) = fmt.bits := fromLE_le2 _ (by rcases hb with h | h | h <;> rw [h] <;> decide)
  simp only [readFmt, h, e0, e1, e2, e3, e4, e5, e6]
  have hbits : ¬ (fmt.bits ≠ 16 ∧ fmt.bits ≠ 24 ∧ fmt.bits ≠ 32) :=
    fun ⟨h1, h2, h3⟩ => hb.elim h1 (fun h => h.elim h2 h3)
  have hbps : ¬ (fmt.bytesPerSecond ≠ 0 ∧ fmt.bytesPerSecond ≠ fmt.rate * (fmt.channels * fmt.bits / 8)) :=
    fun h => h.2 rfl
  have hba : ¬ (fmt.blockAlign ≠ 0 ∧ fmt.blockAlign ≠ fmt.channels * fmt.bits / 8) := fun h => h.2 rfl
  have hch : ¬ (fmt.channels < 1) := by omega
  have hrate : ¬ (fmt.rate < 1) := by omega
  simp [hbits, hbps, hba, hch, hrate]

theorem readChnaEntries_spec (f : Bytes) (es : List ChnaEntry) (h : ∀ e ∈ es, e.OK) :
    ∀ (A R : Bytes) (acc : List ChnaEntry) (w : List Warn),
      f = A ++ ((es.map ChnaEntry.enc).flatten ++ R) →
      readChnaEntries f es.length A.length acc w = .ok (acc ++ es, w) := by
  induction es with
  | nil => intro A R acc w _; simp [readChnaEntries]
  | cons e es ih =>
    intro A R acc w hf
    have he := h e (by simp)
    have hd : readAt f A.length 40 = e.enc :=
      readAt_mid (r := (es.map ChnaEntry.enc).flatten ++ R) (by simp [hf]) rfl (ChnaEntry.enc_length he)
    have h2 : e.enc.take 2 = le 2 e.trackIndex := by simp [ChnaEntry.enc, le]
    have h3 : e.enc.drop 2 = e.rest := by simp [ChnaEntry.enc, le]
    have hw := he.2.2
    simp only [List.length_cons, readChnaEntries, hd, ChnaEntry.enc_length he, h2, h3,
      fromLE_le2 _ he.1, hw, ↓reduceIte, ne_eq, not_true_eq_false]
    have := ih (fun x hx => h x (by simp [hx])) (A ++ e.enc) R (acc ++ [e]) w (by simp [hf])
    simp only [List.length_append, ChnaEntry.enc_length he] at this
    rw [this]; simp

theorem readChna_spec {f A R : Bytes} {es : List ChnaEntry} {pos : Nat} (h : ChnaOK (some es))
    (hf : f = A ++ (chnaPayload es ++ R)) (hA : A.length = pos + 8) : readChna f pos = .ok (es, []) := by
  have hn := h.1
  have hnt := numTracks_le es
  have hh : readAt f (pos + 8) 4 = le 2 (numTracks es) ++ le 2 es.length :=
    readAt_mid (r := (es.map ChnaEntry.enc).flatten ++ R) (by simp [hf, chnaPayload]) hA (by simp [le_length])
  have h2 : (le 2 (numTracks es) ++ le 2 es.length).take 2 = le 2 (numTracks es) := by simp [le]
  have h3 : (le 2 (numTracks es) ++ le 2 es.length).drop 2 = le 2 es.length := by simp [le]
  have he := readChnaEntries_spec f es h.2 (A ++ (le 2 (numTracks es) ++ le 2 es.length)) R [] []
    (by simp [hf, chnaPayload])
  have hp : (A ++ (le 2 (numTracks es) ++ le 2 es.length)).length = pos + 12 := by
    simp [le_length, hA]
  rw [hp] at he
  simp only [readChna, hh, h2, h3, fromLE_le2 _ hn, fromLE_le2 (numTracks es) (by omega), he]
  simp [le_length]

def NoId (id : Bytes) (cs : List Chunk) : Prop := ∀ x ∈ cs, x.id ≠ id

theorem noId_optMetaC_falsy {id id' : Bytes} {v : Option Bytes} (h : truthy v = false) : NoId id (optMetaC id' v) := by
  rcases v with _ | _ | ⟨x, xs⟩ <;> simp_all [NoId, optMetaC, truthy]

def bodiesOf (id : Bytes) (cs : List Chunk) : List Bytes := (cs.filter (fun c => c.id = id)).map (·.body)

/-- `cs` holds under `id` exactly `o`: no chunk with that id, or exactly one, with body `b`. -/
def Holds (cs : List Chunk) (id : Bytes) (o : Option Bytes) : Prop := bodiesOf id cs = o.toList

@[simp] theorem bodiesOf_nil (id : Bytes) : bodiesOf id [] = [] := rfl

@[simp] theorem bodiesOf_cons (id : Bytes) (c : Chunk) (cs : List Chunk) :
    bodiesOf id (c :: cs) = (if c.id = id then [c.body] else []) ++ bodiesOf id cs := by
  by_cases h : c.id = id <;> simp [bodiesOf, h]

@[simp] theorem bodiesOf_append (id : Bytes) (a b : List Chunk) :
    bodiesOf id (a ++ b) = bodiesOf id a ++ bodiesOf id b := by
  simp [bodiesOf]

theorem bodiesOf_eq_nil {id : Bytes} {cs : List Chunk} : bodiesOf id cs = [] ↔ NoId id cs := by
  simp [bodiesOf, NoId, List.filter_eq_nil_iff]

theorem bodiesOf_eq_singleton {id b : Bytes} : ∀ {cs : List Chunk}, bodiesOf id cs = [b] →
    ∃ A c B, cs = A ++ c :: B ∧ c.id = id ∧ c.body = b ∧ NoId id A ∧ NoId id B
  | [], h => by simp at h
  | c :: cs, h => by
    rw [bodiesOf_cons] at h
    by_cases hc : c.id = id
    · rw [if_pos hc] at h
      simp only [List.singleton_append, List.cons.injEq] at h
      exact ⟨[], c, cs, rfl, hc, h.1, (fun _ hx => nomatch hx), bodiesOf_eq_nil.1 h.2⟩
    · rw [if_neg hc, List.nil_append] at h
      obtain ⟨A, x, B, rfl, h1, h2, h3, h4⟩ := bodiesOf_eq_singleton h
      exact ⟨c :: A, x, B, rfl, h1, h2, List.forall_mem_cons.2 ⟨hc, h3⟩, h4⟩

/-- what the accessors are asked for, as held by a chunk list: one `fmt ` chunk with the written body of `fmt`, one
`data` chunk with body `data`, and under `chna`, `axml`, `bext` one chunk with the given value or none -/
structure Content (cs : List Chunk) (fmt : Fmt) (data : Bytes) (chna : Option (List ChnaEntry))
    (axml bext : Option Bytes) : Prop where
  fmt : Holds cs idFmt (some (fmtPayload fmt))
  data : Holds cs idData (some data)
  chna : Holds cs idChna (chna.map chnaPayload)
  axml : Holds cs idAxml axml
  bext : Holds cs idBext bext

/-! **The reader's table is the dictionary of the chunk list.**  What `tlookup` finds under `id` after the walk over
`cs`: nothing new if `cs` holds no such chunk (`lookup_none`); else the one chunk's size and position, where its body
lies (`lookup_some`); hence what the accessor `chunkData` returns (`Holds.chunkData`). -/

theorem Holds.lookup_none {cs : List Chunk} {id : Bytes} (h : Holds cs id none) (p : Nat) (t : Table) :
    tlookup (walkTable p cs t) id = tlookup t id :=
  tlookup_walkTable_absent id cs (bodiesOf_eq_nil.1 h) p t

section
variable {f pre tail : Bytes} {cs : List Chunk} (hf : f = pre ++ (encAll cs ++ tail)) {id : Bytes}
include hf

theorem Holds.lookup_some {b : Bytes} (h : Holds cs id (some b)) (hid : id.length = 4) (t : Table) :
    ∃ pos P R, tlookup (walkTable pre.length cs t) id = some (b.length, pos) ∧ f = P ++ (b ++ R) ∧ P.length = pos + 8 := by
  obtain ⟨A, c, B, hcs, rfl, rfl, -, hB⟩ := bodiesOf_eq_singleton h
  obtain ⟨h1, P, R, h2, h3⟩ := chunk_found hf hcs hid hB t
  exact ⟨_, P, R, h1, h2, h3⟩

theorem Holds.chunkData {o : Option Bytes} (h : Holds cs id o) (hid : id.length = 4) :
    chunkData f (walkTable pre.length cs []) id = o := by
  cases o with
  | none => simp only [Bw64.chunkData, h.lookup_none, tlookup, Option.map]
  | some b =>
    obtain ⟨A, c, B, rfl, rfl, rfl, -, hB⟩ := bodiesOf_eq_singleton h
    exact chunkData_found hf hid hB []

theorem finishRead_chunks {ff : Bytes} {ds : Option Ds64} {w : List Warn} {fmt : Fmt} {data : Bytes}
    {chna : Option (List ChnaEntry)} {axml bext : Option Bytes} (hfmt : FmtOK fmt) (hchna : ChnaOK chna)
    (H : Content cs fmt data chna axml bext)
    (hds : ∀ d, ds = some d → d.dataSize = data.length) (hdata : data.length % fmt.blockAlign = 0) :
    finishRead f ff ds (walkTable pre.length cs []) w =
      .ok (⟨ff, ⟨1, fmt.channels, fmt.rate, fmt.bits⟩, data.length / fmt.blockAlign, data, chna, axml, bext⟩, w) := by
  obtain ⟨fpos, P1, R1, hf1, hP1, hPl1⟩ := H.fmt.lookup_some hf rfl []
  obtain ⟨dpos, P, R, hd1, hP, hPl⟩ := H.data.lookup_some hf rfl []
  have hf2 : readAt f (fpos + 8) 16 = fmtPayload fmt := readAt_mid hP1 hPl1 rfl
  have hd2 : readAt f (dpos + 8) data.length = data := readAt_mid hP hPl rfl
  have hfr : data.length / fmt.blockAlign * fmt.blockAlign = data.length :=
    Nat.div_mul_cancel (Nat.dvd_of_mod_eq_zero hdata)
  have hfrm : lenBytes ds data.length = data.length := by
    cases ds with
    | none => rfl
    | some d => simp [lenBytes, hds d rfl]
  unfold finishRead
  simp only [hf1, hd1, show (fmtPayload fmt).length = 16 from rfl, readFmt_spec hfmt hf2, H.axml.chunkData hf rfl,
    H.bext.chunkData hf rfl]
  simp only [show fmt.channels * fmt.bits / 8 = fmt.blockAlign from rfl]
  rw [hfrm, hfr, hd2]
  cases chna with
  | none => simp only [H.chna.lookup_none, tlookup, List.append_nil]
  | some es =>
    obtain ⟨cpos, P, R, c1, c2, c3⟩ := H.chna.lookup_some hf rfl []
    simp only [c1, readChna_spec hchna c2 c3, List.append_nil]

end

/-- what ends up in the file for chna: the constructor's value if given, else the value pending at `close` -/
def effChna (c0 cF : Option (List ChnaEntry)) : Option (List ChnaEntry) := if c0.isSome then c0 else cF

theorem chnaOK_effChna {c0 cF : Option (List ChnaEntry)} (h0 : ChnaOK c0) (hF : ChnaOK cF) :
    ChnaOK (effChna c0 cF) := by
  unfold effChna; split <;> assumption

/-- what ends up in the file for axml/bext: the constructor's value if truthy, else the value pending at
`close` if truthy, else nothing -/
def effMeta (v0 vF : Option Bytes) : Option Bytes :=
  if truthy v0 then v0 else if truthy vF then vF else none

/-- the chunks after the fixed header part: `fmt `, constructor chunks, `data`, late chunks -/
def bodyC (fmt : Fmt) (c0 : Option (List ChnaEntry)) (a0 b0 : Option Bytes) (sz : Nat) (data dp : Bytes)
    (cF : Option (List ChnaEntry)) (aF bF : Option Bytes) : List Chunk :=
  fmtC fmt :: (preC c0 a0 b0 ++ dataC sz data dp :: lateC c0.isSome (truthy a0) (truthy b0) cF aF bF)

@[simp] theorem truthy_cons (x : Nat) (xs : Bytes) : truthy (some (x :: xs)) = true := rfl

theorem bodiesOf_optChnaC (id : Bytes) (c : Option (List ChnaEntry)) :
    bodiesOf id (optChnaC c) = if idChna = id then (c.map chnaPayload).toList else [] := by
  cases c <;> by_cases h : idChna = id <;> simp [optChnaC, chnaC, h]

theorem bodiesOf_optMetaC (id id' : Bytes) (v : Option Bytes) :
    bodiesOf id (optMetaC id' v) = if id' = id then (if truthy v then v else none).toList else [] := by
  rcases v with _ | _ | ⟨x, xs⟩ <;> by_cases h : id' = id <;> simp [optMetaC, metaC, truthy, h]

theorem bodiesOf_junk {id : Bytes} {F : List Chunk} (hF : ∀ x ∈ F, x.id = idJUNK) (h : idJUNK ≠ id) :
    bodiesOf id F = [] := bodiesOf_eq_nil.2 fun x hx => hF x hx ▸ h

theorem bodyC_holds {F : List Chunk} (hF : ∀ x ∈ F, x.id = idJUNK) (fmt : Fmt) (c0 : Option (List ChnaEntry))
    (a0 b0 : Option Bytes) (sz : Nat) (data dp : Bytes) (cF : Option (List ChnaEntry)) (aF bF : Option Bytes) :
    Content (F ++ bodyC fmt c0 a0 b0 sz data dp cF aF bF) fmt data (effChna c0 cF) (effMeta a0 aF) (effMeta b0 bF) := by
  have e : ∀ id, bodiesOf id (F ++ bodyC fmt c0 a0 b0 sz data dp cF aF bF) =
      bodiesOf id F ++ ((if idFmt = id then [fmtPayload fmt] else []) ++ ((bodiesOf id (optChnaC c0) ++
        (bodiesOf id (optMetaC idAxml a0) ++ bodiesOf id (optMetaC idBext b0))) ++
        ((if idData = id then [data] else []) ++ ((if c0.isSome then [] else bodiesOf id (optChnaC cF)) ++
        ((if truthy a0 then [] else bodiesOf id (optMetaC idAxml aF)) ++
          (if truthy b0 then [] else bodiesOf id (optMetaC idBext bF))))))) := by
    intro id
    simp only [bodyC, preC, lateC, bodiesOf_append, bodiesOf_cons, apply_ite (bodiesOf id), bodiesOf_nil, fmtC, dataC]
  -- the five ids and JUNK are pairwise distinct (`decide`), so under each id one summand of `e` survives
  refine ⟨?_, ?_, ?_, ?_, ?_⟩ <;> simp only [Holds, e, bodiesOf_optChnaC, bodiesOf_optMetaC]
  · rw [bodiesOf_junk hF (by decide)]; simp (decide := true)
  · rw [bodiesOf_junk hF (by decide)]; simp (decide := true)
  · rw [bodiesOf_junk hF (by decide)]; cases c0 <;> simp (decide := true) [effChna]
  · rw [bodiesOf_junk hF (by decide)]; by_cases h : truthy a0 = true <;> simp (decide := true) [effMeta, h]
  · rw [bodiesOf_junk hF (by decide)]; by_cases h : truthy b0 = true <;> simp (decide := true) [effMeta, h]

section
variable {f pre : Bytes} {F : List Chunk} {fmt : Fmt} {c0 cF : Option (List ChnaEntry)} {a0 b0 aF bF : Option Bytes}
  {sz : Nat} {data dp tail : Bytes}

theorem finishRead_written {ff : Bytes} {ds : Option Ds64} {w : List Warn} (hfmt : FmtOK fmt) (hc0 : ChnaOK c0) (hcF : ChnaOK cF)
    (hf : f = pre ++ (encAll (F ++ bodyC fmt c0 a0 b0 sz data dp cF aF bF) ++ tail))
    (hF : ∀ x ∈ F, x.id = idJUNK)
    (hds : ∀ d, ds = some d → d.dataSize = data.length)
    (hdata : data.length % fmt.blockAlign = 0) :
    finishRead f ff ds (walkTable pre.length (F ++ bodyC fmt c0 a0 b0 sz data dp cF aF bF) []) w =
      .ok (⟨ff, ⟨1, fmt.channels, fmt.rate, fmt.bits⟩, data.length / fmt.blockAlign, data,
            effChna c0 cF, effMeta a0 aF, effMeta b0 bF⟩, w) :=
  finishRead_chunks hf hfmt (chnaOK_effChna hc0 hcF) (bodyC_holds hF fmt c0 a0 b0 sz data dp cF aF bF)
    hds hdata

end

theorem readRiff_ok {f id s4 rest : Bytes} (hf : f = id ++ (s4 ++ (idWAVE ++ rest)))
    (hid : id = idRIFF ∨ id = idBW64) (hs : s4.length = 4) : readRiff f = .ok id := by
  have hidl : id.length = 4 := by rcases hid with rfl | rfl <;> rfl
  have h8 : readAt f 0 8 = id ++ s4 := by
    exact readAt_mid (a := []) (b := id ++ s4) (r := idWAVE ++ rest) (by simp [hf]) rfl (by simp [hidl, hs])
  have h4 : readAt f 8 4 = idWAVE := by
    exact readAt_mid (a := id ++ s4) (b := idWAVE) (r := rest) (by simp [hf]) (by simp [hidl, hs]) rfl
  have ht : (id ++ s4).take 4 = id := by rw [← hidl]; simp
  simp only [readRiff, h8, h4, ht]
  rcases hid with rfl | rfl <;> simp [hs, idRIFF, idRF64, idBW64, idWAVE]

theorem readHead_riff {f s4 rest : Bytes} (hf : f = idRIFF ++ (s4 ++ (idWAVE ++ rest))) (hs : s4.length = 4) :
    readHead f = .ok (idRIFF, none, 12) := by
  simp only [readHead, readRiff_ok hf (Or.inl rfl) hs]
  simp [idRIFF, idRF64, idBW64]

theorem readDs64_ok {f rest : Bytes} {R n : Nat}
    (hf : f = idBW64 ++ (ffff ++ (idWAVE ++ (ds64Chunk R n ++ rest)))) (hR : R < 2 ^ 64) (hn : n < 2 ^ 64) :
    readDs64 f = .ok (⟨R, n, []⟩, 48) := by
  have h8 : readAt f 12 8 = idDs64 ++ le 4 28 := by
    exact readAt_mid (a := idBW64 ++ (ffff ++ idWAVE)) (b := idDs64 ++ le 4 28)
      (r := (le 8 R ++ le 8 n ++ le 8 0 ++ le 4 0) ++ rest) (by simp [hf, ds64Chunk]) rfl rfl
  have h28 : readAt f 20 28 = le 8 R ++ (le 8 n ++ (le 8 0 ++ le 4 0)) := by
    exact readAt_mid (a := idBW64 ++ (ffff ++ (idWAVE ++ (idDs64 ++ le 4 28))))
      (b := le 8 R ++ (le 8 n ++ (le 8 0 ++ le 4 0))) (r := rest)
      (by simp [hf, ds64Chunk]) rfl (by simp [le_length])
  -- the fields of the 28 payload bytes: `take`/`drop` on the unfolded `le`s; `R`, `n` come back because they fit 8 bytes
  have e1 : fromLE ((le 8 R ++ (le 8 n ++ (le 8 0 ++ le 4 0))).take 8) = R := fromLE_le8 R hR
  have e2 : fromLE (((le 8 R ++ (le 8 n ++ (le 8 0 ++ le 4 0))).drop 8).take 8) = n := fromLE_le8 n hn
  have e3 : fromLE (((le 8 R ++ (le 8 n ++ (le 8 0 ++ le 4 0))).drop 24).take 4) = 0 := rfl
  have hl : (le 8 R ++ (le 8 n ++ (le 8 0 ++ le 4 0))).length = 28 := rfl
  have ht : (le 8 R ++ (le 8 n ++ (le 8 0 ++ le 4 0))).take 28 = le 8 R ++ (le 8 n ++ (le 8 0 ++ le 4 0)) := rfl
  have hd4 : (idDs64 ++ le 4 28).take 4 = idDs64 := by decide
  have hd5 : fromLE ((idDs64 ++ le 4 28).drop 4) = 28 := by decide
  simp only [readDs64, h8, hd4, hd5, h28, ht, e1, e2, e3, hl, readDs64Table]
  simp [idDs64, le_length]

theorem readHead_bw64 {f rest : Bytes} {R n : Nat}
    (hf : f = idBW64 ++ (ffff ++ (idWAVE ++ (ds64Chunk R n ++ rest)))) (hR : R < 2 ^ 64) (hn : n < 2 ^ 64) :
    readHead f = .ok (idBW64, some ⟨R, n, []⟩, 48) := by
  simp only [readHead, readRiff_ok hf (Or.inr rfl) rfl, readDs64_ok hf hR hn]
  simp [idRF64, idBW64]

end Earverif.Bw64
