/- C01: the C05 point-source panner, walked over its regenerated table (`pspHandle`), returns — whenever it returns a
   result that is not the zero vector — a non-negative vector of length `nReal` with unit power.  Composition of C05's
   `panner_inherits`, its per-region theorems and its `matVec`/`normalise` lemmas for the downmix wrapper;
   `sumsq_eq_sumSq` bridges the C05 and C01 vector vocabularies; `scatter_two_spec` is for the 0+2+0 wrapper (C01Stereo). -/
import Earverif.Model.GainCalcConcrete
import Earverif.Proofs.C01Sub
import Earverif.Proofs.C01Pipe
import Earverif.Props.C05

namespace Earverif.GainCalc
open Earverif.PointSource (RawLayout RawRegion Region)

/-- binary64 table literals `m · 2^e` as reals (`PointSource.Cover.instOfF2RealCover` is the same function at low
    priority: where both are in scope this one is chosen) -/
noncomputable instance instOfF2Real : PointSource.OfF2 ℝ := ⟨fun x => ((PointSource.f2Rat x : ℚ) : ℝ)⟩

theorem f2Rat_pos (x : PointSource.F2) (h : x.1 > 0) : 0 < PointSource.f2Rat x := by
  unfold PointSource.f2Rat
  split
  · have : (0 : Int) < x.1 * 2 ^ x.2.toNat := Int.mul_pos h (by positivity)
    exact_mod_cast this
  · rw [Rat.mkRat_eq_div]
    apply div_pos
    · exact_mod_cast h
    · positivity

theorem ofF2_pos (x : PointSource.F2) (h : x.1 > 0) : (0 : ℝ) < PointSource.OfF2.ofF2 x := by
  show (0 : ℝ) < ((PointSource.f2Rat x : ℚ) : ℝ)
  exact_mod_cast f2Rat_pos x h

/-! ### the two vocabularies agree over ℝ -/

theorem sumsq_eq_sumSq : ∀ v : List ℝ, PointSource.sumsq v = sumSq v
  | [] => by simp [PointSource.sumsq]
  | x :: xs => by simp [PointSource.sumsq, sumsq_eq_sumSq xs]

/-! ### `quadRoot` returns pan values in [0, 1] -/

theorem acceptRoot_range (r y : ℝ) (h : acceptRoot r = some y) : 0 ≤ y ∧ y ≤ 1 := by
  simp only [acceptRoot] at h
  split at h
  · cases h; simpa using clip_range r (lo := zero) (hi := one) (by simp)
  · exact absurd h (by simp)

theorem quadRoot_range (c : ℝ × ℝ × ℝ) (x : ℝ) (h : quadRoot c = some x) : 0 ≤ x ∧ x ≤ 1 := by
  simp only [quadRoot] at h
  split at h
  · split at h
    · exact absurd h (by simp)
    · exact acceptRoot_range _ _ h
  · split at h
    · split at h
      · exact acceptRoot_range _ _ h
      · exact absurd h (by simp)
    · generalize hq : (if c.2.1 < zero then _ else _ : ℝ) = q at h
      cases h1 : acceptRoot (q / c.1) with
      | some r =>
        simp only [h1, firstSome, Option.some.injEq] at h
        subst h
        exact acceptRoot_range _ _ h1
      | none =>
        simp only [h1, firstSome] at h
        split at h
        · exact absurd h (by simp)
        · exact acceptRoot_range _ _ h

/-! ### `pspHandle` unfolded once: `RawLayout.handle` with a root oracle whose values lie in [0, 1] -/

theorem pspHandle_eq_handle (L : RawLayout) (pos : V3 ℝ) :
    ∃ roots : Nat → Option ℝ × Option ℝ, (∀ k x, (roots k).1 = some x → 0 ≤ x ∧ x ≤ 1) ∧
      (∀ k y, (roots k).2 = some y → 0 ≤ y ∧ y ≤ 1) ∧ pspHandle L pos = L.handle roots pos := by
  cases hmap : L.regions.mapM (RawRegion.toRegion (α := ℝ)) with
  | none => exact ⟨fun _ => (none, none), by simp, by simp, by simp only [pspHandle, RawLayout.handle, hmap]⟩
  | some regions =>
    refine ⟨_, ?_, ?_, by simp only [pspHandle, hmap]; rfl⟩
    · intro k x hx
      split at hx
      · exact quadRoot_range _ x hx
      · exact absurd hx (by simp)
    · intro k y hy
      split at hy
      · exact quadRoot_range _ y hy
      · exact absurd hy (by simp)

/-- `RawLayout.handle` answers iff the regions are built and the inner panner answers `v`; the answer is the normalised
    downmix of `v`, or what the 0+2+0 wrapper makes of it -/
theorem rawHandle_eq_some_iff {L : RawLayout} {roots : Nat → Option ℝ × Option ℝ} {pos : V3 ℝ} {p : List ℝ} :
    L.handle roots pos = some p ↔
    ∃ regions v, L.regions.mapM (RawRegion.toRegion (α := ℝ)) = some regions ∧
      PointSource.PointSourcePanner.handle regions L.nInner roots pos = some v ∧
      (match L.stereo with
        | none => some (PointSource.normalise (PointSource.matVec (L.downmixRows : List (List ℝ)) v))
        | some (l, r) => PointSource.remap [l, r] 2 (PointSource.StereoPanDownmix.handle
            (some (PointSource.normalise (PointSource.matVec (L.downmixRows : List (List ℝ)) v))))) = some p := by
  -- the model's `match` on `stereo` and the one above are different matchers; on `none` / `some (l, r)` both reduce
  constructor
  · intro h
    unfold RawLayout.handle at h
    split at h
    · cases h
    · rename_i regions hmap
      cases hv : PointSource.PointSourcePanner.handle regions L.nInner roots pos with
      | none =>
        rw [hv] at h
        revert h
        rcases L.stereo with _ | ⟨l, r⟩ <;> exact nofun
      | some v =>
        refine ⟨regions, v, hmap, hv, ?_⟩
        rw [hv] at h
        revert h
        rcases L.stereo with _ | ⟨l, r⟩ <;> exact id
  · rintro ⟨regions, v, hmap, hv, hp⟩
    unfold RawLayout.handle
    rw [hmap]
    simp only
    rw [hv]
    revert hp
    rcases L.stereo with _ | ⟨l, r⟩ <;> exact id

/-- the 0+2+0 wrapper's `remap [l, r] 2` -/
theorem scatter_two_spec {l r : Nat} (hl : l < 2) (hr : r < 2) (hne : l ≠ r) {out : List ℝ} (ho : out.length = 2) :
    PointSource.sumsq (PointSource.scatter (PointSource.zeros 2) [l, r] out) = PointSource.sumsq out ∧
    ((∀ x ∈ out, 0 ≤ x) → ∀ x ∈ PointSource.scatter (PointSource.zeros 2) [l, r] out, 0 ≤ x) ∧
    (PointSource.scatter (PointSource.zeros 2) [l, r] out).length = 2 := by
  refine ⟨?_, PointSource.scatter_nonneg _ _ _ (by simp [PointSource.zeros]), by simp [PointSource.scatter_length, PointSource.zeros]⟩
  rw [PointSource.sumsq_scatter [l, r] out _ (by simp [hne]) ho.symm, PointSource.zeros_eq, PointSource.sumsq_replicate_zero,
    zero_add]
  intro i hi
  have hi2 : i < 2 := by
    simp only [List.mem_cons, List.not_mem_nil, or_false] at hi
    rcases hi with rfl | rfl <;> assumption
  exact ⟨by simpa [PointSource.zeros] using hi2, PointSource.getD_zeros 2 i⟩

/-! ### regions of a well-formed table -/

theorem region_nonneg (n : Nat) (raw : RawRegion) (hw : raw.wellFormed n = true) (reg : Region ℝ)
    (hreg : raw.toRegion = some reg) (x y : Option ℝ) (hx : ∀ v, x = some v → 0 ≤ v ∧ v ≤ 1)
    (hy : ∀ v, y = some v → 0 ≤ v ∧ v ≤ 1) (p : PointSource.Vec3 ℝ) (g : List ℝ)
    (h : PointSource.remap reg.channels n (reg.handle (x, y) p) = some g) : ∀ v ∈ g, 0 ≤ v := by
  simp only [PointSource.remap, Option.map_eq_some_iff] at h
  obtain ⟨vals, hvals, rfl⟩ := h
  refine PointSource.scatter_nonneg _ _ _ (PointSource.zeros_nonneg n) ?_
  have hk := hw
  simp only [RawRegion.wellFormed, Bool.and_eq_true] at hk
  replace hk := hk.2
  rcases PointSource.Cover.toRegion_cases hw with ⟨a, b, c, _, _, ht⟩ | ⟨hkind, ht⟩ | ⟨hkind, ht⟩ <;>
    (rw [ht] at hreg; cases hreg; simp only [Region.handle] at hvals)
  · -- triplet
    obtain ⟨gv, hgv, rfl⟩ := Option.map_eq_some_iff.mp hvals
    exact PointSource.vecList_nonneg (PointSource.triplet_nonneg _ _ _ hgv)
  · -- ngon
    refine (PointSource.ngon_nonneg_unit _ p vals ?_ hvals).1
    intro d hd
    obtain ⟨f, hf, rfl⟩ := List.mem_map.mp hd
    simp only [hkind, Bool.and_eq_true, List.all_eq_true, decide_eq_true_eq] at hk
    exact (ofF2_pos f (hk.2 f hf)).le
  · -- quad
    simp only [hkind, Bool.and_eq_true] at hk
    cases x with
    | none => simp [PointSource.QuadRegion.handle] at hvals
    | some xv =>
      cases y with
      | none => simp [PointSource.QuadRegion.handle] at hvals
      | some yv =>
        exact (PointSource.quad_nonneg_unit _ p xv yv vals hk.2 (hx xv rfl).1 (hx xv rfl).2 (hy yv rfl).1 (hy yv rfl).2
          hvals).1

theorem downmixRows_nonneg (L : RawLayout) (hd : L.downmixOk = true) :
    ∀ row ∈ (L.downmixRows : List (List ℝ)), ∀ x ∈ row, 0 ≤ x := by
  intro row hrow x hx
  simp only [RawLayout.downmixRows, List.mem_map] at hrow
  obtain ⟨i, _, rfl⟩ := hrow
  simp only [List.mem_map] at hx
  obtain ⟨j, _, rfl⟩ := hx
  split
  · rename_i e he
    have hmem := List.mem_of_find?_eq_some he
    simp only [RawLayout.downmixOk, Bool.and_eq_true, List.all_eq_true, decide_eq_true_eq] at hd
    exact (ofF2_pos e.2.2 (hd.1.1.2 e hmem).2).le
  · simp

theorem wellFormed_downmixOk {L : RawLayout} (h : L.wellFormed = true) : L.downmixOk = true := by
  simp only [RawLayout.wellFormed, Bool.and_eq_true] at h
  exact h.1.2

theorem panner_nonneg (L : RawLayout) (hwf : L.wellFormed = true) {regions : List (Region ℝ)}
    (hmap : L.regions.mapM (RawRegion.toRegion (α := ℝ)) = some regions) {roots : Nat → Option ℝ × Option ℝ}
    (hr1 : ∀ k x, (roots k).1 = some x → 0 ≤ x ∧ x ≤ 1) (hr2 : ∀ k y, (roots k).2 = some y → 0 ≤ y ∧ y ≤ 1)
    {pos : V3 ℝ} {v : List ℝ} (hv : PointSource.PointSourcePanner.handle regions L.nInner roots pos = some v) :
    ∀ x ∈ v, 0 ≤ x := by
  refine PointSource.panner_inherits regions L.nInner _ pos (fun g => ∀ x ∈ g, 0 ≤ x) ?_ v hv
  intro kk hk g hg
  obtain ⟨raw, hraw, hreg⟩ := mapM_some_mem_rev hmap regions[kk] (List.getElem_mem hk)
  exact region_nonneg L.nInner raw (PointSource.Cover.region_wf hwf hraw) regions[kk] hreg _ _ (hr1 kk) (hr2 kk) pos g hg

theorem pspHandle_contract (L : RawLayout) (hwf : L.wellFormed = true) (hst : L.stereo = none) (pos : V3 ℝ) (p : List ℝ)
    (h : pspHandle L pos = some p) (hnz : ∃ x ∈ p, x ≠ 0) : p.length = L.nReal ∧ Nonneg p ∧ sumSq p = 1 := by
  obtain ⟨roots, hr1, hr2, he⟩ := pspHandle_eq_handle L pos
  obtain ⟨regions, v, hmap, hv, hp⟩ := rawHandle_eq_some_iff.mp (he ▸ h)
  rw [hst] at hp
  obtain rfl := Option.some.inj hp
  have hmv := PointSource.matVec_nonneg (downmixRows_nonneg L (wellFormed_downmixOk hwf))
    (panner_nonneg L hwf hmap hr1 hr2 hv)
  have hne : PointSource.sumsq (PointSource.matVec (L.downmixRows : List (List ℝ)) v) ≠ 0 := by
    intro h0
    obtain ⟨x, hx, hx0⟩ := hnz
    obtain ⟨y, hy, rfl⟩ := List.mem_map.mp hx
    rw [PointSource.sumsq_eq_zero h0 y hy] at hx0
    simp at hx0
  refine ⟨by simp [PointSource.normalise, PointSource.matVec, RawLayout.downmixRows], ?_, ?_⟩
  · exact fun x hx => PointSource.normalise_nonneg hmv x hx
  · rw [← sumsq_eq_sumSq]
    exact PointSource.sumsq_normalise hne

end Earverif.GainCalc
