/-
The rational-number step of the decimal time round trip (C08): uses Mathlib for `ℚ` algebra and
for the little number theory behind `placesBound`.  Also `unparse_time` seen through the value of the time
(`valueBranch`, `unparseTime_value`).
-/
import Mathlib.Tactic.FieldSimp
import Mathlib.Tactic.Ring
import Mathlib.Tactic.Positivity
import Mathlib.Algebra.Order.Field.Rat
import Mathlib.Tactic.LinearCombination
import Mathlib.Data.Rat.Defs
import Mathlib.Data.Nat.Prime.Basic
import Earverif.Proofs.C08Time

namespace Earverif.TimeFormat
open Earverif.Digits

/-- a denominator that divides a power of ten divides `10 ^ placesBound d`: long division never
needs more than `log2 d + 1` places -/
theorem dvd_pow_placesBound (d k : ℕ) (h : d ∣ 10 ^ k) : d ∣ 10 ^ placesBound d := by
  rw [show (10 : ℕ) = 2 * 5 by rfl, Nat.mul_pow] at h
  obtain ⟨a, b, ha, hb, rfl⟩ := Nat.dvd_mul.mp h
  obtain ⟨i, _, rfl⟩ := (Nat.dvd_prime_pow Nat.prime_two).mp ha
  obtain ⟨j, _, rfl⟩ := (Nat.dvd_prime_pow Nat.prime_five).mp hb
  unfold placesBound
  -- both exponents are below the bit length of `2^i * 5^j`, since `2^i` and `2^j ≤ 5^j` are factors of it
  have hlt := @Nat.lt_log2_self (2 ^ i * 5 ^ j)
  have hi : 2 ^ i < 2 ^ ((2 ^ i * 5 ^ j).log2 + 1) :=
    lt_of_le_of_lt (Nat.le_mul_of_pos_right _ (Nat.pow_pos (by omega))) hlt
  have hj : 2 ^ j < 2 ^ ((2 ^ i * 5 ^ j).log2 + 1) :=
    lt_of_le_of_lt ((Nat.pow_le_pow_left (by omega) j).trans (Nat.le_mul_of_pos_left _ (Nat.pow_pos (by omega)))) hlt
  have hi' := (Nat.pow_lt_pow_iff_right (by omega : 1 < 2)).mp hi
  have hj' := (Nat.pow_lt_pow_iff_right (by omega : 1 < 2)).mp hj
  rw [show (10 : ℕ) = 2 * 5 by rfl, Nat.mul_pow]
  exact Nat.mul_dvd_mul (Nat.pow_dvd_pow 2 (by omega)) (Nat.pow_dvd_pow 5 (by omega))

theorem nonneg_num_den (q : ℚ) (h0 : 0 ≤ q) :
    ∃ num : ℕ, q.num = num ∧ q.num.toNat = num ∧ q = (num : ℚ) / q.den := by
  have hnum0 : 0 ≤ q.num := Rat.num_nonneg.mpr h0
  refine ⟨q.num.toNat, (Int.toNat_of_nonneg hnum0).symm, rfl, ?_⟩
  calc q = (q.num : ℚ) / q.den := (Rat.num_div_den q).symm
    _ = ((q.num.toNat : ℕ) : ℚ) / q.den := by
      congr 1
      have : ((q.num.toNat : ℕ) : ℤ) = q.num := Int.toNat_of_nonneg hnum0
      exact_mod_cast congrArg (fun z : ℤ => (z : ℚ)) this.symm

/-- the value `parseTail` computes from whole seconds `A + B`, `L` decimal places `F`: it is `(w·d + n) / d` when
`F / 10^L` is the expansion of `n / d` -/
theorem decimal_value (A B w d n F P : ℚ) (hd : d ≠ 0) (hP : P ≠ 0) (hAB : A + B = w) (hn : n * P = d * F) :
    A + (B * P + F) / P = (w * d + n) / d := by
  field_simp
  linear_combination (P * d) * hAB - hn

/-- The decimal branch of `unparse_time` prints a time `0 ≤ q < 100 h` with a terminating expansion (`k` places,
coefficient `N` within `Decimal`'s 28 digits: `hN`, `hq` are `C08.ExactDecimal q` of `Props/C08.lean` taken apart), and
`parse_time` reads exactly `q` back. -/
theorem parse_unparseDecimal (q : ℚ) (h0 : 0 ≤ q) (h1 : q < 360000) (k N : ℕ)
    (hN : N < 10 ^ decimalPrec) (hq : q * 10 ^ k = N) :
    ∃ s, unparseDecimal? q = some s ∧ parseTime s = some (.dec q) := by
  obtain ⟨num, hnum, htoNat, hqdiv⟩ := nonneg_num_den q h0
  have hdpos : 0 < q.den := q.den_pos
  have hdq : (q.den : ℚ) ≠ 0 := by exact_mod_cast q.den_nz
  -- `q = num / den` in lowest terms, so `den ∣ 10^k`
  have hcross : num * 10 ^ k = N * q.den := by
    have h := hq
    rw [hqdiv, div_mul_eq_mul_div, div_eq_iff hdq] at h
    exact_mod_cast h
  have hcop : Nat.Coprime q.den num := by
    have := q.reduced
    rw [hnum] at this
    simpa using this.symm
  have hd10 : q.den ∣ 10 ^ k :=
    hcop.dvd_of_dvd_mul_left ⟨N, by rw [hcross, Nat.mul_comm]⟩
  -- so the digits `ds` of the fractional part end within `placesBound` places, and within `k` (minimality)
  have hdL := dvd_pow_placesBound q.den k hd10
  have hn : num % q.den < q.den := Nat.mod_lt _ hdpos
  obtain ⟨ds, hds⟩ := fracDigits_complete q.den (placesBound q.den) (num % q.den) hn
    (Dvd.dvd.mul_left hdL _)
  obtain ⟨hall, hval, hmin⟩ := fracDigits_spec q.den _ _ _ hds hn
  have hlen := hmin k (Dvd.dvd.mul_left hd10 _)
  -- the printed coefficient divides `N`, so it fits `Decimal`'s precision
  have hC := mul_eq_of_mod_mul_eq q.den num _ _ hval
  have hCN : num / q.den * 10 ^ ds.length + ofDigits 10 ds ≤ N := by
    have e : 10 ^ k = 10 ^ ds.length * 10 ^ (k - ds.length) := by
      rw [← Nat.pow_add]; congr 1; omega
    have : q.den * ((num / q.den * 10 ^ ds.length + ofDigits 10 ds) * 10 ^ (k - ds.length)) = q.den * N := by
      rw [← Nat.mul_assoc, ← hC, Nat.mul_assoc, ← e, hcross, Nat.mul_comm]
    have := Nat.eq_of_mul_eq_mul_left hdpos this
    rw [← this]
    exact Nat.le_mul_of_pos_right _ (by positivity)
  have hfit : num / q.den * 10 ^ ds.length + ofDigits 10 ds < 10 ^ decimalPrec := by omega
  have hw : num / q.den < 360000 := by
    rw [hqdiv, div_lt_iff₀ (by exact_mod_cast hdpos)] at h1
    exact Nat.div_lt_of_lt_mul (by rw [Nat.mul_comm]; exact_mod_cast h1)
  -- what `parseTail` computes from the whole part and `L` places of value `F` is `q`
  have key : ∀ L F : ℕ, num % q.den * 10 ^ L = q.den * F →
      ((((num / q.den / 60 / 60 * 60 + num / q.den / 60 % 60) * 60 : ℕ) : ℤ) : ℚ) +
        mkRat ((num / q.den % 60 * 10 ^ L + F : ℕ) : ℤ) (10 ^ L) = q := by
    intro L F h
    have hrec := whole_recompose (num / q.den)
    have hnumq : (num : ℚ) = (num / q.den : ℕ) * q.den + (num % q.den : ℕ) := by
      exact_mod_cast (Nat.div_add_mod' num q.den).symm
    have hF : ((num % q.den : ℕ) : ℚ) * 10 ^ L = q.den * (F : ℕ) := by exact_mod_cast h
    rw [Rat.mkRat_eq_div]
    generalize q.den = d at *
    rw [hqdiv, hnumq]
    generalize num / d = w at *
    generalize num % d = n at *
    generalize (w / 60 / 60 * 60 + w / 60 % 60) * 60 = A at *
    generalize w % 60 = B at *
    push_cast
    exact decimal_value _ _ _ _ _ _ _ hdq (by positivity) (by exact_mod_cast hrec) hF
  refine ⟨wholePart (num / q.den) ++ '.' :: (if ds = [] then ['0'] else ds.map decChar), ?_, ?_⟩
  · unfold unparseDecimal?
    simp only [htoNat, hds, hfit, if_true]
  · rw [parseTime_wholePart _ hw]
    unfold parseTail
    by_cases hnil : ds = []
    · subst hnil
      have hn0 : num % q.den = 0 := by simpa [ofDigits] using hval
      have hd1 := digits1_append ['0'] [] (by decide) (by decide) (Or.inl rfl)
      rw [List.append_nil] at hd1
      simp only [if_true, hd1, Option.bind_eq_bind, Option.bind_some]
      congr 2
      exact key 1 0 (by rw [hn0, Nat.zero_mul, Nat.mul_zero])
    · have hne : ds.map decChar ≠ [] := by simpa using hnil
      have hd1 := digits1_append (ds.map decChar) [] (map_decChar_all_dec ds hall) hne (Or.inl rfl)
      rw [List.append_nil] at hd1
      simp only [hnil, if_false, hd1, Option.bind_eq_bind, Option.bind_some, List.length_map,
        decNat_map_decChar ds hall]
      congr 2
      exact key ds.length (ofDigits 10 ds) hval

theorem lt_mul_of_mkRat_lt (n d c : ℕ) (hd : 0 < d) (h : (mkRat n d : ℚ) < c) : n < c * d := by
  rw [Rat.mkRat_eq_div, div_lt_iff₀ (by exact_mod_cast hd)] at h
  exact_mod_cast h

/-- the value-based branch of `unparse_time` (everything except an explicit `FractionalTime` in v2) -/
def valueBranch (af : Bool) (q : ℚ) : Unparsed :=
  if q < 0 then .negative
  else match unparseDecimal? q with
    | some s => .ok s
    | none => if af then .ok (unparseFractional q.num.toNat q.den) else .lossy

theorem unparseTime_value (af : Bool) (t0 : Time) (hnf : af = true → ∀ n d, t0 ≠ .frac n d) :
    unparseTime af t0 = valueBranch af t0.value := by
  cases af <;> cases t0
  · rfl
  · rfl
  · rfl
  · exact absurd rfl (hnf rfl _ _)

end Earverif.TimeFormat
