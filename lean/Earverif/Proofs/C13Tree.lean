/-
C13 — `_speaker_tree` on pairwise distinct positions builds a sorted grid (`RowS`, `PlaneS`, `TreeS`) whose leaves are
the `(index, position)` pairs of the input, over ℝ with the `GainCalc.Scalar ℝ` instance of `Proofs/C01Real.lean`.  The three
levels of insertion are one scheme (`sortedInsert_spec`).
-/
import Earverif.Model.CartLock
import Earverif.Proofs.C01Real

namespace Earverif.C13
open Earverif.Zone Earverif.CartLock
open Earverif.GainCalc (Leaf)

/-- key of a row: the y of its first leaf (`stz[yy][0][1][1]`) -/
noncomputable def rowKey (row : List (Leaf ℝ)) : ℝ :=
  match row.head? with
  | some h => h.y
  | none => 0

/-- key of a plane: the z of its first row's first leaf (`st[zz][0][0][1][2]`) -/
noncomputable def planeKey (pl : List (List (Leaf ℝ))) : ℝ :=
  match pl.head?.bind List.head? with
  | some h => h.z
  | none => 0

structure RowS (y z : ℝ) (row : List (Leaf ℝ)) : Prop where
  ne : row ≠ []
  yz : ∀ l ∈ row, l.y = y ∧ l.z = z
  sorted : row.Pairwise fun a b => a.x < b.x

structure PlaneS (z : ℝ) (pl : List (List (Leaf ℝ))) : Prop where
  rows : ∀ r ∈ pl, RowS (rowKey r) z r
  sorted : pl.Pairwise fun a b => rowKey a < rowKey b

structure TreeS (st : GainCalc.Tree ℝ) : Prop where
  planes : ∀ p ∈ st, p ≠ [] ∧ PlaneS (planeKey p) p
  sorted : st.Pairwise fun a b => planeKey a < planeKey b

theorem rowKey_eq {y z : ℝ} {row : List (Leaf ℝ)} (h : RowS y z row) : rowKey row = y := by
  cases row with
  | nil => exact absurd rfl h.ne
  | cons a rest => exact (h.yz a List.mem_cons_self).1

theorem planeKey_eq {z : ℝ} {pl : List (List (Leaf ℝ))} (hne : pl ≠ []) (h : PlaneS z pl) : planeKey pl = z := by
  cases pl with
  | nil => exact absurd rfl hne
  | cons r rest =>
    have hr := h.rows r List.mem_cons_self
    cases r with
    | nil => exact absurd rfl hr.ne
    | cons a as => exact (hr.yz a List.mem_cons_self).2

theorem RowS.singleton (l : Leaf ℝ) : RowS l.y l.z [l] :=
  ⟨List.cons_ne_nil _ _, fun a ha => by rw [List.mem_singleton.mp ha]; exact ⟨rfl, rfl⟩,
    List.pairwise_singleton _ _⟩

theorem PlaneS.singleton (l : Leaf ℝ) : PlaneS l.z [[l]] :=
  ⟨fun r hr => by rw [List.mem_singleton.mp hr]; exact RowS.singleton l, List.pairwise_singleton _ _⟩

def leaves (st : GainCalc.Tree ℝ) : List (Leaf ℝ) := st.flatten.flatten

theorem mem_leaves {a : Leaf ℝ} {st : GainCalc.Tree ℝ} : a ∈ leaves st ↔ ∃ p ∈ st, a ∈ p.flatten := by
  rw [leaves, List.flatten_flatten, List.mem_flatten]
  simp only [List.mem_map, exists_exists_and_eq_and]

section ins
/- The model's insertions take their `Decidable` instances as arguments, and unfolding `renderCartLock` at ℝ supplies
those of `GainCalc.Scalar ℝ`, not `Real`'s own: the lemmas hold for whichever instances turn up. -/
variable [dlt : ∀ a b : ℝ, Decidable (a < b)] [dle : ∀ a b : ℝ, Decidable (a ≤ b)]

omit dlt in
theorem eqK_iff (a b : ℝ) : eqK a b = true ↔ a = b := by
  unfold eqK
  rw [Bool.and_eq_true, decide_eq_true_eq, decide_eq_true_eq]
  exact ⟨fun h => le_antisymm h.1 h.2, fun h => ⟨h.le, h.ge⟩⟩

/-- The x, y and z levels of `_speaker_tree` are one scheme: walk a list of blocks kept strictly
ascending in a key; at a block with the key `k` of the new leaf descend into it (`into`), before
the first block with a larger key put a `fresh` block, at the end append one.  What the scheme
keeps is proved here once, for any `ins` that obeys its equations on blocks satisfying `Good`;
`mem a b` says that leaf `a` lies in block `b`. -/
theorem sortedInsert_spec {β γ : Type} {key : β → ℝ} {k : ℝ} {fresh : β} {into : β → Option β}
    {ins : List β → Option (List β)} {Good : β → Prop} {mem : γ → β → Prop} {l : γ}
    (hnil : ins [] = some [fresh])
    (hcons : ∀ b rest, Good b → ins (b :: rest) =
      if eqK (key b) k then (into b).map (· :: rest)
      else if k < key b then some (fresh :: b :: rest) else (ins rest).map (b :: ·))
    (hkey : key fresh = k) (hgood : Good fresh) (hmem : ∀ a, mem a fresh ↔ a = l) :
    ∀ bs : List β, (bs.Pairwise fun a b => key a < key b) → (∀ b ∈ bs, Good b) →
    (∀ b ∈ bs, key b = k →
      ∃ b', into b = some b' ∧ key b' = k ∧ Good b' ∧ ∀ a, mem a b' ↔ a = l ∨ mem a b) →
    ∃ bs', ins bs = some bs' ∧ (bs'.Pairwise fun a b => key a < key b) ∧ (∀ b ∈ bs', Good b) ∧
      (∀ a, (∃ b ∈ bs', mem a b) ↔ a = l ∨ ∃ b ∈ bs, mem a b) ∧
      (∀ b' ∈ bs', key b' = k ∨ ∃ b ∈ bs, key b' = key b) := by
  intro bs
  induction bs with
  | nil =>
    intro _ _ _
    refine ⟨[fresh], hnil, List.pairwise_singleton _ _, ?_, ?_, ?_⟩
    · exact List.forall_mem_singleton.mpr hgood
    · intro a; simp only [List.mem_singleton, exists_eq_left, hmem a, List.not_mem_nil, false_and,
        exists_false, or_false]
    · exact List.forall_mem_singleton.mpr (.inl hkey)
  | cons b rest ih =>
    intro hs hg hin
    rw [List.pairwise_cons] at hs
    have hgb : Good b := hg b List.mem_cons_self
    have hgr : ∀ c ∈ rest, Good c := fun c hc => hg c (List.mem_cons_of_mem _ hc)
    rw [hcons b rest hgb]
    by_cases he : key b = k
    · obtain ⟨b', hb', hk', hg', hm'⟩ := hin b List.mem_cons_self he
      rw [if_pos ((eqK_iff _ _).mpr he), hb']
      refine ⟨b' :: rest, rfl, ?_, ?_, ?_, ?_⟩
      · exact List.pairwise_cons.mpr ⟨fun c hc => by rw [hk', ← he]; exact hs.1 c hc, hs.2⟩
      · exact List.forall_mem_cons.mpr ⟨hg', hgr⟩
      · intro a; rw [List.exists_mem_cons_iff, List.exists_mem_cons_iff, hm' a, or_assoc]
      · exact List.forall_mem_cons.mpr ⟨.inr ⟨b, List.mem_cons_self, hk'.trans he.symm⟩,
          fun c hc => .inr ⟨c, List.mem_cons_of_mem _ hc, rfl⟩⟩
    · rw [if_neg (mt (eqK_iff _ _).mp he)]
      by_cases hlt : k < key b
      · rw [if_pos hlt]
        refine ⟨fresh :: b :: rest, rfl, ?_, ?_, ?_, ?_⟩
        · rw [List.pairwise_cons, hkey]
          exact ⟨List.forall_mem_cons.mpr ⟨hlt, fun c hc => hlt.trans (hs.1 c hc)⟩,
            List.pairwise_cons.mpr hs⟩
        · exact List.forall_mem_cons.mpr ⟨hgood, hg⟩
        · intro a; rw [List.exists_mem_cons_iff, hmem a]
        · exact List.forall_mem_cons.mpr ⟨.inl hkey, fun c hc => .inr ⟨c, hc, rfl⟩⟩
      · obtain ⟨rest', hr', hs', hg', hm', hk'⟩ :=
          ih hs.2 hgr (fun c hc => hin c (List.mem_cons_of_mem _ hc))
        rw [if_neg hlt, hr']
        refine ⟨b :: rest', rfl, ?_, ?_, ?_, ?_⟩
        · refine List.pairwise_cons.mpr ⟨fun c hc => ?_, hs'⟩
          rcases hk' c hc with h | ⟨c0, hc0, h⟩
          · rw [h]; exact lt_of_le_of_ne (not_lt.mp hlt) he
          · rw [h]; exact hs.1 c0 hc0
        · exact List.forall_mem_cons.mpr ⟨hgb, hg'⟩
        · intro a; rw [List.exists_mem_cons_iff, List.exists_mem_cons_iff, hm' a, or_left_comm]
        · refine List.forall_mem_cons.mpr ⟨.inr ⟨b, List.mem_cons_self, rfl⟩, fun c hc => ?_⟩
          rcases hk' c hc with h | ⟨c0, hc0, h⟩
          · exact .inl h
          · exact .inr ⟨c0, List.mem_cons_of_mem _ hc0, h⟩

theorem insRow_RowS (l : Leaf ℝ) (y z : ℝ) (row : List (Leaf ℝ)) (h : RowS y z row) (hy : l.y = y) (hz : l.z = z)
    (hd : ∀ a ∈ row, a.x ≠ l.x) :
    ∃ row', insRow l row = some row' ∧ RowS y z row' ∧ ∀ a, a ∈ row' ↔ a = l ∨ a ∈ row := by
  obtain ⟨row', hr', hs', _, hm', _⟩ := sortedInsert_spec (key := Leaf.x) (into := fun _ => none)
    (ins := insRow l) (Good := fun _ => True) (mem := fun a b => a = b) (l := l)
    rfl (fun _ _ _ => rfl) rfl trivial (fun _ => Iff.rfl)
    row h.sorted (fun _ _ => trivial) (fun b hb hk => absurd hk (hd b hb))
  simp only [exists_eq_right'] at hm'
  refine ⟨row', hr', ⟨List.ne_nil_of_mem ((hm' l).mpr (.inl rfl)), fun a ha => ?_, hs'⟩, hm'⟩
  rcases (hm' a).mp ha with rfl | ha
  · exact ⟨hy, hz⟩
  · exact h.yz a ha

theorem insPlane_spec (l : Leaf ℝ) (z : ℝ) (hz : l.z = z) (pl : List (List (Leaf ℝ))) (hp : PlaneS z pl)
    (hd : ∀ r ∈ pl, ∀ a ∈ r, ¬(a.x = l.x ∧ a.y = l.y)) :
    ∃ pl', insPlane l pl = some pl' ∧ PlaneS z pl' ∧ ∀ a, a ∈ pl'.flatten ↔ a = l ∨ a ∈ pl.flatten := by
  subst hz
  obtain ⟨pl', hpl', hs', hg', hm', _⟩ := sortedInsert_spec (key := rowKey) (k := l.y) (fresh := [l])
    (into := insRow l) (ins := insPlane l) (Good := fun r => RowS (rowKey r) l.z r)
    (mem := fun a r => a ∈ r) (l := l) rfl
    (fun r rest hr => by
      cases r with
      | nil => exact absurd rfl hr.ne
      | cons a as => rfl)
    rfl (RowS.singleton l) (fun _ => List.mem_singleton) pl hp.sorted hp.rows
    (fun r hr hk => by
      have hrs := hp.rows r hr
      obtain ⟨r', hr', hrs', hm'⟩ := insRow_RowS l (rowKey r) l.z r hrs hk.symm rfl
        (fun a ha hx => hd r hr a ha ⟨hx, by rw [(hrs.yz a ha).1, hk]⟩)
      exact ⟨r', hr', (rowKey_eq hrs').trans hk, by rw [rowKey_eq hrs']; exact hrs', hm'⟩)
  exact ⟨pl', hpl', ⟨hg', hs'⟩, fun a => by rw [List.mem_flatten, List.mem_flatten]; exact hm' a⟩

theorem insTree_spec (l : Leaf ℝ) (st : GainCalc.Tree ℝ) (ht : TreeS st)
    (hd : ∀ a ∈ leaves st, ¬(a.x = l.x ∧ a.y = l.y ∧ a.z = l.z)) :
    ∃ st', insTree l st = some st' ∧ TreeS st' ∧ ∀ a, a ∈ leaves st' ↔ a = l ∨ a ∈ leaves st := by
  obtain ⟨st', hst', hs', hg', hm', _⟩ := sortedInsert_spec (key := planeKey) (k := l.z)
    (fresh := [[l]]) (into := insPlane l) (ins := insTree l)
    (Good := fun p => p ≠ [] ∧ PlaneS (planeKey p) p) (mem := fun a p => a ∈ p.flatten) (l := l) rfl
    (fun p rest hp => by
      cases p with
      | nil => exact absurd rfl hp.1
      | cons r rs =>
        cases r with
        | nil => exact absurd rfl (hp.2.rows [] List.mem_cons_self).ne
        | cons a as => rfl)
    rfl ⟨List.cons_ne_nil _ _, PlaneS.singleton l⟩ (fun _ => by simp) st ht.sorted ht.planes
    (fun p hp hk => by
      have hps := (ht.planes p hp).2
      obtain ⟨p', hp', hps', hm'⟩ := insPlane_spec l (planeKey p) hk.symm p hps
        (fun r hr a ha hxy => hd a (mem_leaves.mpr ⟨p, hp, List.mem_flatten.mpr ⟨r, hr, ha⟩⟩)
          ⟨hxy.1, hxy.2, by rw [((hps.rows r hr).yz a ha).2, hk]⟩)
      have hne' : p' ≠ [] := by
        rintro rfl
        exact List.not_mem_nil ((hm' l).mpr (.inl rfl))
      have hk' := planeKey_eq hne' hps'
      exact ⟨p', hp', hk'.trans hk, ⟨hne', by rw [hk']; exact hps'⟩, hm'⟩)
  exact ⟨st', hst', ⟨hg', hs'⟩, fun a => by rw [mem_leaves, mem_leaves]; exact hm' a⟩

def Distinct (ps : List (P3 ℝ)) : Prop := ps.Pairwise fun a b => ¬(a.x = b.x ∧ a.y = b.y ∧ a.z = b.z)

theorem speakerTreeFrom_spec : ∀ (cs : List (P3 ℝ)) (i : Nat) (t : GainCalc.Tree ℝ), TreeS t → Distinct cs →
    (∀ a ∈ leaves t, ∀ c ∈ cs, ¬(a.x = c.x ∧ a.y = c.y ∧ a.z = c.z)) →
    ∃ st, speakerTreeFrom i cs t = some st ∧ TreeS st ∧
      ∀ a, a ∈ leaves st ↔ a ∈ leaves t ∨ ∃ k c, cs[k]? = some c ∧ a = ⟨i + k, c.x, c.y, c.z⟩ := by
  intro cs
  induction cs with
  | nil => intro i t ht _ _; exact ⟨t, rfl, ht, by simp⟩
  | cons c cs ih =>
    intro i t ht hdist hd
    unfold Distinct at hdist
    rw [List.pairwise_cons] at hdist
    obtain ⟨t', ht', hts', hm'⟩ := insTree_spec ⟨i, c.x, c.y, c.z⟩ t ht
      (fun a ha => hd a ha c List.mem_cons_self)
    have hd' : ∀ a ∈ leaves t', ∀ c' ∈ cs, ¬(a.x = c'.x ∧ a.y = c'.y ∧ a.z = c'.z) := by
      intro a ha c' hc'
      rcases (hm' a).mp ha with rfl | ha
      · exact hdist.1 c' hc'
      · exact hd a ha c' (List.mem_cons_of_mem _ hc')
    obtain ⟨st, hst, hsts, hms⟩ := ih (i + 1) t' hts' hdist.2 hd'
    refine ⟨st, by rw [speakerTreeFrom, ht', Option.bind_some, hst], hsts, fun a => ?_⟩
    rw [hms a, hm' a, or_assoc, or_left_comm]
    refine or_congr_right ⟨?_, ?_⟩
    · rintro (rfl | ⟨k, c', hk, rfl⟩)
      · exact ⟨0, c, rfl, rfl⟩
      · exact ⟨k + 1, c', hk, by rw [Nat.add_assoc, Nat.add_comm 1 k]⟩
    · rintro ⟨k, c', hk, rfl⟩
      cases k with
      | zero => cases hk; exact .inl rfl
      | succ k => exact .inr ⟨k, c', hk, by rw [Nat.add_assoc, Nat.add_comm 1 k]⟩

theorem speakerTree_spec (ps : List (P3 ℝ)) (hd : Distinct ps) :
    ∃ st, speakerTree ps = some st ∧ TreeS st ∧
      ∀ a, a ∈ leaves st ↔ ∃ k c, ps[k]? = some c ∧ a = ⟨k, c.x, c.y, c.z⟩ := by
  obtain ⟨st, h1, h2, h3⟩ := speakerTreeFrom_spec ps 0 []
    ⟨fun _ h => absurd h List.not_mem_nil, List.Pairwise.nil⟩ hd (fun _ h => absurd h List.not_mem_nil)
  refine ⟨st, h1, h2, fun a => ?_⟩
  rw [h3 a]
  simp only [leaves, List.flatten_nil, List.not_mem_nil, false_or, Nat.zero_add]

end ins

end Earverif.C13
