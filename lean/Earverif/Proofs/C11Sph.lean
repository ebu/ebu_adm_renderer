/-
C11 — the model of `hoa.sph_harm` / `hoa.Alegendre` over ℝ: `sphHarm` by the sign of the degree and its linearity in
the norm factor, closed forms of the associated Legendre functions for orders 0..3, the `±m` pairs (azimuth
independence of the power of one order, every order), Unsöld's identity for orders 0..3 (the relation that pins the
N3D / SN3D factors to the harmonics: `Σ_m Y_nm² = 1` in SN3D and `2n+1` in N3D, at every direction), and the
first-order harmonics as direction cosines.
-/
import Earverif.Proofs.C11
import Mathlib.Tactic.NormNum
import Mathlib.Tactic.Ring
import Mathlib.Tactic.IntervalCases
import Mathlib.Tactic.LinearCombination
import Mathlib.Tactic.Positivity

namespace Earverif.Hoa
open Real

/-- `Σ_{m=-n}^{n} f m`, written over `i = m + n ∈ [0, 2n]` -/
noncomputable def sumDeg (n : Nat) (f : Int → ℝ) : ℝ := ∑ i ∈ Finset.range (2 * n + 1), f ((i : Int) - n)

theorem sphHarm_zero (nf : ℝ) (n : Nat) (az el : ℝ) : sphHarm nf n 0 az el = nf * alegendre n 0 (sin el) := by
  simp [sphHarm, azScale]

theorem sphHarm_pos (nf : ℝ) (n m : Nat) (hm : 0 < m) (az el : ℝ) :
    sphHarm nf n (m : Int) az el = nf * alegendre n m (sin el) * (√2 * cos (m * az)) := by
  have hpos : (0 : Int) < (m : Int) := by exact_mod_cast hm
  simp only [sphHarm, azScale, hpos, if_true, Int.natAbs_natCast, scalar_sqrt, scalar_ofNat, scalar_sin, scalar_cos,
    Nat.cast_ofNat]

theorem sphHarm_neg (nf : ℝ) (n m : Nat) (hm : 0 < m) (az el : ℝ) :
    sphHarm nf n (-(m : Int)) az el = nf * alegendre n m (sin el) * (√2 * sin (m * az)) := by
  have hneg : ¬ (0 : Int) < -(m : Int) := by omega
  have hneg' : -(m : Int) < 0 := by omega
  simp only [sphHarm, azScale, hneg, hneg', if_true, if_false, Int.natAbs_natCast, Int.natAbs_neg, scalar_sqrt,
    scalar_ofNat, scalar_sin, Nat.cast_ofNat, neg_mul, sin_neg, mul_neg, neg_neg]

theorem sphHarm_mul (k nf : ℝ) (n : Nat) (m : Int) (az el : ℝ) :
    sphHarm (k * nf) n m az el = k * sphHarm nf n m az el := by
  unfold sphHarm
  rw [mul_assoc, mul_assoc, mul_assoc]

theorem sphHarm_pair (nf : ℝ) (n m : Nat) (hm : 0 < m) (az el : ℝ) :
    sphHarm nf n (m : Int) az el ^ 2 + sphHarm nf n (-(m : Int)) az el ^ 2
      = 2 * nf ^ 2 * alegendre n m (sin el) ^ 2 := by
  rw [sphHarm_pos nf n m hm, sphHarm_neg nf n m hm]
  linear_combination (nf ^ 2 * alegendre n m (sin el) ^ 2 * √2 ^ 2) * sin_sq_add_cos_sq ((m : ℝ) * az)
    + (nf ^ 2 * alegendre n m (sin el) ^ 2) * sq_sqrt (zero_le_two (α := ℝ))

theorem sumDeg_succ (f : Int → ℝ) (n : Nat) :
    sumDeg (n + 1) f = sumDeg n f + (f ((n + 1 : Nat) : Int) + f (-((n + 1 : Nat) : Int))) := by
  unfold sumDeg
  rw [show 2 * (n + 1) + 1 = (2 * n + 1) + 1 + 1 by ring, Finset.sum_range_succ, Finset.sum_range_succ', add_assoc,
    add_comm (f _)]
  congr 1
  · refine Finset.sum_congr rfl fun i _ => congrArg f ?_
    push_cast
    ring
  · congr 2
    push_cast
    ring

theorem sumDeg_eq_pairs (f : Int → ℝ) : ∀ n : Nat,
    sumDeg n f = f 0 + ∑ m ∈ Finset.range n, (f ((m + 1 : Nat) : Int) + f (-((m + 1 : Nat) : Int)))
  | 0 => by simp [sumDeg]
  | n + 1 => by rw [sumDeg_succ, sumDeg_eq_pairs f n, Finset.sum_range_succ, add_assoc]

/-- `Σ_m (nf(n,|m|) · P_n^{|m|} · scale_m)²` for a per-channel factor function `nf` -/
noncomputable def orderPower (nf : Nat → Nat → ℝ) (n : Nat) (az el : ℝ) : ℝ :=
  sumDeg n fun m => sphHarm (nf n m.natAbs) n m az el ^ 2

theorem orderPower_eq (nf : Nat → Nat → ℝ) (n : Nat) (az el : ℝ) :
    orderPower nf n az el = nf n 0 ^ 2 * alegendre n 0 (sin el) ^ 2
      + ∑ m ∈ Finset.range n, 2 * nf n (m + 1) ^ 2 * alegendre n (m + 1) (sin el) ^ 2 := by
  rw [orderPower, sumDeg_eq_pairs]
  simp only [Int.natAbs_zero, Int.natAbs_neg, Int.natAbs_natCast, sphHarm_zero, mul_pow,
    fun m => sphHarm_pair (nf n (m + 1)) n (m + 1) (Nat.succ_pos m) az el]

/-- `Alegendre(n, m, x)` for orders 0..3, without the Condon–Shortley phase -/
theorem alegendre_closed (x : ℝ) :
    alegendre 0 0 x = 1 ∧
    alegendre 1 0 x = x ∧ alegendre 1 1 x = √(1 - x * x) ∧
    alegendre 2 0 x = (3 * x ^ 2 - 1) / 2 ∧ alegendre 2 1 x = 3 * x * √(1 - x * x) ∧
      alegendre 2 2 x = 3 * √(1 - x * x) ^ 2 ∧
    alegendre 3 0 x = (5 * x ^ 3 - 3 * x) / 2 ∧ alegendre 3 1 x = 3 * (5 * x ^ 2 - 1) * √(1 - x * x) / 2 ∧
      alegendre 3 2 x = 15 * x * √(1 - x * x) ^ 2 ∧ alegendre 3 3 x = 15 * √(1 - x * x) ^ 3 := by
  refine ⟨?_, ?_, ?_, ?_, ?_, ?_, ?_, ?_, ?_, ?_⟩ <;>
    simp only [alegendre, legUp, legDiag, scalar_ofNat, scalar_sqrt, Nat.reduceLT, ↓reduceIte, Nat.reduceSub,
      Nat.reduceAdd, Nat.reduceMul, Nat.cast_ofNat, Nat.cast_one, Nat.cast_zero] <;> ring

theorem normSN3D_sq (n m : Nat) : (normSN3D n m : ℝ) ^ 2 = (factSub n m : ℝ) / (fact (n + m) : ℝ) := by
  simp only [normSN3D, scalar_sqrt, scalar_ofNat]
  exact sq_sqrt (by positivity)

theorem normN3D_eq (n m : Nat) : (normN3D n m : ℝ) = √((2 * n + 1 : Nat) : ℝ) * normSN3D n m := by
  simp only [normN3D, normSN3D, scalar_sqrt, scalar_ofNat]
  rw [← sqrt_mul (by positivity), mul_div_assoc]

theorem orderPower_n3d (n : Nat) (az el : ℝ) :
    orderPower (fun n m => normN3D n m) n az el = (2 * n + 1) * orderPower (fun n m => normSN3D n m) n az el := by
  unfold orderPower sumDeg
  rw [Finset.mul_sum]
  refine Finset.sum_congr rfl fun i _ => ?_
  simp only [normN3D_eq, sphHarm_mul, mul_pow]
  rw [sq_sqrt (Nat.cast_nonneg _)]
  push_cast
  rfl

theorem alegendre_sq_closed (x : ℝ) (hx : |x| ≤ 1) :
    alegendre 1 1 x ^ 2 = 1 - x ^ 2 ∧
    alegendre 2 1 x ^ 2 = 9 * x ^ 2 * (1 - x ^ 2) ∧ alegendre 2 2 x ^ 2 = 9 * (1 - x ^ 2) ^ 2 ∧
    alegendre 3 1 x ^ 2 = 9 * (5 * x ^ 2 - 1) ^ 2 * (1 - x ^ 2) / 4 ∧
    alegendre 3 2 x ^ 2 = 225 * x ^ 2 * (1 - x ^ 2) ^ 2 ∧ alegendre 3 3 x ^ 2 = 225 * (1 - x ^ 2) ^ 3 := by
  have hc : √(1 - x * x) ^ 2 = 1 - x ^ 2 := by
    rw [sq_sqrt, sq]
    rwa [← sq, sub_nonneg, sq_le_one_iff_abs_le_one]
  obtain ⟨-, -, p11, -, p21, p22, -, p31, p32, p33⟩ := alegendre_closed x
  set c := √(1 - x * x)
  refine ⟨?_, ?_, ?_, ?_, ?_, ?_⟩
  · rw [p11, hc]
  · rw [p21, mul_pow, mul_pow, hc]; norm_num
  · rw [p22, mul_pow, hc]; norm_num
  · rw [p31, div_pow, mul_pow, mul_pow, hc]; norm_num
  · rw [p32, mul_pow, mul_pow, hc]; norm_num
  · rw [p33, mul_pow, pow_right_comm, hc]; norm_num

/-- **Unsöld's identity for the model's SN3D harmonics, orders 0..3**: at every direction the squared harmonics
of one order sum to 1. A wrong `norm_SN3D(n, m)` for any `(n, m)` with `n ≤ 3`, or a Legendre value of wrong magnitude,
breaks it; signs do not enter (only squares do: the sign convention is pinned by `sphHarm_first_order`, for order 1). -/
theorem unsold_sn3d (n : Nat) (hn : n ≤ 3) (az el : ℝ) :
    orderPower (fun n m => normSN3D n m) n az el = 1 := by
  obtain ⟨q11, q21, q22, q31, q32, q33⟩ := alegendre_sq_closed (sin el) (abs_sin_le_one el)
  obtain ⟨p00, p10, -, p20, -, -, p30, -⟩ := alegendre_closed (sin el)
  rw [orderPower_eq]
  interval_cases n <;> simp only [Finset.sum_range_succ, Finset.sum_range_zero, normSN3D_sq, zero_add]
  · rw [p00]; norm_num [factSub, fact]
  · rw [p10, q11]; norm_num [factSub, fact]
  · rw [p20, q21, q22]; norm_num [factSub, fact]; ring
  · rw [p30, q31, q32, q33]; norm_num [factSub, fact]; ring

/-- in N3D the harmonics of one order have total power `2n+1`, i.e. each has unit mean square over the sphere -/
theorem unsold_n3d (n : Nat) (hn : n ≤ 3) (az el : ℝ) :
    orderPower (fun n m => normN3D n m) n az el = 2 * n + 1 := by
  rw [orderPower_n3d, unsold_sn3d n hn, mul_one]

/-- **first-order harmonics, any elevation** (SN3D; ACN order `Y, Z, X`): `Alegendre(1, 1, sin el) = √(1 − sin² el)` is
`|cos el|`, so outside `|el| ≤ π/2` the code's `Y_1^{±1}` have the sign of the mirrored direction. -/
theorem sphHarm_first_order_abs (az el : ℝ) :
    sphHarm (normSN3D 0 0) 0 0 az el = 1 ∧
    sphHarm (normSN3D 1 1) 1 (-1) az el = |cos el| * sin az ∧
    sphHarm (normSN3D 1 0) 1 0 az el = sin el ∧
    sphHarm (normSN3D 1 1) 1 1 az el = |cos el| * cos az := by
  obtain ⟨p00, p10, p11, -⟩ := alegendre_closed (sin el)
  have hc : √(1 - sin el * sin el) = |cos el| := by rw [← sq, ← cos_sq', sqrt_sq_eq_abs]
  have n00 : (normSN3D 0 0 : ℝ) = 1 := by simp [normSN3D, factSub, fact]
  have n10 : (normSN3D 1 0 : ℝ) = 1 := by simp [normSN3D, factSub, fact]
  have n11 : (normSN3D 1 1 : ℝ) * √2 = 1 := by
    rw [show (normSN3D 1 1 : ℝ) = √(1 / 2) by simp [normSN3D, factSub, fact], ← sqrt_mul (by norm_num)]
    norm_num
  have hp := sphHarm_pos (normSN3D 1 1) 1 1 one_pos az el
  have hn := sphHarm_neg (normSN3D 1 1) 1 1 one_pos az el
  rw [Nat.cast_one, Nat.cast_one, one_mul, p11, hc] at hp hn
  refine ⟨?_, ?_, ?_, ?_⟩
  · rw [sphHarm_zero, p00, n00, one_mul]
  · rw [hn]; linear_combination (|cos el| * sin az) * n11
  · rw [sphHarm_zero, p10, n10, one_mul]
  · rw [hp]; linear_combination (|cos el| * cos az) * n11

/-- **first-order harmonics are the direction cosines** (SN3D; ACN order `Y, Z, X`): with the ADM convention
(azimuth anticlockwise from the front, elevation up) `Y_1^{-1} = cos el·sin az`, `Y_1^0 = sin el`,
`Y_1^1 = cos el·cos az` for `|el| ≤ π/2` — the coordinate convention of the whole HOA path. -/
theorem sphHarm_first_order (az el : ℝ) (hel : |el| ≤ π / 2) :
    sphHarm (normSN3D 0 0) 0 0 az el = 1 ∧
    sphHarm (normSN3D 1 1) 1 (-1) az el = cos el * sin az ∧
    sphHarm (normSN3D 1 0) 1 0 az el = sin el ∧
    sphHarm (normSN3D 1 1) 1 1 az el = cos el * cos az := by
  have h := sphHarm_first_order_abs az el
  rwa [abs_of_nonneg (cos_nonneg_of_mem_Icc ⟨(abs_le.mp hel).1, (abs_le.mp hel).2⟩)] at h

/-- in N3D, the convention `design` samples `Y_virt` in: `√3` times as large for order 1 -/
theorem sphHarm_first_order_n3d (az el : ℝ) :
    sphHarm (normN3D 0 0) 0 0 az el = 1 ∧
    sphHarm (normN3D 1 1) 1 (-1) az el = √3 * (|cos el| * sin az) ∧
    sphHarm (normN3D 1 0) 1 0 az el = √3 * sin el ∧
    sphHarm (normN3D 1 1) 1 1 az el = √3 * (|cos el| * cos az) := by
  obtain ⟨h0, h1, h2, h3⟩ := sphHarm_first_order_abs az el
  have e0 : √((2 * 0 + 1 : Nat) : ℝ) = 1 := by norm_num
  have e1 : √((2 * 1 + 1 : Nat) : ℝ) = √3 := by norm_num
  simp only [normN3D_eq, sphHarm_mul, h0, h1, h2, h3, e0, e1, mul_one, and_self]

end Earverif.Hoa
