/-
Closed-form layout of the buffer produced by the writer model (C09 / C17):
the unclosed buffer after any history, and the finalised file.
Suffixes: `…B` (`optChnaB`, `optMetaB`, `preB`, `lateB`) are the bytes the writer appends; their `…C` twins in
`Proofs/C09Read.lean` are the same groups as lists of `Chunk`s (`preB_eq`, `lateB_eq` there join the two); `…S`
(`pendChnaS`, … in `Proofs/C09Samples.lean`) are the twins over sample-level histories (`SOp`).
-/
import Earverif.Proofs.C09

namespace Earverif.Bw64

/-- bytes `_write_chna_chunk` appends for a pending value (nothing for `None`) -/
def optChnaB : Option (List ChnaEntry) → Bytes
  | some es => chnaChunk es
  | none => []

/-- bytes `_write_axml_chunk` / `_write_bext_chunk` append for a truthy value (nothing for `None`/`b''`) -/
def optMetaB (id : Bytes) : Option Bytes → Bytes
  | some (x :: xs) => metaChunk id (x :: xs)
  | _ => []

/-- the encoded bytes of all `write` calls of a history -/
def dataOf : List WOp → Bytes
  | [] => []
  | .write b :: ops => b ++ dataOf ops
  | _ :: ops => dataOf ops

/-- the value of `writer.chna` at `close` -/
def pendChna (init : Option (List ChnaEntry)) : List WOp → Option (List ChnaEntry)
  | [] => init
  | .setChna v :: ops => pendChna v ops
  | _ :: ops => pendChna init ops

def pendAxml (init : Option Bytes) : List WOp → Option Bytes
  | [] => init
  | .setAxml v :: ops => pendAxml v ops
  | _ :: ops => pendAxml init ops

def pendBext (init : Option Bytes) : List WOp → Option Bytes
  | [] => init
  | .setBext v :: ops => pendBext v ops
  | _ :: ops => pendBext init ops

/-- the 12 + 36 + 24 bytes every unclosed buffer starts with -/
def head0 (fmt : Fmt) : Bytes := idRIFF ++ (ffff ++ (idWAVE ++ (junkChunk ++ fmtChunk fmt)))

/-- chunks written by the constructor between `fmt ` and `data` -/
def preB (c0 : Option (List ChnaEntry)) (a0 b0 : Option Bytes) : Bytes :=
  optChnaB c0 ++ (optMetaB idAxml a0 ++ optMetaB idBext b0)

/-- the writer state between `__init__` and `close`: `c0 a0 b0` the constructor's values, `data` the bytes written
so far -/
structure Opened (s : WState) (fmt : Fmt) (force : Bool) (c0 : Option (List ChnaEntry)) (a0 b0 : Option Bytes)
    (data : Bytes) : Prop where
  buf : s.buf = head0 fmt ++ (preB c0 a0 b0 ++ (idData ++ (ffff ++ data)))
  dataBytes : s.dataBytes = data.length
  dataPos : s.dataPos = 72 + (preB c0 a0 b0).length
  force : s.force = force
  chnaW : s.chnaW = c0.isSome
  axmlW : s.axmlW = truthy a0
  bextW : s.bextW = truthy b0

theorem head0_length (fmt : Fmt) : (head0 fmt).length = 72 := by
  simp [head0, idRIFF, ffff, idWAVE, junkChunk, fmtChunk, idJUNK, idFmt, le_length]

section
variable (buf : Bytes) (fmt : Fmt) (force : Bool) (dataBytes dataPos : Nat) (c : Option (List ChnaEntry))
  (a b : Option Bytes) (cw aw bw : Bool)

/-! `if value: write it` on a state that has not written the chunk yet (the constructor; `close` for what is still
unwritten): appends `optChnaB` / `optMetaB` of the value and records whether it wrote. -/

theorem ifWriteChna :
    (if c.isSome then (WState.mk buf fmt force dataBytes dataPos c a b false aw bw).writeChna
      else ⟨buf, fmt, force, dataBytes, dataPos, c, a, b, false, aw, bw⟩) =
      ⟨buf ++ optChnaB c, fmt, force, dataBytes, dataPos, c, a, b, c.isSome, aw, bw⟩ := by
  cases c <;> simp [WState.writeChna, optChnaB]

theorem ifWriteAxml :
    (if truthy a then (WState.mk buf fmt force dataBytes dataPos c a b cw false bw).writeAxml
      else ⟨buf, fmt, force, dataBytes, dataPos, c, a, b, cw, false, bw⟩) =
      ⟨buf ++ optMetaB idAxml a, fmt, force, dataBytes, dataPos, c, a, b, cw, truthy a, bw⟩ := by
  rcases a with _ | _ | ⟨x, xs⟩ <;> simp [WState.writeAxml, optMetaB, truthy]

theorem ifWriteBext :
    (if truthy b then (WState.mk buf fmt force dataBytes dataPos c a b cw aw false).writeBext
      else ⟨buf, fmt, force, dataBytes, dataPos, c, a, b, cw, aw, false⟩) =
      ⟨buf ++ optMetaB idBext b, fmt, force, dataBytes, dataPos, c, a, b, cw, aw, truthy b⟩ := by
  rcases b with _ | _ | ⟨x, xs⟩ <;> simp [WState.writeBext, optMetaB, truthy]

theorem padData_mk :
    (WState.mk buf fmt force dataBytes dataPos c a b cw aw bw).padData =
      ⟨buf ++ pad dataBytes, fmt, force, dataBytes, dataPos, c, a, b, cw, aw, bw⟩ := by
  unfold WState.padData pad; split <;> simp

theorem lateChna_mk :
    (WState.mk buf fmt force dataBytes dataPos c a b cw aw bw).lateChna =
      ⟨buf ++ (if cw then [] else optChnaB c), fmt, force, dataBytes, dataPos, c, a, b,
        cw || c.isSome, aw, bw⟩ := by
  cases cw <;> simp [WState.lateChna, ifWriteChna]

theorem lateAxml_mk :
    (WState.mk buf fmt force dataBytes dataPos c a b cw aw bw).lateAxml =
      ⟨buf ++ (if aw then [] else optMetaB idAxml a), fmt, force, dataBytes, dataPos, c, a, b,
        cw, aw || truthy a, bw⟩ := by
  cases aw <;> simp [WState.lateAxml, ifWriteAxml]

theorem lateBext_mk :
    (WState.mk buf fmt force dataBytes dataPos c a b cw aw bw).lateBext =
      ⟨buf ++ (if bw then [] else optMetaB idBext b), fmt, force, dataBytes, dataPos, c, a, b,
        cw, aw, bw || truthy b⟩ := by
  cases bw <;> simp [WState.lateBext, ifWriteBext]

end

theorem openW_eq (fmt : Fmt) (c0 : Option (List ChnaEntry)) (a0 b0 : Option Bytes) (force : Bool) :
    openW fmt c0 a0 b0 force =
      ⟨head0 fmt ++ (preB c0 a0 b0 ++ (idData ++ ffff)), fmt, force, 0, 72 + (preB c0 a0 b0).length,
        c0, a0, b0, c0.isSome, truthy a0, truthy b0⟩ := by
  simp only [openW, ifWriteChna, ifWriteAxml, ifWriteBext, WState.mk.injEq, and_true, true_and]
  constructor
  · simp only [head0, preB, List.append_assoc]
  · rw [← head0_length fmt]
    simp only [head0, preB, List.length_append]
    omega

theorem openW_opened (fmt : Fmt) (c0 : Option (List ChnaEntry)) (a0 b0 : Option Bytes) (force : Bool) :
    Opened (openW fmt c0 a0 b0 force) fmt force c0 a0 b0 [] ∧
    (openW fmt c0 a0 b0 force).chna = c0 ∧ (openW fmt c0 a0 b0 force).axml = a0 ∧
    (openW fmt c0 a0 b0 force).bext = b0 := by
  rw [openW_eq]
  exact ⟨⟨by simp, rfl, rfl, rfl, rfl, rfl, rfl⟩, rfl, rfl, rfl⟩

theorem stepW_opened {s : WState} {fmt : Fmt} {force : Bool} {c0 : Option (List ChnaEntry)} {a0 b0 : Option Bytes}
    {data : Bytes} (h : Opened s fmt force c0 a0 b0 data) (op : WOp) :
    Opened (stepW s op) fmt force c0 a0 b0 (data ++ dataOf [op]) := by
  obtain ⟨h1, h2, h3, h4, h5, h6, h7⟩ := h
  cases op <;> exact ⟨by simp [stepW, dataOf, h1], by simp [stepW, dataOf, h2], h3, h4, h5, h6, h7⟩

theorem dataOf_cons (op : WOp) (ops : List WOp) : dataOf (op :: ops) = dataOf [op] ++ dataOf ops := by
  cases op <;> simp [dataOf]

theorem runW_opened {fmt : Fmt} {force : Bool} {c0 : Option (List ChnaEntry)} {a0 b0 : Option Bytes}
    (ops : List WOp) : ∀ {s : WState} {data : Bytes}, Opened s fmt force c0 a0 b0 data →
      Opened (runW s ops) fmt force c0 a0 b0 (data ++ dataOf ops) ∧
      (runW s ops).chna = pendChna s.chna ops ∧ (runW s ops).axml = pendAxml s.axml ops ∧
      (runW s ops).bext = pendBext s.bext ops := by
  induction ops with
  | nil => intro s data h; simpa [runW, dataOf, pendChna, pendAxml, pendBext] using h
  | cons op ops ih =>
    intro s data h
    have h' := ih (stepW_opened h op)
    simp only [runW, List.foldl_cons] at h' ⊢
    rw [dataOf_cons, ← List.append_assoc]
    refine ⟨h'.1, ?_, ?_, ?_⟩
    · rw [h'.2.1]; cases op <;> simp [stepW, pendChna]
    · rw [h'.2.2.1]; cases op <;> simp [stepW, pendAxml]
    · rw [h'.2.2.2]; cases op <;> simp [stepW, pendBext]

theorem unclosedFile_layout (fmt : Fmt) (c0 : Option (List ChnaEntry)) (a0 b0 : Option Bytes) (force : Bool)
    (ops : List WOp) :
    unclosedFile fmt c0 a0 b0 force ops = head0 fmt ++ (preB c0 a0 b0 ++ (idData ++ (ffff ++ dataOf ops))) := by
  have h := (runW_opened ops (openW_opened fmt c0 a0 b0 force).1).1.buf
  simpa [unclosedFile] using h

/-- chunks `close` appends after the data chunk: those that were not written by the constructor -/
def lateB (cw aw bw : Bool) (c : Option (List ChnaEntry)) (a b : Option Bytes) : Bytes :=
  (if cw then [] else optChnaB c) ++ ((if aw then [] else optMetaB idAxml a) ++ (if bw then [] else optMetaB idBext b))

theorem lateW_spec (s : WState) :
    (lateW s).buf = s.buf ++ (pad s.dataBytes ++ lateB s.chnaW s.axmlW s.bextW s.chna s.axml s.bext) ∧
    (lateW s).dataBytes = s.dataBytes ∧ (lateW s).dataPos = s.dataPos ∧ (lateW s).force = s.force := by
  obtain ⟨buf, fmt, force, dataBytes, dataPos, chna, axml, bext, chnaW, axmlW, bextW⟩ := s
  simp only [lateW, padData_mk, lateChna_mk, lateAxml_mk, lateBext_mk, lateB, List.append_assoc, and_self]

/-- the RIFF size written by `close`: file length minus 8 -/
def riffSizeOf (pre data late : Bytes) : Nat := 72 + pre.length + 8 + (data.length + data.length % 2) + late.length - 8

theorem closeW_layout {s : WState} {fmt : Fmt} {force : Bool} {c0 : Option (List ChnaEntry)} {a0 b0 : Option Bytes}
    {data : Bytes} (h : Opened s fmt force c0 a0 b0 data) :
    closeW s =
      (let pre := preB c0 a0 b0
       let late := lateB c0.isSome (truthy a0) (truthy b0) s.chna s.axml s.bext
       let R := riffSizeOf pre data late
       if R ≥ 2 ^ 32 || force then
         idBW64 ++ (ffff ++ (idWAVE ++ (ds64Chunk R data.length ++ (fmtChunk fmt ++ (pre ++
           (idData ++ (ffff ++ (data ++ (pad data.length ++ late)))))))))
       else
         idRIFF ++ (le 4 R ++ (idWAVE ++ (junkChunk ++ (fmtChunk fmt ++ (pre ++
           (idData ++ (le 4 data.length ++ (data ++ (pad data.length ++ late)))))))))) := by
  obtain ⟨h1, h2, h3, h4, h5, h6, h7⟩ := h
  obtain ⟨l1, l2, l3, l4⟩ := lateW_spec s
  rw [h1, h2, h5, h6, h7] at l1
  generalize lateB c0.isSome (truthy a0) (truthy b0) s.chna s.axml s.bext = late at l1 ⊢
  have h72 := head0_length fmt
  have hlen : (lateW s).buf.length - 8 = riffSizeOf (preB c0 a0 b0) data late := by
    rw [l1]
    simp only [List.length_append, h72, pad_length, riffSizeOf, show idData.length = 4 from rfl,
      show ffff.length = 4 from rfl]
    -- `omega` is slow on the state equalities in context, on `- 8` and on `% 2`: without them
    clear l2 l3 l4 h3 h4
    refine congrArg (· - 8) ?_
    generalize data.length % 2 = m
    omega
  have hB : (lateW s).buf = idRIFF ++ (ffff ++ (idWAVE ++ (junkChunk ++ (fmtChunk fmt ++ (preB c0 a0 b0 ++
      (idData ++ (ffff ++ (data ++ (pad data.length ++ late))))))))) := by
    rw [l1]; simp [head0]
  simp only [closeW, finalizeW, hlen, l2, l3, l4, h2, h3, h4]
  rw [hB]
  generalize riffSizeOf (preB c0 a0 b0) data late = R
  split
  · rw [patchAt_zero (x := idRIFF) (y := idBW64) rfl]
    rw [patchAt_mid (a := idBW64 ++ (ffff ++ idWAVE)) (x := junkChunk) (off := 12)
        (c := fmtChunk fmt ++ (preB c0 a0 b0 ++ (idData ++ (ffff ++ (data ++ (pad data.length ++ late))))))
        (by simp) rfl (by simp [junkChunk, ds64Chunk, idJUNK, idDs64, le_length])]
    simp
  · -- the data size field lies at `dataPos + 4 = 72 + |pre| + 4`
    rw [patchAt_mid (a := idRIFF) (x := ffff) (off := 4) rfl rfl (by simp [ffff, le_length])]
    rw [patchAt_mid (a := idRIFF ++ (le 4 R ++ (idWAVE ++ (junkChunk ++ (fmtChunk fmt ++ (preB c0 a0 b0 ++ idData))))))
        (x := ffff) (c := data ++ (pad data.length ++ late))
        (by simp) (by simp [head0, idRIFF, ffff, idWAVE, idData, le_length] at h72 ⊢; omega) (by simp [ffff, le_length])]
    simp

end Earverif.Bw64
