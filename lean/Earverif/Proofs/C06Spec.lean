/-
C06: semantic lemmas for the helper functions of the selection model (`Model/SelectItems.lean`) — what
`get_path_param`, `get_single_param`, `min(.., key=None->inf)`, the `hoa.py` getters,
`_get_alternativeValueSet`, `channel_format_for_track_uid`, `_get_pack_format_path`, `_get_rendering_items` and
`output_channel_allocation` return, stated without reference to how they compute it.  The values they are said to
return are defined here as well, and are the per-pack part of the right-hand side of `select_eq_decl` (`Props/C06.lean`):
`thePackPath`, `slotTrack` / `SlotOK` / `inputAlloc`, `matrixTrack` / `matrixOut`, `declOutput` / `OutputOK`,
`declSingle` / `declHoaMeta` / `declHoa` / `declItems`, `PackItemsOK`, `avsRefs`.  Used by `itemsOfState_spec` in
`Proofs/C06Decl.lean`.  Core Lean only.
-/
import Earverif.Proofs.C06Matrix

namespace Earverif.Adm
open Earverif.TrackSpec (MChan packSpec)

def firstSome {β : Type} (l : List (Option β)) : Option β := (l.filterMap id).head?

theorem mem_filterMap_id {β : Type} {l : List (Option β)} {x : β} : x ∈ l.filterMap id ↔ some x ∈ l := by
  simp [List.mem_filterMap]

/-- `get_path_param` returns `v` exactly when every value that is set along the path
equals `v` and `v` is set somewhere (or nothing is set and `v = None`); it raises when two set values differ. -/
theorem getPathParam_ok_iff {β : Type} [DecidableEq β] (vals : List (Option β)) (v : Option β) :
    getPathParam vals = .ok v ↔ (∀ x, some x ∈ vals → v = some x) ∧ (∀ x, v = some x → some x ∈ vals) := by
  unfold getPathParam
  cases hfm : vals.filterMap id with
  | nil =>
    have hno : ∀ x, some x ∉ vals := by
      intro x hx
      have := mem_filterMap_id.2 hx
      rw [hfm] at this; cases this
    simp only [Except.ok.injEq]
    constructor
    · intro h; subst h
      exact ⟨fun x hx => absurd hx (hno x), fun x hx => by cases hx⟩
    · rintro ⟨_, h2⟩
      cases v with
      | none => rfl
      | some x => exact absurd (h2 x rfl) (hno x)
  | cons x rest =>
    have hmem : ∀ y, some y ∈ vals ↔ y = x ∨ y ∈ rest := by
      intro y
      rw [← mem_filterMap_id, hfm, List.mem_cons]
    simp only
    split
    · rename_i hany
      simp only [List.any_eq_true, bne_iff_ne, ne_eq] at hany
      obtain ⟨y, hy, hne⟩ := hany
      simp only [reduceCtorEq, false_iff, not_and]
      intro h1 _
      have e1 := h1 x ((hmem x).2 (Or.inl rfl))
      have e2 := h1 y ((hmem y).2 (Or.inr hy))
      rw [e1] at e2
      exact hne (Option.some.inj e2).symm
    · rename_i hany
      simp only [List.any_eq_true, bne_iff_ne, ne_eq, not_exists, not_and, Decidable.not_not] at hany
      simp only [Except.ok.injEq]
      constructor
      · intro h; subst h
        refine ⟨fun y hy => ?_, fun y hy => ?_⟩
        · rcases (hmem y).1 hy with rfl | hr
          · rfl
          · rw [hany y hr]
        · cases hy; exact (hmem x).2 (Or.inl rfl)
      · rintro ⟨h1, _⟩
        exact (h1 x ((hmem x).2 (Or.inl rfl))).symm

theorem getPathParam_eq_firstSome {β : Type} [DecidableEq β] {vals : List (Option β)} {v : Option β}
    (h : getPathParam vals = .ok v) : v = firstSome vals := by
  unfold getPathParam at h
  unfold firstSome
  cases hfm : vals.filterMap id with
  | nil => simp only [hfm] at h; cases h; rfl
  | cons x rest =>
    simp only [hfm] at h
    split at h
    · cases h
    · cases h; rfl

theorem checkPairs_and_head {α β : Type} [DecidableEq β] (f : α → Except Err β) (v : β) :
    ∀ (t : List α) (a : α), (checkPairs f (a :: t) = .ok () ∧ f a = .ok v) ↔ ∀ x ∈ a :: t, f x = .ok v
  | [], a => by simp [checkPairs]
  | b :: rest, a => by
    have ih := checkPairs_and_head f v rest b
    simp only [checkPairs]
    constructor
    · rintro ⟨hc, ha⟩
      rw [ha] at hc
      simp only at hc
      cases hb : f b with
      | error e => simp [hb] at hc
      | ok y =>
        simp only [hb] at hc
        split at hc
        · cases hc
        · rename_i hxy
          have : v = y := by simpa using hxy
          subst this
          intro x hx
          rcases List.mem_cons.1 hx with rfl | hx
          · exact ha
          · exact ih.1 ⟨hc, hb⟩ x hx
    · intro hall
      have ha := hall a (List.mem_cons_self ..)
      have hb := hall b (List.mem_cons_of_mem _ (List.mem_cons_self ..))
      have hrest := ih.2 fun x hx => hall x (List.mem_cons_of_mem _ hx)
      simp [ha, hb, hrest.1]

/-- `get_single_param` returns `v` exactly when there is at least one channel and
the getter returns `v` for every channel; differing values raise ("must share the same ..."). -/
theorem getSingleParam_ok_iff {α β : Type} [DecidableEq β] (l : List α) (f : α → Except Err β) (v : β) :
    getSingleParam l f = .ok v ↔ l ≠ [] ∧ ∀ x ∈ l, f x = .ok v := by
  unfold getSingleParam
  cases l with
  | nil => simp [checkPairs]
  | cons a t =>
    have := checkPairs_and_head f v t a
    simp only [ne_eq, reduceCtorEq, not_false_eq_true, true_and]
    rw [← this]
    cases hc : checkPairs f (a :: t) with
    | error e => simp
    | ok u => cases u; simp

/-! ### `min(values, key=importance_sort_key)` -/

theorem impLe_trans {a b c : Option Int} (h1 : impLt b a = false) (h2 : impLt c b = false) : impLt c a = false := by
  cases a <;> cases b <;> cases c <;> simp [impLt] at h1 h2 ⊢ <;> omega

theorem impLe_of_lt {a b : Option Int} (h : impLt a b = true) : impLt b a = false := by
  cases a <;> cases b <;> simp [impLt] at h ⊢ <;> omega

theorem impLe_refl (a : Option Int) : impLt a a = false := by cases a <;> simp [impLt]

theorem minImp_cons (x : Option Int) (xs : List (Option Int)) :
    minImp (x :: xs) = xs.foldl (fun best y => if impLt y best then y else best) x := rfl

theorem minImp_foldl (ys : List (Option Int)) : ∀ (best : Option Int),
    let r := ys.foldl (fun best y => if impLt y best then y else best) best
    (r = best ∨ r ∈ ys) ∧ impLt best r = false ∧ ∀ y ∈ ys, impLt y r = false := by
  induction ys with
  | nil => intro best; exact ⟨Or.inl rfl, impLe_refl best, fun _ h => by cases h⟩
  | cons y ys ih =>
    intro best
    simp only [List.foldl_cons]
    obtain ⟨h1, h2, h3⟩ := ih (if impLt y best then y else best)
    generalize ys.foldl (fun best y => if impLt y best then y else best) (if impLt y best then y else best) = r at h1 h2 h3
    by_cases hlt : impLt y best = true
    · simp only [hlt, if_true] at h1 h2
      refine ⟨?_, impLe_trans h2 (impLe_of_lt hlt), ?_⟩
      · rcases h1 with h1 | h1
        · right; rw [h1]; exact List.mem_cons_self ..
        · right; exact List.mem_cons_of_mem _ h1
      · intro z hz
        rcases List.mem_cons.1 hz with rfl | hz
        · exact h2
        · exact h3 z hz
    · have hge : impLt y best = false := by simpa using hlt
      simp only [hge, Bool.false_eq_true, if_false] at h1 h2
      refine ⟨?_, h2, ?_⟩
      · rcases h1 with h1 | h1
        · left; exact h1
        · right; exact List.mem_cons_of_mem _ h1
      · intro z hz
        rcases List.mem_cons.1 hz with rfl | hz
        · exact impLe_trans h2 hge
        · exact h3 z hz

theorem minImp_mem_le {l : List (Option Int)} (hl : l ≠ []) :
    minImp l ∈ l ∧ ∀ y ∈ l, impLt y (minImp l) = false := by
  cases l with
  | nil => exact absurd rfl hl
  | cons x xs =>
    obtain ⟨h1, h2, h3⟩ := minImp_foldl xs x
    rw [minImp_cons]
    exact ⟨h1.elim (fun e => by rw [e]; exact List.mem_cons_self ..) (List.mem_cons_of_mem _),
      fun y hy => (List.mem_cons.1 hy).elim (fun e => by rw [e]; exact h2) (h3 y)⟩

theorem minImp_eq_some_iff (l : List (Option Int)) (m : Int) :
    minImp l = some m ↔ some m ∈ l ∧ ∀ k, some k ∈ l → m ≤ k := by
  by_cases hl : l = []
  · subst hl; simp [minImp]
  · obtain ⟨hmem, hle⟩ := minImp_mem_le hl
    constructor
    · intro h
      rw [h] at hmem hle
      exact ⟨hmem, fun k hk => by simpa [impLt] using hle _ hk⟩
    · rintro ⟨hm, hmin⟩
      have h1 := hle _ hm
      cases hr : minImp l with
      | none => rw [hr] at h1; simp [impLt] at h1
      | some k =>
        rw [hr] at h1 hmem
        have := hmin k hmem
        simp only [impLt, decide_eq_false_iff_not, Int.not_lt] at h1
        rw [show k = m by omega]

theorem minImp_eq_none_iff (l : List (Option Int)) : minImp l = none ↔ ∀ y ∈ l, y = none := by
  by_cases hl : l = []
  · subst hl; simp [minImp]
  · obtain ⟨hmem, hle⟩ := minImp_mem_le hl
    constructor
    · intro h y hy
      have := hle y hy
      rw [h] at this
      cases y with
      | none => rfl
      | some k => simp [impLt] at this
    · intro h
      exact h _ hmem

/-- `minImp` is the minimum of the list with `None` treated as +∞. -/
theorem minImp_spec (l : List (Option Int)) :
    (∀ m, minImp l = some m ↔ some m ∈ l ∧ ∀ k, some k ∈ l → m ≤ k) ∧
    (minImp l = none ↔ ∀ y ∈ l, y = none) :=
  ⟨minImp_eq_some_iff l, minImp_eq_none_iff l⟩

/-- the audioPackFormat path from `p` to the pack that lists channel `ch`: the first such path (in a
document that passes the multitree check there is at most one; that the fuel of `packPathsFrom` suffices there is
not proved: `select_eq_decl`). -/
def thePackPath (f : Formats) (p ch : Nat) : List Nat :=
  ((packPathsFrom f p).filter fun path => (f.pack (path.getLastD 0)).channels.contains ch).headD []

/-- `_get_pack_format_path` returns `pp` exactly when `pp` is the one and only
pack path from `p` whose last pack lists the channel; no such path or several raise (`[found_path] = ...`). -/
theorem getPackFormatPath_ok_iff (f : Formats) (p ch : Nat) (pp : List Nat) :
    getPackFormatPath f p ch = .ok pp ↔
      (packPathsFrom f p).filter (fun path => (f.pack (path.getLastD 0)).channels.contains ch) = [pp] := by
  unfold getPackFormatPath
  split
  · rename_i q hq
    rw [hq]
    simp only [Except.ok.injEq, List.cons.injEq, and_true]
  · rename_i hne
    simp only [reduceCtorEq, false_iff]
    intro h
    exact hne pp h

theorem getPackFormatPath_eq {f : Formats} {p ch : Nat} {pp : List Nat} (h : getPackFormatPath f p ch = .ok pp) :
    pp = thePackPath f p ch ∧ pp ∈ packPathsFrom f p ∧ ch ∈ (f.pack (pp.getLastD 0)).channels ∧
      ∀ q ∈ packPathsFrom f p, ch ∈ (f.pack (q.getLastD 0)).channels → q = pp := by
  have hf := (getPackFormatPath_ok_iff f p ch pp).1 h
  have hmem : pp ∈ (packPathsFrom f p).filter (fun path => (f.pack (path.getLastD 0)).channels.contains ch) := by
    rw [hf]; exact List.mem_singleton.2 rfl
  rw [List.mem_filter] at hmem
  refine ⟨by unfold thePackPath; rw [hf]; rfl, hmem.1, by simpa using hmem.2, fun q hq hc => ?_⟩
  have : q ∈ (packPathsFrom f p).filter (fun path => (f.pack (path.getLastD 0)).channels.contains ch) :=
    List.mem_filter.2 ⟨hq, by simpa using hc⟩
  rw [hf] at this
  exact List.mem_singleton.1 this

/-- for a channel of a regular `AllocationPack` the path found by `_get_pack_format_path` is the
`pack_formats` of that `AllocationChannel`. -/
theorem getPackFormatPath_of_slot {f : Formats} {p : Nat} {s : List Nat × Nat} (hs : s ∈ slots f p) {pp : List Nat}
    (h : getPackFormatPath f p s.2 = .ok pp) : pp = s.1 := by
  obtain ⟨hpath, hc⟩ := mem_slots.1 hs
  exact ((getPackFormatPath_eq h).2.2.2 _ hpath hc).symm

/-! ### `_PackAllocator.get_track_spec`, `output_channel_allocation` -/

/-- the track spec of an allocation entry: the track's CHNA track index (0-based) or silence. -/
def slotTrack (f : Formats) (uids : List Nat) : PackAlloc.Slot → TSpec
  | some (some t) => .direct (((f.uid (uids.getD t.id 0)).trackIndex : Int) - 1)
  | _ => .silent

/-- an allocation entry as the solutions of `allocate_packs` contain them: not `_EMPTY`, and a real track is
one of the selected audioTrackUIDs. -/
def SlotOK (uids : List Nat) : PackAlloc.Slot → Prop
  | none => False
  | some none => True
  | some (some t) => t.id < uids.length

theorem slotSpec_ok_iff (f : Formats) (uids : List Nat) (s : PackAlloc.Slot) (sp : TSpec) :
    slotSpec f uids s = .ok sp ↔ SlotOK uids s ∧ sp = slotTrack f uids s := by
  cases s with
  | none => simp [slotSpec, SlotOK]
  | some x =>
    cases x with
    | none => simp [slotSpec, SlotOK, slotTrack, eq_comm]
    | some t =>
      simp only [slotSpec, SlotOK, slotTrack]
      by_cases ht : t.id < uids.length
      · simp [List.getD_eq_getElem?_getD, ht, eq_comm]
      · simp [ht]

/-- the channel allocation of a regular pack (and the input allocation of a matrix pack). -/
def inputAlloc (f : Formats) (uids : List Nat) (al : PackAlloc.Allocated) : List (Nat × TSpec) :=
  al.allocation.map fun cs => (cs.1.cf, slotTrack f uids cs.2)

/-- a characterisation of `f` of the form used throughout this file lifts through `mapE`. -/
theorem mapE_ok_iff_of_pointwise {α β : Type} [Inhabited β] {f : α → Except Err β} {P : α → Prop} {g : α → β}
    (hfg : ∀ x y, f x = .ok y ↔ P x ∧ y = g x) (l : List α) (r : List β) :
    mapE f l = .ok r ↔ (∀ x ∈ l, P x) ∧ r = l.map g := by
  rw [mapE_ok_iff]
  constructor
  · rintro ⟨hall, rfl⟩
    refine ⟨fun x hx => ?_, List.map_congr_left fun x hx => ?_⟩
    · obtain ⟨y, hy⟩ := hall x hx
      exact ((hfg x y).1 hy).1
    · obtain ⟨y, hy⟩ := hall x hx
      rw [okVal_of_ok hy, ((hfg x y).1 hy).2]
  · rintro ⟨hall, rfl⟩
    refine ⟨fun x hx => ⟨g x, (hfg x _).2 ⟨hall x hx, rfl⟩⟩, List.map_congr_left fun x hx => ?_⟩
    rw [okVal_of_ok ((hfg x (g x)).2 ⟨hall x hx, rfl⟩)]

theorem mapE_slotEntry_ok_iff (f : Formats) (uids : List Nat) (l : List (PackAlloc.Channel × PackAlloc.Slot))
    (r : List (Nat × TSpec)) :
    mapE (slotEntry f uids) l = .ok r ↔
      (∀ cs ∈ l, SlotOK uids cs.2) ∧ r = l.map fun cs => (cs.1.cf, slotTrack f uids cs.2) := by
  refine mapE_ok_iff_of_pointwise (fun cs y => ?_) l r
  unfold slotEntry
  rcases cases_of_ok_iff (slotSpec_ok_iff f uids cs.2) with ⟨e, he, hn⟩ | ⟨hs, hok⟩
  · rw [he]
    exact ⟨nofun, fun h => absurd h.1 hn⟩
  · rw [hs, Except.ok.injEq]
    exact ⟨fun h => ⟨hok, h.symm⟩, fun h => h.2.symm⟩

/-- the track spec of a matrix channel, declaratively: C20's `packSpec` of the channel tree. -/
def matrixTrack (f : Formats) (inputs : List (Nat × TSpec)) (mc : Nat) : TSpec :=
  match toMChan f inputs (f.channels.length + 1) mc with
  | some m => packSpec m
  | none => .silent

/-- the channel of the output pack that a matrix channel feeds. -/
def matrixOut (f : Formats) (mc : Nat) : Nat := ((f.chan mc).matrix.outputChannel).getD 0

theorem matrixEntry_ok_iff (f : Formats) (inputs : List (Nat × TSpec)) (mc : Nat) (r : Nat × TSpec) :
    matrixEntry f inputs mc = .ok r ↔
      ((f.chan mc).matrix.outputChannel ≠ none ∧ (toMChan f inputs (f.channels.length + 1) mc).isSome) ∧
        r = (matrixOut f mc, matrixTrack f inputs mc) := by
  unfold matrixEntry matrixOut matrixTrack
  cases hoc : (f.chan mc).matrix.outputChannel with
  | none => simp
  | some oc =>
    simp only [ne_eq, reduceCtorEq, not_false_eq_true, true_and, Option.getD_some]
    cases hm : matrixSpec f inputs (f.channels.length + 1) mc with
    | error e =>
      have := eq_none_of_error (fun m ht => (matrixSpec_ok_iff f inputs _ mc (packSpec m)).2 ⟨m, ht, rfl⟩) hm
      simp [this]
    | ok s =>
      obtain ⟨m, htm, rfl⟩ := matrixSpec_eq_packSpec hm
      simp [htm, eq_comm]

/-- the output pack and channel allocation of an allocated pack, declaratively: a regular pack is
rendered as itself, each channel from the track allocated to it; a matrix pack renders its
`outputPackFormat`, the channel `outputChannelFormat` of every matrix channel from the matrix sum
`packSpec (toMChan ..)` over the input allocation. -/
def declOutput (f : Formats) (uids : List Nat) (al : PackAlloc.Allocated) : AllocPack :=
  if (f.pack al.pack.root).type ≠ 2 then ⟨al.pack.root, inputAlloc f uids al⟩
  else
    ⟨((f.pack al.pack.root).outputPack).getD 0,
     (f.pack al.pack.root).channels.map fun mc => (matrixOut f mc, matrixTrack f (inputAlloc f uids al) mc)⟩

/-- when `output_pack` / `output_channel_allocation` return (they raise nothing but "cannot happen"
errors): no `_EMPTY` entry, real tracks among the selected ones, and for a matrix pack an
`outputPackFormat`, an `outputChannelFormat` on every channel and a channel tree that bottoms out in the
input allocation. -/
def OutputOK (f : Formats) (uids : List Nat) (al : PackAlloc.Allocated) : Prop :=
  (∀ cs ∈ al.allocation, SlotOK uids cs.2) ∧
  ((f.pack al.pack.root).type = 2 →
    (f.pack al.pack.root).outputPack ≠ none ∧
    ∀ mc ∈ (f.pack al.pack.root).channels, (f.chan mc).matrix.outputChannel ≠ none ∧
      (toMChan f (inputAlloc f uids al) (f.channels.length + 1) mc).isSome)

theorem outputOf_ok_iff (f : Formats) (uids : List Nat) (al : PackAlloc.Allocated) (ap : AllocPack) :
    outputOf f uids al = .ok ap ↔ OutputOK f uids al ∧ ap = declOutput f uids al := by
  unfold outputOf OutputOK declOutput
  dsimp only
  rcases cases_of_ok_iff (mapE_slotEntry_ok_iff f uids al.allocation) with ⟨e, he, hn⟩ | ⟨hin, hall⟩
  · rw [he]
    exact ⟨nofun, fun h => absurd h.1.1 hn⟩
  rw [hin]
  dsimp only
  by_cases hty : (f.pack al.pack.root).type ≠ 2
  · rw [if_pos hty, if_pos hty, Except.ok.injEq]
    exact ⟨fun h => ⟨⟨hall, fun h2 => absurd h2 hty⟩, h.symm⟩, fun h => h.2.symm⟩
  · have hty2 : (f.pack al.pack.root).type = 2 := by omega
    rw [if_neg hty, if_neg hty]
    simp only [hty2, forall_const]
    cases hout : (f.pack al.pack.root).outputPack with
    | none => simp
    | some out =>
      simp only [ne_eq, reduceCtorEq, not_false_eq_true, true_and, Option.getD_some]
      rcases cases_of_ok_iff (mapE_ok_iff_of_pointwise (matrixEntry_ok_iff f (inputAlloc f uids al))
        (f.pack al.pack.root).channels) with ⟨e, he, hn⟩ | ⟨hm, hmc⟩
      · rw [inputAlloc] at he
        rw [he]
        exact ⟨nofun, fun h => absurd h.1.2 hn⟩
      · rw [inputAlloc] at hm
        rw [hm, Except.ok.injEq]
        exact ⟨fun h => ⟨⟨hall, hmc⟩, h.symm⟩, fun h => h.2.symm⟩

def absDistAlong (f : Formats) (pp : List Nat) : List (Option Rat) := pp.map fun q => (f.pack q).absDist

/-- `_get_extra_data` returns exactly `extraOf` with the one absoluteDistance that
`get_single_param` finds for all channels. -/
theorem getExtraData_ok_iff (a : Adm) (st : State) (ppc : List (List Nat × Nat)) (ch : Option Nat) (e : Extra) :
    getExtraData a st ppc ch = .ok e ↔
      ∃ ad, getSingleParam ppc (fun pc => getPathParam (absDistAlong a.fmt pc.1)) = .ok ad ∧
        e = extraOf a st ch ad := by
  unfold getExtraData absDistAlong
  cases getSingleParam ppc (fun pc => getPathParam (pc.1.map fun p => (a.fmt.pack p).absDist)) with
  | error err => simp
  | ok ad => simp [eq_comm]

/-- the values of one HOA parameter along a pack path and on the channel's block format
(`hoa._get_pack_param`). -/
def hoaAlong {β : Type} (f : Formats) (ps : Pack → Option β) (bs : HoaBlock → Option β) (pc : List Nat × Nat) :
    List (Option β) :=
  pc.1.map (fun p => ps (f.pack p)) ++ [bs (f.chan pc.2).hoa]

theorem hoaPackParam_eq {β : Type} [DecidableEq β] (f : Formats) (ps : Pack → Option β) (bs : HoaBlock → Option β)
    (pc : List Nat × Nat) : hoaPackParam f ps bs pc = getPathParam (hoaAlong f ps bs pc) := rfl

/-- `hoa.get_normalization`: the normalization set on a pack of the path or on the block (all that are set
agree, else it raises), "SN3D" (label 0) if none is set. -/
theorem hoaNorm_ok_iff (f : Formats) (pc : List Nat × Nat) (n : Nat) :
    hoaNorm f pc = .ok n ↔
      ∃ v, getPathParam (hoaAlong f (·.normalization) (·.normalization) pc) = .ok v ∧ n = v.getD 0 := by
  unfold hoaNorm
  rw [hoaPackParam_eq]
  cases getPathParam (hoaAlong f (·.normalization) (·.normalization) pc) with
  | error e => simp
  | ok v => simp [eq_comm]

/-- `hoa.get_nfcRefDist`: as above, with 0.0 meaning "not set". -/
theorem hoaNfc_ok_iff (f : Formats) (pc : List Nat × Nat) (n : Option Rat) :
    hoaNfc f pc = .ok n ↔
      ∃ v, getPathParam (hoaAlong f (·.nfcRefDist) (·.nfcRefDist) pc) = .ok v ∧
        n = if v = some 0 then none else v := by
  unfold hoaNfc
  rw [hoaPackParam_eq]
  cases getPathParam (hoaAlong f (·.nfcRefDist) (·.nfcRefDist) pc) with
  | error e => simp
  | ok v => simp [eq_comm]

/-- `hoa.get_screenRef`: as above, default `False`. -/
theorem hoaSref_ok_iff (f : Formats) (pc : List Nat × Nat) (b : Bool) :
    hoaSref f pc = .ok b ↔
      ∃ v, getPathParam (hoaAlong f (·.screenRef) (·.screenRef) pc) = .ok v ∧ b = v.getD false := by
  unfold hoaSref
  rw [hoaPackParam_eq]
  cases getPathParam (hoaAlong f (·.screenRef) (·.screenRef) pc) with
  | error e => simp
  | ok v => simp [eq_comm]

/-- the merged `HOATypeMetadata` exists exactly when the pack has a channel and all
channels agree on rtime, duration, normalization, nfcRefDist and screenRef (each found along the channel's
own pack path or block format); orders, degrees, gains and importances are listed per channel, in channel
order.  Proof: `getSingleParam_ok_iff` five times, in the order in which `hoaMetaOf` evaluates. -/
theorem hoaMetaOf_ok_iff (f : Formats) (ppc : List (List Nat × Nat)) (hm : HoaMeta) :
    hoaMetaOf f ppc = .ok hm ↔
      ppc ≠ [] ∧
      (∀ pc ∈ ppc, (f.chan pc.2).hoa.rtime = hm.rtime ∧ (f.chan pc.2).hoa.duration = hm.duration ∧
        hoaNorm f pc = .ok hm.normalization ∧ hoaNfc f pc = .ok hm.nfcRefDist ∧
        hoaSref f pc = .ok hm.screenRef) ∧
      hm.orders = ppc.map (fun pc => (f.chan pc.2).hoa.order) ∧
      hm.degrees = ppc.map (fun pc => (f.chan pc.2).hoa.degree) ∧
      hm.gains = ppc.map (fun pc => (f.chan pc.2).hoa.gain) ∧
      hm.importances = ppc.map (fun pc => (f.chan pc.2).hoa.importance) := by
  constructor
  · intro h
    unfold hoaMetaOf at h
    dsimp only at h
    split at h
    · cases h
    · rename_i rt h1
      split at h
      · cases h
      · rename_i du h2
        split at h
        · cases h
        · rename_i no h3
          split at h
          · cases h
          · rename_i nf h4
            split at h
            · cases h
            · rename_i sr h5
              cases h
              obtain ⟨hne, g1⟩ := (getSingleParam_ok_iff _ _ _).1 h1
              obtain ⟨_, g2⟩ := (getSingleParam_ok_iff _ _ _).1 h2
              obtain ⟨_, g3⟩ := (getSingleParam_ok_iff _ _ _).1 h3
              obtain ⟨_, g4⟩ := (getSingleParam_ok_iff _ _ _).1 h4
              obtain ⟨_, g5⟩ := (getSingleParam_ok_iff _ _ _).1 h5
              refine ⟨hne, fun pc hpc => ⟨?_, ?_, g3 pc hpc, g4 pc hpc, g5 pc hpc⟩, rfl, rfl, rfl, rfl⟩
              · exact Except.ok.inj (g1 pc hpc)
              · exact Except.ok.inj (g2 pc hpc)
  · rintro ⟨hne, hall, ho, hd, hg, hi⟩
    have g1 := (getSingleParam_ok_iff ppc (fun pc => (.ok (f.chan pc.2).hoa.rtime : Except Err (Option Rat))) hm.rtime).2
      ⟨hne, fun pc hpc => by rw [(hall pc hpc).1]⟩
    have g2 := (getSingleParam_ok_iff ppc (fun pc => (.ok (f.chan pc.2).hoa.duration : Except Err (Option Rat))) hm.duration).2
      ⟨hne, fun pc hpc => by rw [(hall pc hpc).2.1]⟩
    have g3 := (getSingleParam_ok_iff ppc (hoaNorm f) hm.normalization).2 ⟨hne, fun pc hpc => (hall pc hpc).2.2.1⟩
    have g4 := (getSingleParam_ok_iff ppc (hoaNfc f) hm.nfcRefDist).2 ⟨hne, fun pc hpc => (hall pc hpc).2.2.2.1⟩
    have g5 := (getSingleParam_ok_iff ppc (hoaSref f) hm.screenRef).2 ⟨hne, fun pc hpc => (hall pc hpc).2.2.2.2⟩
    unfold hoaMetaOf
    dsimp only
    rw [g1]; dsimp only
    rw [g2]; dsimp only
    rw [g3]; dsimp only
    rw [g4]; dsimp only
    rw [g5]; dsimp only
    rw [← ho, ← hd, ← hg, ← hi]

/-- `(audioPackFormat_path, audioChannelFormat)` of every channel of an allocated output pack. -/
def packPathsChannels (f : Formats) (ap : AllocPack) : List (List Nat × Nat) :=
  ap.alloc.map fun ct => (thePackPath f ap.pack ct.1, ct.1)

theorem hoaPathOf_ok_iff (f : Formats) (p : Nat) (ct : Nat × TSpec) (r : List Nat × Nat) :
    hoaPathOf f p ct = .ok r ↔ (∃ pp, getPackFormatPath f p ct.1 = .ok pp) ∧ r = (thePackPath f p ct.1, ct.1) := by
  unfold hoaPathOf
  cases h : getPackFormatPath f p ct.1 with
  | error e => simp
  | ok pp =>
    have := (getPackFormatPath_eq h).1
    subst this
    simp [eq_comm]

/-- `_get_RenderingItems_HOA` yields one item for the pack: the tracks and channels in
allocation order, each channel's own pack path, the merged `HOATypeMetadata` and the extra data for all
channels together (no channel frequency). -/
theorem hoaItem_ok_iff (a : Adm) (st : State) (ap : AllocPack) (it : Item) :
    hoaItem a st ap = .ok it ↔
      (∀ ct ∈ ap.alloc, ∃ pp, getPackFormatPath a.fmt ap.pack ct.1 = .ok pp) ∧
      ∃ hm ex, hoaMetaOf a.fmt (packPathsChannels a.fmt ap) = .ok hm ∧
        getExtraData a st (packPathsChannels a.fmt ap) none = .ok ex ∧
        it = { kind := 4, tracks := ap.alloc.map (·.2), channels := (packPathsChannels a.fmt ap).map (·.2),
               programme := st.programme, content := st.content, objPath := st.objPath,
               packPaths := (packPathsChannels a.fmt ap).map (·.1), extra := ex,
               importances := (packPathsChannels a.fmt ap).map fun pc => getImportance a st pc.1,
               blocks := [], hoa := some hm } := by
  unfold hoaItem
  rcases cases_of_ok_iff (mapE_ok_iff_of_pointwise (hoaPathOf_ok_iff a.fmt ap.pack) ap.alloc) with
    ⟨e, he, hn⟩ | ⟨hm, hall⟩
  · rw [he]
    exact ⟨nofun, fun h => absurd h.1 hn⟩
  rw [hm]
  simp only [packPathsChannels]
  cases hmeta : hoaMetaOf a.fmt (ap.alloc.map fun ct => (thePackPath a.fmt ap.pack ct.1, ct.1)) with
  | error e => simp
  | ok m =>
    cases hex : getExtraData a st (ap.alloc.map fun ct => (thePackPath a.fmt ap.pack ct.1, ct.1)) none with
    | error e => simp
    | ok ex =>
      simp only [Except.ok.injEq]
      constructor
      · intro h; exact ⟨hall, m, ex, rfl, rfl, h.symm⟩
      · rintro ⟨_, m', ex', hm', hex', rfl⟩
        cases hm'; cases hex'; rfl

/-- the Objects / DirectSpeakers item of channel `ct.1` of output pack `p`, fed by track spec `ct.2`. -/
def declSingle (a : Adm) (st : State) (p : Nat) (ct : Nat × TSpec) : Item :=
  let pp := thePackPath a.fmt p ct.1
  { kind := (a.fmt.pack p).type, tracks := [ct.2], channels := [ct.1],
    programme := st.programme, content := st.content, objPath := st.objPath,
    packPaths := [pp], extra := extraOf a st (some ct.1) (firstSome (absDistAlong a.fmt pp)),
    importances := [getImportance a st pp], blocks := (a.fmt.chan ct.1).blocks, hoa := none }

/-- the merged HOA parameters of an output pack: every single-valued parameter read at the first channel
(`hoaMetaOf_ok_iff`: all channels agree). -/
def declHoaMeta (f : Formats) (ppc : List (List Nat × Nat)) : HoaMeta :=
  let pc0 := ppc.headD ([], 0)
  let nfc := firstSome (hoaAlong f (·.nfcRefDist) (·.nfcRefDist) pc0)
  { rtime := (f.chan pc0.2).hoa.rtime, duration := (f.chan pc0.2).hoa.duration,
    orders := ppc.map fun pc => (f.chan pc.2).hoa.order,
    degrees := ppc.map fun pc => (f.chan pc.2).hoa.degree,
    gains := ppc.map fun pc => (f.chan pc.2).hoa.gain,
    importances := ppc.map fun pc => (f.chan pc.2).hoa.importance,
    normalization := (firstSome (hoaAlong f (·.normalization) (·.normalization) pc0)).getD 0,
    nfcRefDist := if nfc = some 0 then none else nfc,
    screenRef := (firstSome (hoaAlong f (·.screenRef) (·.screenRef) pc0)).getD false }

def declHoa (a : Adm) (st : State) (ap : AllocPack) : Item :=
  let ppc := packPathsChannels a.fmt ap
  { kind := 4, tracks := ap.alloc.map (·.2), channels := ppc.map (·.2),
    programme := st.programme, content := st.content, objPath := st.objPath,
    packPaths := ppc.map (·.1),
    extra := extraOf a st none (firstSome (absDistAlong a.fmt (ppc.headD ([], 0)).1)),
    importances := ppc.map fun pc => getImportance a st pc.1,
    blocks := [], hoa := some (declHoaMeta a.fmt ppc) }

/-- one item per channel (Objects, DirectSpeakers), one item per pack (HOA). -/
def declItems (a : Adm) (st : State) (ap : AllocPack) : List Item :=
  if (a.fmt.pack ap.pack).type = 4 then [declHoa a st ap] else ap.alloc.map (declSingle a st ap.pack)

/-- the per-item parameter merges of an allocated output pack exist — the pack is of a
renderable type (Objects / DirectSpeakers: one item per channel; HOA: one item), every allocated channel lies on
exactly one pack path below the pack (`getPackFormatPath_ok_iff`), the absoluteDistance values along that path agree
(`getPathParam_ok_iff`), and for HOA the merged parameters exist (`hoaMetaOf_ok_iff`: all channels agree on
rtime/duration/normalization/nfcRefDist/screenRef) and all channels give the same absoluteDistance
(`getSingleParam_ok_iff`).
NOT derived from validation and NOT declarative: it is literally "the model's `getPackFormatPath` / `getPathParam` /
`hoaMetaOf` / `getSingleParam` return `.ok`" on the allocated pack (each of them has the `_ok_iff` characterisation
named above, but `select_ok_iff` / `select_eq_decl_validated` do not unfold them), so the `PackItemsOK` half of
`StateAllocOK` in `select_ok_iff` is an unfolding of the model, not a consequence of `validate_structure` (which by
itself would have to establish e.g. agreeing absoluteDistance values and HOA parameters: it does check the latter, the
link is not proved here). -/
def PackItemsOK (f : Formats) (ap : AllocPack) : Prop :=
  (((f.pack ap.pack).type = 3 ∨ (f.pack ap.pack).type = 1) ∧
    ∀ ct ∈ ap.alloc, (∃ pp, getPackFormatPath f ap.pack ct.1 = .ok pp) ∧
      ∃ ad, getPathParam (absDistAlong f (thePackPath f ap.pack ct.1)) = .ok ad) ∨
  ((f.pack ap.pack).type = 4 ∧ (∀ ct ∈ ap.alloc, ∃ pp, getPackFormatPath f ap.pack ct.1 = .ok pp) ∧
    (∃ hm, hoaMetaOf f (packPathsChannels f ap) = .ok hm) ∧
    ∃ ad, getSingleParam (packPathsChannels f ap) (fun pc => getPathParam (absDistAlong f pc.1)) = .ok ad)

/-- the item of one channel exists exactly when the channel lies on one pack path below the pack and the
absoluteDistance values along that path agree; it is then the declarative item (of kind `ty`). -/
theorem singleItem_iff (a : Adm) (st : State) (ty p : Nat) (ct : Nat × TSpec) (it : Item) :
    singleItem a st ty p ct = .ok it ↔
      ((∃ pp, getPackFormatPath a.fmt p ct.1 = .ok pp) ∧
        ∃ ad, getPathParam (absDistAlong a.fmt (thePackPath a.fmt p ct.1)) = .ok ad) ∧
      it = { declSingle a st p ct with kind := ty } := by
  unfold singleItem
  cases hpp : getPackFormatPath a.fmt p ct.1 with
  | error e => simp
  | ok pp =>
    obtain rfl := (getPackFormatPath_eq hpp).1
    have hged := getExtraData_ok_iff a st [(thePackPath a.fmt p ct.1, ct.1)] (some ct.1)
    simp only [Except.ok.injEq, exists_eq', true_and]
    cases hex : getExtraData a st [(thePackPath a.fmt p ct.1, ct.1)] (some ct.1) with
    | error e =>
      simp only [reduceCtorEq, false_iff, not_and]
      rintro ⟨ad, had⟩ _
      have := (hged _).2 ⟨ad, (getSingleParam_ok_iff _ _ _).2
        ⟨by simp, fun x hx => by rw [List.mem_singleton.1 hx]; exact had⟩, rfl⟩
      rw [hex] at this
      cases this
    | ok ex =>
      obtain ⟨ad, had, rfl⟩ := (hged ex).1 hex
      have had' := ((getSingleParam_ok_iff _ _ _).1 had).2 _ (List.mem_singleton.2 rfl)
      obtain rfl := getPathParam_eq_firstSome had'
      simp only [Except.ok.injEq]
      exact ⟨fun h => ⟨⟨_, had'⟩, h.symm⟩, fun h => h.2.symm⟩

theorem singleItem_eq_decl {a : Adm} {st : State} {p : Nat} {ct : Nat × TSpec} {it : Item}
    (h : singleItem a st (a.fmt.pack p).type p ct = .ok it) :
    it = declSingle a st p ct ∧
      (∃ pp, getPackFormatPath a.fmt p ct.1 = .ok pp) ∧
      ∃ ad, getPathParam (absDistAlong a.fmt (thePackPath a.fmt p ct.1)) = .ok ad :=
  let ⟨hp, hit⟩ := (singleItem_iff ..).1 h
  ⟨hit, hp⟩

theorem hoaMeta_eq_decl {f : Formats} {ppc : List (List Nat × Nat)} {hm : HoaMeta}
    (h : hoaMetaOf f ppc = .ok hm) : hm = declHoaMeta f ppc := by
  obtain ⟨hne, hall, ho, hd, hg, hi⟩ := (hoaMetaOf_ok_iff f ppc hm).1 h
  cases ppc with
  | nil => exact absurd rfl hne
  | cons pc0 rest =>
    obtain ⟨h1, h2, h3, h4, h5⟩ := hall pc0 (List.mem_cons_self ..)
    obtain ⟨v3, e3, hn⟩ := (hoaNorm_ok_iff f pc0 _).1 h3
    obtain ⟨v4, e4, hf⟩ := (hoaNfc_ok_iff f pc0 _).1 h4
    obtain ⟨v5, e5, hs⟩ := (hoaSref_ok_iff f pc0 _).1 h5
    have := getPathParam_eq_firstSome e3
    subst this
    have := getPathParam_eq_firstSome e4
    subst this
    have := getPathParam_eq_firstSome e5
    subst this
    cases hm
    simp only [declHoaMeta, List.headD_cons] at *
    simp only [HoaMeta.mk.injEq]
    exact ⟨h1.symm, h2.symm, ho, hd, hg, hi, hn, hf, hs⟩

theorem hoaItem_eq_decl {a : Adm} {st : State} {ap : AllocPack} {it : Item} (h : hoaItem a st ap = .ok it) :
    it = declHoa a st ap := by
  obtain ⟨_, hm, ex, hmeta, hex, rfl⟩ := (hoaItem_ok_iff a st ap it).1 h
  obtain ⟨ad, had, rfl⟩ := (getExtraData_ok_iff _ _ _ _ _).1 hex
  obtain ⟨hne, hall⟩ := (getSingleParam_ok_iff _ _ _).1 had
  have hmd := hoaMeta_eq_decl hmeta
  subst hmd
  unfold declHoa
  cases hp : packPathsChannels a.fmt ap with
  | nil => exact absurd hp hne
  | cons pc0 rest =>
    rw [hp] at hall
    have := getPathParam_eq_firstSome (hall pc0 (List.mem_cons_self ..))
    subst this
    rfl

/-- the HOA item of an allocated pack exists exactly when the HOA half of `PackItemsOK` holds; it is then `declHoa`. -/
theorem hoaItem_iff (a : Adm) (st : State) (ap : AllocPack) (it : Item) :
    hoaItem a st ap = .ok it ↔
      ((∀ ct ∈ ap.alloc, ∃ pp, getPackFormatPath a.fmt ap.pack ct.1 = .ok pp) ∧
        (∃ hm, hoaMetaOf a.fmt (packPathsChannels a.fmt ap) = .ok hm) ∧
        ∃ ad, getSingleParam (packPathsChannels a.fmt ap) (fun pc => getPathParam (absDistAlong a.fmt pc.1)) = .ok ad) ∧
      it = declHoa a st ap := by
  constructor
  · intro h
    obtain ⟨hp, hm, ex, hmeta, hex, _⟩ := (hoaItem_ok_iff a st ap it).1 h
    obtain ⟨ad, had, _⟩ := (getExtraData_ok_iff _ _ _ _ _).1 hex
    exact ⟨⟨hp, ⟨hm, hmeta⟩, ad, had⟩, hoaItem_eq_decl h⟩
  · rintro ⟨⟨hp, ⟨hm, hmeta⟩, ad, had⟩, rfl⟩
    have h := (hoaItem_ok_iff a st ap _).2
      ⟨hp, hm, _, hmeta, (getExtraData_ok_iff a st _ none _).2 ⟨ad, had, rfl⟩, rfl⟩
    rw [h, hoaItem_eq_decl h]

/-- `_get_rendering_items` returns for an allocated output pack exactly when `PackItemsOK`, and then the declarative
items. -/
theorem itemsOfPack_iff (a : Adm) (st : State) (ap : AllocPack) (its : List Item) :
    itemsOfPack a st ap = .ok its ↔ PackItemsOK a.fmt ap ∧ its = declItems a st ap := by
  unfold itemsOfPack PackItemsOK declItems
  dsimp only
  by_cases h31 : (a.fmt.pack ap.pack).type = 3 ∨ (a.fmt.pack ap.pack).type = 1
  · have h4 : (a.fmt.pack ap.pack).type ≠ 4 := by rcases h31 with h | h <;> omega
    simp only [h31, if_true, true_and, h4, false_and, or_false, if_false]
    exact mapE_ok_iff_of_pointwise (fun ct it => singleItem_iff a st _ ap.pack ct it) ap.alloc its
  · by_cases h4 : (a.fmt.pack ap.pack).type = 4
    · rw [if_neg h31, if_pos h4, if_pos h4]
      simp only [h31, false_and, false_or, eq_true h4, true_and]
      rcases cases_of_ok_iff (hoaItem_iff a st ap) with ⟨e, he, hn⟩ | ⟨hh, hok⟩
      · rw [he]
        exact ⟨nofun, fun h => absurd h.1 hn⟩
      · rw [hh, Except.ok.injEq]
        exact ⟨fun h => ⟨hok, h.symm⟩, fun h => h.2.symm⟩
    · simp [h31, h4]

theorem itemsOfPack_eq_decl {a : Adm} {st : State} {ap : AllocPack} {its : List Item}
    (h : itemsOfPack a st ap = .ok its) :
    its = declItems a st ap ∧ ((a.fmt.pack ap.pack).type = 1 ∨ (a.fmt.pack ap.pack).type = 3 ∨
      (a.fmt.pack ap.pack).type = 4) := by
  obtain ⟨hok, rfl⟩ := (itemsOfPack_iff a st ap its).1 h
  refine ⟨rfl, ?_⟩
  rcases hok with ⟨h3 | h1, _⟩ | ⟨h4, _⟩
  · exact Or.inr (Or.inl h3)
  · exact Or.inl h1
  · exact Or.inr (Or.inr h4)

/-- the alternativeValueSet references that apply to a state: the programme's, then the content's. -/
def avsRefs (a : Adm) (st : State) : List Nat :=
  (match st.programme with | some q => (a.prog q).avs | none => []) ++
  (match st.content with | some c => (a.cont c).avs | none => [])

theorem getAvs_some {a : Adm} {st : State} {v : Avs} (h : getAvs a st = some v) :
    ∃ o, st.leaf a = some o ∧ v ∈ o.avs ∧ v.label ∈ avsRefs a st := by
  unfold getAvs at h
  cases hl : st.leaf a with
  | none => simp [hl] at h
  | some o =>
    simp only [hl] at h
    have hmem := List.mem_of_getLast? h
    simp only [List.mem_filterMap] at hmem
    obtain ⟨l, hlm, hf⟩ := hmem
    have hv := List.find?_some hf
    have hvm := List.mem_of_find?_eq_some hf
    simp only [beq_iff_eq] at hv
    exact ⟨o, rfl, hvm, by rw [hv]; exact hlm⟩

/-- no alternativeValueSet applies exactly when there is no leaf object (CHNA-only mode) or none of the
references of the item's programme/content names an alternativeValueSet of the leaf object. -/
theorem getAvs_eq_none_iff (a : Adm) (st : State) :
    getAvs a st = none ↔ st.leaf a = none ∨
      ∃ o, st.leaf a = some o ∧ ∀ l ∈ avsRefs a st, ∀ v ∈ o.avs, v.label ≠ l := by
  unfold getAvs
  cases hl : st.leaf a with
  | none => simp
  | some o =>
    simp only [reduceCtorEq, false_or, Option.some.injEq, exists_eq_left']
    rw [List.getLast?_eq_none_iff, List.filterMap_eq_nil_iff]
    constructor
    · intro h l hlm v hv hlab
      have := h l hlm
      rw [List.find?_eq_none] at this
      exact this v hv (by simpa using hlab)
    · intro h l hlm
      rw [List.find?_eq_none]
      intro v hv
      simpa using h l hlm v hv

theorem getAvs_eq_avsRefs (a : Adm) (st : State) :
    getAvs a st = ((st.leaf a).map (·.avs)).bind fun avs =>
      ((avsRefs a st).filterMap fun l => avs.find? (·.label == l)).getLast? := by
  unfold getAvs avsRefs
  cases st.leaf a <;> cases st.programme <;> cases st.content <;> rfl

theorem getAvs_congr {a a' : Adm} {st st' : State} (hleaf : (st'.leaf a').map (·.avs) = (st.leaf a).map (·.avs))
    (hrefs : avsRefs a' st' = avsRefs a st) : getAvs a' st' = getAvs a st := by
  rw [getAvs_eq_avsRefs, getAvs_eq_avsRefs, hleaf, hrefs]

/-- when exactly one of the applying references names an alternativeValueSet of the leaf object (which
`_validate_avs_references` guarantees), that alternativeValueSet is the one selected. -/
theorem getAvs_unique {a : Adm} {st : State} {o : Obj} (hl : st.leaf a = some o) {v : Avs}
    (h : (avsRefs a st).filterMap (fun l => o.avs.find? (·.label == l)) = [v]) : getAvs a st = some v := by
  rw [getAvs_eq_avsRefs, hl, Option.map_some, Option.bind_some, h]
  rfl

theorem getD_mem_of_lt {α : Type} {l : List α} {i : Nat} (h : i < l.length) (d : α) : l.getD i d ∈ l :=
  getD_mem d h

/-- `channel_format_for_track_uid`: the referenced channel format itself (BS.2076-2 style) or the one
reached through audioTrackFormat → audioStreamFormat; in a document with all references in range it is a
channel format of the document. -/
theorem trackChannel_lt {a : Adm} (hwf : a.refsInRange = true) {u : Nat} (hu : u < a.fmt.trackUIDs.length) :
    trackChannel a.fmt u < a.fmt.channels.length := by
  obtain ⟨_, _, _, _, _, hsf, htf, huid⟩ := refsInRange_at hwf
  have hr := (huid u hu).2
  unfold trackChannel
  cases href : (a.fmt.uid u).ref with
  | channel c => exact hr.2 c href
  | trackFormat t => exact hsf _ (getD_mem_of_lt (htf _ (getD_mem_of_lt (hr.1 t href) 0)) 0)

theorem trackChannel_channel {f : Formats} {u c : Nat} (h : (f.uid u).ref = .channel c) : trackChannel f u = c := by
  simp [trackChannel, h]

theorem trackChannel_trackFormat {f : Formats} {u t : Nat} (h : (f.uid u).ref = .trackFormat t) :
    trackChannel f u = f.streamFormats.getD (f.trackFormats.getD t 0) 0 := by
  simp [trackChannel, h]

end Earverif.Adm
