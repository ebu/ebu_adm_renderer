/-
C06 / C14 link: what `validate_structure` — in the C14 model (`Model/Validate.lean`, proofs in `Proofs/C14.lean`,
`Proofs/C14Matrix.lean`) — establishes for the item-selection model (`Model/SelectItems.lean`).

`toDoc a` (Model/SelectItems.lean) is the C14 document graph of an index-based document.  Proved here:
`validateStructure (toDoc a) = ok` implies `multitreeOK a.fmt` (the hypothesis of the C06 theorems; from C14's
`mtDfs_ok`: a successful dfs visits pairwise different nodes) and that `wrappedPacks a.fmt` (building the
`AllocationPack`s) succeeds (from C14's `matrixPackOk_of_struct`, `decode_encode_input`).  `wrappedNonempty` is NOT
implied: an audioPackFormat without channels and sub-packs passes validation (example in `Props/C06.lean`).
Core Lean only.
-/
import Earverif.Proofs.C06WF
import Earverif.Proofs.C14Matrix

namespace Earverif.Adm

open Earverif.AdmV (Doc)
open Earverif.Validate (validateStructure validateMultitree)

/-- the C14 document `d` has the audioPackFormat → audioPackFormat / audioChannelFormat reference graph of `f`. -/
structure PackGraphSim (f : Formats) (d : Doc) : Prop where
  npacks : d.packs.length = f.packs.length
  subs : ∀ p, (d.pack p).packs = (f.pack p).subPacks
  chans : ∀ p, (d.pack p).channels = (f.pack p).channels

def toNode : PNode → Validate.Node
  | .pack i => .pack i
  | .chan c => .chan c

theorem flatMap_sublist {α β : Type} {f g : α → List β} : ∀ {l : List α}, (∀ x ∈ l, (f x).Sublist (g x)) →
    (l.flatMap f).Sublist (l.flatMap g)
  | [], _ => by simp
  | x :: xs, h => by
    simp only [List.flatMap_cons]
    exact (h x (List.mem_cons_self ..)).append (flatMap_sublist fun y hy => h y (List.mem_cons_of_mem _ hy))

/-- the nodes the C06 predicate looks at are among the nodes the dfs of the C14 model visits, in the same order. -/
theorem mtVisit_sublist {f : Formats} {d : Doc} (h : PackGraphSim f d) : ∀ fuel p,
    ((mtVisit f fuel p).map toNode).Sublist (Validate.visit d (fuel + 1) (.pack p))
  | 0, _ => by simp [mtVisit]
  | fuel + 1, p => by
    have ih := mtVisit_sublist h fuel
    rw [Validate.visit_succ]
    simp only [mtVisit, List.map_cons, toNode, Validate.mtChildren, List.flatMap_append, h.subs, h.chans,
      List.map_append, List.map_map, List.flatMap_map, List.map_flatMap]
    refine List.Sublist.cons_cons _ (List.Sublist.append ?_ ?_)
    · exact flatMap_sublist fun s _ => ih s
    · have e : ∀ l : List Nat, l.flatMap (fun a => Validate.visit d (fuel + 1) (Validate.Node.chan a)) =
          l.map (toNode ∘ PNode.chan) := by
        intro l
        induction l with
        | nil => rfl
        | cons c t ih' => rw [List.flatMap_cons, ih', Validate.visit_chan]; rfl
      rw [e]
      exact List.Sublist.refl _

theorem multitreeOK_of_validateMultitree {f : Formats} {d : Doc} (h : PackGraphSim f d)
    (hv : validateMultitree d = .ok ()) : multitreeOK f = true := by
  unfold multitreeOK
  simp only [List.all_eq_true, List.mem_range, decide_eq_true_eq]
  intro p hp
  have hdfs := Validate.forE_ok hv p (List.mem_range.mpr (by rw [h.npacks]; exact hp))
  cases hm : Validate.mtDfs d (d.packs.length + 2) (.pack p) [] [] with
  | error e => rw [hm] at hdfs; cases hdfs
  | ok s' =>
    obtain ⟨hnd, _, _⟩ := Validate.mtDfs_ok d _ _ _ _ _ hm
    rw [h.npacks] at hnd
    exact nodup_of_nodup_map toNode ((mtVisit_sublist h _ p).nodup hnd)

theorem getD_map_default' {α β : Type} (f : α → β) (l : List α) (i : Nat) (d : α) (d' : β) (hd : f d = d') :
    (l.map f).getD i d' = f (l.getD i d) :=
  getD_map_of_eq f l i hd

theorem toDoc_pack (a : Adm) (p : Nat) : (toDoc a).pack p = tdPack (a.fmt.pack p) :=
  getD_map_default' tdPack a.fmt.packs p default default rfl

theorem toDoc_packGraph (a : Adm) : PackGraphSim a.fmt (toDoc a) :=
  ⟨by simp [toDoc], fun p => by rw [toDoc_pack]; rfl, fun p => by rw [toDoc_pack]; rfl⟩

theorem multitreeOK_of_validate {a : Adm} (hv : validateStructure (toDoc a) = .ok ()) :
    multitreeOK a.fmt = true :=
  multitreeOK_of_validateMultitree (toDoc_packGraph a) (Validate.validateStructure_ok hv).multitree

theorem tdType_matrix {n : Nat} : tdType n = .matrix ↔ n = 2 := by
  unfold tdType
  split <;> simp_all

/-- on a document that `validate_structure` accepts, building the `AllocationPack`s (`_PackAllocator(adm)`:
`matrix.type_of`, `[encode_pack] = ...`, `encode_pack.inputPackFormat`) never fails. -/
theorem wrappedPacks_ok_of_validate {a : Adm} (hv : validateStructure (toDoc a) = .ok ()) :
    ∃ wps, wrappedPacks a.fmt = .ok wps := by
  have hs := Validate.validateStructure_ok hv
  rw [wrappedPacks_eq]
  refine ⟨_, (flatMapE_ok_iff _ _ _).2 ⟨fun p _ => ?_, rfl⟩⟩
  unfold wrapOne
  split
  · exact ⟨_, rfl⟩
  · rename_i hty
    have hty2 : (a.fmt.pack p).type = 2 := by
      by_cases h2 : (a.fmt.pack p).type = 2
      · exact h2
      · exact absurd h2 hty
    have hp : ((toDoc a).pack p).type = .matrix := by rw [toDoc_pack]; exact tdType_matrix.2 hty2
    have hm := Validate.matrixPackOk_of_struct hs hp
    have hin : ((toDoc a).pack p).input = (a.fmt.pack p).inputPack := by rw [toDoc_pack]; rfl
    have hout : ((toDoc a).pack p).output = (a.fmt.pack p).outputPack := by rw [toDoc_pack]; rfl
    have henc : ((toDoc a).pack p).encodePacks = (a.fmt.pack p).encodePacks := by rw [toDoc_pack]; rfl
    unfold wrapMatrix
    dsimp only
    cases hi : (a.fmt.pack p).inputPack with
    | some i =>
      cases ho : (a.fmt.pack p).outputPack with
      | some o => exact ⟨_, rfl⟩
      | none => exact ⟨_, rfl⟩
    | none =>
      cases ho : (a.fmt.pack p).outputPack with
      | none =>
        exfalso
        obtain ⟨t, ht, _⟩ := hm.apf.typed
        unfold Validate.typeOf at ht
        rw [hin, hout, hi, ho] at ht
        cases ht
      | some o =>
        have ht : Validate.typeOf ((toDoc a).pack p) = .ok .decode := by
          unfold Validate.typeOf
          rw [hin, hout, hi, ho]
        obtain ⟨e, ii, he, _, _, _, hii⟩ := Validate.decode_encode_input hm ht
        rw [henc] at he
        have hei : (a.fmt.pack e).inputPack = some ii := by
          rw [toDoc_pack] at hii; exact hii
        simp only [he, hei]
        exact ⟨_, rfl⟩

end Earverif.Adm
