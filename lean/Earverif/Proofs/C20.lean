/-
C20 — lemmas for Props/C20.lean (core Lean only): one `Delay.process` call (`delay_process_eq`, taken over from
`Stream.delay_process_eq` of `Proofs/C02Delay.lean`, where C02 proves it of the same Python method), length and
causality of the literal meaning (`meaning_length`, `meaning_take`), what simplification preserves
(`simplify_meaning`, `simplify_preserves`, `simplify_buildable'`), and the processors.  The processor theorems
rest on a state invariant: `after fs nch started s pre` is the processor of `s` after it has consumed `pre`;
`step_after` advances it by one block, `run_after` / `runMulti_after` iterate.
-/
import Earverif.Model.TrackSpec
import Earverif.Proofs.C02Delay
namespace Earverif.TrackSpec
variable {α : Type} [Sample α]

@[simp] theorem zeros_length (n : Nat) : (zeros n : List α).length = n := by simp [zeros]
@[simp] theorem zeros_zero : (zeros 0 : List α) = [] := rfl
theorem zeros_take (n k : Nat) : (zeros n : List α).take k = zeros (min k n) := by simp [zeros, List.take_replicate]
theorem zeros_drop (n k : Nat) : (zeros n : List α).drop k = zeros (n - k) := by simp [zeros, List.drop_replicate]
theorem zeros_append (a b : Nat) : (zeros a ++ zeros b : List α) = zeros (a + b) := by simp [zeros, List.replicate_append_replicate]

theorem ceil_eq_of (t : Rat) (k : Int) (h1 : (k : Rat) - 1 < t) (h2 : t ≤ k) : t.ceil = k := by
  have a : t.ceil ≤ k := Rat.ceil_le_iff.mpr h2
  have b : k - 1 < t.ceil := Rat.lt_ceil_iff.mpr (by
    have : ((k - 1 : Int) : Rat) = (k : Rat) - 1 := by simp [Rat.intCast_sub]
    rw [this]; exact h1)
  omega

/-- `delayProcess` and `Stream.Delay.process` (Model/Stream.lean, with the zero sample as fill value) transliterate the
same Python method; they are the same function. -/
theorem delayProcess_eq_stream (mem inp : List α) :
    delayProcess mem inp = Stream.Delay.process Sample.zero mem inp := by
  unfold delayProcess Stream.Delay.process
  simp only [zeros, show @setSlice α = Stream.setSlice from rfl, List.length_replicate]
  -- the output block keeps its length under the first slice assignment
  have hl : (if min mem.length inp.length ≠ 0 then
      Stream.setSlice (List.replicate inp.length (Sample.zero : α)) 0 (List.take (min mem.length inp.length) mem)
      else List.replicate inp.length Sample.zero).length = inp.length := by
    split <;> simp [Stream.setSlice]; omega
  simp only [hl]
  rcases Nat.lt_trichotomy mem.length inp.length with h | h | h
  · simp [h, Nat.lt_asymm h]
  · simp [h]
  · simp [h, Stream.setSlice]

/-- one `Delay.process` call, for every memory length and block length (block shorter than, equal to, longer than the
delay; empty block; zero delay) -/
theorem delay_process_eq (mem inp : List α) :
    delayProcess mem inp = ((mem ++ inp).take inp.length, (mem ++ inp).drop inp.length) := by
  rw [delayProcess_eq_stream, Stream.delay_process_eq]

omit [Sample α] in
theorem drop_append_assoc (m a t : List α) :
    (m ++ a).drop a.length ++ t = (m ++ (a ++ t)).drop a.length := by
  rw [← List.append_assoc]
  exact (List.drop_append_of_le_length (by simp)).symm

theorem delayRun_eq_stream (parts : List (List α)) : ∀ mem : List α,
    delayRun mem parts = Stream.Delay.run Sample.zero mem parts := by
  induction parts with
  | nil => intro mem; rfl
  | cons b rest ih => intro mem; simp only [delayRun, Stream.Delay.run, delayProcess_eq_stream, ih]

omit [Sample α] in
/-- blocks are the chunks of their concatenation -/
theorem eq_chunks : ∀ L : List (List α), L = chunks (L.map List.length) L.flatten
  | [] => rfl
  | b :: rest => by
    simp only [List.map_cons, List.flatten_cons, chunks, List.take_left', List.drop_left']
    rw [← eq_chunks rest]

theorem delayRun_eq (parts : List (List α)) (mem : List α) :
    (delayRun mem parts).1 = chunks (parts.map List.length) ((mem ++ parts.flatten).take parts.flatten.length) ∧
    (delayRun mem parts).2 = (mem ++ parts.flatten).drop parts.flatten.length := by
  obtain ⟨h1, h2, h3⟩ := Stream.delay_run_eq Sample.zero parts mem
  rw [delayRun_eq_stream]
  exact ⟨(eq_chunks _).trans (by rw [h3, h1]), h2⟩

theorem vadd_length (a b : List α) : (vadd a b).length = min a.length b.length := by
  simp [vadd]

theorem vadd_zeros (a : List α) (n : Nat) (h : a.length = n) : vadd a (zeros n) = a := by
  subst h
  induction a with
  | nil => simp [vadd]
  | cons x xs ih =>
    simp only [vadd, zeros, List.length_cons, List.replicate_succ, List.zipWith_cons_cons, Sample.add_zero]
    congr 1

theorem zeros_vadd (a : List α) (n : Nat) (h : a.length = n) : vadd (zeros n) a = a := by
  subst h
  induction a with
  | nil => simp [vadd]
  | cons x xs ih =>
    simp only [vadd, zeros, List.length_cons, List.replicate_succ, List.zipWith_cons_cons, Sample.zero_add]
    congr 1

theorem foldl_vadd_length (n : Nat) (ls : List (List α)) (hl : ∀ l ∈ ls, l.length = n) :
    ∀ acc : List α, acc.length = n → (ls.foldl vadd acc).length = n := by
  induction ls with
  | nil => intro acc h; simpa using h
  | cons l ls ih =>
    intro acc h
    simp only [List.foldl_cons]
    apply ih (fun l' hl' => hl l' (by simp [hl']))
    rw [vadd_length, h, hl l (by simp)]; simp

theorem foldl_vadd_take (k : Nat) (ls : List (List α)) :
    ∀ acc : List α, (ls.foldl vadd acc).take k = (ls.map (List.take k)).foldl vadd (acc.take k) := fun acc => by
  rw [List.foldl_map]
  exact (List.foldl_hom (List.take k) fun a l => by simp [vadd, List.take_zipWith]).symm

theorem foldl_vadd_drop (k : Nat) (ls : List (List α)) :
    ∀ acc : List α, (ls.foldl vadd acc).drop k = (ls.map (List.drop k)).foldl vadd (acc.drop k) := fun acc => by
  rw [List.foldl_map]
  exact (List.foldl_hom (List.drop k) fun a l => by simp [vadd, List.drop_zipWith]).symm

theorem scaleOpt_length (g : Option α) (l : List α) : (scaleOpt g l).length = l.length := by
  cases g <;> simp [scaleOpt]

theorem scaleOpt_take (g : Option α) (l : List α) (k : Nat) : (scaleOpt g l).take k = scaleOpt g (l.take k) := by
  cases g <;> simp [scaleOpt, List.map_take]

theorem scaleOpt_drop (g : Option α) (l : List α) (k : Nat) : (scaleOpt g l).drop k = scaleOpt g (l.drop k) := by
  cases g <;> simp [scaleOpt, List.map_drop]

theorem scaleOpt_zeros (g : Option α) (n : Nat) : scaleOpt g (zeros n : List α) = zeros n := by
  cases g <;> simp [scaleOpt, zeros, Sample.zero_mul]

theorem delayBy_length (k : Nat) (l : List α) : (delayBy k l).length = l.length := by
  simp [delayBy]

theorem delayBy_zeros (k n : Nat) : delayBy k (zeros n : List α) = zeros n := by
  simp [delayBy, zeros_append, zeros_take]

mutual
theorem meaning_length (fs : Int) (nch : Nat) : ∀ (s : Spec α) (x : List (List α)),
    (meaning fs nch s x).length = x.length
  | .direct i, x => by
    simp only [meaning]; split <;> simp
  | .silent, x => by simp [meaning]
  | .mix ts, x => by
    simp only [meaning, vsum]
    exact foldl_vadd_length x.length _ (meaningList_length fs nch ts x) _ (by simp)
  | .gain t g, x => by simp [meaning, meaning_length fs nch t x]
  | .matrix t g d, x => by
    simp only [meaning]
    split
    · rw [scaleOpt_length, meaning_length fs nch t x]
    · rw [delayBy_length, scaleOpt_length, meaning_length fs nch t x]
theorem meaningList_length (fs : Int) (nch : Nat) : ∀ (ts : List (Spec α)) (x : List (List α)),
    ∀ l ∈ meaningList fs nch ts x, l.length = x.length
  | [], x => by simp [meaningList]
  | t :: ts, x => by
    intro l hl
    simp only [meaningList, List.mem_cons] at hl
    rcases hl with rfl | hl
    · exact meaning_length fs nch t x
    · exact meaningList_length fs nch ts x l hl
end

theorem delayBy_take (k n : Nat) (l : List α) : (delayBy k l).take n = delayBy k (l.take n) := by
  simp only [delayBy, List.take_take, List.length_take]
  -- only the first `n` samples of `l` are looked at
  conv => lhs; rw [← List.take_append_drop n l, ← List.append_assoc, List.take_append_drop]
  exact List.take_append_of_le_length (by simp only [List.length_append, List.length_take]; omega)

mutual
theorem meaning_take (fs : Int) (nch : Nat) : ∀ (s : Spec α) (x y : List (List α)),
    (meaning fs nch s (x ++ y)).take x.length = meaning fs nch s x
  | .direct i, x, y => by
    simp only [meaning]; split <;> simp [zeros_take]
  | .silent, x, y => by simp [meaning, zeros_take]
  | .mix ts, x, y => by
    simp only [meaning, vsum]
    rw [foldl_vadd_take, meaningList_take fs nch ts x y]
    simp [zeros_take]
  | .gain t g, x, y => by
    simp only [meaning, ← List.map_take, meaning_take fs nch t x y]
  | .matrix t g d, x, y => by
    simp only [meaning]
    split <;> simp only [delayBy_take, scaleOpt_take, meaning_take fs nch t x y]
theorem meaningList_take (fs : Int) (nch : Nat) : ∀ (ts : List (Spec α)) (x y : List (List α)),
    (meaningList fs nch ts (x ++ y)).map (List.take x.length) = meaningList fs nch ts x
  | [], x, y => by simp [meaningList]
  | t :: ts, x, y => by
    simp only [meaningList, List.map_cons, meaning_take fs nch t x y, meaningList_take fs nch ts x y]
end

theorem meaning_append (fs : Int) (nch : Nat) (s : Spec α) (x y : List (List α)) :
    meaning fs nch s (x ++ y) = meaning fs nch s x ++ (meaning fs nch s (x ++ y)).drop x.length := by
  conv => lhs; rw [← List.take_append_drop x.length (meaning fs nch s (x ++ y))]
  rw [meaning_take]

omit [Sample α] in
theorem isSilent_eq {s : Spec α} (h : s.isSilent = true) : s = .silent := by
  cases s <;> simp_all [Spec.isSilent]

theorem foldl_filter_silent (fs : Int) (nch : Nat) (x : List (List α)) (ts : List (Spec α)) :
    ∀ acc : List α, acc.length = x.length →
      (meaningList fs nch (ts.filter (fun t => !t.isSilent)) x).foldl vadd acc =
      (meaningList fs nch ts x).foldl vadd acc := by
  induction ts with
  | nil => intro acc _; rfl
  | cons t ts ih =>
    intro acc hacc
    by_cases ht : t.isSilent = true
    · have := isSilent_eq ht; subst this
      simp only [Spec.isSilent, Bool.not_true, Bool.false_eq_true, not_false_eq_true, List.filter_cons_of_neg,
        meaningList, meaning, List.foldl_cons]
      rw [vadd_zeros acc _ hacc]
      exact ih acc hacc
    · simp only [ht, Bool.not_false, List.filter_cons_of_pos, meaningList, List.foldl_cons]
      apply ih
      rw [vadd_length, hacc, meaning_length]; simp

variable [DecidableEq α]

mutual
theorem simplify_meaning (fs : Int) (nch : Nat) : ∀ (s : Spec α) (x : List (List α)),
    meaning fs nch (simplify s) x = meaning fs nch s x
  | .direct i, x => by simp [simplify]
  | .silent, x => by simp [simplify]
  | .mix ts, x => by
    have ih := simplifyList_meaning fs nch ts x
    have key := foldl_filter_silent fs nch x (simplifyList ts) (zeros x.length) (by simp)
    rw [ih] at key
    simp only [simplify]
    generalize (simplifyList ts).filter (fun t => !t.isSilent) = L at key
    match L with
    | [] =>
      simp only [meaning, vsum, ← key, meaningList, List.foldl_nil]
    | [t] =>
      simp only [meaning, vsum, ← key, meaningList, List.foldl_cons, List.foldl_nil]
      rw [zeros_vadd _ _ (meaning_length fs nch t x)]
    | t :: u :: r =>
      simp only [meaning, vsum, ← key]
  | .gain t g, x => by
    have ih := simplify_meaning fs nch t x
    simp only [simplify]
    split
    · rename_i h; subst h
      simp [meaning, ih, Sample.mul_one]
    · simp only [meaning, ih]
  | .matrix t g d, x => by
    have ih := simplify_meaning fs nch t x
    simp only [simplify]
    split
    · rename_i h
      rw [isSilent_eq h] at ih
      simp only [meaning] at ih ⊢
      rw [← ih, scaleOpt_zeros]
      split
      · rfl
      · rw [delayBy_zeros]
    · simp only [meaning, ih]
theorem simplifyList_meaning (fs : Int) (nch : Nat) : ∀ (ts : List (Spec α)) (x : List (List α)),
    meaningList fs nch (simplifyList ts) x = meaningList fs nch ts x
  | [], x => by simp [simplifyList]
  | t :: ts, x => by
    simp only [simplifyList, meaningList, simplify_meaning fs nch t x, simplifyList_meaning fs nch ts x]
end

omit [Sample α] [DecidableEq α] in
theorem all_filter {β : Type} {q : β → Bool} (p : β → Bool) {l : List β} (h : l.all q = true) :
    (l.filter p).all q = true :=
  List.all_eq_true.mpr fun x hx => List.all_eq_true.mp h x (List.mem_filter.mp hx).1

omit [Sample α] [DecidableEq α] in
theorem Spec.buildableList_eq_all : ∀ ts : List (Spec α), Spec.buildableList ts = ts.all Spec.buildable
  | [] => rfl
  | t :: ts => by simp only [Spec.buildableList, List.all_cons, Spec.buildableList_eq_all ts]

/-- `P` holds of a node iff it holds of its inputs and, at a coefficient node, `Q` holds of the delay -/
structure NodeWise (P : Spec α → Bool) (Q : Option Rat → Bool) : Prop where
  silent : P .silent = true
  mix : ∀ ts, P (.mix ts) = ts.all P
  gain : ∀ t g, P (.gain t g) = P t
  matrix : ∀ t g d, P (.matrix t g d) = (P t && Q d)

mutual
/-- `_simplify_track_spec` only removes nodes, so a node-wise property survives it -/
theorem simplify_preserves {P : Spec α → Bool} {Q : Option Rat → Bool} (hP : NodeWise P Q) :
    ∀ s : Spec α, P s = true → P (simplify s) = true
  | .direct i, h => by simpa [simplify] using h
  | .silent, _ => by simpa [simplify] using hP.silent
  | .mix ts, h => by
    rw [hP.mix] at h
    have key := all_filter (fun t => !t.isSilent) (simplifyList_preserves hP ts h)
    simp only [simplify]
    generalize (simplifyList ts).filter (fun t => !t.isSilent) = L at key
    match L with
    | [] => exact hP.silent
    | [t] => simpa using key
    | t :: u :: r => rw [hP.mix]; exact key
  | .gain t g, h => by
    rw [hP.gain] at h
    simp only [simplify]
    split
    · exact simplify_preserves hP t h
    · rw [hP.gain]; exact simplify_preserves hP t h
  | .matrix t g d, h => by
    rw [hP.matrix, Bool.and_eq_true] at h
    simp only [simplify]
    split
    · exact hP.silent
    · rw [hP.matrix, simplify_preserves hP t h.1, h.2]; rfl
theorem simplifyList_preserves {P : Spec α → Bool} {Q : Option Rat → Bool} (hP : NodeWise P Q) :
    ∀ ts : List (Spec α), ts.all P = true → (simplifyList ts).all P = true
  | [], _ => rfl
  | t :: ts, h => by
    simp only [List.all_cons, Bool.and_eq_true] at h
    simp only [simplifyList, List.all_cons, simplify_preserves hP t h.1, simplifyList_preserves hP ts h.2, Bool.and_self]
end

omit [Sample α] [DecidableEq α] in
theorem Spec.wfList_eq_all (fs : Int) (nch : Nat) : ∀ ts : List (Spec α),
    Spec.wfList fs nch ts = ts.all (Spec.wf fs nch)
  | [] => rfl
  | t :: ts => by simp only [Spec.wfList, List.all_cons, Spec.wfList_eq_all fs nch ts]

omit [Sample α] [DecidableEq α] in
theorem wf_nodeWise (fs : Int) (nch : Nat) : NodeWise (α := α) (Spec.wf fs nch)
    (fun d => match d with | none => true | some ms => decide (0 ≤ delaySamples fs ms)) where
  silent := rfl
  mix ts := by simp only [Spec.wf, Spec.wfList_eq_all]
  gain _ _ := by simp only [Spec.wf]
  matrix _ _ d := by cases d <;> simp only [Spec.wf]

theorem simplify_wf (fs : Int) (nch : Nat) : ∀ (s : Spec α), s.wf fs nch = true → (simplify s).wf fs nch = true :=
  simplify_preserves (wf_nodeWise fs nch)

theorem simplifyList_wf (fs : Int) (nch : Nat) : ∀ (ts : List (Spec α)),
    Spec.wfList fs nch ts = true → Spec.wfList fs nch (simplifyList ts) = true := fun ts h => by
  rw [Spec.wfList_eq_all] at h ⊢
  exact simplifyList_preserves (wf_nodeWise fs nch) ts h

/- Not an instance of `simplify_preserves`: the input need not be buildable (a `mix` of nothing is not); `simplify`
makes it so. -/
mutual
theorem simplify_buildable' : ∀ (s : Spec α), (simplify s).buildable = true
  | .direct i => by simp [simplify, Spec.buildable]
  | .silent => by simp [simplify, Spec.buildable]
  | .mix ts => by
    have key := all_filter (fun t => !t.isSilent) (Spec.buildableList_eq_all _ ▸ simplifyList_buildable ts)
    rw [← Spec.buildableList_eq_all] at key
    simp only [simplify]
    generalize (simplifyList ts).filter (fun t => !t.isSilent) = L at key
    match L with
    | [] => simp [Spec.buildable]
    | [t] => simp only [Spec.buildableList, Bool.and_true] at key; exact key
    | t :: u :: r => simpa [Spec.buildable] using key
  | .gain t g => by
    have ih := simplify_buildable' t
    simp only [simplify]
    split
    · exact ih
    · simpa [Spec.buildable] using ih
  | .matrix t g d => by
    have ih := simplify_buildable' t
    simp only [simplify]
    split
    · simp [Spec.buildable]
    · simpa [Spec.buildable] using ih
theorem simplifyList_buildable : ∀ (ts : List (Spec α)), Spec.buildableList (simplifyList ts) = true
  | [] => by simp [simplifyList, Spec.buildableList]
  | t :: ts => by
    simp only [simplifyList, Spec.buildableList, Bool.and_eq_true]
    exact ⟨simplify_buildable' t, simplifyList_buildable ts⟩
end

mutual
/-- The processor for `s` after it has consumed the frames `x` (`started = true`), or freshly built
(`started = false`, no `Delay` object yet; only used with `x = []`). The delay memory of a coefficient
node holds the last `d` samples of `zeros d ++ (scaled input signal on x)`. -/
def after (fs : Int) (nch : Nat) (started : Bool) : Spec α → List (List α) → Proc α
  | .silent, _ => .silent
  | .direct i, _ => .direct i
  | .mix ts, x => .mix (afterList fs nch started ts x)
  | .gain t g, x => .gain (after fs nch started t x) g
  | .matrix t g d, x =>
    .matrix (after fs nch started t x) g d
      (match d with
       | none => none
       | some ms =>
         if started then
           some (fs, (zeros (delaySamples fs ms).toNat ++ scaleOpt g (meaning fs nch t x)).drop x.length)
         else none)
def afterList (fs : Int) (nch : Nat) (started : Bool) : List (Spec α) → List (List α) → List (Proc α)
  | [], _ => []
  | t :: ts, x => after fs nch started t x :: afterList fs nch started ts x
end

omit [DecidableEq α] in
mutual
theorem build_eq_after (fs : Int) (nch : Nat) : ∀ (s : Spec α), s.buildable = true →
    build s = .ok (after fs nch false s [])
  | .silent, _ => by simp [build, after]
  | .direct i, _ => by simp [build, after]
  | .mix ts, h => by
    simp only [Spec.buildable, Bool.and_eq_true, Bool.not_eq_true'] at h
    simp only [build, h.1, Bool.false_eq_true, ↓reduceIte, buildList_eq_afterList fs nch ts h.2, after]
  | .gain t g, h => by
    simp only [Spec.buildable] at h
    simp only [build, build_eq_after fs nch t h, after]
  | .matrix t g d, h => by
    simp only [Spec.buildable] at h
    simp only [build, build_eq_after fs nch t h, after]
    cases d <;> rfl
theorem buildList_eq_afterList (fs : Int) (nch : Nat) : ∀ (ts : List (Spec α)), Spec.buildableList ts = true →
    buildList ts = .ok (afterList fs nch false ts [])
  | [], _ => by simp [buildList, afterList]
  | t :: ts, h => by
    simp only [Spec.buildableList, Bool.and_eq_true] at h
    simp only [buildList, build_eq_after fs nch t h.1, buildList_eq_afterList fs nch ts h.2, afterList]
end

omit [DecidableEq α] in
/-- one `Delay.process` call on the memory reached after the prefix `A`, fed the continuation `T` -/
theorem delay_step (k : Nat) (A T : List α) :
    delayProcess ((zeros k ++ A).drop A.length) T =
      (((delayBy k (A ++ T))).drop A.length, (zeros k ++ (A ++ T)).drop (A ++ T).length) := by
  rw [delay_process_eq, drop_append_assoc]
  refine Prod.ext ?_ ?_
  · simp only [delayBy, List.length_append, List.drop_take]
    congr 1; omega
  · simp only [List.drop_drop, List.length_append]

omit [DecidableEq α] in
/-- `init_delay` on the delay memory held after the prefix `A` of the scaled input; before the first call
(`started = false`) nothing has been processed -/
theorem initDelay_after (fs : Int) (ms : Rat) (started : Bool) (A : List α) (hk : ¬ delaySamples fs ms < 0)
    (hs : started = false → A = []) :
    initDelay fs ms (if started = true then some (fs, (zeros (delaySamples fs ms).toNat ++ A).drop A.length)
      else none) = .ok (fs, (zeros (delaySamples fs ms).toNat ++ A).drop A.length) := by
  cases started with
  | true => simp [initDelay]
  | false => rw [hs rfl]; simp [initDelay, hk]

omit [DecidableEq α] in
theorem scaleOpt_append (g : Option α) (a b : List α) : scaleOpt g (a ++ b) = scaleOpt g a ++ scaleOpt g b := by
  cases g <;> simp [scaleOpt]

omit [DecidableEq α] in
mutual
/-- One `process` call: from the state after the prefix `pre`, block `blk` yields the state after
`pre ++ blk` and exactly the part of the meaning that belongs to `blk`. -/
theorem step_after (fs : Int) (nch : Nat) : ∀ (s : Spec α), s.wf fs nch = true →
    ∀ (started : Bool) (pre blk : List (List α)), (started = false → pre = []) →
    step fs nch (after fs nch started s pre) blk =
      .ok (after fs nch true s (pre ++ blk), (meaning fs nch s (pre ++ blk)).drop pre.length)
  | .silent, _, started, pre, blk, _ => by
    simp [after, step, meaning, zeros_drop]
  | .direct i, h, started, pre, blk, _ => by
    simp only [Spec.wf, Option.isSome_iff_exists] at h
    obtain ⟨k, hk⟩ := h
    simp [after, step, meaning, hk]
  | .mix ts, h, started, pre, blk, hs => by
    simp only [Spec.wf] at h
    simp only [after, step, stepList_after fs nch ts h started pre blk hs, meaning, vsum]
    rw [foldl_vadd_drop]
    simp [zeros_drop]
  | .gain t g, h, started, pre, blk, hs => by
    simp only [Spec.wf] at h
    simp only [after, step, step_after fs nch t h started pre blk hs, meaning, List.map_drop]
  | .matrix t g d, h, started, pre, blk, hs => by
    simp only [Spec.wf, Bool.and_eq_true] at h
    simp only [after, step, step_after fs nch t h.1 started pre blk hs, meaning]
    cases d with
    | none => simp only [scaleOpt_drop]
    | some ms =>
      have hk : ¬ delaySamples fs ms < 0 := by
        have := h.2; simp only [decide_eq_true_eq] at this; omega
      have hl : pre.length = (scaleOpt g (meaning fs nch t pre)).length := by rw [scaleOpt_length, meaning_length]
      have hnil : started = false → scaleOpt g (meaning fs nch t pre) = [] := fun h0 =>
        List.eq_nil_of_length_eq_zero (by rw [← hl, hs h0]; rfl)
      simp only
      rw [hl, initDelay_after fs ms started _ hk hnil]
      simp only
      -- the scaled input on `pre ++ blk` is `A ++ T`, `A` the part the memory was built from and `T` what this call
      -- feeds: `delay_step`; then `A ++ T` is folded back
      rw [meaning_append fs nch t pre blk, scaleOpt_append, delay_step, ← hl]
      simp only [← meaning_append, ← scaleOpt_append, scaleOpt_length, meaning_length, ↓reduceIte]
theorem stepList_after (fs : Int) (nch : Nat) : ∀ (ts : List (Spec α)), Spec.wfList fs nch ts = true →
    ∀ (started : Bool) (pre blk : List (List α)), (started = false → pre = []) →
    stepList fs nch (afterList fs nch started ts pre) blk =
      .ok (afterList fs nch true ts (pre ++ blk), (meaningList fs nch ts (pre ++ blk)).map (List.drop pre.length))
  | [], _, started, pre, blk, _ => by simp [afterList, stepList, meaningList]
  | t :: ts, h, started, pre, blk, hs => by
    simp only [Spec.wfList, Bool.and_eq_true] at h
    simp only [afterList, stepList, step_after fs nch t h.1 started pre blk hs,
      stepList_after fs nch ts h.2 started pre blk hs, meaningList, List.map_cons]
end

omit [DecidableEq α] in
theorem piece_eq (fs : Int) (nch : Nat) (s : Spec α) (pre b r : List (List α)) :
    ((meaning fs nch s (pre ++ (b ++ r))).drop pre.length).take b.length =
      (meaning fs nch s (pre ++ b)).drop pre.length := by
  have := meaning_take fs nch s (pre ++ b) r
  rw [List.append_assoc] at this
  rw [← this, List.drop_take]
  congr 1; simp

omit [DecidableEq α] in
theorem run_after (fs : Int) (nch : Nat) (s : Spec α) (hwf : s.wf fs nch = true) :
    ∀ (parts : List (List (List α))) (started : Bool) (pre : List (List α)), (started = false → pre = []) →
    run fs nch (after fs nch started s pre) parts =
      .ok (chunks (parts.map List.length) ((meaning fs nch s (pre ++ parts.flatten)).drop pre.length)) := by
  intro parts
  induction parts with
  | nil => intro started pre _; simp [run, chunks]
  | cons b rest ih =>
    intro started pre hs
    simp only [run, step_after fs nch s hwf started pre b hs, ih true (pre ++ b) (by simp),
      List.map_cons, chunks, List.flatten_cons]
    congr 2
    · exact (piece_eq fs nch s pre b rest.flatten).symm
    · rw [List.drop_drop, List.append_assoc, List.length_append]

omit [Sample α] [DecidableEq α] in
/-- `parts` only gives the block lengths: in `processor_eq_meaning` it is the input, blocks of rows, while `l` is the
output, samples — hence `β` -/
theorem chunks_flatten {β : Type} (parts : List (List β)) : ∀ (l : List α), l.length = parts.flatten.length →
    (chunks (parts.map List.length) l).flatten = l := by
  induction parts with
  | nil => intro l h; simp at h; simp [chunks, h]
  | cons b rest ih =>
    intro l h
    simp only [List.map_cons, chunks, List.flatten_cons]
    rw [ih (l.drop b.length) (by simp at h ⊢; omega), List.take_append_drop]

omit [DecidableEq α] in
theorem meaningList_eq_map (fs : Int) (nch : Nat) (x : List (List α)) : ∀ ts : List (Spec α),
    meaningList fs nch ts x = ts.map (fun s => meaning fs nch s x)
  | [] => rfl
  | t :: ts => by simp only [meaningList, List.map_cons, meaningList_eq_map fs nch x ts]

theorem simplifyList_eq_map : ∀ ts : List (Spec α), simplifyList ts = ts.map simplify
  | [] => rfl
  | t :: ts => by simp only [simplifyList, List.map_cons, simplifyList_eq_map ts]

/-- `MultiTrackProcessor.__init__` builds the list of the simplified specs -/
theorem buildMulti_eq_buildList : ∀ ss : List (Spec α), buildMulti ss = buildList (simplifyList ss)
  | [] => rfl
  | t :: ts => by simp only [buildMulti, trackProcessor, simplifyList, buildList, buildMulti_eq_buildList ts]

theorem buildMulti_eq (fs : Int) (nch : Nat) : ∀ ss : List (Spec α),
    buildMulti ss = .ok (afterList fs nch false (simplifyList ss) []) := fun ss => by
  rw [buildMulti_eq_buildList, buildList_eq_afterList fs nch _ (simplifyList_buildable ss)]

omit [DecidableEq α] in
theorem runMulti_after (fs : Int) (nch : Nat) (ts : List (Spec α)) (hwf : Spec.wfList fs nch ts = true)
    (hne : ts ≠ []) :
    ∀ (parts : List (List (List α))) (started : Bool) (pre : List (List α)), (started = false → pre = []) →
    runMulti fs nch (afterList fs nch started ts pre) parts =
      .ok (stackRuns (parts.map List.length) (ts.map fun s =>
        chunks (parts.map List.length) ((meaning fs nch s (pre ++ parts.flatten)).drop pre.length))) := by
  intro parts
  induction parts with
  | nil => intro started pre _; simp [runMulti, stackRuns]
  | cons b rest ih =>
    intro started pre hs
    have hcols : ((meaningList fs nch ts (pre ++ b)).map (List.drop pre.length)).isEmpty = false := by
      cases ts with
      | nil => exact absurd rfl hne
      | cons t ts => simp [meaningList]
    simp only [runMulti, stepMulti, stepList_after fs nch ts hwf started pre b hs, hcols,
      Bool.false_eq_true, ↓reduceIte, ih true (pre ++ b) (by simp), List.map_cons, stackRuns,
      List.flatten_cons, List.map_map]
    congr 3
    · rw [meaningList_eq_map, List.map_map]
      apply List.map_congr_left
      intro s _
      simp only [Function.comp, chunks, List.headD_cons]
      exact (piece_eq fs nch s pre b rest.flatten).symm
    · apply List.map_congr_left
      intro s _
      simp only [Function.comp, chunks, List.tail_cons]
      rw [List.drop_drop, List.append_assoc, List.length_append]
end Earverif.TrackSpec
