/-
C08: composition of the grid model of the float leaf (`Leaf.num k`, `dumpsNum`) with the real float text
(`fmt5` / `parseFloat`, `Model/FloatText.lean`) along the GENERIC handler-table path: every text that a declarative
`FloatType` row (`Attribute` / `AttrElement` / `ListElement`) of a regenerated parser table writes for an object whose
values under that row are bounded grid numbers is the text the real `FloatType.dumps` writes for the nearest double,
`float()` of that text is that double, and printing it again gives the same text.

The hand-written handlers (`Model/XmlCustom.lean` / `XmlBlocks.lean`) hold their numbers as `Int` fields written with
`dumpsNum` directly; they are traversed handler by handler: the five gain handlers (`gainRow_texts`), jumpPosition
interpolationLength as `SecondsType` (`jumpRow_texts`), and through `siteSpecs` / `siteRow_texts`: Objects position,
DirectSpeakers position with bounds, channelLock maxDistance, objectDivergence, zoneExclusion, positionOffset,
frequency, reference-screen centre position / width, gain / position interaction ranges.  `custom_rows_classified`
(kernel-decided on the regenerated table) says no other number-writing handler pair occurs in the tables.
Which texts of a written element are number texts is specified per handler (text / attribute names), not derived.
A gain in dB (`XV.gainDB`, dB bounds of a gain interaction range) is symbolic and never written.
-/
import Earverif.Proofs.C08Float
import Earverif.Proofs.C08Tables

namespace Earverif.FloatDoc
open Earverif.XmlCodec Earverif.XmlBlocks Earverif.XmlElements Earverif.FloatText Earverif.Ieee

/-- the double (as a `PyFloat`) nearest to the grid value `k / 10^5` -/
noncomputable def gridDouble (k : ℤ) : PyFloat := .fin (decide (k < 0)) (rn53 ((k.natAbs : ℚ) / 100000))

/-- `t` is the text the real `FloatType.dumps` (`"{:.5f}".format`) writes for the double nearest to `k / 10^5`;
the real `FloatType.loads` (`float()`) reads it as exactly that double; writing what was read gives `t` again -/
def RealFloatText (k : ℤ) (t : String) : Prop :=
  IsDouble (rn53 ((k.natAbs : ℚ) / 100000)) ∧
  t.toList = fmt5 (gridDouble k) ∧
  parseFloat t.toList = some (gridDouble k) ∧
  (parseFloat t.toList).map fmt5 = some t.toList

/-- the bound of `floatCodec_refines`: `|k| / 10^5 < 2^36` -/
def numBound : ℕ := 2 ^ 36 * 10 ^ 5

theorem realFloatText_dumpsNum (k : ℤ) (hk : k.natAbs < numBound) : RealFloatText k (dumpsNum k) := by
  obtain ⟨h1, h2, _, h4⟩ := floatCodec_refines k hk
  refine ⟨h4, h1, h2, ?_⟩
  rw [h2, Option.map_some, ← h1]

/-- a table row whose texts are written by `FloatType.dumps` through a declarative combinator
(`TypeAttribute` rows use the enum codecs whatever `ty` says; `HandleText`: see `no_float_handleText`) -/
def isFloatRow (r : Row) : Bool :=
  r.ty == "FloatType" && (r.kind == "Attribute" || r.kind == "AttrElement" || r.kind == "ListElement")

/-- a value under a `FloatType` row: a bounded grid number, or the handler default (nothing is written; for any other
value the real `"{:.5f}".format` raises or prints something the grid model does not describe) -/
def floatValOK (dflt : XV) : XV → Bool
  | .leaf (.num k) => decide (k.natAbs < numBound) || (XV.leaf (.num k) == dflt)
  | v => v == dflt

/-- a list item under a `FloatType` `ListElement` row -/
def floatItemOK : XV → Bool
  | .leaf (.num k) => decide (k.natAbs < numBound)
  | _ => false

/-- the values of `o` under the row `r` are bounded grid numbers (rows that are not declarative `FloatType` rows: no
condition) -/
def rowNumsBounded (o : Obj XV) (r : Row) : Bool :=
  !isFloatRow r ||
  match o r.argName with
  | .one v => r.kind == "ListElement" || floatValOK (.leaf (leafOfRepr r.handlerDefault)) v
  | .many vs => r.kind != "ListElement" || vs.all floatItemOK

/-- `NumsBounded` for one element rendered by the parser table `rows` -/
def ObjNumsBounded (rows : List Row) (o : Obj XV) : Bool := rows.all (rowNumsBounded o)

def floatTexts (impl : Row → CustomImpl XV) (rows : List Row) (o : Obj XV) : List String :=
  (rows.filter isFloatRow).flatMap fun r =>
    ((ofRowG liftCodec XV.leaf impl r).attrsOut o).map Prod.snd ++
    ((ofRowG liftCodec XV.leaf impl r).childrenOut o).map Xml.text

theorem floatTexts_in_toXml (impl : Row → CustomImpl XV) (rows : List Row) (name : String) (o : Obj XV) :
    ∀ t ∈ floatTexts impl rows o,
      (∃ kv ∈ (toXml (rows.map (ofRowG liftCodec XV.leaf impl)) name o).attrs, kv.2 = t) ∨
      (∃ c ∈ (toXml (rows.map (ofRowG liftCodec XV.leaf impl)) name o).children, c.text = t) := by
  intro t ht
  simp only [floatTexts, List.mem_flatMap, List.mem_filter, List.mem_append, List.mem_map] at ht
  obtain ⟨r, ⟨hr, _⟩, h | h⟩ := ht
  · obtain ⟨kv, hkv, rfl⟩ := h
    exact Or.inl ⟨kv, by
      simp only [toXml, Xml.attrs, List.mem_flatMap, List.mem_map]
      exact ⟨_, ⟨r, hr, rfl⟩, hkv⟩, rfl⟩
  · obtain ⟨c, hc, rfl⟩ := h
    exact Or.inr ⟨c, by
      simp only [toXml, Xml.children, List.mem_flatMap, List.mem_map]
      exact ⟨_, ⟨r, hr, rfl⟩, hc⟩, rfl⟩

theorem codecOf_float : codecOf "FloatType" = floatCodec := by
  unfold codecOf
  simp

theorem liftFloat_dumps (k : ℤ) : (liftCodec floatCodec).dumps (.leaf (.num k)) = dumpsNum k := rfl

/-- the grid number `k` is stored in `o` under the argument `a` -/
def NumAt (o : Obj XV) (a : String) (k : ℤ) : Prop :=
  o a = .one (.leaf (.num k)) ∨ ∃ vs, o a = .many vs ∧ XV.leaf (.num k) ∈ vs

theorem floatValOK_cases (dflt v : XV) (h : floatValOK dflt v = true) (hne : v ≠ dflt) :
    ∃ k : ℤ, v = .leaf (.num k) ∧ k.natAbs < numBound := by
  unfold floatValOK at h
  split at h
  · rename_i k
    simp only [Bool.or_eq_true, decide_eq_true_eq, beq_iff_eq] at h
    rcases h with h | h
    · exact ⟨k, rfl, h⟩
    · exact absurd h hne
  · simp only [beq_iff_eq] at h
    exact absurd h hne

theorem floatItemOK_cases (v : XV) (h : floatItemOK v = true) : ∃ k : ℤ, v = .leaf (.num k) ∧ k.natAbs < numBound := by
  unfold floatItemOK at h
  split at h
  · rename_i k
    exact ⟨k, rfl, by simpa using h⟩
  · cases h

theorem floatRow_texts (impl : Row → CustomImpl XV) (r : Row) (o : Obj XV) (hr : isFloatRow r = true)
    (hb : rowNumsBounded o r = true) :
    ∀ t, (t ∈ ((ofRowG liftCodec XV.leaf impl r).attrsOut o).map Prod.snd ∨
          t ∈ ((ofRowG liftCodec XV.leaf impl r).childrenOut o).map Xml.text) →
      ∃ k : ℤ, NumAt o r.argName k ∧ RealFloatText k t := by
  intro t ht
  simp only [rowNumsBounded, hr, Bool.not_true, Bool.false_or] at hb
  simp only [isFloatRow, Bool.and_eq_true, Bool.or_eq_true, beq_iff_eq] at hr
  obtain ⟨hty, hk⟩ := hr
  cases hv : o r.argName with
  | one v =>
    -- written by an `Attribute` / `AttrElement` row, unless it is the default (a `ListElement` row writes nothing for
    -- a single value: `simp` closes that case, `ht` becomes `False`)
    have key : r.kind ≠ "ListElement" ∧ v ≠ .leaf (leafOfRepr r.handlerDefault) ∧
        t = (liftCodec floatCodec).dumps v := by
      rcases hk with (hk | hk) | hk <;>
        simp [ofRowG, hk, hty, codecOf_float, Property.attrsOut, Property.childrenOut, hv] at ht
      · exact ⟨by rw [hk]; decide, ht.1, ht.2⟩
      · -- `AttrElement`: `ht` also says `parseOnly = false`, and has the element's text on the left
        exact ⟨by rw [hk]; decide, ht.1.2, ht.2.symm⟩
    obtain ⟨hkl, hne, rfl⟩ := key
    have hb' : floatValOK (.leaf (leafOfRepr r.handlerDefault)) v = true := by simpa [hv, hkl] using hb
    obtain ⟨k, rfl, hkb⟩ := floatValOK_cases _ v hb' hne
    exact ⟨k, Or.inl hv, realFloatText_dumpsNum k hkb⟩
  | many vs =>
    -- written item by item by a `ListElement` row (the other two kinds write nothing for a list)
    have key : r.kind = "ListElement" ∧ ∃ v ∈ vs, t = (liftCodec floatCodec).dumps v := by
      rcases hk with (hk | hk) | hk <;>
        simp [ofRowG, hk, hty, codecOf_float, Property.attrsOut, Property.childrenOut, hv] at ht
      obtain ⟨v, ⟨_, hvm⟩, rfl⟩ := ht
      exact ⟨hk, v, hvm, rfl⟩
    obtain ⟨hkl, v, hvm, rfl⟩ := key
    have hb' : vs.all floatItemOK = true := by simpa [hv, hkl] using hb
    obtain ⟨k, rfl, hkb⟩ := floatItemOK_cases v (List.all_eq_true.mp hb' v hvm)
    exact ⟨k, Or.inr ⟨vs, hv, hvm⟩, realFloatText_dumpsNum k hkb⟩

theorem obj_floatTexts_real (impl : Row → CustomImpl XV) (rows : List Row) (o : Obj XV)
    (hb : ObjNumsBounded rows o = true) :
    ∀ t ∈ floatTexts impl rows o, ∃ r ∈ rows, ∃ k : ℤ, NumAt o r.argName k ∧ RealFloatText k t := by
  intro t ht
  simp only [floatTexts, List.mem_flatMap, List.mem_filter, List.mem_append] at ht
  obtain ⟨r, ⟨hr, hfr⟩, h⟩ := ht
  have hbr := (List.all_eq_true.mp hb) r hr
  obtain ⟨k, hk, hreal⟩ := floatRow_texts impl r o hfr hbr t h
  exact ⟨r, hr, k, hk, hreal⟩

/-- the five hand-written gain handler pairs (`gain` sub-element of the block formats, optional `gain` of an
alternativeValueSet, `gain` attribute of a Matrix coefficient) -/
def gainHandlers : List String :=
  ["handle_gain_element_v1 / gain_to_xml", "handle_gain_element_v2 / gain_to_xml",
   "handle_gain_element_v2 / optional_gain_to_xml", "handle_gain_attribute_v1 / gain_attribute_to_xml",
   "handle_gain_attribute_v2 / gain_attribute_to_xml"]

def isGainRow (r : Row) : Bool :=
  (r.kind == "CustomElement" || r.kind == "GenericElement") && gainHandlers.contains r.handler

def isJumpRow (r : Row) : Bool :=
  r.kind == "CustomElement" && r.handler == "handle_jump_position / jump_position_to_xml"

/-- the linear gain of the element (stored as `Leaf.num` under `gain`) is bounded; anything else is not written -/
def gainOK : Val XV → Bool
  | .one (.leaf (.num k)) => decide (k.natAbs < numBound)
  | _ => true

/-- the interpolationLength (`SecondsType`) is non-negative and bounded -/
def jumpOK : Val XV → Bool
  | .one (.jump j) => (match j.interpolationLength with | some k => decide (0 ≤ k) && decide (k.natAbs < numBound) | none => true)
  | _ => true

/-- `t` is the text the real `SecondsType.dumps` (`"{:07.5f}".format(float(t))`) writes for the Fraction `k / 10^5`;
the real `SecondsType.loads` (`Fraction(str)`) reads it as exactly `k / 10^5`; writing what was read gives `t` again -/
def RealSecondsText (k : ℤ) (t : String) : Prop :=
  secondsDumps ((k : ℚ) / 100000) = some t.toList ∧
  parseFraction t.toList = some ((k : ℚ) / 100000) ∧
  (parseFraction t.toList).bind secondsDumps = some t.toList

theorem realSecondsText_dumpsNum (k : ℤ) (h0 : 0 ≤ k) (hk : k.natAbs < numBound) : RealSecondsText k (dumpsNum k) := by
  obtain ⟨h1, h2, _⟩ := secondsCodec_refines k h0 hk
  exact ⟨h1, h2, by rw [h2]; exact h1⟩

theorem gainImpls_texts (I : CustomImpl XV)
    (hI : (∃ b, I = gainImpl b) ∨ I = optGainImpl ∨ ∃ b, I = gainAttrImpl b) (o : Obj XV) (t : String)
    (ht : t ∈ (I.attrsOut o).map Prod.snd ∨ t ∈ (I.childrenOut o).map Xml.text) :
    ∃ k : ℤ, o "gain" = .one (.leaf (.num k)) ∧ t = dumpsNum k := by
  rcases hI with ⟨b, rfl⟩ | rfl | ⟨b, rfl⟩
  · simp only [gainImpl, List.map_nil, List.not_mem_nil, false_or] at ht
    split at ht
    · rename_i k hk
      refine ⟨k, hk, ?_⟩
      unfold Earverif.XmlCustom.gainToXml at ht
      split at ht
      · simpa [Earverif.XmlCustom.elem_text] using ht
      · simp at ht
    · simp at ht
  · simp only [optGainImpl, singleImpl, List.map_nil, List.not_mem_nil, false_or] at ht
    split at ht
    · rename_i v hv
      split at ht
      · rename_i k
        exact ⟨k, hv, by simpa [Earverif.XmlCustom.optionalGainToXml, Earverif.XmlCustom.elem_text] using ht⟩
      · simp at ht
    · simp at ht
  · simp only [gainAttrImpl, List.map_nil, List.not_mem_nil, or_false] at ht
    split at ht
    · rename_i k hk
      exact ⟨k, hk, by simpa [Earverif.XmlCustom.gainAttributeToXml] using ht⟩
    · simp at ht

theorem implX_gain (v2 : Bool) (r : Row) (h : gainHandlers.contains r.handler = true) :
    (∃ b, implX v2 r = gainImpl b) ∨ implX v2 r = optGainImpl ∨ ∃ b, implX v2 r = gainAttrImpl b := by
  simp only [gainHandlers, List.contains_eq_mem, List.mem_cons, List.not_mem_nil, or_false, decide_eq_true_eq] at h
  rcases h with h | h | h | h | h <;> simp [implX, h]

theorem ofRowG_custom_out (impl : Row → CustomImpl XV) (r : Row) (o : Obj XV)
    (hk : (r.kind == "CustomElement" || r.kind == "GenericElement") = true) :
    (ofRowG liftCodec XV.leaf impl r).attrsOut o = (impl r).attrsOut o ∧
    (ofRowG liftCodec XV.leaf impl r).childrenOut o = (impl r).childrenOut o := by
  simp only [Bool.or_eq_true, beq_iff_eq] at hk
  rcases hk with hk | hk <;> simp [ofRowG, hk, Property.attrsOut, Property.childrenOut]

theorem gainRow_texts (v2 : Bool) (r : Row) (o : Obj XV) (hr : isGainRow r = true) (hb : gainOK (o "gain") = true) :
    ∀ t, (t ∈ ((ofRowG liftCodec XV.leaf (implX v2) r).attrsOut o).map Prod.snd ∨
          t ∈ ((ofRowG liftCodec XV.leaf (implX v2) r).childrenOut o).map Xml.text) →
      ∃ k : ℤ, NumAt o "gain" k ∧ RealFloatText k t := by
  intro t ht
  simp only [isGainRow, Bool.and_eq_true] at hr
  obtain ⟨h1, h2⟩ := ofRowG_custom_out (implX v2) r o hr.1
  rw [h1, h2] at ht
  obtain ⟨k, hk, rfl⟩ := gainImpls_texts _ (implX_gain v2 r hr.2) o t ht
  rw [hk] at hb
  exact ⟨k, Or.inl hk, realFloatText_dumpsNum k (by simpa [gainOK] using hb)⟩

/-- the `interpolationLength` attribute values of the `jumpPosition` elements a jump row writes -/
def secondsTextsOf (cs : List Xml) : List String :=
  cs.flatMap fun c => (c.attrs.filter fun kv => kv.1 == "interpolationLength").map Prod.snd

theorem jumpRow_texts (v2 : Bool) (r : Row) (o : Obj XV) (hr : isJumpRow r = true)
    (hb : jumpOK (o "jumpPosition") = true) :
    ∀ t ∈ secondsTextsOf ((ofRowG liftCodec XV.leaf (implX v2) r).childrenOut o),
      ∃ (j : Earverif.XmlCustom.JumpPosition) (k : ℤ), o "jumpPosition" = .one (.jump j) ∧
        j.interpolationLength = some k ∧ RealSecondsText k t := by
  intro t ht
  simp only [isJumpRow, Bool.and_eq_true, beq_iff_eq] at hr
  obtain ⟨_, h2⟩ := ofRowG_custom_out (implX v2) r o (by simp [hr.1])
  have himpl : implX v2 r = jumpImpl := by simp [implX, hr.2]
  rw [h2, himpl] at ht
  simp only [jumpImpl] at ht
  split at ht
  · rename_i j hj
    rw [hj] at hb
    simp only [jumpOK] at hb
    unfold Earverif.XmlCustom.jumpPositionToXml at ht
    split at ht
    · cases hil : j.interpolationLength with
      | none => rw [hil] at ht; simp [secondsTextsOf, Earverif.XmlCustom.elem_attrs] at ht
      | some k =>
        rw [hil] at ht hb
        simp only [Bool.and_eq_true, decide_eq_true_eq] at hb
        have : t = dumpsNum k := by
          simpa [secondsTextsOf, Earverif.XmlCustom.elem_attrs] using ht
        subst this
        exact ⟨j, k, hj, hil, realSecondsText_dumpsNum k hb.1 hb.2⟩
    · simp [secondsTextsOf] at ht
  · simp [secondsTextsOf] at ht

/-- the values of `o` that the gain / jumpPosition rows of the table write are bounded -/
def rowCustomBounded (o : Obj XV) (r : Row) : Bool :=
  (!isGainRow r || gainOK (o "gain")) && (!isJumpRow r || jumpOK (o "jumpPosition"))

/-- `ObjNumsBounded` (declarative `FloatType` rows) and the values written by the gain and jumpPosition rows -/
def ObjNumsBoundedX (rows : List Row) (o : Obj XV) : Bool :=
  ObjNumsBounded rows o && rows.all (rowCustomBounded o)

def gainTexts (v2 : Bool) (rows : List Row) (o : Obj XV) : List String :=
  (rows.filter isGainRow).flatMap fun r =>
    ((ofRowG liftCodec XV.leaf (implX v2) r).attrsOut o).map Prod.snd ++
    ((ofRowG liftCodec XV.leaf (implX v2) r).childrenOut o).map Xml.text

def jumpTexts (v2 : Bool) (rows : List Row) (o : Obj XV) : List String :=
  (rows.filter isJumpRow).flatMap fun r => secondsTextsOf ((ofRowG liftCodec XV.leaf (implX v2) r).childrenOut o)

theorem obj_numTexts_real (v2 : Bool) (rows : List Row) (o : Obj XV) (hb : ObjNumsBoundedX rows o = true) :
    (∀ t ∈ floatTexts (implX v2) rows o, ∃ r ∈ rows, ∃ k : ℤ, NumAt o r.argName k ∧ RealFloatText k t) ∧
    (∀ t ∈ gainTexts v2 rows o, ∃ k : ℤ, NumAt o "gain" k ∧ RealFloatText k t) ∧
    (∀ t ∈ jumpTexts v2 rows o, ∃ (j : Earverif.XmlCustom.JumpPosition) (k : ℤ),
      o "jumpPosition" = .one (.jump j) ∧ j.interpolationLength = some k ∧ RealSecondsText k t) := by
  simp only [ObjNumsBoundedX, Bool.and_eq_true, List.all_eq_true, rowCustomBounded] at hb
  obtain ⟨hb1, hb2⟩ := hb
  refine ⟨obj_floatTexts_real (implX v2) rows o hb1, ?_, ?_⟩
  · intro t ht
    simp only [gainTexts, List.mem_flatMap, List.mem_filter, List.mem_append] at ht
    obtain ⟨r, ⟨hr, hg⟩, h⟩ := ht
    have := (hb2 r hr).1
    rw [hg] at this
    exact gainRow_texts v2 r o hg (by simpa using this) t h
  · intro t ht
    simp only [jumpTexts, List.mem_flatMap, List.mem_filter] at ht
    obtain ⟨r, ⟨hr, hj⟩, h⟩ := ht
    have := (hb2 r hr).2
    rw [hj] at this
    exact jumpRow_texts v2 r o hj (by simpa using this) t h

open Earverif.XmlCustom

/-- the number texts of one written element under a `SiteSpec` -/
def numSites (textNum : Bool) (keys : List String) (x : Xml) : List String :=
  (if textNum then [x.text] else []) ++ (x.attrs.filter fun kv => keys.contains kv.1).map Prod.snd

def boundNums (b : Bound) : List ℤ := b.value :: (b.max.toList ++ b.min.toList)
def irangeNums (r : IRange) : List ℤ := r.min.toList ++ r.max.toList
def gainLin : Option Gain → List ℤ
  | some (.linear k) => [k]
  | _ => []

def sposNums : SpeakerPosition → List ℤ
  | .polar a e d _ => boundNums a ++ boundNums e ++ boundNums d
  | .cartesian x y z _ => boundNums x ++ boundNums y ++ boundNums z
def oposNums : ObjectPosition → List ℤ
  | .polar a e d _ => [a, e, d]
  | .cartesian x y z _ => [x, y, z]
def poffNums : PositionOffset → List ℤ
  | .polar a e d => [a, e, d]
  | .cartesian x y z => [x, y, z]
def cposNums : CentrePosition → List ℤ
  | .polar a e d => [a, e, d]
  | .cartesian x y z => [x, y, z]
def prangeNums : PosRange → List ℤ
  | .polar a e d => irangeNums a ++ irangeNums e ++ irangeNums d
  | .cartesian x y z => irangeNums x ++ irangeNums y ++ irangeNums z
def zoneNums : Zone → List ℤ
  | .cartesian a b c d e f => [a, b, c, d, e, f]
  | .polar a b c d => [a, b, c, d]

theorem sites_append {f : Xml → List String} {xs ys : List Xml} {ks ls : List ℤ}
    (hx : ∀ t ∈ xs.flatMap f, t ∈ ks.map dumpsNum) (hy : ∀ t ∈ ys.flatMap f, t ∈ ls.map dumpsNum) :
    ∀ t ∈ (xs ++ ys).flatMap f, t ∈ (ks ++ ls).map dumpsNum := by
  intro t ht
  rw [List.flatMap_append, List.mem_append] at ht
  rw [List.map_append, List.mem_append]
  exact ht.imp (hx t) (hy t)

/-- the attribute sites of a written element are among its attribute values, whatever the keys -/
theorem numSites_attrs (keys : List String) (name : String) (attrs : List (String × String)) (text : String) :
    ∀ t ∈ numSites false keys (elem name attrs text), t ∈ attrs.map Prod.snd := by
  intro t ht
  simp only [numSites, Bool.false_eq_true, if_false, List.nil_append, elem_attrs] at ht
  exact List.mem_map.mpr ((List.mem_map.mp ht).imp fun kv h => ⟨(List.mem_filter.mp h.1).1, h.2⟩)

theorem numSites_text (name : String) (attrs : List (String × String)) (text : String) :
    numSites true [] (elem name attrs text) = [text] := by
  simp [numSites, elem_text]

theorem dumpBound_sites (c : String) (b : Bound) (sel : Option String) :
    ∀ t ∈ (dumpBound c b sel).flatMap (numSites true []), t ∈ (boundNums b).map dumpsNum := by
  intro t
  cases hmax : b.max <;> cases hmin : b.min <;>
    simp [dumpBound, boundNums, hmax, hmin, numSites_text]

theorem spos_sites (p : SpeakerPosition) :
    ∀ t ∈ (speakerPositionToXml p).flatMap (numSites true []), t ∈ (sposNums p).map dumpsNum := by
  cases p with
  | polar a e d sel =>
    refine sites_append (sites_append (dumpBound_sites _ _ _) (dumpBound_sites _ _ _)) ?_
    split_ifs
    · exact dumpBound_sites _ _ _
    · intro t ht; cases ht
  | cartesian x y z sel =>
    exact sites_append (sites_append (dumpBound_sites _ _ _) (dumpBound_sites _ _ _)) (dumpBound_sites _ _ _)

theorem optCoordinate_sites (c : Prop) [Decidable c] (k : String) (v : ℤ) (sel : Option String) :
    ∀ t ∈ (if c then [dumpCoordinate k v sel] else []).flatMap (numSites true []), t ∈ [v].map dumpsNum := by
  intro t
  split_ifs <;> simp [dumpCoordinate, numSites_text]

theorem opos_sites (p : ObjectPosition) :
    ∀ t ∈ (objectPositionToXml p).flatMap (numSites true []), t ∈ (oposNums p).map dumpsNum := by
  cases p with
  | polar a e d sel =>
    exact sites_append (ks := [a, e]) (by simp [dumpCoordinate, numSites_text]) (optCoordinate_sites _ _ _ _)
  | cartesian x y z sel =>
    exact sites_append (ks := [x, y]) (by simp [dumpCoordinate, numSites_text]) (optCoordinate_sites _ _ _ _)

theorem dumpOffset_sites (c : String) (v : ℤ) :
    ∀ t ∈ (dumpOffset c v).flatMap (numSites true []), t ∈ [v].map dumpsNum := by
  intro t
  unfold dumpOffset
  split_ifs <;> simp [numSites_text]

theorem poff_sites (p : PositionOffset) :
    ∀ t ∈ (positionOffsetToXml (some p)).flatMap (numSites true []), t ∈ (poffNums p).map dumpsNum := by
  cases p <;>
    exact sites_append (sites_append (dumpOffset_sites _ _) (dumpOffset_sites _ _)) (dumpOffset_sites _ _)

theorem dumpIRange_sites (c : String) (r : IRange) :
    ∀ t ∈ (dumpIRange c r).flatMap (numSites true []), t ∈ (irangeNums r).map dumpsNum := by
  intro t
  cases hmax : r.max <;> cases hmin : r.min <;>
    simp [dumpIRange, irangeNums, hmax, hmin, numSites_text]

theorem prange_sites (p : PosRange) :
    ∀ t ∈ (posRangeToXml (some p)).flatMap (numSites true []), t ∈ (prangeNums p).map dumpsNum := by
  cases p <;>
    exact sites_append (sites_append (dumpIRange_sites _ _) (dumpIRange_sites _ _)) (dumpIRange_sites _ _)

theorem grange_sites (r : GainRange) :
    ∀ t ∈ (gainRangeToXml (some r)).flatMap (numSites true []), t ∈ (gainLin r.min ++ gainLin r.max).map dumpsNum := by
  intro t
  rcases hmin : r.min with _ | (k | k) <;> rcases hmax : r.max with _ | (k' | k') <;>
    simp [gainRangeToXml, linear?, gainLin, hmin, hmax, numSites_text]

theorem zone_sites (z : Zone) :
    ∀ t ∈ numSites false (cartKeys ++ polarKeys) (zoneToXml z), t ∈ (zoneNums z).map dumpsNum := by
  intro t ht
  cases z with
  | cartesian a b c d e f => exact numSites_attrs _ _ _ _ t ht
  | polar a b c d =>
    -- the attributes are written azimuth first
    have h : t ∈ ([c, d] ++ [a, b]).map dumpsNum := numSites_attrs _ _ _ _ t ht
    show t ∈ ([a, b] ++ [c, d]).map dumpsNum
    rw [List.map_append, List.mem_append] at h ⊢
    exact h.symm

theorem zones_sites (zs : List Zone) :
    ∀ t ∈ ((zoneExclusionToXml zs).flatMap Xml.children).flatMap (numSites false (cartKeys ++ polarKeys)),
      t ∈ (zs.flatMap zoneNums).map dumpsNum := by
  intro t ht
  unfold zoneExclusionToXml at ht
  split_ifs at ht
  · simp only [List.flatMap_cons, List.flatMap_nil, List.append_nil, Xml.children, List.mem_flatMap, List.mem_map] at ht
    obtain ⟨x, ⟨z, hz, rfl⟩, hx⟩ := ht
    obtain ⟨k, hk, rfl⟩ := List.mem_map.mp (zone_sites z t hx)
    exact List.mem_map.mpr ⟨k, List.mem_flatMap.mpr ⟨z, hz, hk⟩, rfl⟩
  · simp at ht

/-- a hand-written handler whose numbers are traversed: handler pair (for the `as_handler` closures also the element
name), the argument it writes from, whether the number sites are on the children of the written elements
(zoneExclusion > zone), whether the text of those elements is a number, and the names of their numeric attributes -/
structure SiteSpec where
  handler : String
  adm : Option String
  arg : String
  inner : Bool
  textNum : Bool
  keys : List String

/-- the fields of each entry in the order of `SiteSpec`: handler, adm, arg, inner, textNum, keys.  The handler strings
have to equal `Row.handler` of the regenerated table character for character; a mismatch shows as
`custom_rows_classified` failing, not as a wrong theorem -/
def siteSpecs : List SiteSpec :=
  [ ⟨"handle_channel_lock / channel_lock_to_xml", none, "channelLock", false, false, ["maxDistance"]⟩,
    ⟨"handle_divergence / divergence_to_xml", none, "objectDivergence", false, true, ["azimuthRange", "positionRange"]⟩,
    ⟨"handle_frequency / frequency_to_xml", none, "frequency", false, true, []⟩,
    ⟨"handle_objects_position / object_position_to_xml", none, "position", false, true, []⟩,
    ⟨"handle_speaker_position / speaker_position_to_xml", none, "position", false, true, []⟩,
    ⟨"handle_position_offset / position_offset_to_xml", none, "positionOffset", false, true, []⟩,
    ⟨"handle_centre_position / centre_position_to_xml", none, "centrePosition", false, false,
      ["X", "Y", "Z", "azimuth", "elevation", "distance"]⟩,
    ⟨"handle_screen_width / screen_width_to_xml", none, "width", false, false, ["X", "azimuth"]⟩,
    ⟨"MainElementHandler.make_gainInteractionRange_handler.<locals>.handle_gainInteractionRange / MainElementHandler.make_gainInteractionRange_handler.<locals>.gainInteractionRange_to_xml",
      none, "gainInteractionRange", false, true, []⟩,
    ⟨"MainElementHandler.make_positionInteractionRange_handler.<locals>.handle_positionInteractionRange / MainElementHandler.make_positionInteractionRange_handler.<locals>.positionInteractionRange_to_xml",
      none, "positionInteractionRange", false, true, []⟩,
    ⟨"ElementParser.as_handler.<locals>.handle / ElementParser.as_handler.<locals>.to_xml", some "zoneExclusion",
      "zoneExclusion", true, false, cartKeys ++ polarKeys⟩ ]

/-- the grid numbers held by the values these handlers write (a gain bound given in dB is symbolic and not written) -/
def xvNums : XV → List ℤ
  | .leaf (.num k) => [k]
  | .clock c => c.maxDistance.toList
  | .diverg d => d.value :: (d.azimuthRange.toList ++ d.positionRange.toList)
  | .freq f => f.lowPass.toList ++ f.highPass.toList
  | .opos p => oposNums p
  | .spos p => sposNums p
  | .poff p => poffNums p
  | .cpos p => cposNums p
  | .grange r => gainLin r.min ++ gainLin r.max
  | .prange r => prangeNums r
  | .zones zs => zs.flatMap zoneNums
  | _ => []

/-- the number texts of the elements `xs` written by a handler under its `SiteSpec` -/
def sitesOf (sp : SiteSpec) (xs : List Xml) : List String :=
  (if sp.inner then xs.flatMap Xml.children else xs).flatMap (numSites sp.textNum sp.keys)

def isSiteRow (sp : SiteSpec) (r : Row) : Bool :=
  (r.kind == "CustomElement" || r.kind == "GenericElement") && r.handler == sp.handler &&
  (match sp.adm with | some a => r.admName == a | none => true)

theorem exists_num_of_text {v : XV} {o : Obj XV} {a t : String} (hv : o a = .one v) (h : t ∈ (xvNums v).map dumpsNum) :
    ∃ (v : XV) (k : ℤ), o a = .one v ∧ k ∈ xvNums v ∧ t = dumpsNum k := by
  obtain ⟨k, hk, rfl⟩ := List.mem_map.mp h
  exact ⟨v, k, hv, hk, rfl⟩

theorem clock_sites (c : ChannelLock) :
    ∀ t ∈ (channelLockToXml (some c)).flatMap (numSites false ["maxDistance"]), t ∈ (c.maxDistance.toList).map dumpsNum := by
  intro t
  cases hm : c.maxDistance <;> simp [channelLockToXml, hm, numSites, elem_attrs]

theorem diverg_sites (d : ObjectDivergence) :
    ∀ t ∈ (divergenceToXml (some d)).flatMap (numSites true ["azimuthRange", "positionRange"]),
      t ∈ (d.value :: (d.azimuthRange.toList ++ d.positionRange.toList)).map dumpsNum := by
  intro t
  cases ha : d.azimuthRange <;> cases hp : d.positionRange <;>
    simp [divergenceToXml, ha, hp, numSites, elem_attrs, elem_text]

theorem freq_sites (f : Frequency) :
    ∀ t ∈ (frequencyToXml f).flatMap (numSites true []), t ∈ (f.lowPass.toList ++ f.highPass.toList).map dumpsNum := by
  intro t
  cases hl : f.lowPass <;> cases hh : f.highPass <;>
    simp [frequencyToXml, hl, hh, numSites_text]

theorem xpath_sites {arg adm read write f o t} (ht : t ∈ ((xpathImpl arg adm read write).childrenOut o).flatMap f)
    (hw : ∀ v, ∀ t ∈ (write v).flatMap f, t ∈ (xvNums v).map dumpsNum) :
    ∃ (v : XV) (k : ℤ), o arg = .one v ∧ k ∈ xvNums v ∧ t = dumpsNum k := by
  simp only [xpathImpl] at ht
  split at ht
  · rename_i v hv; exact exists_num_of_text hv (hw v t ht)
  · simp at ht

/-- one case per entry of `siteSpecs`, in that order: each identifies `implX v2 r` from the handler string and hands the
value to the `…_sites` lemma of its type -/
theorem siteRow_texts (v2 : Bool) (sp : SiteSpec) (hsp : sp ∈ siteSpecs) (r : Row) (o : Obj XV)
    (hr : isSiteRow sp r = true) :
    ∀ t ∈ sitesOf sp ((ofRowG liftCodec XV.leaf (implX v2) r).childrenOut o),
      ∃ (v : XV) (k : ℤ), o sp.arg = .one v ∧ k ∈ xvNums v ∧ t = dumpsNum k := by
  intro t ht
  simp only [isSiteRow, Bool.and_eq_true, beq_iff_eq] at hr
  obtain ⟨⟨hk, hh⟩, hadm⟩ := hr
  obtain ⟨_, h2⟩ := ofRowG_custom_out (implX v2) r o hk
  rw [h2] at ht
  simp only [siteSpecs, List.mem_cons, List.not_mem_nil, or_false] at hsp
  rcases hsp with rfl | rfl | rfl | rfl | rfl | rfl | rfl | rfl | rfl | rfl | rfl <;>
    simp only [sitesOf, Bool.false_eq_true, if_false, if_true] at ht
  · have himpl : implX v2 r = channelLockImpl := by simp [implX, hh]
    rw [himpl] at ht; simp only [channelLockImpl] at ht
    split at ht
    · rename_i c hc; exact exists_num_of_text hc (clock_sites c t ht)
    · simp at ht
  · have himpl : implX v2 r = divergenceImpl := by simp [implX, hh]
    rw [himpl] at ht; simp only [divergenceImpl] at ht
    split at ht
    · rename_i d hd; exact exists_num_of_text hd (diverg_sites d t ht)
    · simp at ht
  · have himpl : implX v2 r = frequencyImpl := by simp [implX, hh]
    rw [himpl] at ht; simp only [frequencyImpl] at ht
    split at ht
    · rename_i f hf; exact exists_num_of_text hf (freq_sites f t ht)
    · simp at ht
  · have himpl : implX v2 r = positionImpl := by simp [implX, hh]
    rw [himpl] at ht; simp only [positionImpl] at ht
    split at ht
    · rename_i p hp; exact exists_num_of_text hp (opos_sites p t ht)
    · simp at ht
  · have himpl : implX v2 r = speakerImpl := by simp [implX, hh]
    rw [himpl] at ht
    exact xpath_sites ht fun v t ht => by split at ht; exacts [spos_sites _ t ht, by simp at ht]
  · have himpl : implX v2 r = offsetImpl := by simp [implX, hh]
    rw [himpl] at ht
    exact xpath_sites ht fun v t ht => by split at ht; exacts [poff_sites _ t ht, by simp at ht]
  · have himpl : implX v2 r = centreImpl := by simp [implX, hh]
    rw [himpl] at ht; simp only [centreImpl] at ht
    split at ht
    · rename_i c hc
      simp only [List.flatMap_cons, List.flatMap_nil, List.append_nil] at ht
      exact exists_num_of_text hc (by cases c <;> exact numSites_attrs _ _ _ _ t ht)
    · simp at ht
  · have himpl : implX v2 r = widthImpl := by simp [implX, hh]
    rw [himpl] at ht; simp only [widthImpl] at ht
    split at ht
    · rename_i w ty hw hty
      simp only [List.flatMap_cons, List.flatMap_nil, List.append_nil] at ht
      exact ⟨_, w, hw, by simp [xvNums], List.mem_singleton.mp (numSites_attrs _ _ _ _ t ht)⟩
    · simp at ht
  · have himpl : implX v2 r = gainRangeImpl v2 := by simp [implX, hh]
    rw [himpl] at ht
    exact xpath_sites ht fun v t ht => by split at ht; exacts [grange_sites _ t ht, by simp at ht]
  · have himpl : implX v2 r = posRangeImpl := by simp [implX, hh]
    rw [himpl] at ht
    exact xpath_sites ht fun v t ht => by split at ht; exacts [prange_sites _ t ht, by simp at ht]
  · have himpl : implX v2 r = zoneImpl := by
      simp only [beq_iff_eq] at hadm
      simp [implX, hh, hadm]
    rw [himpl] at ht; simp only [zoneImpl] at ht
    split at ht
    · rename_i zs hz; exact exists_num_of_text hz (zones_sites zs t ht)
    · simp at ht

/-- the numbers the hand-written handlers of `siteSpecs` write for `o` are bounded -/
def rowSitesBounded (o : Obj XV) (r : Row) : Bool :=
  siteSpecs.all fun sp => !isSiteRow sp r ||
    match o sp.arg with
    | .one v => (xvNums v).all fun k => decide (k.natAbs < numBound)
    | .many _ => true

def ObjSitesBounded (rows : List Row) (o : Obj XV) : Bool := rows.all (rowSitesBounded o)

def siteTexts (v2 : Bool) (rows : List Row) (o : Obj XV) : List String :=
  siteSpecs.flatMap fun sp => (rows.filter (isSiteRow sp)).flatMap fun r =>
    sitesOf sp ((ofRowG liftCodec XV.leaf (implX v2) r).childrenOut o)

theorem obj_siteTexts_real (v2 : Bool) (rows : List Row) (o : Obj XV) (hb : ObjSitesBounded rows o = true) :
    ∀ t ∈ siteTexts v2 rows o, ∃ (a : String) (v : XV) (k : ℤ), o a = .one v ∧ k ∈ xvNums v ∧ RealFloatText k t := by
  intro t ht
  simp only [siteTexts, List.mem_flatMap, List.mem_filter] at ht
  obtain ⟨sp, hsp, r, ⟨hr, hsr⟩, htx⟩ := ht
  obtain ⟨v, k, hv, hk, rfl⟩ := siteRow_texts v2 sp hsp r o hsr t htx
  have h1 := (List.all_eq_true.mp ((List.all_eq_true.mp hb) r hr)) sp hsp
  rw [hsr, hv] at h1
  simp only [Bool.not_true, Bool.false_or, List.all_eq_true, decide_eq_true_eq] at h1
  exact ⟨sp.arg, v, k, hv, hk, realFloatText_dumpsNum k (h1 k hk)⟩

/-- table obligation: every hand-written handler pair of the regenerated tables is one of: a gain handler, jumpPosition,
a `siteSpecs` handler, the "not before BS.2076-2" refusal (writes nothing), the `zone` row of the inner zoneExclusion
parser (modelled as a whole by the zoneExclusion entry of `siteSpecs`), or a handler that only delegates to a
nested parser of the table (block formats, Matrix, loudnessMetadata, alternativeValueSet, audioObjectInteraction,
reference screen) — so no number-writing hand-written handler is outside `obj_numTexts_real` / `obj_siteTexts_real` -/
theorem custom_rows_classified :
    ∀ t ∈ Earverif.Gen.C08.parsers, ∀ r ∈ t.2, (r.kind = "CustomElement" ∨ r.kind = "GenericElement") →
      isGainRow r = true ∨ isJumpRow r = true ∨ siteSpecs.any (fun sp => isSiteRow sp r) = true ∨
      r.handler = "make_no_element_before_v2.<locals>.handle / make_no_element_before_v2.<locals>.to_xml" ∨
      r.handler = "handle_zone / zones_to_xml" ∨
      r.handler = "MainElementHandler.make_block_format_matrix_handler.<locals>.handle_matrix / MainElementHandler.make_block_format_matrix_handler.<locals>.matrix_to_xml" ∨
      r.handler = "MainElementHandler.make_block_format_handler.<locals>.handle / MainElementHandler.make_block_format_handler.<locals>.to_xml" ∨
      (r.handler = "ElementParser.as_handler.<locals>.handle / ElementParser.as_handler.<locals>.to_xml" ∧
        (r.admName = "audioProgrammeReferenceScreen" ∨ r.admName = "audioObjectInteraction")) ∨
      (r.handler = "ElementParser.as_list_handler.<locals>.handle / ElementParser.as_list_handler.<locals>.to_xml" ∧
        (r.admName = "loudnessMetadata" ∨ r.admName = "alternativeValueSet")) := by
  decide +kernel

/-- table obligation (regenerated tables): no `HandleText` row has type `FloatType`, so `isFloatRow` covers every
declarative row whose text is written by `FloatType.dumps` -/
theorem no_float_handleText :
    ∀ t ∈ Earverif.Gen.C08.parsers, ∀ r ∈ t.2, ¬ (r.kind = "HandleText" ∧ r.ty = "FloatType") := by
  decide +kernel

/-- table obligation: the declarative `FloatType` rows of the current tables (per version): audioProgramme
maxDuckingDepth; Objects block width / height / depth / diffuse / …; HOA nfcRefDist; loudnessMetadata (six values);
coefficient phase / delay; reference screen aspectRatio — non-vacuity of `isFloatRow` on the regenerated tables -/
theorem float_rows_count :
    30 ≤ ((Earverif.Gen.C08.parsers.flatMap fun t => t.2).filter isFloatRow).length := by
  decide +kernel

end Earverif.FloatDoc
