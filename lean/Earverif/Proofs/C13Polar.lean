/-
C13 — two facts about the C05 point-source panner (over ℝ) that the polar lock theorems of `Props/C13.lean` need:
`PointSourcePanner.handle` returns the answer of the first accepting region, and writing a unit vector to distinct
channels of `np.zeros(n)` (`PointSource.scatter`, numpy fancy assignment — not the mask scatter of C13CartLock)
gives a unit vector.
-/
import Earverif.Proofs.C05ExactList

namespace Earverif.C13
open Earverif.PointSource

theorem panner_first_accept (regions : List (Region ℝ)) (n : Nat) (roots : Nat → Option ℝ × Option ℝ) (p : Vec3 ℝ)
    (k : Nat) (hk : k < regions.length) (g : List ℝ)
    (hpre : ∀ j, ∀ hj : j < k, regions[j].handle (roots j) p = none)
    (hacc : remap regions[k].channels n (regions[k].handle (roots k) p) = some g) :
    PointSourcePanner.handle regions n roots p = some g := by
  cases hh : regions[k].handle (roots k) p with
  | none => rw [hh] at hacc; cases hacc
  | some g' => rw [hh] at hacc; exact (Cover.panner_first regions n roots p k hk g' hpre hh).trans hacc

theorem scatter_unit_nodup (n : Nat) (idx : List Nat) (m : Nat) (hnd : idx.Nodup) (hm : m < idx.length) :
    scatter (zeros n : List ℝ) idx ((zeros idx.length : List ℝ).set m 1) =
      (List.replicate n (0 : ℝ)).set (idx.getD m 0) 1 := by
  have := Cover.scatter_unit n idx m (idx.getD m 0)
    (by rw [List.getD_eq_getElem?_getD, List.getElem?_eq_getElem hm]; rfl) hnd
  simpa only [zeros, zero_real, Cover.unitV] using this

theorem scatter_triplet_unit (n c0 c1 c2 : Nat)
    (d01 : c0 ≠ c1) (d02 : c0 ≠ c2) (d12 : c1 ≠ c2) :
    scatter (zeros n : List ℝ) [c0, c1, c2] [1, 0, 0] = (List.replicate n (0 : ℝ)).set c0 1 ∧
    scatter (zeros n : List ℝ) [c0, c1, c2] [0, 1, 0] = (List.replicate n (0 : ℝ)).set c1 1 ∧
    scatter (zeros n : List ℝ) [c0, c1, c2] [0, 0, 1] = (List.replicate n (0 : ℝ)).set c2 1 := by
  have hnd : [c0, c1, c2].Nodup := by simp [d01, d02, d12]
  have h := fun m hm => scatter_unit_nodup n [c0, c1, c2] m hnd hm
  simp only [zeros, zero_real] at h ⊢
  exact ⟨h 0 (by decide : 0 < 3), h 1 (by decide : 1 < 3), h 2 (by decide : 2 < 3)⟩

end Earverif.C13
