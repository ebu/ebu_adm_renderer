/-
`BlockAligner.add/get` as used by `Renderer.render`: three streams with constant offsets (−D, 0, 0) and equal block
lengths per round ⇒ no assertion fails and the concatenated `get`s are the prefix of the shifted sum.
Cells of the buffer are read with `getD · 0`, which makes the zero-filled tail (`resize`, the shift in `get`) transparent;
an `add` then adds the block's contribution (`blockAt`, zero outside the block) to every cell, and so does appending the
block to its stream, so the buffer stays equal to the shifted sum of the streams so far.
-/
import Earverif.Proofs.C02Compose
import Earverif.Proofs.C02Delay
import Earverif.Proofs.ListLemmas
namespace Earverif.Stream

variable {V : Type} [RMod V]

theorem getD_append_zeros (l : List V) (k i : Nat) : (l ++ List.replicate k 0).getD i 0 = l.getD i 0 := by
  rw [getD_append_len]
  split
  · rfl
  · rename_i h
    rw [getD_replicate_zero, getD_ge 0 (Nat.le_of_not_lt h)]

theorem addSlice_length (l : List V) (a : Nat) (vals : List V) (h : a + vals.length ≤ l.length) :
    (addSlice l a vals).length = l.length := by
  unfold addSlice
  rw [setSlice_length]
  simp only [List.length_zipWith, slice_length l a (a + vals.length) h, Nat.add_sub_cancel_left, Nat.min_self]
  exact h

theorem getD_addSlice (l : List V) (a : Nat) (vals : List V) (h : a + vals.length ≤ l.length) (i : Nat) :
    (addSlice l a vals).getD i 0 =
      if a ≤ i ∧ i < a + vals.length then l.getD i 0 + vals.getD (i - a) 0 else l.getD i 0 := by
  have hz : (List.zipWith (· + ·) (slice l a (a + vals.length)) vals).length = vals.length := by
    simp only [List.length_zipWith, slice_length l a (a + vals.length) h, Nat.add_sub_cancel_left, Nat.min_self]
  unfold addSlice
  simp only [List.getD_eq_getElem?_getD]
  rw [getElem?_setSlice _ _ _ (by rw [hz]; exact h), hz]
  by_cases h1 : i < a
  · rw [if_pos h1, if_neg (fun hh => Nat.not_le_of_lt h1 hh.1)]
  · rw [if_neg h1]
    have hai : a ≤ i := Nat.le_of_not_lt h1
    by_cases h2 : i < a + vals.length
    · rw [if_pos h2, if_pos ⟨hai, h2⟩]
      rw [List.getElem?_zipWith, getElem?_slice]
      have e1 : a + (i - a) = i := Nat.add_sub_cancel' hai
      rw [if_pos (by rw [e1]; exact h2), e1]
      have hi : i < l.length := Nat.lt_of_lt_of_le h2 h
      have hv : i - a < vals.length := (Nat.sub_lt_iff_lt_add' hai).mpr h2
      rw [List.getElem?_eq_getElem hi, List.getElem?_eq_getElem hv]
      rfl
    · rw [if_neg h2, if_neg (fun hh => h2 hh.2)]

/-- `first_end` after an `add` ending at `e`: the `match` of `Aligner.add` (Model/Stream.lean) word for word, so that
`add_spec` gets this conjunct by `rfl`. -/
def feUpd (fe : Option Int) (e : Int) : Option Int :=
  match fe with
  | none => some e
  | some f => if f > e then some e else some f

theorem feUpd_none (e : Int) : feUpd none e = some e := rfl

theorem feUpd_some_le (f e : Int) (h : f ≤ e) : feUpd (some f) e = some f := if_neg (Int.not_lt.mpr h)

/-- `self.buf.resize(end_buf)`: zero-filled, so reading with default `0` sees no change. -/
theorem resize_spec (buf : List V) (E : Int) :
    ∃ b, (if E > ↑buf.length then buf ++ List.replicate (E.toNat - buf.length) 0 else buf) = b ∧
      E.toNat ≤ b.length ∧ buf.length ≤ b.length ∧ ∀ i, b.getD i 0 = buf.getD i 0 := by
  refine ⟨_, rfl, ?_, ?_, fun i => ?_⟩
  · split
    · simp only [List.length_append, List.length_replicate]; omega
    · omega
  · split
    · simp only [List.length_append]; omega
    · exact Nat.le_refl _
  · split
    · exact getD_append_zeros _ _ _
    · rfl

omit [RMod V] in
/-- `add` strips what lies before `buf_start` (allowed only while `buf_start = 0`): `d` samples go, `m` are left; if any
are left they start at `max T buf_start`, otherwise the whole block lay before `buf_start` (or was empty). -/
theorem strip_spec (a : Aligner V) (T : Int) (o : List V) (h : a.buf_start ≤ T ∨ a.buf_start = 0) :
    ∃ d m : Nat, o.length = d + m ∧ a.strip T o = .ok (T + d, o.drop d) ∧
      (0 < m → a.buf_start ≤ T + d ∧ (d = 0 ∨ T + d = a.buf_start)) ∧ (m = 0 → d = 0 ∨ T + (d : Int) ≤ a.buf_start) := by
  unfold Aligner.strip
  by_cases hlt : T < a.buf_start
  · have h0 : a.buf_start = 0 := h.resolve_left (Int.not_le.mpr hlt)
    rw [if_pos hlt, if_neg (fun hne => hne h0), h0]
    obtain ⟨k, hk⟩ : ∃ k : Nat, 0 - T = k := ⟨_, (Int.toNat_of_nonneg (by omega)).symm⟩
    rw [hk]
    by_cases hkn : k ≤ o.length
    · obtain ⟨m, hm⟩ := Nat.exists_eq_add_of_le hkn
      refine ⟨k, m, hm, ?_, fun _ => ⟨by omega, Or.inr (by omega)⟩, fun _ => Or.inr (by omega)⟩
      simp only [Int.min_eq_left (Int.ofNat_le.mpr hkn), Int.toNat_natCast]
    · refine ⟨o.length, 0, rfl, ?_, fun hm => absurd hm (Nat.lt_irrefl 0), fun _ => Or.inr (by omega)⟩
      simp only [Int.min_eq_right (Int.ofNat_le.mpr (Nat.le_of_not_le hkn)), Int.toNat_natCast]
  · rw [if_neg hlt]
    exact ⟨0, o.length, (Nat.zero_add _).symm, by rw [Nat.cast_zero, Int.add_zero, List.drop_zero],
      fun _ => ⟨by omega, Or.inl rfl⟩, fun _ => Or.inl rfl⟩

/-- **One `add`**, in absolute time: a block `o` starting at time `T` (at or after `buf_start`, or anywhere while
`buf_start = 0`: what lies before time 0 is stripped) is added to the cells of the times it covers, cell `i` being time
`buf_start + i`; no assertion fails; the buffer grows to the end of the block. -/
theorem add_spec (a : Aligner V) (T : Int) (o : List V) (h : a.buf_start ≤ T ∨ a.buf_start = 0) :
    ∃ a', a.add T o = .ok a' ∧ a'.buf_start = a.buf_start ∧ a'.first_end = feUpd a.first_end (T + o.length) ∧
      (∀ i : Nat, a'.buf.getD i 0 =
        if T ≤ a.buf_start + i ∧ a.buf_start + i < T + o.length then
          a.buf.getD i 0 + o.getD (a.buf_start + i - T).toNat 0
        else a.buf.getD i 0) ∧
      (T + o.length - a.buf_start).toNat ≤ a'.buf.length ∧ a.buf.length ≤ a'.buf.length := by
  obtain ⟨d, m, hm, hstrip, hmax, hnone⟩ := strip_spec a T o h
  unfold Aligner.add
  rw [hstrip]
  clear hstrip h
  simp only [List.length_drop, hm, Nat.add_sub_cancel_left, Nat.cast_add, ← Int.add_assoc]
  generalize hE : T + (d : Int) + (m : Int) - a.buf_start = E
  rw [if_neg (by omega)]
  obtain ⟨buf, hbuf, hl1, hl2, hget⟩ := resize_spec a.buf E
  rw [hbuf]
  clear hbuf
  by_cases hn : m ≠ 0
  · -- what is left of the block starts at `max T buf_start`, cell `sb`
    obtain ⟨h1, h2⟩ := hmax (Nat.pos_of_ne_zero hn)
    clear hmax hnone
    obtain ⟨sb, hsb⟩ : ∃ sb : Nat, T + (d : Int) - a.buf_start = sb := ⟨_, (Int.toNat_of_nonneg (by omega)).symm⟩
    have hfit : sb + (o.drop d).length ≤ buf.length := by rw [List.length_drop, hm, Nat.add_sub_cancel_left]; omega
    rw [hsb, Int.toNat_natCast]
    refine ⟨_, rfl, rfl, rfl, ?_, ?_, ?_⟩
    · intro i
      simp only [if_pos hn]
      rw [getD_addSlice _ _ _ hfit, hget, List.length_drop, hm, Nat.add_sub_cancel_left]
      have hg : (o.drop d).getD (i - sb) 0 = o.getD (d + (i - sb)) 0 := by
        simp only [List.getD_eq_getElem?_getD, List.getElem?_drop]
      by_cases hc : sb ≤ i ∧ i < sb + m
      · rw [if_pos hc, if_pos (by omega), hg]
        congr 2; omega
      · rw [if_neg hc, if_neg (by omega)]
    · simp only [if_pos hn]; rw [addSlice_length _ _ _ hfit]; exact hl1
    · simp only [if_pos hn]; rw [addSlice_length _ _ _ hfit]; exact hl2
  · -- nothing is left: no cell is a time of the block
    have := hnone (Decidable.not_not.mp hn)
    clear hmax hnone
    refine ⟨_, rfl, rfl, rfl, ?_, ?_, ?_⟩
    · intro i
      simp only [if_neg hn]
      rw [hget, if_neg (by omega)]
    · simp only [if_neg hn]; exact hl1
    · simp only [if_neg hn]; exact hl2

theorem get_cells (a : Aligner V) (fe : Int) (hfe : a.first_end = some fe)
    (hlen : (max (fe - a.buf_start) 0).toNat ≤ a.buf.length) :
    ∃ a', a.get = .ok ((List.range (max (fe - a.buf_start) 0).toNat).map (fun j => a.buf.getD j 0), a') ∧
      a'.buf_start = a.buf_start + ((max (fe - a.buf_start) 0).toNat : Int) ∧ a'.first_end = none ∧
      ∀ i, a'.buf.getD i 0 = a.buf.getD ((max (fe - a.buf_start) 0).toNat + i) 0 := by
  generalize hm : (max (fe - a.buf_start) 0).toNat = m at hlen
  unfold Aligner.get
  rw [hfe]
  simp only [hm]
  refine ⟨⟨a.buf.drop m ++ List.replicate (a.buf.length - (a.buf.length - m)) 0, a.buf_start + m, none⟩,
    ?_, rfl, rfl, ?_⟩
  · rw [take_eq_map_getD a.buf 0 m hlen]
  · intro i
    simp only
    rw [getD_append_zeros]
    simp only [List.getD_eq_getElem?_getD, List.getElem?_drop]

section Round
variable [LawfulRMod V]
open Earverif.Renderer

def shiftedSum (D : Nat) (A B C : List V) (p : Nat) : V := (A.getD (p + D) 0 + B.getD p 0) + C.getD p 0

def blockAt (s : Nat) (o : List V) (p : Nat) : V := if s ≤ p then o.getD (p - s) 0 else 0

theorem getD_append_block (X o : List V) (p : Nat) : (X ++ o).getD p 0 = X.getD p 0 + blockAt X.length o p := by
  unfold blockAt
  rw [getD_append_len]
  by_cases h : p < X.length
  · rw [if_pos h, if_neg (by omega), LawfulRMod.add_zero]
  · rw [if_neg h, if_pos (by omega), getD_ge (l := X) 0 (by omega), LawfulRMod.zero_add]

theorem shiftedSum_append (D : Nat) (A B C o1 o2 o3 : List V) (p : Nat) :
    shiftedSum D (A ++ o1) (B ++ o2) (C ++ o3) p =
      ((shiftedSum D A B C p + blockAt A.length o1 (p + D)) + blockAt B.length o2 p) + blockAt C.length o3 p := by
  simp only [shiftedSum, getD_append_block]
  generalize A.getD (p + D) 0 = a, B.getD p 0 = b, C.getD p 0 = c, blockAt A.length o1 (p + D) = a',
    blockAt B.length o2 p = b', blockAt C.length o3 p = c'
  have rc : ∀ x y z : V, x + y + z = x + z + y := fun x y z => by
    rw [LawfulRMod.add_assoc, LawfulRMod.add_comm y z, ← LawfulRMod.add_assoc]
  rw [rc (a + b) c a', rc a b a', rc (a + a' + b) c b', LawfulRMod.add_assoc (a + a') b b',
    LawfulRMod.add_assoc _ c c']

omit [LawfulRMod V] in
theorem shiftedSum_prefix (D : Nat) (A B C A' B' C' : List V) (p : Nat) (hA : p + D < A.length) (hB : p < B.length)
    (hC : p < C.length) : shiftedSum D (A ++ A') (B ++ B') (C ++ C') p = shiftedSum D A B C p := by
  unfold shiftedSum
  rw [getD_append_len, if_pos hA, getD_append_len, if_pos hB, getD_append_len, if_pos hC]

/-- The number of output positions that `n` more samples per stream complete, `S` having been fed: the output lags
the undelayed streams by `D`. -/
def newPos (D S n : Nat) : Nat := (S + n - D) - (S - D)

theorem newPos_start (D S n : Nat) : S - D + newPos D S n = S + n - D :=
  Nat.add_sub_cancel' (Nat.sub_le_sub_right (Nat.le_add_right S n) D)

theorem newPos_add (D S n N : Nat) : newPos D S (n + N) = newPos D S n + newPos D (S + n) N := by
  unfold newPos
  rw [← Nat.add_assoc, Nat.add_comm (S + n - D - (S - D)),
    Nat.sub_add_sub_cancel (Nat.sub_le_sub_right (Nat.le_add_right _ N) D) (Nat.sub_le_sub_right (Nat.le_add_right S n) D)]

/-- `n_samples` of `BlockAligner.get` when the earliest end of the round is that of the delayed stream. -/
theorem newPos_eq_toNat (D S n : Nat) : (max ((S : Int) - D + n - ((S - D : Nat) : Int)) 0).toNat = newPos D S n := by
  unfold newPos; omega

/-- Aligner state between rounds, after `S` samples per stream: cell `i` holds the shifted sum of the streams so
far at output position `S − D + i` (the two undelayed streams are still waiting for the delayed one there, and
everything after position `S` is zero). -/
def AlInv (D S : Nat) (As Bs Cs : List V) (a : Aligner V) : Prop :=
  a.first_end = none ∧ a.buf_start = ((S - D : Nat) : Int) ∧
    ∀ i, a.buf.getD i 0 = shiftedSum D As Bs Cs (S - D + i)

/-- An `add` of a round, `e ≤ D` samples before `start_sample = S` (`e = D` for the delayed stream, stripped before
time 0 if need be; `e = 0` for the other two): every cell receives the block's contribution. -/
theorem add_at (D S e : Nat) (he : e ≤ D) (o : List V) (a : Aligner V) (hbs : a.buf_start = ((S - D : Nat) : Int)) :
    ∃ a', a.add ((S : Int) - e) o = .ok a' ∧ a'.buf_start = a.buf_start ∧
      a'.first_end = feUpd a.first_end ((S : Int) - e + o.length) ∧
      (∀ i, a'.buf.getD i 0 = a.buf.getD i 0 + blockAt S o (S - D + i + e)) ∧
      (S + o.length - e) - (S - D) ≤ a'.buf.length ∧ a.buf.length ≤ a'.buf.length := by
  -- `q = S − D`, the time of cell 0: `0` while the delayed stream has not reached time 0
  obtain ⟨q, hq, hq'⟩ : ∃ q, S - D = q ∧ ((q = 0 ∧ S ≤ D) ∨ S = q + D) := ⟨_, rfl, by omega⟩
  rw [hq] at hbs ⊢
  clear hq
  obtain ⟨a', e1, e2, e3, e4, e5, e6⟩ := add_spec a ((S : Int) - e) o (by rw [hbs]; omega)
  refine ⟨a', e1, e2, e3, fun i => ?_, by rw [hbs] at e5; omega, e6⟩
  -- cell `i` is time `q + i`; the block covers the times `S − e ≤ · < S − e + len(o)`, beyond which `o` reads `0`
  rw [e4 i, hbs]
  clear e1 e2 e3 e4 e5 e6
  unfold blockAt
  by_cases h1 : S ≤ q + i + e
  · obtain ⟨j, hj⟩ := Nat.exists_eq_add_of_le h1
    have hidx : ((q : Int) + i - ((S : Int) - e)).toNat = j := by omega
    rw [if_pos h1, hidx, hj, Nat.add_sub_cancel_left]
    by_cases h2 : j < o.length
    · rw [if_pos (by omega)]
    · rw [if_neg (by omega), getD_ge (l := o) 0 (Nat.le_of_not_lt h2), LawfulRMod.add_zero]
  · rw [if_neg h1, if_neg (by omega), LawfulRMod.add_zero]

theorem alignRound_spec (D S n : Nat) (As Bs Cs o1 o2 o3 : List V) (a : Aligner V)
    (hA : As.length = S) (hB : Bs.length = S) (hC : Cs.length = S)
    (h1 : o1.length = n) (h2 : o2.length = n) (h3 : o3.length = n) (hinv : AlInv D S As Bs Cs a) :
    ∃ a', alignRound D a (S : Int) o1 o2 o3 =
        .ok ((List.range (newPos D S n)).map
              (fun j => shiftedSum D (As ++ o1) (Bs ++ o2) (Cs ++ o3) (S - D + j)), a') ∧
      AlInv D (S + n) (As ++ o1) (Bs ++ o2) (Cs ++ o3) a' := by
  obtain ⟨hfe, hbs, hcell⟩ := hinv
  obtain ⟨a1, e1, b1, f1, c1, l1, -⟩ := add_at D S D (Nat.le_refl _) o1 a hbs
  obtain ⟨a2, e2, b2, f2, c2, -, l2⟩ := add_at D S 0 (Nat.zero_le _) o2 a1 (b1.trans hbs)
  obtain ⟨a3, e3, b3, f3, c3, -, l3⟩ := add_at D S 0 (Nat.zero_le _) o3 a2 (b2.trans (b1.trans hbs))
  have hbs3 : a3.buf_start = ((S - D : Nat) : Int) := b3.trans (b2.trans (b1.trans hbs))
  -- the earliest end of the round is that of the delayed stream
  have hle : (S : Int) - D + n ≤ (S : Int) - (0 : Nat) + n := by omega
  rw [hfe, feUpd_none, h1] at f1
  rw [f1, h2, feUpd_some_le _ _ hle] at f2
  rw [f2, h3, feUpd_some_le _ _ hle] at f3
  rw [h1] at l1
  obtain ⟨a4, e4, b4, f4, c4⟩ := get_cells a3 _ f3
    (by rw [hbs3, newPos_eq_toNat]; exact Nat.le_trans l1 (Nat.le_trans l2 l3))
  rw [hbs3, newPos_eq_toNat] at e4 b4 c4
  have hcells : ∀ i, a3.buf.getD i 0 = shiftedSum D (As ++ o1) (Bs ++ o2) (Cs ++ o3) (S - D + i) := by
    intro i
    rw [c3 i, c2 i, c1 i, hcell i, shiftedSum_append, hA, hB, hC, Nat.add_zero]
  refine ⟨a4, ?_, f4, ?_, ?_⟩
  · unfold alignRound
    rw [Nat.cast_zero, Int.sub_zero] at e2 e3
    rw [e1]; simp only; rw [e2]; simp only; rw [e3]; simp only
    rw [e4]
    congr 2
    exact List.map_congr_left (fun j _ => hcells j)
  · rw [b4, ← Nat.cast_add, newPos_start]
  · intro i
    rw [c4 i, hcells, ← Nat.add_assoc, newPos_start]

/-- Rounds whose three blocks all have the length by which `start_sample` advances. -/
def RoundsOK (rs : List (Nat × List V × List V × List V)) : Prop :=
  ∀ r ∈ rs, r.2.1.length = r.1 ∧ r.2.2.1.length = r.1 ∧ r.2.2.2.length = r.1

theorem alignRun_spec (D : Nat) : ∀ (rs : List (Nat × List V × List V × List V)) (S : Nat) (As Bs Cs : List V)
    (a : Aligner V), As.length = S → Bs.length = S → Cs.length = S → AlInv D S As Bs Cs a → RoundsOK rs →
    ∃ outs a', alignRun D a (S : Int) rs = .ok (outs, a') ∧
      outs.flatten =
        (List.range (newPos D S (rs.map (·.2.1)).flatten.length)).map
          (fun j => shiftedSum D (As ++ (rs.map (·.2.1)).flatten) (Bs ++ (rs.map (·.2.2.1)).flatten)
            (Cs ++ (rs.map (·.2.2.2)).flatten) (S - D + j)) := by
  intro rs
  induction rs with
  | nil =>
    intro S As Bs Cs a _ _ _ _ _
    exact ⟨[], a, rfl, by simp [newPos]⟩
  | cons r rs ih =>
    intro S As Bs Cs a hA hB hC hinv hok
    obtain ⟨n, o1, o2, o3⟩ := r
    obtain ⟨h1, h2, h3⟩ := hok (n, o1, o2, o3) List.mem_cons_self
    simp only at h1 h2 h3
    obtain ⟨a1, e1, hinv1⟩ := alignRound_spec D S n As Bs Cs o1 o2 o3 a hA hB hC h1 h2 h3 hinv
    have hA1 : (As ++ o1).length = S + n := by rw [List.length_append, hA, h1]
    have hB1 : (Bs ++ o2).length = S + n := by rw [List.length_append, hB, h2]
    have hC1 : (Cs ++ o3).length = S + n := by rw [List.length_append, hC, h3]
    obtain ⟨outs, a2, e2, hflat⟩ := ih (S + n) (As ++ o1) (Bs ++ o2) (Cs ++ o3) a1 hA1 hB1 hC1 hinv1
      (fun r hr => hok r (List.mem_cons_of_mem _ hr))
    refine ⟨(List.range (newPos D S n)).map
      (fun j => shiftedSum D (As ++ o1) (Bs ++ o2) (Cs ++ o3) (S - D + j)) :: outs, a2, ?_, ?_⟩
    · simp only [alignRun, e1]
      rw [← Nat.cast_add, e2]
    · simp only [List.flatten_cons, List.map_cons, hflat, List.length_append, h1, List.append_assoc]
      rw [newPos_add, List.range_add, List.map_append, List.map_map]
      congr 1
      · -- the positions this round completes do not see the later blocks
        apply List.map_congr_left
        intro j hj
        have hj' : S - D + j < S + n - D := by
          rw [← newPos_start D S n]; exact Nat.add_lt_add_left (List.mem_range.mp hj) _
        rw [← List.append_assoc As, ← List.append_assoc Bs, ← List.append_assoc Cs]
        have hjD : S - D + j + D < S + n := Nat.add_lt_of_lt_sub hj'
        have hj0 : S - D + j < S + n := Nat.lt_of_le_of_lt (Nat.le_add_right _ D) hjD
        exact Eq.symm <| shiftedSum_prefix D (As ++ o1) (Bs ++ o2) (Cs ++ o3) _ _ _ (S - D + j) (hA1 ▸ hjD) (hB1 ▸ hj0)
          (hC1 ▸ hj0)
      · apply List.map_congr_left
        intro j _
        simp only [Function.comp, ← Nat.add_assoc, newPos_start]

/-- Any sequence of rounds, empty blocks included; the shifted sum is `A[s+D] + B[s] + C[s]`, `0 ≤ s < T − D`. -/
theorem aligner_run_eq (D : Nat) (rs : List (Nat × List V × List V × List V)) (hok : RoundsOK rs) :
    ∃ outs al, alignRun D (Aligner.init : Aligner V) 0 rs = .ok (outs, al) ∧
      outs.flatten =
        List.zipWith (· + ·)
          (List.zipWith (· + ·) ((rs.map (·.2.1)).flatten.drop D) (rs.map (·.2.2.1)).flatten)
          (rs.map (·.2.2.2)).flatten := by
  have hinit : AlInv D 0 ([] : List V) [] [] (Aligner.init : Aligner V) := by
    refine ⟨rfl, by simp [Aligner.init], ?_⟩
    intro i
    simp only [Aligner.init, shiftedSum, List.getD_eq_getElem?_getD, List.getElem?_nil, Option.getD_none,
      LawfulRMod.zero_add]
  obtain ⟨outs, a', e, hflat⟩ := alignRun_spec D rs 0 [] [] [] _ rfl rfl rfl hinit hok
  refine ⟨outs, a', by simpa using e, ?_⟩
  rw [hflat]
  simp only [List.nil_append, Nat.zero_add, Nat.zero_sub, Nat.sub_zero, newPos]
  have hlens : (rs.map (·.2.2.1)).flatten.length = (rs.map (·.2.1)).flatten.length ∧
      (rs.map (·.2.2.2)).flatten.length = (rs.map (·.2.1)).flatten.length := by
    clear hflat e hinit
    induction rs with
    | nil => simp
    | cons r rs ih =>
      obtain ⟨h1, h2, h3⟩ := hok r List.mem_cons_self
      obtain ⟨i1, i2⟩ := ih (fun r hr => hok r (List.mem_cons_of_mem _ hr))
      simp only [List.map_cons, List.flatten_cons, List.length_append]
      omega
  generalize (rs.map (·.2.1)).flatten = A at *
  generalize (rs.map (·.2.2.1)).flatten = B at *
  generalize (rs.map (·.2.2.2)).flatten = C at *
  obtain ⟨hB, hC⟩ := hlens
  apply List.ext_getElem?
  intro i
  simp only [List.getElem?_map, List.getElem?_zipWith, List.getElem?_drop, shiftedSum,
    List.getD_eq_getElem?_getD]
  by_cases hi : i < A.length - D
  · rw [List.getElem?_range hi]
    have hiA : i < A.length := Nat.lt_of_lt_of_le hi (Nat.sub_le _ _)
    simp only [Option.map_some, Nat.add_comm i D]
    rw [List.getElem?_eq_getElem (Nat.add_lt_of_lt_sub' hi), List.getElem?_eq_getElem (hB ▸ hiA),
      List.getElem?_eq_getElem (hC ▸ hiA)]
    rfl
  · rw [List.getElem?_eq_none (by rw [List.length_range]; exact Nat.le_of_not_lt hi),
      List.getElem?_eq_none (Nat.sub_le_iff_le_add'.mp (Nat.le_of_not_lt hi))]
    rfl

end Round

end Earverif.Stream
