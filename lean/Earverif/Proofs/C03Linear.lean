/-
C03, last clause: "the output is the exact sum over items (linear in the input audio)".  The specified output
`RenderSpec.outAt` is additive and homogeneous in the input frames, for every frame type with the module laws.
-/
import Earverif.Model.RenderSpec
import Earverif.Proofs.C02Laws
import Earverif.Proofs.ListLemmas
namespace Earverif.RenderSpec
open Earverif.Stream Earverif.Timeline Earverif.Renderer

def addX (x y : List (List Rat)) : List (List Rat) := List.zipWith (List.zipWith (· + ·)) x y

def smulX (a : Rat) (x : List (List Rat)) : List (List Rat) := x.map (·.map (a * ·))

/-- Two inputs of the same shape `(T, n)`. -/
structure SameShape (n : Nat) (x y : List (List Rat)) : Prop where
  len : x.length = y.length
  wx : ∀ fr ∈ x, fr.length = n
  wy : ∀ fr ∈ y, fr.length = n

theorem addX_length (x y : List (List Rat)) (h : x.length = y.length) : (addX x y).length = x.length := by
  simp [addX, h]

theorem xAt_addX {n : Nat} (x y : List (List Rat)) (h : SameShape n x y) (tr : Nat) (t : Int) :
    xAt (addX x y) tr t = xAt x tr t + xAt y tr t := by
  unfold xAt
  split
  · -- frame `t` of the sum is the sum of the frames `t`, which have the same length (empty outside the input)
    simp only [addX, List.getD_eq_getElem?_getD (l := List.zipWith _ x y), List.getD_eq_getElem?_getD (l := x),
      List.getD_eq_getElem?_getD (l := y), List.getElem?_zipWith]
    by_cases hi : t.toNat < x.length
    · have hi' : t.toNat < y.length := h.len ▸ hi
      rw [List.getElem?_eq_getElem hi, List.getElem?_eq_getElem hi']
      exact getD_zipWith_add _ _ ((h.wx _ (List.getElem_mem hi)).trans (h.wy _ (List.getElem_mem hi')).symm) tr
    · rw [List.getElem?_eq_none (not_lt.mp hi), List.getElem?_eq_none (h.len ▸ not_lt.mp hi)]
      exact (add_zero 0).symm
  · exact (add_zero 0).symm

theorem xAt_smulX (a : Rat) (x : List (List Rat)) (tr : Nat) (t : Int) :
    xAt (smulX a x) tr t = a * xAt x tr t := by
  unfold xAt
  split
  · simp only [smulX, List.getD_eq_getElem?_getD (l := List.map _ x), List.getD_eq_getElem?_getD (l := x),
      List.getElem?_map]
    cases x[t.toNat]? with
    | none => exact (mul_zero a).symm
    | some fr => exact getD_map_of_eq (a * ·) fr tr (mul_zero a)
  · exact (mul_zero a).symm

section
variable {V : Type} [RMod V] [LawfulRMod V]

-- `LawfulRMod` is a bare class of laws, not a Mathlib algebra instance: the few rearrangements of sums needed below
-- (`foldl_add_acc`, `add_swap_inner`, `add_unzip4`) are proved from its laws
theorem foldl_add_acc (l : List V) (a : V) : l.foldl (· + ·) a = a + l.foldl (· + ·) 0 := by
  induction l generalizing a with
  | nil => exact (LawfulRMod.add_zero a).symm
  | cons v l ih =>
    simp only [List.foldl_cons]
    rw [ih (a + v), ih (0 + v), LawfulRMod.zero_add, LawfulRMod.add_assoc]

theorem sumV_cons (v : V) (l : List V) : sumV (v :: l) = v + sumV l := by
  simp only [sumV, List.foldl_cons]
  rw [foldl_add_acc, LawfulRMod.zero_add]

theorem add_swap_inner (a b c d : V) : (a + b) + (c + d) = (a + c) + (b + d) := by
  rw [LawfulRMod.add_assoc, LawfulRMod.add_assoc]
  congr 1
  rw [← LawfulRMod.add_assoc, ← LawfulRMod.add_assoc, LawfulRMod.add_comm b c]

/-- A sum of four pairs, left-nested, is the sum of the firsts plus the sum of the seconds (the four terms of
`outAt`). -/
theorem add_unzip4 (a a' b b' c c' d d' : V) :
    (((a + a') + (b + b')) + (c + c')) + (d + d') = (((a + b) + c) + d) + (((a' + b') + c') + d') := by
  rw [add_swap_inner a a' b b', add_swap_inner (a + b) (a' + b') c c',
    add_swap_inner ((a + b) + c) ((a' + b') + c') d d']

theorem sumV_map_add {ι : Type} (l : List ι) (h f g : ι → V) (H : ∀ i ∈ l, h i = f i + g i) :
    sumV (l.map h) = sumV (l.map f) + sumV (l.map g) := by
  induction l with
  | nil => exact (LawfulRMod.zero_add (0 : V)).symm
  | cons i l ih =>
    simp only [List.map_cons, sumV_cons]
    rw [H i List.mem_cons_self, ih fun j hj => H j (List.mem_cons_of_mem _ hj), add_swap_inner]

theorem sumV_map_smul {ι : Type} (a : Rat) (l : List ι) (h f : ι → V) (H : ∀ i ∈ l, h i = RMod.smul a (f i)) :
    sumV (l.map h) = RMod.smul a (sumV (l.map f)) := by
  induction l with
  | nil => exact (LawfulRMod.smul_zero a).symm
  | cons i l ih =>
    simp only [List.map_cons, sumV_cons]
    rw [H i List.mem_cons_self, ih fun j hj => H j (List.mem_cons_of_mem _ hj), LawfulRMod.smul_add]

theorem matApply_cons (c : V) (cols : List V) (x : Rat) (xs : List Rat) :
    matApply (c :: cols) (x :: xs) = RMod.smul x c + matApply cols xs :=
  sumV_cons _ _

omit [LawfulRMod V] in
theorem matApply_map {ι : Type} (cols : List V) (l : List ι) (f : ι → Rat) :
    matApply cols (l.map f) = sumV ((l.zip cols).map fun p => RMod.smul (f p.1) p.2) := by
  show sumV (List.zipWith RMod.smul (l.map f) cols) = _
  rw [List.zipWith_map_left, List.map_zip_eq_zipWith]
  rfl

theorem mat_map_add {ι : Type} (G : GainSpec (List V)) (l : List ι) (f g : ι → Rat) :
    G.mat (l.map fun i => f i + g i) = G.mat (l.map f) + G.mat (l.map g) := by
  cases G with
  | const cols =>
    simp only [GainSpec.mat, matApply_map]
    exact sumV_map_add _ _ _ _ fun p _ => LawfulRMod.add_smul _ _ _
  | silent => exact (LawfulRMod.zero_add (0 : V)).symm
  | ramp p g0 g1 => exact (LawfulRMod.zero_add (0 : V)).symm

theorem mat_map_smul {ι : Type} (a : Rat) (G : GainSpec (List V)) (l : List ι) (f : ι → Rat) :
    G.mat (l.map fun i => a * f i) = RMod.smul a (G.mat (l.map f)) := by
  cases G with
  | const cols =>
    simp only [GainSpec.mat, matApply_map]
    exact sumV_map_smul _ _ _ _ fun p _ => LawfulRMod.mul_smul _ _ _
  | silent => exact (LawfulRMod.smul_zero a).symm
  | ramp p g0 g1 => exact (LawfulRMod.smul_zero a).symm

theorem objAt_add (sr : Nat) {n : Nat} (objs : List (ObjItem V)) (x y : List (List Rat)) (h : SameShape n x y) (t : Int) :
    objAt sr objs (addX x y) t = objAt sr objs x t + objAt sr objs y t :=
  sumV_map_add _ _ _ _ fun it _ => by rw [xAt_addX x y h, LawfulRMod.add_smul]

theorem objAt_smul (sr : Nat) (a : Rat) (objs : List (ObjItem V)) (x : List (List Rat)) (t : Int) :
    objAt sr objs (smulX a x) t = RMod.smul a (objAt sr objs x t) :=
  sumV_map_smul _ _ _ _ fun it _ => by rw [xAt_smulX, LawfulRMod.mul_smul]

theorem outAt_add (c : Cfg V) (objs : List (ObjItem V)) (dss : List (DsItem V)) (hoas : List (HoaItem V))
    (x y : List (List Rat)) (h : SameShape c.n_in x y) (s : Nat) :
    outAt c objs dss hoas (addX x y) s = outAt c objs dss hoas x s + outAt c objs dss hoas y s := by
  unfold outAt
  simp only
  -- each of the four terms (direct, diffuse, DirectSpeakers, HOA) is a sum over items of terms additive in the input
  rw [← add_unzip4]
  congr 1
  · congr 1
    · congr 1
      · rw [objAt_add c.sr objs x y h]; rfl
      · exact sumV_map_add _ _ _ _ fun k _ => by
          rw [objAt_add c.sr objs x y h, ← LawfulRMod.pmul_add]; rfl
    · exact sumV_map_add _ _ _ _ fun it _ => by rw [xAt_addX x y h, LawfulRMod.add_smul]
  · exact sumV_map_add _ _ _ _ fun it _ => by
      simp only [xAt_addX x y h]
      exact mat_map_add _ _ _ _

theorem outAt_smul (c : Cfg V) (objs : List (ObjItem V)) (dss : List (DsItem V)) (hoas : List (HoaItem V))
    (a : Rat) (x : List (List Rat)) (s : Nat) :
    outAt c objs dss hoas (smulX a x) s = RMod.smul a (outAt c objs dss hoas x s) := by
  unfold outAt
  simp only
  rw [LawfulRMod.smul_add, LawfulRMod.smul_add, LawfulRMod.smul_add]
  congr 1
  · congr 1
    · congr 1
      · rw [objAt_smul]; rfl
      · exact sumV_map_smul _ _ _ _ fun k _ => by rw [objAt_smul, ← LawfulRMod.pmul_smul]; rfl
    · exact sumV_map_smul _ _ _ _ fun it _ => by rw [xAt_smulX, LawfulRMod.mul_smul]
  · exact sumV_map_smul _ _ _ _ fun it _ => by
      simp only [xAt_smulX]
      exact mat_map_smul _ _ _ _

end

end Earverif.RenderSpec
