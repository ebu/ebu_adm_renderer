/- DirectSpeakers / HOA interpreters (`interpFixed`): the yielded block applies the specified constant gain on the
   specified samples; the blocks of an accepted timeline are ordered and disjoint. -/
import Earverif.Proofs.C03Gain
namespace Earverif.Timeline
open Earverif.Stream Earverif.RenderSpec

variable {V : Type} [RMod V] [LawfulRMod V]

theorem interpFixed_ok {G : Type} {sr : Nat} {st st' : IState G} {m : MetaBlock G} {new : List (PBlock G)}
    (h : interpFixed sr st m = .ok (st', new)) :
    ∃ s e, blockStartEnd st.tlast m = .ok (s, e) ∧ st' = { st with tlast := some e } ∧
      new = [PBlock.new ((sr : Rat) * s) (e.mulNat sr) m.gains] := by
  unfold interpFixed at h
  cases hb : blockStartEnd st.tlast m with
  | error err => rw [hb] at h; cases h
  | ok se =>
    obtain ⟨s, e⟩ := se
    rw [hb] at h
    cases h
    exact ⟨s, e, rfl, rfl, rfl⟩

/-- One block per metadata block, stated as the bound `bpc_process_spec` and `chans_subRun_spec` ask of an interpreter. -/
theorem interpFixed_yield_le_two {G : Type} {sr : Nat} (st : IState G) (m : MetaBlock G) (st' : IState G)
    (new : List (PBlock G)) (h : interpFixed sr st m = .ok (st', new)) : new.length ≤ 2 := by
  obtain ⟨s, e, _, _, hnew⟩ := interpFixed_ok h
  rw [hnew]; simp

/-- What the fixed-gain specification says at a sample, applied through an index-independent kernel `upd`. -/
def fixedEff {G ι : Type} (upd : G → Nat → ι → V → V) (g : GainSpec G) (x : ι) (o : V) : V :=
  match g with
  | .const k => upd k 0 x o
  | _ => o

theorem fixed_timedStep {G : Type} (sr : Nat) : TimedStep sr (fun _ => True) (interpFixed (G := G) sr) := by
  intro st m st' new h _ hnn
  obtain ⟨s, e, hb, hst', hnew⟩ := interpFixed_ok h
  obtain ⟨hbt, hprev⟩ := blockStartEnd_ok hb
  have hle := blockTimes_le m hnn
  rw [← hbt] at hle ⊢
  refine ⟨trivial, by rw [hst'], hprev, fun rest hrest => ?_⟩
  rw [hnew, mul_comm (sr : Rat) s]
  exact chain_new (s * sr) (e.mulNat sr) m.gains (leCeilE_mulNat sr hle) hrest

-- stated for the frame types of the renderer (`RMod`, `LawfulRMod`), whose laws the proof does not need
set_option linter.unusedSectionVars false in
theorem fixed_all_spec {G ι : Type} {sr : Nat} (upd : G → Nat → ι → V → V) (hupd : ∀ g k, upd g k = upd g 0) :
    ∀ (blocks : List (MetaBlock G)) (st : IState G) (all : List (PBlock G)),
    interpAll (interpFixed sr) st blocks = .ok all → (∀ m ∈ blocks, NonNegBlock m) →
    (∀ t x o, effAll upd all t x o = fixedEff upd (gainAt sr (fixedTimeline blocks) t) x o) ∧
    (∀ lb, (∀ m ms, blocks = m :: ms → lb ≤ ceil ((blockTimes m).1 * sr)) → ChainLB lb all) ∧
    (∀ m ms, blocks = m :: ms → ∀ l, st.tlast = some l → ∃ t, l = .fin t ∧ t ≤ (blockTimes m).1) := by
  intro blocks st all h hnn
  obtain ⟨hA, hB, -⟩ := (fixed_timedStep sr).chain blocks st all h trivial hnn
  refine ⟨?_, hA, hB⟩
  clear hA hB
  induction blocks generalizing st all with
  | nil =>
    intro t x o
    simp only [interpAll] at h; cases h
    rfl
  | cons m ms ih =>
    intro t x o
    obtain ⟨st', new, rest, hi, hr, rfl⟩ := interpAll_cons_ok h
    have hnn' : ∀ m' ∈ ms, NonNegBlock m' := fun m' hm' => hnn m' (List.mem_cons_of_mem _ hm')
    obtain ⟨-, htl, -, -⟩ := fixed_timedStep sr st m st' new hi trivial (hnn m List.mem_cons_self)
    obtain ⟨-, -, hafter⟩ := (fixed_timedStep sr).chain ms st' rest hr trivial hnn'
    have hafter := hafter _ htl
    obtain ⟨s, e, hb, -, hnew⟩ := interpFixed_ok hi
    obtain ⟨hbt, -⟩ := blockStartEnd_ok hb
    rw [← hbt] at hafter
    have hftl : fixedTimeline (m :: ms) = ⟨s, e, s, none, m.gains⟩ :: fixedTimeline ms := by
      simp only [fixedTimeline, List.map_cons, ← hbt]
    rw [effAll_append, hnew, hftl, gainAt_cons sr _ (fixedTimeline ms), effAll_cons, effAll_nil, mul_comm (sr : Rat) s,
      eff_new]
    have hcov := specCovers_iff sr (⟨s, e, s, none, m.gains⟩ : SpecBlock G) t
    by_cases hc : (⟨s, e, s, none, m.gains⟩ : SpecBlock G).covers sr t = true
    · -- later blocks do not reach back to `t`
      rw [if_pos hc, if_pos (hcov.mp hc), gainAt_single sr _ t hc, if_pos (hcov.mp hc).1,
        effAll_chainAfter_id _ hafter t (hcov.mp hc).2]
      exact congrFun (congrFun (hupd _ _) x) o
    · rw [if_neg hc, if_neg (mt hcov.mpr hc)]
      exact ih st' rest hr hnn' t x o

end Earverif.Timeline
