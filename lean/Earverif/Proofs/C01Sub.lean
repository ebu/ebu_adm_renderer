/- Sub-model lemmas for C01 (over ℝ): divergence gains, zone downmix rows, depth RMS, calc_pv_spread skeleton,
   the two normalisations, the allocentric balance pan. -/
import Earverif.Proofs.C01Real
import Earverif.Proofs.MapM
import Earverif.Proofs.IndRow

namespace Earverif.GainCalc

/-- H2 of the render theorems (Props/C01.lean) -/
def Stochastic (D : List (List ℝ)) : Prop := ∀ r ∈ D, Nonneg r ∧ sum r = 1

/-! ### `diverge` -/

theorem divergeGains_some (v : ℝ) (h : v ≠ 0) :
    divergeGains (some v) = [v / (v + 1), (1 - v) / (v + 1), v / (v + 1)] := by
  simp [divergeGains, eqS_eq_decide, h]

theorem divergeGains_zero : divergeGains (some (0 : ℝ)) = [1] := by
  simp [divergeGains, eqS_eq_decide]

/-- `g_l + g_c + g_r = 1` -/
theorem diverge_gains_sum_one (v : Option ℝ) (hv : ∀ y, v = some y → 0 ≤ y) : sum (divergeGains v) = 1 := by
  cases v with
  | none => simp [divergeGains]
  | some y =>
    have h0 := hv y rfl
    by_cases hy : y = 0
    · subst hy; simp [divergeGains_zero]
    · rw [divergeGains_some y hy]
      have : y + 1 ≠ 0 := by linarith
      simp only [sum_cons, sum_nil]
      field_simp
      ring

theorem diverge_gains_nonneg (v : Option ℝ) (hv : ∀ y, v = some y → 0 ≤ y ∧ y ≤ 1) : Nonneg (divergeGains v) := by
  cases v with
  | none => intro x hx; simp [divergeGains] at hx; simp [hx]
  | some y =>
    obtain ⟨h0, h1⟩ := hv y rfl
    by_cases hy : y = 0
    · subst hy; intro x hx; simp [divergeGains_zero] at hx; simp [hx]
    · rw [divergeGains_some y hy]
      have hp : 0 < y + 1 := by linarith
      intro x hx
      simp only [List.mem_cons, List.not_mem_nil, or_false] at hx
      rcases hx with rfl | rfl | rfl
      · exact div_nonneg h0 hp.le
      · exact div_nonneg (by linarith) hp.le
      · exact div_nonneg h0 hp.le

/-! ### `downmix_for_excluded` -/

theorem listSum_range_map (f : ℕ → ℝ) : ∀ n : ℕ, ((List.range n).map f).sum = ∑ j ∈ Finset.range n, f j
  | 0 => by simp
  | n + 1 => by
    rw [List.range_succ, List.map_append, List.sum_append, listSum_range_map f n, Finset.sum_range_succ]
    simp

theorem notExcluded_lt (excluded : List Bool) (grp : List ℕ) : ∀ j ∈ notExcluded excluded grp, j < excluded.length := by
  intro j hj
  simp only [notExcluded, List.mem_filter, Bool.not_eq_eq_eq_not, Bool.not_true] at hj
  by_contra hlt
  have : excluded.getD j true = true := by
    simp [List.getD, List.getElem?_eq_none (Nat.le_of_not_lt hlt)]
  rw [this] at hj
  exact Bool.noConfusion hj.2

theorem notExcluded_nodup (excluded : List Bool) {grp : List ℕ} (h : grp.Nodup) : (notExcluded excluded grp).Nodup :=
  List.Nodup.filter _ h

/-- `np.all(excluded[group])` succeeds iff every index is in range, and then says whether all members are excluded -/
theorem allExcluded_eq_some (excluded : List Bool) : ∀ (grp : List ℕ) (b : Bool),
    allExcluded excluded grp = some b ↔
      (∀ j ∈ grp, j < excluded.length) ∧ b = grp.all fun j => excluded.getD j true
  | [], b => by simp [allExcluded, eq_comm]
  | j :: js, b => by
    simp only [allExcluded, Option.bind_eq_bind, Option.pure_def, Option.bind_eq_some_iff, Option.some.injEq,
      allExcluded_eq_some excluded js, List.getElem?_eq_some_iff, List.mem_cons, forall_eq_or_imp, List.all_cons]
    constructor
    · rintro ⟨e, ⟨hj, rfl⟩, r, ⟨hjs, rfl⟩, rfl⟩
      exact ⟨⟨hj, hjs⟩, by simp [List.getD_eq_getElem?_getD, hj]⟩
    · rintro ⟨⟨hj, hjs⟩, rfl⟩
      exact ⟨excluded[j], ⟨hj, rfl⟩, _, ⟨hjs, rfl⟩, by simp [List.getD_eq_getElem?_getD, hj]⟩

theorem notExcluded_ne_nil (excluded : List Bool) (grp : List ℕ) (h : allExcluded excluded grp = some false) :
    notExcluded excluded grp ≠ [] := by
  have hall := ((allExcluded_eq_some excluded grp false).mp h).2
  obtain ⟨j, hj, hjf⟩ : ∃ j ∈ grp, excluded.getD j true = false := by simpa using hall.symm
  exact List.ne_nil_of_mem (List.mem_filter.mpr ⟨hj, by rw [hjf]; rfl⟩)

theorem firstUsable_spec (excluded : List Bool) : ∀ (grps : List (List ℕ)) (ne : List ℕ),
    firstUsable excluded grps = some ne → ∃ grp ∈ grps, ne = notExcluded excluded grp ∧ ne ≠ []
  | [], _, h => by simp [firstUsable] at h
  | grp :: rest, ne, h => by
    simp only [firstUsable] at h
    cases ha : allExcluded excluded grp with
    | none => simp [ha] at h
    | some b =>
      cases b with
      | true =>
        simp only [ha] at h
        obtain ⟨g', hg', h'⟩ := firstUsable_spec excluded rest ne h
        exact ⟨g', by simp [hg'], h'⟩
      | false =>
        simp only [ha, Option.some.injEq] at h
        subst h
        exact ⟨grp, by simp, rfl, notExcluded_ne_nil excluded grp ha⟩

theorem allExcluded_of_lt (excluded : List Bool) (grp : List Nat) (h : ∀ j ∈ grp, j < excluded.length) :
    ∃ b, allExcluded excluded grp = some b ∧ (b = true → ∀ j ∈ grp, excluded[j]? = some true) := by
  refine ⟨_, (allExcluded_eq_some excluded grp _).mpr ⟨h, rfl⟩, fun ht j hj => ?_⟩
  have := List.all_eq_true.mp ht j hj
  rw [List.getElem?_eq_getElem (h j hj)]
  simpa [List.getD_eq_getElem?_getD, h j hj] using this

theorem firstUsable_some (excluded : List Bool) : ∀ (grps : List (List Nat)),
    (∀ grp ∈ grps, ∀ j ∈ grp, j < excluded.length) → (∃ j ∈ grps.flatten, excluded[j]? = some false) →
    ∃ ne, firstUsable excluded grps = some ne
  | [], _, ⟨j, hj, _⟩ => by simp at hj
  | grp :: rest, hb, ⟨j, hj, hjf⟩ => by
    obtain ⟨b, hbe, hall⟩ := allExcluded_of_lt excluded grp (hb grp (by simp))
    simp only [firstUsable, hbe]
    cases b with
    | false => exact ⟨_, rfl⟩
    | true =>
      simp only
      refine firstUsable_some excluded rest (fun g hg => hb g (by simp [hg])) ⟨j, ?_, hjf⟩
      simp only [List.flatten_cons, List.mem_append] at hj
      rcases hj with hj | hj
      · have := hall rfl j hj
        rw [this] at hjf
        exact absurd hjf (by simp)
      · exact hj

theorem downmixRow_eq (n : ℕ) (ne : List ℕ) : (downmixRow n ne : List ℝ) = indRow n ne (1 / (ne.length : ℝ)) := by
  simp [downmixRow, indRow, Rat.mkRat_one]

theorem downmixRow_nonneg (n : ℕ) (ne : List ℕ) : Nonneg (downmixRow n ne : List ℝ) :=
  downmixRow_eq n ne ▸ indRow_nonneg n ne (by positivity)

theorem downmixRow_sum (n : ℕ) (ne : List ℕ) (hn : ne.Nodup) (hb : ∀ j ∈ ne, j < n) (h0 : ne ≠ []) :
    sum (downmixRow n ne : List ℝ) = 1 := by
  rw [sum_eq_listSum, downmixRow_eq, indRow_inv_sum n ne hn hb h0]

/-- the row is written the way `simp [eye]` leaves it -/
theorem eye_row_sum (n i : ℕ) (hi : i < n) :
    sum ((List.range n).map fun j => if (i == j) = true then (one : ℝ) else zero) = 1 := by
  simp only [one_real, zero_real]
  rw [sum_eq_listSum, ← indRow_singleton, indRow_singleton_sum n i hi]

theorem eye_stochastic (n : ℕ) : Stochastic (eye n : List (List ℝ)) := by
  intro r hr
  simp only [eye, List.mem_map, List.mem_range] at hr
  obtain ⟨i, hi, rfl⟩ := hr
  exact ⟨nonneg_map fun j _ => by split <;> simp, eye_row_sum n i hi⟩

theorem downmix_cases {groups : List (List (List ℕ))} {excluded : List Bool} {D : List (List ℝ)}
    (h : downmixForExcluded groups excluded = some D) :
    excluded.length = groups.length ∧ (D = eye groups.length ∨
      groups.mapM (fun grps => (firstUsable excluded grps).map (downmixRow groups.length)) = some D) := by
  simp only [downmixForExcluded] at h
  split at h
  · simp at h
  · rename_i hlen
    refine ⟨by simpa using hlen, ?_⟩
    split at h
    · exact Or.inl (Option.some.inj h).symm
    · exact Or.inr h

/-- a row of the zone downmix is a row of `eye` or `downmixRow` on the non-excluded members of a usable group -/
theorem downmix_row {groups : List (List (List ℕ))} {excluded : List Bool} {D : List (List ℝ)}
    (h : downmixForExcluded groups excluded = some D) {r : List ℝ} (hr : r ∈ D) :
    excluded.length = groups.length ∧ (r ∈ (eye groups.length : List (List ℝ)) ∨ ∃ grps ∈ groups, ∃ grp ∈ grps,
      r = downmixRow groups.length (notExcluded excluded grp) ∧ notExcluded excluded grp ≠ []) := by
  obtain ⟨hlen, rfl | h⟩ := downmix_cases h
  · exact ⟨hlen, Or.inl hr⟩
  · obtain ⟨grps, hgr, hrow⟩ := mapM_some_mem_rev h r hr
    obtain ⟨ne, hne, rfl⟩ := Option.map_eq_some_iff.mp hrow
    obtain ⟨grp, hgrp, rfl, hnz⟩ := firstUsable_spec excluded grps ne hne
    exact ⟨hlen, Or.inr ⟨grps, hgr, grp, hgrp, rfl, hnz⟩⟩

theorem downmix_nonneg (groups : List (List (List ℕ))) (excluded : List Bool) (D : List (List ℝ))
    (h : downmixForExcluded groups excluded = some D) : ∀ r ∈ D, Nonneg r := by
  intro r hr
  rcases (downmix_row h hr).2 with he | ⟨_, _, _, _, rfl, _⟩
  · exact (eye_stochastic _ r he).1
  · exact downmixRow_nonneg _ _

theorem downmix_stochastic (groups : List (List (List ℕ))) (excluded : List Bool) (D : List (List ℝ))
    (hn : ∀ grps ∈ groups, ∀ grp ∈ grps, grp.Nodup) (h : downmixForExcluded groups excluded = some D) :
    Stochastic D := by
  intro r hr
  obtain ⟨hlen, he | ⟨grps, hgr, grp, hgrp, rfl, hnz⟩⟩ := downmix_row h hr
  · exact eye_stochastic _ r he
  · exact ⟨downmixRow_nonneg _ _, downmixRow_sum _ _ (notExcluded_nodup excluded (hn grps hgr grp hgrp))
      (fun j hj => hlen ▸ notExcluded_lt excluded grp j hj) hnz⟩

/-- groups duplicate-free, as `unique_groups` over `enumerate` builds them -/
theorem downmix_rows_sum_one (groups : List (List (List ℕ))) (excluded : List Bool) (D : List (List ℝ))
    (hn : ∀ grps ∈ groups, ∀ grp ∈ grps, grp.Nodup) (h : downmixForExcluded groups excluded = some D) :
    ∀ r ∈ D, sum r = 1 := fun r hr => (downmix_stochastic groups excluded D hn h r hr).2

/-! ### depth RMS -/

theorem depthCombine_nonneg (p1 p2 : List ℝ) : Nonneg (depthCombine p1 p2) :=
  zipWith_nonneg _ p1 p2 fun _ _ _ _ => Real.sqrt_nonneg _

theorem depthCombine_power : ∀ (p1 p2 : List ℝ), p1.length = p2.length →
    sumSq (depthCombine p1 p2) = (sumSq p1 + sumSq p2) / 2
  | [], [], _ => by simp [depthCombine]
  | [], _ :: _, h => by simp at h
  | _ :: _, [], h => by simp at h
  | a :: as, b :: bs, h => by
    have ih := depthCombine_power as bs (by simpa using h)
    simp only [depthCombine, List.zipWith_cons_cons, sumSq_cons, sqrt_real, k_real] at ih ⊢
    rw [ih, Real.mul_self_sqrt (by
      have : (0:ℝ) ≤ a * a + b * b := add_nonneg (mul_self_nonneg a) (mul_self_nonneg b)
      push_cast; positivity)]
    push_cast; ring

theorem depthCombine_unit (p1 p2 : List ℝ) (hl : p1.length = p2.length) (h1 : sumSq p1 = 1) (h2 : sumSq p2 = 1) :
    sumSq (depthCombine p1 p2) = 1 := by
  rw [depthCombine_power p1 p2 hl, h1, h2]; norm_num

/-! ### `calc_pv_spread` skeleton -/

theorem sum_scaled_sq (a : ℝ) : ∀ p : List ℝ, sum (p.map fun x => a * (x * x)) = a * sumSq p
  | [] => by simp
  | x :: xs => by simp [sum_scaled_sq a xs]; ring

theorem scaled_sq_nonneg {a : ℝ} (ha : 0 ≤ a) (p : List ℝ) : Nonneg (p.map fun x => a * (x * x)) :=
  nonneg_map fun x _ => mul_nonneg ha (mul_self_nonneg x)

/-! one `pv = pv + term` step of `calc_pv_spread`, taken only if `c` -/

theorem sum_addIf {c : Prop} [Decidable c] {v w : List ℝ} (h : c → v.length = w.length) :
    sum (if c then vadd v w else v) = sum v + if c then sum w else 0 := by
  split
  · exact sum_vadd (h ‹_›)
  · rw [add_zero]

theorem length_addIf {c : Prop} [Decidable c] {v w : List ℝ} (h : c → v.length = w.length) :
    (if c then vadd v w else v).length = v.length := by
  split
  · rw [length_vadd, ← h ‹_›, min_self]
  · rfl

theorem addIf_nonneg {c : Prop} [Decidable c] {v w : List ℝ} (hv : Nonneg v) (hw : Nonneg w) :
    Nonneg (if c then vadd v w else v) := by
  split
  · exact vadd_nonneg hv hw
  · exact hv

/-- `s` needs the right length only if its term is added -/
theorem sumSq_calcPvSpread (n : ℕ) (a : ℝ) (p s : List ℝ) (h0 : 0 ≤ a) (h1 : a ≤ 1) (hp : p.length = n)
    (hs : (1 / 10000000000 : ℝ) < a → s.length = n) :
    (calcPvSpread n a p s).length = n ∧ sumSq (calcPvSpread n a p s) =
      (if (1 / 10000000000 : ℝ) < 1 - a then (1 - a) * sumSq p else 0) +
        if (1 / 10000000000 : ℝ) < a then a * sumSq s else 0 := by
  have hPn := scaled_sq_nonneg (sub_nonneg.mpr h1) p
  have hSn := scaled_sq_nonneg h0 s
  have hPs := sum_scaled_sq (1 - a) p
  have hSs := sum_scaled_sq a s
  have hPl : (zeros n : List ℝ).length = (p.map fun x => (1 - a) * (x * x)).length := by
    rw [length_zeros, List.length_map, hp]
  have hSl : (1 / 10000000000 : ℝ) < a → n = (s.map fun x => a * (x * x)).length := fun h => by
    rw [List.length_map, hs h]
  simp only [calcPvSpread, one_real, k_tiny]
  -- each conditional `pv += term` adds `sum term` (`sum_addIf`); of the two terms only sign, sum and length are used
  generalize (p.map fun x => (1 - a) * (x * x)) = P at hPn hPs hPl ⊢
  generalize (s.map fun x => a * (x * x)) = S at hSn hSs hSl ⊢
  have hl1 := length_addIf (c := (1 / 10000000000 : ℝ) < 1 - a) fun _ => hPl
  rw [length_zeros] at hl1
  have hls : (1 / 10000000000 : ℝ) < a →
      (if (1 / 10000000000 : ℝ) < 1 - a then vadd (zeros n) P else zeros n).length = S.length := fun h => hl1.trans (hSl h)
  refine ⟨by rw [length_vsqrt, length_addIf hls, hl1], ?_⟩
  rw [sumSq_vsqrt (addIf_nonneg (addIf_nonneg (zeros_nonneg n) hPn) hSn), sum_addIf hls, sum_addIf fun _ => hPl, sum_zeros,
    zero_add, hPs, hSs]

/-- `calc_pv_spread`: power exactly 1 unless a term at or below the 1e-10 threshold was dropped -/
theorem pvSpread_power (n : ℕ) (a : ℝ) (p s : List ℝ) (h0 : 0 ≤ a) (h1 : a ≤ 1) (hp : p.length = n) (hs : s.length = n)
    (hpu : sumSq p = 1) (hsu : sumSq s = 1) :
    Nonneg (calcPvSpread n a p s) ∧ 1 - 1 / 10000000000 ≤ sumSq (calcPvSpread n a p s) ∧
    sumSq (calcPvSpread n a p s) ≤ 1 := by
  refine ⟨vsqrt_nonneg _, ?_⟩
  rw [(sumSq_calcPvSpread n a p s h0 h1 hp fun _ => hs).2, hpu, hsu, mul_one, mul_one]
  -- at most one of the two terms is dropped: the threshold is below 1/2
  have ht : (0 : ℝ) ≤ 1 / 10000000000 ∧ (1 / 10000000000 : ℝ) < 1 / 2 := by norm_num
  generalize (1 / 10000000000 : ℝ) = t at ht ⊢
  obtain ⟨ht0, ht⟩ := ht
  split <;> split <;> constructor <;> linarith

/-! ### normalisations -/

theorem normalise_unit (v : List ℝ) (h : sumSq v ≠ 0) : sumSq (normalise v) = 1 := by
  simp only [normalise, norm, sqrt_real, div_eq_mul_inv]
  rw [sumSq_map_mul, ← mul_inv, Real.mul_self_sqrt (sumSq_nonneg v)]
  exact mul_inv_cancel₀ h

/-- the final `safe_norm` of `allo_extent.get_gains`; at or below the threshold the result is the zero vector: a contract
    violation that is only searched for -/
theorem safeNorm_unit (v : List ℝ) (h : 1 / 10000000000000000 < norm v) : sumSq (safeNorm v) = 1 := by
  have hthr : ((k (1 / 10000000000000000) : ℝ)) = 1 / 10000000000000000 := by simp
  have hpos : 0 < norm v := lt_trans (by norm_num) h
  have hne : sumSq v ≠ 0 := by
    intro h0
    simp [norm, h0] at hpos
  simp only [safeNorm, hthr, h, if_true]
  exact normalise_unit v hne

theorem safeNorm_short (v : List ℝ) (h : ¬ 1 / 10000000000000000 < norm v) : sumSq (safeNorm v) = 0 := by
  have hthr : ((k (1 / 10000000000000000) : ℝ)) = 1 / 10000000000000000 := by simp
  simp only [safeNorm, hthr, h, if_false]
  exact sumSq_zeros _

/-! ### allocentric balance pan (one axis) -/

theorem quarter_turn_nonneg {t : ℝ} (h0 : 0 ≤ t) (h1 : t ≤ 1) :
    0 ≤ Real.cos (t * (Real.pi / 2)) ∧ 0 ≤ Real.sin (t * (Real.pi / 2)) := by
  have hpi := Real.pi_pos
  have hx0 : 0 ≤ t * (Real.pi / 2) := mul_nonneg h0 (by linarith)
  have hx1 : t * (Real.pi / 2) ≤ Real.pi / 2 := mul_le_of_le_one_left (by linarith) h1
  exact ⟨Real.cos_nonneg_of_neg_pi_div_two_le_of_le (by linarith) hx1, Real.sin_nonneg_of_nonneg_of_le_pi hx0 (by linarith)⟩

/-- `_single_balance_pan`: (1, 1) when the two bounds coincide (then both "sides" are the same plane/row/column and the
    same value is assigned twice) -/
theorem balancePan_unit (lo hi val : ℝ) :
    let r := singleBalancePan lo hi val
    0 ≤ r.1 ∧ 0 ≤ r.2 ∧ (lo ≠ hi → r.1 ^ 2 + r.2 ^ 2 = 1) ∧ (lo = hi → r = (1, 1)) := by
  simp only [singleBalancePan, eqS_eq_decide, decide_eq_true_eq, zero_real, one_real]
  split
  · exact ⟨zero_le_one, zero_le_one, fun h => absurd ‹lo = hi› h, fun _ => rfl⟩
  · rename_i he
    split
    · exact ⟨le_rfl, zero_le_one, fun _ => by norm_num, fun h => absurd h he⟩
    · split
      · exact ⟨zero_le_one, le_rfl, fun _ => by norm_num, fun h => absurd h he⟩
      · rename_i c1 c2
        have hd : 0 < hi - lo := by linarith [lt_of_not_ge c1, lt_of_not_ge c2]
        have hq := quarter_turn_nonneg (t := (val - lo) / (hi - lo)) (div_nonneg (by linarith [lt_of_not_ge c1]) hd.le)
          ((div_le_one hd).mpr (by linarith [lt_of_not_ge c2]))
        simp only [cos_real, sin_real, pi_real, k_real, Rat.cast_ofNat, mul_div_assoc]
        exact ⟨hq.1, hq.2, fun _ => Real.cos_sq_add_sin_sq _, fun h => absurd h he⟩

end Earverif.GainCalc
