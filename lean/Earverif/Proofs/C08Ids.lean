/-
Lemmas for the ID theorems of C08 (core Lean only): `enumerate`, injectivity of the ID
formatters (minimum-width hex fields, `_` separators), syntax of the generated IDs.
-/
import Earverif.Model.GenIds
import Earverif.Proofs.C08Digits

namespace Earverif.GenIds
open Earverif.Digits

theorem mem_enumFrom {α} : ∀ (l : List α) (s : Nat) (p : Nat × α), p ∈ enumFrom s l →
    s ≤ p.1 ∧ p.1 < s + l.length ∧ p.2 ∈ l := by
  intro l
  induction l with
  | nil => intro s p h; cases h
  | cons x xs ih =>
    intro s p h
    simp only [enumFrom, List.mem_cons] at h
    rcases h with rfl | h
    · simp
    · have := ih (s + 1) p h
      simp only [List.length_cons, List.mem_cons]
      exact ⟨by omega, by omega, Or.inr this.2.2⟩

theorem enumFrom_pairwise {α} : ∀ (l : List α) (s : Nat),
    (enumFrom s l).Pairwise (fun a b => a.1 < b.1) := by
  intro l
  induction l with
  | nil => intro s; simp [enumFrom]
  | cons x xs ih =>
    intro s
    simp only [enumFrom, List.pairwise_cons]
    refine ⟨?_, ih (s + 1)⟩
    intro p hp
    have := mem_enumFrom xs (s + 1) p hp
    simp; omega

theorem enumFrom_length {α} : ∀ (l : List α) (s : Nat), (enumFrom s l).length = l.length := by
  intro l; induction l with
  | nil => intro s; rfl
  | cons x xs ih => intro s; simp [enumFrom, ih]

theorem nodup_map_of_pairwise {α β} {l : List α} {f : α → β} {R : α → α → Prop}
    (hp : l.Pairwise R) (hf : ∀ a ∈ l, ∀ b ∈ l, R a b → f a ≠ f b) : (l.map f).Nodup := by
  rw [List.Nodup, List.pairwise_map]
  exact hp.imp_of_mem (fun ha hb r => hf _ ha _ hb r)

theorem hexPad_no_sep (w n : Nat) : ∀ c ∈ hexPad w n, c ≠ '_' := by
  rintro c hc rfl
  exact absurd (hexPad_all_hex w n _ hc) (by decide)

theorem split_at_sep {α} (sep : α) : ∀ (xs xs' ys ys' : List α),
    (∀ c ∈ xs, c ≠ sep) → (∀ c ∈ xs', c ≠ sep) →
    xs ++ sep :: ys = xs' ++ sep :: ys' → xs = xs' ∧ ys = ys' := by
  intro xs
  induction xs with
  | nil =>
    intro xs' ys ys' _ h' h
    cases xs' with
    | nil => exact ⟨rfl, (List.cons.inj h).2⟩
    | cons a as => exact absurd (List.cons.inj h).1.symm (h' a (by simp))
  | cons x xs ih =>
    intro xs' ys ys' hx h' h
    cases xs' with
    | nil => exact absurd (List.cons.inj h).1 (hx x (by simp))
    | cons a as =>
      obtain ⟨rfl, ht⟩ := List.cons.inj h
      obtain ⟨rfl, rfl⟩ := ih as ys ys' (fun c hc => hx c (by simp [hc])) (fun c hc => h' c (by simp [hc])) ht
      exact ⟨rfl, rfl⟩

theorem pre_hex_inj (pre : List Char) (w i j : Nat) (h : pre ++ hexPad w i = pre ++ hexPad w j) : i = j :=
  hexPad_injective w i j (List.append_cancel_left h)

theorem aprId_inj {i j : Nat} (h : aprId i = aprId j) : i = j := pre_hex_inj _ 4 i j h
theorem acoId_inj {i j : Nat} (h : acoId i = acoId j) : i = j := pre_hex_inj _ 4 i j h
theorem aoId_inj {i j : Nat} (h : aoId i = aoId j) : i = j := pre_hex_inj _ 4 i j h
theorem atuId_inj {i j : Nat} (h : atuId i = atuId j) : i = j := pre_hex_inj _ 8 i j h

theorem typed_inj (pre : List Char) (t t' : Nat) (ht : t < 0x10000) (ht' : t' < 0x10000)
    (rest rest' : List Char)
    (h : pre ++ hexPad 4 t ++ rest = pre ++ hexPad 4 t' ++ rest') : t = t' ∧ rest = rest' := by
  rw [List.append_assoc, List.append_assoc] at h
  have h := List.append_cancel_left h
  have := List.append_inj h (by rw [hexPad_length 4 t (by omega) ht, hexPad_length 4 t' (by omega) ht'])
  exact ⟨hexPad_injective 4 t t' this.1, this.2⟩

-- only the counter is asked for (`ids_injective` compares counters); `typed_inj` gives the type as well
theorem apId_inj {t t' i i' : Nat} (ht : t < 0x10000) (ht' : t' < 0x10000)
    (h : apId t i = apId t' i') : i = i' :=
  hexPad_injective 4 i i' (typed_inj _ t t' ht ht' _ _ h).2
theorem acId_inj {t t' i i' : Nat} (ht : t < 0x10000) (ht' : t' < 0x10000)
    (h : acId t i = acId t' i') : i = i' :=
  hexPad_injective 4 i i' (typed_inj _ t t' ht ht' _ _ h).2
theorem asId_inj {t t' i i' : Nat} (ht : t < 0x10000) (ht' : t' < 0x10000)
    (h : asId t i = asId t' i') : i = i' :=
  hexPad_injective 4 i i' (typed_inj _ t t' ht ht' _ _ h).2

theorem sep_inj (w w' i i' j j' : Nat)
    (h : hexPad w i ++ '_' :: hexPad w' j = hexPad w i' ++ '_' :: hexPad w' j') : i = i' ∧ j = j' := by
  have := split_at_sep '_' _ _ _ _ (hexPad_no_sep w i) (hexPad_no_sep w i') h
  exact ⟨hexPad_injective w i i' this.1, hexPad_injective w' j j' this.2⟩

theorem avsId_inj {i i' j j' : Nat} (h : avsId i j = avsId i' j') : i = i' ∧ j = j' := by
  unfold avsId at h
  rw [List.append_assoc, List.append_assoc] at h
  exact sep_inj 4 4 i i' j j' (List.append_cancel_left h)

theorem abId_inj {t t' i i' b b' : Nat} (ht : t < 0x10000) (ht' : t' < 0x10000)
    (h : abId t i b = abId t' i' b') : i = i' ∧ b = b' := by
  unfold abId at h
  rw [List.append_assoc _ (hexPad 4 i), List.append_assoc _ (hexPad 4 i')] at h
  exact sep_inj 4 8 i i' b b' (typed_inj _ t t' ht ht' _ _ h).2

theorem atId_inj {t t' i i' b b' : Nat} (ht : t < 0x10000) (ht' : t' < 0x10000)
    (h : atId t i b = atId t' i' b') : i = i' ∧ b = b' := by
  unfold atId at h
  rw [List.append_assoc _ (hexPad 4 i), List.append_assoc _ (hexPad 4 i')] at h
  exact sep_inj 4 2 i i' b b' (typed_inj _ t t' ht ht' _ _ h).2

theorem hexField_hexPad (w n : Nat) (hw : 1 ≤ w) (h : n < 16 ^ w) : hexField w (hexPad w n) = true := by
  unfold hexField
  rw [hexPad_length w n hw h]
  simp only [beq_self_eq_true, Bool.true_and, List.all_eq_true]
  exact hexPad_all_hex w n

theorem hexField_append (a b : Nat) (xs ys : List Char) (hx : hexField a xs = true) (hy : hexField b ys = true) :
    hexField (a + b) (xs ++ ys) = true := by
  unfold hexField at *
  simp only [Bool.and_eq_true, beq_iff_eq, List.all_eq_true] at *
  refine ⟨by rw [List.length_append, hx.1, hy.1], ?_⟩
  intro c hc
  rw [List.mem_append] at hc
  rcases hc with hc | hc
  · exact hx.2 c hc
  · exact hy.2 c hc

theorem hexField_length {w : Nat} {xs : List Char} (h : hexField w xs = true) : xs.length = w := by
  unfold hexField at h
  simp only [Bool.and_eq_true, beq_iff_eq] at h
  exact h.1

theorem wfId_one (pre : String) (w : Nat) (body : List Char) (h : hexField w body = true) :
    wfId pre [w] (pre.toList ++ body) = true := by
  unfold wfId
  have hp : pre.toList.isPrefixOf (pre.toList ++ body) = true :=
    List.isPrefixOf_iff_prefix.mpr (List.prefix_append _ _)
  rw [hp, List.drop_left]
  simpa [fields] using h

theorem wfId_two (pre : String) (w v : Nat) (a b : List Char) (ha : hexField w a = true)
    (hb : hexField v b = true) :
    wfId pre [w, v] (pre.toList ++ a ++ '_' :: b) = true := by
  unfold wfId
  have hp : pre.toList.isPrefixOf (pre.toList ++ a ++ '_' :: b) = true := by
    rw [List.append_assoc]
    exact List.isPrefixOf_iff_prefix.mpr (List.prefix_append _ _)
  have hl := hexField_length ha
  rw [hp, List.append_assoc, List.drop_left]
  have h1 : (a ++ '_' :: b).take w = a := by rw [← hl]; exact List.take_left
  have h2 : (a ++ '_' :: b).drop w = '_' :: b := by rw [← hl]; exact List.drop_left
  have h3 : (a ++ '_' :: b).drop (w + 1) = b := by
    rw [← List.drop_drop, h2]; rfl
  simp only [fields, h1, h2, h3, ha, hb, List.head?_cons, beq_self_eq_true, Bool.and_self]

theorem hexField_hexPad4 (n : Nat) (h : n ≤ 0xFFFF) : hexField 4 (hexPad 4 n) = true :=
  hexField_hexPad 4 n (by omega) (by omega)
theorem hexField_hexPad8 (n : Nat) (h : n ≤ 0xFFFFFFFF) : hexField 8 (hexPad 8 n) = true :=
  hexField_hexPad 8 n (by omega) (by omega)
theorem hexField_type_id (t i : Nat) (ht : t < 0x10000) (hi : i ≤ 0xFFFF) :
    hexField 8 (hexPad 4 t ++ hexPad 4 i) = true :=
  hexField_append 4 4 _ _ (hexField_hexPad4 t (Nat.le_of_lt_succ ht)) (hexField_hexPad4 i hi)

theorem wf_aprId (i : Nat) (h : i ≤ 0xFFFF) : wfAPR (aprId i) = true := wfId_one "APR_" 4 _ (hexField_hexPad4 i h)
theorem wf_acoId (i : Nat) (h : i ≤ 0xFFFF) : wfACO (acoId i) = true := wfId_one "ACO_" 4 _ (hexField_hexPad4 i h)
theorem wf_aoId (i : Nat) (h : i ≤ 0xFFFF) : wfAO (aoId i) = true := wfId_one "AO_" 4 _ (hexField_hexPad4 i h)
theorem wf_atuId (i : Nat) (h : i ≤ 0xFFFFFFFF) : wfATU (atuId i) = true := wfId_one "ATU_" 8 _ (hexField_hexPad8 i h)
theorem wf_avsId (i j : Nat) (hi : i ≤ 0xFFFF) (hj : j ≤ 0xFFFF) : wfAVS (avsId i j) = true :=
  wfId_two "AVS_" 4 4 _ _ (hexField_hexPad4 i hi) (hexField_hexPad4 j hj)
theorem wf_apId (t i : Nat) (ht : t < 0x10000) (hi : i ≤ 0xFFFF) : wfAP (apId t i) = true := by
  unfold apId wfAP; rw [List.append_assoc]; exact wfId_one "AP_" 8 _ (hexField_type_id t i ht hi)
theorem wf_acId (t i : Nat) (ht : t < 0x10000) (hi : i ≤ 0xFFFF) : wfAC (acId t i) = true := by
  unfold acId wfAC; rw [List.append_assoc]; exact wfId_one "AC_" 8 _ (hexField_type_id t i ht hi)
theorem wf_asId (t i : Nat) (ht : t < 0x10000) (hi : i ≤ 0xFFFF) : wfAS (asId t i) = true := by
  unfold asId wfAS; rw [List.append_assoc]; exact wfId_one "AS_" 8 _ (hexField_type_id t i ht hi)
theorem wf_abId (t i b : Nat) (ht : t < 0x10000) (hi : i ≤ 0xFFFF) (hb : b ≤ 0xFFFFFFFF) :
    wfAB (abId t i b) = true := by
  unfold abId wfAB
  rw [List.append_assoc _ (hexPad 4 t)]
  exact wfId_two "AB_" 8 8 _ _ (hexField_type_id t i ht hi) (hexField_hexPad8 b hb)
theorem wf_atId (t i b : Nat) (ht : t < 0x10000) (hi : i ≤ 0xFFFF) (hb : b ≤ 0xFF) :
    wfAT (atId t i b) = true := by
  unfold atId wfAT
  rw [List.append_assoc _ (hexPad 4 t)]
  exact wfId_two "AT_" 8 2 _ _ (hexField_type_id t i ht hi) (hexField_hexPad 2 b (by omega) (by omega))

end Earverif.GenIds
