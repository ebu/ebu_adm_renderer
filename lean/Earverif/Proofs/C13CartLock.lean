/-
C13 — the composed Cartesian path (`renderCartLock`): `positions[~excluded]` (`keep`, with `rank` / `countF`),
scattering a unit vector back over the mask and the tail of `render` on it (over ℝ), and the bridge from the rational
tables (`castP3`, `distinctB`, `distinct_cast`).
-/
import Earverif.Proofs.C13Tree
import Earverif.Proofs.C13Real

namespace Earverif.C13
open Earverif.Zone Earverif.Lock Earverif.CartLock

theorem keep_sublist {β : Type} : ∀ (m : List Bool) (l : List β), (keep m l).Sublist l
  | [], l => List.nil_sublist l
  | false :: _, [] => List.nil_sublist _
  | true :: _, [] => List.nil_sublist _
  | false :: m, a :: as => (keep_sublist m as).cons_cons a
  | true :: m, a :: as => (keep_sublist m as).cons a

/-- number of non-excluded loudspeakers before index `i` -/
def rank : List Bool → Nat → Nat
  | _, 0 => 0
  | [], _ => 0
  | false :: m, i + 1 => rank m i + 1
  | true :: m, i + 1 => rank m i

/-- number of non-excluded loudspeakers in all: the length of `positions[~excluded]` (`keep_length`); the same
recursion as `GainCalc.countFalse`, which C01's `shapesOk` speaks of -/
def countF : List Bool → Nat
  | [] => 0
  | false :: m => countF m + 1
  | true :: m => countF m

theorem keep_length {β : Type} : ∀ (m : List Bool) (l : List β), m.length = l.length → (keep m l).length = countF m
  | [], [], _ => rfl
  | [], _ :: _, h => nomatch h
  | _ :: _, [], h => nomatch h
  | false :: m, _ :: as, h => congrArg (· + 1) (keep_length m as (Nat.succ.inj h))
  | true :: m, _ :: as, h => keep_length m as (Nat.succ.inj h)

theorem keep_getElem {β : Type} : ∀ (m : List Bool) (l : List β) (i : Nat) (q : β),
    m[i]? = some false → l[i]? = some q → (keep m l)[rank m i]? = some q
  | [], _, _, _, h, _ => nomatch h
  | _ :: _, [], _, _, _, hl => nomatch hl
  | false :: _, _ :: _, 0, _, _, hl => hl
  | true :: _, _ :: _, 0, _, hm, _ => nomatch hm
  | false :: m, _ :: as, i + 1, q, hm, hl => keep_getElem m as i q hm hl
  | true :: m, _ :: as, i + 1, q, hm, hl => keep_getElem m as i q hm hl

theorem rank_lt : ∀ (m : List Bool) (i : Nat), m[i]? = some false → rank m i < countF m := by
  intro m i h
  rw [← keep_length m m rfl]
  exact (List.getElem?_eq_some_iff.mp (keep_getElem m m i false h h)).1

theorem scatter_zeros : ∀ (m : List Bool) (k : Nat),
    scatter m (List.replicate k (0 : ℝ)) = List.replicate m.length (0 : ℝ)
  | [], _ => rfl
  | true :: m, k => congrArg ((0 : ℝ) :: ·) (scatter_zeros m k)
  | false :: m, 0 => congrArg ((0 : ℝ) :: ·) (scatter_zeros m 0)
  | false :: m, k + 1 => congrArg ((0 : ℝ) :: ·) (scatter_zeros m k)

/-- `gains_full[~excluded] = e_rank` is `e_i` (the mask scatter `Zone.scatter`; `PointSource.Cover.scatter_unit` is the
like fact about the index scatter of C05) -/
theorem scatter_unit : ∀ (m : List Bool) (i : Nat), m[i]? = some false →
    scatter m ((List.replicate (countF m) (0 : ℝ)).set (rank m i) 1) = (List.replicate m.length (0 : ℝ)).set i 1
  | [], _, h => nomatch h
  | false :: m, 0, _ => congrArg ((1 : ℝ) :: ·) (scatter_zeros m (countF m))
  | true :: _, 0, h => nomatch h
  | false :: m, i + 1, h => congrArg ((0 : ℝ) :: ·) (scatter_unit m i h)
  | true :: m, i + 1, h => congrArg ((0 : ℝ) :: ·) (scatter_unit m i h)

/-- `np.sqrt(np.dot([1.0], [g]**2)) = g` for a non-negative gain vector. -/
theorem powerSum_single (n : Nat) (g : List ℝ) (hl : g.length = n) (h0 : ∀ v ∈ g, 0 ≤ v) :
    powerSum n [(Scalar.one : ℝ)] [g] = g := by
  unfold powerSum
  apply List.ext_getElem
  · simp [hl]
  · intro j h1 h2
    simp only [List.getElem_map, List.getElem_range, List.zipWith_cons_cons, List.zipWith_nil_right, sumList,
      List.foldl_cons, List.foldl_nil, real_add, real_mul, real_zero, real_one, real_sqrt]
    have hg : g.getD j 0 = g[j] := by simp [List.getD, List.getElem?_eq_getElem h2]
    rw [hg, zero_add, one_mul]
    exact Real.sqrt_mul_self (h0 _ (List.getElem_mem h2))

theorem renderCart_unit (final : List Bool) (i : Nat) (hi : final[i]? = some false) (gain diffuse : ℝ) :
    let out := renderCart final [(List.replicate (countF final) (0 : ℝ)).set (rank final i) 1] [Scalar.one] gain diffuse
    out.1 = ((List.replicate final.length (0 : ℝ)).set i 1).map (fun v => v * gain * Real.sqrt (1 - diffuse)) ∧
    out.2 = ((List.replicate final.length (0 : ℝ)).set i 1).map (fun v => v * gain * Real.sqrt diffuse) := by
  have hpow : powerSum final.length [(Scalar.one : ℝ)] [scatter final ((List.replicate (countF final) (0 : ℝ)).set (rank final i) 1)]
      = (List.replicate final.length (0 : ℝ)).set i 1 := by
    rw [scatter_unit final i hi]
    refine powerSum_single _ _ (by rw [List.length_set, List.length_replicate]) fun v hv => ?_
    rcases List.mem_or_eq_of_mem_set hv with h | rfl
    · exact (List.mem_replicate.mp h).2.ge
    · exact zero_le_one
  unfold renderCart
  simp only [List.map_cons, List.map_nil]
  rw [hpow, finishGains_real]
  exact ⟨rfl, rfl⟩

def castP3 (p : P3 Rat) : P3 ℝ := ⟨(p.x : ℝ), (p.y : ℝ), (p.z : ℝ)⟩

/-- pairwise distinct positions, decidable form for the regenerated tables -/
def distinctB : List (P3 Rat) → Bool
  | [] => true
  | a :: l => l.all (fun b => !(a.x == b.x && a.y == b.y && a.z == b.z)) && distinctB l

theorem distinct_cast : ∀ (ps : List (P3 Rat)), distinctB ps = true → Distinct (ps.map castP3) := by
  intro ps
  induction ps with
  | nil => intro _; simp [Distinct]
  | cons a l ih =>
    intro h
    simp only [distinctB, Bool.and_eq_true, List.all_eq_true, Bool.not_eq_true', Bool.and_eq_false_imp,
      beq_iff_eq] at h
    unfold Distinct
    rw [List.map_cons, List.pairwise_cons]
    refine ⟨?_, ih h.2⟩
    intro b hb
    simp only [List.mem_map] at hb
    obtain ⟨b0, hb0, rfl⟩ := hb
    rintro ⟨hx, hy, hz⟩
    simp only [castP3, Rat.cast_inj] at hx hy hz
    have := h.1 b0 hb0 ⟨hx, hy⟩
    simp [hz] at this

theorem distinct_keep (m : List Bool) (ps : List (P3 ℝ)) (h : Distinct ps) : Distinct (keep m ps) :=
  List.Pairwise.sublist (keep_sublist m ps) h

end Earverif.C13
