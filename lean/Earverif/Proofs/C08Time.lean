/-
Lemmas for the time-format theorems of C08 (core Lean only; the rational-number step of the
decimal round trip is in `Proofs/C08TimeRat.lean`).
-/
import Earverif.Model.TimeFormat
import Earverif.Proofs.C08Digits

namespace Earverif.TimeFormat
open Earverif.Digits

theorem field12_decPad2 (n : Nat) (h : n < 100) (c : Char) (r : List Char) (hc : isDec c = false) :
    field12 (decPad 2 n ++ c :: r) = some (n, c :: r) := by
  have hs := takeWhile_isDec (decPad 2 n) (c :: r) (decPad_all_dec 2 n) (Or.inr ⟨c, r, rfl, hc⟩)
  unfold field12 spanDec
  simp only [hs.1, hs.2, decPad_length 2 n (by omega) h, decNat_decPad]
  simp

theorem digits1_append (ds rest : List Char) (hds : ∀ c ∈ ds, isDec c = true) (hne : ds ≠ [])
    (hrest : rest = [] ∨ ∃ c r, rest = c :: r ∧ isDec c = false) :
    digits1 (ds ++ rest) = some (ds, rest) := by
  have hs := takeWhile_isDec ds rest hds hrest
  unfold digits1 spanDec
  simp only [hs.1, hs.2]
  have : ds.length ≠ 0 := by
    intro h; exact hne (List.length_eq_zero_iff.mp h)
  simp [this]

theorem parseTime_wholePart (w : Nat) (hw : w < 360000) (tail : List Char) :
    parseTime (wholePart w ++ '.' :: tail) = parseTail ((w / 60 / 60 * 60 + w / 60 % 60) * 60) (w % 60) tail := by
  unfold parseTime wholePart
  have h1 : w / 60 / 60 < 100 := by omega
  have h2 : w / 60 % 60 < 100 := by omega
  have h3 : w % 60 < 100 := by omega
  simp only [List.append_assoc, List.cons_append]
  rw [field12_decPad2 _ h1 ':' _ (by decide)]
  simp only [Option.bind_eq_bind, Option.bind_some, expect, if_true]
  rw [field12_decPad2 _ h2 ':' _ (by decide)]
  simp only [Option.bind_some, if_true]
  rw [field12_decPad2 _ h3 '.' _ (by decide)]
  simp only [Option.bind_some, if_true]

theorem whole_recompose (w : Nat) : (w / 60 / 60 * 60 + w / 60 % 60) * 60 + w % 60 = w := by omega

theorem parse_unparseFractional (n d : Nat) (hd : 0 < d) (h : n < 360000 * d) :
    parseTime (unparseFractional n d) = some (.frac n d) := by
  unfold unparseFractional
  have hw : n / d < 360000 := by
    apply Nat.div_lt_of_lt_mul; rw [Nat.mul_comm]; exact h
  simp only [List.append_assoc, List.cons_append]
  rw [parseTime_wholePart _ hw]
  unfold parseTail
  rw [digits1_append (decStr (n % d)) ('S' :: decStr d) (decStr_all_dec _) (decStr_ne_nil _)
    (Or.inr ⟨'S', _, rfl, by decide⟩)]
  simp only [Option.bind_eq_bind, Option.bind_some]
  have := digits1_append (decStr d) [] (decStr_all_dec _) (decStr_ne_nil _) (Or.inl rfl)
  rw [List.append_nil] at this
  rw [this]
  simp only [Option.bind_some, decNat_decStr]
  have hlt : n % d < d := Nat.mod_lt _ hd
  simp only [hlt, if_true]
  -- stated for a variable `w` so that `whole_recompose` rewrites only this occurrence of `n / d`
  have : (w : Nat) → w = n / d → ((w / 60 / 60 * 60 + w / 60 % 60) * 60 + w % 60) * d + n % d = n := by
    intro w hw'
    rw [whole_recompose, hw', Nat.mul_comm]
    exact Nat.div_add_mod n d
  rw [this _ rfl]

/-- whole part and expansion of the remainder put together: if `F / L` is the expansion of `(num % d) / d` then
`num / d = (num / d) + F / L`, cleared of denominators -/
theorem mul_eq_of_mod_mul_eq (d num L F : Nat) (h : num % d * L = d * F) : num * L = d * (num / d * L + F) := by
  calc num * L = (d * (num / d) + num % d) * L := by rw [Nat.div_add_mod]
    _ = d * (num / d * L) + num % d * L := by rw [Nat.add_mul, Nat.mul_assoc]
    _ = d * (num / d * L + F) := by rw [h, Nat.mul_add]

/-- one step of long division: if `n / d` terminates within `f + 1` places then the remainder terminates within `f` -/
theorem dvd_mod_step (d n f : Nat) (h : d ∣ n * 10 ^ (f + 1)) : d ∣ n * 10 % d * 10 ^ f := by
  have e : n * 10 ^ (f + 1) = d * (n * 10 / d * 10 ^ f) + n * 10 % d * 10 ^ f := by
    rw [Nat.pow_succ, Nat.mul_comm (10 ^ f) 10, ← Nat.mul_assoc, ← Nat.mul_assoc, ← Nat.add_mul,
      Nat.div_add_mod (n * 10) d]
  rw [e] at h
  exact (Nat.dvd_add_right (Nat.dvd_mul_right _ _)).mp h

/-- what long division returns: decimal digits `ds` with `n / d = 0.ds` exactly, and no expansion is shorter -/
theorem fracDigits_spec (d : Nat) : ∀ (f n : Nat) (ds : List Nat), fracDigits d f n = some ds → n < d →
    (∀ x ∈ ds, x < 10) ∧ n * 10 ^ ds.length = d * ofDigits 10 ds ∧ ∀ k, d ∣ n * 10 ^ k → ds.length ≤ k := by
  intro f
  induction f with
  | zero =>
    intro n ds h hn
    unfold fracDigits at h
    split at h
    · injection h with h; subst h; subst n; simp [ofDigits]
    · cases h
  | succ f ih =>
    intro n ds h hn
    unfold fracDigits at h
    split at h
    · injection h with h; subst h; subst n; simp [ofDigits]
    · rename_i hn0
      rw [Option.map_eq_some_iff] at h
      obtain ⟨ds', h', rfl⟩ := h
      have hd : 0 < d := by omega
      have hr : n * 10 % d < d := Nat.mod_lt _ hd
      obtain ⟨hall, hval, hmin⟩ := ih _ _ h' hr
      have hq : n * 10 / d < 10 := by
        apply Nat.div_lt_of_lt_mul; omega
      refine ⟨?_, ?_, fun k hdvd => ?_⟩
      · intro x hx
        rw [List.mem_cons] at hx
        rcases hx with rfl | hx
        · exact hq
        · exact hall x hx
      · rw [ofDigits_cons, List.length_cons, Nat.pow_succ, Nat.mul_add, ← hval]
        have hdm := Nat.div_add_mod (n * 10) d
        generalize n * 10 / d = q at *
        generalize n * 10 % d = r at *
        generalize 10 ^ ds'.length = P at *
        calc n * (P * 10) = (n * 10) * P := by rw [Nat.mul_comm P 10, Nat.mul_assoc]
          _ = (d * q + r) * P := by rw [hdm]
          _ = d * (q * P) + r * P := by rw [Nat.add_mul, Nat.mul_assoc]
      · match k with
        | 0 =>
          rw [Nat.pow_zero, Nat.mul_one] at hdvd
          exact absurd (Nat.eq_zero_of_dvd_of_lt hdvd hn) hn0
        | k + 1 =>
          have := hmin k (dvd_mod_step d n k hdvd)
          simp; omega

theorem fracDigits_complete (d : Nat) : ∀ (f n : Nat), n < d → d ∣ n * 10 ^ f →
    ∃ ds, fracDigits d f n = some ds := by
  intro f
  induction f with
  | zero =>
    intro n hn hdvd
    rw [Nat.pow_zero, Nat.mul_one] at hdvd
    have : n = 0 := Nat.eq_zero_of_dvd_of_lt hdvd hn
    exact ⟨[], by simp [fracDigits, this]⟩
  | succ f ih =>
    intro n hn hdvd
    unfold fracDigits
    by_cases hn0 : n = 0
    · exact ⟨[], by simp [hn0]⟩
    · simp only [hn0, if_false]
      have hd : 0 < d := by omega
      have hr : n * 10 % d < d := Nat.mod_lt _ hd
      obtain ⟨ds, h⟩ := ih _ hr (dvd_mod_step d n f hdvd)
      exact ⟨_, by rw [h]; rfl⟩

end Earverif.TimeFormat
