/- The point-source panner model over ℝ: `Scalar ℝ` instance, bridge lemmas, the basic algebra shared by
   Props/C05.lean and Props/C12.lean (clip, gain lists, `firstAccept`, the n-gon as first accepting inner triplet), what an
   answering quad was given (`quad_handle_eq_some`), and VBAP on one triplet (`pv_comb3`, `triplet_handle_comb`: a
   non-negative combination of the three positions is accepted with the normalised coefficients as gains). -/
import Earverif.Model.PointSource
import Mathlib.Analysis.SpecialFunctions.Pow.Real
import Mathlib.Analysis.SpecialFunctions.Sqrt
import Mathlib.Tactic.Ring
import Mathlib.Tactic.FieldSimp
import Mathlib.Tactic.Linarith
import Mathlib.Tactic.Positivity
import Mathlib.Tactic.NormNum

namespace Earverif.PointSource

-- trap: `GainCalc.Scalar ℝ` (Proofs/C01Real.lean) provides `Div ℝ` too; where both are imported, `/` on ℝ takes the last
noncomputable instance instScalarReal : Scalar ℝ where
  ofRat q := (q : ℝ)
  sqrt := Real.sqrt
  max := Max.max
  min := Min.min
  powHalf x := (1 / 2 : ℝ) ^ x
  decLt _ _ := Classical.propDecidable _
  decLe _ _ := Classical.propDecidable _

@[simp] theorem sqrt_real (x : ℝ) : Scalar.sqrt x = Real.sqrt x := rfl
@[simp] theorem max_real (a b : ℝ) : Scalar.max a b = Max.max a b := rfl
@[simp] theorem min_real (a b : ℝ) : Scalar.min a b = Min.min a b := rfl
@[simp] theorem powHalf_real (x : ℝ) : Scalar.powHalf x = (1 / 2 : ℝ) ^ x := rfl
@[simp] theorem ofRat_real (q : Rat) : (Scalar.ofRat q : ℝ) = (q : ℝ) := rfl
@[simp] theorem zero_real : (zero : ℝ) = 0 := by simp [zero]
@[simp] theorem one_real : (one : ℝ) = 1 := by simp [one]
theorem tripletEps_real : (tripletEps : ℝ) = -(1 / 100000000000) := by
  simp only [tripletEps, ofRat_real]; norm_num
theorem tripletEps_neg : (tripletEps : ℝ) < 0 := by rw [tripletEps_real]; norm_num

theorem clip01_nonneg (x : ℝ) : 0 ≤ clip01 x := by
  simp only [clip01, min_real, max_real, zero_real, one_real]
  exact le_min (le_max_right _ _) zero_le_one

theorem clip01_le_one (x : ℝ) : clip01 x ≤ 1 := by
  simp only [clip01, min_real, max_real, zero_real, one_real]
  exact min_le_right _ _

theorem clip01_of_mem {x : ℝ} (h0 : 0 ≤ x) (h1 : x ≤ 1) : clip01 x = x := by
  simp only [clip01, min_real, max_real, zero_real, one_real]
  rw [max_eq_left h0, min_eq_left h1]

theorem clip01_of_nonpos {x : ℝ} (h : x ≤ 0) : clip01 x = 0 := by
  simp only [clip01, min_real, max_real, zero_real, one_real]
  rw [max_eq_right h, min_eq_left zero_le_one]

theorem clip01_of_one_le {x : ℝ} (h : 1 ≤ x) : clip01 x = 1 := by
  simp only [clip01, min_real, max_real, zero_real, one_real]
  rw [max_eq_left (zero_le_one.trans h), min_eq_right h]

theorem clip01_mono {a b : ℝ} (h : a ≤ b) : clip01 a ≤ clip01 b := by
  simp only [clip01, min_real, max_real, zero_real, one_real]
  exact min_le_min (max_le_max h (le_refl _)) (le_refl _)

theorem clip01_le_abs (u : ℝ) : clip01 u ≤ |u| := by
  simp only [clip01, min_real, max_real, zero_real, one_real]
  exact le_trans (min_le_left _ _) (max_le (le_abs_self u) (abs_nonneg u))

theorem clip01_sq_le (x : ℝ) : clip01 x * clip01 x ≤ x * x := by
  have h0 := clip01_nonneg x
  have h := clip01_le_abs x
  calc clip01 x * clip01 x ≤ |x| * |x| := mul_le_mul h h h0 (abs_nonneg x)
    _ = x * x := abs_mul_abs_self x

theorem sumsq_nonneg : ∀ v : List ℝ, 0 ≤ sumsq v
  | [] => by simp [sumsq]
  | x :: xs => by
    simp only [sumsq]
    have := sumsq_nonneg xs
    nlinarith [mul_self_nonneg x]

theorem sumsq_eq_zero : ∀ {v : List ℝ}, sumsq v = 0 → ∀ x ∈ v, x = 0
  | [], _, x, hx => by simp at hx
  | y :: ys, h, x, hx => by
    simp only [sumsq] at h
    have h1 := sumsq_nonneg ys
    have h2 := mul_self_nonneg y
    have hy : y * y = 0 := by linarith
    have hys : sumsq ys = 0 := by linarith
    rcases List.mem_cons.mp hx with rfl | hx
    · exact mul_self_eq_zero.mp hy
    · exact sumsq_eq_zero hys x hx

theorem sumsq_map_div (c : ℝ) : ∀ v : List ℝ, sumsq (v.map (· / c)) = sumsq v / (c * c)
  | [] => by simp [sumsq]
  | x :: xs => by
    simp only [List.map_cons, sumsq, sumsq_map_div c xs]
    by_cases hc : c = 0
    · subst hc; simp
    · field_simp

theorem sumsq_map_mul (c : ℝ) : ∀ v : List ℝ, sumsq (v.map (· * c)) = sumsq v * (c * c)
  | [] => by simp [sumsq]
  | x :: xs => by
    simp only [List.map_cons, sumsq, sumsq_map_mul c xs]; ring

theorem sumsq_normalise {v : List ℝ} (h : sumsq v ≠ 0) : sumsq (normalise v) = 1 := by
  unfold normalise norm
  rw [sumsq_map_div, sqrt_real, Real.mul_self_sqrt (sumsq_nonneg v)]
  exact div_self h

theorem normalise_nonneg {v : List ℝ} (hv : ∀ x ∈ v, 0 ≤ x) : ∀ x ∈ normalise v, 0 ≤ x := by
  intro x hx
  unfold normalise at hx
  obtain ⟨y, hy, rfl⟩ := List.mem_map.mp hx
  exact div_nonneg (hv y hy) (by rw [norm, sqrt_real]; exact Real.sqrt_nonneg _)

theorem normalise_zero {v : List ℝ} (h : sumsq v = 0) : ∀ x ∈ normalise v, x = 0 := by
  intro x hx
  unfold normalise at hx
  obtain ⟨y, hy, rfl⟩ := List.mem_map.mp hx
  rw [sumsq_eq_zero h y hy]; simp

theorem normalise_spec {v : List ℝ} (hv : ∀ x ∈ v, 0 ≤ x) :
    (∀ x ∈ normalise v, 0 ≤ x) ∧ (sumsq (normalise v) = 1 ∨ ∀ x ∈ normalise v, x = 0) := by
  refine ⟨normalise_nonneg hv, ?_⟩
  by_cases h : sumsq v = 0
  · exact Or.inr (normalise_zero h)
  · exact Or.inl (sumsq_normalise h)

theorem zipWith_add_zero : ∀ (v cd : List ℝ), v.length ≤ cd.length →
    List.zipWith (fun x d => x + 0 * d) v cd = v
  | [], _, _ => by simp
  | x :: xs, [], h => by simp at h
  | x :: xs, d :: ds, h => by
    simp only [List.zipWith_cons_cons, zero_mul, add_zero, List.cons.injEq, true_and]
    have := zipWith_add_zero xs ds (by simpa using h)
    simpa using this

theorem dot_nonneg : ∀ {a b : List ℝ}, (∀ x ∈ a, 0 ≤ x) → (∀ x ∈ b, 0 ≤ x) → 0 ≤ dot a b
  | [], _, _, _ => by simp [dot]
  | _ :: _, [], _, _ => by simp [dot]
  | x :: xs, y :: ys, ha, hb => by
    simp only [dot]
    have h1 : 0 ≤ x * y := mul_nonneg (ha x (by simp)) (hb y (by simp))
    have h2 := dot_nonneg (a := xs) (b := ys) (fun z hz => ha z (by simp [hz])) (fun z hz => hb z (by simp [hz]))
    linarith

theorem zeros_nonneg (n : Nat) : ∀ x ∈ (zeros n : List ℝ), 0 ≤ x := by
  intro x hx
  simp only [zeros, zero_real] at hx
  rw [List.eq_of_mem_replicate hx]

theorem stereo_matVec (g0 g1 g2 g3 g4 : ℝ) :
    matVec stereoDownmix [g0, g1, g2, g3, g4] =
      [g0 + Real.sqrt 3 / 3 * g2 + Real.sqrt (1 / 2) * g3, g1 + Real.sqrt 3 / 3 * g2 + Real.sqrt (1 / 2) * g4] := by
  simp only [matVec, stereoDownmix, List.map_cons, List.map_nil, dot, one_real, zero_real, sqrt_real, ofRat_real]
  push_cast
  congr 1
  · ring
  · congr 1; ring

theorem firstAccept_mem {γ : Type} : ∀ {rs : List (Option γ)} {g : γ}, firstAccept rs = some g → some g ∈ rs
  | [], _, h => by simp [firstAccept] at h
  | some a :: _, g, h => by
    simp only [firstAccept, Option.some.injEq] at h; subst h; simp
  | none :: rest, g, h => by
    simp only [firstAccept] at h
    exact List.mem_cons_of_mem _ (firstAccept_mem h)

theorem firstAccept_eq_none {γ : Type} : ∀ {rs : List (Option γ)}, firstAccept rs = none ↔ ∀ r ∈ rs, r = none
  | [] => by simp [firstAccept]
  | some a :: rest => by simp [firstAccept]
  | none :: rest => by
    simp only [firstAccept, List.mem_cons, forall_eq_or_imp, true_and]
    exact firstAccept_eq_none

theorem firstAccept_ne_none {γ : Type} {rs : List (Option γ)} {x : γ} (h : some x ∈ rs) : firstAccept rs ≠ none := by
  intro h0
  have := firstAccept_eq_none.mp h0 _ h
  exact absurd this (by simp)

theorem firstAccept_prefix {γ : Type} : ∀ (rs : List (Option γ)) (k : Nat) (g : γ),
    (∀ j, j < k → rs[j]? = some none) → rs[k]? = some (some g) → firstAccept rs = some g := by
  intro rs
  induction rs with
  | nil => intro k g _ h; simp at h
  | cons r rs ih =>
    intro k g hpre hk
    cases k with
    | zero =>
      simp only [List.getElem?_cons_zero, Option.some.injEq] at hk
      subst hk; rfl
    | succ k =>
      have h0 := hpre 0 (by omega)
      simp only [List.getElem?_cons_zero, Option.some.injEq] at h0
      subst h0
      simp only [firstAccept]
      apply ih k g
      · intro j hj
        have := hpre (j + 1) (by omega)
        simpa using this
      · simpa using hk

theorem firstAccept_singleton {γ : Type} (x : Option γ) : firstAccept [x] = x := by
  cases x <;> rfl

theorem firstAccept_skip {γ : Type} : ∀ (pre : List (Option γ)) (rest : List (Option γ)),
    (∀ r ∈ pre, r = none) → firstAccept (pre ++ rest) = firstAccept rest
  | [], _, _ => rfl
  | x :: xs, rest, h => by
    have hx : x = none := h x (by simp)
    subst hx
    simp only [List.cons_append, firstAccept]
    exact firstAccept_skip xs rest (fun r hr => h r (by simp [hr]))

theorem firstAccept_map {γ δ : Type} (f : γ → δ) : ∀ rs : List (Option γ),
    (firstAccept rs).map f = firstAccept (rs.map (Option.map f))
  | [] => rfl
  | some _ :: _ => rfl
  | none :: rest => by simpa [firstAccept] using firstAccept_map f rest

theorem firstAccept_flatMap {β γ : Type} (f : β → List (Option γ)) : ∀ l : List β,
    firstAccept (l.flatMap f) = firstAccept (l.map fun x => firstAccept (f x))
  | [] => rfl
  | x :: xs => by
    have ih := firstAccept_flatMap f xs
    simp only [List.flatMap_cons, List.map_cons]
    generalize f x = fx
    induction fx with
    | nil => simpa [firstAccept] using ih
    | cons a as iha =>
      cases a with
      | some v => simp [firstAccept]
      | none => simpa [firstAccept] using iha

theorem Cover.results_getElem? (regions : List (Region ℝ)) (n : Nat) (roots : Nat → Option ℝ × Option ℝ) (p : Vec3 ℝ)
    (k : Nat) (hk : k < regions.length) :
    (PointSourcePanner.results regions n roots p)[k]? =
      some (remap regions[k].channels n (regions[k].handle (roots k) p)) := by
  unfold PointSourcePanner.results
  simp [hk]

theorem Cover.results_mem {regions : List (Region ℝ)} {n : Nat} {roots : Nat → Option ℝ × Option ℝ} {p : Vec3 ℝ}
    {x : Option (List ℝ)} :
    x ∈ PointSourcePanner.results regions n roots p ↔
      ∃ k, ∃ h : k < regions.length, x = remap regions[k].channels n (regions[k].handle (roots k) p) := by
  unfold PointSourcePanner.results
  rw [List.mem_iff_getElem]
  constructor
  · rintro ⟨i, hi, rfl⟩
    have hi' : i < regions.length := by simpa using hi
    exact ⟨i, hi', by simp⟩
  · rintro ⟨k, hk, rfl⟩
    exact ⟨k, by simpa using hk, by simp⟩

/-- what the inner triplet `r` (channels, positions) of the n-gon answers: the triplet's gains written to its three
    channels among the vertices and the virtual centre, the centre's share mixed down (`VirtualNgon.mix`) -/
noncomputable def VirtualNgon.candidate (g : VirtualNgon ℝ) (r : List Nat × Mat3 ℝ) (p : Vec3 ℝ) : Option (List ℝ) :=
  (remap r.1 (g.centreDownmix.length + 1) ((Triplet.handle r.2 p).map vecList)).map (VirtualNgon.mix g.centreDownmix)

theorem ngon_handle_eq (g : VirtualNgon ℝ) (p : Vec3 ℝ) :
    g.handle p = firstAccept (g.regions.map fun r => g.candidate r p) := rfl

theorem candidate_eq_none_iff {g : VirtualNgon ℝ} {ch : List Nat} {P : Mat3 ℝ} {p : Vec3 ℝ} :
    g.candidate (ch, P) p = none ↔ Triplet.handle P p = none := by
  simp [VirtualNgon.candidate, remap]

theorem candidate_of_some {g : VirtualNgon ℝ} {ch : List Nat} {P : Mat3 ℝ} {p gv : Vec3 ℝ} (h : Triplet.handle P p = some gv) :
    g.candidate (ch, P) p =
      some (VirtualNgon.mix g.centreDownmix (scatter (zeros (g.centreDownmix.length + 1)) ch (vecList gv))) := by
  simp [VirtualNgon.candidate, remap, h]

theorem ngon_handle_eq_none {g : VirtualNgon ℝ} {p : Vec3 ℝ} :
    g.handle p = none ↔ ∀ r ∈ g.regions, Triplet.handle r.2 p = none := by
  rw [ngon_handle_eq, firstAccept_eq_none, List.forall_mem_map]
  exact forall₂_congr fun r _ => candidate_eq_none_iff (ch := r.1) (P := r.2)

/-- inner triplet number `i`: the vertices `order[i]`, `order[i+1 mod n]` and the centre -/
theorem ngon_handle_eq_none_iff_fan {g : VirtualNgon ℝ} {p : Vec3 ℝ} :
    g.handle p = none ↔ ∀ i, i < g.positions.length →
      Triplet.handle (g.positions.getD (g.order.getD i 0) zero3,
        g.positions.getD (g.order.getD ((i + 1) % g.positions.length) 0) zero3, g.centre) p = none := by
  rw [ngon_handle_eq_none, VirtualNgon.regions, List.forall_mem_map]
  simp only [List.mem_range]

theorem ngon_handle_eq_some {g : VirtualNgon ℝ} {p : Vec3 ℝ} {out : List ℝ} (h : g.handle p = some out) :
    ∃ r ∈ g.regions, ∃ gv, Triplet.handle r.2 p = some gv ∧
      out = VirtualNgon.mix g.centreDownmix (scatter (zeros (g.centreDownmix.length + 1)) r.1 (vecList gv)) := by
  rw [ngon_handle_eq] at h
  obtain ⟨r, hr, he⟩ := List.mem_map.mp (firstAccept_mem h)
  cases ht : Triplet.handle r.2 p with
  | none =>
    rw [candidate_eq_none_iff (ch := r.1).mpr ht] at he
    exact absurd he (by simp)
  | some gv => exact ⟨r, hr, gv, ht, Option.some.inj (he.symm.trans (candidate_of_some (ch := r.1) ht))⟩

/-- `p = s·a + t·b + u·c` -/
noncomputable def comb3 (s t u : ℝ) (P : Mat3 ℝ) : Vec3 ℝ :=
  add3 (add3 (smul3 s P.1) (smul3 t P.2.1)) (smul3 u P.2.2)

/-- VBAP: for an invertible position matrix the gains of `s·a + t·b + u·c` before normalisation are `(s,t,u)`. -/
theorem pv_comb3 (P : Mat3 ℝ) (hd : det3 P ≠ 0) (s t u : ℝ) : Triplet.pv P (comb3 s t u P) = (s, t, u) := by
  obtain ⟨⟨a0, a1, a2⟩, ⟨b0, b1, b2⟩, ⟨c0, c1, c2⟩⟩ := P
  simp only [det3] at hd
  simp only [Triplet.pv, vecMat, inv3, det3, comb3, add3, smul3]
  generalize hdef : (a0 * (b1 * c2 - b2 * c1) - a1 * (b0 * c2 - b2 * c0) + a2 * (b0 * c1 - b1 * c0)) = d at hd ⊢
  refine Prod.ext ?_ (Prod.ext ?_ ?_) <;> simp only <;> field_simp <;> rw [← hdef] <;> ring

theorem comb3_pv (P : Mat3 ℝ) (hd : det3 P ≠ 0) (p : Vec3 ℝ) :
    comb3 (Triplet.pv P p).1 (Triplet.pv P p).2.1 (Triplet.pv P p).2.2 P = p := by
  obtain ⟨⟨a0, a1, a2⟩, ⟨b0, b1, b2⟩, ⟨c0, c1, c2⟩⟩ := P
  obtain ⟨p0, p1, p2⟩ := p
  simp only [det3] at hd
  simp only [Triplet.pv, vecMat, inv3, det3, comb3, add3, smul3]
  generalize hdef : (a0 * (b1 * c2 - b2 * c1) - a1 * (b0 * c2 - b2 * c0) + a2 * (b0 * c1 - b1 * c0)) = d at hd ⊢
  refine Prod.ext ?_ (Prod.ext ?_ ?_) <;> simp only <;> field_simp <;> rw [← hdef] <;> ring

/-- `p · P⁻¹` by Cramer's rule (also for `det = 0`, where both sides are 0 over ℝ) -/
theorem pv_cramer (P : Mat3 ℝ) (p : Vec3 ℝ) :
    Triplet.pv P p = (det3 (p, P.2.1, P.2.2) / det3 P, det3 (P.1, p, P.2.2) / det3 P, det3 (P.1, P.2.1, p) / det3 P) := by
  simp only [Triplet.pv, vecMat, inv3, det3]
  refine Prod.ext ?_ (Prod.ext ?_ ?_) <;> simp only <;> ring

theorem triplet_handle_eq_some {P : Mat3 ℝ} {p g : Vec3 ℝ} :
    Triplet.handle P p = some g ↔ Triplet.accepts P p ∧ Triplet.gains P p = g := by
  unfold Triplet.handle
  split <;> simp [*]

theorem triplet_handle_eq_none_iff (P : Mat3 ℝ) (p : Vec3 ℝ) : Triplet.handle P p = none ↔ ¬ Triplet.accepts P p := by
  unfold Triplet.handle
  split <;> simp [*]

theorem triplet_handle_of_accepts {P : Mat3 ℝ} {p : Vec3 ℝ} (h : Triplet.accepts P p) :
    Triplet.handle P p = some (Triplet.gains P p) :=
  triplet_handle_eq_some.mpr ⟨h, rfl⟩

theorem quad_handle_eq_some {q : QuadRegion ℝ} {x y : Option ℝ} {p : Vec3 ℝ} {gv : List ℝ}
    (h : q.handle x y p = some gv) :
    ∃ x' y', x = some x' ∧ y = some y' ∧ gv = normalise (scatter (zeros 4) q.order (QuadRegion.weights x' y')) := by
  match x, y, h with
  | some x', some y', h =>
    simp only [QuadRegion.handle] at h
    split at h
    · exact absurd h (by simp)
    · exact ⟨x', y', rfl, rfl, (Option.some.inj h).symm⟩
  | none, _, h => simp [QuadRegion.handle] at h
  | some _, none, h => simp [QuadRegion.handle] at h

theorem sumsq3_eq_zero {x y z : ℝ} (h : x * x + y * y + z * z = 0) : x = 0 ∧ y = 0 ∧ z = 0 := by
  have hx := mul_self_nonneg x
  have hy := mul_self_nonneg y
  have hz := mul_self_nonneg z
  exact ⟨mul_self_eq_zero.mp (by linarith), mul_self_eq_zero.mp (by linarith), mul_self_eq_zero.mp (by linarith)⟩

theorem sumsq3_div_sqrt {x y z : ℝ} (h : x * x + y * y + z * z ≠ 0) :
    x / Real.sqrt (x * x + y * y + z * z) * (x / Real.sqrt (x * x + y * y + z * z)) +
      y / Real.sqrt (x * x + y * y + z * z) * (y / Real.sqrt (x * x + y * y + z * z)) +
      z / Real.sqrt (x * x + y * y + z * z) * (z / Real.sqrt (x * x + y * y + z * z)) = 1 := by
  have hs : 0 ≤ x * x + y * y + z * z := add_nonneg (add_nonneg (mul_self_nonneg x) (mul_self_nonneg y)) (mul_self_nonneg z)
  rw [div_mul_div_comm, div_mul_div_comm, div_mul_div_comm, ← add_div, ← add_div, Real.mul_self_sqrt hs, div_self h]

/-- a non-negative component divided by the norm of its vector needs no clipping (for the zero vector `0 / 0 = 0`) -/
theorem clip01_div_sqrt {w s : ℝ} (hw : 0 ≤ w) (hws : w * w ≤ s) : clip01 (w / Real.sqrt s) = w / Real.sqrt s :=
  clip01_of_mem (div_nonneg hw (Real.sqrt_nonneg s))
    (div_le_one_of_le₀ (Real.le_sqrt_of_sq_le (by rw [sq]; exact hws)) (Real.sqrt_nonneg s))

theorem triplet_gains_of_nonneg {P : Mat3 ℝ} {p : Vec3 ℝ} {x y z : ℝ} (hv : Triplet.pv P p = (x, y, z)) (hx : 0 ≤ x)
    (hy : 0 ≤ y) (hz : 0 ≤ z) :
    Triplet.gains P p = (x / Real.sqrt (x * x + y * y + z * z), y / Real.sqrt (x * x + y * y + z * z),
      z / Real.sqrt (x * x + y * y + z * z)) := by
  have hxx := mul_self_nonneg x
  have hyy := mul_self_nonneg y
  have hzz := mul_self_nonneg z
  simp only [Triplet.gains, hv, sqrt_real]
  rw [clip01_div_sqrt hx (by linarith), clip01_div_sqrt hy (by linarith), clip01_div_sqrt hz (by linarith)]

/-- VBAP on an invertible triplet: a direction `s·a + t·b + u·c` with non-negative coefficients is accepted and
    gets the gains `(s, t, u) / ‖(s, t, u)‖` (so `gains · P` is collinear with the direction).  Over ℝ this includes
    `s = t = u = 0`, where `0 / 0 = 0`. -/
theorem triplet_handle_comb (P : Mat3 ℝ) (hd : det3 P ≠ 0) (s t u : ℝ) (hs : 0 ≤ s) (ht : 0 ≤ t) (hu : 0 ≤ u) :
    Triplet.handle P (comb3 s t u P) =
      some (s / Real.sqrt (s * s + t * t + u * u), t / Real.sqrt (s * s + t * t + u * u),
        u / Real.sqrt (s * s + t * t + u * u)) := by
  have hpv := pv_comb3 P hd s t u
  have heps := tripletEps_neg
  refine triplet_handle_eq_some.mpr ⟨?_, triplet_gains_of_nonneg hpv hs ht hu⟩
  simp only [Triplet.accepts, hpv]
  exact ⟨by linarith, by linarith, by linarith⟩

theorem comb3_unit (P : Mat3 ℝ) : comb3 1 0 0 P = P.1 ∧ comb3 0 1 0 P = P.2.1 ∧ comb3 0 0 1 P = P.2.2 := by
  obtain ⟨⟨a0, a1, a2⟩, ⟨b0, b1, b2⟩, ⟨c0, c1, c2⟩⟩ := P
  simp [comb3, add3, smul3]

/-- A source exactly at one of the three loudspeakers of an invertible triplet excites only that loudspeaker. -/
theorem triplet_exact_at_vertex (P : Mat3 ℝ) (hd : det3 P ≠ 0) :
    Triplet.handle P P.1 = some (1, 0, 0) ∧ Triplet.handle P P.2.1 = some (0, 1, 0) ∧
      Triplet.handle P P.2.2 = some (0, 0, 1) := by
  obtain ⟨e1, e2, e3⟩ := comb3_unit P
  have h1 := triplet_handle_comb P hd 1 0 0 zero_le_one le_rfl le_rfl
  have h2 := triplet_handle_comb P hd 0 1 0 le_rfl zero_le_one le_rfl
  have h3 := triplet_handle_comb P hd 0 0 1 le_rfl le_rfl zero_le_one
  rw [e1] at h1; rw [e2] at h2; rw [e3] at h3
  refine ⟨?_, ?_, ?_⟩
  · rw [h1]; norm_num
  · rw [h2]; norm_num
  · rw [h3]; norm_num

end Earverif.PointSource
