/- `geom.inside_angle_range` (C10): the two `± 360` loops terminate within the fuel the model gives
   them and normalise an angle into one period; `insideAngleRange` is membership of some representative of
   `x` in `[start - tol, e + tol]`, where `e ≡ end (mod 360)` lies in `[start, start + 360]`; one channel of
   `channels_within_bounds` as a proposition.  These lemmas specify the helpers; the theorems of `Props/C10` do not use them. -/
import Earverif.Model.DirectSpeakersGeom
import Earverif.Proofs.Turns
import Mathlib.Tactic.Ring
import Mathlib.Tactic.Linarith
import Mathlib.Tactic.NormNum

namespace Earverif.DS

theorem absRat_eq_abs (x : Rat) : absRat x = |x| := by
  unfold absRat
  split
  · rename_i h; rw [abs_of_neg h]
  · rename_i h; rw [abs_of_nonneg (not_lt.mp h)]

theorem loopFuel_spec (y lo : Rat) : |y - lo| < 360 * (loopFuel y lo : Rat) := by
  have h1 : absRat (y - lo) / 360 - 1 < ((absRat (y - lo) / 360).floor : Rat) := Rat.lt_floor
  have h2 : ((absRat (y - lo) / 360).floor : Rat) ≤ ((absRat (y - lo) / 360).floor.toNat : Rat) :=
    (Int.cast_le.mpr (Int.self_le_toNat _)).trans_eq (Int.cast_natCast _)
  rw [loopFuel, ← absRat_eq_abs, Nat.cast_add, Nat.cast_ofNat]
  linarith

/-! The two loops are instances of `Turns.loop_spec`. -/

theorem decWhile_ran (strict : Bool) (lo : Rat) (n : Nat) (y : Rat) :
    Turns.Ran (decCond strict lo · = true) (-360) y (decWhile strict lo n y) ∧
    (¬ decCond strict lo (y + n * (-360)) = true → ¬ decCond strict lo (decWhile strict lo n y) = true) :=
  Turns.loop_spec (fun _ => rfl) (fun n y h => by rw [decWhile, if_pos h, sub_eq_add_neg])
    (fun n y h => by rw [decWhile, if_neg h]) n y

theorem incWhile_ran (lo : Rat) (n : Nat) (y : Rat) : Turns.Ran (· < lo) 360 y (incWhile lo n y) ∧
    (¬ y + n * 360 < lo → ¬ incWhile lo n y < lo) :=
  Turns.loop_spec (fun _ => rfl) (fun n y h => by rw [incWhile, if_pos h]) (fun n y h => by rw [incWhile, if_neg h]) n y

/-- The two loops: the result is congruent to `y` modulo 360 and lies in `[lo, lo + 360]` (first loop `>`,
    as for `end`) resp. `[lo, lo + 360)` (first loop `>=`, as for `x`). -/
theorem normAngle_spec (strict : Bool) (lo y : Rat) :
    (∃ k : Int, normAngle strict lo y = y + 360 * (k : Rat)) ∧ lo ≤ normAngle strict lo y ∧
    (if strict then normAngle strict lo y ≤ lo + 360 else normAngle strict lo y < lo + 360) := by
  unfold normAngle
  simp only
  obtain ⟨r1, st1⟩ := decWhile_ran strict lo (loopFuel y lo) y
  have s1 := st1 (by
    have := loopFuel_spec y lo; have := le_abs_self (y - lo)
    cases strict <;> simp only [decCond, Bool.false_eq_true, if_false, if_true, decide_eq_true_eq] <;> linarith)
  generalize decWhile strict lo (loopFuel y lo) y = y1 at *
  obtain ⟨r2, st2⟩ := incWhile_ran lo (loopFuel y1 lo) y1
  have s2 := st2 (by have := loopFuel_spec y1 lo; have := neg_abs_le (y1 - lo); linarith)
  obtain ⟨a, b, c, -⟩ := Turns.window
    (B := fun r => if strict then r ≤ lo + 360 else r < lo + 360)
    (fun z hz => by
      cases strict <;> simp only [decCond, Bool.false_eq_true, if_false, if_true, decide_eq_true_eq] at hz ⊢ <;> linarith)
    (fun z hz => by cases strict <;> simp only [Bool.false_eq_true, if_false, if_true] <;> linarith) r1 s1 r2 s2
  exact ⟨a, b, c⟩

/-- `inside_angle_range(x, start, end, tol)` ⇔ some representative of `x` (mod 360) lies in
    `[start - tol, e + tol]`, `e = normAngle true start end` being the representative of `end` in
    `[start, start + 360]` (see `normAngle_spec`). -/
theorem insideAngleRange_iff (x start end_ tol : Rat) :
    insideAngleRange x start end_ tol = true ↔
      ∃ k : Int, start - tol ≤ x + 360 * (k : Rat) ∧ x + 360 * (k : Rat) ≤ normAngle true start end_ + tol := by
  unfold insideAngleRange
  obtain ⟨hk, hge, hlt⟩ := normAngle_spec false (start - tol) x
  rw [decide_eq_true_eq]
  exact Turns.rep_le_iff hk hge hlt

/-- One channel of the polar `channels_within_bounds`, as a proposition: azimuth inside the (wrapped,
    tolerance-widened) range or the loudspeaker at a pole; elevation and distance strictly inside the
    tolerance-widened bounds. -/
theorem polarWithin1_iff (az el dist : Bound) (tol a e d : Rat) :
    polarWithin1 az el dist tol a e d = true ↔
      ((∃ k : Int, az.lo - tol ≤ a + 360 * (k : Rat) ∧ a + 360 * (k : Rat) ≤ normAngle true az.lo az.hi + tol)
        ∨ 90 - tol ≤ |e|) ∧
      el.lo - tol < e ∧ e < el.hi + tol ∧ dist.lo - tol < d ∧ d < dist.hi + tol := by
  simp only [polarWithin1, Bool.and_eq_true, Bool.or_eq_true, decide_eq_true_eq, insideAngleRange_iff,
    absRat_eq_abs, and_assoc]

theorem cartWithin1_iff (x y z : Bound) (tol : Rat) (p : Vec3) :
    cartWithin1 x y z tol p = true ↔
      (x.lo ≤ p.1 + tol ∧ y.lo ≤ p.2.1 + tol ∧ z.lo ≤ p.2.2 + tol) ∧
      (p.1 - tol ≤ x.hi ∧ p.2.1 - tol ≤ y.hi ∧ p.2.2 - tol ≤ z.hi) := by
  simp only [cartWithin1, Bool.and_eq_true, decide_eq_true_eq, and_assoc]

/-- Range normalisation keeps a full circle a full circle: `(-180, 180)` means any angle. -/
example : [(-180 : Rat), -90, 0, 45, 179, 180, 270, -270].all (fun x => insideAngleRange x (-180) 180 0) = true := by
  decide +kernel

/-- ... while `(0, 0)` means the single angle 0 (and its representatives), with tolerance. -/
example : [(0 : Rat), 360, -360, 1 / 100000, -1 / 100000, 1 / 1000, 180].map (fun x => insideAngleRange x 0 0 (1 / 100000))
    = [true, true, true, true, true, false, false] := by decide +kernel

/-- wrap-around range `(170, -170)` -/
example : [(180 : Rat), -180, 175, -175, 0, 169].map (fun x => insideAngleRange x 170 (-170) 0)
    = [true, true, true, true, false, false] := by decide +kernel

end Earverif.DS
