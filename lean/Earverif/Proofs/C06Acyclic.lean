/-
C06 / C14 link, object graph: `_validate_object_loops` (C14 model `Validate.validateObjectLoops`, run by
`validateStructure` on `toDoc a`) accepts ⇒ the audioObject nesting of `a` has a rank that decreases along sub-object
references and is below the number of objects (`chains_short_of_loops`, `rank_of_chains_short`).  `Proofs/C06Select.lean`
states this as `acyclic_of_validate` (its `Acyclic` is exactly that rank statement).  Consequence there: the fuel
`a.objects.length` of `objectPathsFrom` suffices on validated documents, so `specStates` is the set of chains.
Core Lean only.
-/
import Earverif.Proofs.C06Doc

namespace Earverif.Adm

open Earverif.AdmV (Doc)
open Earverif.Validate (validateStructure validateObjectLoops objLoopDfs)

/-- pigeonhole: a duplicate-free list of numbers below `n` has at most `n` entries -/
theorem nodup_lt_length {l : List Nat} {n : Nat} (hnd : l.Nodup) (hlt : ∀ x ∈ l, x < n) : l.length ≤ n := by
  have := hnd.length_le_of_subset (l₂ := List.range n) (fun x hx => List.mem_range.2 (hlt x hx))
  simpa using this

/-- a successful `dfs(node, path)` of `_validate_loops`, started with enough fuel for the objects not yet on `path`:
every chain of sub-object references from `node` (of ANY length) is duplicate-free and avoids `path`.
Invariant `n + 1 ≤ path.length + f`: the fuel suffices for the objects not yet on the duplicate-free `path`; with no
fuel left the path would have more than `n` entries below `n` (pigeonhole). -/
theorem objLoopDfs_chains (d : Doc) (n : Nat) (hch : ∀ o c, o < n → c ∈ (d.obj o).objects → c < n) :
    ∀ (f node : Nat) (path : List Nat), objLoopDfs d f node path = .ok () → path.Nodup → (∀ x ∈ path, x < n) →
      node < n → n + 1 ≤ path.length + f →
      ∀ p, Chain (fun i => (d.obj i).objects) node p → (path ++ p).Nodup
  | 0, node, path, _, hnd, hlt, _, hlen => by
    intro p _
    have := nodup_lt_length hnd hlt
    omega
  | f + 1, node, path, h, hnd, hlt, hn, hlen => by
    intro p hp
    unfold objLoopDfs at h
    split at h
    · cases h
    · rename_i hc
      have hnot : node ∉ path := by simpa using hc
      have hnd' : (path ++ [node]).Nodup := by
        rw [List.nodup_append]
        exact ⟨hnd, by simp, fun x hx y hy => by
          rw [List.mem_singleton] at hy; subst hy; intro e; subst e; exact hnot hx⟩
      have hlt' : ∀ x ∈ path ++ [node], x < n := by
        intro x hx
        rcases List.mem_append.1 hx with hx | hx
        · exact hlt x hx
        · rw [List.mem_singleton] at hx; subst hx; exact hn
      cases hp with
      | single => exact hnd'
      | cons _ s q hs hq =>
        have hsub := Validate.forE_ok h s hs
        have := objLoopDfs_chains d n hch f s (path ++ [node]) hsub hnd' hlt' (hch node s hn hs)
          (by simp only [List.length_append, List.length_singleton]; omega) q hq
        simpa [List.append_assoc] using this

theorem chains_short_of_loops (d : Doc) (hch : ∀ o c, o < d.objects.length → c ∈ (d.obj o).objects → c < d.objects.length)
    (hv : validateObjectLoops d = .ok ()) {r : Nat} (hr : r < d.objects.length) {p : List Nat}
    (hp : Chain (fun i => (d.obj i).objects) r p) : p.length ≤ d.objects.length := by
  have h0 := Validate.forE_ok hv r (List.mem_range.2 hr)
  have hnd := objLoopDfs_chains d d.objects.length hch _ r [] h0 List.nodup_nil (by simp) hr (by simp) p hp
  rw [List.nil_append] at hnd
  exact nodup_lt_length hnd (hp.all_lt (fun i hi x hx => hch i x hi hx) hr)

def maxLen : List (List Nat) → Nat
  | [] => 0
  | p :: ps => max p.length (maxLen ps)

theorem le_maxLen {l : List (List Nat)} {p : List Nat} (h : p ∈ l) : p.length ≤ maxLen l := by
  induction l with
  | nil => cases h
  | cons q qs ih =>
    rcases List.mem_cons.1 h with rfl | h
    · exact Nat.le_max_left ..
    · exact Nat.le_trans (ih h) (Nat.le_max_right ..)

theorem maxLen_le {l : List (List Nat)} {b : Nat} (h : ∀ p ∈ l, p.length ≤ b) : maxLen l ≤ b := by
  induction l with
  | nil => exact Nat.zero_le _
  | cons q qs ih =>
    exact Nat.max_le.2 ⟨h q (List.mem_cons_self ..), ih fun p hp => h p (List.mem_cons_of_mem _ hp)⟩

theorem exists_maxLen {l : List (List Nat)} (h : l ≠ []) : ∃ p ∈ l, p.length = maxLen l := by
  induction l with
  | nil => exact absurd rfl h
  | cons q qs ih =>
    by_cases hq : qs = []
    · subst hq; exact ⟨q, List.mem_cons_self .., by simp [maxLen]⟩
    · obtain ⟨p, hp, hl⟩ := ih hq
      by_cases hle : maxLen qs ≤ q.length
      · exact ⟨q, List.mem_cons_self .., by simp [maxLen, Nat.max_eq_left hle]⟩
      · exact ⟨p, List.mem_cons_of_mem _ hp, by simp only [maxLen]; omega⟩

/-- if every chain from an in-range node has at most `n` entries (and children of in-range nodes are in range, nodes
out of range have no children), the longest-chain length minus one is a rank: it decreases along `ch` and is below `n` -/
theorem rank_of_chains_short (ch : Nat → List Nat) (n : Nat) (hch : ∀ o c, o < n → c ∈ ch o → c < n)
    (hout : ∀ o, n ≤ o → ch o = [])
    (hshort : ∀ r, r < n → ∀ p, Chain ch r p → p.length ≤ n) :
    ∃ rank : Nat → Nat, (∀ o c, c ∈ ch o → rank c < rank o) ∧ ∀ o, o < n → rank o < n := by
  refine ⟨fun o => maxLen (pathsFrom ch n o) - 1, ?_, ?_⟩
  · intro o c hc
    have ho : o < n := by
      by_cases h : o < n
      · exact h
      · rw [hout o (by omega)] at hc; cases hc
    have hcn := hch o c ho hc
    have hn : 1 ≤ n := by omega
    have hself : [c] ∈ pathsFrom ch n c := mem_pathsFrom_of_chain (.single c) n (by simpa using hn)
    obtain ⟨p, hp, hl⟩ := exists_maxLen (List.ne_nil_of_mem hself)
    have hpc := chain_of_mem_pathsFrom n c p hp
    have hop : Chain ch o (o :: p) := .cons o c p hc hpc
    have hlen := hshort o ho _ hop
    have hmem := mem_pathsFrom_of_chain hop n hlen
    have h1 := le_maxLen hmem
    have h2 := le_maxLen hself
    simp only [List.length_cons, List.length_nil] at h1 h2
    show maxLen (pathsFrom ch n c) - 1 < maxLen (pathsFrom ch n o) - 1
    omega
  · intro o ho
    have hn : 1 ≤ n := by omega
    have hself : [o] ∈ pathsFrom ch n o := mem_pathsFrom_of_chain (.single o) n (by simpa using hn)
    have h2 := le_maxLen hself
    have h1 : maxLen (pathsFrom ch n o) ≤ n :=
      maxLen_le fun p hp => hshort o ho p (chain_of_mem_pathsFrom n o p hp)
    simp only [List.length_cons, List.length_nil] at h2
    show maxLen (pathsFrom ch n o) - 1 < n
    omega

theorem toDoc_obj (a : Adm) (o : Nat) : (toDoc a).obj o = tdObj (a.obj o) :=
  getD_map_default' tdObj a.objects o default default rfl

theorem toDoc_obj_objects (a : Adm) (o : Nat) : ((toDoc a).obj o).objects = a.subs o := by
  rw [toDoc_obj]; rfl

theorem toDoc_nobjects (a : Adm) : (toDoc a).objects.length = a.objects.length := by simp [toDoc]

end Earverif.Adm
