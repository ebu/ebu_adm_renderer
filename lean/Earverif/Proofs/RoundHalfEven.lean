/-
Nearest integer with ties to even, `Ieee.roundHalfEven`: what follows from the definition without asking which way an
exact tie goes (that one fact, `FloatText.rhe_half`, is in `Proofs/C08Float.lean`, its only user).  Core Lean
only, so that both `Props/C15.lean` (no Mathlib) and `Proofs/C16Ieee.lean` (Mathlib) rest on it.
`TimingFix.roundHalfEvenInt` (Python's `round` on a `Fraction`) is the same function.
-/
import Earverif.Model.Ieee
import Earverif.Model.TimingFix

namespace Earverif.Ieee

theorem intCast_succ (n : Int) : ((n + 1 : Int) : Rat) = (n : Rat) + 1 := by simp [Rat.intCast_add]

theorem floor_frac (y : Rat) : (y.floor : Rat) ≤ y ∧ y < (y.floor : Rat) + 1 := by
  have h := Rat.lt_floor_add_one y
  rw [intCast_succ] at h
  exact ⟨Rat.floor_le y, h⟩

/-- the floor or the next integer, whichever is nearer; which of the two at exactly a half plays no role below -/
theorem roundHalfEven_cases (m : Rat) :
    (roundHalfEven m = m.floor ∧ m - (m.floor : Rat) ≤ 1 / 2) ∨
    (roundHalfEven m = m.floor + 1 ∧ 1 / 2 ≤ m - (m.floor : Rat)) := by
  unfold roundHalfEven
  simp only
  split
  next a => exact Or.inl ⟨rfl, Rat.le_of_lt a⟩
  next a =>
    split
    next b => exact Or.inr ⟨rfl, Rat.le_of_lt b⟩
    next b =>
      split
      · exact Or.inl ⟨rfl, Rat.not_lt.1 b⟩
      · exact Or.inr ⟨rfl, Rat.not_lt.1 a⟩

theorem roundHalfEven_err (m : Rat) :
    (roundHalfEven m : Rat) - m ≤ 1 / 2 ∧ m - (roundHalfEven m : Rat) ≤ 1 / 2 := by
  obtain ⟨h1, h2⟩ := floor_frac m
  rcases roundHalfEven_cases m with ⟨h, hr⟩ | ⟨h, hr⟩
  · rw [h]; exact ⟨by grind, hr⟩
  · rw [h, intCast_succ]; constructor <;> grind

end Earverif.Ieee

theorem Earverif.TimingFix.roundHalfEvenInt_eq : Earverif.TimingFix.roundHalfEvenInt = Earverif.Ieee.roundHalfEven := rfl
