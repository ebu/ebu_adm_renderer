/-
C06: re-numbering the format part (audioPackFormats, audioChannelFormats, audioTrackUIDs).

Goal: `fmtRenamed_itemsOfState_iff` (per state: the pipeline succeeds on the re-numbered document exactly when it does
on the original, items renamed up to order), used by `select_perm_formats`.  Route: the `FmtRenamed.*` lemmas (every
model function commutes with the renaming, function by function) → `ProbIso` (the allocation problems of a state
correspond, with inverse maps; `fmtRenamed_stateIso`) → `ProbIso.accepted` (acceptance transfers, `accepted_transfer`)
→ output packs and items.  `fmtRenamed_selectPackMapping` / `fmtRenamed_itemsOfState` are the one-directional form
under `AllocWF` of the re-numbered document, without inverse maps.
-/
import Earverif.Proofs.C06OwnRefs

namespace Earverif.Adm

/-- renaming maps for audioPackFormat, audioChannelFormat and audioTrackUID indices. -/
structure FmtMaps where
  σP : Nat → Nat
  σC : Nat → Nat
  σU : Nat → Nat

def renPack (m : FmtMaps) (p : Pack) : Pack :=
  { p with channels := p.channels.map m.σC, subPacks := p.subPacks.map m.σP,
           inputPack := p.inputPack.map m.σP, outputPack := p.outputPack.map m.σP,
           encodePacks := p.encodePacks.map m.σP }

def renChan (m : FmtMaps) (c : Channel) : Channel :=
  { c with matrix := { c.matrix with outputChannel := c.matrix.outputChannel.map m.σC,
                                     coeffs := c.matrix.coeffs.map fun k => { k with input := m.σC k.input } } }

/-- references inside the format part are in range. -/
structure FmtRefsOK (f : Formats) : Prop where
  subs : ∀ p, ∀ x ∈ (f.pack p).subPacks, x < f.packs.length
  chans : ∀ p, ∀ x ∈ (f.pack p).channels, x < f.channels.length
  inp : ∀ p q, (f.pack p).inputPack = some q → q < f.packs.length
  outp : ∀ p q, (f.pack p).outputPack = some q → q < f.packs.length
  enc : ∀ p, ∀ x ∈ (f.pack p).encodePacks, x < f.packs.length
  mout : ∀ c q, (f.chan c).matrix.outputChannel = some q → q < f.channels.length
  coeff : ∀ c, ∀ k ∈ (f.chan c).matrix.coeffs, k.input < f.channels.length

/-- `a'` is `a` with the audioPackFormats, audioChannelFormats and audioTrackUIDs (and, through
`trackChannel`, the stream/track formats) declared in another order, all references remapped. -/
structure FmtRenamed (m : FmtMaps) (a a' : Adm) : Prop where
  programmes : a'.programmes = a.programmes
  contents : a'.contents = a.contents
  objects : a'.objects = a.objects.map fun o =>
    { o with packs := o.packs.map m.σP, tracks := o.tracks.map (Option.map m.σU) }
  npacks : a'.fmt.packs.length = a.fmt.packs.length
  nchans : a'.fmt.channels.length = a.fmt.channels.length
  nuids : a'.fmt.trackUIDs.length = a.fmt.trackUIDs.length
  pack : ∀ p, p < a.fmt.packs.length → a'.fmt.pack (m.σP p) = renPack m (a.fmt.pack p)
  chan : ∀ c, c < a.fmt.channels.length → a'.fmt.chan (m.σC c) = renChan m (a.fmt.chan c)
  uidIndex : ∀ u, u < a.fmt.trackUIDs.length → (a'.fmt.uid (m.σU u)).trackIndex = (a.fmt.uid u).trackIndex
  uidPack : ∀ u, u < a.fmt.trackUIDs.length → (a'.fmt.uid (m.σU u)).pack = m.σP (a.fmt.uid u).pack
  uidChan : ∀ u, u < a.fmt.trackUIDs.length → trackChannel a'.fmt (m.σU u) = m.σC (trackChannel a.fmt u)
  permP : ((List.range a.fmt.packs.length).map m.σP).Perm (List.range a.fmt.packs.length)
  permC : ((List.range a.fmt.channels.length).map m.σC).Perm (List.range a.fmt.channels.length)

theorem packPaths_lt {f : Formats} (hok : FmtRefsOK f) {p : Nat} (hp : p < f.packs.length) {path : List Nat}
    (hpath : path ∈ packPathsFrom f p) : path ≠ [] ∧ ∀ q ∈ path, q < f.packs.length := by
  have hc := chain_of_mem_pathsFrom _ _ _ hpath
  exact ⟨hc.ne_nil, hc.all_lt (fun i _ => hok.subs i) hp⟩

theorem getPackFormatPath_lt {a : Adm} (hok : FmtRefsOK a.fmt) {p ch : Nat} (hp : p < a.fmt.packs.length)
    {pp : List Nat} (hpp : getPackFormatPath a.fmt p ch = .ok pp) :
    ∀ q ∈ pp, q < a.fmt.packs.length :=
  (packPaths_lt hok hp (getPackFormatPath_eq hpp).2.1).2

namespace FmtRenamed
variable {m : FmtMaps} {a a' : Adm}

theorem packSubs (h : FmtRenamed m a a') {p : Nat} (hp : p < a.fmt.packs.length) :
    a'.fmt.packSubs (m.σP p) = (a.fmt.packSubs p).map m.σP := by
  unfold Formats.packSubs; rw [h.pack p hp]; rfl

/-- a field of the pack that the renaming leaves alone, read along a renamed path. -/
theorem packField (h : FmtRenamed m a a') {β : Type} (g : Pack → β) (hg : ∀ p, g (renPack m p) = g p) {pp : List Nat}
    (hpp : ∀ q ∈ pp, q < a.fmt.packs.length) :
    (pp.map m.σP).map (fun p => g (a'.fmt.pack p)) = pp.map fun p => g (a.fmt.pack p) := by
  rw [List.map_map]
  exact List.map_congr_left fun q hq => by simp only [Function.comp, h.pack q (hpp q hq), hg]

theorem packPaths (h : FmtRenamed m a a') (hok : FmtRefsOK a.fmt) {p : Nat} (hp : p < a.fmt.packs.length) :
    packPathsFrom a'.fmt (m.σP p) = (packPathsFrom a.fmt p).map (List.map m.σP) := by
  unfold packPathsFrom
  rw [h.npacks]
  exact pathsFrom_rename (fun i hi => h.packSubs hi) (fun i _ => hok.subs i) _ p hp

theorem slots (h : FmtRenamed m a a') (hok : FmtRefsOK a.fmt) {p : Nat} (hp : p < a.fmt.packs.length) :
    slots a'.fmt (m.σP p) = (Earverif.Adm.slots a.fmt p).map fun s => (s.1.map m.σP, m.σC s.2) := by
  unfold Earverif.Adm.slots
  rw [h.packPaths hok hp, List.flatMap_map, List.map_flatMap]
  apply flatMap_congr'
  intro path hpath
  obtain ⟨hne, hlt⟩ := packPaths_lt hok hp hpath
  obtain ⟨hl1, hl2⟩ := getLastD_map_ne_nil (ρ := m.σP) hne
  rw [hl1, h.pack _ (hlt _ hl2)]
  simp [renPack, List.map_map]

end FmtRenamed

def renCh (m : FmtMaps) (c : PackAlloc.Channel) : PackAlloc.Channel := ⟨m.σC c.cf, c.pfs.map m.σP⟩

/-- the identity of a wrapped pack under renaming of the root: `WPack.id` is `3 * root + variant`
(`Model/SelectItems.lean`), so the root is `i / 3`, the variant `i % 3`. -/
def renWid (m : FmtMaps) (i : Nat) : Nat := 3 * m.σP (i / 3) + i % 3

def renW (m : FmtMaps) (w : WPack) : WPack :=
  ⟨renWid m w.id, w.kind, m.σP w.root, w.channels.map (renCh m)⟩

namespace FmtRenamed
variable {m : FmtMaps} {a a' : Adm}

theorem wrapOne (h : FmtRenamed m a a') (hok : FmtRefsOK a.fmt) {p : Nat} (hp : p < a.fmt.packs.length) :
    wrapOne a'.fmt (m.σP p) = (Earverif.Adm.wrapOne a.fmt p).map (List.map (renW m)) := by
  have hid : ∀ v, v < 3 → renWid m (3 * p + v) = 3 * m.σP p + v := by
    intro v hv
    rw [renWid, show (3 * p + v) / 3 = p by omega, show (3 * p + v) % 3 = v by omega]
  have hid0 : renWid m (3 * p) = 3 * m.σP p := by simpa using hid 0 (by omega)
  have hflat : ∀ q fixed, q < a.fmt.packs.length →
      (Earverif.Adm.slots a'.fmt (m.σP q)).map (fun s => (⟨s.2, [m.σP fixed]⟩ : PackAlloc.Channel)) =
        ((Earverif.Adm.slots a.fmt q).map fun s => (⟨s.2, [fixed]⟩ : PackAlloc.Channel)).map (renCh m) := by
    intro q fixed hq
    rw [h.slots hok hq, List.map_map, List.map_map]
    rfl
  have hreg : (Earverif.Adm.slots a'.fmt (m.σP p)).map (fun s => (⟨s.2, s.1⟩ : PackAlloc.Channel)) =
      ((Earverif.Adm.slots a.fmt p).map fun s => (⟨s.2, s.1⟩ : PackAlloc.Channel)).map (renCh m) := by
    rw [h.slots hok hp, List.map_map, List.map_map]
    rfl
  unfold Earverif.Adm.wrapOne wrapMatrix
  simp only [h.pack p hp]
  have hty : (renPack m (a.fmt.pack p)).type = (a.fmt.pack p).type := rfl
  rw [hty]
  split
  · simp only [Except.map, List.map_cons, List.map_nil, wrapRegular, renW, hid0, hreg]
  · simp only [renPack]
    rcases hi : (a.fmt.pack p).inputPack with _ | i <;> rcases ho : (a.fmt.pack p).outputPack with _ | o <;>
      simp only [Option.map_none, Option.map_some, Except.map, List.map_nil]
    · -- decode matrix: wrapped only with exactly one encode matrix, which has an input pack
      rcases he : (a.fmt.pack p).encodePacks with _ | ⟨e, _ | ⟨e2, rest⟩⟩ <;> simp only [List.map_cons, List.map_nil]
      have hel : e < a.fmt.packs.length := hok.enc p e (by rw [he]; exact List.mem_singleton_self e)
      simp only [h.pack e hel, renPack]
      rcases hei : (a.fmt.pack e).inputPack with _ | ei <;> simp only [Option.map_none, Option.map_some]
      simp only [List.map_cons, List.map_nil, renW, hid0, hid 1 (by omega), hid 2 (by omega), hreg, hflat e p hel,
        hflat ei e (hok.inp e ei hei)]
    · -- direct matrix
      simp only [List.map_cons, List.map_nil, renW, hid0, hid 1 (by omega), hreg, hflat i p (hok.inp p i hi)]

theorem wrappedPacks (h : FmtRenamed m a a') (hok : FmtRefsOK a.fmt) {wps : List WPack}
    (hw : wrappedPacks a.fmt = .ok wps) :
    ∃ wps', Earverif.Adm.wrappedPacks a'.fmt = .ok wps' ∧ wps'.Perm (wps.map (renW m)) := by
  rw [wrappedPacks_eq] at hw ⊢
  rw [h.npacks]
  have h1 : flatMapE (Earverif.Adm.wrapOne a'.fmt) ((List.range a.fmt.packs.length).map m.σP) =
      .ok (wps.map (renW m)) := by
    rw [flatMapE_map, flatMapE_results_map (f := Earverif.Adm.wrapOne a.fmt) (g := renW m)
      (fun p hp => h.wrapOne hok (List.mem_range.1 hp)), hw]
    rfl
  obtain ⟨zs, hzs, hp⟩ := flatMapE_perm _ h.permP h1
  exact ⟨zs, hzs, hp.symm⟩

end FmtRenamed

open PackAlloc in
def renAPack (m : FmtMaps) (p : PackAlloc.Pack) : PackAlloc.Pack :=
  ⟨renWid m p.id, m.σP p.root, p.channels.map (renCh m)⟩

def renTrack (m : FmtMaps) (t : PackAlloc.Track) : PackAlloc.Track := ⟨t.id, m.σC t.cf, m.σP t.pf⟩

def renSlot (m : FmtMaps) (s : PackAlloc.Slot) : PackAlloc.Slot := s.map (Option.map (renTrack m))

def renAllocated (m : FmtMaps) (al : PackAlloc.Allocated) : PackAlloc.Allocated :=
  ⟨renAPack m al.pack, al.allocation.map fun cs => (renCh m cs.1, renSlot m cs.2)⟩

theorem valid_rename_with (m : FmtMaps) {T : PackAlloc.Track → PackAlloc.Track}
    (hT : ∀ t, (T t).cf = m.σC t.cf ∧ (T t).pf = m.σP t.pf) {prob prob' : PackAlloc.Problem}
    (hp : prob'.packs.Perm (prob.packs.map (renAPack m))) (ht : (prob.tracks.map T).Perm prob'.tracks)
    (hr : prob'.packRefs = prob.packRefs.map (List.map m.σP))
    (hn : prob'.numSilent = prob.numSilent) {sol : PackAlloc.Sol} (hv : PackAlloc.Valid prob sol) :
    PackAlloc.Valid prob' (sol.map (mapAllocated (renAPack m) (renCh m) T)) := by
  refine valid_map (R := m.σP) (fun p hp' => hp.mem_iff.2 (List.mem_map_of_mem hp')) (fun _ => rfl) (fun _ => rfl) ht hn
    (fun c t h1 h2 => ⟨by rw [(hT t).1, h1]; rfl, by rw [(hT t).2]; exact List.mem_map_of_mem h2⟩) (fun roots h => ?_) hv
  rw [hr]
  cases hpr : prob.packRefs with
  | none => trivial
  | some r =>
    rw [hpr] at h
    exact h.map m.σP

theorem valid_rename (m : FmtMaps) {prob prob' : PackAlloc.Problem}
    (hp : prob'.packs.Perm (prob.packs.map (renAPack m)))
    (ht : prob'.tracks = prob.tracks.map (renTrack m))
    (hr : prob'.packRefs = prob.packRefs.map (List.map m.σP))
    (hn : prob'.numSilent = prob.numSilent) {sol : PackAlloc.Sol} (hv : PackAlloc.Valid prob sol) :
    PackAlloc.Valid prob' (sol.map (renAllocated m)) :=
  valid_rename_with m (fun _ => ⟨rfl, rfl⟩) hp (ht ▸ .refl _) hr hn hv

/-- an allocated output pack with pack and channel indices renamed (track specs do not mention
indices of the document). -/
def renAP (m : FmtMaps) (ap : AllocPack) : AllocPack :=
  ⟨m.σP ap.pack, ap.alloc.map fun cs => (m.σC cs.1, cs.2)⟩

theorem slotEntry_bounds {f : Formats} {uids : List Nat} {l : List (PackAlloc.Channel × PackAlloc.Slot)} {n : Nat}
    (hch : ∀ cs ∈ l, cs.1.cf < n) {inputs : List (Nat × TSpec)} (hi : mapE (slotEntry f uids) l = .ok inputs) :
    ∀ ct ∈ inputs, ct.1 < n := by
  obtain ⟨_, rfl⟩ := (mapE_slotEntry_ok_iff f uids l inputs).1 hi
  intro ct hct
  obtain ⟨cs, hcs, rfl⟩ := List.mem_map.1 hct
  exact hch cs hcs

namespace FmtRenamed
variable {m : FmtMaps} {a a' : Adm}

theorem chanType (h : FmtRenamed m a a') {c : Nat} (hc : c < a.fmt.channels.length) :
    (a'.fmt.chan (m.σC c)).type = (a.fmt.chan c).type := by rw [h.chan c hc]; rfl

theorem slotSpec (h : FmtRenamed m a a') {uids : List Nat} (hu : ∀ u ∈ uids, u < a.fmt.trackUIDs.length)
    (s : PackAlloc.Slot) : slotSpec a'.fmt (uids.map m.σU) (renSlot m s) = Earverif.Adm.slotSpec a.fmt uids s := by
  rcases s with _ | _ | t
  · rfl
  · rfl
  · simp only [renSlot, Option.map_some, Earverif.Adm.slotSpec, renTrack, List.getElem?_map]
    cases hg : uids[t.id]? with
    | none => rfl
    | some u => simp only [Option.map_some, h.uidIndex u (hu u (List.mem_of_getElem? hg))]

/-- `get_track_spec` inside `output_channel_allocation` only follows channel references. -/
theorem matrixSpec (h : FmtRenamed m a a') (hok : FmtRefsOK a.fmt) {inputs : List (Nat × TSpec)}
    (hin : ∀ cs ∈ inputs, cs.1 < a.fmt.channels.length) :
    ∀ fuel ch, ch < a.fmt.channels.length →
      matrixSpec a'.fmt (inputs.map fun cs => (m.σC cs.1, cs.2)) fuel (m.σC ch) =
        Earverif.Adm.matrixSpec a.fmt inputs fuel ch
  | 0, _, _ => rfl
  | fuel + 1, ch, hch => by
    have hfind : (inputs.map fun cs => (m.σC cs.1, cs.2)).find? (·.1 == m.σC ch) =
        (inputs.find? (·.1 == ch)).map fun cs => (m.σC cs.1, cs.2) := by
      rw [List.find?_map]
      congr 1
      apply find?_congr
      intro cs hcs
      simp only [Function.comp]
      rw [Bool.eq_iff_iff]
      simp only [beq_iff_eq]
      exact ⟨fun e => perm_inj h.permC (hin cs hcs) hch e, fun e => by rw [e]⟩
    unfold Earverif.Adm.matrixSpec
    rw [hfind]
    cases inputs.find? (·.1 == ch) with
    | some s => rfl
    | none =>
      simp only [Option.map_none, h.chanType hch]
      split
      · rfl
      · rw [h.chan ch hch]
        simp only [renChan]
        rw [mapE_map]
        congr 1
        apply mapE_congr
        intro k hk
        simp only [matrixSpec h hok hin fuel k.input (hok.coeff ch k hk)]

theorem slotEntry (h : FmtRenamed m a a') {uids : List Nat} (hu : ∀ u ∈ uids, u < a.fmt.trackUIDs.length)
    (cs : PackAlloc.Channel × PackAlloc.Slot) :
    slotEntry a'.fmt (uids.map m.σU) (renCh m cs.1, renSlot m cs.2) =
      (Earverif.Adm.slotEntry a.fmt uids cs).map fun x => (m.σC x.1, x.2) := by
  unfold Earverif.Adm.slotEntry
  simp only [h.slotSpec hu cs.2, renCh]
  cases Earverif.Adm.slotSpec a.fmt uids cs.2 <;> rfl

theorem matrixEntry (h : FmtRenamed m a a') (hok : FmtRefsOK a.fmt) {inputs : List (Nat × TSpec)}
    (hin : ∀ cs ∈ inputs, cs.1 < a.fmt.channels.length) {mc : Nat} (hmc : mc < a.fmt.channels.length) :
    matrixEntry a'.fmt (inputs.map fun cs => (m.σC cs.1, cs.2)) (m.σC mc) =
      (Earverif.Adm.matrixEntry a.fmt inputs mc).map fun x => (m.σC x.1, x.2) := by
  unfold Earverif.Adm.matrixEntry
  rw [h.chan mc hmc, h.nchans, h.matrixSpec hok hin _ mc hmc]
  simp only [renChan]
  cases (a.fmt.chan mc).matrix.outputChannel with
  | none => rfl
  | some oc =>
    simp only [Option.map_some]
    cases Earverif.Adm.matrixSpec a.fmt inputs (a.fmt.channels.length + 1) mc <;> rfl

theorem outputOf (h : FmtRenamed m a a') (hok : FmtRefsOK a.fmt) {uids : List Nat}
    (hu : ∀ u ∈ uids, u < a.fmt.trackUIDs.length) (al : PackAlloc.Allocated)
    (hroot : al.pack.root < a.fmt.packs.length)
    (hch : ∀ cs ∈ al.allocation, cs.1.cf < a.fmt.channels.length) :
    outputOf a'.fmt (uids.map m.σU) (renAllocated m al) =
      (Earverif.Adm.outputOf a.fmt uids al).map (renAP m) := by
  unfold Earverif.Adm.outputOf
  simp only [renAllocated, renAPack]
  rw [mapE_equivariant (f := Earverif.Adm.slotEntry a.fmt uids) (r := fun x => (m.σC x.1, x.2))
    (fun cs _ => h.slotEntry hu cs)]
  cases hi : mapE (Earverif.Adm.slotEntry a.fmt uids) al.allocation with
  | error e => rfl
  | ok inputs =>
    have hin := slotEntry_bounds hch hi
    simp only [Except.map, h.pack _ hroot]
    have hty : (renPack m (a.fmt.pack al.pack.root)).type = (a.fmt.pack al.pack.root).type := rfl
    rw [hty]
    split
    · rfl
    · simp only [renPack]
      cases ho : (a.fmt.pack al.pack.root).outputPack with
      | none => rfl
      | some out =>
        simp only [Option.map_some]
        rw [mapE_equivariant (f := Earverif.Adm.matrixEntry a.fmt inputs) (r := fun x => (m.σC x.1, x.2))
          (fun mc hmc => h.matrixEntry hok hin (hok.chans _ mc hmc))]
        cases mapE (Earverif.Adm.matrixEntry a.fmt inputs) (a.fmt.pack al.pack.root).channels <;> rfl

end FmtRenamed

/-- an item with its channel and pack indices renamed. -/
def renItemF (m : FmtMaps) (it : Item) : Item :=
  { it with channels := it.channels.map m.σC, packPaths := it.packPaths.map (List.map m.σP) }

theorem checkPairs_map {α α' β : Type} [DecidableEq β] {f : α → Except Err β} {f' : α' → Except Err β} {g : α → α'} :
    ∀ {l : List α}, (∀ x ∈ l, f' (g x) = f x) → checkPairs f' (l.map g) = checkPairs f l
  | [], _ => rfl
  | [_], _ => rfl
  | x :: y :: rest, h => by
    have ih := checkPairs_map (f := f) (f' := f') (g := g) (l := y :: rest)
      fun z hz => h z (List.mem_cons_of_mem _ hz)
    simp only [List.map_cons] at ih ⊢
    simp only [checkPairs, h x (List.mem_cons_self ..), h y (List.mem_cons_of_mem _ (List.mem_cons_self ..)), ih]

theorem getSingleParam_map {α α' β : Type} [DecidableEq β] {f : α → Except Err β} {f' : α' → Except Err β}
    {g : α → α'} {l : List α} (h : ∀ x ∈ l, f' (g x) = f x) :
    getSingleParam (l.map g) f' = getSingleParam l f := by
  unfold getSingleParam
  rw [checkPairs_map h]
  cases l with
  | nil => rfl
  | cons x xs => simp only [List.map_cons, h x (List.mem_cons_self ..)]

namespace FmtRenamed
variable {m : FmtMaps} {a a' : Adm}

theorem obj (h : FmtRenamed m a a') (i : Nat) :
    a'.obj i = { a.obj i with packs := (a.obj i).packs.map m.σP, tracks := (a.obj i).tracks.map (Option.map m.σU) } := by
  unfold Adm.obj
  rw [h.objects]
  exact getD_map_default (fun o : Obj => { o with packs := o.packs.map m.σP, tracks := o.tracks.map (Option.map m.σU) })
    a.objects i default

theorem getAvs (h : FmtRenamed m a a') (st : State) : getAvs a' st = Earverif.Adm.getAvs a st := by
  unfold Earverif.Adm.getAvs State.leaf
  cases st.objPath <;> simp [h.obj, prog_of_programmes_eq h.programmes, cont_of_contents_eq h.contents]

theorem extraOf (h : FmtRenamed m a a') (st : State) (ch : Option Nat)
    (hch : ∀ c, ch = some c → c < a.fmt.channels.length) (ad : Option Rat) :
    extraOf a' st (ch.map m.σC) ad = Earverif.Adm.extraOf a st ch ad := by
  have hleaf : State.leaf a' st = (State.leaf a st).map fun o =>
      { o with packs := o.packs.map m.σP, tracks := o.tracks.map (Option.map m.σU) } := by
    unfold State.leaf; cases st.objPath <;> simp [h.obj]
  have hfreq : ∀ g : Channel → Option Rat, (∀ c, g (renChan m c) = g c) →
      ((ch.map m.σC).bind fun c => g (a'.fmt.chan c)) = ch.bind fun c => g (a.fmt.chan c) := by
    intro g hg
    cases ch with
    | none => rfl
    | some c => simp only [Option.map_some, Option.bind_some, h.chan c (hch c rfl), hg]
  simp only [extraOf_fields, h.getAvs, hleaf, Option.bind_map, Option.map_map, prog_of_programmes_eq h.programmes,
    hfreq (·.lowPass) (fun _ => rfl), hfreq (·.highPass) (fun _ => rfl)]
  rfl

theorem getImportance (h : FmtRenamed m a a') (st : State) {pp : List Nat}
    (hpp : ∀ q ∈ pp, q < a.fmt.packs.length) :
    getImportance a' st (pp.map m.σP) = Earverif.Adm.getImportance a st pp := by
  unfold Earverif.Adm.getImportance
  rw [h.packField (·.importance) (fun _ => rfl) hpp]
  cases st.objPath <;> simp [h.obj]

theorem getExtraData (h : FmtRenamed m a a') (st : State) {ppc : List (List Nat × Nat)}
    (hppc : ∀ pc ∈ ppc, ∀ q ∈ pc.1, q < a.fmt.packs.length) (ch : Option Nat)
    (hch : ∀ c, ch = some c → c < a.fmt.channels.length) :
    getExtraData a' st (ppc.map fun pc => (pc.1.map m.σP, m.σC pc.2)) (ch.map m.σC) =
      Earverif.Adm.getExtraData a st ppc ch := by
  unfold Earverif.Adm.getExtraData
  rw [getSingleParam_map (f := fun pc => getPathParam (pc.1.map fun p => (a.fmt.pack p).absDist))
    (fun pc hpc => by simp only [h.packField (·.absDist) (fun _ => rfl) (hppc pc hpc)])]
  cases getSingleParam ppc fun pc => getPathParam (pc.1.map fun p => (a.fmt.pack p).absDist) with
  | error e => rfl
  | ok ad => simp only [h.extraOf st ch hch]

theorem getPackFormatPath (h : FmtRenamed m a a') (hok : FmtRefsOK a.fmt) {p ch : Nat}
    (hp : p < a.fmt.packs.length) (hch : ch < a.fmt.channels.length) :
    getPackFormatPath a'.fmt (m.σP p) (m.σC ch) =
      (Earverif.Adm.getPackFormatPath a.fmt p ch).map (List.map m.σP) := by
  unfold Earverif.Adm.getPackFormatPath
  rw [h.packPaths hok hp, List.filter_map]
  have hf : (packPathsFrom a.fmt p).filter
        ((fun path => (a'.fmt.pack (path.getLastD 0)).channels.contains (m.σC ch)) ∘ List.map m.σP) =
      (packPathsFrom a.fmt p).filter fun path => (a.fmt.pack (path.getLastD 0)).channels.contains ch := by
    apply List.filter_congr
    intro path hpath
    obtain ⟨hne, hlt⟩ := packPaths_lt hok hp hpath
    obtain ⟨hl1, hl2⟩ := getLastD_map_ne_nil (ρ := m.σP) hne
    simp only [Function.comp, hl1, h.pack _ (hlt _ hl2), renPack]
    rw [Bool.eq_iff_iff]
    simp only [List.contains_iff_mem]
    exact perm_mem_map h.permC hch (hok.chans _)
  rw [hf]
  generalize (packPathsFrom a.fmt p).filter (fun path => (a.fmt.pack (path.getLastD 0)).channels.contains ch) = l
  rcases l with _ | ⟨_, _ | _⟩ <;> rfl

theorem singleItem (h : FmtRenamed m a a') (hok : FmtRefsOK a.fmt) (st : State) (ty : Nat) {p : Nat}
    (hp : p < a.fmt.packs.length) {ct : Nat × TSpec} (hct : ct.1 < a.fmt.channels.length) :
    singleItem a' st ty (m.σP p) (m.σC ct.1, ct.2) =
      (Earverif.Adm.singleItem a st ty p ct).map (renItemF m) := by
  unfold Earverif.Adm.singleItem
  simp only [h.getPackFormatPath hok hp hct]
  cases hpp : Earverif.Adm.getPackFormatPath a.fmt p ct.1 with
  | error e => rfl
  | ok pp =>
    have hlt := getPackFormatPath_lt hok hp hpp
    have hged := h.getExtraData st (ppc := [(pp, ct.1)])
      (by intro pc hpc; simp only [List.mem_singleton] at hpc; subst hpc; exact hlt)
      (some ct.1) (by intro c hc; cases hc; exact hct)
    simp only [List.map_cons, List.map_nil, Option.map_some] at hged
    simp only [Except.map, hged, h.getImportance st hlt]
    cases Earverif.Adm.getExtraData a st [(pp, ct.1)] (some ct.1) with
    | error e => rfl
    | ok ex =>
      simp only [renItemF, List.map_cons, List.map_nil, h.chan _ hct, renChan]

theorem hoaBlock (h : FmtRenamed m a a') {c : Nat} (hc : c < a.fmt.channels.length) :
    (a'.fmt.chan (m.σC c)).hoa = (a.fmt.chan c).hoa := by rw [h.chan c hc]; rfl

theorem hoaPackParam (h : FmtRenamed m a a') {β : Type} [DecidableEq β] (ps : Pack → Option β)
    (hps : ∀ p, ps (renPack m p) = ps p) (bs : HoaBlock → Option β) {pc : List Nat × Nat}
    (hpc : ∀ q ∈ pc.1, q < a.fmt.packs.length) (hc : pc.2 < a.fmt.channels.length) :
    hoaPackParam a'.fmt ps bs (pc.1.map m.σP, m.σC pc.2) = Earverif.Adm.hoaPackParam a.fmt ps bs pc := by
  unfold Earverif.Adm.hoaPackParam
  simp only [h.hoaBlock hc, h.packField (fun p => ps p) hps hpc]

theorem hoaMetaOf (h : FmtRenamed m a a') {ppc : List (List Nat × Nat)}
    (hppc : ∀ pc ∈ ppc, (∀ q ∈ pc.1, q < a.fmt.packs.length) ∧ pc.2 < a.fmt.channels.length) :
    hoaMetaOf a'.fmt (ppc.map fun pc => (pc.1.map m.σP, m.σC pc.2)) = Earverif.Adm.hoaMetaOf a.fmt ppc := by
  unfold Earverif.Adm.hoaMetaOf
  dsimp only
  have hblk : ∀ pc ∈ ppc, (a'.fmt.chan (m.σC pc.2)).hoa = (a.fmt.chan pc.2).hoa :=
    fun pc hpc => h.hoaBlock (hppc pc hpc).2
  have hpp : ∀ {β : Type} [DecidableEq β] (ps : Pack → Option β) (bs : HoaBlock → Option β),
      (∀ p, ps (renPack m p) = ps p) → ∀ pc ∈ ppc,
        Earverif.Adm.hoaPackParam a'.fmt ps bs (pc.1.map m.σP, m.σC pc.2) = Earverif.Adm.hoaPackParam a.fmt ps bs pc :=
    fun ps bs hps pc hpc => h.hoaPackParam ps hps bs (hppc pc hpc).1 (hppc pc hpc).2
  have hm : ∀ {γ : Type} (g : HoaBlock → γ),
      (ppc.map fun pc => (pc.1.map m.σP, m.σC pc.2)).map (fun pc => g (a'.fmt.chan pc.2).hoa)
        = ppc.map fun pc => g (a.fmt.chan pc.2).hoa := by
    intro γ g; rw [List.map_map]; exact List.map_congr_left fun pc hpc => by simp only [Function.comp, hblk pc hpc]
  rw [getSingleParam_map (f := fun pc => (.ok (a.fmt.chan pc.2).hoa.rtime : Except Err (Option Rat)))
      (fun pc hpc => by simp only [hblk pc hpc]),
    getSingleParam_map (f := fun pc => (.ok (a.fmt.chan pc.2).hoa.duration : Except Err (Option Rat)))
      (fun pc hpc => by simp only [hblk pc hpc]),
    getSingleParam_map (f := hoaNorm a.fmt) (fun pc hpc => by unfold hoaNorm; rw [hpp _ _ (fun _ => rfl) pc hpc]),
    getSingleParam_map (f := hoaNfc a.fmt) (fun pc hpc => by unfold hoaNfc; rw [hpp _ _ (fun _ => rfl) pc hpc]),
    getSingleParam_map (f := hoaSref a.fmt) (fun pc hpc => by unfold hoaSref; rw [hpp _ _ (fun _ => rfl) pc hpc]),
    hm (·.order), hm (·.degree), hm (·.importance), hm (·.gain)]

theorem hoaPathOf (h : FmtRenamed m a a') (hok : FmtRefsOK a.fmt) {p : Nat} (hp : p < a.fmt.packs.length)
    {ct : Nat × TSpec} (hct : ct.1 < a.fmt.channels.length) :
    hoaPathOf a'.fmt (m.σP p) (m.σC ct.1, ct.2) =
      (Earverif.Adm.hoaPathOf a.fmt p ct).map fun pc => (pc.1.map m.σP, m.σC pc.2) := by
  unfold Earverif.Adm.hoaPathOf
  simp only [h.getPackFormatPath hok hp hct]
  cases Earverif.Adm.getPackFormatPath a.fmt p ct.1 <;> rfl

theorem hoaItem (h : FmtRenamed m a a') (hok : FmtRefsOK a.fmt) (st : State) {ap : AllocPack}
    (hp : ap.pack < a.fmt.packs.length) (hal : ∀ ct ∈ ap.alloc, ct.1 < a.fmt.channels.length) :
    hoaItem a' st (renAP m ap) = (Earverif.Adm.hoaItem a st ap).map (renItemF m) := by
  unfold Earverif.Adm.hoaItem
  simp only [renAP]
  rw [mapE_equivariant (f := Earverif.Adm.hoaPathOf a.fmt ap.pack) (r := fun pc => (pc.1.map m.σP, m.σC pc.2))
    (fun ct hct => h.hoaPathOf hok hp (hal ct hct))]
  cases hm : mapE (Earverif.Adm.hoaPathOf a.fmt ap.pack) ap.alloc with
  | error e => rfl
  | ok ppc =>
    have hppc : ∀ pc ∈ ppc, (∀ q ∈ pc.1, q < a.fmt.packs.length) ∧ pc.2 < a.fmt.channels.length := by
      intro pc hpc
      obtain ⟨ct, hct, hf⟩ := mapE_mem hm hpc
      unfold Earverif.Adm.hoaPathOf at hf
      split at hf <;> cases hf
      exact ⟨getPackFormatPath_lt hok hp (by assumption), hal ct hct⟩
    have hged := h.getExtraData st (ppc := ppc) (fun pc hpc => (hppc pc hpc).1) none (by intro c hc; cases hc)
    simp only [Option.map_none] at hged
    simp only [Except.map, h.hoaMetaOf hppc, hged]
    cases Earverif.Adm.hoaMetaOf a.fmt ppc with
    | error e => rfl
    | ok hmeta =>
      cases Earverif.Adm.getExtraData a st ppc none with
      | error e => rfl
      | ok ex =>
        simp only [renItemF, List.map_map, Except.ok.injEq]
        have himp : ppc.map ((fun pc => Earverif.Adm.getImportance a' st pc.1) ∘ fun pc => (pc.1.map m.σP, m.σC pc.2)) =
            ppc.map fun pc => Earverif.Adm.getImportance a st pc.1 := by
          apply List.map_congr_left
          intro pc hpc
          simp only [Function.comp, h.getImportance st (hppc pc hpc).1]
        rw [himp]
        rfl

theorem itemsOfPack (h : FmtRenamed m a a') (hok : FmtRefsOK a.fmt) (st : State) {ap : AllocPack}
    (hp : ap.pack < a.fmt.packs.length) (hal : ∀ ct ∈ ap.alloc, ct.1 < a.fmt.channels.length) :
    itemsOfPack a' st (renAP m ap) = (Earverif.Adm.itemsOfPack a st ap).map (List.map (renItemF m)) := by
  unfold Earverif.Adm.itemsOfPack
  have hty : (a'.fmt.pack (renAP m ap).pack).type = (a.fmt.pack ap.pack).type := by
    simp only [renAP, h.pack _ hp]; rfl
  simp only [hty, h.hoaItem hok st hp hal]
  split
  · simp only [renAP]
    exact mapE_equivariant (f := Earverif.Adm.singleItem a st _ ap.pack) (r := renItemF m)
      (fun ct hct => h.singleItem hok st _ hp (hal ct hct))
  · split
    · cases Earverif.Adm.hoaItem a st ap <;> rfl
    · rfl

end FmtRenamed

theorem wrappedPacks_all_bounds {f : Formats} (hok : FmtRefsOK f) {wps : List WPack} (h : wrappedPacks f = .ok wps) :
    ∀ w ∈ wps, w.id / 3 < f.packs.length ∧ w.root < f.packs.length ∧
      ∀ c ∈ w.channels, c.cf < f.channels.length ∧ ∀ q ∈ c.pfs, q < f.packs.length := by
  intro w hw
  obtain ⟨p, ws, hp, hws, hmem⟩ := wrappedPacks_mem h hw
  obtain ⟨hr, hid, q, pfs, hch, hq⟩ := (wrapOne_channels hws).1 w hmem
  refine ⟨hid ▸ hp, hr ▸ hp, fun c hc => ?_⟩
  rw [hch] at hc
  obtain ⟨s, hs, rfl⟩ := List.mem_map.1 hc
  obtain ⟨hpath, hc⟩ := mem_slots.1 hs
  refine ⟨hok.chans _ _ hc, fun x hx => ?_⟩
  rcases hq with ⟨rfl, rfl⟩ | ⟨y, hy, rfl⟩
  · exact (packPaths_lt hok hp hpath).2 x hx
  · rw [List.mem_singleton.1 hx]
    rcases hy with rfl | hy
    · exact hp
    · exact hok.enc p y hy

theorem outputOf_bounds {f : Formats} (hok : FmtRefsOK f) {uids : List Nat} {al : PackAlloc.Allocated}
    (hroot : al.pack.root < f.packs.length) (hch : ∀ cs ∈ al.allocation, cs.1.cf < f.channels.length)
    {ap : AllocPack} (h : outputOf f uids al = .ok ap) :
    ap.pack < f.packs.length ∧ ∀ ct ∈ ap.alloc, ct.1 < f.channels.length := by
  obtain ⟨hO, rfl⟩ := (outputOf_ok_iff f uids al ap).1 h
  unfold declOutput
  split
  · refine ⟨hroot, fun ct hct => ?_⟩
    obtain ⟨cs, hcs, rfl⟩ := List.mem_map.1 hct
    exact hch cs hcs
  · obtain ⟨hout, hmc⟩ := hO.2 (by omega)
    obtain ⟨out, ho⟩ := Option.ne_none_iff_exists'.1 hout
    refine ⟨by rw [ho]; exact hok.outp _ out ho, fun ct hct => ?_⟩
    obtain ⟨mc, hm, rfl⟩ := List.mem_map.1 hct
    obtain ⟨oc, hoc⟩ := Option.ne_none_iff_exists'.1 (hmc mc hm).1
    simp only [matrixOut, hoc]
    exact hok.mout mc oc hoc

/-- track references of audioObjects are in range. -/
def ObjTracksOK (a : Adm) : Prop := ∀ i u, some u ∈ (a.obj i).tracks → u < a.fmt.trackUIDs.length

theorem allocProblem_packs_renamed (m : FmtMaps) (a a' : Adm) (st : State) {wps wps' : List WPack}
    (hw : wps'.Perm (wps.map (renW m))) :
    (allocProblem a' st wps').1.packs.Perm ((allocProblem a st wps).1.packs.map (renAPack m)) := by
  rw [allocProblem_packs, allocProblem_packs]
  refine (hw.map _).trans ?_
  simp only [List.map_map]
  exact .refl _

theorem FmtRenamed.allocProblem {m : FmtMaps} {a a' : Adm} (h : FmtRenamed m a a') (hto : ObjTracksOK a)
    (st : State) {p : List Nat} (hp : st.objPath = some p) (wps wps' : List WPack) :
    (allocProblem a' st wps').1.tracks = (allocProblem a st wps).1.tracks.map (renTrack m) ∧
    (allocProblem a' st wps').1.packRefs = (allocProblem a st wps).1.packRefs.map (List.map m.σP) ∧
    (allocProblem a' st wps').1.numSilent = (allocProblem a st wps).1.numSilent ∧
    (allocProblem a' st wps').2 = (allocProblem a st wps).2.map m.σU ∧
    ∀ u ∈ (allocProblem a st wps).2, u < a.fmt.trackUIDs.length := by
  have hreal : ∀ u ∈ (a.obj (p.getLastD 0)).tracks.filterMap id, u < a.fmt.trackUIDs.length := by
    intro u hu
    simp only [List.mem_filterMap, id] at hu
    obtain ⟨x, hx, rfl⟩ := hu
    exact hto _ u hx
  unfold Earverif.Adm.allocProblem
  simp only [hp, h.obj, filterMap_id_map, List.length_map]
  refine ⟨?_, rfl, trivial, trivial, hreal⟩
  rw [List.zipIdx_map, List.map_map, List.map_map]
  apply List.map_congr_left
  intro ui hui
  have hu : ui.1 < a.fmt.trackUIDs.length := hreal ui.1 (List.mem_zipIdx hui |>.2.2 ▸ List.getElem_mem _)
  simp only [Function.comp, Prod.map, id, renTrack, h.uidChan _ hu, h.uidPack _ hu]

theorem valid_alloc_bounds {a : Adm} {st : State} {wps : List WPack} (hok : FmtRefsOK a.fmt)
    (hw : wrappedPacks a.fmt = .ok wps) {sol : PackAlloc.Sol} (hv : PackAlloc.Valid (allocProblem a st wps).1 sol) :
    ∀ al ∈ sol, al.pack.root < a.fmt.packs.length ∧ ∀ cs ∈ al.allocation, cs.1.cf < a.fmt.channels.length := by
  intro al hal
  obtain ⟨w, hwm, hwe⟩ := List.mem_map.1 (hv.packs_mem al hal)
  obtain ⟨_, hb1, hb2⟩ := wrappedPacks_all_bounds hok hw w hwm
  refine ⟨by rw [← hwe]; exact hb1, fun cs hcs => ?_⟩
  have : cs.1 ∈ al.pack.channels := by
    rw [← hv.channels al hal]; exact List.mem_map.2 ⟨cs, hcs, rfl⟩
  rw [← hwe] at this
  exact (hb2 _ this).1

/-- per state: the allocated output packs of the re-numbered document are those of the original,
renamed, up to order (uniqueness of the valid allocation, C07 `select_accepted_unique`). -/
theorem fmtRenamed_selectPackMapping {m : FmtMaps} {a a' : Adm} (h : FmtRenamed m a a') (hok : FmtRefsOK a.fmt)
    (hto : ObjTracksOK a) (hwf' : AllocWF a') (st : State) {p : List Nat} (hp : st.objPath = some p)
    {aps aps' : List AllocPack} (hs : selectPackMapping a st = .ok aps)
    (hs' : selectPackMapping a' st = .ok aps') :
    aps'.Perm (aps.map (renAP m)) ∧
      ∀ ap ∈ aps, ap.pack < a.fmt.packs.length ∧ ∀ ct ∈ ap.alloc, ct.1 < a.fmt.channels.length := by
  obtain ⟨wps, s, hw, hsel, hs⟩ := selectPackMapping_ok_inv hs
  obtain ⟨wps', hw', hwp⟩ := h.wrappedPacks hok hw
  obtain ⟨wps'', s', hw'', hsel', hs'⟩ := selectPackMapping_ok_inv hs'
  rw [hw'] at hw''
  cases hw''
  have hpk := allocProblem_packs_renamed m a a' st hwp
  obtain ⟨htr, hrf, hns, hu', hul⟩ := h.allocProblem hto st hp wps wps'
  rw [allocProblem_uids, allocProblem_uids] at hu'
  rw [allocProblem_uids] at hul
  rw [hu'] at hs'
  have hv := PackAlloc.select_accepted_valid _ s hsel
  have hperm : s'.Perm (s.map (renAllocated m)) :=
    (PackAlloc.select_accepted_unique _ (hwf' wps' st hw') s' hsel').2 _ (valid_rename m hpk htr hrf hns hv)
  have hal := valid_alloc_bounds hok hw hv
  have hmapped : mapE (outputOf a'.fmt ((stateUids a st).map m.σU)) (s.map (renAllocated m)) =
      .ok (aps.map (renAP m)) := by
    rw [mapE_equivariant (f := outputOf a.fmt (stateUids a st)) (r := renAP m)
      (fun al hal' => h.outputOf hok hul al (hal al hal').1 (hal al hal').2), hs]
    rfl
  obtain ⟨zs, hzs, hpz⟩ := mapE_perm _ hperm.symm hmapped
  rw [hs'] at hzs
  cases hzs
  refine ⟨hpz.symm, fun ap hap => ?_⟩
  obtain ⟨al, halm, hout⟩ := mapE_mem hs hap
  exact outputOf_bounds hok (hal al halm).1 (hal al halm).2 hout

theorem fmtRefsOK_of_refsInRange {a : Adm} (h : a.refsInRange = true) : FmtRefsOK a.fmt := by
  obtain ⟨_, _, _, hpk, hcn, _⟩ := refsInRange_at h
  exact ⟨fun p => (hpk p).2.1, fun p => (hpk p).1, fun p => (hpk p).2.2.2.1, fun p => (hpk p).2.2.2.2,
    fun p => (hpk p).2.2.1, fun c => (hcn c).1, fun c => (hcn c).2⟩

theorem objTracksOK_of_refsInRange {a : Adm} (h : a.refsInRange = true) : ObjTracksOK a :=
  fun i => ((refsInRange_at h).2.2.1 i).2.1

namespace FmtRenamed
variable {m : FmtMaps} {a a' : Adm}

theorem nobj (h : FmtRenamed m a a') : a'.objects.length = a.objects.length := by
  rw [h.objects, List.length_map]

theorem subs_eq (h : FmtRenamed m a a') : a'.subs = a.subs := by
  funext i; unfold Adm.subs; rw [h.obj]

theorem specStates_eq (h : FmtRenamed m a a') (prog : Option Nat) (ign : List Nat) :
    specStates a' prog ign = specStates a prog ign :=
  specStates_of_content_eq h.programmes h.contents h.nobj h.subs_eq prog ign

theorem selectComplementary_eq (h : FmtRenamed m a a') (sel : List Nat) :
    selectComplementary a' sel = selectComplementary a sel :=
  selectComplementary_congr h.nobj (fun i => by rw [h.obj]) sel

end FmtRenamed

theorem fmtRenamed_itemsOfState {m : FmtMaps} {a a' : Adm} (h : FmtRenamed m a a') (hok : FmtRefsOK a.fmt)
    (hto : ObjTracksOK a) (hwf' : AllocWF a') (st : State) {p : List Nat} (hp : st.objPath = some p)
    {its its' : List Item} (hs : itemsOfState a st = .ok its) (hs' : itemsOfState a' st = .ok its') :
    its'.Perm (its.map (renItemF m)) := by
  obtain ⟨aps, hm, hs⟩ := itemsOfState_ok_iff_packs.1 hs
  obtain ⟨aps', hm', hs'⟩ := itemsOfState_ok_iff_packs.1 hs'
  obtain ⟨hperm, hb⟩ := fmtRenamed_selectPackMapping h hok hto hwf' st hp hm hm'
  obtain ⟨zs, hzs, hpz⟩ := flatMapE_perm_map (f' := itemsOfPack a' st) (r := renAP m) (g := renItemF m) hperm
    (fun ap hap ys hys => ⟨_, by rw [h.itemsOfPack hok st (hb ap hap).1 (hb ap hap).2, hys]; rfl, .refl _⟩) hs
  rw [hs'] at hzs
  cases hzs
  exact hpz

def renRef (m : FmtMaps) : TrackRef → TrackRef
  | .channel c => .channel (m.σC c)
  | .trackFormat t => .trackFormat t

def renUid (m : FmtMaps) (u : TrackUID) : TrackUID := { u with pack := m.σP u.pack, ref := renRef m u.ref }

/-- the format part re-declared in the order given by `m` (`mi` = inverse maps), references remapped. -/
def renameFormats (m mi : FmtMaps) (a : Adm) : Adm :=
  let f := a.fmt
  { a with
    objects := a.objects.map fun o =>
      { o with packs := o.packs.map m.σP, tracks := o.tracks.map (Option.map m.σU) },
    fmt := {
      packs := (List.range f.packs.length).map fun j => renPack m (f.pack (mi.σP j)),
      channels := (List.range f.channels.length).map fun j => renChan m (f.chan (mi.σC j)),
      streamFormats := f.streamFormats.map m.σC,
      trackFormats := f.trackFormats,
      trackUIDs := (List.range f.trackUIDs.length).map fun j => renUid m (f.uid (mi.σU j)) } }

theorem renameFormats_renamed {m mi : FmtMaps} {a : Adm} (hwf : a.refsInRange = true)
    (hP : ((List.range a.fmt.packs.length).map m.σP).Perm (List.range a.fmt.packs.length))
    (hC : ((List.range a.fmt.channels.length).map m.σC).Perm (List.range a.fmt.channels.length))
    (hU : ((List.range a.fmt.trackUIDs.length).map m.σU).Perm (List.range a.fmt.trackUIDs.length))
    (hiP : ∀ i, i < a.fmt.packs.length → mi.σP (m.σP i) = i)
    (hiC : ∀ i, i < a.fmt.channels.length → mi.σC (m.σC i) = i)
    (hiU : ∀ i, i < a.fmt.trackUIDs.length → mi.σU (m.σU i) = i) :
    FmtRenamed m a (renameFormats m mi a) := by
  have hr : ∀ u, u < a.fmt.trackUIDs.length → (renameFormats m mi a).fmt.uid (m.σU u) = renUid m (a.fmt.uid u) := by
    intro u hu
    unfold Formats.uid renameFormats
    simp only
    rw [getD_map_range, if_pos (perm_lt hU hu), hiU u hu]
    rfl
  refine ⟨rfl, rfl, rfl, by simp [renameFormats], by simp [renameFormats], by simp [renameFormats],
    ?_, ?_, fun u hu => by rw [hr u hu]; rfl, fun u hu => by rw [hr u hu]; rfl, ?_, hP, hC⟩
  · intro p hp
    unfold Formats.pack renameFormats
    simp only
    rw [getD_map_range, if_pos (perm_lt hP hp), hiP p hp]
    rfl
  · intro c hc
    unfold Formats.chan renameFormats
    simp only
    rw [getD_map_range, if_pos (perm_lt hC hc), hiC c hc]
    rfl
  · intro u hu
    unfold trackChannel
    rw [hr u hu]
    simp only [renUid]
    cases href : (a.fmt.uid u).ref with
    | channel c => rfl
    | trackFormat t =>
      simp only [renRef, renameFormats]
      obtain ⟨_, _, _, _, _, _, htf, huid⟩ := refsInRange_at hwf
      have ht := (huid u hu).2.1 t href
      have hs : a.fmt.trackFormats.getD t 0 < a.fmt.streamFormats.length := htf _ (getD_mem_of_lt ht 0)
      rw [List.getD_eq_getElem?_getD] at hs
      simp only [List.getD_eq_getElem?_getD, List.getElem?_map, List.getElem?_eq_getElem hs,
        Option.map_some, Option.getD_some]

section FmtSuccess
open PackAlloc (Problem Sol Valid WF SolEquiv dropEmpty)

def renNode (m : FmtMaps) : PNode → PNode
  | .pack i => .pack (m.σP i)
  | .chan c => .chan (m.σC c)

theorem mtVisit_bounds {f : Formats} (hok : FmtRefsOK f) : ∀ fuel p, p < f.packs.length →
    ∀ n ∈ mtVisit f fuel p, (∀ i, n = .pack i → i < f.packs.length) ∧ (∀ c, n = .chan c → c < f.channels.length)
  | 0, _, _, n, hn => by simp [mtVisit] at hn
  | fuel + 1, p, hp, n, hn => by
    simp only [mtVisit, List.mem_cons, List.mem_append, List.mem_flatMap, List.mem_map] at hn
    rcases hn with rfl | ⟨s, hs, hn⟩ | ⟨c, hc, rfl⟩
    · exact ⟨fun i hi => (by cases hi; exact hp), fun c hc => (by cases hc)⟩
    · exact mtVisit_bounds hok fuel s (hok.subs p s hs) n hn
    · exact ⟨fun i hi => (by cases hi), fun c' hc' => (by cases hc'; exact hok.chans p c hc)⟩

theorem FmtRenamed.mtVisit {m : FmtMaps} {a a' : Adm} (h : FmtRenamed m a a') (hok : FmtRefsOK a.fmt) :
    ∀ fuel p, p < a.fmt.packs.length →
      mtVisit a'.fmt fuel (m.σP p) = (Earverif.Adm.mtVisit a.fmt fuel p).map (renNode m)
  | 0, _, _ => rfl
  | fuel + 1, p, hp => by
    simp only [Earverif.Adm.mtVisit, h.pack p hp, renPack, List.map_cons, List.map_append, List.map_map,
      List.flatMap_map, List.map_flatMap, renNode]
    congr 2
    · exact flatMap_congr' fun s hs => FmtRenamed.mtVisit h hok fuel s (hok.subs p s hs)

theorem FmtRenamed.multitreeOK {m : FmtMaps} {a a' : Adm} (h : FmtRenamed m a a') (hok : FmtRefsOK a.fmt)
    (hmt : multitreeOK a.fmt = true) : multitreeOK a'.fmt = true := by
  unfold Earverif.Adm.multitreeOK at hmt ⊢
  simp only [List.all_eq_true, List.mem_range, decide_eq_true_eq] at hmt ⊢
  intro p' hp'
  rw [h.npacks] at hp'
  obtain ⟨p, hpm, rfl⟩ := List.mem_map.1 (h.permP.mem_iff.2 (List.mem_range.2 hp'))
  have hp := List.mem_range.1 hpm
  rw [h.npacks, h.mtVisit hok _ p hp]
  refine nodup_map_of_inj_on (hmt p hp) ?_
  intro x hx y hy hxy
  have bx := mtVisit_bounds hok _ p hp x hx
  have b_y := mtVisit_bounds hok _ p hp y hy
  cases x <;> cases y <;> simp only [renNode, PNode.pack.injEq, PNode.chan.injEq, reduceCtorEq] at hxy
  · rw [perm_inj h.permP (bx.1 _ rfl) (b_y.1 _ rfl) hxy]
  · rw [perm_inj h.permC (bx.2 _ rfl) (b_y.2 _ rfl) hxy]

/-- renaming of indices (`m`) followed by a move of the track identities (`g`). -/
def rrTrack (m : FmtMaps) (g : Nat → Nat) (t : PackAlloc.Track) : PackAlloc.Track := reTrack g (renTrack m t)

def rrAllocated (m : FmtMaps) (g : Nat → Nat) (al : PackAlloc.Allocated) : PackAlloc.Allocated :=
  reAllocated g (renAllocated m al)

/-- `prob'` is `prob` with pack/channel indices renamed by `m` and track identities moved by `g`, the
`AllocationPack`s and tracks listed in any order; `mi`, `k` undo `m`, `g` on everything `prob` mentions.  `g` is the
identity except in CHNA-only mode (`fmtRenamed_stateIso`). -/
structure ProbIso (m mi : FmtMaps) (g k : Nat → Nat) (prob prob' : Problem) : Prop where
  packs : prob'.packs.Perm (prob.packs.map (renAPack m))
  tracks : (prob.tracks.map (rrTrack m g)).Perm prob'.tracks
  refs : prob'.packRefs = prob.packRefs.map (List.map m.σP)
  silent : prob'.numSilent = prob.numSilent
  invP : ∀ p ∈ prob.packs, renAPack mi (renAPack m p) = p
  invT : ∀ t ∈ prob.tracks, rrTrack mi k (rrTrack m g t) = t
  invR : ∀ r, prob.packRefs = some r → r.map (fun x => mi.σP (m.σP x)) = r

namespace ProbIso
variable {m mi : FmtMaps} {g k : Nat → Nat} {prob prob' : Problem}

theorem symm (h : ProbIso m mi g k prob prob') : ProbIso mi m k g prob' prob := by
  refine ⟨?_, ?_, ?_, h.silent.symm, ?_, ?_, ?_⟩
  · have := (h.packs.map (renAPack mi)).symm
    rwa [List.map_map, (map_eq_self_iff (f := renAPack mi ∘ renAPack m)).2 h.invP] at this
  · have := (h.tracks.map (rrTrack mi k)).symm
    rwa [List.map_map, (map_eq_self_iff (f := rrTrack mi k ∘ rrTrack m g)).2 h.invT] at this
  · rw [h.refs]
    cases hr : prob.packRefs with
    | none => rfl
    | some r =>
      simp only [Option.map_some, List.map_map, Option.some.injEq]
      exact (h.invR r hr).symm
  · intro p' hp'
    obtain ⟨p, hp, rfl⟩ := List.mem_map.1 (h.packs.mem_iff.1 hp')
    rw [h.invP p hp]
  · intro t' ht'
    obtain ⟨t, ht, rfl⟩ := List.mem_map.1 (h.tracks.mem_iff.2 ht')
    rw [h.invT t ht]
  · intro r' hr'
    rw [h.refs] at hr'
    obtain ⟨r, hr, rfl⟩ := Option.map_eq_some_iff.1 hr'
    rw [List.map_map]
    exact List.map_congr_left fun x hx => by simp only [Function.comp, map_eq_self_iff.1 (h.invR r hr) x hx]

theorem valid (h : ProbIso m mi g k prob prob') {sol : Sol} (hv : Valid prob sol) :
    Valid prob' (sol.map (rrAllocated m g)) := by
  have e : rrAllocated m g = mapAllocated (renAPack m) (renCh m) (rrTrack m g) := by
    funext al
    simp only [rrAllocated, reAllocated, renAllocated, mapAllocated, reSlot, renSlot, List.map_map, Function.comp_def,
      Option.map_map]
    rfl
  exact e ▸ valid_rename_with m (fun _ => ⟨rfl, rfl⟩) h.packs h.tracks h.refs h.silent hv

theorem rrAllocated_inv (h : ProbIso m mi g k prob prob') {sol : Sol} (hv : Valid prob sol)
    {al : PackAlloc.Allocated} (hal : al ∈ sol) : rrAllocated mi k (rrAllocated m g al) = al := by
  have hpk := h.invP _ (hv.packs_mem al hal)
  have hch : ∀ c ∈ al.pack.channels, renCh mi (renCh m c) = c :=
    (map_eq_self_iff (f := renCh mi ∘ renCh m)).1
      (by simpa [renAPack, List.map_map] using congrArg PackAlloc.Pack.channels hpk)
  have hchan := hv.channels al hal
  obtain ⟨pk, allocation⟩ := al
  simp only [rrAllocated, reAllocated, renAllocated, List.map_map, PackAlloc.Allocated.mk.injEq]
  simp only at hpk hch hchan
  refine ⟨hpk, ?_⟩
  refine map_eq_self_iff.2 fun cs hcs => ?_
  obtain ⟨c, s⟩ := cs
  have hc : c ∈ pk.channels := by rw [← hchan]; exact List.mem_map.2 ⟨(c, s), hcs, rfl⟩
  simp only [Function.comp, Prod.mk.injEq]
  refine ⟨hch c hc, ?_⟩
  rcases s with _ | _ | t
  · rfl
  · rfl
  · have := h.invT t (hv.tracks.mem_iff.1 (PackAlloc.mem_realTracks_of hal (List.mem_filterMap.2 ⟨_, hcs, rfl⟩)))
    simp only [rrTrack] at this
    simp only [reSlot, renSlot, Option.map_some, this]

theorem roundtrip (h : ProbIso m mi g k prob prob') {sol : Sol} (hv : Valid prob sol) :
    (sol.map (rrAllocated m g)).map (rrAllocated mi k) = sol := by
  rw [List.map_map]
  exact map_eq_self_iff.2 fun al hal => h.rrAllocated_inv hv hal

/-- `select_pack_mapping` accepts `prob'` whenever it accepts `prob`, with the renamed allocation
(C07 `accept_iff_unique`: validity and uniqueness transfer there and back). -/
theorem accepted (h : ProbIso m mi g k prob prob') (hwf : WF prob) (hwf' : WF prob') {sol : Sol}
    (hs : PackAlloc.selectPackMapping prob = .accepted sol) :
    ∃ sol', PackAlloc.selectPackMapping prob' = .accepted sol' ∧ SolEquiv sol' (sol.map (rrAllocated m g)) :=
  accepted_transfer hwf hwf' (fun _ => h.valid) (fun _ hv'' => ⟨h.symm.valid hv'', h.symm.roundtrip hv''⟩) hs

theorem dropEmpty (h : ProbIso m mi g k prob prob') : ProbIso m mi g k (dropEmpty prob) (dropEmpty prob') := by
  refine ⟨?_, h.tracks, h.refs, h.silent, fun p hp => h.invP p (List.mem_filter.1 hp).1, h.invT, h.invR⟩
  show (prob'.packs.filter PackAlloc.hasChannels).Perm ((prob.packs.filter PackAlloc.hasChannels).map (renAPack m))
  have := h.packs.filter PackAlloc.hasChannels
  rwa [List.filter_map, show PackAlloc.hasChannels ∘ renAPack m = PackAlloc.hasChannels from
    funext fun p => by simp [PackAlloc.hasChannels, renAPack]] at this

end ProbIso

theorem renWid_inv {m mi : FmtMaps} {n : Nat} (hi : ∀ i, i < n → mi.σP (m.σP i) = i) {i : Nat} (h : i / 3 < n) :
    renWid mi (renWid m i) = i := by
  unfold renWid
  rw [show (3 * m.σP (i / 3) + i % 3) / 3 = m.σP (i / 3) by omega,
    show (3 * m.σP (i / 3) + i % 3) % 3 = i % 3 by omega, hi _ h]
  omega

theorem uidPack_lt {a : Adm} (hwf : a.refsInRange = true) {u : Nat} (hu : u < a.fmt.trackUIDs.length) :
    (a.fmt.uid u).pack < a.fmt.packs.length :=
  ((refsInRange_at hwf).2.2.2.2.2.2.2 u hu).1

theorem objPacks_lt {a : Adm} (hwf : a.refsInRange = true) (i : Nat) : ∀ p ∈ (a.obj i).packs, p < a.fmt.packs.length :=
  ((refsInRange_at hwf).2.2.1 i).1

/-- the inverse renaming maps: `mi` undoes `m` on the indices of the document.  Also here: `σU` permutes the
audioTrackUID indices (`permU`; its siblings `permP`, `permC` are fields of `FmtRenamed`). -/
structure FmtInv (m mi : FmtMaps) (f : Formats) : Prop where
  permU : ((List.range f.trackUIDs.length).map m.σU).Perm (List.range f.trackUIDs.length)
  invP : ∀ i, i < f.packs.length → mi.σP (m.σP i) = i
  invC : ∀ i, i < f.channels.length → mi.σC (m.σC i) = i
  invU : ∀ i, i < f.trackUIDs.length → mi.σU (m.σU i) = i

theorem stateUids_lt {a : Adm} (hwf : a.refsInRange = true) (st : State) :
    ∀ u ∈ stateUids a st, u < a.fmt.trackUIDs.length := by
  unfold stateUids
  cases st.objPath with
  | none => intro u hu; exact List.mem_range.1 hu
  | some p =>
    intro u hu
    simp only [List.mem_filterMap, id] at hu
    obtain ⟨x, hx, rfl⟩ := hu
    exact objTracksOK_of_refsInRange hwf _ u hx

/-- per state: the allocation problem of the re-numbered document corresponds to that of the original
(`g` = where the identity of a selected track moves: nowhere for the tracks of an audioObject, to the new
position of the audioTrackUID in CHNA-only mode). -/
theorem fmtRenamed_stateIso {m mi : FmtMaps} {a a' : Adm} (h : FmtRenamed m a a') (hinv : FmtInv m mi a.fmt)
    (hwf : a.refsInRange = true) (st : State) {wps wps' : List WPack} (hw : wrappedPacks a.fmt = .ok wps)
    (hwp : wps'.Perm (wps.map (renW m))) :
    ∃ g k : Nat → Nat,
      ProbIso m mi g k (allocProblem a st wps).1 (allocProblem a' st wps').1 ∧
      (∀ i, i < (stateUids a st).length → g i < (stateUids a' st).length ∧
        (stateUids a' st)[g i]? = ((stateUids a st).map m.σU)[i]?) := by
  have hok := fmtRefsOK_of_refsInRange hwf
  have hul := stateUids_lt hwf st
  have hpacks := allocProblem_packs_renamed m a a' st hwp
  have hinvP : ∀ p ∈ (allocProblem a st wps).1.packs, renAPack mi (renAPack m p) = p := by
    intro p hp
    rw [allocProblem_packs] at hp
    obtain ⟨w, hwm, rfl⟩ := List.mem_map.1 hp
    obtain ⟨b1, b2, b3⟩ := wrappedPacks_all_bounds hok hw w hwm
    simp only [renAPack, List.map_map, PackAlloc.Pack.mk.injEq]
    refine ⟨renWid_inv hinv.invP b1, hinv.invP _ b2, map_eq_self_iff.2 fun c hc => ?_⟩
    obtain ⟨cf, pfs⟩ := c
    obtain ⟨c1, c2⟩ := b3 _ hc
    simp only [Function.comp, renCh, List.map_map, PackAlloc.Channel.mk.injEq]
    exact ⟨hinv.invC _ c1, map_eq_self_iff.2 fun q hq => hinv.invP q (c2 q hq)⟩
  have hinvR : ∀ r, (allocProblem a st wps).1.packRefs = some r → r.map (fun x => mi.σP (m.σP x)) = r := by
    intro r hr
    rw [(allocProblem_fields a st wps).2.2.1] at hr
    unfold State.leaf at hr
    cases hp : st.objPath with
    | none => simp [hp] at hr
    | some p =>
      simp only [hp, Option.map_some, Option.some.injEq] at hr
      subst hr
      exact map_eq_self_iff.2 fun q hq => hinv.invP q (objPacks_lt hwf _ q hq)
  have hinvT : ∀ (g k : Nat → Nat), (∀ i, i < (stateUids a st).length → k (g i) = i) →
      ∀ t ∈ (allocProblem a st wps).1.tracks, rrTrack mi k (rrTrack m g t) = t := by
    intro g k hkg t ht
    rw [allocProblem_tracks_eq] at ht
    obtain ⟨i, hi, rfl⟩ := List.mem_map.1 ht
    have hi' := List.mem_range.1 hi
    have hu : (stateUids a st).getD i 0 < a.fmt.trackUIDs.length := hul _ (getD_mem_of_lt hi' 0)
    simp only [rrTrack, reTrack, renTrack, PackAlloc.Track.mk.injEq]
    exact ⟨hkg i hi', hinv.invC _ (trackChannel_lt hwf hu), hinv.invP _ (uidPack_lt hwf hu)⟩
  cases hp : st.objPath with
  | some p =>
    obtain ⟨htr, hrf, hns, hu', _⟩ := h.allocProblem (objTracksOK_of_refsInRange hwf) st hp wps wps'
    rw [allocProblem_uids, allocProblem_uids] at hu'
    refine ⟨id, id, ⟨hpacks, ?_, hrf, hns, hinvP, hinvT id id (fun _ _ => rfl), hinvR⟩, fun i hi => ?_⟩
    · rw [htr]
      exact .refl _
    · rw [hu']
      exact ⟨by simpa using hi, rfl⟩
  | none =>
    have hu1 : stateUids a st = List.range a.fmt.trackUIDs.length := by simp [stateUids, hp]
    have hu2 : stateUids a' st = List.range a.fmt.trackUIDs.length := by simp [stateUids, hp, h.nuids]
    refine ⟨m.σU, mi.σU, ⟨hpacks, ?_, ?_, ?_, hinvP, hinvT m.σU mi.σU (fun i hi => hinv.invU i (by simpa [hu1] using hi)),
      hinvR⟩, fun i hi => ?_⟩
    · rw [allocProblem_tracks_eq, allocProblem_tracks_eq, hu1, hu2, List.map_map, List.length_range]
      have hr : ∀ j, j < a.fmt.trackUIDs.length → (List.range a.fmt.trackUIDs.length).getD j 0 = j :=
        fun j hj => by simp [List.getD_eq_getElem?_getD, List.getElem?_range hj]
      refine (List.Perm.of_eq ?_).trans (hinv.permU.map _)
      rw [List.map_map]
      refine List.map_congr_left fun i hi => ?_
      have hi' := List.mem_range.1 hi
      simp only [Function.comp, rrTrack, reTrack, renTrack, hr i hi', hr _ (perm_lt hinv.permU hi'), h.uidChan i hi',
        h.uidPack i hi']
    · simp [allocProblem, hp]
    · simp [allocProblem, hp]
    · rw [hu1, List.length_range] at hi
      rw [hu2, hu1]
      have := perm_lt hinv.permU hi
      simp [this, hi]

theorem FmtRenamed.wrappedPacks_back {m : FmtMaps} {a a' : Adm} (h : FmtRenamed m a a') (hok : FmtRefsOK a.fmt)
    {wps' : List WPack} (hw' : Earverif.Adm.wrappedPacks a'.fmt = .ok wps') :
    ∃ wps, Earverif.Adm.wrappedPacks a.fmt = .ok wps := by
  rw [wrappedPacks_eq] at hw' ⊢
  obtain ⟨hall, _⟩ := (flatMapE_ok_iff _ _ _).1 hw'
  refine ⟨_, (flatMapE_ok_iff _ _ _).2 ⟨fun p hp => ?_, rfl⟩⟩
  have hp' := List.mem_range.1 hp
  obtain ⟨ws', hws'⟩ := hall (m.σP p) (List.mem_range.2 (by rw [h.npacks]; exact perm_lt h.permP hp'))
  rw [h.wrapOne hok hp'] at hws'
  obtain ⟨ws, hws, _⟩ := except_map_ok hws'
  exact ⟨ws, hws⟩

theorem fmtRenamed_itemsOfState_iff {m mi : FmtMaps} {a a' : Adm} (h : FmtRenamed m a a')
    (hinv : FmtInv m mi a.fmt) (hwf : a.refsInRange = true) (hmt : multitreeOK a.fmt = true) (st : State) :
    (∀ its, itemsOfState a st = .ok its →
      ∃ its', itemsOfState a' st = .ok its' ∧ its'.Perm (its.map (renItemF m))) ∧
    (∀ its', itemsOfState a' st = .ok its' → ∃ its, itemsOfState a st = .ok its) := by
  have hok := fmtRefsOK_of_refsInRange hwf
  have hmt' := h.multitreeOK hok hmt
  cases hw : wrappedPacks a.fmt with
  | error e =>
    refine ⟨fun its hs => ?_, fun its' hs' => ?_⟩
    · obtain ⟨_, _, _, hw0, _⟩ := itemsOfState_ok_inv hs
      rw [hw] at hw0
      cases hw0
    · obtain ⟨_, _, _, hw', _⟩ := itemsOfState_ok_inv hs'
      obtain ⟨_, hwps⟩ := h.wrappedPacks_back hok hw'
      rw [hw] at hwps
      cases hwps
  | ok wps =>
    obtain ⟨wps', hw', hwp⟩ := h.wrappedPacks hok hw
    obtain ⟨g, k, iso, huids⟩ := fmtRenamed_stateIso h hinv hwf st hw hwp
    have iso0 := iso.dropEmpty
    have hwf0 := allocWF0_of_multitree hmt wps st hw
    have hwf0' := allocWF0_of_multitree hmt' wps' st hw'
    have hul := stateUids_lt hwf st
    have hal : ∀ {sol : Sol}, Valid (allocProblem a st wps).1 sol → ∀ al ∈ sol,
        al.pack.root < a.fmt.packs.length ∧ ∀ cs ∈ al.allocation, cs.1.cf < a.fmt.channels.length :=
      fun hv => valid_alloc_bounds hok hw hv
    have hout : ∀ {sol : Sol}, Valid (allocProblem a st wps).1 sol → ∀ al ∈ sol,
        outputOf a'.fmt (stateUids a' st) (rrAllocated m g al) =
          (outputOf a.fmt (stateUids a st) al).map (renAP m) := by
      intro sol hv al halm
      rw [← h.outputOf hok hul al (hal hv al halm).1 (hal hv al halm).2]
      refine outputOf_reAllocated fun cs hcs t ht => ?_
      simp only [renAllocated, List.mem_map] at hcs
      obtain ⟨cs0, hcs0, rfl⟩ := hcs
      obtain ⟨o, ho, ht⟩ := Option.map_eq_some_iff.1 ht
      obtain ⟨t0, rfl, rfl⟩ := Option.map_eq_some_iff.1 ht
      exact (huids t0.id (valid_track_id_lt hv halm hcs0 ho)).2
    have hmap : ∀ {sol sol' : Sol}, Valid (allocProblem a st wps).1 sol → SolEquiv sol' (sol.map (rrAllocated m g)) →
        ∀ {aps : List AllocPack}, mapE (outputOf a.fmt (stateUids a st)) sol = .ok aps →
          ∃ zs, mapE (outputOf a'.fmt (stateUids a' st)) sol' = .ok zs ∧ (aps.map (renAP m)).Perm zs := by
      intro sol sol' hv hequiv aps hm
      have hmapped : mapE (outputOf a'.fmt (stateUids a' st)) (sol.map (rrAllocated m g)) = .ok (aps.map (renAP m)) := by
        rw [mapE_equivariant (f := outputOf a.fmt (stateUids a st)) (r := renAP m) (fun al hal' => hout hv al hal'), hm]
        rfl
      exact mapE_perm _ hequiv.symm hmapped
    have hitems : ∀ {sol : Sol}, Valid (allocProblem a st wps).1 sol →
        ∀ {aps : List AllocPack}, mapE (outputOf a.fmt (stateUids a st)) sol = .ok aps → ∀ ap ∈ aps,
          itemsOfPack a' st (renAP m ap) = (itemsOfPack a st ap).map (List.map (renItemF m)) := by
      intro sol hv aps hm ap hap
      obtain ⟨al, halm, ho⟩ := mapE_mem hm hap
      have hb := outputOf_bounds hok (hal hv al halm).1 (hal hv al halm).2 ho
      exact h.itemsOfPack hok st hb.1 hb.2
    refine ⟨fun its hs => ?_, fun its' hs' => ?_⟩
    -- forth: `iso0.accepted` gives the renamed allocation up to `≈`; its output packs (`hmap`), items (`hitems`) are renamed
    · obtain ⟨wps0, sol, aps, hw0, hsel, hm, hs⟩ := itemsOfState_ok_inv hs
      rw [hw] at hw0
      cases hw0
      have hv := PackAlloc.select_accepted_valid _ sol hsel
      rw [← PackAlloc.selectPackMapping_dropEmpty] at hsel
      obtain ⟨sol', hs', hequiv⟩ := iso0.accepted hwf0 hwf0' hsel
      rw [PackAlloc.selectPackMapping_dropEmpty] at hs'
      obtain ⟨zs, hzs, hpz⟩ := hmap hv hequiv hm
      rw [itemsOfState_of_accepted hw' hs', hzs]
      exact flatMapE_perm_map (r := renAP m) hpz.symm
        (fun ap hap ys hys => ⟨_, by rw [hitems hv hm ap hap, hys]; rfl, .refl _⟩) hs
    -- back: acceptance is pulled to `a` (`iso0.symm`) and the accepted allocation pushed forward again; `selectPackMapping`
    -- is a function, so its image is `sol'` up to `≈`; then every output pack and item list of `a` exists because its
    -- renamed twin on `a'` does (`hout`, `hitems` read right to left with `except_map_ok`)
    · obtain ⟨wps0, sol', aps', hw0, hsel', hm', hs'⟩ := itemsOfState_ok_inv hs'
      rw [hw'] at hw0
      cases hw0
      rw [← PackAlloc.selectPackMapping_dropEmpty] at hsel'
      obtain ⟨sol, hsD, _⟩ := iso0.symm.accepted hwf0' hwf0 hsel'
      obtain ⟨sol'', hs'', hequiv⟩ := iso0.accepted hwf0 hwf0' hsD
      rw [hsel'] at hs''
      cases hs''
      rw [PackAlloc.selectPackMapping_dropEmpty] at hsD
      have hv := PackAlloc.select_accepted_valid _ sol hsD
      obtain ⟨hall', _⟩ := (mapE_ok_iff _ _ _).1 hm'
      have hallo : ∀ al ∈ sol, ∃ ap, outputOf a.fmt (stateUids a st) al = .ok ap := by
        intro al halm
        obtain ⟨ap', hap'⟩ := hall' _ (hequiv.mem_iff.2 (List.mem_map.2 ⟨al, halm, rfl⟩))
        rw [hout hv al halm] at hap'
        obtain ⟨ap, hap, _⟩ := except_map_ok hap'
        exact ⟨ap, hap⟩
      have hm := mapE_ok_of_all _ _ hallo
      obtain ⟨zs, hzs, hpz⟩ := hmap hv hequiv hm
      rw [hm'] at hzs
      cases hzs
      obtain ⟨halli', _⟩ := (flatMapE_ok_iff _ _ _).1 hs'
      have halli : ∀ ap ∈ sol.map (okVal (outputOf a.fmt (stateUids a st))), ∃ zs, itemsOfPack a st ap = .ok zs := by
        intro ap hap
        obtain ⟨zs', hzs'⟩ := halli' _ (hpz.mem_iff.1 (List.mem_map.2 ⟨ap, hap, rfl⟩))
        rw [hitems hv hm ap hap] at hzs'
        obtain ⟨zs, hz, _⟩ := except_map_ok hzs'
        exact ⟨zs, hz⟩
      rw [itemsOfState_of_accepted hw hsD, hm]
      exact ⟨_, (flatMapE_ok_iff _ _ _).2 ⟨halli, rfl⟩⟩

end FmtSuccess

end Earverif.Adm
