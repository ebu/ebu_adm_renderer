/- C14, part 2 (everything after Proofs/C14.lean, not only Matrix packs): the Matrix branch of validation
   (`validateMatrixPack_spec`), `_validate_avs_references`, what `validate_structure` establishes (`StructOk`,
   `validateStructure_spec` and its projections), the steps of `_get_rendering_items`, the allocation packs (`PatOk`,
   `patterns_spec`), the Matrix branch of the allocator (`renderingItems_noInt`) and the states of
   `_select_programme_content_objects` (`StateOk`, `selectStates_spec`, `avsSelected_noInt`). -/
import Earverif.Proofs.C14
namespace Earverif.Validate
open Earverif.AdmV

/-! ### `matrix.type_of` / `input_pack_format` -/

theorem typeOf_total {p : Pack} (h : ¬(p.input.isNone = true ∧ p.output.isNone = true)) : ∃ t, typeOf p = .ok t := by
  unfold typeOf
  cases hi : p.input <;> cases ho : p.output <;> simp_all

/-- `matrix.type_of` answers according to which of the two references are there -/
theorem typeOf_ok {p : Pack} {t : MType} (h : typeOf p = .ok t) :
    (t ≠ .decode → ∃ i, p.input = some i) ∧ (t ≠ .encode → ∃ o, p.output = some o) := by
  unfold typeOf at h
  cases hi : p.input <;> cases ho : p.output <;> simp_all

/-- `_validate_matrix_channel`: the `[block_format] = ...` follows the length check -/
theorem validateMatrixChannel_spec {H : Prop} (ci : Nat) (c : Channel) :
    Spec H (validateMatrixChannel ci c) fun _ => c.blocks.length = 1 := by
  refine .guard fun hl => ?_
  have hl : c.blocks.length = 1 := by simpa using hl
  obtain ⟨b, _, hb⟩ := unpack1_singleton hl
  rw [hb]
  exact .guard fun _ => (Spec.forE (P := fun _ => True) fun _ _ => .guard fun _ => .guard fun _ => .ok trivial).mono
    fun _ _ => hl

/-- the guard in front of `matrix.type_of(apf_encode)` makes it total -/
theorem validateEncodeRef_spec {H : Prop} (d : Doc) (pi e : Nat) :
    Spec H (validateEncodeRef d pi e) fun _ => (d.pack e).type = .matrix ∧ typeOf (d.pack e) = .ok .encode := by
  refine .guard fun hty => .guard fun hio => ?_
  obtain ⟨t, ht⟩ := typeOf_total (p := d.pack e) (by simpa using hio)
  rw [ht]
  exact .guard fun hne => .ok ⟨by simpa using hty, by simpa using hne⟩

theorem validateEncodeRef_noInt (d : Doc) (pi e : Nat) : NoInt (validateEncodeRef d pi e) :=
  (validateEncodeRef_spec d pi e).1 trivial

/-- what a successful `_validate_matrix_apf_references` establishes -/
structure ApfRefsOk (d : Doc) (p : Pack) : Prop where
  typed : ∃ t, typeOf p = .ok t ∧ (t ≠ .decode → p.encodePacks = []) ∧ (t = .decode → p.encodePacks.length = 1)
  inNotMatrix : isMatrixRef d p.input = false
  outNotMatrix : isMatrixRef d p.output = false
  encodes : ∀ e ∈ p.encodePacks, ∃ pi, validateEncodeRef d pi e = .ok ()
  noSub : p.packs = []

theorem validateMatrixApfRefs_spec {H : Prop} (d : Doc) (pi : Nat) (p : Pack) :
    Spec H (validateMatrixApfRefs d pi p) fun _ => ApfRefsOk d p := by
  refine .guard fun hio => ?_
  obtain ⟨t, ht⟩ := typeOf_total (p := p) (by simpa using hio)
  rw [ht]
  refine .guard fun h1 => .guard fun h2 => .guard fun h3 => .guard fun h4 => ?_
  refine (Spec.forE (P := fun e => ∃ pi, validateEncodeRef d pi e = .ok ()) fun e _ =>
    (Spec.of_noInt fun _ => validateEncodeRef_noInt d pi e).mono fun _ h => ⟨pi, h⟩).seq (fun _ h => h) fun _ henc => ?_
  refine .guard fun h5 => .ok ⟨⟨t, ht, fun hnd => ?_, fun hd => ?_⟩, by simpa using h1, by simpa using h2, henc,
    by simpa using h5⟩
  · simpa [hnd] using h3
  · simpa [hd] using h4

/-- what ran before the pack loop of `_validate_matrix_types` and makes it safe -/
structure MatrixPre (d : Doc) : Prop where
  elements : validateElements d = .ok ()
  chTypes : validatePackChannelTypes d = .ok ()
  /-- what the first loop of `_validate_matrix_types` establishes -/
  chans : ∀ c ∈ d.channels, c.type = .matrix → c.blocks.length = 1

/-- the channels of a Matrix pack: exactly one block each, every coefficient has an inputChannelFormat -/
theorem matrix_pack_channels {d : Doc} (h : MatrixPre d) {p : Nat} (hp : (d.pack p).type = .matrix) :
    ∀ mc ∈ (d.pack p).channels, ∃ b, (d.chan mc).blocks = [b] ∧ ∀ co ∈ b.coeffs, ∃ x, co.input = some x := by
  intro mc hmcm
  have hty : (d.chan mc).type = .matrix :=
    (packChannelTypes_ok h.chTypes _ (getD_mem default (pack_lt hp (by decide))) mc hmcm).trans hp
  have hcm : d.chan mc ∈ d.channels := getD_mem default (chan_lt hty (by decide))
  obtain ⟨b, hb, _⟩ := unpack1_singleton (h.chans _ hcm hty)
  exact ⟨b, hb, fun co hco => Option.isSome_iff_exists.mp
    (((validateElements_spec (H := True) d).2 () h.elements).1 _ hcm b (by rw [hb]; exact List.mem_singleton_self b) co hco)⟩

theorem inputPackOf_ok {d : Doc} {p : Pack} (h : ApfRefsOk d p) : ∃ ip, inputPackOf p = .ok ip := by
  obtain ⟨t, ht, _, hdec⟩ := h.typed
  unfold inputPackOf
  rw [ht]
  cases t with
  | decode =>
    obtain ⟨e, _, he⟩ := unpack1_singleton (hdec rfl)
    exact ⟨e, he⟩
  | encode => obtain ⟨i, hi⟩ := (typeOf_ok ht).1 (by decide); exact ⟨i, by simp [hi]⟩
  | direct => obtain ⟨i, hi⟩ := (typeOf_ok ht).1 (by decide); exact ⟨i, by simp [hi]⟩

theorem validateInputRefsChannel_spec {d : Doc} {ip : Nat} {ics : List Nat} {mc : Nat} :
    Spec (∃ b, (d.chan mc).blocks = [b] ∧ ∀ co ∈ b.coeffs, ∃ x, co.input = some x)
      (validateInputRefsChannel d ip ics mc) fun _ =>
      ∃ b, (d.chan mc).blocks = [b] ∧ ∀ co ∈ b.coeffs, ∃ c, co.input = some c ∧ c ∈ ics := by
  unfold validateInputRefsChannel
  refine ((unpack1_spec _).weaken fun ⟨b, hb, _⟩ => by rw [hb]; rfl).seq (fun _ h => h) fun b hb => ?_
  refine (Spec.forE (P := fun co => ∃ c, co.input = some c ∧ c ∈ ics) fun co hcom => ?_).mono fun _ h => ⟨b, hb, h⟩
  cases hx : co.input with
  | none =>
    refine .internal fun ⟨b', hb', hco⟩ => ?_
    cases hb.symm.trans hb'
    obtain ⟨x, h⟩ := hco co hcom
    rw [hx] at h; cases h
  | some x => exact .ite (fun hin => .ok ⟨x, rfl, by simpa using hin⟩) fun _ => .adm

theorem validateMatrixInputRefs_spec {d : Doc} {pi : Nat} (hp : (d.pack pi).type = .matrix)
    (hns : (d.pack pi).packs = []) :
    Spec (MatrixPre d ∧ ApfRefsOk d (d.pack pi)) (validateMatrixInputRefs d pi) fun _ =>
      ∃ ip, inputPackOf (d.pack pi) = .ok ip ∧ ∀ mc ∈ (d.pack pi).channels, ∃ b, (d.chan mc).blocks = [b] ∧
        ∀ co ∈ b.coeffs, ∃ c, co.input = some c ∧ c ∈ packChannels d ip := by
  unfold validateMatrixInputRefs
  cases hip : inputPackOf (d.pack pi) with
  | error e => exact ⟨fun h => (inputPackOf_ok h.2).elim fun _ h' => (nomatch hip.symm.trans h'), fun _ h => nomatch h⟩
  | ok ip =>
    rw [packChannels_noSub hns]
    exact (Spec.forE fun mc hmcm => validateInputRefsChannel_spec.weaken fun h =>
      matrix_pack_channels h.1 hp mc hmcm).mono fun _ h => ⟨ip, rfl, h⟩

/-- one step of the first loop of `_validate_matrix_outputChannelFormat_references`: the matrix channel has one block,
whose outputChannelFormat lies in the output pack and is what the step appends -/
theorem outputRefsStep_spec {d : Doc} {pi : Nat} {opc outs : List Nat} {mc : Nat} :
    Spec (∃ b, (d.chan mc).blocks = [b]) (outputRefsStep d pi opc outs mc) fun outs' =>
      ∃ b oc, (d.chan mc).blocks = [b] ∧ b.outCh = some oc ∧ oc ∈ opc ∧ outs' = outs ++ [oc] := by
  unfold outputRefsStep
  refine ((unpack1_spec _).weaken fun ⟨b, hb⟩ => by rw [hb]; rfl).seq (fun _ h => h) fun b hb => ?_
  dsimp only
  cases hoc : b.outCh with
  | none => exact .adm
  | some oc => exact .guard fun _ => .guard fun hin => .ok ⟨b, oc, hb, hoc, by simpa using hin, rfl⟩

/-- output side of a direct/decode matrix pack after `_validate_matrix_outputChannelFormat_references` -/
structure MatrixOutOk (d : Doc) (pi o : Nat) : Prop where
  out : (d.pack pi).output = some o
  chans : ∀ mc ∈ (d.pack pi).channels, ∃ b oc, (d.chan mc).blocks = [b] ∧ b.outCh = some oc ∧ oc ∈ packChannels d o
  covered : ∀ c ∈ packChannels d o, ∃ mc ∈ (d.pack pi).channels, ∃ b, (d.chan mc).blocks = [b] ∧ b.outCh = some c

theorem validateMatrixOutputRefs_spec {d : Doc} {pi : Nat} (hp : (d.pack pi).type = .matrix)
    (hns : (d.pack pi).packs = []) :
    Spec (MatrixPre d ∧ ∃ o, (d.pack pi).output = some o) (validateMatrixOutputRefs d pi) fun _ =>
      ∃ o, MatrixOutOk d pi o := by
  unfold validateMatrixOutputRefs
  cases ho : (d.pack pi).output with
  | none => exact .internal fun ⟨_, o, h⟩ => nomatch h
  | some o =>
    rw [packChannels_noSub hns]
    dsimp only
    -- after the matrix channels `done`, `outs` holds exactly their output channels, all of them in the output pack
    refine (Spec.foldE (I := fun done outs =>
        (∀ mc ∈ done, ∃ b oc, (d.chan mc).blocks = [b] ∧ b.outCh = some oc ∧ oc ∈ packChannels d o) ∧
        ∀ x ∈ outs, ∃ mc ∈ done, ∃ b, (d.chan mc).blocks = [b] ∧ b.outCh = some x)
      (d.pack pi).channels [] [] (fun pre mc outs hmcm hI => ?_) ⟨nofun, nofun⟩).seq (fun _ h => h) fun outs hI => ?_
    · refine (outputRefsStep_spec.weaken fun h => (matrix_pack_channels h.1 hp mc hmcm).imp fun _ h => h.1).mono ?_
      rintro _ ⟨b, oc, hb, hoc, hin, rfl⟩
      refine ⟨List.forall_mem_append.2 ⟨hI.1, List.forall_mem_singleton.2 ⟨b, oc, hb, hoc, hin⟩⟩,
        List.forall_mem_append.2 ⟨fun x hx => ?_, List.forall_mem_singleton.2 ⟨mc, by simp, b, hb, hoc⟩⟩⟩
      obtain ⟨m, hm, r⟩ := hI.2 x hx
      exact ⟨m, List.mem_append_left _ hm, r⟩
    · rw [List.nil_append] at hI
      exact (Spec.forE (P := fun c => outs.contains c = true) fun c _ => .ite (fun hin => .ok hin) fun _ => .adm).mono
        fun _ hcov => ⟨o, ho, hI.1, fun c hc => hI.2 c (by simpa using hcov c hc)⟩

theorem validateNonMatrixPack_noInt (pi : Nat) (p : Pack) : NoInt (validateNonMatrixPack pi p) :=
  noInt_guard (noInt_guard (noInt_guard (noInt_ok ())))

/-- everything later steps use about a Matrix pack that passed `_validate_matrix_types` -/
structure MatrixPackOk (d : Doc) (pi : Nat) : Prop where
  apf : ApfRefsOk d (d.pack pi)
  inputs : ∃ ip, inputPackOf (d.pack pi) = .ok ip ∧
    ∀ mc ∈ (d.pack pi).channels, ∃ b, (d.chan mc).blocks = [b] ∧
      ∀ co ∈ b.coeffs, ∃ c, co.input = some c ∧ c ∈ packChannels d ip
  outputs : ∀ t, typeOf (d.pack pi) = .ok t → t ≠ .encode → ∃ o, MatrixOutOk d pi o

/-- body of the pack loop of `_validate_matrix_types`: every `type_of`, `[encode_apf] = ...` and `[block_format] = ...`
in it is guarded by a check that ran before, in any declaration order of the packs -/
theorem validateMatrixPack_spec (d : Doc) (pi : Nat) :
    Spec (MatrixPre d) (validateMatrixPack d pi) fun _ => (d.pack pi).type = .matrix → MatrixPackOk d pi := by
  refine .ite (fun hty => ?_) fun hty => (Spec.of_noInt fun _ => validateNonMatrixPack_noInt _ _).mono
    fun _ _ hp => absurd (by simpa using hp) hty
  have hp : (d.pack pi).type = .matrix := by simpa using hty
  refine (validateMatrixApfRefs_spec d pi (d.pack pi)).seq (fun _ h => h) fun _ ha => ?_
  refine ((validateMatrixInputRefs_spec hp ha.noSub).weaken fun h => ⟨h, ha⟩).seq (fun _ h => h) fun _ hin => ?_
  obtain ⟨t, ht, _⟩ := ha.typed
  rw [ht]
  refine .ite (fun hdd => ?_) fun hdd => .ok fun _ => ⟨ha, hin, fun t' ht' hne => ?_⟩
  · exact ((validateMatrixOutputRefs_spec hp ha.noSub).weaken fun h =>
      ⟨h, (typeOf_ok ht).2 fun he => by simp [he] at hdd⟩).mono fun _ hout _ => ⟨ha, hin, fun _ _ _ => hout⟩
  · cases ht.symm.trans ht'
    cases t <;> simp at hne hdd

theorem validateMatrixPack_ok {d : Doc} {pi : Nat} (hp : (d.pack pi).type = .matrix)
    (h : validateMatrixPack d pi = .ok ()) : MatrixPackOk d pi :=
  (validateMatrixPack_spec d pi).2 () h hp

/-- `_validate_matrix_types` raises only `AdmError` after `ADM.validate()` and the pack/channel type check, and
establishes `MatrixPackOk` for every Matrix pack -/
theorem validateMatrixTypes_spec (d : Doc) :
    Spec (validateElements d = .ok () ∧ validatePackChannelTypes d = .ok ()) (validateMatrixTypes d) fun _ =>
      ∀ pi, (d.pack pi).type = .matrix → MatrixPackOk d pi := by
  unfold validateMatrixTypes
  refine (Spec.forEI (P := fun c => c.type = .matrix → c.blocks.length = 1) 0 fun ci c _ =>
    .ite (fun _ => (validateMatrixChannel_spec ci c).mono fun _ h _ => h)
      fun hty => .ok fun h => absurd (by simp [h]) hty).seq (fun _ h => h) fun _ hmc => ?_
  exact (Spec.forE fun pi _ => (validateMatrixPack_spec d pi).weaken fun h => ⟨h.1, h.2, hmc⟩).mono
    fun _ h pi hp => h pi (List.mem_range.mpr (pack_lt hp (by decide))) hp

theorem validateMatrixTypes_noInt {d : Doc} (hel : validateElements d = .ok ())
    (hct : validatePackChannelTypes d = .ok ()) : NoInt (validateMatrixTypes d) :=
  (validateMatrixTypes_spec d).1 ⟨hel, hct⟩

/-! ### `_validate_avs_references` -/

theorem findObjectForAvs_ne_none_iff {d : Doc} {a : Nat} {objs : List Nat} :
    findObjectForAvs d a objs ≠ none ↔ ∃ o ∈ objs, a ∈ (d.obj o).avs := by
  unfold findObjectForAvs
  rw [← Option.isSome_iff_ne_none, List.find?_isSome]
  simp

theorem validateAvsContained_spec {H : Prop} (d : Doc) (who : Acc) (refs objs : List Nat) :
    Spec H (validateAvsContained d who refs objs) fun _ => ∀ a ∈ refs, ∃ o ∈ objs, a ∈ (d.obj o).avs :=
  Spec.forE fun _ _ => .guard fun hn => .ok (findObjectForAvs_ne_none_iff.mp fun hc => hn (by rw [hc]; rfl))

theorem contentObjects_sub_programme {d : Doc} {P : Programme} {c : Nat} (hc : c ∈ P.contents) :
    ∀ o ∈ contentObjects d c, o ∈ programmeObjects d P :=
  fun _ ho => List.mem_flatMap.mpr ⟨c, hc, ho⟩

/-- every pair the conflict check looks at was shown to belong to one of the programme's objects by the two
`contained` checks — this is what makes `assert obj is not None` safe -/
theorem avsPairs_found {d : Doc} {P : Programme} (h1 : ∀ a ∈ P.avs, ∃ o ∈ programmeObjects d P, a ∈ (d.obj o).avs)
    (h2 : ∀ c ∈ P.contents, ∀ a ∈ (d.content c).avs, ∃ o ∈ contentObjects d c, a ∈ (d.obj o).avs) :
    ∀ x ∈ avsPairs d P, ∃ o ∈ programmeObjects d P, x.2 ∈ (d.obj o).avs := by
  intro x hx
  unfold avsPairs at hx
  rcases List.mem_append.mp hx with hx | hx
  · obtain ⟨a, ha, rfl⟩ := List.mem_map.mp hx
    exact h1 a ha
  · obtain ⟨c, hc, hx⟩ := List.mem_flatMap.mp hx
    obtain ⟨a, ha, rfl⟩ := List.mem_map.mp hx
    obtain ⟨o, ho, hao⟩ := h2 c hc a ha
    exact ⟨o, contentObjects_sub_programme hc o ho, hao⟩

/-- the objects under which the conflict check files the references of `l` -/
def avsKeys (d : Doc) (objs : List Nat) (l : List (Option Nat × Nat)) : List (Option Nat) :=
  l.map (fun x => findObjectForAvs d x.2 objs)

/-- an accepted step of the conflict check files the reference under an object not seen before -/
theorem avsConflictStep_spec {d : Doc} {pi : Nat} {objs : List Nat} {seen : List (Nat × Option Nat × Nat)}
    {x : Option Nat × Nat} :
    Spec (∃ o ∈ objs, x.2 ∈ (d.obj o).avs) (avsConflictStep d pi objs seen x) fun seen' =>
      ∃ o, findObjectForAvs d x.2 objs = some o ∧ (∀ e ∈ seen, e.1 ≠ o) ∧ seen' = (o, x.1, x.2) :: seen := by
  unfold avsConflictStep
  cases hf : findObjectForAvs d x.2 objs with
  | none => exact .internal fun h => findObjectForAvs_ne_none_iff.mpr h hf
  | some o =>
    dsimp only
    cases hfind : seen.find? (fun e => e.1 == o) with
    | none => exact .ok ⟨o, rfl, fun e he h => by simpa [h] using List.find?_eq_none.mp hfind e he, rfl⟩
    | some e => exact .guard fun _ => .ite (fun _ => .adm) fun _ => .adm

/-- `_validate_avs_references` for one programme: the `assert` is safe after the two `contained` checks, and an
accepted conflict check never met the same object twice -/
theorem validateAvsProgramme_spec {H : Prop} (d : Doc) (pi : Nat) (P : Programme) :
    Spec H (validateAvsProgramme d pi P) fun _ => (avsKeys d (programmeObjects d P) (avsPairs d P)).Nodup := by
  unfold validateAvsProgramme
  refine (validateAvsContained_spec d _ _ _).seq (fun _ h => h) fun _ h1 => ?_
  refine (Spec.forE fun c _ => validateAvsContained_spec d _ _ _).seq (fun _ h => h) fun _ h2 => ?_
  -- the objects met so far are distinct, and each of them is in `seen`
  refine (Spec.foldE (I := fun done seen => (avsKeys d (programmeObjects d P) done).Nodup ∧
      ∀ k, some k ∈ avsKeys d (programmeObjects d P) done → ∃ e ∈ seen, e.1 = k)
    (avsPairs d P) [] [] (fun pre x seen hx hI => ?_) ⟨List.nodup_nil, nofun⟩).seq (fun _ h => h) fun _ hI => .ok hI.1
  refine (avsConflictStep_spec.weaken fun _ => avsPairs_found h1 h2 x hx).mono ?_
  rintro _ ⟨o, ho, hnew, rfl⟩
  have hk : avsKeys d (programmeObjects d P) (pre ++ [x]) = avsKeys d (programmeObjects d P) pre ++ [some o] := by
    simp [avsKeys, ho]
  rw [hk]
  refine ⟨List.nodup_append.2 ⟨hI.1, (List.pairwise_singleton _ _), fun a ha b hb hab => ?_⟩, fun k hk => ?_⟩
  · cases List.mem_singleton.mp hb
    obtain ⟨e, he, heo⟩ := hI.2 o (hab ▸ ha)
    exact hnew e he heo
  · rcases List.mem_append.mp hk with hk | hk
    · obtain ⟨e, he, hek⟩ := hI.2 k hk
      exact ⟨e, List.mem_cons_of_mem _ he, hek⟩
    · exact ⟨_, List.mem_cons_self, (Option.some.inj (List.mem_singleton.mp hk)).symm⟩

theorem validateAvsReferences_noInt (d : Doc) : NoInt (validateAvsReferences d) :=
  forEI_noInt (fun pi P _ => (validateAvsProgramme_spec d pi P).1 trivial) 0

/-! ### `_get_alternativeValueSet`: the assert cannot fail after `_validate_avs_references` -/

theorem avsOwned_eq {d : Doc} (h : d.avsOwned = true) {i j a : Nat} (hi : a ∈ (d.obj i).avs) (hj : a ∈ (d.obj j).avs) :
    i = j := by
  have lt : ∀ {i}, a ∈ (d.obj i).avs → i < d.objects.length := fun {i} hi =>
    getD_lt (l := d.objects) (x := default) fun hd => by rw [Doc.obj, hd] at hi; cases hi
  simp only [Doc.avsOwned, List.all_eq_true, List.mem_range, Bool.or_eq_true, beq_iff_eq, Bool.not_eq_true',
    List.contains_eq_mem, decide_eq_false_iff_not] at h
  exact (h i (lt hi) j (lt hj)).resolve_right fun hdis => hdis a hi hj

theorem findObjectForAvs_eq_owner {d : Doc} (h : d.avsOwned = true) {O a : Nat} {objs : List Nat} (hO : O ∈ objs)
    (ha : a ∈ (d.obj O).avs) : findObjectForAvs d a objs = some O := by
  cases hf : findObjectForAvs d a objs with
  | none => exact absurd hf (findObjectForAvs_ne_none_iff.mpr ⟨O, hO, ha⟩)
  | some o =>
    have := List.find?_some (p := fun o => (d.obj o).avs.contains a) hf
    have heq : o = O := avsOwned_eq h (by simpa using this) ha
    rw [heq]

theorem countP_le_count_map {α β : Type} [BEq β] [LawfulBEq β] (p : α → Bool) (k : α → β) (y : β) :
    ∀ l : List α, (∀ x ∈ l, p x = true → k x = y) → List.countP p l ≤ List.count y (l.map k) := by
  intro l
  induction l with
  | nil => intro _; exact Nat.le_refl _
  | cons a t ih =>
    intro h
    have ih' := ih fun x hx => h x (List.mem_cons_of_mem _ hx)
    simp only [List.countP_cons, List.map_cons, List.count_cons]
    by_cases hp : p a = true
    · simp only [hp, if_true, h a List.mem_cons_self hp, beq_self_eq_true]
      omega
    · simp only [hp, Bool.false_eq_true, if_false]
      omega

theorem le_sum_of_mem {α : Type} (f : α → Nat) : ∀ (l : List α) (x : α), x ∈ l → f x ≤ (l.map f).sum := by
  intro l
  induction l with
  | nil => intro x hx; cases hx
  | cons a t ih =>
    intro x hx
    simp only [List.map_cons, List.sum_cons]
    rcases List.mem_cons.mp hx with rfl | hx
    · omega
    · have := ih x hx; omega

/-- the loop of `_get_alternativeValueSet` never meets a second alternativeValueSet of the object if at most one of
the references belongs to it (none, once one is selected) -/
theorem avsAssertLoop_noInt (oavs : List Nat) : ∀ (refs : List Nat) (sel : Option Nat),
    List.countP (fun a => oavs.contains a) refs + (if sel.isSome then 1 else 0) ≤ 1 →
      NoInt (avsAssertLoop oavs refs sel)
  | [], _, _ => noInt_ok ()
  | a :: rest, sel, h => by
    unfold avsAssertLoop
    rw [List.countP_cons] at h
    refine noInt_ite_cond (fun hc => ?_) fun hc => avsAssertLoop_noInt oavs rest sel (by rw [if_neg hc] at h; exact h)
    rw [if_pos hc] at h
    cases sel with
    | none => exact avsAssertLoop_noInt oavs rest (some a) (by simpa using h)
    | some s => simp at h

/-- after `_validate_avs_references` accepted programme `P`: of the alternativeValueSets referenced by `P` and by
one of its contents at most one belongs to a given object below `P` -/
theorem avs_refs_unique {d : Doc} (hown : d.avsOwned = true) {pi : Nat} {P : Programme} (hP : validateAvsProgramme d pi P = .ok ())
    {O c : Nat} (hO : O ∈ programmeObjects d P) (hc : c ∈ P.contents) :
    List.countP (fun a => (d.obj O).avs.contains a) (P.avs ++ (d.content c).avs) ≤ 1 := by
  -- the references that belong to `O` are all filed under `O`, and the keys of an accepted check are distinct
  have h3 : List.countP (fun x : Option Nat × Nat => (d.obj O).avs.contains x.2) (avsPairs d P)
      ≤ List.count (some O) (avsKeys d (programmeObjects d P) (avsPairs d P)) :=
    countP_le_count_map _ _ _ _ fun x _ hp => findObjectForAvs_eq_owner hown hO (by simpa using hp)
  have h4 : List.countP (fun a => (d.obj O).avs.contains a) (P.avs ++ (d.content c).avs)
      ≤ List.countP (fun x : Option Nat × Nat => (d.obj O).avs.contains x.2) (avsPairs d P) := by
    simp only [avsPairs, List.countP_append, List.countP_map, List.countP_flatMap, Function.comp_def]
    have := le_sum_of_mem (fun c => List.countP (fun a => (d.obj O).avs.contains a) (d.content c).avs)
      P.contents c hc
    omega
  exact Nat.le_trans h4 (Nat.le_trans h3
    (List.nodup_iff_count.mp ((validateAvsProgramme_spec (H := True) d pi P).2 () hP) _))

/-! ### `validate_structure` -/

/-- what `validate_structure` leaves behind for the later steps: the checks whose success they use have passed (as
equations, the form in which the safety lemmas of later checks take them) -/
structure StructOk (d : Doc) : Prop where
  elements : validateElements d = .ok ()
  chTypes : validatePackChannelTypes d = .ok ()
  subTypes : validatePackSubpackTypes d = .ok ()
  multitree : validateMultitree d = .ok ()
  hoaCh : validateHoaChannels d = .ok ()
  trackOrCh : validateTrackOrChannel d = .ok ()
  hoaPar : validateHoaParams d = .ok ()
  matrix : validateMatrixTypes d = .ok ()
  avs : validateAvsReferences d = .ok ()

/-- `validate_structure` raises only `AdmError`, and what a successful run establishes (the parts later steps rely
on): each check is safe after the ones before it -/
theorem validateStructure_spec {H : Prop} (d : Doc) : Spec H (validateStructure d) fun _ => StructOk d := by
  unfold validateStructure
  refine (Spec.of_noInt fun _ => (validateElements_spec d).1 trivial).bind fun _ h1 => ?_
  refine (Spec.of_noInt fun _ => validateObjectLoops_noInt d).bind fun _ _ => ?_
  refine (Spec.of_noInt fun _ => validateObjectParams_noInt d).bind fun _ _ => ?_
  refine (Spec.of_noInt fun _ => validatePackChannelTypes_noInt d).bind fun _ h4 => ?_
  refine (Spec.of_noInt fun _ => validatePackSubpackTypes_noInt d).bind fun _ h5 => ?_
  refine (Spec.of_noInt fun _ => validateMultitree_noInt d).bind fun _ h6 => ?_
  refine (Spec.of_noInt fun _ => validateObjectsChannels_noInt d).bind fun _ _ => ?_
  refine (Spec.of_noInt fun _ => validateHoaChannels_noInt d).bind fun _ h8 => ?_
  have hone := fun p hp => hoa_reachable_one_block h4 h5 h8 (mem_hoaPacks (p := p) hp)
  refine (Spec.of_noInt fun _ => validateHoaOrderDegree_noInt hone).bind fun _ _ => ?_
  refine (Spec.of_noInt fun _ => validateHoaParams_noInt hone).bind fun _ h10 => ?_
  refine (Spec.of_noInt fun _ => validateMatrixTypes_noInt h1 h4).bind fun _ h11 => ?_
  refine (Spec.of_noInt fun _ => validateV2Refs_noInt d).bind fun _ _ => ?_
  refine (Spec.of_noInt fun _ => validateTrackOrChannel_noInt d).bind fun _ h13 => ?_
  exact (Spec.of_noInt fun _ => validateAvsReferences_noInt d).mono fun _ h => ⟨h1, h4, h5, h6, h8, h13, h10, h11, h⟩

theorem validateStructure_ok {d : Doc} (h : validateStructure d = .ok ()) : StructOk d :=
  (validateStructure_spec (H := True) d).2 () h

theorem validateStructure_noInt (d : Doc) : NoInt (validateStructure d) := (validateStructure_spec d).1 trivial

/-- in a validated, well-scoped document every audioTrackUID of the document has the references that
`validate_selected_audioTrackUID` and `channel_format_for_track_uid` dereference: a referenced audioTrackFormat has
its audioStreamFormat (`AudioTrackFormat.validate`), a track without one has its channel format
(`_validate_track_uid_track_or_channel_ref`) -/
theorem trackRefsOk_of_valid {d : Doc} (hw : d.wellScoped = true) (hs : StructOk d) {t : Nat}
    (ht : t < d.trackUIDs.length) : TrackRefsOk d t := by
  have hu : d.atu t ∈ d.trackUIDs := getD_mem default ht
  unfold TrackRefsOk
  split
  · rename_i f hf
    have hlt := (wellScoped_refs hw).1 _ hu
    rw [hf] at hlt
    exact ((validateElements_spec (H := True) d).2 () hs.elements).2 _ (getD_mem default (of_decide_eq_true hlt))
  · rename_i hf
    obtain ⟨i, this⟩ := forEI_ok 0 hs.trackOrCh _ hu
    have := (guard_ok.mp this).1
    rw [hf] at this
    cases hc : (d.atu t).channel with
    | none => rw [hc] at this; simp at this
    | some c => rfl

theorem selectedOf_tracks_lt {d : Doc} (hw : d.wellScoped = true) (st : State) :
    ∀ t ∈ (selectedOf d st).2.1, t < d.trackUIDs.length := by
  intro t ht
  unfold selectedOf at ht
  split at ht
  · rename_i path _
    simp only [List.mem_filterMap, id] at ht
    obtain ⟨a, ha, rfl⟩ := ht
    have hlt : path.getLastD 0 < d.objects.length :=
      getD_lt (l := d.objects) (x := default) fun hd => by rw [Doc.obj, hd] at ha; cases ha
    simpa [optLt] using (wellScoped_refs hw).2.1 _ (getD_mem default hlt) (some t) ha
  · simpa using ht

/-! ### `_get_rendering_items` -/

/-- `_get_pack_format_path` for a channel of the pack: the `[found_path] = ...` is safe, and the path found is one of
`pack_format_paths_from(...)`, hence not empty, and belongs to the channel asked for -/
theorem packFormatPathOpt_spec {d : Doc} (hu : uniquePaths d = true) {o : Nat} (ho : o < d.packs.length)
    {oc : Option Nat} :
    Spec (∃ c, oc = some c ∧ c ∈ packChannels d o) (packFormatPathOpt d o oc) fun x => oc = some x.2 ∧ x.1 ≠ [] := by
  unfold packFormatPathOpt
  cases oc with
  | none => exact .internal fun ⟨_, h, _⟩ => nomatch h
  | some c =>
    dsimp only
    refine (Spec.of_noInt (x := packFormatPath d o c) fun ⟨_, h, hc⟩ =>
      packFormatPath_noInt hu ho (Option.some.inj h ▸ hc)).seq (fun _ h => h) fun path hp => .ok ⟨rfl, ?_⟩
    have hm : path ∈ [path] := List.mem_singleton_self path
    rw [← unpack1_ok hp] at hm
    exact pathsFrom_ne_nil _ _ _ _ (List.mem_filter.mp hm).1

theorem minNonempty_noInt {α : Type} {l : List α} (h : l ≠ []) : NoInt (minNonempty l) := by
  match l, h with
  | a :: t, _ => exact noInt_ok ()

/-- `_get_importance`: both `min(...)` range over non-empty paths -/
theorem importanceOf_noInt {op : Option (List Nat)} {pp : List Nat} (hop : ∀ p, op = some p → p ≠ [])
    (hpp : pp ≠ []) : NoInt (importanceOf op pp) := by
  unfold importanceOf
  cases op with
  | none => exact minNonempty_noInt hpp
  | some p =>
    dsimp only
    exact (minNonempty_noInt (hop p rfl)).seq (fun _ h => h) fun _ _ => minNonempty_noInt hpp

theorem absDistGet_noInt (d : Doc) (path : List Nat) (c : Nat) : NoInt (absDistGet d path c) :=
  pathParam_noInt _ (by simp)

/-- `_get_extra_data`: `get_single_param(..., "absoluteDistance", ...)` (its message's `path[0]`, `path[-1]`
included) and `_get_alternativeValueSet` raise nothing but `AdmError` -/
theorem extraData_noInt {d : Doc} {extra : R Unit} (hx : NoInt extra) {ppc : List (List Nat × Nat)} (hne : ppc ≠ []) :
    NoInt (extraData d extra ppc) := by
  unfold extraData
  exact (getSingleParam_noInt (fun x _ => absDistGet_noInt d x.1 x.2) hne).seq (fun _ h => h) fun _ _ => hx

/-- `_get_rendering_items` for an output pack `o` and allocated channels that all lie in `o` -/
theorem singleChannel_noInt {d : Doc} {extra : R Unit} (hx : NoInt extra) {op : Option (List Nat)}
    (hop : ∀ p, op = some p → p ≠ []) (hu : uniquePaths d = true) {o : Nat}
    (ho : o < d.packs.length) {oc : Option Nat} (h : ∃ c, oc = some c ∧ c ∈ packChannels d o) :
    NoInt (singleChannel d extra op o oc) := by
  unfold singleChannel
  refine (packFormatPathOpt_spec hu ho).seqNoInt h (fun _ h => h) fun x hxp => ?_
  dsimp only
  refine (extraData_noInt hx (List.cons_ne_nil x [])).seq (fun _ h => h) fun _ _ => ?_
  exact (importanceOf_noInt hop hxp.2).seq (fun _ h => h) fun _ _ => noInt_ok _

theorem itemsFor_noInt {d : Doc} {extra : R Unit} (hx : NoInt extra) {op : Option (List Nat)}
    (hop : ∀ p, op = some p → p ≠ []) (hs : StructOk d) (hu : uniquePaths d = true)
    {o : Nat} (ho : o < d.packs.length)
    {chans : List (Option Nat)} (hch : ∀ oc ∈ chans, ∃ c, oc = some c ∧ c ∈ packChannels d o)
    (hne : (d.pack o).type = .hoa → chans ≠ []) : NoInt (itemsFor d extra op o chans) := by
  unfold itemsFor
  cases hT : (d.pack o).type with
  | objects | directSpeakers =>
    exact (mapE_noInt fun oc hoc => singleChannel_noInt hx hop hu ho (hch oc hoc)).seq (fun _ h => h)
      fun _ _ => noInt_ok _
  | hoa =>
    refine (Spec.mapE fun oc hoc => (packFormatPathOpt_spec hu ho).weaken fun h => h oc hoc).seqNoInt hch
      (fun _ h => h) fun ppc ⟨hlen, hmem⟩ => ?_
    -- every `(path, channel)` found is a channel reachable from the HOA pack `o`, and there is at least one
    have hone : ∀ x ∈ ppc, (d.chan x.2).blocks.length = 1 := by
      intro x hx
      obtain ⟨oc, hoc, _, hx2, _⟩ := hmem x hx
      obtain ⟨c, hc1, hc2⟩ := hch oc hoc
      obtain ⟨y, hy, hyc⟩ := List.mem_map.mp hc2
      rw [Option.some.inj (hx2.symm.trans hc1), ← hyc]
      exact hoa_reachable_one_block hs.chTypes hs.subTypes hs.hoaCh hT y hy
    have hnil : ppc ≠ [] := fun hnil =>
      hne hT (List.eq_nil_of_length_eq_zero (hlen.symm.trans (congrArg List.length hnil)))
    dsimp only
    refine (hoaItemParams_noInt hone hnil).seq (fun _ h => h) fun _ _ => ?_
    refine (extraData_noInt hx hnil).seq (fun _ h => h) fun _ _ => ?_
    refine (forE_noInt fun x hx => ?_).seq (fun _ h => h) fun _ _ => noInt_ok _
    obtain ⟨_, _, _, _, hpne⟩ := hmem x hx
    exact importanceOf_noInt hop hpne
  | matrix => exact noInt_adm _ _
  | binaural => exact noInt_adm _ _

theorem hoa_pack_channels_ne_nil {d : Doc} (hs : StructOk d) {o : Nat} (ho : o < d.packs.length)
    (hT : (d.pack o).type = .hoa) : packChannels d o ≠ [] := by
  intro hnil
  have hph : o ∈ hoaPacks d := List.mem_filter.mpr ⟨List.mem_range.mpr ho, by simp [hT]⟩
  exact hoaParams_ok_nonempty hs.hoaPar o hph (List.map_eq_nil_iff.mp hnil)

/-! ### the allocation packs (`get_wrapped_packs`) -/

theorem matrixPackOk_of_struct {d : Doc} (hs : StructOk d) {pi : Nat} (hp : (d.pack pi).type = .matrix) :
    MatrixPackOk d pi :=
  (validateMatrixTypes_spec d).2 () hs.matrix pi hp

/-- which allocation pack a pattern of `_PackAllocator.packs` is -/
inductive PatOk (d : Doc) : Pattern → Prop
  | regular (pi : Nat) : pi < d.packs.length → (d.pack pi).type ≠ .matrix →
      PatOk d ⟨pi, false, packChannels d pi, packPathsOf d pi⟩
  | matrixInput (pi ip : Nat) (t : MType) : (d.pack pi).type = .matrix → typeOf (d.pack pi) = .ok t → t ≠ .encode →
      inputPackOf (d.pack pi) = .ok ip → PatOk d ⟨pi, true, packChannels d ip, constPfs (packChannels d ip) pi⟩
  | matrixPre (pi : Nat) (t : MType) : (d.pack pi).type = .matrix → typeOf (d.pack pi) = .ok t → t ≠ .encode →
      PatOk d ⟨pi, true, packChannels d pi, packPathsOf d pi⟩
  | matrixEncDec (pi e ii : Nat) : (d.pack pi).type = .matrix → typeOf (d.pack pi) = .ok .decode →
      (d.pack pi).encodePacks = [e] → (d.pack e).input = some ii →
      PatOk d ⟨pi, true, packChannels d ii, constPfs (packChannels d ii) e⟩

theorem decode_encode_input {d : Doc} {pi : Nat} (hm : MatrixPackOk d pi) (ht : typeOf (d.pack pi) = .ok .decode) :
    ∃ e ii, (d.pack pi).encodePacks = [e] ∧ unpack1 (d.pack pi).encodePacks = .ok e ∧
      (d.pack e).type = .matrix ∧ typeOf (d.pack e) = .ok .encode ∧ (d.pack e).input = some ii := by
  obtain ⟨t, ht', _, hdec⟩ := hm.apf.typed
  rw [ht] at ht'; injection ht' with ht'; subst ht'
  obtain ⟨e, he, hu⟩ := unpack1_singleton (hdec rfl)
  obtain ⟨pi', hpe⟩ := hm.apf.encodes e (by rw [he]; exact List.mem_singleton_self e)
  obtain ⟨hty, hte⟩ := (validateEncodeRef_spec (H := True) d pi' e).2 () hpe
  obtain ⟨ii, hii⟩ := (typeOf_ok hte).1 (by decide)
  exact ⟨e, ii, he, hu, hty, hte, hii⟩

/-- `wrap_non_matrix_pack` / `wrap_matrix_pack` for a pack of a validated document: `type_of`, `[encode_pack] = ...`
and `encode_pack.inputPackFormat` are total, and the result consists of allocation packs as `PatOk` describes them -/
theorem patternsOf_spec {d : Doc} (hs : StructOk d) {pi : Nat} (hpi : pi < d.packs.length) :
    ∃ l, patternsOf d pi = .ok l ∧ ∀ pat ∈ l, PatOk d pat := by
  unfold patternsOf
  split
  · rename_i hty
    exact ⟨_, rfl, fun pat hpat => by
      cases List.mem_singleton.mp hpat; exact PatOk.regular pi hpi (by simpa using hty)⟩
  · rename_i hty
    have hp : (d.pack pi).type = .matrix := by simpa using hty
    have hm := matrixPackOk_of_struct hs hp
    obtain ⟨t, ht, _, _⟩ := hm.apf.typed
    obtain ⟨ip, hip, _⟩ := hm.inputs
    unfold wrapMatrixPack wrapFirst wrapSecond
    rw [ht]
    cases t with
    | encode => exact ⟨[], by simp, fun pat hpat => nomatch hpat⟩
    | direct =>
      simp only [hip, beq_self_eq_true, Bool.true_or, if_true]
      exact ⟨_, rfl, fun pat hpat => by
        simp only [List.append_nil, List.mem_cons, List.not_mem_nil, or_false] at hpat
        rcases hpat with rfl | rfl
        · exact PatOk.matrixInput pi ip .direct hp ht (by simp) hip
        · exact PatOk.matrixPre pi .direct hp ht (by simp)⟩
    | decode =>
      obtain ⟨e, ii, he, hu, _, _, hii⟩ := decode_encode_input hm ht
      simp only [hip, hu, hii, beq_self_eq_true, Bool.or_true, if_true]
      exact ⟨_, rfl, fun pat hpat => by
        simp only [List.cons_append, List.nil_append, List.mem_cons, List.not_mem_nil, or_false] at hpat
        rcases hpat with rfl | rfl | rfl
        · exact PatOk.matrixInput pi ip .decode hp ht (by simp) hip
        · exact PatOk.matrixPre pi .decode hp ht (by simp)
        · exact PatOk.matrixEncDec pi e ii hp ht he hii⟩

/-- `_PackAllocator(adm)` raises nothing after validation, and what it builds are allocation packs as `PatOk`
describes them -/
theorem patterns_spec {H : Prop} {d : Doc} (hs : StructOk d) :
    Spec H (patterns d) fun pats => ∀ pat ∈ pats, PatOk d pat := by
  unfold patterns
  refine (Spec.mapE (P := fun _ l => ∀ pat ∈ l, PatOk d pat) fun pi hpi => ?_).seq (fun _ h => h)
    fun ls hls => .ok fun pat hpat => ?_
  · obtain ⟨l, hl, hok⟩ := patternsOf_spec hs (List.mem_range.mp hpi)
    exact .of_eq hl hok
  · obtain ⟨l, hl, hpl⟩ := List.mem_flatten.mp hpat
    obtain ⟨_, _, _, hP⟩ := hls.2 l hl
    exact hP pat hpl

theorem patterns_noInt {d : Doc} (hs : StructOk d) : NoInt (patterns d) := (patterns_spec hs).1 trivial

theorem patterns_ok {d : Doc} (hs : StructOk d) {pats : List Pattern} (h : patterns d = .ok pats) :
    ∀ pat ∈ pats, PatOk d pat :=
  (patterns_spec (H := True) hs).2 pats h

/-! ### `MatrixAllocationPack.output_channel_allocation` -/

/-- `get_track_spec(channel_format)` finds its way to allocated channels within `k` unpackings.  Used with `k = 2`: a
matrix channel of a direct or pre-applied allocation pack is allocated itself or one unpacking away from its input
channels, that of an encode-then-decode pack two (`renderingItems_noInt`). -/
def ResN (d : Doc) (alloc : List Nat) : Nat → Nat → Prop
  | 0, c => c ∈ alloc
  | k + 1, c => c ∈ alloc ∨ ∃ b, (d.chan c).blocks = [b] ∧ ∀ co ∈ b.coeffs, ∃ c', co.input = some c' ∧ ResN d alloc k c'

theorem matrixTrackSpec_noInt (d : Doc) (alloc : List Nat) :
    ∀ f k c, ResN d alloc k c → NoInt (matrixTrackSpec d alloc f c) := by
  intro f
  induction f with
  | zero => intro k c _; exact noInt_ok ()
  | succ f ih =>
    intro k c hr
    unfold matrixTrackSpec
    split
    · exact noInt_ok ()
    · rename_i hnot
      have hna : c ∉ alloc := by simpa using hnot
      match k, hr with
      | 0, hr => exact absurd hr hna
      | k + 1, .inl hin => exact absurd hin hna
      | k + 1, .inr ⟨b, hb, hco⟩ =>
        rw [hb]
        refine forE_noInt fun co hcom => ?_
        obtain ⟨c', hc', hr'⟩ := hco co hcom
        rw [hc']
        exact ih k c' hr'

/-- `get_channel_allocation(matrix_channel)`: the outputChannelFormat of the channel's one block, after `get_track_spec` -/
theorem matrixChannelAllocation_spec {d : Doc} {pat : Pattern} {mc : Nat} {b : Block} (hb : (d.chan mc).blocks = [b]) :
    Spec (ResN d pat.channels 2 mc) (matrixChannelAllocation d pat mc) fun oc => oc = b.outCh := by
  unfold matrixChannelAllocation
  rw [hb]
  exact (Spec.of_noInt (matrixTrackSpec_noInt d _ _ 2 mc)).seq (fun _ h => h) fun _ _ => .ok rfl

theorem renderingItems_matrix_noInt {d : Doc} {extra : R Unit} (hx : NoInt extra) {op : Option (List Nat)}
    (hop : ∀ p, op = some p → p ≠ []) (hw : d.wellScoped = true)
    (hs : StructOk d) (hu : uniquePaths d = true) {pi : Nat} {alloc : List Nat} {pfs : List (List Nat)} {t : MType}
    (hp : (d.pack pi).type = .matrix) (ht : typeOf (d.pack pi) = .ok t) (hne : t ≠ .encode)
    (hres : ∀ mc ∈ (d.pack pi).channels, ResN d alloc 2 mc) :
    NoInt (renderingItems d extra op ⟨pi, true, alloc, pfs⟩) := by
  obtain ⟨o, hout⟩ := (matrixPackOk_of_struct hs hp).outputs t ht hne
  have ho : o < d.packs.length := by
    have := (wellScoped_refs hw).2.2 (d.pack pi) (getD_mem default (pack_lt hp (by decide)))
    rw [hout.out] at this
    exact of_decide_eq_true this
  unfold renderingItems
  simp only [if_true]
  refine (Spec.mapE (H := True) (P := fun _ oc => ∃ c, oc = some c ∧ c ∈ packChannels d o) fun mc hmc => ?_).seqNoInt
    trivial (fun _ h => h) fun outs ⟨hlen, hmem⟩ => ?_
  · obtain ⟨b, c, hb, hbo, hc⟩ := hout.chans mc hmc
    exact ((matrixChannelAllocation_spec hb).weaken fun _ => hres mc hmc).mono fun oc h => ⟨c, h.trans hbo, hc⟩
  · dsimp only
    rw [hout.out]
    refine itemsFor_noInt hx hop hs hu ho (fun oc hoc => let ⟨_, _, _, h⟩ := hmem oc hoc; h) fun hT hnil => ?_
    -- a HOA output pack has channels, each of them covered by a matrix channel
    obtain ⟨c, hc⟩ := List.exists_mem_of_ne_nil _ (hoa_pack_channels_ne_nil hs ho hT)
    obtain ⟨mc, hmc, _⟩ := hout.covered c hc
    rw [List.eq_nil_of_length_eq_zero (hlen.symm.trans (congrArg List.length hnil))] at hmc
    cases hmc

/-- one allocated pack of the unique solution: `output_channel_allocation` and `_get_rendering_items` are total -/
theorem renderingItems_noInt {d : Doc} {extra : R Unit} (hx : NoInt extra) {op : Option (List Nat)}
    (hop : ∀ p, op = some p → p ≠ []) (hw : d.wellScoped = true)
    (hs : StructOk d) (hu : uniquePaths d = true)
    {pat : Pattern} (hpat : PatOk d pat) : NoInt (renderingItems d extra op pat) := by
  cases hpat with
  | regular pi hpi hty =>
    unfold renderingItems
    simp only [Bool.false_eq_true, if_false]
    refine itemsFor_noInt hx hop hs hu hpi (fun oc hoc => ?_) fun hT hnil => ?_
    · obtain ⟨c, hc, rfl⟩ := List.mem_map.mp hoc
      exact ⟨c, rfl, hc⟩
    · exact hoa_pack_channels_ne_nil hs hpi hT (List.map_eq_nil_iff.mp hnil)
  | matrixInput pi ip t hp ht hne hip =>
    obtain ⟨ip', hip', hch⟩ := (matrixPackOk_of_struct hs hp).inputs
    cases hip.symm.trans hip'
    refine renderingItems_matrix_noInt hx hop hw hs hu hp ht hne fun mc hmc => ?_
    obtain ⟨b, hb, hco⟩ := hch mc hmc
    exact Or.inr ⟨b, hb, fun co hcom => (hco co hcom).imp fun c h => ⟨h.1, Or.inl h.2⟩⟩
  | matrixPre pi t hp ht hne =>
    refine renderingItems_matrix_noInt hx hop hw hs hu hp ht hne fun mc hmc => Or.inl ?_
    rw [packChannels_noSub (matrixPackOk_of_struct hs hp).apf.noSub]
    exact hmc
  | matrixEncDec pi e ii hp ht he hii =>
    have hm := matrixPackOk_of_struct hs hp
    obtain ⟨e', ii', he', hu', hety, hete, hii'⟩ := decode_encode_input hm ht
    cases he.symm.trans he'
    cases hii.symm.trans hii'
    have hme := matrixPackOk_of_struct hs hety
    -- the input pack of the decode pack is the encode pack `e`, whose input pack is `ii`
    obtain ⟨ip, hip, hch⟩ := hm.inputs
    have hipe : ip = e := by
      unfold inputPackOf at hip
      rw [ht] at hip
      exact (Except.ok.inj (hip.symm.trans hu')).symm ▸ rfl
    subst hipe
    obtain ⟨ipe, hipe, hche⟩ := hme.inputs
    have hipe' : ipe = ii := by
      unfold inputPackOf at hipe
      rw [hete] at hipe
      simp only [hii] at hipe
      exact (Except.ok.inj hipe).symm
    subst hipe'
    refine renderingItems_matrix_noInt hx hop hw hs hu hp ht (by simp) fun mc hmc => ?_
    obtain ⟨b, hb, hco⟩ := hch mc hmc
    refine Or.inr ⟨b, hb, fun co hcom => ?_⟩
    obtain ⟨c, hc, hcin⟩ := hco co hcom
    rw [packChannels_noSub hme.apf.noSub] at hcin
    obtain ⟨b', hb', hco'⟩ := hche c hcin
    exact ⟨c, hc, Or.inr ⟨b', hb', hco'⟩⟩

/-! ### the states of `_select_programme_content_objects` -/

/-- provenance of a state yielded by `_select_programme_content_objects`: no programme/content at all, or a
programme of the document, one of its contents and an object path below that content -/
def StateOk (d : Doc) (st : State) : Prop :=
  (st.prog = none ∧ st.content = none) ∨
  ∃ p c path, st = ⟨some p, some c, some path⟩ ∧ p < d.programmes.length ∧ c ∈ (d.programme p).contents ∧
    path.getLastD 0 ∈ contentObjects d c

/-- `_select_programme`: the `assert` holds for a programme of the document, and so is the one selected -/
theorem selectProgramme_spec {d : Doc} {prog : Option Nat} :
    Spec (∀ p, prog = some p → p < d.programmes.length) (selectProgramme d prog)
      fun r => ∀ p, r = some p → p < d.programmes.length := by
  unfold selectProgramme
  cases prog with
  | none =>
    refine .ite (fun _ => .ok nofun) fun hemp => .ok fun p hp => ?_
    cases hp
    exact List.length_pos_iff.mpr fun hl => hemp (by rw [hl]; rfl)
  | some p => exact .ite (fun hlt => .ok fun q hq => by cases hq; exact hlt) fun hn => .internal fun h => hn (h p rfl)

/-- `_select_programme_content_objects`: every yielded state has that provenance, and its `audioObjects` path, if
any, is one of `object_paths_from(...)`, hence not empty (what `_get_importance`'s `min(...)` needs) -/
theorem selectStates_spec {d : Doc} {prog : Option Nat} :
    Spec (∀ p, prog = some p → p < d.programmes.length) (selectStates d prog)
      fun states => ∀ st ∈ states, StateOk d st ∧ ∀ p, st.objects = some p → p ≠ [] := by
  unfold selectStates
  refine .ite (fun _ => .ok fun st hst => ?_) fun _ => selectProgramme_spec.seq (fun _ h => h) fun p hp =>
    .ok fun st hst => ?_
  · cases List.mem_singleton.mp hst
    exact ⟨Or.inl ⟨rfl, rfl⟩, fun _ h => nomatch h⟩
  · obtain ⟨c, hc, hst⟩ := List.mem_flatMap.mp hst
    obtain ⟨r, hr, hst⟩ := List.mem_flatMap.mp hst
    obtain ⟨path, hpath, rfl⟩ := List.mem_map.mp hst
    refine ⟨?_, fun q hq => by cases hq; exact pathsFrom_ne_nil _ _ _ _ hpath⟩
    cases p with
    | none => cases List.mem_singleton.mp hc; exact Or.inl ⟨rfl, rfl⟩
    | some p =>
      obtain ⟨c', hc', rfl⟩ := List.mem_map.mp hc
      exact Or.inr ⟨p, c', path, rfl, hp p rfl, hc', List.mem_flatMap.mpr ⟨r, hr, List.mem_map.mpr ⟨path, hpath, rfl⟩⟩⟩

/-- `_get_alternativeValueSet`'s assert ("already checked in validation") cannot fail -/
theorem avsSelected_noInt {d : Doc} (hs : StructOk d) (hown : d.avsOwned = true) {st : State} (hst : StateOk d st) :
    NoInt (avsSelected d st) := by
  unfold avsSelected
  rcases hst with ⟨hp, hc⟩ | ⟨p, c, path, rfl, hp, hc, hO⟩
  · split
    · exact noInt_ok ()
    · rw [hp, hc]
      exact noInt_ok ()
  · obtain ⟨pi, hP⟩ := forEI_ok 0 hs.avs _ (getD_mem default hp)
    exact avsAssertLoop_noInt _ _ none (Nat.add_zero _ ▸ avs_refs_unique hown hP (contentObjects_sub_programme hc _ hO) hc)

end Earverif.Validate
