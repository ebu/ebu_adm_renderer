/-
FIR with history (the stand-in for `OverlapSaveConvolver.filter_block`) processed block-wise = the whole-stream
convolution; with `vbs_eq`: the decorrelation path is the FIR of the stream delayed by `block_size`.
-/
import Earverif.Proofs.C02Vbs
import Earverif.Proofs.C02Laws
namespace Earverif.Stream

variable {V : Type} [RMod V] [LawfulRMod V]

/-- Whole-stream FIR: output `t` = `Σ_k taps[k] * x[t-k]`. -/
def firAll (taps x : List V) : List V := (List.range x.length).map (Fir.at taps x)

omit [LawfulRMod V] in
theorem fir_at_prefix (taps xs more : List V) (pos : Nat) (h : pos < xs.length) :
    Fir.at taps (xs ++ more) pos = Fir.at taps xs pos := by
  unfold Fir.at
  congr 1
  apply List.map_congr_left
  intro k _
  by_cases hk : k ≤ pos
  · rw [if_pos hk, if_pos hk, getD_append_lt _ _ _ (by omega)]
  · rw [if_neg hk, if_neg hk]

/-- With the last `L−1` samples of the (zero-padded) past as history, a position in the new block sees exactly what
it sees in the whole stream. -/
theorem fir_at_hist (taps p blk : List V) (i : Nat) :
    Fir.at taps ((List.replicate (taps.length - 1) 0 ++ p).drop p.length ++ blk) (taps.length - 1 + i) =
      Fir.at taps (p ++ blk) (p.length + i) := by
  unfold Fir.at
  congr 1
  apply List.map_congr_left
  intro k hk
  have hkM : k ≤ taps.length - 1 := Nat.le_sub_one_of_lt (List.mem_range.mp hk)
  generalize taps.length - 1 = M at hkM ⊢
  rw [if_pos (Nat.le_trans hkM (Nat.le_add_right _ i))]
  have hx : (List.replicate M (0 : V) ++ p).drop p.length ++ blk =
      (List.replicate M 0 ++ (p ++ blk)).drop p.length := by
    rw [← List.append_assoc]
    exact (List.drop_append_of_le_length (by simp)).symm
  rw [hx]
  have hg : ((List.replicate M (0 : V) ++ (p ++ blk)).drop p.length).getD (M + i - k) 0 =
      (List.replicate M (0 : V) ++ (p ++ blk)).getD (p.length + (M + i - k)) 0 := by
    simp only [List.getD_eq_getElem?_getD, List.getElem?_drop]
  rw [hg, getD_append_len, List.length_replicate]
  by_cases hc : k ≤ p.length + i
  · obtain ⟨h1, h2⟩ : ¬ p.length + (M + i - k) < M ∧ p.length + (M + i - k) - M = p.length + i - k := by omega
    rw [if_pos hc, if_neg h1, h2]
  · have h1 : p.length + (M + i - k) < M := by omega
    rw [if_neg hc, if_pos h1, getD_replicate_zero]
    exact LawfulRMod.pmul_zero _

/-- `filter_block` from the state reached after the stream prefix `p`. -/
theorem fir_step_spec (taps p blk : List V) :
    Fir.step taps ((List.replicate (taps.length - 1) 0 ++ p).drop p.length) blk =
      ((List.replicate (taps.length - 1) 0 ++ (p ++ blk)).drop (p ++ blk).length,
       (List.range blk.length).map (fun i => Fir.at taps (p ++ blk) (p.length + i))) := by
  have hl : ((List.replicate (taps.length - 1) (0 : V) ++ p).drop p.length).length = taps.length - 1 := by simp
  unfold Fir.step
  simp only [hl]
  apply Prod.ext
  · simp only [List.length_append, hl]
    have e : taps.length - 1 + blk.length - (taps.length - 1) = blk.length := by omega
    rw [e, ← List.append_assoc, ← List.drop_append_of_le_length (l₂ := blk) (by simp), List.drop_drop,
      List.append_assoc]
  · simp only
    apply List.map_congr_left
    intro i _
    exact fir_at_hist taps p blk i

theorem fir_blockwise_from (taps : List V) (B : Nat) (hB : 1 ≤ B) : ∀ (fuel : Nat) (p x : List V), x.length < fuel →
    (blockwise (Fir.step taps) B fuel ((List.replicate (taps.length - 1) 0 ++ p).drop p.length) x).2 =
      (List.range (B * (x.length / B))).map (fun i => Fir.at taps (p ++ x) (p.length + i)) := by
  intro fuel
  induction fuel with
  | zero => intro p x h; omega
  | succ fuel ih =>
    intro p x hfuel
    unfold blockwise
    by_cases hx : B ≤ x.length
    · simp only [hx, if_true]
      have htl : (x.take B).length = B := by rw [List.length_take, Nat.min_eq_left hx]
      rw [fir_step_spec]
      simp only
      have hfu : (x.drop B).length < fuel := by simp only [List.length_drop]; omega
      have := ih (p ++ x.take B) (x.drop B) hfu
      rw [this, htl]
      simp only [List.length_append, htl]
      have hdiv : x.length / B = (x.length - B) / B + 1 := by
        have := Nat.add_div_right (x.length - B) (Nat.lt_of_lt_of_le Nat.zero_lt_one hB)
        rw [Nat.sub_add_cancel hx] at this
        exact this
      have hsplit : B * (x.length / B) = B + B * ((x.length - B) / B) := by
        rw [hdiv, Nat.mul_add, Nat.mul_one, Nat.add_comm]
      rw [hsplit, List.range_add, List.map_append, List.map_map, List.length_drop]
      have hxx : p ++ x.take B ++ x.drop B = p ++ x := by rw [List.append_assoc, List.take_append_drop]
      congr 1
      · apply List.map_congr_left
        intro i hi
        have hi' : i < B := List.mem_range.mp hi
        rw [← hxx]
        exact (fir_at_prefix taps (p ++ x.take B) (x.drop B) (p.length + i)
          (by rw [List.length_append, htl]; exact Nat.add_lt_add_left hi' _)).symm
      · apply List.map_congr_left
        intro i _
        simp only [Function.comp, hxx, Nat.add_assoc]
    · simp only [hx, if_false]
      rw [Nat.div_eq_of_lt (Nat.lt_of_not_le hx)]
      simp

theorem fir_at_zero (taps xs : List V) (pos : Nat) (h : ∀ v ∈ xs, v = 0) : Fir.at taps xs pos = 0 := by
  unfold Fir.at
  apply foldl_zeros
  intro v hv
  obtain ⟨k, _, rfl⟩ := List.mem_map.mp hv
  split
  · have : xs.getD (pos - k) 0 = 0 := by
      simp only [List.getD_eq_getElem?_getD]
      cases hg : xs[pos - k]? with
      | none => rfl
      | some w => exact h w (List.mem_of_getElem? hg)
    rw [this, LawfulRMod.pmul_zero]
  · rfl

/-- The adapter's constructor calls the filter once on a zero block: state and output stay zero. -/
theorem fir_init_zero (taps : List V) (B : Nat) :
    Fir.step taps (Fir.init taps) (List.replicate B 0) = (Fir.init taps, List.replicate B 0) := by
  have := fir_step_spec taps [] (List.replicate B (0 : V))
  simp only [List.append_nil, List.length_nil, List.drop_zero, List.nil_append, List.length_replicate,
    Nat.zero_add] at this
  unfold Fir.init
  rw [this]
  apply Prod.ext
  · simp only
    rw [List.replicate_append_replicate, List.drop_replicate]
    congr 1; omega
  · simp only
    apply List.ext_getElem?
    intro i
    simp only [List.getElem?_map, List.getElem?_replicate]
    by_cases hi : i < B
    · rw [List.getElem?_range hi, if_pos hi]
      simp only [Option.map_some]
      rw [fir_at_zero _ _ _ (fun v hv => (List.mem_replicate.mp hv).2)]
    · rw [List.getElem?_eq_none (by simp; omega), if_neg hi]; rfl

theorem fir_blockwise_eq (taps : List V) (B : Nat) (hB : 1 ≤ B) (x : List V) :
    (blockwise (Fir.step taps) B (x.length + 1) (Fir.init taps) x).2 =
      (firAll taps x).take (B * (x.length / B)) := by
  have := fir_blockwise_from taps B hB (x.length + 1) [] x (Nat.lt_succ_self _)
  simp only [List.append_nil, List.length_nil, List.drop_zero, List.nil_append, Nat.zero_add] at this
  unfold Fir.init
  rw [this]
  unfold firAll
  rw [← List.map_take, List.take_range]
  congr 2
  have : B * (x.length / B) ≤ x.length := Nat.mul_div_le _ _
  omega

omit [LawfulRMod V] in
theorem fir_step_length (f : List V) (B : Nat) (t blk : List V) (h : blk.length = B) :
    (Fir.step f t blk).2.length = B := by
  rw [Fir.step, List.length_map, List.length_range, h]

/-- The decorrelation path (`VariableBlockSizeAdapter` around the FIR) over ANY partition:
the FIR of the concatenated stream, delayed by `block_size`; every call returns as many frames as it was given. -/
theorem vbs_fir_eq (taps : List V) (B : Nat) (hB : 1 ≤ B) (parts : List (List V)) :
    (Vbs.run (Fir.step taps) B 0 (Vbs.init (Fir.step taps) B 0 (Fir.init taps)) parts).1.flatten =
      (List.replicate B 0 ++ firAll taps parts.flatten).take parts.flatten.length ∧
    (Vbs.run (Fir.step taps) B 0 (Vbs.init (Fir.step taps) B 0 (Fir.init taps)) parts).1.map List.length =
      parts.map List.length := by
  obtain ⟨h1, h2⟩ := vbs_eq (Fir.step taps) B (0 : V) (Fir.init taps) hB (fir_step_length taps B) parts
  refine ⟨?_, h2⟩
  rw [h1]
  simp only [Vbs.init, fir_init_zero, fir_blockwise_eq taps B hB]
  generalize parts.flatten = x
  rw [List.take_append, List.take_append, List.length_replicate, List.take_take]
  congr 2
  have h1 : x.length < B * (x.length / B) + B := by
    rw [Nat.mul_comm]; exact Nat.lt_div_mul_add (by omega)
  omega

end Earverif.Stream
