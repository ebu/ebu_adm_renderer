/-
Class-level round trips of the nested element parsers: loudnessMetadata, audioProgrammeReferenceScreen,
audioObjectInteraction, alternativeValueSet — `parse (to_xml x) = x`, the second generation gives the same tree, and
the class constructor (`ofObj`) gives the value back.
-/
import Earverif.Proofs.C08Impls

namespace Earverif.XmlBlocks
open Earverif.XmlCodec Earverif.XmlCustom Earverif.TimeFormat

theorem loudness_keys : KeysOK loudnessPs := by decide +kernel

theorem loudness_fields (name : String) (l : Loudness) :
    ∀ p ∈ loudnessPs, FieldOK loudnessPs (toXml loudnessPs name l.toObj) l.toObj noneDefaults p := by
  intro p hp
  simp only [loudnessPs, List.mem_cons, List.not_mem_nil, or_false] at hp
  rcases hp with rfl | rfl | rfl | rfl | rfl | rfl | rfl | rfl | rfl
  · exact scalar_optStr l.loudnessMethod (by simp [Loudness.toObj]) rfl
  · exact scalar_optStr l.loudnessRecType (by simp [Loudness.toObj]) rfl
  · exact scalar_optStr l.loudnessCorrectionType (by simp [Loudness.toObj]) rfl
  · exact Or.inr ⟨rfl, scalar_optNum l.integratedLoudness (by simp [Loudness.toObj]) rfl⟩
  · exact Or.inr ⟨rfl, scalar_optNum l.loudnessRange (by simp [Loudness.toObj]) rfl⟩
  · exact Or.inr ⟨rfl, scalar_optNum l.maxTruePeak (by simp [Loudness.toObj]) rfl⟩
  · exact Or.inr ⟨rfl, scalar_optNum l.maxMomentary (by simp [Loudness.toObj]) rfl⟩
  · exact Or.inr ⟨rfl, scalar_optNum l.maxShortTerm (by simp [Loudness.toObj]) rfl⟩
  · exact Or.inr ⟨rfl, scalar_optNum l.dialogueLoudness (by simp [Loudness.toObj]) rfl⟩

/-- loudnessMetadata, class level: every `LoudnessMetadata` (any subset of the three strings and six numbers)
comes back from what `to_xml` writes, and a second generation gives the same tree. -/
theorem loudness_roundtrip (name : String) (l : Loudness) :
    parse loudnessPs noneDefaults (toXml loudnessPs name l.toObj) = some l.toObj ∧
    (parse loudnessPs noneDefaults (toXml loudnessPs name l.toObj)).map (toXml loudnessPs name)
      = some (toXml loudnessPs name l.toObj) := by
  refine codec_roundtrip_pure loudnessPs name l.toObj noneDefaults ⟨loudness_keys, loudness_fields name l⟩ ?_ ?_
  · decide +kernel
  · intro a ha
    simp [allArgs, loudnessPs, Property.ownArgs] at ha
    simp [Loudness.toObj, noneDefaults, ha]

theorem get_optStrV (s : Option String) : getOptStr (.one (optStrV s)) = some s := by cases s <;> rfl
theorem get_optNumV (k : Option Int) : getOptNum (.one (optNumV k)) = some k := by cases k <;> rfl
theorem get_optIntV (k : Option Int) : getOptInt (.one (optIntV k)) = some k := by cases k <;> rfl
theorem get_optBoolV (b : Option Bool) : getOptBool (.one (optBoolV b)) = some b := by cases b <;> rfl
theorem get_optTime (t : Option Time) : getOptTime (.one (optTime t)) = some t := by cases t <;> rfl

theorem loudness_ofObj (l : Loudness) : Loudness.ofObj l.toObj = some l := by
  simp [Loudness.ofObj, Loudness.toObj, get_optStrV, get_optNumV]

/-- the element handler built by `as_list_handler` reads back what it wrote for one `LoudnessMetadata` -/
theorem loudness_read (l : Loudness) :
    ((parse loudnessPs noneDefaults (toXml loudnessPs "loudnessMetadata" l.toObj)).bind Loudness.ofObj).map XV.loud
      = some (.loud l) := by
  rw [(loudness_roundtrip _ l).1]; simp [loudness_ofObj]

theorem centrePositionToXml_tag (c : CentrePosition) : (centrePositionToXml c).tag = outName "screenCentrePosition" := by
  cases c <;> rfl
theorem width_tag (b : Bool) (w : Int) : (screenWidthToXml b w).tag = outName "screenWidth" := rfl

theorem lookup_centre : lookupElem screenPs (outName "screenCentrePosition") = some centreImpl.handle :=
  lookupElem_of_mem (by decide +kernel)
    (p := .customElement "screenCentrePosition" (some "centrePosition") true centreImpl) (by simp [screenPs])
    (by simp [Property.elemHandler?, matchesName_outName])
theorem lookup_width : lookupElem screenPs (outName "screenWidth") = some widthImpl.handle :=
  lookupElem_of_mem (by decide +kernel) (p := .customElement "screenWidth" (some "width") true widthImpl)
    (by simp [screenPs]) (by simp [Property.elemHandler?, matchesName_outName])
theorem lookup_aspect : lookupAttr screenPs "aspectRatio" =
    some (fun kw v => ((liftCodec floatCodec).loads v).map fun x => kw.set "aspectRatio" (.one x)) :=
  lookupAttr_of_mem (by decide +kernel) (p := .attr "aspectRatio" "aspectRatio" (liftCodec floatCodec) true noneLeaf)
    (by simp [screenPs]) (by simp [Property.attrHandler?])

/-- the screen value seen through the keyword arguments of `make_screen`, as the two element handlers build them
(each of them sets `screen_type`) -/
def Screen.kw (s : Screen) : Kw XV :=
  ((((Kw.empty.set "aspectRatio" (.one (.leaf (.num s.aspectRatio)))).set "centrePosition"
    (.one (.cpos s.centrePosition))).set "screen_type" (.one (.leaf (.str s.centrePosition.kind)))).set "width"
    (.one (.leaf (.num s.width)))).set "screen_type" (.one (.leaf (.str s.centrePosition.kind)))

/-- by direct computation: the two hand-written handlers of the screen parser both write `screen_type`, so the
argument lists are not disjoint and `codec_roundtrip` does not apply -/
theorem screen_kw (name : String) (s : Screen) (h : s.centrePosition.inRange) :
    parseKw screenPs (toXml screenPs name s.toObj) = some s.kw := by
  obtain ⟨ar, c, w⟩ := s
  have hc := centrePosition_roundtrip c h none (Or.inl rfl)
  have hw := screenWidth_roundtrip (c.kind == "cartesian") w (some c.kind) (Or.inr (by cases c <;> rfl))
  have hkind : widthKind (c.kind == "cartesian") = c.kind := by cases c <;> rfl
  simp only [hkind] at hw
  have hattrs : (toXml screenPs name (Screen.toObj ⟨ar, c, w⟩)).attrs = [("aspectRatio", dumpsNum ar)] := by
    simp [toXml, Xml.attrs, screenPs, Property.attrsOut, Screen.toObj, centreImpl, widthImpl, liftCodec, floatCodec]
  have hkids : (toXml screenPs name (Screen.toObj ⟨ar, c, w⟩)).children =
      [centrePositionToXml c, screenWidthToXml (c.kind == "cartesian") w] := by
    simp [toXml, Xml.children, screenPs, Property.childrenOut, Screen.toObj, centreImpl, widthImpl]
  have hreq : screenPs.filterMap (·.requiredArg?) = ["aspectRatio", "centrePosition", "width"] := by
    simp [screenPs, Property.requiredArg?]
  have hgen : screenPs.filterMap (·.generic?) = [] := by simp [screenPs, Property.generic?]
  have htext : screenPs.findSome? (·.textHandler?) = none := by simp [screenPs, Property.textHandler?]
  simp only [parseKw, parseStages, hattrs, hkids, parseAttrs, lookup_aspect, parseChildren, centrePositionToXml_tag, width_tag,
    lookup_centre, lookup_width, parseText, htext, hgen, parseGenerics, hreq, Option.bind_eq_bind]
  simp [liftCodec, floatCodec, loadsNum_dumpsNum, centreImpl, widthImpl, curType, Kw.empty, Kw.set, setOne, hc, hw,
    Screen.kw]

theorem screen_obj (s : Screen) : (fun a => (s.kw a).getD (noneDefaults a)) = s.toObj := by
  funext a
  simp only [Screen.kw, Kw.set, Kw.empty, Screen.toObj, noneDefaults]
  by_cases h1 : a = "screen_type" <;> by_cases h2 : a = "width" <;> by_cases h3 : a = "centrePosition" <;>
    by_cases h4 : a = "aspectRatio" <;> simp_all

/-- audioProgrammeReferenceScreen, class level: a polar screen whose centre position is in the ranges
`PolarPosition` accepts, or any Cartesian screen, comes back from what `to_xml` writes. -/
theorem screen_roundtrip (name : String) (s : Screen) (h : s.centrePosition.inRange) :
    parse screenPs noneDefaults (toXml screenPs name s.toObj) = some s.toObj ∧
    (parse screenPs noneDefaults (toXml screenPs name s.toObj)).map (toXml screenPs name)
      = some (toXml screenPs name s.toObj) := by
  have : parse screenPs noneDefaults (toXml screenPs name s.toObj) = some s.toObj := by
    unfold parse; rw [screen_kw name s h]; simp only [Option.map_some]; rw [screen_obj]
  exact ⟨this, by rw [this]; rfl⟩

theorem screen_ofObj (s : Screen) : Screen.ofObj s.toObj = some s := by
  simp [Screen.ofObj, Screen.toObj, getNum, getStr]

theorem screen_read (s : Screen) (h : s.centrePosition.inRange) :
    ((parse screenPs noneDefaults (toXml screenPs "audioProgrammeReferenceScreen" s.toObj)).bind Screen.ofObj).map
      XV.screen = some (.screen s) := by
  rw [(screen_roundtrip _ s h).1]; simp [screen_ofObj]

/-- non-vacuity: the default screen and a Cartesian one -/
example : defaultScreen.centrePosition.inRange ∧ (Screen.mk 178000 (.cartesian 0 100000 0) 50000).centrePosition.inRange :=
  ⟨by simp [defaultScreen, CentrePosition.inRange], trivial⟩

theorem gainRangeToXml_tag (r : Option GainRange) : ∀ x ∈ gainRangeToXml r, x.tag = outName "gainInteractionRange" := by
  intro x hx
  cases r with
  | none => cases hx
  | some r =>
    simp only [gainRangeToXml, List.mem_append] at hx
    rcases hx with hx | hx <;> (split at hx <;> simp at hx; subst hx; rfl)

theorem dumpIRange_tag {c : String} {r : IRange} : ∀ x ∈ dumpIRange c r, x.tag = outName "positionInteractionRange" := by
  intro x hx
  simp only [dumpIRange, List.mem_append] at hx
  rcases hx with hx | hx <;> (split at hx <;> simp at hx; subst hx; rfl)

theorem posRangeToXml_tag (r : Option PosRange) : ∀ x ∈ posRangeToXml r, x.tag = outName "positionInteractionRange" := by
  cases r with
  | none => simp [posRangeToXml]
  | some r =>
    cases r <;> simp only [posRangeToXml, List.forall_mem_append] <;>
      exact ⟨⟨dumpIRange_tag, dumpIRange_tag⟩, dumpIRange_tag⟩

structure InteractionValid (i : Interaction) : Prop where
  /-- gains on the grid (not read from dB), at least one bound (an empty range is the excluded point) -/
  gain : ∀ r, i.gainInteractionRange = some r → ∃ mn mx, r = linRange mn mx ∧ (mn.isSome ∨ mx.isSome)
  pos : ∀ r, i.positionInteractionRange = some r → r.nonempty

theorem interaction_keys : ∀ v2, KeysOK (interactionPs v2) := by decide +kernel

theorem interaction_tags (v2 : Bool) : ∀ q ∈ interactionPs v2, TagsOK q := by
  intro q hq
  simp only [interactionPs, List.mem_cons, List.not_mem_nil, or_false] at hq
  rcases hq with rfl | rfl | rfl | rfl | rfl
  · exact tagsOK_decl rfl
  · exact tagsOK_decl rfl
  · exact tagsOK_decl rfl
  · exact tagsOK_generic (tags_xpath (fun v x hx => by
      split at hx
      · exact gainRangeToXml_tag _ x hx
      · cases hx))
  · exact tagsOK_generic (tags_xpath (fun v x hx => by
      split at hx
      · exact posRangeToXml_tag _ x hx
      · cases hx))

def optGRange : Option GainRange → XV
  | some r => .grange r
  | none => noneLeaf
def optPRange : Option PosRange → XV
  | some r => .prange r
  | none => noneLeaf

theorem gainRangeToXml_ne (mn mx : Option Int) (h : mn.isSome ∨ mx.isSome) :
    gainRangeToXml (some (linRange mn mx)) ≠ [] := by
  cases mn <;> cases mx <;> simp [gainRangeToXml, linRange, linear?] at h ⊢

theorem dumpIRange_ne (c : String) (r : IRange) (h : r.isEmpty = false) : dumpIRange c r ≠ [] := by
  obtain ⟨mn, mx⟩ := r
  cases mn <;> cases mx <;> simp [dumpIRange, IRange.isEmpty] at h ⊢

theorem posRangeToXml_ne (p : PosRange) (h : p.nonempty) : posRangeToXml (some p) ≠ [] := by
  cases p with
  | polar a e d | cartesian a e d =>
    simp only [PosRange.nonempty] at h
    simp only [posRangeToXml, ne_eq, List.append_eq_nil_iff, not_and]
    rcases h with h | h | h
    · intro h1; exact absurd h1.1 (dumpIRange_ne _ _ h)
    · intro h1; exact absurd h1.2 (dumpIRange_ne _ _ h)
    · intro _; exact dumpIRange_ne _ _ h

theorem interaction_props (v2 : Bool) (name : String) (i : Interaction) (hv : InteractionValid i) :
    ∀ p ∈ interactionPs v2,
      PropOK (interactionPs v2) (toXml (interactionPs v2) name i.toObj) i.toObj noneDefaults p := by
  intro p hp
  simp only [interactionPs, List.mem_cons, List.not_mem_nil, or_false] at hp
  rcases hp with rfl | rfl | rfl | rfl | rfl
  · exact .attr (scalar_leaf boolCodec true .none (.bool i.onOffInteract) (by simp [Interaction.toObj])
      (fun _ => boolCodec_roundtrip _) (by simp))
  · exact .attr (scalar_optBool i.gainInteract (by simp [Interaction.toObj]) rfl)
  · exact .attr (scalar_optBool i.positionInteract (by simp [Interaction.toObj]) rfl)
  · refine propOK_xpath (optGRange i.gainInteractionRange) (by simp [interactionPs, gainRangeImpl])
      (interaction_tags v2) (by cases v2 <;> decide +kernel) List.not_mem_nil
      (by cases h : i.gainInteractionRange <;> simp [Interaction.toObj, optGRange, h]) ?_
    cases h : i.gainInteractionRange with
    | none => exact Or.inl ⟨rfl, rfl, by simp [parseGainRange]⟩
    | some r =>
      obtain ⟨mn, mx, rfl, hne⟩ := hv.gain r h
      exact Or.inr ⟨gainRangeToXml_ne mn mx hne, by simp [optGRange, gainRange_roundtrip v2 mn mx hne]⟩
  · refine propOK_xpath (optPRange i.positionInteractionRange) (by simp [interactionPs, posRangeImpl])
      (interaction_tags v2) (by cases v2 <;> decide +kernel) List.not_mem_nil
      (by cases h : i.positionInteractionRange <;> simp [Interaction.toObj, optPRange, h]) ?_
    cases h : i.positionInteractionRange with
    | none => exact Or.inl ⟨rfl, rfl, by simpa [posRangeToXml] using posRange_none⟩
    | some r => exact Or.inr ⟨posRangeToXml_ne r (hv.pos r h), by simp [optPRange, posRange_roundtrip r (hv.pos r h)]⟩

theorem interaction_roundtrip (v2 : Bool) (name : String) (i : Interaction) (hv : InteractionValid i) :
    parse (interactionPs v2) noneDefaults (toXml (interactionPs v2) name i.toObj) = some i.toObj ∧
    (parse (interactionPs v2) noneDefaults (toXml (interactionPs v2) name i.toObj)).map (toXml (interactionPs v2) name)
      = some (toXml (interactionPs v2) name i.toObj) := by
  refine codec_roundtrip_props (interactionPs v2) name i.toObj noneDefaults (interaction_keys v2)
    (interaction_props v2 name i hv) ?_
  intro a ha
  simp [allArgs, interactionPs, Property.ownArgs, gainRangeImpl, posRangeImpl, xpathImpl] at ha
  simp [Interaction.toObj, noneDefaults, ha]

theorem interaction_ofObj (i : Interaction) : Interaction.ofObj i.toObj = some i := by
  obtain ⟨a, b, c, d, e⟩ := i
  cases d <;> cases e <;> simp [Interaction.ofObj, Interaction.toObj, getBool, get_optBoolV]

theorem interaction_read (v2 : Bool) (i : Interaction) (hv : InteractionValid i) :
    ((parse (interactionPs v2) noneDefaults (toXml (interactionPs v2) "audioObjectInteraction" i.toObj)).bind
      Interaction.ofObj).map XV.interaction = some (.interaction i) := by
  rw [(interaction_roundtrip v2 _ i hv).1]; simp [interaction_ofObj]

/-- non-vacuity: on/off interaction with a gain range (max only) and a Cartesian position range -/
example : InteractionValid ⟨true, some true, none, some (linRange none (some 200000)),
    some (.cartesian ⟨some (-50000), some 50000⟩ ⟨none, none⟩ ⟨none, some 100000⟩)⟩ :=
  { gain := fun r h => ⟨none, some 200000, by simpa using h.symm, by simp⟩,
    pos := fun r h => by
      simp only [Option.some.injEq] at h; subst h
      exact Or.inl (by simp [IRange.isEmpty]) }

theorem positionOffsetToXml_tag (p : Option PositionOffset) :
    ∀ x ∈ positionOffsetToXml p, x.tag = outName "positionOffset" := by
  have hd : ∀ c v, ∀ y ∈ dumpOffset c v, y.tag = outName "positionOffset" := by
    intro c v y hy
    unfold dumpOffset at hy
    split at hy
    · simp at hy; subst hy; rfl
    · cases hy
  cases p with
  | none => simp [positionOffsetToXml]
  | some q =>
    cases q <;> simp only [positionOffsetToXml, List.forall_mem_append] <;> exact ⟨⟨hd _ _, hd _ _⟩, hd _ _⟩

theorem positionOffsetToXml_ne (q : PositionOffset) (h : q.nonzero) : positionOffsetToXml (some q) ≠ [] := by
  cases q <;> simp only [PositionOffset.nonzero] at h <;>
    simp only [positionOffsetToXml, dumpOffset, ne_eq, List.append_eq_nil_iff, not_and] <;>
    (rcases h with h | h | h <;> simp [h])

theorem optionalGainToXml_tag (g : Option Int) : ∀ x ∈ optionalGainToXml g, x.tag = outName "gain" := by
  intro x hx; cases g <;> simp [optionalGainToXml] at hx; subst hx; rfl

structure AVSValid (a : AVS) : Prop where
  /-- an all-zero offset is the excluded point -/
  offset : ∀ q, a.positionOffset = some q → q.nonzero
  interaction : ∀ i, a.audioObjectInteraction = some i → InteractionValid i

theorem avs_keys : ∀ v2, KeysOK (avsPs v2) := by decide +kernel

theorem tagsOK_optGain : TagsOK (.customElement "gain" none false optGainImpl) :=
  tagsOK_custom (tags_single (fun v x hx => by
    split at hx
    · exact optionalGainToXml_tag _ x hx
    · cases hx))

theorem tagsOK_offset : TagsOK (.genericElement none false offsetImpl) :=
  tagsOK_generic (tags_xpath (fun v x hx => by
    split at hx
    · exact positionOffsetToXml_tag _ x hx
    · cases hx))

theorem tagsOK_interaction (v2 : Bool) :
    TagsOK (.customElement "audioObjectInteraction" (some "audioObjectInteraction") false (interactionImpl v2)) :=
  tagsOK_custom (tags_single (fun v x hx => by
    split at hx
    · simp at hx; subst hx; rfl
    · cases hx))

theorem avs_tags (v2 : Bool) : ∀ q ∈ avsPs v2, TagsOK q := by
  intro q hq
  simp only [avsPs, List.mem_cons, List.not_mem_nil, or_false] at hq
  rcases hq with rfl | rfl | rfl | rfl | rfl
  · exact tagsOK_decl rfl
  · exact tagsOK_optGain
  · exact tagsOK_decl rfl
  · exact tagsOK_offset
  · exact tagsOK_interaction v2

theorem propOK_interaction {v2 : Bool} {ps : List (Property XV)} {e : Xml} {o cd : Obj XV} (i : Option Interaction)
    (ho : o "audioObjectInteraction" = .one (optInteraction i)) (hcd : cd "audioObjectInteraction" = .one noneLeaf)
    (hv : ∀ x, i = some x → InteractionValid x) :
    PropOK ps e o cd
      (.customElement "audioObjectInteraction" (some "audioObjectInteraction") false (interactionImpl v2)) := by
  refine propOK_single (optInteraction i) ho ((tagsOK_interaction v2).single _) ?_
  cases h : i with
  | none => exact Or.inl ⟨rfl, hcd⟩
  | some x => exact Or.inr ⟨_, rfl, interaction_read v2 x (hv x h)⟩

theorem propOK_offset {ps : List (Property XV)} {name : String} {o cd : Obj XV} (p : Option PositionOffset)
    (hp : .genericElement none false offsetImpl ∈ ps) (htags : ∀ q ∈ ps, TagsOK q)
    (h1 : (ps.flatMap outNames).count "positionOffset" = 1) (hlook : "positionOffset" ∉ ps.flatMap (·.elemNames))
    (ho : o "positionOffset" = .one (optOffset p)) (hcd : cd "positionOffset" = .one noneLeaf)
    (hv : ∀ q, p = some q → q.nonzero) :
    PropOK ps (toXml ps name o) o cd (.genericElement none false offsetImpl) := by
  refine propOK_xpath (optOffset p) hp htags h1 hlook ho ?_
  cases h : p with
  | none => exact Or.inl ⟨rfl, hcd, by simp [parsePositionOffset, offsetFinish]⟩
  | some q =>
    have hq := hv q h
    exact Or.inr ⟨positionOffsetToXml_ne q hq,
      by simp [optOffset, positionOffset_roundtrip (some q) (fun _ h => by cases h; exact hq)]⟩

theorem avs_props (v2 : Bool) (name : String) (a : AVS) (hv : AVSValid a) :
    ∀ p ∈ avsPs v2, PropOK (avsPs v2) (toXml (avsPs v2) name a.toObj) a.toObj noneDefaults p := by
  intro p hp
  simp only [avsPs, List.mem_cons, List.not_mem_nil, or_false] at hp
  rcases hp with rfl | rfl | rfl | rfl | rfl
  · exact .attr (scalar_reqStr a.id (by simp [AVS.toObj]))
  · refine propOK_single (optNumV a.gain) (by simp [AVS.toObj]) (tagsOK_optGain.single _) ?_
    cases h : a.gain with
    | none => exact Or.inl ⟨rfl, rfl⟩
    | some k => exact Or.inr ⟨elem "gain" [] (dumpsNum k), rfl, by simp [optNumV, handleGainElement_written, gainValue]⟩
  · exact .attrElement (scalar_optBool a.mute (by simp [AVS.toObj]) rfl)
  · exact propOK_offset a.positionOffset (by simp [avsPs]) (avs_tags v2) (by cases v2 <;> decide +kernel)
      (by cases v2 <;> decide +kernel) (by simp [AVS.toObj]) rfl hv.offset
  · exact propOK_interaction a.audioObjectInteraction (by simp [AVS.toObj]) rfl hv.interaction

theorem avs_roundtrip (v2 : Bool) (name : String) (a : AVS) (hv : AVSValid a) :
    parse (avsPs v2) noneDefaults (toXml (avsPs v2) name a.toObj) = some a.toObj ∧
    (parse (avsPs v2) noneDefaults (toXml (avsPs v2) name a.toObj)).map (toXml (avsPs v2) name)
      = some (toXml (avsPs v2) name a.toObj) := by
  refine codec_roundtrip_props (avsPs v2) name a.toObj noneDefaults (avs_keys v2) (avs_props v2 name a hv) ?_
  intro k hk
  simp [allArgs, avsPs, Property.ownArgs, optGainImpl, offsetImpl, interactionImpl, singleImpl, xpathImpl] at hk
  simp [AVS.toObj, noneDefaults, hk]

/-- non-vacuity: gain, mute, a Cartesian offset and an interaction with a position range -/
example : AVSValid ⟨"AVS_1001_0001", some 200000, some true, some (.cartesian 0 50000 0),
    some ⟨false, none, some true, none, some (.polar ⟨some (-3000000), some 3000000⟩ ⟨none, none⟩ ⟨none, none⟩)⟩⟩ :=
  { offset := fun q h => by simp at h; subst h; exact Or.inr (Or.inl (by decide)),
    interaction := fun i h => by
      simp at h; subst h
      exact ⟨fun r h => by simp at h, fun r h => by
        simp only [Option.some.injEq] at h; subst h
        exact Or.inl (by simp [IRange.isEmpty])⟩ }

theorem avs_ofObj (a : AVS) : AVS.ofObj a.toObj = some a := by
  obtain ⟨i, g, m, p, x⟩ := a
  cases p <;> cases x <;>
    simp [AVS.ofObj, AVS.toObj, getStr, get_optNumV, get_optBoolV, getOptOffset, getOptInteraction, optOffset,
      optInteraction]

theorem avs_read (v2 : Bool) (a : AVS) (hv : AVSValid a) :
    ((parse (avsPs v2) noneDefaults (toXml (avsPs v2) "alternativeValueSet" a.toObj)).bind AVS.ofObj).map XV.avs
      = some (.avs a) := by
  rw [(avs_roundtrip v2 _ a hv).1]; simp [avs_ofObj]

end Earverif.XmlBlocks
