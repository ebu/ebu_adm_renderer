/- C19: full round trips for the table-instantiated model over ℝ: per-sector lemmas (fuel-free description of a
   sector, both compositions inside one sector incl. the mod-360 bookkeeping), the two sector lookups on the
   regenerated table (soundness, totality), independence of the sector chosen on shared boundaries; at the end the
   facts about the horizontal radius that `polar_cart_polar_of_radius` needs and the values of `elToCart` for the table's
   constants (low elevations, the poles, distance 0). -/
import Earverif.Proofs.C19Table
namespace Earverif.Conv
open Real
open Earverif.Gen.C19 (mapping elTop elTopTilde)

/-- The left azimuth re-expressed relative to the right one: `relative_angle(right_az, left_az)` without the loops
(`GoodSector.relLeft`).  A sector is traversed from `right.az` up to `lrel`, so `[right.az, lrel]` is an interval. -/
noncomputable def Sector.lrel (s : Sector ℝ) : ℝ :=
  if s.left.az < s.right.az then s.left.az + 360 else s.left.az

/-- What the round-trip proofs need of a sector (all true of the five sectors of the reference table).  The bounds are
one-sided for a reason: with `-180 < right.az ≤ 180` every azimuth of `[-180, 180]` is at most one step of either loop of
`relative_angle(right_az, ·)` away from `[right.az, right.az + 360)` (`relAz`); with `left.az < 180` normalising `lrel` to
`[-180, 180)` gives back `left.az` (`lrel_norm`). -/
structure GoodSector (s : Sector ℝ) : Prop where
  hR1 : -180 < s.right.az
  hR2 : s.right.az ≤ 180
  hL1 : -180 ≤ s.left.az
  hL2 : s.left.az < 180
  hw1 : s.right.az < s.lrel
  hw2 : s.lrel < s.right.az + 180
  hdet : s.det ≠ 0

def InCone (s : Sector ℝ) (x y : ℝ) : Prop :=
  0 ≤ (gains s x y).1 ∧ 0 ≤ (gains s x y).2 ∧ 0 < (gains s x y).1 + (gains s x y).2

theorem GoodSector.relAz {s : Sector ℝ} (g : GoodSector s) (m : Nat) (az : ℝ) (h1 : -180 ≤ az) (h2 : az ≤ 180) :
    relativeAngle (m + 1) s.right.az az = if az < s.right.az then az + 360 else az := by
  have hR1 := g.hR1; have hR2 := g.hR2
  split_ifs with h
  · exact relativeAngle_turn m 1 (by linarith) (by linarith) (by simp) (by linarith) (by linarith)
  · exact relativeAngle_of_mem _ _ _ (not_lt.mp h) (by linarith)

theorem GoodSector.relLeft {s : Sector ℝ} (g : GoodSector s) (m : Nat) :
    relativeAngle (m + 1) s.right.az s.left.az = s.lrel :=
  g.relAz m s.left.az g.hL1 g.hL2.le

theorem GoodSector.lrel_norm {s : Sector ℝ} (g : GoodSector s) (m : Nat) :
    relativeAngle (m + 1) (-180) s.lrel = s.left.az := by
  unfold Sector.lrel
  split_ifs with h
  · exact relativeAngle_turn m (-1) (by linarith only [g.hL1]) (by linarith only [g.hL2]) (by push_cast; ring) g.hL1
      (by linarith only [g.hL2])
  · exact relativeAngle_of_mem _ _ _ g.hL1 (by linarith only [g.hL2])

theorem GoodSector.normEnd {s : Sector ℝ} (g : GoodSector s) (m : Nat) :
    upLt s.right.az (m + 1) (downGt s.right.az (m + 1) s.left.az) = s.lrel := by
  -- neither downward loop moves `left.az < right.az + 360`, so this is `relative_angle(right_az, left_az)`
  have h : s.left.az < s.right.az + 360 := by linarith only [g.hR1, g.hL2]
  rw [downGt_id _ _ _ h.le, ← downGe_id _ _ (m + 1) h]
  exact g.relLeft m

theorem GoodSector.inside {s : Sector ℝ} (g : GoodSector s) (m : Nat) (az : ℝ) :
    insideAngleRange (m + 1) az s.right.az s.left.az (k 0) =
      decide (relativeAngle (m + 1) s.right.az az ≤ s.lrel) := by
  rw [insideAngleRange_eq, g.normEnd]

/-- Closed polar range of a sector (fuel-free), for azimuths in `[-180, 180]`. -/
def InRange (s : Sector ℝ) (az : ℝ) : Prop := (if az < s.right.az then az + 360 else az) ≤ s.lrel

theorem GoodSector.inRange_iff {s : Sector ℝ} (g : GoodSector s) (m : Nat) (az : ℝ) (h1 : -180 ≤ az)
    (h2 : az ≤ 180) : relativeAngle (m + 1) s.right.az az ≤ s.lrel ↔ InRange s az := by
  unfold InRange; rw [g.relAz m az h1 h2]

/-- The test of `_find_sector` on `s` (and of `_find_cart_sector` on `s.cart`) for an azimuth in `[-180, 180]`. -/
theorem GoodSector.inside_iff {s : Sector ℝ} (g : GoodSector s) (m : Nat) {az : ℝ} (h1 : -180 ≤ az) (h2 : az ≤ 180) :
    insideAngleRange (m + 1) az s.right.az s.left.az (k 0) = true ↔ InRange s az := by
  rw [g.inside, decide_eq_true_eq, g.inRange_iff m az h1 h2]

theorem GoodSector.mid {s : Sector ℝ} (g : GoodSector s) :
    s.right.az - (s.lrel + s.right.az) / 2 ≠ 0 ∧ |s.right.az - (s.lrel + s.right.az) / 2| < 90 ∧
    |s.right.az - (s.lrel + s.right.az) / 2| = (s.lrel - s.right.az) / 2 := by
  have hpos : 0 < (s.lrel - s.right.az) / 2 := half_pos (sub_pos.mpr g.hw1)
  rw [show s.right.az - (s.lrel + s.right.az) / 2 = -((s.lrel - s.right.az) / 2) by ring, abs_neg, abs_of_pos hpos]
  exact ⟨neg_ne_zero.mpr hpos.ne', by linarith only [g.hw2], rfl⟩

theorem GoodSector.azToP_eq {s : Sector ℝ} (g : GoodSector s) (m : Nat) (az : ℝ) :
    azToP (RP (m + 1)) s az = mapAzToLinear s.lrel s.right.az (relativeAngle (m + 1) s.right.az az) := by
  dsimp only [azToP]
  rw [show (RP (m + 1)).fuel = m + 1 from rfl, g.relLeft]

theorem GoodSector.pToAz_eq {s : Sector ℝ} (g : GoodSector s) (m : Nat) (p : ℝ) :
    pToAz (RP (m + 1)) s p = relativeAngle (m + 1) (-180) (mapLinearToAz s.lrel s.right.az p) := by
  dsimp only [pToAz]
  rw [show (RP (m + 1)).fuel = m + 1 from rfl, g.relLeft, k_neg180]

theorem GoodSector.azToP_left {s : Sector ℝ} (g : GoodSector s) (m : Nat) : azToP (RP (m + 1)) s s.left.az = 0 := by
  rw [g.azToP_eq, g.relLeft]
  exact mapAzToLinear_left _ _ g.mid.1 g.mid.2.1

theorem GoodSector.azToP_right {s : Sector ℝ} (g : GoodSector s) (m : Nat) : azToP (RP (m + 1)) s s.right.az = 1 := by
  rw [g.azToP_eq, relativeAngle_of_mem _ _ _ le_rfl (lt_add_of_pos_right _ (by norm_num))]
  exact mapAzToLinear_right _ _ g.mid.1 g.mid.2.1

theorem GoodSector.pToAz_zero {s : Sector ℝ} (g : GoodSector s) (m : Nat) : pToAz (RP (m + 1)) s 0 = s.left.az := by
  rw [g.pToAz_eq, mapLinearToAz_zero _ _ g.mid.2.1, g.lrel_norm]

theorem GoodSector.pToAz_one {s : Sector ℝ} (g : GoodSector s) (m : Nat) (h : s.right.az < 180) :
    pToAz (RP (m + 1)) s 1 = s.right.az := by
  rw [g.pToAz_eq, mapLinearToAz_one _ _ g.mid.2.1]
  exact relativeAngle_of_mem _ _ _ g.hR1.le (by linarith only [h])

theorem RP_el (n : Nat) : 0 < (RP n).elTop ∧ (RP n).elTop < 90 ∧ 0 < (RP n).elTopTilde ∧ (RP n).elTopTilde < 90 := by
  obtain ⟨h1, h2, -, -⟩ := RP_consts n
  rw [h1, h2]; norm_num

/-- polar -> Cartesian -> polar inside a good sector of the table model, for an azimuth in the sector's closed
range: the image lies in the sector's cone (gains `≥ 0`, sum `> 0`) and converting it back *with the same sector*
returns the original position (`180 ↦ -180`). -/
theorem polar_in_sector (m : Nat) (s : Sector ℝ) (g : GoodSector s) (az el d : ℝ) (h1 : -180 ≤ az)
    (h2 : az ≤ 180) (hin : relativeAngle (m + 1) s.right.az az ≤ s.lrel) (hd : 0 < d) (hel : |el| < 90) :
    0 ≤ (gains s (polarToCartIn (RP (m + 1)) s az el d).1 (polarToCartIn (RP (m + 1)) s az el d).2.1).1 ∧
    0 ≤ (gains s (polarToCartIn (RP (m + 1)) s az el d).1 (polarToCartIn (RP (m + 1)) s az el d).2.1).2 ∧
    0 < (gains s (polarToCartIn (RP (m + 1)) s az el d).1 (polarToCartIn (RP (m + 1)) s az el d).2.1).1 +
        (gains s (polarToCartIn (RP (m + 1)) s az el d).1 (polarToCartIn (RP (m + 1)) s az el d).2.1).2 ∧
    cartToPolarIn (RP (m + 1)) s (polarToCartIn (RP (m + 1)) s az el d).1
        (polarToCartIn (RP (m + 1)) s az el d).2.1 (polarToCartIn (RP (m + 1)) s az el d).2.2 =
      (if az = 180 then -180 else az, el, d) := by
  obtain ⟨e1, e2, e3, e4⟩ := RP_el (m + 1)
  have hf : (RP (m + 1)).fuel = m + 1 := rfl
  obtain ⟨hm0, hm1, hm2⟩ := g.mid
  have hrl := g.relLeft m
  set a := relativeAngle (m + 1) s.right.az az with ha
  have haR : s.right.az ≤ a := by
    rw [ha, g.relAz m az h1 h2]; split_ifs with h
    · linarith only [g.hR2, h1]
    · exact not_lt.mp h
  have hamid : |a - (s.lrel + s.right.az) / 2| ≤ |s.right.az - (s.lrel + s.right.az) / 2| := by
    rw [hm2, abs_le]; constructor <;> linarith only [haR, hin]
  have hp : 0 ≤ azToP (RP (m + 1)) s az ∧ azToP (RP (m + 1)) s az ≤ 1 := by
    rw [g.azToP_eq]; exact mapAzToLinear_mem01 s.lrel s.right.az a hm0 hm1 hamid
  have hrpos : 0 < (elToCart (RP (m + 1)) el d).2 := elToCart_rxy_pos _ e2 e3 e4 el d hd hel
  rw [gains_polarToCartIn _ s g.hdet]
  refine ⟨mul_nonneg hrpos.le (sub_nonneg.mpr hp.2), mul_nonneg hrpos.le hp.1, ?_, ?_⟩
  · rw [← mul_add, sub_add_cancel, mul_one]; exact hrpos
  have := polar_cart_polar_in_sector_partial (RP (m + 1)) e1 e2 e3 e4 s g.hdet az el d hd hel
    (by rw [hf, hrl]; exact hm0) (by rw [hf, hrl]; exact hm1)
    (by rw [hf, hrl, ← ha]; exact lt_of_le_of_lt hamid hm1)
  rw [this, hf, k_neg180, relativeAngle_norm180 m _ az g.hR1.le g.hR2 h1 h2]

/-- Cartesian -> polar -> Cartesian inside a good sector of the table model, for a point of the sector's cone:
the azimuth produced is in `[-180, 180)` and in the sector's closed polar range, and converting back *with the
same sector* returns the original point. -/
theorem cart_in_sector (m : Nat) (s : Sector ℝ) (g : GoodSector s) (x y z : ℝ)
    (hg1 : 0 ≤ (gains s x y).1) (hg2 : 0 ≤ (gains s x y).2) (hpos : 0 < (gains s x y).1 + (gains s x y).2) :
    (-180 ≤ (cartToPolarIn (RP (m + 1)) s x y z).1 ∧ (cartToPolarIn (RP (m + 1)) s x y z).1 < 180) ∧
    relativeAngle (m + 1) s.right.az (cartToPolarIn (RP (m + 1)) s x y z).1 ≤ s.lrel ∧
    polarToCartIn (RP (m + 1)) s (cartToPolarIn (RP (m + 1)) s x y z).1
        (cartToPolarIn (RP (m + 1)) s x y z).2.1 (cartToPolarIn (RP (m + 1)) s x y z).2.2 = (x, y, z) := by
  obtain ⟨e1, e2, e3, e4⟩ := RP_el (m + 1)
  have hf : (RP (m + 1)).fuel = m + 1 := rfl
  obtain ⟨hm0, hm1, hm2⟩ := g.mid
  have hrl := g.relLeft m
  have hp0 : 0 ≤ (gains s x y).2 / ((gains s x y).1 + (gains s x y).2) := div_nonneg hg2 hpos.le
  have hp1 : (gains s x y).2 / ((gains s x y).1 + (gains s x y).2) ≤ 1 :=
    (div_le_one hpos).mpr (le_add_of_nonneg_left hg1)
  generalize hpe : (gains s x y).2 / ((gains s x y).1 + (gains s x y).2) = p at hp0 hp1
  have hrange := mapLinearToAz_mem_sector s.lrel s.right.az p hm1 hp0 hp1
  rw [hm2, abs_le] at hrange
  set a0 := mapLinearToAz s.lrel s.right.az p with ha0
  have ha1 : s.right.az ≤ a0 := by linarith only [hrange.1]
  have ha2 : a0 ≤ s.lrel := by linarith only [hrange.2]
  have haz : (cartToPolarIn (RP (m + 1)) s x y z).1 = relativeAngle (m + 1) (-180) a0 := by
    unfold cartToPolarIn; rw [g.pToAz_eq, hpe]
  have hren : relativeAngle (m + 1) s.right.az (relativeAngle (m + 1) (-180) a0) = a0 :=
    relativeAngle_renorm m s.right.az a0 g.hR1.le g.hR2 ha1 (by linarith only [ha2, g.hw2])
  refine ⟨pToAz_mem _ (Nat.le_add_left 1 m) s ⟨g.hL1, g.hL2.le⟩ ⟨g.hR1.le, g.hR2⟩ _, by rw [haz, hren]; exact ha2, ?_⟩
  apply cart_polar_cart_in_sector_partial (RP (m + 1)) e1 e2 e3 e4 s g.hdet x y z hg1 hg2 hpos
    (by rw [hf, hrl]; exact hm0) (by rw [hf, hrl]; exact hm1)
  rw [hf, hrl, haz, hren, hpe]

-- The five sectors are typed in; `sectors_RP` checks them against the regenerated `Gen.C19.mapping` (a changed table fails
-- there), and everything after it is case analysis on these five.
noncomputable def sec0 : Sector ℝ := ⟨0, ⟨0, 0, 1, 0⟩, ⟨-30, 1, 1, 0⟩⟩
noncomputable def sec1 : Sector ℝ := ⟨1, ⟨-30, 1, 1, 0⟩, ⟨-110, 1, -1, 0⟩⟩
noncomputable def sec2 : Sector ℝ := ⟨2, ⟨-110, 1, -1, 0⟩, ⟨110, -1, -1, 0⟩⟩
noncomputable def sec3 : Sector ℝ := ⟨3, ⟨110, -1, -1, 0⟩, ⟨30, -1, 1, 0⟩⟩
noncomputable def sec4 : Sector ℝ := ⟨4, ⟨30, -1, 1, 0⟩, ⟨0, 0, 1, 0⟩⟩

theorem sectors_RP (n : Nat) : sectors (RP n) = [sec0, sec1, sec2, sec3, sec4] := by
  have h : sectors (RP n) =
      [⟨0, ⟨k 0, k 0, k 1, k 0⟩, ⟨k (-30), k 1, k 1, k 0⟩⟩,
       ⟨1, ⟨k (-30), k 1, k 1, k 0⟩, ⟨k (-110), k 1, k (-1), k 0⟩⟩,
       ⟨2, ⟨k (-110), k 1, k (-1), k 0⟩, ⟨k 110, k (-1), k (-1), k 0⟩⟩,
       ⟨3, ⟨k 110, k (-1), k (-1), k 0⟩, ⟨k 30, k (-1), k 1, k 0⟩⟩,
       ⟨4, ⟨k 30, k (-1), k 1, k 0⟩, ⟨k 0, k 0, k 1, k 0⟩⟩] := by
    simp only [sectors, RP, Params.ofTable, mapping]
    rfl
  rw [h]
  simp only [k, Scalar.ofRat, sec0, sec1, sec2, sec3, sec4, Rat.cast_zero, Rat.cast_one, Rat.cast_neg, Rat.cast_ofNat]

theorem mem_sectors_RP {n : Nat} {s : Sector ℝ} (h : s ∈ sectors (RP n)) :
    s = sec0 ∨ s = sec1 ∨ s = sec2 ∨ s = sec3 ∨ s = sec4 := by
  rw [sectors_RP] at h; simpa using h

theorem good_sec0 : GoodSector sec0 := by constructor <;> norm_num [sec0, Sector.lrel, Sector.det]
theorem good_sec1 : GoodSector sec1 := by constructor <;> norm_num [sec1, Sector.lrel, Sector.det]
theorem good_sec2 : GoodSector sec2 := by constructor <;> norm_num [sec2, Sector.lrel, Sector.det]
theorem good_sec3 : GoodSector sec3 := by constructor <;> norm_num [sec3, Sector.lrel, Sector.det]
theorem good_sec4 : GoodSector sec4 := by constructor <;> norm_num [sec4, Sector.lrel, Sector.det]

theorem good_of_mem {n : Nat} {s : Sector ℝ} (h : s ∈ sectors (RP n)) : GoodSector s := by
  rcases mem_sectors_RP h with rfl | rfl | rfl | rfl | rfl
  exacts [good_sec0, good_sec1, good_sec2, good_sec3, good_sec4]

/-- the ring is clockwise: every sector has a negative determinant -/
theorem det_neg_of_mem {n : Nat} {s : Sector ℝ} (h : s ∈ sectors (RP n)) : s.det < 0 := by
  rcases mem_sectors_RP h with rfl | rfl | rfl | rfl | rfl <;> norm_num [Sector.det, sec0, sec1, sec2, sec3, sec4]

theorem lrel_sec2 : sec2.lrel = 250 := by norm_num [sec2, Sector.lrel]

theorem GoodSector.inRange_interval {s : Sector ℝ} (g : GoodSector s) (hlr : s.right.az ≤ s.left.az) {az : ℝ}
    (h1 : -180 ≤ az) : InRange s az ↔ s.right.az ≤ az ∧ az ≤ s.left.az := by
  unfold InRange Sector.lrel
  rw [if_neg (not_lt.mpr hlr)]
  by_cases c : az < s.right.az
  · rw [if_pos c]; exact ⟨fun h => by linarith only [h, h1, g.hL2], fun h => absurd c (not_lt.mpr h.1)⟩
  · rw [if_neg c]; exact ⟨fun h => ⟨not_lt.mp c, h⟩, fun h => h.2⟩

/-! Sector 2 (`110` up to `250`) holds both ends of `[-180, 180]`. -/

theorem inRange_sec0 {az : ℝ} (h1 : -180 ≤ az) : InRange sec0 az ↔ -30 ≤ az ∧ az ≤ 0 :=
  good_sec0.inRange_interval (by norm_num [sec0]) h1
theorem inRange_sec1 {az : ℝ} (h1 : -180 ≤ az) : InRange sec1 az ↔ -110 ≤ az ∧ az ≤ -30 :=
  good_sec1.inRange_interval (by norm_num [sec1]) h1
theorem inRange_sec2 {az : ℝ} (h2 : az ≤ 180) : InRange sec2 az ↔ 110 ≤ az ∨ az ≤ -110 := by
  unfold InRange; rw [lrel_sec2, show sec2.right.az = 110 from rfl]
  by_cases c : az < 110
  · rw [if_pos c]; exact ⟨fun h => Or.inr (by linarith only [h]), fun h => by rcases h with h | h <;> linarith only [h, c]⟩
  · rw [if_neg c]; exact ⟨fun _ => Or.inl (not_lt.mp c), fun _ => by linarith only [h2]⟩
theorem inRange_sec3 {az : ℝ} (h1 : -180 ≤ az) : InRange sec3 az ↔ 30 ≤ az ∧ az ≤ 110 :=
  good_sec3.inRange_interval (by norm_num [sec3]) h1
theorem inRange_sec4 {az : ℝ} (h1 : -180 ≤ az) : InRange sec4 az ↔ 0 ≤ az ∧ az ≤ 30 :=
  good_sec4.inRange_interval (by norm_num [sec4]) h1

theorem find_polar_sound (m : Nat) (az : ℝ) (s : Sector ℝ) (h : findSector (RP (m + 1)) az = some s) :
    s ∈ sectors (RP (m + 1)) ∧ relativeAngle (m + 1) s.right.az az ≤ s.lrel := by
  unfold findSector at h
  have hmem := List.mem_of_find?_eq_some h
  have hp := List.find?_some h
  have hf : (RP (m + 1)).fuel = m + 1 := rfl
  rw [hf, (good_of_mem hmem).inside] at hp
  exact ⟨hmem, of_decide_eq_true hp⟩

theorem find_polar_total (m : Nat) (az : ℝ) (h1 : -180 ≤ az) (h2 : az ≤ 180) :
    ∃ s, findSector (RP (m + 1)) az = some s := by
  have key : ∃ s ∈ sectors (RP (m + 1)), InRange s az := by
    rw [sectors_RP]
    rcases le_total az (-110) with a | a
    · exact ⟨sec2, by simp, (inRange_sec2 h2).mpr (Or.inr a)⟩
    rcases le_total az (-30) with b | b
    · exact ⟨sec1, by simp, (inRange_sec1 h1).mpr ⟨a, b⟩⟩
    rcases le_total az 0 with c | c
    · exact ⟨sec0, by simp, (inRange_sec0 h1).mpr ⟨b, c⟩⟩
    rcases le_total az 30 with d | d
    · exact ⟨sec4, by simp, (inRange_sec4 h1).mpr ⟨c, d⟩⟩
    rcases le_total az 110 with e | e
    · exact ⟨sec3, by simp, (inRange_sec3 h1).mpr ⟨d, e⟩⟩
    · exact ⟨sec2, by simp, (inRange_sec2 h2).mpr (Or.inl e)⟩
  obtain ⟨s, hs, hr⟩ := key
  have : (findSector (RP (m + 1)) az).isSome := by
    unfold findSector
    rw [List.find?_isSome]
    exact ⟨s, hs, ((good_of_mem hs).inside_iff m h1 h2).mpr hr⟩
  exact Option.isSome_iff_exists.mp this

/-- The sector with its azimuths replaced by the azimuths of its Cartesian ends (what `_find_cart_sector`
compares against). -/
noncomputable def Sector.cart (s : Sector ℝ) : Sector ℝ :=
  ⟨s.idx, ⟨cartAz s.left.x s.left.y, s.left.x, s.left.y, s.left.z⟩,
          ⟨cartAz s.right.x s.right.y, s.right.x, s.right.y, s.right.z⟩⟩

theorem cart_sec0 : sec0.cart = ⟨0, ⟨0, 0, 1, 0⟩, ⟨-45, 1, 1, 0⟩⟩ := by
  simp [Sector.cart, sec0, cartAz_octant.1, cartAz_octant.2.1]
theorem cart_sec1 : sec1.cart = ⟨1, ⟨-45, 1, 1, 0⟩, ⟨-135, 1, -1, 0⟩⟩ := by
  simp [Sector.cart, sec1, cartAz_octant.2.1, cartAz_octant.2.2.2.1]
theorem cart_sec2 : sec2.cart = ⟨2, ⟨-135, 1, -1, 0⟩, ⟨135, -1, -1, 0⟩⟩ := by
  simp [Sector.cart, sec2, cartAz_octant.2.2.2.1, cartAz_octant.2.2.2.2.2.1]
theorem cart_sec3 : sec3.cart = ⟨3, ⟨135, -1, -1, 0⟩, ⟨45, -1, 1, 0⟩⟩ := by
  simp [Sector.cart, sec3, cartAz_octant.2.2.2.2.2.1, cartAz_octant.2.2.2.2.2.2.2]
theorem cart_sec4 : sec4.cart = ⟨4, ⟨45, -1, 1, 0⟩, ⟨0, 0, 1, 0⟩⟩ := by
  simp [Sector.cart, sec4, cartAz_octant.2.2.2.2.2.2.2, cartAz_octant.1]

theorem goodc_of_mem {n : Nat} {s : Sector ℝ} (h : s ∈ sectors (RP n)) : GoodSector s.cart := by
  rcases mem_sectors_RP h with rfl | rfl | rfl | rfl | rfl
  · rw [cart_sec0]; constructor <;> norm_num [Sector.lrel, Sector.det]
  · rw [cart_sec1]; constructor <;> norm_num [Sector.lrel, Sector.det]
  · rw [cart_sec2]; constructor <;> norm_num [Sector.lrel, Sector.det]
  · rw [cart_sec3]; constructor <;> norm_num [Sector.lrel, Sector.det]
  · rw [cart_sec4]; constructor <;> norm_num [Sector.lrel, Sector.det]

theorem cartAz_mem (x y : ℝ) : -180 ≤ cartAz x y ∧ cartAz x y < 180 := by
  rw [cartAz_real]
  have h1 : -π < at2 x y := Complex.neg_pi_lt_arg _
  have h2 : at2 x y ≤ π := Complex.arg_le_pi _
  have hp : 0 < 180 / π := by positivity
  have e : π * (180 / π) = 180 := by field_simp
  constructor
  · have := mul_le_mul_of_nonneg_right h2 hp.le; rw [e] at this; exact neg_le_neg this
  · have := mul_lt_mul_of_pos_right h1 hp; rw [neg_mul, e] at this; exact neg_lt.mp this

/-- A point whose azimuth (possibly shifted by one turn) lies between the azimuths of the Cartesian ends of a
sector lies in the sector's cone. -/
theorem cone_of_cartAz (s : Sector ℝ) (ρL ρR θL θR Rc Lc : ℝ)
    (hlx : s.left.x = ρL * sin θL) (hly : s.left.y = ρL * cos θL)
    (hrx : s.right.x = ρR * sin θR) (hry : s.right.y = ρR * cos θR)
    (hθL : θL = -Lc * (π / 180)) (hθR : θR = -Rc * (π / 180))
    (hρL : 0 < ρL) (hρR : 0 < ρR) (hw1 : Rc < Lc) (hw2 : Lc < Rc + 180)
    (x y : ℝ) (hxy : ¬ (x = 0 ∧ y = 0)) (A' : ℝ)
    (hA' : A' = cartAz x y ∨ A' = cartAz x y + 360) (h1 : Rc ≤ A') (h2 : A' ≤ Lc) :
    0 ≤ (gains s x y).1 ∧ 0 ≤ (gains s x y).2 ∧ 0 < (gains s x y).1 + (gains s x y).2 := by
  obtain ⟨r, hr, hx, hy⟩ := cartAz_polar hxy hA'
  have hp : 0 < π / 180 := by positivity
  subst hθL hθR
  refine cone_gains s ρL _ ρR _ r _ x y hlx hly hrx hry hx hy hρL hρR hr
    (mul_le_mul_of_nonneg_right (neg_le_neg h2) hp.le) (mul_le_mul_of_nonneg_right (neg_le_neg h1) hp.le) ?_
    (mul_lt_mul_of_pos_right (neg_lt_neg hw1) hp)
  have := mul_lt_mul_of_pos_right (show Lc - Rc < 180 by linarith only [hw2]) hp
  linarith only [this]

theorem cone_of_cart_range {s : Sector ℝ} (g : GoodSector s.cart) {x y : ℝ} (hxy : ¬ (x = 0 ∧ y = 0))
    (h : InRange s.cart (cartAz x y)) : InCone s x y := by
  have hdet : s.left.x * s.right.y - s.left.y * s.right.x ≠ 0 := g.hdet
  obtain ⟨ρL, hρL, hlx, hly⟩ := cartAz_polar (x := s.left.x) (y := s.left.y) (A := s.cart.lrel)
    (fun h => hdet (by rw [h.1, h.2]; ring)) (by unfold Sector.lrel; split_ifs <;> simp [Sector.cart])
  obtain ⟨ρR, hρR, hrx, hry⟩ := cartAz_polar (x := s.right.x) (y := s.right.y) (A := s.cart.right.az)
    (fun h => hdet (by rw [h.1, h.2]; ring)) (Or.inl rfl)
  refine cone_of_cartAz s ρL ρR _ _ _ _ hlx hly hrx hry rfl rfl hρL hρR g.hw1 g.hw2 x y hxy _
    (by split_ifs <;> simp) ?_ h
  split_ifs with hc
  · linarith only [g.hR2, (cartAz_mem x y).1]
  · exact not_lt.mp hc

theorem find_cart_sound (m : Nat) (x y : ℝ) (hxy : ¬ (x = 0 ∧ y = 0)) (s : Sector ℝ)
    (h : findCartSector (RP (m + 1)) (cartAz x y) = some s) :
    s ∈ sectors (RP (m + 1)) ∧
    0 ≤ (gains s x y).1 ∧ 0 ≤ (gains s x y).2 ∧ 0 < (gains s x y).1 + (gains s x y).2 := by
  unfold findCartSector at h
  have hmem := List.mem_of_find?_eq_some h
  have hp := List.find?_some h
  obtain ⟨hA1, hA2⟩ := cartAz_mem x y
  exact ⟨hmem, cone_of_cart_range (goodc_of_mem hmem) hxy (((goodc_of_mem hmem).inside_iff m hA1 hA2.le).mp hp)⟩

theorem find_cart_total (m : Nat) (x y : ℝ) : ∃ s, findCartSector (RP (m + 1)) (cartAz x y) = some s := by
  obtain ⟨hA1, hA2⟩ := cartAz_mem x y
  set A := cartAz x y with hA
  have key : ∃ s ∈ sectors (RP (m + 1)), InRange s.cart A := by
    rw [sectors_RP]
    unfold InRange
    rcases le_total A (-135) with a | a
    · exact ⟨sec2, by simp, by rw [cart_sec2]; norm_num [Sector.lrel]; split_ifs <;> linarith⟩
    rcases le_total A (-45) with b | b
    · exact ⟨sec1, by simp, by rw [cart_sec1]; norm_num [Sector.lrel]; split_ifs <;> linarith⟩
    rcases le_total A 0 with c | c
    · exact ⟨sec0, by simp, by rw [cart_sec0]; norm_num [Sector.lrel]; split_ifs <;> linarith⟩
    rcases le_total A 45 with d | d
    · exact ⟨sec4, by simp, by rw [cart_sec4]; norm_num [Sector.lrel]; split_ifs <;> linarith⟩
    rcases le_total A 135 with e | e
    · exact ⟨sec3, by simp, by rw [cart_sec3]; norm_num [Sector.lrel]; split_ifs <;> linarith⟩
    · exact ⟨sec2, by simp, by rw [cart_sec2]; norm_num [Sector.lrel]; split_ifs <;> linarith⟩
  obtain ⟨s, hs, hr⟩ := key
  have : (findCartSector (RP (m + 1)) A).isSome := by
    unfold findCartSector
    rw [List.find?_isSome]
    exact ⟨s, hs, ((goodc_of_mem hs).inside_iff m hA1 hA2.le).mpr hr⟩
  exact Option.isSome_iff_exists.mp this

theorem gains_sec0 (x y : ℝ) : gains sec0 x y = (y - x, x) := by
  rw [gains_real]; simp only [Sector.det, sec0]; refine Prod.ext ?_ ?_ <;> simp only <;> ring
theorem gains_sec1 (x y : ℝ) : gains sec1 x y = ((x + y) / 2, (x - y) / 2) := by
  rw [gains_real]; simp only [Sector.det, sec1]; refine Prod.ext ?_ ?_ <;> simp only <;> ring
theorem gains_sec2 (x y : ℝ) : gains sec2 x y = ((x - y) / 2, -(x + y) / 2) := by
  rw [gains_real]; simp only [Sector.det, sec2]; refine Prod.ext ?_ ?_ <;> simp only <;> ring
theorem gains_sec3 (x y : ℝ) : gains sec3 x y = (-(x + y) / 2, (y - x) / 2) := by
  rw [gains_real]; simp only [Sector.det, sec3]; refine Prod.ext ?_ ?_ <;> simp only <;> ring
theorem gains_sec4 (x y : ℝ) : gains sec4 x y = (-x, x + y) := by
  rw [gains_real]; simp only [Sector.det, sec4]; refine Prod.ext ?_ ?_ <;> simp only <;> ring

/-- Two sectors of the table are equal, neighbours (`s.right = s'.left`) or one of five pairs that share no row. -/
theorem sectors_RP_pairs {n : Nat} {C : Sector ℝ → Sector ℝ → Prop} (symm : ∀ s s', C s s' → C s' s)
    (refl : ∀ s, C s s)
    (adj : ∀ s s', s ∈ sectors (RP n) → s' ∈ sectors (RP n) → s.right = s'.left → C s s')
    (h02 : C sec0 sec2) (h03 : C sec0 sec3) (h13 : C sec1 sec3) (h14 : C sec1 sec4) (h24 : C sec2 sec4)
    {s s' : Sector ℝ} (hs : s ∈ sectors (RP n)) (hs' : s' ∈ sectors (RP n)) : C s s' := by
  rcases mem_sectors_RP hs with rfl | rfl | rfl | rfl | rfl <;>
  rcases mem_sectors_RP hs' with rfl | rfl | rfl | rfl | rfl
  · exact refl _
  · exact adj _ _ hs hs' rfl
  · exact h02
  · exact h03
  · exact symm _ _ (adj _ _ hs' hs rfl)
  · exact symm _ _ (adj _ _ hs' hs rfl)
  · exact refl _
  · exact adj _ _ hs hs' rfl
  · exact h13
  · exact h14
  · exact symm _ _ h02
  · exact symm _ _ (adj _ _ hs' hs rfl)
  · exact refl _
  · exact adj _ _ hs hs' rfl
  · exact h24
  · exact symm _ _ h03
  · exact symm _ _ h13
  · exact symm _ _ (adj _ _ hs' hs rfl)
  · exact refl _
  · exact adj _ _ hs hs' rfl
  · exact adj _ _ hs hs' rfl
  · exact symm _ _ h14
  · exact symm _ _ h24
  · exact symm _ _ (adj _ _ hs' hs rfl)
  · exact refl _

/-- Two good sectors of the same orientation that share a row: a point in both cones lies on the shared ray (its
gain on the far row of either sector is `N / det` with opposite signs of `N`, hence `0`), so it converts alike. -/
theorem cart_adjacent_of_cone (m : Nat) (s s' : Sector ℝ) (g : GoodSector s) (g' : GoodSector s')
    (hshare : s.right = s'.left) (hor : 0 < s.det * s'.det) (x y z : ℝ) (h : InCone s x y) (h' : InCone s' x y) :
    cartToPolarIn (RP (m + 1)) s x y z = cartToPolarIn (RP (m + 1)) s' x y z := by
  obtain ⟨a1, -, a3⟩ := h
  obtain ⟨-, b2, -⟩ := h'
  have e1 : (gains s x y).1 = (x * s.right.y - y * s.right.x) / s.det := by rw [gains_cross]
  have e2 : (gains s' x y).2 = -(x * s.right.y - y * s.right.x) / s'.det := by
    rw [gains_cross, ← hshare]; ring
  have h0 : (gains s x y).1 = 0 := by
    have hp := mul_nonneg a1 b2
    rw [e1, e2, show ∀ N D D' : ℝ, N / D * (-N / D') = -(N * N) / (D * D') by intros; ring,
      le_div_iff₀ hor, zero_mul, neg_nonneg] at hp
    rw [e1, mul_self_eq_zero.mp (le_antisymm hp (mul_self_nonneg _)), zero_div]
  obtain ⟨cx, cy⟩ := combination_gains s g.hdet x y
  rw [h0, zero_mul, zero_add] at cx cy
  have ht : (gains s x y).2 ≠ 0 := by linarith only [a3, h0]
  have h2 : gains s' x y = ((gains s x y).2, 0) := by
    have := gains_combination s' g'.hdet (gains s x y).2 0
    simp only [← hshare, zero_mul, add_zero, cx, cy] at this
    exact this
  unfold cartToPolarIn
  rw [h2, h0]
  simp only [zero_add, add_zero, zero_div, div_self ht]
  -- the shared row is the right end of `s` (`p = 1`) and the left end of `s'` (`p = 0`)
  rw [g.pToAz_one m (hshare ▸ g'.hL2), g'.pToAz_zero m, hshare]

/-- A point lying in the cones of two sectors of the table (only possible on
a shared boundary ray) converts to the same polar position with either (`sectors (RP n)` is the same list for
every `n`: `sectors_RP`). -/
theorem cart_sector_indep (m n : Nat) (s s' : Sector ℝ) (hs : s ∈ sectors (RP n)) (hs' : s' ∈ sectors (RP n))
    (x y z : ℝ) (h : InCone s x y) (h' : InCone s' x y) :
    cartToPolarIn (RP (m + 1)) s x y z = cartToPolarIn (RP (m + 1)) s' x y z := by
  revert h h'
  refine sectors_RP_pairs (fun _ _ H a b => (H b a).symm) (fun _ _ _ => rfl)
    (fun s s' hs hs' e => cart_adjacent_of_cone m s s' (good_of_mem hs) (good_of_mem hs') e
      (mul_pos_of_neg_of_neg (det_neg_of_mem hs) (det_neg_of_mem hs')) x y z)
    ?_ ?_ ?_ ?_ ?_ hs hs' <;> intro h h' <;> exfalso <;> unfold InCone at h h'
  · rw [gains_sec0] at h; rw [gains_sec2] at h'; simp only at h h'
    linarith only [h.1, h.2.1, h.2.2, h'.1, h'.2.1]
  · rw [gains_sec0] at h; rw [gains_sec3] at h'; simp only at h h'
    linarith only [h.1, h.2.1, h.2.2, h'.1, h'.2.1]
  · rw [gains_sec1] at h; rw [gains_sec3] at h'; simp only at h h'
    linarith only [h.1, h.2.1, h.2.2, h'.1, h'.2.1]
  · rw [gains_sec1] at h; rw [gains_sec4] at h'; simp only at h h'
    linarith only [h.1, h.2.1, h.2.2, h'.1, h'.2.1]
  · rw [gains_sec2] at h; rw [gains_sec4] at h'; simp only at h h'
    linarith only [h.1, h.2.1, h.2.2, h'.1, h'.2.1]

/-- Two good sectors that share a row: an azimuth in both closed ranges is the shared boundary (both ranges are
shorter than a half turn and the second ends where the first begins), so it converts alike. -/
theorem polar_adjacent_of_inRange (m : Nat) (s s' : Sector ℝ) (g : GoodSector s) (g' : GoodSector s')
    (hshare : s.right = s'.left) (az el d : ℝ) (h1 : -180 ≤ az) (h2 : az ≤ 180) (h : InRange s az)
    (h' : InRange s' az) :
    polarToCartIn (RP (m + 1)) s az el d = polarToCartIn (RP (m + 1)) s' az el d := by
  have hl' : s'.lrel = s.right.az ∨ s'.lrel = s.right.az + 360 := by
    unfold Sector.lrel; rw [← hshare]; split_ifs <;> simp
  have hR1 := g.hR1; have hR2 := g.hR2; have hw2 := g.hw2
  have hR2' := g'.hR2; have hw1' := g'.hw1; have hw2' := g'.hw2
  have hL2' := g'.hL2; rw [← hshare] at hL2'
  unfold InRange at h h'
  -- `az` cannot lie a turn below the range of `s`: it would then be more than a half turn before the end of `s'`
  have hA : ¬ az < s.right.az := fun c => by
    rw [if_pos c] at h
    split_ifs at h' <;> rcases hl' with e | e <;> linarith
  rw [if_neg hA] at h
  obtain rfl : az = s.right.az := by
    split_ifs at h' <;> rcases hl' with e | e <;> linarith
  unfold polarToCartIn
  rw [g.azToP_right m, hshare, g'.azToP_left m]
  simp

/-- An azimuth lying in the closed ranges of two sectors of the table (only
possible on a shared boundary) converts to the same Cartesian point with either. -/
theorem polar_sector_indep (m n : Nat) (s s' : Sector ℝ) (hs : s ∈ sectors (RP n)) (hs' : s' ∈ sectors (RP n))
    (az el d : ℝ) (h1 : -180 ≤ az) (h2 : az ≤ 180) (h : InRange s az) (h' : InRange s' az) :
    polarToCartIn (RP (m + 1)) s az el d = polarToCartIn (RP (m + 1)) s' az el d := by
  revert h h'
  refine sectors_RP_pairs (fun _ _ H a b => (H b a).symm) (fun _ _ _ => rfl)
    (fun s s' hs hs' e => polar_adjacent_of_inRange m s s' (good_of_mem hs) (good_of_mem hs') e az el d h1 h2)
    ?_ ?_ ?_ ?_ ?_ hs hs' <;> intro h h' <;> exfalso
  · have a := (inRange_sec0 h1).mp h; rcases (inRange_sec2 h2).mp h' with b | b <;> linarith
  · have a := (inRange_sec0 h1).mp h; have b := (inRange_sec3 h1).mp h'; linarith
  · have a := (inRange_sec1 h1).mp h; have b := (inRange_sec3 h1).mp h'; linarith
  · have a := (inRange_sec1 h1).mp h; have b := (inRange_sec4 h1).mp h'; linarith
  · have b := (inRange_sec4 h1).mp h'; rcases (inRange_sec2 h2).mp h with a | a <;> linarith

/-- `point_polar_to_cart` computes what any sector of the table whose closed range contains the azimuth gives,
whichever sector the lookup picks. -/
theorem pointPolarToCart_of_inRange (m : Nat) (s : Sector ℝ) (hs : s ∈ sectors (RP (m + 1))) (az el d : ℝ)
    (h1 : -180 ≤ az) (h2 : az ≤ 180) (hr : InRange s az) :
    ∃ j, pointPolarToCart (RP (m + 1)) az el d = some (polarToCartIn (RP (m + 1)) s az el d, j) := by
  obtain ⟨s', hs'⟩ := find_polar_total m az h1 h2
  obtain ⟨hmem', hin'⟩ := find_polar_sound m az s' hs'
  refine ⟨s'.idx, ?_⟩
  rw [pointPolarToCart_eq, hs', Option.map_some, polar_sector_indep m (m + 1) s' s hmem' hs az el d h1 h2
    (((good_of_mem hmem').inRange_iff m az h1 h2).mp hin') hr]

theorem not_origin_of_inCone {s : Sector ℝ} {x y : ℝ} (h : InCone s x y) : ¬ (x = 0 ∧ y = 0) := by
  rintro ⟨rfl, rfl⟩
  unfold InCone at h
  rw [gains_real] at h
  simp at h

theorem polar_image_radius (P : Params ℝ) (s : Sector ℝ) (hdet : s.det ≠ 0) (az el d : ℝ) :
    (gains s (polarToCartIn P s az el d).1 (polarToCartIn P s az el d).2.1).1 +
      (gains s (polarToCartIn P s az el d).1 (polarToCartIn P s az el d).2.1).2 = (elToCart P el d).2 := by
  rw [gains_polarToCartIn P s hdet, ← mul_add, sub_add_cancel, mul_one]

theorem cone_radius {n : Nat} {s : Sector ℝ} (hs : s ∈ sectors (RP n)) (x y : ℝ) :
    (gains s x y).1 + (gains s x y).2 ≤ |x| ∨ (gains s x y).1 + (gains s x y).2 ≤ |y| := by
  rcases mem_sectors_RP hs with rfl | rfl | rfl | rfl | rfl
  · right; rw [gains_sec0]; simp only; linarith only [le_abs_self y]
  · left; rw [gains_sec1]; simp only; linarith only [le_abs_self x]
  · right; rw [gains_sec2]; simp only; linarith only [neg_abs_le y]
  · left; rw [gains_sec3]; simp only; linarith only [neg_abs_le x]
  · right; rw [gains_sec4]; simp only; linarith only [le_abs_self y]

theorem elToCart_radius_low (n : Nat) (el d : ℝ) (hel : |el| ≤ 30) : (elToCart (RP n) el d).2 = d := by
  rw [elToCart_real, (RP_consts n).1, if_neg (not_lt.mpr hel)]

/-- Elevation `±90` (the poles): `el_tilde = 90`, so `r_xy = d·tan 0 = 0` and `z = ±d`. -/
theorem elToCart_pole (n : Nat) (el d : ℝ) (hel : |el| = 90) :
    elToCart (RP n) el d = (d * Conv.sign el, 0) := by
  rw [elToCart_real, (RP_consts n).1, (RP_consts n).2.1, hel, if_pos (by norm_num)]
  norm_num

theorem elToCart_zero (n : Nat) (el : ℝ) : elToCart (RP n) el 0 = (0, 0) := by
  rw [elToCart_real]
  split_ifs <;> simp

end Earverif.Conv
