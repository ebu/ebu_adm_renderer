/-
The theory of the binary64 rounding model of `Model/Ieee.lean`, used by C16 (PCM), C20 (delays in samples) and
C08 (printed floats).  `roundHalfEven` and `rnAt` round to a nearest point of a grid (`rhe_nearest`, `rnAt_nearest`;
the definition of `roundHalfEven` is looked into in `Proofs/RoundHalfEven.lean`, shared with C15, and for the direction
of an exact tie in `FloatText.rhe_half`, `Proofs/C08Float.lean`).
The representable numbers are the fixed points `rn53 z = z`: every `n·2^s` with `0 ≤ n < 2^53` (`rn53_dyadic`) and
every value of `rn53` (`rn53_idem`).  `rn53 d` is a nearest one for every sign (`rn53_nearest`), hence never crosses
one (`rn53_le_of_le`, `rn53_ge_of_ge`); the error is half a unit in the last place of the binade
(`Pcm.rn53_error`, from it `rn53_rel_abs`, `rn53_err_pow`).  `Pcm.rn53_error` and `Pcm.rn53_snap` speak of
`rn53` alone; they are named in `Pcm` because C16's check cites them under these names, and stand here because the
error bounds after them and `Pcm.div_mul_pos` rest on them.
-/
import Earverif.Proofs.RoundHalfEven
import Mathlib.Data.Rat.Floor
import Mathlib.Algebra.Order.Field.Power
import Mathlib.Tactic.Ring
import Mathlib.Tactic.Linarith
import Mathlib.Tactic.NormNum

namespace Earverif.Ieee

theorem floor_eq (x : ℚ) : x.floor = ⌊x⌋ := rfl

theorem two_zpow_pos (s : ℤ) : (0 : ℚ) < (2 : ℚ) ^ s := zpow_pos (by norm_num) s

theorem two_zpow_lt {a b : ℤ} : (2 : ℚ) ^ a < (2 : ℚ) ^ b ↔ a < b := zpow_lt_zpow_iff_right₀ one_lt_two
theorem two_zpow_le {a b : ℤ} : (2 : ℚ) ^ a ≤ (2 : ℚ) ^ b ↔ a ≤ b := zpow_le_zpow_iff_right₀ one_lt_two

/-- a multiple of `2^s` is a multiple of every smaller power of two -/
theorem grid_refine (n : ℤ) {a s : ℤ} (h : a ≤ s) : ∃ N : ℤ, (n : ℚ) * (2 : ℚ) ^ s = N * (2 : ℚ) ^ a := by
  refine ⟨n * 2 ^ (s - a).toNat, ?_⟩
  push_cast
  rw [← zpow_natCast, Int.toNat_of_nonneg (by omega), mul_assoc, ← zpow_add₀ two_ne_zero, sub_add_cancel]

theorem two_pow_mul_zpow (n : ℕ) {a e : ℤ} (h : a + n = e) : ((2 ^ n : ℤ) : ℚ) * (2 : ℚ) ^ a = (2 : ℚ) ^ e := by
  subst h
  rw [zpow_add₀ two_ne_zero, zpow_natCast, Int.cast_pow, Int.cast_ofNat, mul_comm]

/-- where a multiple `n·2^a` lies relative to `2^(a+j)` is where `n` lies relative to `2^j` (significand bounds from
binade bounds) -/
theorem mul_two_zpow_lt {n : ℤ} (j : ℕ) {a e : ℤ} (h : a + j = e) : (n : ℚ) * (2 : ℚ) ^ a < (2 : ℚ) ^ e ↔ n < 2 ^ j := by
  rw [← two_pow_mul_zpow j h, mul_lt_mul_iff_left₀ (two_zpow_pos a), Int.cast_lt]

theorem two_zpow_le_mul {n : ℤ} (j : ℕ) {a e : ℤ} (h : a + j = e) : (2 : ℚ) ^ e ≤ (n : ℚ) * (2 : ℚ) ^ a ↔ 2 ^ j ≤ n := by
  rw [← two_pow_mul_zpow j h, mul_le_mul_iff_left₀ (two_zpow_pos a), Int.cast_le]

theorem neg_induction {α : Type*} [Ring α] [LinearOrder α] [IsStrictOrderedRing α] {P : α → Prop} (x : α)
    (neg : ∀ x, P (-x) → P x) (zero : P 0) (pos : ∀ x, 0 < x → P x) : P x := by
  rcases lt_trichotomy x 0 with h | rfl | h
  · exact neg x (pos (-x) (neg_pos.mpr h))
  · exact zero
  · exact pos x h

theorem rhe_err (m : ℚ) : |(roundHalfEven m : ℚ) - m| ≤ 1 / 2 :=
  abs_le.mpr ⟨by linarith [(roundHalfEven_err m).2], (roundHalfEven_err m).1⟩

theorem rhe_snap (m : ℚ) (N : ℤ) (h : |m - N| < 1 / 2) : roundHalfEven m = N := by
  have h1 : |((roundHalfEven m - N : ℤ) : ℚ)| < 1 := by
    have := abs_add_le ((roundHalfEven m : ℚ) - m) (m - N)
    have := rhe_err m
    push_cast
    rw [← sub_add_sub_cancel _ m]
    linarith
  exact sub_eq_zero.mp (Int.abs_lt_one_iff.mp (by exact_mod_cast h1))

theorem rhe_nearest (m : ℚ) (k : ℤ) : |(roundHalfEven m : ℚ) - m| ≤ |(k : ℚ) - m| := by
  by_cases h : |m - k| < 1 / 2
  · rw [rhe_snap m k h]
  · rw [abs_sub_comm] at h
    exact (rhe_err m).trans (not_lt.mp h)

/-- whatever is at least as near to `y` as `z` is does not lie beyond `z` -/
theorem le_of_nearer {a y z : ℚ} (h : |a - y| ≤ |z - y|) (hyz : y ≤ z) : a ≤ z := by
  rw [abs_of_nonneg (sub_nonneg.mpr hyz)] at h
  linarith [le_abs_self (a - y)]

theorem ge_of_nearer {a y z : ℚ} (h : |a - y| ≤ |z - y|) (hzy : z ≤ y) : z ≤ a := by
  rw [abs_of_nonpos (sub_nonpos.mpr hzy)] at h
  linarith [neg_abs_le (a - y)]

theorem rhe_le (m : ℚ) (N : ℤ) (h : m ≤ N) : roundHalfEven m ≤ N :=
  Int.cast_le.mp (le_of_nearer (rhe_nearest m N) h)

theorem rhe_ge (m : ℚ) (N : ℤ) (h : (N : ℚ) ≤ m) : N ≤ roundHalfEven m :=
  Int.cast_le.mp (ge_of_nearer (rhe_nearest m N) h)

theorem log2_bounds {n : ℕ} (hn : n ≠ 0) : (2 : ℚ) ^ n.log2 ≤ n ∧ (n : ℚ) < 2 ^ n.log2 * 2 := by
  constructor
  · exact_mod_cast Nat.log2_self_le hn
  · have := @Nat.lt_log2_self n
    rw [pow_succ] at this
    exact_mod_cast this

theorem ilog2_spec (x : ℚ) (hx : 0 < x) : (2 : ℚ) ^ ilog2 x ≤ x ∧ x < (2 : ℚ) ^ (ilog2 x + 1) := by
  have hnum : 0 < x.num := Rat.num_pos.mpr hx
  obtain ⟨n1, n2⟩ := log2_bounds (Int.natAbs_ne_zero.mpr hnum.ne')
  obtain ⟨d1, d2⟩ := log2_bounds x.den_nz
  have hxe : x = (x.num.natAbs : ℚ) / x.den := by
    rw [Nat.cast_natAbs, abs_of_pos hnum, Rat.num_div_den]
  simp only [ilog2]
  generalize x.num.natAbs.log2 = a at *
  generalize x.den.log2 = b at *
  have ha : (0 : ℚ) < 2 ^ a := by positivity
  have hb : (0 : ℚ) < 2 ^ b := by positivity
  -- the estimate from the two bit lengths is off by less than one either way
  have lo : (2 : ℚ) ^ ((a : ℤ) - b - 1) < x := by
    rw [zpow_sub₀ two_ne_zero, zpow_sub₀ two_ne_zero, zpow_natCast, zpow_natCast, zpow_one, div_div, hxe]
    exact div_lt_div₀' n1 d2 (lt_of_lt_of_le ha n1) (lt_of_lt_of_le hb d1)
  have hi : x < (2 : ℚ) ^ ((a : ℤ) - b + 1) := by
    rw [zpow_add₀ two_ne_zero, zpow_sub₀ two_ne_zero, zpow_natCast, zpow_natCast, zpow_one,
      div_mul_eq_mul_div, hxe]
    exact div_lt_div₀ n2 d1 (by positivity) hb
  split_ifs with h
  · exact ⟨lo.le, by rwa [sub_add_cancel]⟩
  · exact ⟨not_lt.mp h, hi⟩

theorem ilog2_lt (x : ℚ) (hx : 0 < x) (n : ℤ) (h : x < (2 : ℚ) ^ n) : ilog2 x < n :=
  two_zpow_lt.mp (lt_of_le_of_lt (ilog2_spec x hx).1 h)

theorem ilog2_unique (x : ℚ) (e : ℤ) (h1 : (2 : ℚ) ^ e ≤ x) (h2 : x < (2 : ℚ) ^ (e + 1)) : ilog2 x = e := by
  have hx : 0 < x := lt_of_lt_of_le (two_zpow_pos e) h1
  have a := ilog2_lt x hx _ h2
  have b := two_zpow_lt.mp (lt_of_le_of_lt h1 (ilog2_spec x hx).2)
  omega

theorem rnAt_err (e : ℤ) (x : ℚ) : |rnAt e x - x| ≤ (2 : ℚ) ^ (e - 52) / 2 := by
  have hP := two_zpow_pos (e - 52)
  simp only [rnAt]
  generalize (2 : ℚ) ^ (e - 52) = P at *
  have h := rhe_err (x / P)
  calc |(roundHalfEven (x / P) : ℚ) * P - x|
      = |((roundHalfEven (x / P) : ℚ) - x / P) * P| := by
        rw [sub_mul, div_mul_cancel₀ x hP.ne']
    _ = |(roundHalfEven (x / P) : ℚ) - x / P| * P := by rw [abs_mul, abs_of_pos hP]
    _ ≤ 1 / 2 * P := mul_le_mul_of_nonneg_right h (le_of_lt hP)
    _ = P / 2 := by ring

theorem rnAt_snap (e : ℤ) (x : ℚ) (N : ℤ) (h : |x - N * (2 : ℚ) ^ (e - 52)| < (2 : ℚ) ^ (e - 52) / 2) :
    rnAt e x = N * (2 : ℚ) ^ (e - 52) := by
  have hP := two_zpow_pos (e - 52)
  simp only [rnAt]
  generalize (2 : ℚ) ^ (e - 52) = P at *
  have : |x / P - N| < 1 / 2 := by
    rw [div_sub' hP.ne', abs_div, abs_of_pos hP, div_lt_iff₀ hP, mul_comm P]
    linarith
  rw [rhe_snap _ _ this]

theorem abs_mul_sub {P : ℚ} (hP : 0 < P) (a d : ℚ) : |a * P - d| = |a - d / P| * P := by
  rw [← abs_of_pos hP, ← abs_mul, abs_of_pos hP, sub_mul, div_mul_cancel₀ d hP.ne']

theorem rnAt_nearest (e : ℤ) (d : ℚ) (k : ℤ) : |rnAt e d - d| ≤ |(k : ℚ) * (2 : ℚ) ^ (e - 52) - d| := by
  have hP := two_zpow_pos (e - 52)
  rw [rnAt, abs_mul_sub hP, abs_mul_sub hP]
  exact mul_le_mul_of_nonneg_right (rhe_nearest _ k) hP.le

theorem rnAt_grid (e N : ℤ) : rnAt e (N * (2 : ℚ) ^ (e - 52)) = N * (2 : ℚ) ^ (e - 52) :=
  rnAt_snap e _ N (by rw [sub_self, abs_zero]; exact half_pos (two_zpow_pos _))

theorem rn53_pos (x : ℚ) (e : ℤ) (h1 : (2 : ℚ) ^ e ≤ x) (h2 : x < (2 : ℚ) ^ (e + 1)) :
    rn53 x = rnAt e x := by
  have hx : 0 < x := lt_of_lt_of_le (two_zpow_pos e) h1
  simp only [rn53, if_neg (ne_of_gt hx), if_pos hx, ilog2_unique x e h1 h2]

theorem rn53_zero : rn53 0 = 0 := by simp [rn53]

theorem rn53_neg (x : ℚ) : rn53 (-x) = -rn53 x := by
  induction x using neg_induction with
  | neg x ih => rw [neg_neg] at ih; rw [ih, neg_neg]
  | zero => simp [rn53]
  | pos x h =>
    simp only [rn53, if_neg (neg_ne_zero.mpr h.ne'), if_neg (not_lt.mpr (neg_nonpos.mpr h.le)),
      if_neg h.ne', if_pos h, neg_neg]

/-! ### the representable numbers: fixed points of `rn53` -/

/-- a positive fixed point lies on the grid of its binade -/
theorem fix_grid (x : ℚ) (hx : 0 < x) (h : rn53 x = x) : ∃ k : ℤ, x = k * (2 : ℚ) ^ (ilog2 x - 52) := by
  simp only [rn53, if_neg hx.ne', if_pos hx, rnAt] at h
  exact ⟨_, h.symm⟩

theorem fix_neg {z : ℚ} (hz : rn53 z = z) : rn53 (-z) = -z := by rw [rn53_neg, hz]

/-- `n·2^s` with `0 ≤ n < 2^53` is a binary64 number (unbounded exponent) -/
theorem rn53_dyadic (n s : ℤ) (h0 : 0 ≤ n) (hn : (n : ℚ) < (2 : ℚ) ^ (53 : ℤ)) :
    rn53 ((n : ℚ) * (2 : ℚ) ^ s) = (n : ℚ) * (2 : ℚ) ^ s := by
  rcases h0.eq_or_lt with rfl | h0
  · rw [Int.cast_zero, zero_mul, rn53_zero]
  have hp : (0 : ℚ) < (n : ℚ) * (2 : ℚ) ^ s := mul_pos (Int.cast_pos.mpr h0) (two_zpow_pos s)
  obtain ⟨s1, s2⟩ := ilog2_spec _ hp
  have he : ilog2 ((n : ℚ) * (2 : ℚ) ^ s) < 53 + s := two_zpow_lt.mp (s1.trans_lt (by
    rw [zpow_add₀ two_ne_zero]; exact mul_lt_mul_of_pos_right hn (two_zpow_pos s)))
  rw [rn53_pos _ _ s1 s2]
  generalize ilog2 ((n : ℚ) * (2 : ℚ) ^ s) = e at he
  obtain ⟨N, hN⟩ := grid_refine n (show e - 52 ≤ s by omega)
  rw [hN]; exact rnAt_grid e N

theorem rn53_int (n : ℤ) (h0 : 0 ≤ n) (hn : (n : ℚ) < (2 : ℚ) ^ (53 : ℤ)) : rn53 (n : ℚ) = n := by
  simpa using rn53_dyadic n 0 h0 hn

theorem rn53_two_zpow (e : ℤ) : rn53 ((2 : ℚ) ^ e) = (2 : ℚ) ^ e := by
  simpa using rn53_dyadic 1 e zero_le_one (by norm_num)

theorem rn53_one : rn53 1 = 1 := by simpa using rn53_two_zpow 0

theorem rn53_nearest (d z : ℚ) (hz : rn53 z = z) : |rn53 d - d| ≤ |z - d| := by
  induction d using neg_induction generalizing z with
  | neg d ih =>
    have := ih (-z) (fix_neg hz)
    rwa [rn53_neg, ← neg_sub', abs_neg, ← neg_sub', abs_neg] at this
  | zero => rw [rn53_zero, sub_self, abs_zero]; exact abs_nonneg _
  | pos d hd =>
    obtain ⟨s1, s2⟩ := ilog2_spec d hd
    rw [rn53_pos d _ s1 s2]
    generalize ilog2 d = e at *
    rcases le_or_gt ((2 : ℚ) ^ e) z with hze | hze
    · -- `z` lies in the binade of `d` or above, so it is on the grid of that binade
      have hzpos : 0 < z := lt_of_lt_of_le (two_zpow_pos e) hze
      obtain ⟨k, hk⟩ := fix_grid z hzpos hz
      have hee : e < ilog2 z + 1 := two_zpow_lt.mp (hze.trans_lt (ilog2_spec z hzpos).2)
      obtain ⟨N, hN⟩ := grid_refine k (show e - 52 ≤ ilog2 z - 52 by omega)
      rw [hk, hN]; exact rnAt_nearest e d N
    · -- `z` lies below the binade: the lower end `2^e` of the binade is between `z` and `d`
      obtain ⟨N, hN⟩ := grid_refine 1 (show e - 52 ≤ e by omega)
      have h1 := rnAt_nearest e d N
      rw [← hN, Int.cast_one, one_mul, abs_of_nonpos (sub_nonpos.mpr s1)] at h1
      rw [abs_of_neg (sub_neg.mpr (hze.trans_le s1))]
      exact h1.trans (neg_le_neg (sub_le_sub_right hze.le d))

theorem rn53_le_of_le {y z : ℚ} (hz : rn53 z = z) (h : y ≤ z) : rn53 y ≤ z := le_of_nearer (rn53_nearest y z hz) h

theorem rn53_ge_of_ge {y z : ℚ} (hz : rn53 z = z) (h : z ≤ y) : z ≤ rn53 y := ge_of_nearer (rn53_nearest y z hz) h

theorem rn53_idem (c : ℚ) : rn53 (rn53 c) = rn53 c := by
  induction c using neg_induction with
  | neg c ih => rw [rn53_neg] at ih; rw [← neg_inj, ← rn53_neg, ih]
  | zero => rw [rn53_zero, rn53_zero]
  | pos c hc =>
    obtain ⟨s1, s2⟩ := ilog2_spec c hc
    -- `N·2^(e-52)` in `[2^e, 2^(e+1)]`: either `N < 2^53` or the upper end
    have lo := rn53_ge_of_ge (rn53_two_zpow _) s1
    have hi := rn53_le_of_le (rn53_two_zpow _) s2.le
    rw [rn53_pos c _ s1 s2] at lo hi ⊢
    generalize ilog2 c = e at *
    rcases hi.eq_or_lt with hi | hi
    · rw [hi]; exact rn53_two_zpow _
    · rw [rn53_pos _ e lo hi]; exact rnAt_grid e _

theorem rn53_le_int (y : ℚ) (n : ℤ) (h0 : 0 < y) (hy : y ≤ n) (hn : (n : ℚ) < (2 : ℚ) ^ (53 : ℤ)) :
    rn53 y ≤ n :=
  rn53_le_of_le (rn53_int n (by exact_mod_cast h0.le.trans hy) hn) hy

theorem rn53_ge_int (y : ℚ) (n : ℤ) (h0 : 0 < y) (hy : (n : ℚ) ≤ y) (hn : y < (2 : ℚ) ^ (53 : ℤ)) :
    (n : ℚ) ≤ rn53 y := by
  rcases le_or_gt 0 n with hn0 | hn0
  · exact rn53_ge_of_ge (rn53_int n hn0 (hy.trans_lt hn)) hy
  · exact (Int.cast_nonpos.mpr hn0.le).trans (rn53_ge_of_ge rn53_zero h0.le)

theorem rn53_abs_le_one (x : ℚ) (h : |x| ≤ 1) : |rn53 x| ≤ 1 :=
  abs_le.mpr ⟨rn53_ge_of_ge (fix_neg rn53_one) (abs_le.mp h).1, rn53_le_of_le rn53_one (abs_le.mp h).2⟩

theorem two_zpow_sub_53 (e : ℤ) : (2 : ℚ) ^ (e - 53) = (2 : ℚ) ^ (e - 52) / 2 := by
  rw [show e - 53 = e - 52 - 1 by ring, zpow_sub_one₀ two_ne_zero]
  rfl

end Earverif.Ieee

namespace Earverif.Pcm
open Earverif.Ieee

theorem rn53_error (x : ℚ) (e : ℤ) (h1 : (2 : ℚ) ^ e ≤ |x|) (h2 : |x| < (2 : ℚ) ^ (e + 1)) :
    |rn53 x - x| ≤ (2 : ℚ) ^ (e - 53) := by
  rw [two_zpow_sub_53]
  rcases le_or_gt 0 x with h | h
  · rw [abs_of_nonneg h] at h1 h2
    rw [rn53_pos x e h1 h2]; exact rnAt_err e x
  · rw [abs_of_neg h] at h1 h2
    have := rnAt_err e (-x)
    rwa [← rn53_pos (-x) e h1 h2, rn53_neg, ← neg_sub', abs_neg] at this

/-- A value strictly closer than half a grid step to a grid point `N·2^(e-52)` of its own binade
rounds to that grid point. -/
theorem rn53_snap (y : ℚ) (e N : ℤ) (h1 : (2 : ℚ) ^ e ≤ y) (h2 : y < (2 : ℚ) ^ (e + 1))
    (h : |y - N * (2 : ℚ) ^ (e - 52)| < (2 : ℚ) ^ (e - 53)) : rn53 y = N * (2 : ℚ) ^ (e - 52) := by
  rw [rn53_pos y e h1 h2]
  exact rnAt_snap e y N (by rwa [← two_zpow_sub_53])

end Earverif.Pcm

namespace Earverif.Ieee

theorem rn53_rel_abs (x : ℚ) : |rn53 x - x| ≤ |x| * (2 : ℚ) ^ (-53 : ℤ) := by
  rcases eq_or_ne x 0 with rfl | h0
  · rw [rn53_zero, sub_zero, abs_zero, zero_mul]
  obtain ⟨s1, s2⟩ := ilog2_spec |x| (abs_pos.mpr h0)
  refine (Pcm.rn53_error x _ s1 s2).trans ?_
  rw [sub_eq_add_neg, zpow_add₀ two_ne_zero]
  exact mul_le_mul_of_nonneg_right s1 (two_zpow_pos _).le

theorem rn53_rel (x : ℚ) (hx : 0 < x) : |rn53 x - x| ≤ x * (2 : ℚ) ^ (-53 : ℤ) := by
  simpa only [abs_of_pos hx] using rn53_rel_abs x

/-- up to `2^j` the error is at most half a unit in the last place of the binade below `2^j` -/
theorem rn53_err_pow (x : ℚ) (j : ℤ) (h : |x| ≤ (2 : ℚ) ^ j) : |rn53 x - x| ≤ (2 : ℚ) ^ (j - 54) := by
  rcases eq_or_ne x 0 with rfl | h0
  · rw [rn53_zero, sub_zero, abs_zero]; exact (two_zpow_pos _).le
  rcases h.eq_or_lt with h | h
  · have : rn53 |x| = |x| := h ▸ rn53_two_zpow j
    have : rn53 x = x := by
      rcases abs_choice x with hx | hx <;> rw [hx] at this
      · exact this
      · rwa [rn53_neg, neg_inj] at this
    rw [this, sub_self, abs_zero]; exact (two_zpow_pos _).le
  · obtain ⟨s1, s2⟩ := ilog2_spec |x| (abs_pos.mpr h0)
    have he := ilog2_lt |x| (abs_pos.mpr h0) j h
    exact (Pcm.rn53_error x _ s1 s2).trans (two_zpow_le.mpr (by omega))

theorem rn53_err_unit (q : ℚ) (h : |q| ≤ 1) : |rn53 q - q| ≤ (2 : ℚ) ^ (-54 : ℤ) :=
  rn53_err_pow q 0 (by rwa [zpow_zero])

end Earverif.Ieee
