/- C14, part 3: the allocation problem handed to C07's allocator model (`Earverif.PackAlloc`), what its decision
   means for item selection, and the per-state selection lemmas. -/
import Earverif.Proofs.C14Matrix
import Earverif.Proofs.C14Empty
import Earverif.Props.C07
namespace Earverif.Validate
open Earverif.AdmV

theorem processState_tracksOk {d : Doc} (hw : d.wellScoped = true) (hs : StructOk d) (st : State)
    (hv : forE (selectedOf d st).2.1 (validateSelectedTrack d) = .ok ()) :
    ∀ t ∈ (selectedOf d st).2.1, TrackOk d t := fun t ht =>
  (validateSelectedTrack_spec d t).2 () (forE_ok hv t ht) (trackRefsOk_of_valid hw hs (selectedOf_tracks_lt hw st t ht))

/-- every allocation pack of the problem is one of `_PackAllocator.packs`, identified by its position -/
theorem allocProblem_pack_mem {d : Doc} {pats : List Pattern} {packs : Option (List Nat)} {tracks : List Nat}
    {cfs : List (Option Nat)} {n : Nat} {p : PackAlloc.Pack}
    (h : p ∈ (allocProblem d pats packs tracks cfs n).packs) :
    pats.getD p.id default ∈ pats ∧ p.root = (pats.getD p.id default).root ∧
      p.channels = (pats.getD p.id default).allocChannels := by
  simp only [allocProblem, List.mem_map] at h
  obtain ⟨⟨pat, k⟩, hmem, rfl⟩ := h
  have hk := List.mem_zipIdx_iff_getElem?.mp hmem
  simp only at hk ⊢
  have hget : pats.getD k default = pat := by rw [List.getD_eq_getElem?_getD, hk]; rfl
  rw [hget]
  exact ⟨List.mem_iff_getElem?.mpr ⟨k, hk⟩, rfl, rfl⟩

/-- `select_pack_mapping` + `_get_rendering_items` for one state raise only `AdmError`; the allocator is C07's
model, of which only soundness is used (an accepted solution consists of packs of the problem) -/
theorem processState_noInt {d : Doc} {pats : List Pattern} (hw : d.wellScoped = true)
    (hs : StructOk d) (hpats : ∀ pat ∈ pats, PatOk d pat) (hu : uniquePaths d = true) (st : State)
    (hx : NoInt (avsSelected d st)) (hop : ∀ p, st.objects = some p → p ≠ []) : NoInt (processState d pats st) := by
  have hlt := selectedOf_tracks_lt hw st
  have hok := processState_tracksOk hw hs st
  unfold processState
  rcases hsel : selectedOf d st with ⟨packs, tracks, n⟩
  rw [hsel] at hlt hok
  dsimp only at hlt hok ⊢
  have hrefs : ∀ t ∈ tracks, TrackRefsOk d t := fun t ht => trackRefsOk_of_valid hw hs (hlt t ht)
  refine (forE_noInt fun t ht => (validateSelectedTrack_spec d t).1 (hrefs t ht)).seq (fun _ h => h) fun _ hv => ?_
  have hto := hok hv
  refine (mapE_noInt fun t ht => channelForTrack_noInt (hrefs t ht)).seq (fun _ h => h) fun cfs _ => ?_
  dsimp only
  have hraise : ∀ a, NoInt (raiseError d (ctxOf st) packs tracks n a) := fun a => by
    obtain ⟨r, _, hr⟩ := raiseError_eq (ctx := ctxOf st) (packs := packs) (n := n) a hto
    rw [hr]; exact noInt_adm _ _
  cases hacc : PackAlloc.selectPackMapping (allocProblem d pats packs tracks cfs n) with
  | conflicting => exact hraise _
  | ambiguous => exact hraise _
  | accepted sol =>
    have hvalid := PackAlloc.select_accepted_valid _ sol hacc
    obtain ⟨l, hl⟩ := mapE_total (f := trackSpec d) fun t ht => trackSpec_ok (hto t ht)
    simp only [hl]
    exact sumE_noInt (fun _ a ha => renderingItems_noInt hx hop hw hs hu
      (hpats _ (allocProblem_pack_mem (hvalid.packs_mem a ha)).1)) 0

/-! ### the allocation problem is well formed (C07's `WF`) -/

/-- a list built from positions (`zipIdx`) that can be read back from its entries has no repetition -/
theorem zipIdx_map_nodup {α β : Type} (l : List α) (g : α × Nat → β) (key : β → Nat)
    (hk : ∀ x, key (g x) = x.2) : (l.zipIdx.map g).Nodup := by
  have : ((l.zipIdx.map g).map key).Nodup := by
    rw [List.map_map, List.map_congr_left (f := key ∘ g) (g := Prod.snd) fun x _ => hk x, List.zipIdx_map_snd]
    exact List.nodup_range' 1
  exact List.Pairwise.of_map key (fun a b hne hab => hne (congrArg key hab)) this

theorem patOk_shape {d : Doc} {pat : Pattern} (h : PatOk d pat) :
    pat.pfs.length = pat.channels.length ∧ ∃ q, pat.channels = packChannels d q := by
  cases h with
  | regular pi _ _ => exact ⟨by simp [packPathsOf, packChannels], pi, rfl⟩
  | matrixInput pi ip t _ _ _ _ => exact ⟨by simp [constPfs], ip, rfl⟩
  | matrixPre pi t _ _ _ => exact ⟨by simp [packPathsOf, packChannels], pi, rfl⟩
  | matrixEncDec pi e ii _ _ _ _ => exact ⟨by simp [constPfs], ii, rfl⟩

theorem allocChannels_cf : ∀ (cs : List Nat) (ps : List (List Nat)), ps.length = cs.length →
    (List.zipWith (fun c p => (⟨c, p⟩ : PackAlloc.Channel)) cs ps).map (·.cf) = cs
  | [], _, _ => by simp
  | c :: t, p :: ps', h => by
    simp only [List.zipWith_cons_cons, List.map_cons]
    rw [allocChannels_cf t ps' (Nat.succ.inj h)]

/-- the channel formats of an allocation pack of the problem are those of its pattern: the channels of some pack
of the document, pairwise distinct by the multitree check (`packChannels_nodup`) -/
theorem allocProblem_pack_cf {d : Doc} {pats : List Pattern} (hs : StructOk d) (hpats : ∀ pat ∈ pats, PatOk d pat)
    {packs : Option (List Nat)} {tracks : List Nat} {cfs : List (Option Nat)} {n : Nat} {p : PackAlloc.Pack}
    (hp : p ∈ (allocProblem d pats packs tracks cfs n).packs) :
    p.channels.map (·.cf) = (pats.getD p.id default).channels ∧ (p.channels.map (·.cf)).Nodup := by
  obtain ⟨hmem, _, hch⟩ := allocProblem_pack_mem hp
  obtain ⟨hlen, q, hq⟩ := patOk_shape (hpats _ hmem)
  have : p.channels.map (·.cf) = (pats.getD p.id default).channels := by
    rw [hch, Pattern.allocChannels, allocChannels_cf _ _ hlen]
  exact ⟨this, by rw [this, hq]; exact packChannels_nodup hs.multitree q⟩

/-- C07's `WF` for the problem built from a validated document: distinct allocation-pack and track objects by
construction, pairwise distinct channel formats per allocation pack from the multitree check
(`packChannels_nodup`); that no allocation pack is empty is assumed (`hne`) -/
theorem allocProblem_wf {d : Doc} {pats : List Pattern} (hs : StructOk d) (hpats : ∀ pat ∈ pats, PatOk d pat)
    (hne : ∀ pat ∈ pats, pat.channels ≠ []) (packs : Option (List Nat)) (tracks : List Nat)
    (cfs : List (Option Nat)) (n : Nat) : PackAlloc.WF (allocProblem d pats packs tracks cfs n) :=
  ⟨zipIdx_map_nodup _ _ (·.id) fun _ => rfl, zipIdx_map_nodup _ _ (·.id) fun _ => rfl,
    fun p hp hnil => hne _ (allocProblem_pack_mem hp).1 (by
      rw [← (allocProblem_pack_cf hs hpats hp).1, hnil]; rfl),
    fun _ hp => (allocProblem_pack_cf hs hpats hp).2⟩

/-- C07's `WF` for the problem the allocator effectively solves (allocation packs without channels removed), from
validation alone -/
theorem allocProblem_wf_dropEmpty {d : Doc} {pats : List Pattern} (hs : StructOk d) (hpats : ∀ pat ∈ pats, PatOk d pat)
    (packs : Option (List Nat)) (tracks : List Nat) (cfs : List (Option Nat)) (n : Nat) :
    PackAlloc.WF (PackAlloc.dropEmpty (allocProblem d pats packs tracks cfs n)) :=
  PackAlloc.wf_dropEmpty (zipIdx_map_nodup _ _ (·.id) fun _ => rfl) (zipIdx_map_nodup _ _ (·.id) fun _ => rfl)
    fun _ hp => (allocProblem_pack_cf hs hpats hp).2

/-! ### what the allocator's decision means for one state -/

/-- the allocation problem of a state whose selected tracks passed `validate_selected_audioTrackUID`
(`cfs` = their channel formats) -/
def stateProblem (d : Doc) (pats : List Pattern) (st : State) (cfs : List (Option Nat)) : PackAlloc.Problem :=
  allocProblem d pats (selectedOf d st).1 (selectedOf d st).2.1 cfs (selectedOf d st).2.2

/-- what `select_pack_mapping` + `_get_rendering_items` do with an accepted solution -/
def renderSolution (d : Doc) (pats : List Pattern) (st : State) (sol : PackAlloc.Sol) : R Nat :=
  sumE sol 0 (fun _ a => renderingItems d (avsSelected d st) st.objects (pats.getD a.pack.id default))

/-- for a state whose tracks passed validation, `processState` is decided by the allocator's outcome:
"Conflicting" / "Ambiguous" `AdmFormatRefError`, or the rendering of the one accepted solution -/
theorem processState_decided {d : Doc} {pats : List Pattern} {st : State} {cfs : List (Option Nat)}
    (hw : d.wellScoped = true) (hs : StructOk d)
    (hv : forE (selectedOf d st).2.1 (validateSelectedTrack d) = .ok ())
    (hcf : mapE (selectedOf d st).2.1 (channelForTrack d) = .ok cfs) :
    match PackAlloc.selectPackMapping (stateProblem d pats st cfs) with
    | .conflicting => ∃ m, processState d pats st = .error (.adm .conflicting m)
    | .ambiguous => ∃ m, processState d pats st = .error (.adm .ambiguous m)
    | .accepted sol => processState d pats st = renderSolution d pats st sol := by
  have hto := processState_tracksOk hw hs st hv
  unfold processState stateProblem
  rcases hsel : selectedOf d st with ⟨packs, tracks, n⟩
  rw [hsel] at hv hcf hto
  simp only at hv hcf hto ⊢
  rw [hv, hcf]
  simp only
  obtain ⟨l, hl⟩ := mapE_total (f := trackSpec d) fun t ht => trackSpec_ok (hto t ht)
  cases PackAlloc.selectPackMapping (allocProblem d pats packs tracks cfs n) with
  | conflicting => obtain ⟨r, _, hr⟩ := raiseError_eq (ctx := ctxOf st) (packs := packs) (n := n) .conflicting hto; exact ⟨_, hr⟩
  | ambiguous => obtain ⟨r, _, hr⟩ := raiseError_eq (ctx := ctxOf st) (packs := packs) (n := n) .ambiguous hto; exact ⟨_, hr⟩
  | accepted sol => simp only [hl, renderSolution]

end Earverif.Validate
