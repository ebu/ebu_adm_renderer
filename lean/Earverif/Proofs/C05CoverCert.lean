/- C05, Stage 2 — soundness of the Bool certificate checker `Cover.coverCertOk` (Model/PointSourceCover.lean):
   if it answers `true` for a layout table and a certificate, every non-zero direction lies in the cone of the
   vertices (as reals, `m·2^e` exactly) of one of the certificate's cells, i.e. of three vertices of one region of
   the table (`cover_of_cert`).

   The checker computes with the coordinates times `2^K` as integers; `castV` takes those to ℝ, where the hypotheses
   of `cover_of_cells` (Stage 1) are read off the Bool conjunctions; cones do not change under scaling. -/
import Earverif.Proofs.C05Cover
import Earverif.Proofs.MapM
import Earverif.Model.PointSourceCover
import Mathlib.Tactic.Push
import Mathlib.Data.Int.Cast.Lemmas
import Mathlib.Data.Rat.Cast.Defs
import Mathlib.Data.List.Forall2

namespace Earverif.PointSource.Cover
open Earverif.PointSource

/-- binary64 table literals `m · 2^e` as reals.  C01 declares `OfF2 ℝ` again (`GainCalc.instOfF2Real`,
    Proofs/C01Psp.lean, the same function; from there upwards both are in scope and agree by unfolding): low priority
    here, so that this one never competes. -/
noncomputable instance (priority := low) instOfF2RealCover : OfF2 ℝ := ⟨fun x => ((f2Rat x : ℚ) : ℝ)⟩

def castV (a : IV) : Vec3 ℝ := ((a.1 : ℝ), (a.2.1 : ℝ), (a.2.2 : ℝ))

theorem dot3_cast (a b : IV) : dot3 (castV a) (castV b) = ((idot a b : ℤ) : ℝ) := by
  simp only [dot3, castV, idot]; push_cast; ring

theorem det3_cast (a b c : IV) : det3 (castV a, castV b, castV c) = ((idet a b c : ℤ) : ℝ) := by
  simp only [det3, castV, idet]; push_cast; ring

theorem add3_cast (a b : IV) : add3 (castV a) (castV b) = castV (iadd a b) := by
  simp only [add3, castV, iadd]; push_cast; rfl

theorem sub3_cast (a b : IV) : sub3 (castV a) (castV b) = castV (isub a b) := by
  simp only [sub3, castV, isub]; push_cast; rfl

theorem cross3_cast (a b : IV) : cross3 (castV a) (castV b) = castV (icross a b) := by
  simp only [cross3, castV, icross]; push_cast; rfl

theorem smul3_cast (k : Int) (a : IV) : smul3 (k : ℝ) (castV a) = castV (ismul k a) := by
  simp only [smul3, castV, ismul]; push_cast; rfl

noncomputable def toG (k : RCell) : GCell := ⟨castV k.n, (k.c : ℝ), k.vs.map castV⟩

theorem dot_toG {k : RCell} {a : IV} (h : idot k.n a = k.c) : dot3 (toG k).n (castV a) = (toG k).c := by
  simp only [toG, dot3_cast]; exact_mod_cast h

theorem edgeOk_sound (rs : List RCell) (j : Nat) (w1 w2 w3 : IV) (h : edgeOk rs j w1 w2 w3 = true) :
    EdgeOk (rs.map toG) (castV w1) (castV w2) (castV w3) := by
  unfold edgeOk at h
  split at h
  · rename_i J hJ
    simp only [Bool.and_eq_true, beq_iff_eq, decide_eq_true_eq] at h
    refine ⟨toG J, List.mem_map.mpr ⟨J, List.mem_of_getElem? hJ, rfl⟩, dot_toG h.1.1, dot_toG h.1.2, ?_⟩
    simp only [toG, dot3_cast]; exact_mod_cast h.2
  · exact absurd h (by simp)

theorem cellOk_sound (rs : List RCell) (k : RCell) (h : cellOk rs k = true) :
    0 < (toG k).c ∧ (toG k).LocalOk (rs.map toG) := by
  unfold cellOk at h
  rw [Bool.and_eq_true, decide_eq_true_eq] at h
  obtain ⟨hc, hm⟩ := h
  refine ⟨by simp only [toG]; exact_mod_cast hc, ?_⟩
  split at hm
  · rename_i a b c j1 j2 j3 hv hn
    simp only [Bool.and_eq_true, beq_iff_eq, bne_iff_ne, ne_eq] at hm
    obtain ⟨⟨⟨⟨⟨⟨ha, hb⟩, hcc⟩, hD⟩, e1⟩, e2⟩, e3⟩ := hm
    have hvs : (toG k).vs = [castV a, castV b, castV c] := by simp [toG, hv]
    unfold GCell.LocalOk
    rw [hvs]
    exact ⟨dot_toG ha, dot_toG hb, dot_toG hcc, by rw [det3_cast]; exact_mod_cast hD, edgeOk_sound rs j1 a b c e1,
      edgeOk_sound rs j2 b c a e2, edgeOk_sound rs j3 c a b e3⟩
  · rename_i a b c d j1 j2 j3 j4 hv hn
    simp only [Bool.and_eq_true, beq_iff_eq, decide_eq_true_eq] at hm
    obtain ⟨⟨⟨⟨⟨⟨⟨⟨ha, hb⟩, hcc⟩, hd⟩, hDD⟩, e1⟩, e2⟩, e3⟩, e4⟩ := hm
    have hvs : (toG k).vs = [castV a, castV b, castV c, castV d] := by simp [toG, hv]
    unfold GCell.LocalOk
    rw [hvs]
    exact ⟨dot_toG ha, dot_toG hb, dot_toG hcc, dot_toG hd, by rw [det3_cast, det3_cast]; exact_mod_cast hDD,
      edgeOk_sound rs j1 a b c e1, edgeOk_sound rs j2 b c a e2, edgeOk_sound rs j3 c d a e3, edgeOk_sound rs j4 d a c e4⟩
  · exact absurd hm (by simp)

theorem sumN_cast : ∀ rs : List RCell, sumN (rs.map toG) = castV (sumNormals rs)
  | [] => by simp [sumN, sumNormals, castV]
  | k :: ks => by
    simp only [List.map_cons, sumN, sumNormals, sumN_cast ks, ← add3_cast]
    rfl

theorem spanOk_sound (rs : List RCell) (s : Nat × Nat × Nat) (h : spanOk rs s = true) :
    ∃ a ∈ rs.map toG, ∃ b ∈ rs.map toG, ∃ c ∈ rs.map toG, det3 (a.n, b.n, c.n) ≠ 0 := by
  unfold spanOk at h
  split at h
  · rename_i a b c ha hb hc
    refine ⟨toG a, List.mem_map.mpr ⟨a, List.mem_of_getElem? ha, rfl⟩, toG b,
      List.mem_map.mpr ⟨b, List.mem_of_getElem? hb, rfl⟩, toG c, List.mem_map.mpr ⟨c, List.mem_of_getElem? hc, rfl⟩, ?_⟩
    simp only [bne_iff_ne, ne_eq] at h
    simp only [toG, det3_cast]
    exact_mod_cast h
  · exact absurd h (by simp)

theorem cellsOk_cover (rs : List RCell) (s : Nat × Nat × Nat) (h : cellsOk rs s = true) (p : Vec3 ℝ)
    (hp : p ≠ (0, 0, 0)) : ∃ k ∈ rs, (toG k).LocalOk (rs.map toG) ∧ (toG k).Covers p := by
  unfold cellsOk at h
  simp only [Bool.and_eq_true, List.all_eq_true, beq_iff_eq] at h
  obtain ⟨⟨hall, hsum⟩, hspan⟩ := h
  have hcells : ∀ g ∈ rs.map toG, 0 < g.c ∧ g.LocalOk (rs.map toG) := by
    intro g hg
    obtain ⟨k, hk, rfl⟩ := List.mem_map.mp hg
    exact cellOk_sound rs k (hall k hk)
  have hs : sumN (rs.map toG) = (0, 0, 0) := by
    rw [sumN_cast, hsum]; simp [castV]
  obtain ⟨g, hg, hcov⟩ := cover_of_cells (rs.map toG) (fun g hg => (hcells g hg).1) (fun g hg => (hcells g hg).2) hs
    (spanOk_sound rs s hspan) p hp
  obtain ⟨k, hk, rfl⟩ := List.mem_map.mp hg
  exact ⟨k, hk, (hcells _ hg).2, hcov⟩

theorem scaleF2_real (K : Nat) (x : F2) (z : Int) (h : scaleF2 K x = some z) :
    ((f2Rat x : ℚ) : ℝ) * 2 ^ K = (z : ℝ) := by
  obtain ⟨m, e⟩ := x
  unfold scaleF2 at h
  simp only at h
  split at h
  · rename_i hK
    simp only [Option.some.injEq] at h
    subst h
    unfold f2Rat
    simp only
    by_cases he : e ≥ 0
    · rw [if_pos he]
      obtain ⟨n, rfl⟩ := Int.eq_ofNat_of_zero_le he
      have h1 : ((n : Int) + (K : Int)).toNat = n + K := by omega
      rw [h1, Int.toNat_natCast]
      push_cast
      rw [pow_add]; ring
    · rw [if_neg he]
      have hneg : 0 ≤ -e := by omega
      obtain ⟨f, hf⟩ := Int.eq_ofNat_of_zero_le hneg
      have h1 : (e + (K : Int)).toNat + f = K := by omega
      rw [hf, Int.toNat_natCast, Rat.mkRat_eq_div]
      generalize (e + (K : Int)).toNat = n at h1 ⊢
      subst h1
      push_cast
      rw [pow_add]
      have : (2 : ℝ) ^ f ≠ 0 := by positivity
      field_simp
  · exact absurd h (by simp)

theorem scaleP3_real (K : Nat) (v : P3) (w : IV) (h : scaleP3 K v = some w) :
    castV w = smul3 ((2 : ℝ) ^ K) (p3 v) := by
  unfold scaleP3 at h
  split at h
  · rename_i x y z hx hy hz
    simp only [Option.some.injEq] at h
    subst h
    have e1 := scaleF2_real K _ _ hx
    have e2 := scaleF2_real K _ _ hy
    have e3 := scaleF2_real K _ _ hz
    simp only [castV, smul3, p3, OfF2.ofF2]
    refine Prod.ext ?_ (Prod.ext ?_ ?_) <;> simp only
    · rw [← e1]; ring
    · rw [← e2]; ring
    · rw [← e3]; ring
  · exact absurd h (by simp)

theorem mapM_scale_getD (K : Nat) : ∀ (pos : List P3) (ps : List IV), pos.mapM (scaleP3 K) = some ps → ∀ i : Nat,
    castV (ps.getD i (0, 0, 0)) = smul3 ((2 : ℝ) ^ K) ((pos.map (p3 (α := ℝ))).getD i zero3)
  | [], ps, h, i => by
    simp only [List.mapM_nil, Option.pure_def, Option.some.injEq] at h
    subst h
    simp [castV, smul3, zero3]
  | x :: pos, ps, h, i => by
    obtain ⟨y, ys, hy, hys, rfl⟩ := mapM_some_cons h
    cases i with
    | zero => simpa using scaleP3_real K x y hy
    | succ i => simpa using mapM_scale_getD K pos ys hys i

theorem InCone3.of_scaled {a b c p : Vec3 ℝ} {S : ℝ} (hS : 0 ≤ S)
    (h : InCone3 (smul3 S a) (smul3 S b) (smul3 S c) p) : InCone3 a b c p := by
  obtain ⟨s, t, u, hs, ht, hu, rfl⟩ := h
  refine ⟨s * S, t * S, u * S, mul_nonneg hs hS, mul_nonneg ht hS, mul_nonneg hu hS, ?_⟩
  simp only [comb3, add3, smul3]
  refine Prod.ext ?_ (Prod.ext ?_ ?_) <;> simp only <;> ring

theorem det3_smul (S : ℝ) (a b c : Vec3 ℝ) : det3 (smul3 S a, smul3 S b, smul3 S c) = S ^ 3 * det3 (a, b, c) := by
  simp only [det3, smul3]; ring

/-- `p` is a non-negative combination of the vertices in slots `i1 i2 i3` of region `r`, which are linearly independent -/
def RegionCone3 (r : RawRegion) (i1 i2 i3 : Nat) (p : Vec3 ℝ) : Prop :=
  ∃ a b c, (verts r)[i1]? = some a ∧ (verts r)[i2]? = some b ∧ (verts r)[i3]? = some c ∧
    det3 ((p3 a : Vec3 ℝ), p3 b, p3 c) ≠ 0 ∧ InCone3 (p3 a) (p3 b) (p3 c) p

/-- `p` is covered by the cell `c` of a certificate for the layout table `l`: the cell names a region of the table,
    its slots are admissible for the region's kind (`slotsOk`) and `p` is in the cone of the three named vertices
    (of one of the two triangles `123`, `134` of a four-vertex cell). -/
def CellCovers (l : RawLayout) (c : Cell) (p : Vec3 ℝ) : Prop :=
  ∃ r, l.regions[c.region]? = some r ∧ slotsOk r c = true ∧
    match c.vs with
    | [i1, i2, i3] => RegionCone3 r i1 i2 i3 p
    | [i1, i2, i3, i4] => RegionCone3 r i1 i2 i3 p ∨ RegionCone3 r i1 i3 i4 p
    | _ => False

theorem mapM_forall₂ {β γ : Type} (f : β → Option γ) (l : List β) (out : List γ) (h : l.mapM f = some out) :
    List.Forall₂ (fun i w => f i = some w) l out := by
  have := (mapM_some_iff f l out).mp h
  rwa [← List.forall₂_eq_eq_eq, List.forall₂_map_left_iff, List.forall₂_map_right_iff] at this

theorem vert_lookup (K : Nat) (r : RawRegion) (i : Nat) (w : IV) (h : (verts r)[i]?.bind (scaleP3 K) = some w) :
    ∃ v, (verts r)[i]? = some v ∧ castV w = smul3 ((2 : ℝ) ^ K) (p3 v) := by
  cases hv : (verts r)[i]? with
  | none => simp [hv] at h
  | some v =>
    simp only [hv, Option.bind_some] at h
    exact ⟨v, rfl, scaleP3_real K v w h⟩

theorem regionCone3_of (K : Nat) (r : RawRegion) (i1 i2 i3 : Nat) (w1 w2 w3 : IV) (p : Vec3 ℝ)
    (h1 : (verts r)[i1]?.bind (scaleP3 K) = some w1) (h2 : (verts r)[i2]?.bind (scaleP3 K) = some w2)
    (h3 : (verts r)[i3]?.bind (scaleP3 K) = some w3) (hd : det3 (castV w1, castV w2, castV w3) ≠ 0)
    (hc : InCone3 (castV w1) (castV w2) (castV w3) p) : RegionCone3 r i1 i2 i3 p := by
  obtain ⟨a, ha, ea⟩ := vert_lookup K r i1 w1 h1
  obtain ⟨b, hb, eb⟩ := vert_lookup K r i2 w2 h2
  obtain ⟨c, hcc, ec⟩ := vert_lookup K r i3 w3 h3
  rw [ea, eb, ec] at hc hd
  refine ⟨a, b, c, ha, hb, hcc, ?_, hc.of_scaled (by positivity)⟩
  intro h0
  exact hd (by rw [det3_smul, h0, mul_zero])

theorem resolve_covers (K : Nat) (l : RawLayout) (c : Cell) (k : RCell) (h : resolve K l c = some k) (p : Vec3 ℝ)
    (cs : List GCell) (hloc : (toG k).LocalOk cs) (hcov : (toG k).Covers p) : CellCovers l c p := by
  unfold resolve at h
  split at h
  · exact absurd h (by simp)
  · rename_i r hr
    split at h
    · rename_i hslots
      split at h
      · exact absurd h (by simp)
      · rename_i ps hps
        simp only [Option.some.injEq] at h
        subst h
        refine ⟨r, hr, hslots, ?_⟩
        unfold GCell.Covers at hcov
        unfold GCell.LocalOk at hloc
        simp only [toG] at hcov hloc
        -- the shape of `ps` (decided by `hcov`) decides the shape of `c.vs`
        have hf2 := mapM_forall₂ _ _ _ hps
        match ps, hcov, hloc, hf2 with
        | [w1, w2, w3], hcov, hloc, hf2 =>
          obtain ⟨i1, u1, e1, hf2, hu1⟩ := List.forall₂_cons_right_iff.mp hf2
          obtain ⟨i2, u2, e2, hf2, hu2⟩ := List.forall₂_cons_right_iff.mp hf2
          obtain ⟨i3, u3, e3, hf2, hu3⟩ := List.forall₂_cons_right_iff.mp hf2
          have hu4 := List.forall₂_nil_right_iff.mp hf2
          subst hu4 hu3 hu2
          rw [hu1]
          simp only [List.map_cons, List.map_nil] at hcov hloc
          exact regionCone3_of K r i1 i2 i3 w1 w2 w3 p e1 e2 e3 hloc.2.2.2.1 hcov
        | [w1, w2, w3, w4], hcov, hloc, hf2 =>
          obtain ⟨i1, u1, e1, hf2, hu1⟩ := List.forall₂_cons_right_iff.mp hf2
          obtain ⟨i2, u2, e2, hf2, hu2⟩ := List.forall₂_cons_right_iff.mp hf2
          obtain ⟨i3, u3, e3, hf2, hu3⟩ := List.forall₂_cons_right_iff.mp hf2
          obtain ⟨i4, u4, e4, hf2, hu4⟩ := List.forall₂_cons_right_iff.mp hf2
          have hu5 := List.forall₂_nil_right_iff.mp hf2
          subst hu5 hu4 hu3 hu2
          rw [hu1]
          simp only [List.map_cons, List.map_nil] at hcov hloc
          have hDD := hloc.2.2.2.2.1
          have hD : det3 (castV w1, castV w2, castV w3) ≠ 0 := left_ne_zero_of_mul hDD.ne'
          have hD' : det3 (castV w1, castV w3, castV w4) ≠ 0 := right_ne_zero_of_mul hDD.ne'
          exact hcov.imp (regionCone3_of K r i1 i2 i3 w1 w2 w3 p e1 e2 e3 hD)
            (regionCone3_of K r i1 i3 i4 w1 w3 w4 p e1 e3 e4 hD')
        | [], hcov, _, _ => simp at hcov
        | [_], hcov, _, _ => simp at hcov
        | [_, _], hcov, _, _ => simp at hcov
        | _ :: _ :: _ :: _ :: _ :: _, hcov, _, _ => simp at hcov
    · exact absurd h (by simp)

/-- **Stage 2.**  A certificate accepted by the checker: every non-zero direction is covered by one of its cells. -/
theorem cover_of_cert (K : Nat) (l : RawLayout) (cert : CoverCert) (h : coverCertOk K l cert = true) (p : Vec3 ℝ)
    (hp : p ≠ (0, 0, 0)) : ∃ c ∈ cert.cells, CellCovers l c p := by
  unfold coverCertOk at h
  split at h
  · exact absurd h (by simp)
  · rename_i rs hrs
    obtain ⟨k, hk, hloc, hcov⟩ := cellsOk_cover rs cert.span h p hp
    obtain ⟨c, hc, hres⟩ := mapM_some_mem_rev hrs k hk
    exact ⟨c, hc, resolve_covers K l c k hres p _ hloc hcov⟩

/-- the shape of `coverTablesOk`, `exactTablesOk`, `facesTablesOk`: one certificate per layout table -/
theorem exists_of_all_zip {β γ : Type} {f : β × γ → Bool} {ls : List β} {cs : List γ}
    (h : (ls.length == cs.length && (ls.zip cs).all f) = true) {l : β} (hl : l ∈ ls) : ∃ c ∈ cs, f (l, c) = true := by
  simp only [Bool.and_eq_true, beq_iff_eq, List.all_eq_true] at h
  obtain ⟨i, hi, rfl⟩ := List.mem_iff_getElem.mp hl
  have hi' : i < cs.length := h.1 ▸ hi
  exact ⟨cs[i], List.getElem_mem hi', h.2 _ (List.mem_iff_getElem.mpr ⟨i, by simp [hi, hi'], by simp⟩)⟩

theorem cert_of_tables (K : Nat) (ls : List RawLayout) (cs : List CoverCert) (h : coverTablesOk K ls cs = true)
    (l : RawLayout) (hl : l ∈ ls) : ∃ cert ∈ cs, coverCertOk K l cert = true :=
  exists_of_all_zip h hl

theorem cover_of_tables (K : Nat) (ls : List RawLayout) (cs : List CoverCert) (h : coverTablesOk K ls cs = true)
    (l : RawLayout) (hl : l ∈ ls) (p : Vec3 ℝ) (hp : p ≠ (0, 0, 0)) :
    ∃ cert ∈ cs, ∃ c ∈ cert.cells, CellCovers l c p := by
  obtain ⟨cert, hc, hok⟩ := cert_of_tables K ls cs h l hl
  exact ⟨cert, hc, cover_of_cert K l cert hok p hp⟩

end Earverif.PointSource.Cover
