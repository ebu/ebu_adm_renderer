/- C05 — layer separation of the composed panner on a checked table (over ℝ).

   A Triplet accepts `p` only if `p = Σ gᵢ·Pᵢ` with every `gᵢ ≥ −1e-11`; if every vertex has `z ∈ [−1, 0]` then
   `p.z ≤ 3e-11`, so a direction with `z > 3e-11` is rejected (`triplet_none_of_above`; mirrored for `z ∈ [0, 1]`).
   The inner triplets of a VirtualNgon are triplets.  A region that rejects cannot be the first accepting region; a
   region none of whose channels feeds the real channel `i` through the downmix leaves `i` at exactly 0 (the scatter
   writes only the region's own channels, the downmix row of `i` is zero elsewhere, `0 / norm = 0`).
   The last section holds a Bool check of its own, `quadAxisOk` (one pan axis of one QuadRegion at one binary64
   direction), its soundness, and `AxisIn.eq_zero`.  It is no table obligation — those checks are in
   Model/PointSourceCover.lean: only the `example` in Props/C05.lean evaluates it, for a witness on 4+5+0 that a quad can
   satisfy `QuadZeroAt` by accepting with weight 0 (one quad, one direction). -/
import Earverif.Proofs.C05ExactCert

namespace Earverif.PointSource.Cover
open Earverif.PointSource
open Earverif.GainCalc (quadRoot)

/-- the slack of the layer-separation statements: three times the acceptance tolerance `1e-11` of `Triplet.handle` -/
noncomputable def layerDelta : ℝ := 3 / 100000000000

theorem comb3_z (s t u : ℝ) (a b c : Vec3 ℝ) : (comb3 s t u (a, b, c)).2.2 = s * a.2.2 + t * b.2.2 + u * c.2.2 := by
  simp [comb3, add3, smul3]

theorem triplet_accept_comb (a b c p : Vec3 ℝ) (hd : det3 (a, b, c) ≠ 0) (h : Triplet.handle (a, b, c) p ≠ none) :
    ∃ s t u : ℝ, -(1 / 100000000000) ≤ s ∧ -(1 / 100000000000) ≤ t ∧ -(1 / 100000000000) ≤ u ∧ p = comb3 s t u (a, b, c) := by
  obtain ⟨g, hg⟩ := Option.ne_none_iff_exists'.mp h
  obtain ⟨hacc, _⟩ := triplet_handle_eq_some.mp hg
  rw [Triplet.accepts, tripletEps_real] at hacc
  exact ⟨_, _, _, hacc.1, hacc.2.1, hacc.2.2, (comb3_pv _ hd p).symm⟩

theorem mul_le_slack {s z d : ℝ} (hs : -d ≤ s) (hd : 0 ≤ d) (hz : -1 ≤ z ∧ z ≤ 0) : s * z ≤ d := by
  have h1 := mul_nonneg (by linarith : 0 ≤ s + d) (neg_nonneg.mpr hz.2)
  have h2 := mul_nonneg hd (by linarith [hz.1] : 0 ≤ z + 1)
  linarith

/-- all vertices at or below the horizontal plane (z ∈ [−1, 0]) ⇒ a direction with `z > 3e-11` is rejected -/
theorem triplet_none_of_above (a b c p : Vec3 ℝ) (hd : det3 (a, b, c) ≠ 0) (ha : -1 ≤ a.2.2 ∧ a.2.2 ≤ 0)
    (hb : -1 ≤ b.2.2 ∧ b.2.2 ≤ 0) (hc : -1 ≤ c.2.2 ∧ c.2.2 ≤ 0) (hp : layerDelta < p.2.2) :
    Triplet.handle (a, b, c) p = none := by
  by_contra h
  obtain ⟨s, t, u, hs, ht, hu, rfl⟩ := triplet_accept_comb a b c p hd h
  rw [comb3_z] at hp
  unfold layerDelta at hp
  have e1 := mul_le_slack hs (by norm_num) ha
  have e2 := mul_le_slack ht (by norm_num) hb
  have e3 := mul_le_slack hu (by norm_num) hc
  linarith

/-- all vertices at or above the horizontal plane (z ∈ [0, 1]) ⇒ a direction with `z < −3e-11` is rejected -/
theorem triplet_none_of_below (a b c p : Vec3 ℝ) (hd : det3 (a, b, c) ≠ 0) (ha : 0 ≤ a.2.2 ∧ a.2.2 ≤ 1)
    (hb : 0 ≤ b.2.2 ∧ b.2.2 ≤ 1) (hc : 0 ≤ c.2.2 ∧ c.2.2 ≤ 1) (hp : p.2.2 < -layerDelta) :
    Triplet.handle (a, b, c) p = none := by
  by_contra h
  obtain ⟨s, t, u, hs, ht, hu, rfl⟩ := triplet_accept_comb a b c p hd h
  rw [comb3_z] at hp
  unfold layerDelta at hp
  have e1 := mul_le_slack (z := -a.2.2) hs (by norm_num) ⟨neg_le_neg ha.2, neg_nonpos.mpr ha.1⟩
  have e2 := mul_le_slack (z := -b.2.2) ht (by norm_num) ⟨neg_le_neg hb.2, neg_nonpos.mpr hb.1⟩
  have e3 := mul_le_slack (z := -c.2.2) hu (by norm_num) ⟨neg_le_neg hc.2, neg_nonpos.mpr hc.1⟩
  linarith

/-- `p` is on the far side of the layer: above by more than `layerDelta` (`up = false`: lower layer) or below -/
def FarSide (up : Bool) (p : Vec3 ℝ) : Prop := if up then p.2.2 < -layerDelta else layerDelta < p.2.2

/-- the real `z` of a table vertex is on the layer's side -/
def ZSide (up : Bool) (a : Vec3 ℝ) : Prop := if up then 0 ≤ a.2.2 ∧ a.2.2 ≤ 1 else -1 ≤ a.2.2 ∧ a.2.2 ≤ 0

theorem triplet_none_of_far (up : Bool) (a b c p : Vec3 ℝ) (hd : det3 (a, b, c) ≠ 0) (ha : ZSide up a) (hb : ZSide up b)
    (hc : ZSide up c) (hp : FarSide up p) : Triplet.handle (a, b, c) p = none := by
  cases up
  · exact triplet_none_of_above a b c p hd ha hb hc hp
  · exact triplet_none_of_below a b c p hd ha hb hc hp

theorem zSide_real (K : Nat) (up : Bool) (w : IV) (a : Vec3 ℝ) (e : castV w = smul3 ((2 : ℝ) ^ K) a)
    (h : (if up then decide (0 ≤ w.2.2) && decide (w.2.2 ≤ 2 ^ K) else decide (-(2 ^ K) ≤ w.2.2) && decide (w.2.2 ≤ 0)) = true) :
    ZSide up a := by
  have hS : (0 : ℝ) < (2 : ℝ) ^ K := by positivity
  have ez : ((w.2.2 : ℤ) : ℝ) = (2 : ℝ) ^ K * a.2.2 := by
    have := congrArg (fun v : Vec3 ℝ => v.2.2) e
    simpa [castV, smul3] using this
  cases up
  · simp only [Bool.false_eq_true, if_false, Bool.and_eq_true, decide_eq_true_eq] at h
    have h1 : -((2 : ℝ) ^ K) ≤ ((w.2.2 : ℤ) : ℝ) := by exact_mod_cast h.1
    have h2 : ((w.2.2 : ℤ) : ℝ) ≤ 0 := by exact_mod_cast h.2
    rw [ez] at h1 h2
    exact ⟨le_of_mul_le_mul_left (by linarith) hS, le_of_mul_le_mul_left (by linarith) hS⟩
  · simp only [if_true, Bool.and_eq_true, decide_eq_true_eq] at h
    have h1 : (0 : ℝ) ≤ ((w.2.2 : ℤ) : ℝ) := by exact_mod_cast h.1
    have h2 : ((w.2.2 : ℤ) : ℝ) ≤ (2 : ℝ) ^ K := by exact_mod_cast h.2
    rw [ez] at h1 h2
    exact ⟨le_of_mul_le_mul_left (by linarith) hS, le_of_mul_le_mul_left (by linarith) hS⟩

theorem zSide_getD (K : Nat) (up : Bool) (pos : List P3) (ps : List IV) (hm : pos.mapM (scaleP3 K) = some ps)
    (h : zSide K up ps = true) (i : Nat) (hi : i < ps.length) : ZSide up ((pos.map (p3 (α := ℝ))).getD i zero3) := by
  unfold zSide at h
  rw [List.all_eq_true] at h
  have hmem : ps.getD i (0, 0, 0) ∈ ps := by
    rw [List.getD_eq_getElem?_getD, List.getElem?_eq_getElem hi]; exact List.getElem_mem _
  exact zSide_real K up _ _ (mapM_scale_getD K pos ps hm i) (h _ hmem)

/-- **a one-sided region rejects every direction on the far side** (any roots: it is not a quad).  `hwf`: a fan's vertex
    order is a permutation, so that `order.getD i 0` is a slot of the positions and `zSide` has checked that vertex. -/
theorem regionOneSided_sound (K : Nat) (up : Bool) (r : RawRegion) (reg : Region ℝ) (hreg : r.toRegion = some reg)
    (h : regionOneSided K up r = true) (hwf : isPermOfRange r.order r.pos.length = true ∨ r.kind ≠ 1)
    (roots : Option ℝ × Option ℝ) (p : Vec3 ℝ) (hp : FarSide up p) :
    reg.handle roots p = none := by
  obtain ⟨kind, ch, pos, centre, cdm, order⟩ := r
  unfold regionOneSided at h
  simp only at h hwf
  split at h
  · rename_i _ _ a b c hm
    have hz := zSide_getD K up pos _ hm
    obtain ⟨x0, x1, x2, hpos, rfl, ea, eb, ec⟩ := toRegion_triplet_scaled rfl hreg hm
    simp only at hpos
    subst hpos
    simp only [Bool.and_eq_true, bne_iff_ne, ne_eq] at h
    have hdet : det3 ((p3 x0 : Vec3 ℝ), p3 x1, p3 x2) ≠ 0 := idet_real ea eb ec h.1
    have z0 := hz h.2 0 (by simp)
    have z1 := hz h.2 1 (by simp)
    have z2 := hz h.2 2 (by simp)
    simp only [List.map_cons, List.map_nil, List.getD_cons_zero, List.getD_cons_succ] at z0 z1 z2
    simp only [Region.handle, Option.map_eq_none_iff]
    exact triplet_none_of_far up _ _ _ p hdet z0 z1 z2 hp
  · rename_i _ _ ps hm
    simp only [RawRegion.toRegion, Option.some.injEq] at hreg
    subst hreg
    split at h
    · rename_i ce hce
      have hpl := mapM_some_length hm
      simp only [Bool.and_eq_true, List.all_eq_true, List.mem_range, bne_iff_ne, ne_eq] at h
      obtain ⟨hz, hdet⟩ := h
      have hzc : ZSide up (p3 centre) := by
        unfold zSide at hz
        rw [List.all_eq_true] at hz
        exact zSide_real K up ce _ (scaleP3_real K _ _ hce) (hz ce (by simp))
      have hzs : zSide K up ps = true := by
        unfold zSide at hz ⊢
        rw [List.all_eq_true] at hz ⊢
        exact fun v hv => hz v (by simp [hv])
      have hperm : isPermOfRange order pos.length = true := by
        rcases hwf with h' | h'
        · exact h'
        · exact absurd rfl h'
      simp only [isPermOfRange, Bool.and_eq_true, beq_iff_eq, List.all_eq_true, decide_eq_true_eq] at hperm
      obtain ⟨⟨holen, holt⟩, _⟩ := hperm
      have hord : ∀ i, i < pos.length → order.getD i 0 < ps.length := by
        intro i hi
        rw [hpl, List.getD_eq_getElem?_getD, List.getElem?_eq_getElem (by omega)]
        exact holt _ (List.getElem_mem _)
      simp only [Region.handle]
      apply ngon_handle_eq_none_iff_fan.mpr
      intro i hi
      simp only [List.length_map] at hi ⊢
      have hd := hdet i (by rw [hpl]; exact hi)
      simp only [fanTri, hpl] at hd
      have hi2 : (i + 1) % pos.length < pos.length := Nat.mod_lt _ (by omega)
      exact triplet_none_of_far up _ _ _ p
        (idet_real (mapM_scale_getD K pos ps hm _) (mapM_scale_getD K pos ps hm _) (scaleP3_real K _ _ hce) hd)
        (zSide_getD K up pos ps hm hzs _ (hord i hi)) (zSide_getD K up pos ps hm hzs _ (hord _ hi2)) hzc hp
    · exact absurd h (by simp)
  · exact absurd h (by simp)

theorem scatter_getD_of_not_mem : ∀ (is : List Nat) (vs out : List ℝ) (c : Nat), c ∉ is →
    (scatter out is vs).getD c 0 = out.getD c 0 :=
  scatter_getD_not_mem

theorem dot_eq_zero : ∀ (a b : List ℝ), (∀ c, a.getD c 0 = 0 ∨ b.getD c 0 = 0) → dot a b = 0
  | [], _, _ => by simp [dot]
  | _ :: _, [], _ => by simp [dot]
  | x :: xs, y :: ys, h => by
    have h0 := h 0
    simp only [List.getD_cons_zero] at h0
    have hrest := dot_eq_zero xs ys (fun c => by simpa using h (c + 1))
    simp only [dot, hrest, add_zero]
    rcases h0 with rfl | rfl <;> simp

theorem downmixRows_zero (l : RawLayout) (i c : Nat) (hi : i < l.nReal) (h : feeds l i c = false) :
    ((l.downmixRows (α := ℝ)).getD i []).getD c 0 = 0 := by
  unfold RawLayout.downmixRows
  rw [getD_map_range, if_pos hi]
  by_cases hc : c < l.nInner
  · rw [getD_map_range, if_pos hc]
    have : l.downmix.find? (fun e => e.1 == i && e.2.1 == c) = none := by
      rw [List.find?_eq_none]
      intro e he hpe
      unfold feeds at h
      rw [List.any_eq_false] at h
      exact h e he hpe
    rw [this]
    simp
  · rw [List.getD_eq_getElem?_getD, List.getElem?_eq_none (by simp; omega)]
    rfl

theorem getD_normalise (v : List ℝ) (i : Nat) (h : v.getD i 0 = 0) : (normalise v).getD i 0 = 0 := by
  unfold normalise
  rw [List.getD_eq_getElem?_getD, List.getElem?_map]
  rw [List.getD_eq_getElem?_getD] at h
  cases hv : v[i]? with
  | none => rfl
  | some x =>
    rw [hv] at h
    simp only [Option.getD_some] at h
    simp [h]

theorem getD_matVec (D : List (List ℝ)) (v : List ℝ) (i : Nat) (hi : i < D.length) :
    (matVec D v).getD i 0 = dot (D.getD i []) v := by
  unfold matVec
  rw [List.getD_eq_getElem?_getD, List.getElem?_map, List.getD_eq_getElem?_getD, List.getElem?_eq_getElem hi]
  rfl

/-- the QuadRegion `r` of the table `l`, asked for the direction `p`, answers `None`, or its answer gives the weight
    EXACTLY 0 to every corner whose channel feeds one of the real channels `rows` (the pan value across the layer is a
    root clipped to 0 resp. 1, so the two bilinear weights `x·y`, `(1−x)·y` … of those corners are products with 0) -/
def QuadZeroAt (l : RawLayout) (rows : List Nat) (r : RawRegion) (p : Vec3 ℝ) : Prop :=
  let q : QuadRegion ℝ := ⟨r.pos.map p3, r.order⟩
  ∀ gv, q.handle (quadRoot (q.polys p).1) (quadRoot (q.polys p).2) p = some gv →
    ∀ j c, r.ch[j]? = some c → (rows.any fun i => feeds l i c) = true → gv.getD j 0 = 0

/-- the hypothesis left for QuadRegions: every QuadRegion of the table that has a channel feeding one of `rows`, asked for
    a direction on the far side, answers `None` OR gives the corners feeding `rows` the weight exactly 0 (`QuadZeroAt`).
    Both alternatives occur on the real tables: for `p.z` between about −1e-10 and −3e-11 the vertical pan root is still
    inside `pan_axis`' window (−1e-10, 1+1e-10), is clipped to 0 and the quad accepts — with weight exactly 0 on its upper
    corners; see the `example` on 4+5+0 in Props/C05.lean. -/
def QuadsZeroFar (l : RawLayout) (rows : List Nat) (up : Bool) : Prop :=
  ∀ r ∈ l.regions, r.kind = 2 → touches l rows r = true → ∀ p : Vec3 ℝ, FarSide up p → QuadZeroAt l rows r p

/-- **Layer separation on a checked table.**  `rows`: real channels; every region with a channel feeding one of them
    is one-sided (`layerOkQ`; QuadRegions by hypothesis `hq`: `None` or weight 0 on the corners feeding `rows`).  For every
    direction on the far side the modelled `configure(layout).handle` answers a vector with one entry per real channel
    that gives every channel of `rows` the gain exactly 0. -/
theorem layer_separation_of_check (K : Nat) (l : RawLayout) (hwf : l.wellFormed = true) (hst : l.stereo = none)
    (rows : List Nat) (up : Bool) (hc : layerOkQ K l rows up = true) (hq : QuadsZeroFar l rows up) (p : Vec3 ℝ)
    (hp : FarSide up p) (out : List ℝ) (hout : handleSel quadRoot l p = some out) (i : Nat) (hi : i ∈ rows)
    (hir : i < l.nReal) : out.length = l.nReal ∧ out.getD i 0 = 0 := by
  obtain ⟨regions, hregs⟩ := mapM_toRegion_of_wf l hwf
  simp only [handleSel, RawLayout.handle, hregs, hst, PointSourcePannerDownmix.handle] at hout
  obtain ⟨g, hin, rfl⟩ := Option.map_eq_some_iff.mp hout
  obtain ⟨k, reg, gv, hreg, hacc, rfl⟩ := panner_handle_eq_some hin
  obtain ⟨r, hraw, hto⟩ := mapM_some_getElem?_rev hregs _ _ hreg
  have hrmem : r ∈ l.regions := List.mem_of_getElem? hraw
  -- the accepting region gives the weight 0 to every channel of its own that feeds `rows`
  have hzero : ∀ j c, r.ch[j]? = some c → (rows.any fun i => feeds l i c) = true → gv.getD j 0 = 0 := by
    intro j c hj hf
    have ht' : touches l rows r = true := List.any_eq_true.mpr ⟨c, List.mem_of_getElem? hj, hf⟩
    have hone := List.all_eq_true.mp hc r hrmem
    simp only [ht', Bool.not_true, Bool.false_or, Bool.or_eq_true, beq_iff_eq] at hone
    rcases hone with hk2 | hone
    · have hqz := hq r hrmem hk2 ht' p hp
      obtain ⟨kind, ch, pos, centre, cdm, order⟩ := r
      subst hk2
      simp only [RawRegion.toRegion, Option.some.injEq] at hto
      subst hto
      simp only [Region.handle, rootsOf, hreg] at hacc
      exact hqz gv hacc j c hj hf
    · have hperm : isPermOfRange r.order r.pos.length = true ∨ r.kind ≠ 1 := by
        have hrw := region_wf hwf hrmem
        obtain ⟨kind, ch, pos, centre, cdm, order⟩ := r
        by_cases hk1 : kind = 1
        · subst hk1
          simp only [RawRegion.wellFormed, Bool.and_eq_true, beq_iff_eq] at hrw
          exact Or.inl (hrw.1.2 ▸ hrw.2.1.2)
        · exact Or.inr hk1
      rw [regionOneSided_sound K up r reg hto hone hperm _ p hp] at hacc
      exact absurd hacc (by simp)
  refine ⟨by simp [normalise, matVec, length_downmixRows], ?_⟩
  -- hence row `i` of the downmix meets only zeros
  rw [toRegion_channels r reg hto]
  apply getD_normalise
  rw [getD_matVec _ _ _ (by rw [length_downmixRows]; exact hir)]
  apply dot_eq_zero
  intro c
  by_cases hf : feeds l i c = true
  · right
    apply scatter_getD_zero _ _ _ _ (getD_zeros _ _)
    intro j hj
    exact hzero j c hj (by rw [List.any_eq_true]; exact ⟨i, hi, hf⟩)
  · left
    exact downmixRows_zero l i c hir (by simpa using hf)

theorem layerOk_noquad (K : Nat) (l : RawLayout) (rows : List Nat) (up : Bool) (h : layerOk K l rows up = true) :
    layerOkQ K l rows up = true ∧ QuadsZeroFar l rows up := by
  unfold layerOk at h
  rw [List.all_eq_true] at h
  constructor
  · unfold layerOkQ
    rw [List.all_eq_true]
    intro r hr
    have := h r hr
    simp only [Bool.or_eq_true, Bool.not_eq_true'] at this ⊢
    rcases this with h' | h'
    · exact Or.inl (Or.inl h')
    · exact Or.inr h'
  · intro r hr hk ht
    have := h r hr
    simp only [ht, Bool.not_true, Bool.false_or] at this
    obtain ⟨kind, ch, pos, centre, cdm, order⟩ := r
    simp only at hk
    subst hk
    unfold regionOneSided at this
    simp at this

theorem layerRows_lt (l : RawLayout) (up : Bool) (k : Nat) (h : k ∈ layerRows l up) : k < l.nReal ∧ l.stereo = none := by
  unfold layerRows at h
  split at h
  · simp at h
  · rename_i hs
    rw [List.mem_filter, List.mem_range] at h
    exact ⟨h.1, hs⟩

/-- the pan axis (`rot = false`: `pan_x`, `rot = true`: `pan_y`) of the QuadRegion `r`, asked for the direction `v`, can only
    return clips of roots in `[xl, xh]` (`axisOk` on the scaled integer corners in vertex order) -/
def quadAxisOk (K : Nat) (r : RawRegion) (v : P3) (rot : Bool) (xl xh : Q2) : Bool :=
  match r.pos.mapM (scaleP3 K), scaleP3 K v with
  | some ps, some p =>
    let c := fun k => ps.getD (r.order.getD k 0) (0, 0, 0)
    if rot then axisOk (ipanPoly (c 1) (c 2) (c 3) (c 0) p) xl xh else axisOk (ipanPoly (c 0) (c 1) (c 2) (c 3) p) xl xh
  | _, _ => false

theorem quadAxisOk_sound (K : Nat) (r : RawRegion) (v : P3) (rot : Bool) (xl xh : Q2)
    (h : quadAxisOk K r v rot xl xh = true) :
    let q : QuadRegion ℝ := ⟨r.pos.map p3, r.order⟩
    AxisIn (if rot then (q.polys (p3 v)).2 else (q.polys (p3 v)).1) ((xl.1 : ℝ) / xl.2) ((xh.1 : ℝ) / xh.2) := by
  unfold quadAxisOk at h
  split at h
  · rename_i ps p hps hp
    have hget := mapM_scale_getD K r.pos ps hps
    have ep := scaleP3_real K v p hp
    have hS3 : ((2 : ℝ) ^ K) ^ 3 ≠ 0 := by positivity
    cases rot
    · simp only [Bool.false_eq_true, if_false] at h ⊢
      exact axisOk_real hS3 (ipanPoly_real (hget _) (hget _) (hget _) (hget _) ep) h
    · simp only [if_true] at h ⊢
      exact axisOk_real hS3 (ipanPoly_real (hget _) (hget _) (hget _) (hget _) ep) h
  · exact absurd h (by simp)

/-- a pan value certified to lie in `[·, 0]` is exactly 0 -/
theorem AxisIn.eq_zero {c : ℝ × ℝ × ℝ} {xl : ℝ} (h : AxisIn c xl 0) (x : ℝ) (hx : quadRoot c = some x) : x = 0 := by
  obtain ⟨h0, h1⟩ := h.mem x hx
  rw [clip01_of_nonpos le_rfl] at h1
  exact le_antisymm h1 (le_trans (clip01_nonneg _) h0)

/-- non-vacuity of `triplet_none_of_above`: the triplet (1,0,0), (0,1,0), (0,0,−1) (all z ∈ [−1, 0]) rejects straight up -/
example : Triplet.handle (((1 : ℝ), (0 : ℝ), (0 : ℝ)), ((0 : ℝ), (1 : ℝ), (0 : ℝ)), ((0 : ℝ), (0 : ℝ), (-1 : ℝ)))
    ((0 : ℝ), (0 : ℝ), (1 : ℝ)) = none :=
  triplet_none_of_above _ _ _ _ (by norm_num [det3]) (by norm_num) (by norm_num) (by norm_num)
    (by unfold layerDelta; norm_num)

end Earverif.PointSource.Cover
