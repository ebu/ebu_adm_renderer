/-
Lemmas about `Model/FileRenderLayout.lean` for C04: `mapE` is `List.mapM` (facts from `Proofs/MapM.lean`); a successful
`with_speakers` and its loop body `column`, `maxInt`; non-zero counts for `check_upmix_matrix`; `RSpeaker` against the
`FileRender.Speaker` it stands for, `parseScreen`, `eye`; the loops of `inside_angle_range` through `Proofs/Turns.lean`.
-/
import Earverif.Model.FileRenderLayout
import Earverif.Proofs.MapM
import Earverif.Proofs.ListLemmas
import Earverif.Proofs.Turns
import Mathlib.Tactic.Linarith
import Mathlib.Tactic.Ring
import Mathlib.Algebra.Order.Ring.Rat
import Mathlib.Algebra.Order.Floor.Ring

namespace Earverif.FileRenderLayout
open Earverif.FileRender

theorem mapE_eq_mapM {α β : Type} (f : α → R β) : ∀ xs : List α, mapE f xs = xs.mapM f
  | [] => rfl
  | x :: xs => by
    rw [List.mapM_cons, mapE, mapE_eq_mapM f xs]
    cases f x with
    | error e => rfl
    | ok y => cases xs.mapM f <;> rfl

theorem mapE_ok_iff {α β : Type} (f : α → R β) (xs : List α) (ys : List β) :
    mapE f xs = .ok ys ↔ xs.map f = ys.map .ok := by
  rw [mapE_eq_mapM, mapM_ok_iff]

theorem mapE_cons_ok {α β : Type} {f : α → R β} {x : α} {xs : List α} {ys : List β}
    (h : mapE f (x :: xs) = .ok ys) : ∃ y ys', f x = .ok y ∧ mapE f xs = .ok ys' ∧ ys = y :: ys' := by
  rw [mapE_ok_iff] at h
  cases ys with
  | nil => cases h
  | cons y ys' =>
    rw [List.map_cons, List.map_cons, List.cons.injEq] at h
    exact ⟨y, ys', h.1, (mapE_ok_iff f xs ys').mpr h.2, rfl⟩

theorem mapE_ok_length {α β : Type} (f : α → R β) (xs : List α) (ys : List β) (h : mapE f xs = .ok ys) :
    ys.length = xs.length :=
  length_of_map_eq ((mapE_ok_iff f xs ys).mp h)

theorem mapE_ok_get {α β : Type} (f : α → R β) (xs : List α) (ys : List β) (h : mapE f xs = .ok ys) (i : Nat)
    (hi : i < xs.length) (hi' : i < ys.length) : f xs[i] = .ok ys[i] := by
  simpa [hi, hi'] using getElem?_of_map_eq ((mapE_ok_iff f xs ys).mp h) i

theorem mapE_ok_mem {α β : Type} (f : α → R β) : ∀ (xs : List α) (ys : List β),
    mapE f xs = .ok ys → ∀ x ∈ xs, ∃ y ∈ ys, f x = .ok y :=
  fun xs ys h _ hx => mem_of_map_eq ((mapE_ok_iff f xs ys).mp h) hx

theorem mapE_error_iff {α β : Type} (f : α → R β) : ∀ (xs : List α),
    (∃ e, mapE f xs = .error e) ↔ ∃ x ∈ xs, ∃ e, f x = .error e := by
  intro xs
  rw [mapE_eq_mapM]
  constructor
  · rintro ⟨e, h⟩
    obtain ⟨x, hx, he⟩ := mapM_error_mem h
    exact ⟨x, hx, e, he⟩
  · rintro ⟨x, hx, e, he⟩
    cases h : xs.mapM f with
    | error e' => exact ⟨e', rfl⟩
    | ok ys =>
      obtain ⟨y, -, hy⟩ := mem_of_map_eq ((mapM_ok_iff f xs ys).mp h) hx
      rw [he] at hy; cases hy

theorem withSpeakers_ok {chans : List Channel} {sp : List RSpeaker} {chans' : List Channel} {U : List (List Rat)}
    (h : withSpeakers chans sp = .ok (chans', U)) :
    ∃ cs cols, mapE (fun s => chanInt s.channel) sp = .ok cs ∧ cs ≠ [] ∧ 0 ≤ maxInt cs + 1 ∧
      mapE (column (maxInt cs + 1).toNat sp) chans = .ok cols ∧
      chans' = cols.map (·.2) ∧
      U = (List.range (maxInt cs + 1).toNat).map fun o => cols.map fun c => entryOf o c.1 := by
  unfold withSpeakers at h
  split at h
  · cases h
  · rename_i cs hcs
    split at h
    · cases h
    · rename_i hne
      simp only at h
      split at h
      · cases h
      · rename_i hout
        split at h
        · cases h
        · rename_i cols hcols
          cases h
          refine ⟨cs, cols, hcs, ?_, by omega, hcols, rfl, rfl⟩
          intro e; subst e; simp at hne

theorem maxInt_mem : ∀ (cs : List Int), cs ≠ [] → maxInt cs ∈ cs ∧ ∀ c ∈ cs, c ≤ maxInt cs
  | [], h => absurd rfl h
  | [x], _ => by simp [maxInt]
  | x :: y :: ys, _ => by
    have ih := maxInt_mem (y :: ys) (List.cons_ne_nil _ _)
    simp only [maxInt]
    constructor
    · rcases max_choice x (maxInt (y :: ys)) with e | e
      · rw [e]; exact List.mem_cons_self
      · rw [e]; exact List.mem_cons_of_mem _ ih.1
    · intro c hc
      rcases List.mem_cons.mp hc with rfl | hc
      · exact le_max_left _ _
      · exact le_trans (ih.2 c hc) (le_max_right _ _)

theorem pyIndex_lt {out : Nat} {c : Int} {row : Nat} (h : pyIndex out c = .ok row) : row < out := by
  unfold pyIndex at h
  split at h
  · cases h; omega
  · split at h
    · cases h; omega
    · cases h

theorem pyIndex_of_nonneg {out : Nat} {c : Int} {row : Nat} (h : pyIndex out c = .ok row) (h0 : 0 ≤ c) :
    row = c.toNat := by
  unfold pyIndex at h
  split at h
  · cases h; rfl
  · split at h
    · omega
    · cases h

theorem chanInt_ok {y : Y} {c : Int} (h : chanInt y = .ok c) : y = .int c := by
  cases y <;> simp [chanInt] at h
  subst h; rfl

theorem column_ok {out : Nat} {sp : List RSpeaker} {ch : Channel} {r : Option (Nat × Rat) × Channel}
    (h : column out sp ch = .ok r) :
    (findRSpeaker sp ch.name = none ∧ r = (none, ch)) ∨
    ∃ s c row g, findRSpeaker sp ch.name = some s ∧ s.channel = .int c ∧ pyIndex out c = .ok row ∧
      gainValue s.gain = .ok g ∧
      r = (some (row, g), match s.pos with
        | some p => { ch with pos := p }
        | none => ch) := by
  unfold column at h
  split at h
  · rename_i hf; cases h; exact Or.inl ⟨hf, rfl⟩
  · rename_i s hf
    split at h
    · cases h
    · rename_i c hc
      split at h
      · cases h
      · rename_i row hrow
        split at h
        · cases h
        · rename_i g hg
          cases h
          exact Or.inr ⟨s, c, row, g, hf, chanInt_ok hc, hrow, hg, rfl⟩

theorem nonzeroIdx_length : ∀ (v : List Rat), (nonzeroIdx v).length = nnz v := by
  intro v
  unfold nonzeroIdx nnz
  conv_rhs => rw [← range_map_getD v 0]
  rw [List.countP_map, List.countP_eq_length_filter]
  rfl

theorem colOf_eq_entries (U : List (List Rat)) (i : Nat) :
    colOf U i = (List.range U.length).map fun o => entry U o i := by
  apply List.ext_getElem
  · simp [colOf]
  · intro o h1 h2
    have ho : o < U.length := by simpa [colOf] using h1
    simp [colOf, entry, List.getD, ho]

theorem countP_single (g : Rat) (row : Nat) : ∀ n : Nat,
    (List.range n).countP (fun o => (if o = row then g else 0) != 0) = if row < n ∧ g ≠ 0 then 1 else 0 := by
  intro n
  by_cases hg : g = 0
  · simp [hg]
  · -- for `g ≠ 0` the predicate is `· == row`, and `row` occurs in `range n` once or not at all
    have hp : (fun o => (if o = row then g else 0) != 0) = (· == row) := by
      funext o
      by_cases h : o = row <;> simp [h, hg]
    rw [hp]
    show List.count row (List.range n) = _
    rw [List.count_range]
    simp [hg]

/-! A speaker as parsed from the YAML file (`RSpeaker`) and the `FileRender.Speaker` it stands for (`toSpeaker`,
`toSpeakers`): names, lookup by name, channel numbers. -/

theorem names_bridge (name : String) : ∀ (ys : List Y),
    (ys.filterMap (fun | .str n => some n | _ => none)).contains name = ys.any (Y.isStr name) := by
  intro ys
  induction ys with
  | nil => rfl
  | cons y ys ih =>
    cases y with
    | str n => simp only [List.filterMap_cons, List.contains_cons, List.any_cons, Y.isStr, ih, Bool.beq_comm (a := name)]
    | _ => simp only [List.filterMap_cons, List.any_cons, Y.isStr, ih, Bool.false_or]

theorem toSpeaker_spec {s : RSpeaker} {s' : Speaker} (h : toSpeaker s = some s') :
    ∃ c g, s.channel = .int c ∧ 0 ≤ c ∧ gainValue s.gain = .ok g ∧ s'.channel = c.toNat ∧ s'.gain = g ∧
      ∀ name, s'.names.contains name = s.names.any (Y.isStr name) := by
  unfold toSpeaker at h
  split at h
  · rename_i c g hc hg
    split at h
    · rename_i h0
      cases h
      refine ⟨c, g, hc, h0, hg, rfl, rfl, ?_⟩
      intro name
      exact names_bridge name s.names
    · cases h
  · cases h

theorem find_bridge (name : String) : ∀ (sp : List RSpeaker) (sp' : List Speaker), toSpeakers sp = some sp' →
    (findRSpeaker sp name = none → findSpeaker sp' name = none) ∧
    ∀ s, findRSpeaker sp name = some s → ∃ s', findSpeaker sp' name = some s' ∧ toSpeaker s = some s' := by
  intro sp
  induction sp with
  | nil => intro sp' h; cases h; exact ⟨fun _ => rfl, fun _ h => (nomatch h)⟩
  | cons s rest ih =>
    intro sp' h
    simp only [toSpeakers] at h
    split at h
    · rename_i s' rest' hs hr
      cases h
      obtain ⟨c, g, _, _, _, _, _, hn⟩ := toSpeaker_spec hs
      simp only [findRSpeaker, findSpeaker, List.find?_cons, hn name]
      cases s.names.any (Y.isStr name) with
      | true => exact ⟨fun h => (nomatch h), fun t h => by cases h; exact ⟨s', rfl, hs⟩⟩
      | false => exact ih rest' hr
    · cases h

theorem chans_bridge : ∀ (sp : List RSpeaker) (sp' : List Speaker) (cs : List Int), toSpeakers sp = some sp' →
    mapE (fun s => chanInt s.channel) sp = .ok cs → cs = List.map Int.ofNat (sp'.map (·.channel)) := by
  intro sp
  induction sp with
  | nil => intro sp' cs h1 h2; simp [toSpeakers] at h1; simp [mapE] at h2; subst h1; subst h2; rfl
  | cons s rest ih =>
    intro sp' cs h1 h2
    simp only [toSpeakers] at h1
    split at h1
    · rename_i s' rest' hs hr
      cases h1
      obtain ⟨c, g, hc, h0, _, hch, _, _⟩ := toSpeaker_spec hs
      simp only [mapE, hc, chanInt] at h2
      split at h2
      · cases h2
      · rename_i cs' hcs'
        cases h2
        rw [ih rest' cs' hr hcs']
        simp [hch, Int.toNat_of_nonneg h0]
    · cases h1

theorem maxInt_cast : ∀ (ns : List Nat), ns ≠ [] →
    maxInt (List.map Int.ofNat ns) = Int.ofNat (ns.foldl max 0)
  | [], h => absurd rfl h
  | [n], _ => by simp [maxInt]
  | n :: m :: ms, _ => by
    have ih := maxInt_cast (m :: ms) (List.cons_ne_nil _ _)
    have hf : (n :: m :: ms).foldl max 0 = max n ((m :: ms).foldl max 0) := by
      rw [List.foldl_cons, Nat.max_comm 0 n, List.foldl_assoc]
    rw [hf]
    simp only [List.map_cons, maxInt] at ih ⊢
    rw [ih]
    simp only [Int.ofNat_eq_natCast]
    omega

theorem parseScreen_some {v : Y} {r : Option Screen} (h : parseScreen v = .ok r) (hv : v ≠ .null) :
    ∃ s, r = some s := by
  unfold parseScreen at h
  split at h
  · exact absurd rfl hv
  · repeat' (split at h)
    all_goals first | (cases h; exact ⟨_, rfl⟩) | cases h
  · cases h

theorem eye_row (n o : Nat) :
    ((List.range n).map fun i => if i = o then (1 : Rat) else 0) = (List.replicate n (0 : Rat)).set o 1 := by
  apply List.ext_getElem
  · simp
  · intro i h1 h2
    have hi : i < n := by simpa using h1
    simp only [List.getElem_map, List.getElem_range, List.getElem_set, List.getElem_replicate]
    by_cases h : o = i
    · subst h; simp
    · have : ¬ i = o := fun e => h e.symm
      simp [h, this]

/-- `turns d` iterations of a loop that moves by 360 cover a distance `d`: the fuel given to `loopUp` / `loopDown`. -/
theorem turns_spec (d : Rat) : d < 360 * (turns d : Rat) := by
  have h1 := Rat.lt_floor_add_one (d / 360)
  have h2 : ((d / 360).floor : Rat) ≤ (((d / 360).floor.toNat : Nat) : Rat) := by
    exact_mod_cast Int.self_le_toNat (d / 360).floor
  unfold turns
  rw [← div_lt_iff₀' (by norm_num : (0 : Rat) < 360)]
  push_cast at h1 ⊢
  exact lt_of_lt_of_le h1 (add_le_add_left h2 1)

theorem loopDown_ran (strict : Bool) (s : Rat) (f : Nat) (x : Rat) :
    Turns.Ran (fun x => if strict then s < x - 360 else s ≤ x - 360) (-360) x (loopDown strict s f x) ∧
    (¬ (if strict then s < x + f * (-360) - 360 else s ≤ x + f * (-360) - 360) →
      ¬ (if strict then s < loopDown strict s f x - 360 else s ≤ loopDown strict s f x - 360)) :=
  Turns.loop_spec (fun _ => rfl) (fun n y h => by rw [loopDown, if_pos h, sub_eq_add_neg])
    (fun n y h => by rw [loopDown, if_neg h]) f x

theorem loopUp_ran (s : Rat) (f : Nat) (x : Rat) : Turns.Ran (· < s) 360 x (loopUp s f x) ∧
    (¬ x + f * 360 < s → ¬ loopUp s f x < s) :=
  Turns.loop_spec (fun _ => rfl) (fun n y h => by rw [loopUp, if_pos h]) (fun n y h => by rw [loopUp, if_neg h]) f x

/-- The two loops with the fuel the model gives them (`turns_spec`): `x` moved by whole turns to at least `s` and
within the bound `B` that the first loop leaves (`strict`: as for `end`, `≤ s + 360`; else as for `x`, `< s + 360`);
unchanged if no step was needed. -/
theorem norm_spec (strict : Bool) (s x : Rat) {B : Rat → Prop}
    (hB : ∀ z, ¬ (if strict then s < z - 360 else s ≤ z - 360) → B z) (hB' : ∀ z, z < s + 360 → B z) :
    let x1 := loopDown strict s (turns (x - s)) x
    let r := loopUp s (turns (s - x1)) x1
    (∃ k : Int, r = x + 360 * (k : Rat)) ∧ s ≤ r ∧ B r ∧
      (¬ (if strict then s < x - 360 else s ≤ x - 360) → s ≤ x → r = x) := by
  intro x1 r
  obtain ⟨r1, st1⟩ := loopDown_ran strict s (turns (x - s)) x
  obtain ⟨r2, st2⟩ := loopUp_ran s (turns (s - x1)) x1
  exact Turns.window hB hB' r1
    (st1 (by have := turns_spec (x - s); cases strict <;> simp only [Bool.false_eq_true, if_false, if_true] <;> linarith))
    r2 (st2 (by have := turns_spec (s - x1); linarith))

theorem normX_spec (s x : Rat) : s ≤ normX s x ∧ normX s x < s + 360 ∧ ∃ k : Int, normX s x = x + 360 * (k : Rat) := by
  obtain ⟨a, b, c, -⟩ := norm_spec false s x (B := (· < s + 360))
    (fun z hz => by simp only [Bool.false_eq_true, if_false] at hz; linarith) (fun z hz => hz)
  exact ⟨b, c, a⟩

theorem normEnd_spec (s e : Rat) : s ≤ normEnd s e ∧ normEnd s e ≤ s + 360 ∧
    (∃ k : Int, normEnd s e = e + 360 * (k : Rat)) ∧ (s ≤ e → e ≤ s + 360 → normEnd s e = e) := by
  obtain ⟨a, b, c, d⟩ := norm_spec true s e (B := (· ≤ s + 360))
    (fun z hz => by simp only [if_true] at hz; linarith) (fun z hz => hz.le)
  exact ⟨b, c, a, fun h1 h2 => d (by simp only [if_true]; linarith) h1⟩

end Earverif.FileRenderLayout
