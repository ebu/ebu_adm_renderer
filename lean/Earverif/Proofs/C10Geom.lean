/- Lemmas about the modelled geometric helpers of the DirectSpeakers panner (C10):
   `flatnonzero`, `argminFirst`, `closestIndex` (result is a candidate, is the minimum, is unique within
   `tol`; ties ⇒ none; all for the ℚ model `handleFull`, not for `closestIndexC` of `handleC`: Proofs/C10Sqrt), `geoOf`
   satisfies `GeoOk`, the polar screen edge lock. -/
import Earverif.Model.DirectSpeakersGeom
import Earverif.Proofs.C10

namespace Earverif.DS

theorem mem_flatnonzero {c : List Bool} {i : Nat} : i ∈ flatnonzero c ↔ c[i]? = some true := by
  unfold flatnonzero
  rw [List.mem_filter, List.mem_range, List.getD_eq_getElem?_getD]
  constructor
  · rintro ⟨hlt, h⟩
    rw [List.getElem?_eq_getElem hlt] at h ⊢
    exact congrArg some h
  · intro h
    exact ⟨(List.getElem?_eq_some_iff.mp h).1, by rw [h]; rfl⟩

theorem argminFirst_none {l : List Rat} : argminFirst l = none → l = [] := by
  cases l with
  | nil => intro _; rfl
  | cons x xs =>
    intro h
    simp only [argminFirst] at h
    split at h
    · cases h
    · split at h <;> cases h

/-- `np.argmin`: a valid index, and the value there is ≤ every value. -/
theorem argminFirst_spec : ∀ {l : List Rat} {j : Nat}, argminFirst l = some j →
    j < l.length ∧ ∀ k, k < l.length → l.getD j 0 ≤ l.getD k 0
  | [], _, h => nomatch h
  | x :: xs, j, h => by
    simp only [argminFirst] at h
    split at h
    · rename_i hn
      cases h
      cases argminFirst_none hn
      exact ⟨Nat.zero_lt_one, fun k hk => by cases Nat.lt_one_iff.mp hk; exact le_refl _⟩
    · rename_i j' hj'
      obtain ⟨hlt, ih⟩ := argminFirst_spec hj'
      split at h
      · rename_i hx
        cases h
        refine ⟨Nat.succ_lt_succ hlt, fun k hk => ?_⟩
        cases k with
        | zero => exact le_of_lt hx
        | succ k => exact ih k (Nat.lt_of_succ_lt_succ hk)
      · rename_i hx
        cases h
        refine ⟨Nat.zero_lt_succ _, fun k hk => ?_⟩
        cases k with
        | zero => exact le_refl _
        | succ k => exact le_trans (not_lt.mp hx) (ih k (Nat.lt_of_succ_lt_succ hk))

theorem two_le_countP (p : Rat → Bool) : ∀ (l : List Rat) (a b : Nat), a < b → b < l.length →
    p (l.getD a 0) = true → p (l.getD b 0) = true → 2 ≤ l.countP p
  | [], _, _, _, hb, _, _ => nomatch hb
  | x :: xs, 0, b + 1, _, hb, ha, hpb => by
    have hb' : b < xs.length := Nat.lt_of_succ_lt_succ hb
    have hmem : xs.getD b 0 ∈ xs := by
      rw [List.getD_eq_getElem?_getD, List.getElem?_eq_getElem hb']; exact List.getElem_mem hb'
    have hpos : 0 < xs.countP p := List.countP_pos_iff.mpr ⟨_, hmem, hpb⟩
    rw [List.countP_cons_of_pos (a := x) ha]; omega
  | x :: xs, a + 1, b + 1, hab, hb, ha, hpb => by
    have ih := two_le_countP p xs a b (Nat.lt_of_succ_lt_succ hab) (Nat.lt_of_succ_lt_succ hb) ha hpb
    rw [List.countP_cons]
    exact Nat.le_trans ih (Nat.le_add_right _ _)

theorem countP_one_unique (p : Rat → Bool) (l : List Rat) (h : l.countP p = 1) (a b : Nat)
    (ha : a < l.length) (hb : b < l.length) (hpa : p (l.getD a 0) = true) (hpb : p (l.getD b 0) = true) :
    a = b := by
  rcases Nat.lt_trichotomy a b with hlt | heq | hgt
  · have := two_le_countP p l a b hlt hb hpa hpb; omega
  · exact heq
  · have := two_le_countP p l b a hgt ha hpb hpa; omega

theorem closeTo_self {sm tol : Rat} (h : 0 < tol) : closeTo sm tol sm = true := by
  simp only [closeTo, Bool.and_eq_true, decide_eq_true_eq, Bool.or_eq_true]
  refine ⟨h, Or.inl ?_⟩
  have : 0 < tol * tol := mul_pos h h
  linarith

/-! ### closest_channel_index -/

theorem getD_map_getElem {idxs : List Nat} {f : Nat → Rat} {k : Nat} (hk : k < idxs.length) :
    (idxs.map f).getD k 0 = f idxs[k] := by
  rw [List.getD_eq_getElem?_getD, List.getElem?_map, List.getElem?_eq_getElem hk]; rfl

section
variable {positions : List Vec3} {cart : Vec3} {cands : List Bool} {tol : Rat} {i : Nat}

/-- A successful `closestIndex`: `i` is the candidate at the position of the first minimal squared distance, and
    exactly one candidate's squared distance is `closeTo` that minimum. -/
theorem closestIndex_some (h : closestIndex positions cart cands tol = some i) :
    ∃ mi, ∃ hmi : mi < (flatnonzero cands).length, (flatnonzero cands)[mi] = i ∧
      (∀ k (hk : k < (flatnonzero cands).length), sqDist (positions.getD i (0, 0, 0)) cart
        ≤ sqDist (positions.getD (flatnonzero cands)[k] (0, 0, 0)) cart) ∧
      ((flatnonzero cands).map fun j => sqDist (positions.getD j (0, 0, 0)) cart).countP
        (closeTo (sqDist (positions.getD i (0, 0, 0)) cart) tol) = 1 := by
  unfold closestIndex at h
  simp only at h
  split at h
  · cases h
  · rename_i mi hmi
    split at h
    · rename_i hc
      obtain ⟨hmil, hmin⟩ := argminFirst_spec hmi
      rw [List.length_map] at hmil
      obtain ⟨_, hv⟩ := List.getElem?_eq_some_iff.mp h
      rw [getD_map_getElem hmil, hv] at hc
      refine ⟨mi, hmil, hv, fun k hk => ?_, hc⟩
      have := hmin k (by rw [List.length_map]; exact hk)
      rwa [getD_map_getElem hmil, getD_map_getElem hk, hv] at this
    · cases h

/-- Exactly one distance is within `tol` of the minimum, so some distance is, which needs `tol > 0`. -/
theorem closestIndex_tol_pos (h : closestIndex positions cart cands tol = some i) : 0 < tol := by
  obtain ⟨_, _, _, _, hcount⟩ := closestIndex_some h
  obtain ⟨x, _, hx⟩ := List.countP_pos_iff.mp (hcount ▸ Nat.one_pos)
  simp only [closeTo, Bool.and_eq_true, decide_eq_true_eq] at hx
  exact hx.1

end

theorem closestIndex_is_candidate {positions : List Vec3} {cart : Vec3} {cands : List Bool} {tol : Rat} {i : Nat}
    (h : closestIndex positions cart cands tol = some i) : cands[i]? = some true := by
  obtain ⟨mi, hmi, rfl, _⟩ := closestIndex_some h
  exact mem_flatnonzero.mp (List.getElem_mem hmi)

theorem closestIndex_is_min {positions : List Vec3} {cart : Vec3} {cands : List Bool} {tol : Rat} {i : Nat}
    (h : closestIndex positions cart cands tol = some i) (j : Nat) (hj : cands[j]? = some true) :
    sqDist (positions.getD i (0, 0, 0)) cart ≤ sqDist (positions.getD j (0, 0, 0)) cart := by
  obtain ⟨_, _, _, hmin, _⟩ := closestIndex_some h
  obtain ⟨k, hk, rfl⟩ := List.mem_iff_getElem.mp (mem_flatnonzero.mpr hj)
  exact hmin k hk

/-- The index returned is the only candidate within `tol` of the minimum distance: every other candidate is farther than
    `min_dist + tol`.  (So two candidates tied within `tol` ⇒ `None`.) -/
theorem closestIndex_unique {positions : List Vec3} {cart : Vec3} {cands : List Bool} {tol : Rat} {i : Nat}
    (h : closestIndex positions cart cands tol = some i) (j : Nat) (hj : cands[j]? = some true) (hne : j ≠ i) :
    closeTo (sqDist (positions.getD i (0, 0, 0)) cart) tol (sqDist (positions.getD j (0, 0, 0)) cart) = false := by
  obtain ⟨mi, hmi, hv, _, hcount⟩ := closestIndex_some h
  obtain ⟨k, hk, hkj⟩ := List.mem_iff_getElem.mp (mem_flatnonzero.mpr hj)
  cases hc : closeTo (sqDist (positions.getD i (0, 0, 0)) cart) tol (sqDist (positions.getD j (0, 0, 0)) cart) with
  | false => rfl
  | true =>
    -- `j` and the minimum itself are both within `tol`: they sit at the same position of the candidate list
    have hkm : k = mi := countP_one_unique _ _ hcount k mi (by rwa [List.length_map]) (by rwa [List.length_map])
      (by rw [getD_map_getElem hk, hkj]; exact hc) (by rw [getD_map_getElem hmi, hv]; exact closeTo_self (closestIndex_tol_pos h))
    subst hkm
    exact absurd (hkj.symm.trans hv) hne

theorem closestIndex_tie_none {positions : List Vec3} {cart : Vec3} {cands : List Bool} {tol : Rat}
    (a b : Nat) (ha : cands[a]? = some true) (hb : cands[b]? = some true) (hab : a ≠ b)
    (heq : sqDist (positions.getD a (0, 0, 0)) cart = sqDist (positions.getD b (0, 0, 0)) cart)
    (hmin : ∀ j, cands[j]? = some true →
      sqDist (positions.getD a (0, 0, 0)) cart ≤ sqDist (positions.getD j (0, 0, 0)) cart) :
    closestIndex positions cart cands tol = none := by
  cases h : closestIndex positions cart cands tol with
  | none => rfl
  | some i =>
    exfalso
    have hpos := closestIndex_tol_pos h
    -- the result has the minimal distance, which is that of a (and b)
    have hia : sqDist (positions.getD i (0, 0, 0)) cart = sqDist (positions.getD a (0, 0, 0)) cart :=
      le_antisymm (closestIndex_is_min h a ha) (hmin i (closestIndex_is_candidate h))
    by_cases hai : a = i
    · have := closestIndex_unique h b hb (fun hbi => hab (hai.trans hbi.symm))
      rw [hia, ← heq, closeTo_self hpos] at this; cases this
    · have := closestIndex_unique h a ha hai
      rw [hia, closeTo_self hpos] at this; cases this

/-! ### the assembled geometry -/

/-- The loudspeaker chosen by the modelled `closest_channel_index` on the masked candidate set has the
    LFE class of the block (what the `closest` exit needs; no hypothesis on the geometry). -/
theorem closest_same_class {L : Layout} {G : LayoutGeom} {lfe : Bool} {gi : GeoIn} {c : Nat}
    (h : (geoOf L G lfe gi).closest = some c) : L.isLfe[c]? = some lfe :=
  (candidates_same_class (closestIndex_is_candidate h)).1

/-- The modelled geometry satisfies what the decision-structure theorems assumed of the captured one;
    only the point-source panner result remains a hypothesis. -/
theorem geoOf_ok {L : Layout} {G : LayoutGeom} {b : Block} {gi : GeoIn}
    (hnn : ∀ x ∈ gi.psp, 0 ≤ x) (hpow : sumSq gi.psp ≤ slack) :
    GeoOk L b (geoOf L G (isLfeChannel b) gi) :=
  ⟨fun _ hc => closestIndex_is_candidate hc, hnn, hpow⟩

/-! ### screen edge lock (polar) -/

theorem handleAzEl_no_lock (edges : Option ScreenEdges) (az el : Rat) :
    handleAzEl edges az el ⟨none, none⟩ = (az, el) := by
  cases edges <;> rfl

theorem handleAzEl_no_screen (az el : Rat) (sel : ScreenEdgeLock) : handleAzEl none az el sel = (az, el) := rfl

theorem handleAzEl_left (e : ScreenEdges) (az el : Rat) :
    handleAzEl (some e) az el ⟨some "left", none⟩ = (e.left, el) := by
  simp [handleAzEl, lockToScreenEdge]

theorem handleAzEl_right (e : ScreenEdges) (az el : Rat) :
    handleAzEl (some e) az el ⟨some "right", none⟩ = (e.right, el) := by
  simp [handleAzEl, lockToScreenEdge]

theorem handleAzEl_top (e : ScreenEdges) (az el : Rat) :
    handleAzEl (some e) az el ⟨none, some "top"⟩ = (az, e.top) := by
  simp [handleAzEl, lockToScreenEdge]

theorem handleAzEl_bottom (e : ScreenEdges) (az el : Rat) :
    handleAzEl (some e) az el ⟨none, some "bottom"⟩ = (az, e.bottom) := by
  simp [handleAzEl, lockToScreenEdge]

/-- The lock only ever replaces the values; the optional `min` / `max` fields of the bounds are kept (so `lo` / `hi`
    change only where the field is absent). -/
theorem applySelPolar_bounds (G : LayoutGeom) (az el : Bound) (sel : ScreenEdgeLock) :
    (applySelPolar G az el sel).1.min = az.min ∧ (applySelPolar G az el sel).1.max = az.max ∧
    (applySelPolar G az el sel).2.min = el.min ∧ (applySelPolar G az el sel).2.max = el.max := by
  simp [applySelPolar]

end Earverif.DS
