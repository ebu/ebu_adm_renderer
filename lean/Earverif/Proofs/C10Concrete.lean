/- C10, concrete model (`Model/DirectSpeakersConcrete.lean`) over ℝ: rational gain vectors cast to ℝ; `scatterC` and
   `scaleC`; `closestIndexC` returns a candidate; the C05 panner walked over a well-formed table answers — whenever it
   answers, stereo wrapper of 0+2+0 included — with non-negative gains of Σ² ≤ 1 (`pspHandle_nonneg_le_one`), the
   allocentric panner on pairwise distinct positions with Σ² = 1 (`allo_fallback_contract`, from C01/C13); what
   `lateExitC` returns (`lateExitC_ok`); when `scatterC` and the panner exit succeed.
   Σx² has four spellings here: `DS.sumSq` (ℚ, the rational model), `GainCalc.sumSq` (ℝ, the working form),
   `PointSource.sumsq` (only where a C05 lemma is applied; `GainCalc.sumsq_eq_sumSq`), and `(l.map fun x => x * x).sum`, in
   which the statements about `handleC` in Props/C10.lean are written (`listSum_sq_scaleC` passes to it). -/
import Earverif.Model.DirectSpeakersConcrete
import Earverif.Proofs.C10
import Earverif.Proofs.C10Geom
import Earverif.Proofs.C01Psp
import Earverif.Proofs.C01Concrete
import Earverif.Proofs.C01Tables

namespace Earverif.DS
open Earverif.GainCalc (V3 k Nonneg)
open Earverif.PointSource (RawLayout RawRegion Region)

/-! ### rational vectors as reals -/

theorem castV_nonneg {v : List Rat} (h : ∀ x ∈ v, 0 ≤ x) : Nonneg (castV v : List ℝ) :=
  List.forall_mem_map.mpr fun q hq => Rat.cast_nonneg.mpr (h q hq)

theorem sumSq_castV : ∀ v : List Rat, GainCalc.sumSq (castV v : List ℝ) = ((sumSq v : Rat) : ℝ)
  | [] => by simp [castV, sumSq]
  | x :: xs => by
    have ih := sumSq_castV xs
    simp only [castV, List.map_cons, GainCalc.sumSq_cons, GainCalc.k_real, sumSq] at ih ⊢
    rw [ih]; push_cast; ring

/-! ### `scatterC`, `scaleC` over ℝ -/

theorem countFalse_eq_filter : ∀ m : List Bool, GainCalc.countFalse m = (m.filter (!·)).length
  | [] => rfl
  | true :: m => by simp [GainCalc.countFalse, countFalse_eq_filter m]
  | false :: m => by simp [GainCalc.countFalse, countFalse_eq_filter m]

/-- `scatterC` answers exactly when there is one gain per non-LFE slot, and then with what C01's `scatter` (which pads
    instead of failing) gives: the facts about `scatter` carry over. -/
theorem scatterC_eq_some_iff {α : Type} [GainCalc.Scalar α] : ∀ (m : List Bool) (ps pv : List α),
    scatterC m ps = some pv ↔ ps.length = GainCalc.countFalse m ∧ pv = GainCalc.scatter m ps
  | [], [], pv => by simp [scatterC, GainCalc.scatter, GainCalc.countFalse, eq_comm]
  | [], _ :: _, pv => by simp [scatterC, GainCalc.countFalse]
  | true :: m, ps, pv => by
    simp only [scatterC, Option.map_eq_some_iff, scatterC_eq_some_iff m ps, GainCalc.countFalse, GainCalc.scatter]
    exact ⟨fun ⟨q, ⟨h1, h2⟩, h3⟩ => ⟨h1, by rw [← h3, h2]⟩, fun ⟨h1, h2⟩ => ⟨_, ⟨h1, rfl⟩, h2.symm⟩⟩
  | false :: _, [], pv => by simp [scatterC, GainCalc.countFalse]
  | false :: m, p :: ps, pv => by
    simp only [scatterC, Option.map_eq_some_iff, scatterC_eq_some_iff m ps, GainCalc.countFalse, GainCalc.scatter,
      List.length_cons, Nat.add_right_cancel_iff]
    exact ⟨fun ⟨q, ⟨h1, h2⟩, h3⟩ => ⟨h1, by rw [← h3, h2]⟩, fun ⟨h1, h2⟩ => ⟨_, ⟨h1, rfl⟩, h2.symm⟩⟩

theorem scatterC_spec (m : List Bool) (ps pv : List ℝ) (h : scatterC m ps = some pv) :
    (Nonneg ps → Nonneg pv) ∧ GainCalc.sumSq pv = GainCalc.sumSq ps ∧ pv.length = m.length ∧ ZeroOff m false pv := by
  obtain ⟨hl, rfl⟩ := (scatterC_eq_some_iff m ps pv).mp h
  exact ⟨GainCalc.scatter_nonneg m, GainCalc.sumSq_scatter m ps hl, GainCalc.length_scatter m ps,
    fun i hi => (GainCalc.getElem?_scatter_of_true m ps i hi).trans (congrArg some GainCalc.zero_real)⟩

theorem scatterC_total (m : List Bool) (g : List ℝ) (h : g.length = (m.filter (!·)).length) :
    ∃ pv, scatterC m g = some pv :=
  ⟨_, (scatterC_eq_some_iff m g _).mpr ⟨h.trans (countFalse_eq_filter m).symm, rfl⟩⟩

noncomputable def gainR (b : Block) : ℝ := ((b.gain : Rat) : ℝ) * ((objectGainOf b : Rat) : ℝ)

theorem scaleC_nonneg {b : Block} {pv : List ℝ} (h : Nonneg pv) (hg : 0 ≤ b.gain) (hog : 0 ≤ b.objectGain) :
    Nonneg (scaleC b pv) :=
  List.forall_mem_map.mpr fun y hy =>
    mul_nonneg (mul_nonneg (h y hy) (Rat.cast_nonneg.mpr hg)) (Rat.cast_nonneg.mpr (objectGainOf_nonneg hog))

theorem sumSq_scaleC (b : Block) (pv : List ℝ) :
    GainCalc.sumSq (scaleC b pv) = GainCalc.sumSq pv * (gainR b * gainR b) := by
  rw [← GainCalc.sumSq_map_mul]
  simp only [scaleC, gainR, GainCalc.k_real, mul_assoc]

theorem listSum_sq_scaleC (b : Block) (pv : List ℝ) :
    ((scaleC b pv).map fun x => x * x).sum = GainCalc.sumSq pv * (gainR b * gainR b) := by
  rw [← sumSq_scaleC, GainCalc.sumSq, GainCalc.sum_eq_listSum]
  rfl

/-! ### `closestIndexC` -/

theorem closestIndexC_is_candidate {α : Type} [GainCalc.Scalar α] {positions : List (V3 α)} {cart : V3 α}
    {cands : List Bool} {tol : α} {i : Nat} (h : closestIndexC positions cart cands tol = some i) :
    cands[i]? = some true := by
  unfold closestIndexC at h
  simp only at h
  split at h
  · cases h
  · split at h
    · exact mem_flatnonzero.mp (List.mem_of_getElem? h)
    · cases h

/-! ### the C05 panner over its table: non-negative, Σ² ≤ 1, whenever it answers -/

theorem sumsq_of_all_zero : ∀ {v : List ℝ}, (∀ x ∈ v, x = 0) → PointSource.sumsq v = 0
  | [], _ => by simp [PointSource.sumsq]
  | x :: xs, h => by
    simp only [PointSource.sumsq]
    rw [h x (by simp), sumsq_of_all_zero (v := xs) (fun y hy => h y (by simp [hy]))]
    simp

/-- `normalise` of a non-negative vector: non-negative, Σ² ≤ 1 (1, or 0 for the zero vector, where ℝ has `x / 0 = 0`). -/
theorem normalise_nonneg_le_one {v : List ℝ} (hv : ∀ x ∈ v, 0 ≤ x) :
    (∀ x ∈ PointSource.normalise v, 0 ≤ x) ∧ PointSource.sumsq (PointSource.normalise v) ≤ 1 := by
  obtain ⟨h1, h2⟩ := PointSource.normalise_spec hv
  refine ⟨h1, ?_⟩
  rcases h2 with h | h
  · rw [h]
  · rw [sumsq_of_all_zero h]; norm_num

theorem map_mul_nonneg_le_one {v : List ℝ} {c : ℝ} (hv : ∀ x ∈ v, 0 ≤ x) (hs : PointSource.sumsq v ≤ 1)
    (hc0 : 0 ≤ c) (hc1 : c ≤ 1) :
    (∀ x ∈ v.map (· * c), 0 ≤ x) ∧ PointSource.sumsq (v.map (· * c)) ≤ 1 := by
  refine ⟨fun x hx => ?_, ?_⟩
  · obtain ⟨y, hy, rfl⟩ := List.mem_map.mp hx
    exact mul_nonneg (hv y hy) hc0
  · rw [PointSource.sumsq_map_mul]
    exact mul_le_one₀ hs (mul_self_nonneg c) (mul_le_one₀ hc1 hc0 hc1)

/-- `StereoPanDownmix.handle` on non-negative inner gains: two non-negative gains with Σ² ≤ 1 (the normalised downmix
    times the level `0.5 ** (0.5·back/(front+back))`, which is in (0, 1]). -/
theorem stereo_nonneg_le_one {inner : Option (List ℝ)} {out : List ℝ} (hin : ∀ w, inner = some w → ∀ x ∈ w, 0 ≤ x)
    (h : PointSource.StereoPanDownmix.handle inner = some out) :
    (∀ x ∈ out, 0 ≤ x) ∧ PointSource.sumsq out ≤ 1 ∧ out.length = 2 := by
  unfold PointSource.StereoPanDownmix.handle at h
  split at h
  · rename_i g0 g1 g2 g3 g4
    have hw := hin _ rfl
    cases h
    have h2 : 0 ≤ g2 := hw g2 (by simp)
    have h3 : 0 ≤ g3 := hw g3 (by simp)
    have h4 : 0 ≤ g4 := hw g4 (by simp)
    have hc : (0 : ℝ) ≤ Real.sqrt 3 / 3 := div_nonneg (Real.sqrt_nonneg _) (by norm_num)
    have hmv : ∀ x ∈ PointSource.matVec PointSource.stereoDownmix [g0, g1, g2, g3, g4], 0 ≤ x := by
      rw [PointSource.stereo_matVec]
      intro x hx
      simp only [List.mem_cons, List.mem_nil_iff, or_false] at hx
      rcases hx with rfl | rfl
      · exact add_nonneg (add_nonneg (hw g0 (by simp)) (mul_nonneg hc h2)) (mul_nonneg (Real.sqrt_nonneg _) h3)
      · exact add_nonneg (add_nonneg (hw g1 (by simp)) (mul_nonneg hc h2)) (mul_nonneg (Real.sqrt_nonneg _) h4)
    obtain ⟨hn1, hn2⟩ := normalise_nonneg_le_one hmv
    have hback : 0 ≤ Max.max g3 g4 := le_trans h4 (le_max_right _ _)
    have he : (0 : ℝ) ≤ ((1 / 2 : Rat) : ℝ) * Max.max g3 g4 / (Max.max (Max.max g0 g1) g2 + Max.max g3 g4) :=
      div_nonneg (mul_nonneg (by norm_num) hback) (add_nonneg (le_trans h2 (le_max_right _ _)) hback)
    obtain ⟨ho1, ho2⟩ := map_mul_nonneg_le_one hn1 hn2 (Real.rpow_nonneg (by norm_num : (0 : ℝ) ≤ 1 / 2) _)
      (Real.rpow_le_one (by norm_num) (by norm_num) he)
    exact ⟨ho1, ho2, rfl⟩
  · cases h

theorem rawHandle_nonneg_le_one (L : RawLayout) (hwf : L.wellFormed = true) (roots : Nat → Option ℝ × Option ℝ)
    (hr1 : ∀ k x, (roots k).1 = some x → 0 ≤ x ∧ x ≤ 1) (hr2 : ∀ k y, (roots k).2 = some y → 0 ≤ y ∧ y ≤ 1)
    (pos : V3 ℝ) (p : List ℝ) (h : L.handle roots pos = some p) :
    (∀ x ∈ p, 0 ≤ x) ∧ PointSource.sumsq p ≤ 1 := by
  obtain ⟨regions, v, hmap, hv, hp⟩ := GainCalc.rawHandle_eq_some_iff.mp h
  -- the downmixed inner answer
  have hw := normalise_nonneg_le_one (PointSource.matVec_nonneg
    (GainCalc.downmixRows_nonneg L (GainCalc.wellFormed_downmixOk hwf)) (GainCalc.panner_nonneg L hwf hmap hr1 hr2 hv))
  cases hs : L.stereo with
  | none =>
    rw [hs] at hp
    exact Option.some.inj hp ▸ hw
  | some lr =>
    obtain ⟨a, b⟩ := lr
    rw [hs] at hp
    obtain ⟨out, hso, rfl⟩ := Option.map_eq_some_iff.mp hp
    simp only [RawLayout.wellFormed, hs, Bool.and_eq_true, decide_eq_true_eq, bne_iff_ne, ne_eq, beq_iff_eq] at hwf
    obtain ⟨ho1, ho2, ho3⟩ := stereo_nonneg_le_one (fun w hw' => by cases hw'; exact hw.1) hso
    obtain ⟨e1, e2, _⟩ := GainCalc.scatter_two_spec hwf.2.1.1.1 hwf.2.1.1.2 hwf.2.1.2 ho3
    exact ⟨e2 ho1, e1 ▸ ho2⟩

theorem pspHandle_nonneg_le_one (L : RawLayout) (hwf : L.wellFormed = true) (pos : V3 ℝ) (p : List ℝ)
    (h : GainCalc.pspHandle L pos = some p) : Nonneg p ∧ GainCalc.sumSq p ≤ 1 := by
  rw [← GainCalc.sumsq_eq_sumSq]
  obtain ⟨roots, hr1, hr2, he⟩ := GainCalc.pspHandle_eq_handle L pos
  exact rawHandle_nonneg_le_one L hwf roots hr1 hr2 pos p (he ▸ h)

/-! ### the allocentric fallback -/

/-- a rational table position as a `Zone.P3` -/
def ratP3 (p : Vec3) : Zone.P3 Rat := ⟨p.1, p.2.1, p.2.2⟩

theorem map_toP3_cast3 (ps : List Vec3) :
    (ps.map fun p => (GainCalc.toP3 (cast3 p) : Zone.P3 ℝ)) = (ps.map ratP3).map C13.castP3 := by
  rw [List.map_map]
  exact List.map_congr_left fun p _ => by simp [GainCalc.toP3, cast3, C13.castP3, ratP3]

theorem allo_fallback_contract (ps : List Vec3) (hd : C13.distinctB (ps.map ratP3) = true) (st : GainCalc.Tree ℝ)
    (hst : CartLock.speakerTree (ps.map fun p => (GainCalc.toP3 (cast3 p) : Zone.P3 ℝ)) = some st)
    (x y z : ℝ) (g : List ℝ)
    (h : GainCalc.alloHandle (ps.map fun p => (GainCalc.toP3 (cast3 p) : Zone.P3 ℝ)).length st x y z = some g) :
    Nonneg g ∧ GainCalc.sumSq g = 1 := by
  rw [map_toP3_cast3] at hst h
  obtain ⟨h1, h2, _⟩ := GainCalc.allo_unit_power_distinct _ (C13.distinct_cast _ hd) st hst x y z g h
  exact ⟨h1, h2⟩

/-! ### the exits after the label match -/

/-- What `lateExitC` returns: one of the exits that do not consult the panner, with the rational vector of the
    rational decision structure, or the panner exit: a non-LFE block, the fallback answered `g` and `g` went to the
    non-LFE slots. -/
theorem lateExitC_ok {L : Layout} {lfe : Bool} {wb : List Bool} {cl : Option Nat}
    {fb : Unit → Except CError (List ℝ)} {e : Exit} {pv : List ℝ} (h : lateExitC L lfe wb cl fb = .ok (e, pv)) :
    (∃ pvQ, FixedExit L lfe (if (candidates L lfe wb).any id then cl else none) e pvQ ∧ pv = castV pvQ) ∨
    (e = .pointSource ∧ lfe = false ∧ ∃ g, fb () = .ok g ∧ scatterC L.isLfe g = some pv) := by
  unfold lateExitC at h
  simp only at h
  split at h
  · rename_i c hc
    cases h
    exact Or.inl ⟨_, Or.inl ⟨rfl, c, hc, rfl⟩, rfl⟩
  · split at h
    · rename_i hlfe
      split at h
      · rename_i h1
        cases h
        exact Or.inl ⟨_, Or.inr (Or.inl ⟨rfl, hlfe, List.contains_iff_mem.mp h1, rfl⟩), rfl⟩
      · cases h
        exact Or.inl ⟨_, Or.inr (Or.inr ⟨rfl, hlfe, rfl⟩), rfl⟩
    · rename_i hlfe
      split at h
      · cases h
      · rename_i g hg
        split at h
        · rename_i q hq
          cases h
          exact Or.inr ⟨rfl, by simpa using hlfe, g, hg, hq⟩
        · cases h

/-! ### totality pieces -/

theorem lateExitC_point_source {L : Layout} {wb : List Bool} {cl : Option Nat} {fb : Unit → Except CError (List ℝ)}
    (hc : (candidates L false wb).any id = false)
    (hfb : ∃ g, fb () = .ok g ∧ g.length = (L.isLfe.filter (!·)).length) :
    ∃ pv, lateExitC L false wb cl fb = .ok (.pointSource, pv) := by
  obtain ⟨g, hg, hlen⟩ := hfb
  obtain ⟨pv, hpv⟩ := scatterC_total L.isLfe g hlen
  exact ⟨pv, by simp only [lateExitC, hc, hg, hpv, Bool.false_eq_true, if_false]⟩

theorem handleVectorCart_no_lock (E : CEnv) (P : Conv.Params ℝ) (p : GainCalc.V3 ℝ) :
    handleVectorCart E P p ⟨none, none⟩ = some p := by
  unfold handleVectorCart
  split <;> simp

end Earverif.DS
