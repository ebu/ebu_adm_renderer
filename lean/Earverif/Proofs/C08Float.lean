/-
C08 float leaf: `"{:.5f}".format` / `float()` (`FloatType`) and `"{:07.5f}".format(float(t))` / `Fraction()`
(`SecondsType`) of `ear/fileio/adm/xml.py`, modelled in `Model/FloatText.lean` over exact rationals.

Rounding first, with no enumeration and no bound on the magnitude: `rn53` returns a nearest 53-bit value
(`Ieee.rn53_nearest`; what is used of `rn53` is the theory of `Proofs/C16Ieee.lean`), and half-even printing does not
change when a value is replaced by one at least as close to the printed decimal (`rhe_stable`); together they give
`core` and `reread`, the print / read / print fixed point on the level of numbers.  Then the text: what `float()` and
`Fraction()` make of the characters printed for a count of 1e-5 units (`parseFloat_text`,
`parseFraction_numText`).  `roundtrip_master` puts the two together for every finite double (`fmt5_parse_fmt5`,
`parse_fmt5_idempotent`, `parse_fmt5_close`); the exact statements on the five-decimal grid below `2^36` come from
`grid_core`, `SecondsType` from `reread` and `grid_core`.  The last part ties the integer grid codec `dumpsNum` /
`loadsNum` of `Model/XmlLeaf.lean` to this leaf, which is why `Proofs/C08Leaf.lean` is imported.
-/
import Earverif.Model.FloatText
import Earverif.Proofs.C16Ieee
import Earverif.Proofs.C08Leaf

namespace Earverif.FloatText
open Earverif.Ieee Earverif.Digits

theorem rhe_half (f : ℤ) : roundHalfEven ((f : ℚ) + 1 / 2) = if f % 2 = 0 then f else f + 1 := by
  have hf : ((f : ℚ) + 1 / 2).floor = f := by
    rw [floor_eq, Int.floor_eq_iff]; constructor <;> linarith
  simp only [roundHalfEven, hf, add_sub_cancel_left, lt_irrefl, ↓reduceIte]

theorem rhe_tie_even (m : ℚ) (h : |(roundHalfEven m : ℚ) - m| = 1 / 2) : roundHalfEven m % 2 = 0 := by
  generalize hr : roundHalfEven m = r at *
  rcases (abs_eq (by norm_num)).mp h with h | h
  · have := rhe_half (r - 1)
    rw [show ((r - 1 : ℤ) : ℚ) + 1 / 2 = m by push_cast; rw [sub_eq_iff_eq_add.mp h]; ring, hr] at this
    split_ifs at this <;> omega
  · have := rhe_half r
    rw [show (r : ℚ) + 1 / 2 = m by rw [sub_eq_iff_eq_add.mp h]; ring, hr] at this
    split_ifs at this <;> omega

theorem rhe_of_le_half (m : ℚ) (n : ℤ) (h : |m - n| ≤ 1 / 2) (he : |m - n| = 1 / 2 → n % 2 = 0) :
    roundHalfEven m = n := by
  rcases lt_or_eq_of_le h with h | h
  · exact rhe_snap m n h
  · have hev := he h
    rcases (abs_eq (by norm_num)).mp h with h | h
    · rw [sub_eq_iff_eq_add'.mp h, rhe_half, if_pos hev]
    · rw [show m = ((n - 1 : ℤ) : ℚ) + 1 / 2 by rw [sub_eq_iff_eq_add'.mp h]; push_cast; ring, rhe_half,
        if_neg (by omega)]
      omega

/-- Printing with `N` units per 1 and ties to even is stable under moving towards the printed value: if `n` is the
count printed for `x` then whatever is at least as close to `n / N` as `x` is prints as `n` too.  (It is within half a
unit; if it is exactly half a unit away then so was `x`, hence `n` is even and the tie goes to `n` again.) -/
theorem rhe_stable {N : ℚ} (hN : 0 < N) (x y : ℚ)
    (h : |y - (roundHalfEven (x * N) : ℚ) / N| ≤ |x - (roundHalfEven (x * N) : ℚ) / N|) :
    roundHalfEven (y * N) = roundHalfEven (x * N) := by
  have hx := rhe_err (x * N)
  rw [abs_sub_comm, abs_mul_sub hN] at hx
  have hy := mul_le_mul_of_nonneg_right h hN.le
  apply rhe_of_le_half
  · rw [abs_mul_sub hN]; exact hy.trans hx
  · intro htie
    rw [abs_mul_sub hN] at htie
    apply rhe_tie_even
    rw [abs_sub_comm, abs_mul_sub hN]
    exact le_antisymm hx (htie ▸ hy)

/-- `x` has at most 53 significant bits (it is its own binary64 rounding, exponent range aside).  These are the
representable numbers of `Proofs/C16Ieee.lean`, whose lemmas take the bare equation `rn53 z = z`; `hF : F53 x` is passed
to them as it stands. -/
def F53 (x : ℚ) : Prop := rn53 x = x

-- Three names the harness lists: `Ieee.rhe_nearest` itself, and two with a sign hypothesis that `Ieee.rn53_nearest` /
-- `Ieee.rn53_idem` do not need.  Inside this namespace a bare `rn53_nearest` is THIS one: write `Ieee.rn53_nearest` for
-- the general fact (as `core` does).
theorem rhe_nearest (m : ℚ) (k : ℤ) : |(roundHalfEven m : ℚ) - m| ≤ |(k : ℚ) - m| := Ieee.rhe_nearest m k

set_option linter.unusedVariables false in
theorem rn53_nearest (d z : ℚ) (hd : 0 < d) (hz : F53 z) : |rn53 d - d| ≤ |z - d| := Ieee.rn53_nearest d z hz

set_option linter.unusedVariables false in
theorem rn53_idem_pos (c : ℚ) (hc : 0 < c) : F53 (rn53 c) := rn53_idem c

theorem F53_lt_pow (x : ℚ) (j : ℤ) (hx : 0 ≤ x) (hF : F53 x) (hlt : x < (2 : ℚ) ^ j) :
    x ≤ (2 : ℚ) ^ j - (2 : ℚ) ^ (j - 53) := by
  rcases hx.eq_or_lt with rfl | hx
  · exact sub_nonneg.mpr (two_zpow_le.mpr (by omega))
  obtain ⟨s1, s2⟩ := ilog2_spec x hx
  obtain ⟨k, hk⟩ := fix_grid x hx hF
  generalize ilog2 x = e at *
  have hej : e < j := two_zpow_lt.mp (s1.trans_lt hlt)
  rcases eq_or_lt_of_le (show e ≤ j - 1 by omega) with rfl | he
  · -- top binade: `x = k·2^(j-53)` with `k < 2^53`
    rw [show j - 1 - 52 = j - 53 by ring] at hk
    have hj : ((2 ^ 53 : ℤ) : ℚ) * (2 : ℚ) ^ (j - 53) = (2 : ℚ) ^ j := two_pow_mul_zpow 53 (by omega)
    have hP := two_zpow_pos (j - 53)
    have hk53 : k < 2 ^ 53 := (mul_two_zpow_lt 53 (by omega)).mp (hk ▸ hlt)
    have hk' : (k : ℚ) + 1 ≤ ((2 ^ 53 : ℤ) : ℚ) := by exact_mod_cast Int.add_one_le_iff.mpr hk53
    rw [hk, ← hj, le_sub_iff_add_le, ← add_one_mul]
    exact mul_le_mul_of_nonneg_right hk' hP.le
  · -- a lower binade: `x < 2^(j-1)`, half of `2^j`
    have hsplit : (2 : ℚ) ^ j = 2 * (2 : ℚ) ^ (j - 1) := by
      rw [← two_pow_mul_zpow 1 (show j - 1 + (1 : ℕ) = j by omega)]; norm_num
    calc x ≤ (2 : ℚ) ^ (j - 1) := s2.le.trans (two_zpow_le.mpr (by omega))
      _ = (2 : ℚ) ^ j - (2 : ℚ) ^ (j - 1) := by rw [hsplit]; ring
      _ ≤ (2 : ℚ) ^ j - (2 : ℚ) ^ (j - 53) := sub_le_sub_left (two_zpow_le.mpr (by omega)) _

theorem rn53_rel_err (d : ℚ) (hd : 0 ≤ d) : |rn53 d - d| ≤ d / 2 ^ 53 := by
  have := rn53_rel_abs d
  rwa [abs_of_nonneg hd, zpow_neg, ← div_eq_mul_inv] at this

theorem tiny_lt : (2 : ℚ) ^ (-1022 : ℤ) < 1 / 1000000 :=
  calc (2 : ℚ) ^ (-1022 : ℤ) ≤ (2 : ℚ) ^ (-20 : ℤ) := two_zpow_le.mpr (by norm_num)
    _ < 1 / 1000000 := by norm_num

theorem rhe_zero : roundHalfEven 0 = 0 := rhe_snap 0 0 (by norm_num)

theorem rn64_zero : rn64 0 = some 0 := by
  simp only [rn64, if_pos (two_zpow_pos _), zero_div, rhe_zero, Int.cast_zero, zero_mul]

theorem rn64_normal (d : ℚ) (h1 : (2 : ℚ) ^ (-1022 : ℤ) ≤ d) (h2 : rn53 d < (2 : ℚ) ^ (1024 : ℤ)) :
    rn64 d = some (rn53 d) := by
  simp only [rn64, if_neg (not_lt.mpr h1), if_pos h2]

/-- a binary64 magnitude: non-negative and its own correctly rounded value (subnormals and range included) -/
def IsDouble (m : ℚ) : Prop := 0 ≤ m ∧ rn64 m = some m

theorem isDouble_zero : IsDouble 0 := ⟨le_rfl, rn64_zero⟩

/-- the result of `float(Fraction)` for `0 ≤ t`: either everything up to `2^-1022`, or a 53-bit value in range -/
theorem rn64_cases (t x : ℚ) (ht : 0 ≤ t) (hx : rn64 t = some x) :
    0 ≤ x ∧ ((t < (2 : ℚ) ^ (-1022 : ℤ) ∧ x ≤ (2 : ℚ) ^ (-1022 : ℤ)) ∨
      ((2 : ℚ) ^ (-1022 : ℤ) ≤ t ∧ x = rn53 t ∧ F53 x ∧ x < (2 : ℚ) ^ (1024 : ℤ))) := by
  simp only [rn64] at hx
  split_ifs at hx with hs hy <;> obtain rfl := Option.some.inj hx
  · -- a multiple `N·2^-1074` with `0 ≤ N ≤ 2^52`
    have hP := two_zpow_pos (-1074 : ℤ)
    have hsplit : ((2 ^ 52 : ℤ) : ℚ) * (2 : ℚ) ^ (-1074 : ℤ) = (2 : ℚ) ^ (-1022 : ℤ) := two_pow_mul_zpow 52 (by norm_num)
    have h1 : (0 : ℤ) ≤ roundHalfEven (t / (2 : ℚ) ^ (-1074 : ℤ)) :=
      rhe_ge _ 0 (by rw [Int.cast_zero]; exact div_nonneg ht hP.le)
    have h2 : roundHalfEven (t / (2 : ℚ) ^ (-1074 : ℤ)) ≤ 2 ^ 52 :=
      rhe_le _ _ (by rw [div_le_iff₀ hP, hsplit]; exact hs.le)
    refine ⟨mul_nonneg (by exact_mod_cast h1) hP.le, Or.inl ⟨hs, ?_⟩⟩
    rw [← hsplit]
    exact mul_le_mul_of_nonneg_right (by exact_mod_cast h2) hP.le
  · have hge := not_lt.mp hs
    exact ⟨(two_zpow_pos _).le.trans (rn53_ge_of_ge (rn53_two_zpow _) hge),
      Or.inr ⟨hge, rfl, rn53_idem t, hy⟩⟩

theorem IsDouble.cases {m : ℚ} (h : IsDouble m) :
    m ≤ (2 : ℚ) ^ (-1022 : ℤ) ∨ (F53 m ∧ m < (2 : ℚ) ^ (1024 : ℤ)) := by
  obtain ⟨_, ⟨_, h⟩ | ⟨_, _, hF, hlt⟩⟩ := rn64_cases m m h.1 h.2
  · exact Or.inl h
  · exact Or.inr ⟨hF, hlt⟩

theorem rn64_some_lt (d y : ℚ) (h : rn64 d = some y) : d < (2 : ℚ) ^ (1024 : ℤ) := by
  simp only [rn64] at h
  split_ifs at h with hs hy
  · exact hs.trans (two_zpow_lt.mpr (by norm_num))
  · exact lt_of_not_ge fun hge => absurd (rn53_ge_of_ge (rn53_two_zpow _) hge) (not_le.mpr hy)

theorem rn64_eq_rn53 (d : ℚ) (hd : d = 0 ∨ (2 : ℚ) ^ (-1022 : ℤ) ≤ d) (hlt : rn53 d < (2 : ℚ) ^ (1024 : ℤ)) :
    rn64 d = some (rn53 d) ∧ IsDouble (rn53 d) := by
  rcases hd with rfl | hd
  · rw [rn53_zero]; exact ⟨rn64_zero, isDouble_zero⟩
  · have hy1 := rn53_ge_of_ge (rn53_two_zpow _) hd
    have hyF := rn53_idem d
    refine ⟨rn64_normal d hd hlt, (two_zpow_pos _).le.trans hy1, ?_⟩
    have := rn64_normal _ hy1 (by rw [hyF]; exact hlt)
    rwa [hyF] at this

theorem small_rounds_to_zero (x : ℚ) (h0 : 0 ≤ x) (h : x ≤ (2 : ℚ) ^ (-1022 : ℤ)) :
    roundHalfEven (x * 100000) = 0 := by
  apply rhe_snap
  rw [Int.cast_zero, sub_zero, abs_of_nonneg (by positivity)]
  calc x * 100000 ≤ 1 / 1000000 * 100000 := mul_le_mul_of_nonneg_right (h.trans tiny_lt.le) (by norm_num)
    _ < 1 / 2 := by norm_num

theorem units_spec (x : ℚ) (h0 : 0 ≤ x) :
    0 ≤ roundHalfEven (x * 100000) ∧ |x - (roundHalfEven (x * 100000) : ℚ) / 100000| ≤ 1 / 200000 := by
  refine ⟨rhe_ge _ 0 (by rw [Int.cast_zero]; positivity), ?_⟩
  have := rhe_err (x * 100000)
  rw [abs_sub_comm, abs_mul_sub (by norm_num)] at this
  linarith

theorem units_zero_or_normal (n : ℤ) (hn : 0 ≤ n) :
    (n : ℚ) / 100000 = 0 ∨ (2 : ℚ) ^ (-1022 : ℤ) ≤ (n : ℚ) / 100000 := by
  rcases hn.eq_or_lt with rfl | hn
  · left; norm_num
  · right
    have : (1 : ℚ) ≤ n := by exact_mod_cast hn
    exact (tiny_lt.le.trans (by norm_num)).trans (div_le_div_of_nonneg_right this (by norm_num))

/-- The heart of the fixed-point property.  `x ≥ 0` a 53-bit value, `n` = its five-decimal rounding (as an integer
count of 1e-5), `d = n / 10^5` the decimal that is printed, `rn53 d` what is read back.  Then reading back and
printing again gives `n` again — for EVERY magnitude: `rn53 d` is at least as close to `d` as `x` is
(`rn53_nearest`), and that is all that printing looks at (`rhe_stable`). -/
theorem core (x : ℚ) (h0 : 0 ≤ x) (hF : F53 x) :
    roundHalfEven (rn53 ((roundHalfEven (x * 100000) : ℚ) / 100000) * 100000) = roundHalfEven (x * 100000) ∧
    |rn53 ((roundHalfEven (x * 100000) : ℚ) / 100000) - (roundHalfEven (x * 100000) : ℚ) / 100000| ≤
      |x - (roundHalfEven (x * 100000) : ℚ) / 100000| ∧
    |x - (roundHalfEven (x * 100000) : ℚ) / 100000| ≤ 1 / 200000 ∧
    0 ≤ roundHalfEven (x * 100000) := by
  obtain ⟨hn0, hxd⟩ := units_spec x h0
  have hnear := Ieee.rn53_nearest ((roundHalfEven (x * 100000) : ℚ) / 100000) x hF
  exact ⟨rhe_stable (by norm_num) x _ hnear, hnear, hxd, hn0⟩

/-- what is read back from the five decimals printed for a 53-bit value below `2^1024` stays below `2^1024`: such a
value is at least `2^971` below (`F53_lt_pow`), and reading back moves by less than a unit of 1e-5 -/
theorem rn53_units_lt (x : ℚ) (h0 : 0 ≤ x) (hF : F53 x) (hlt : x < (2 : ℚ) ^ (1024 : ℤ)) :
    rn53 ((roundHalfEven (x * 100000) : ℚ) / 100000) < (2 : ℚ) ^ (1024 : ℤ) := by
  obtain ⟨_, hnear, hxd, _⟩ := core x h0 hF
  have hmax := F53_lt_pow x 1024 h0 hF hlt
  have hbig : (1 : ℚ) ≤ (2 : ℚ) ^ ((1024 : ℤ) - 53) := by
    rw [← zpow_zero (2 : ℚ)]; exact two_zpow_le.mpr (by norm_num)
  linarith [(abs_le.mp (hnear.trans hxd)).2, (abs_le.mp hxd).1]

theorem core_range (x : ℚ) (h0 : 0 ≤ x) (hF : F53 x) (hlt : x < (2 : ℚ) ^ (1024 : ℤ)) :
    rn64 ((roundHalfEven (x * 100000) : ℚ) / 100000) = some (rn53 ((roundHalfEven (x * 100000) : ℚ) / 100000)) :=
  (rn64_eq_rn53 _ (units_zero_or_normal _ (units_spec x h0).1) (rn53_units_lt x h0 hF hlt)).1

/-- One print and read of a binary64 magnitude `x` (zero, subnormal or a 53-bit value below `2^1024`), on the level
of numbers: what is read back from the printed decimal is a binary64 magnitude `y` that prints the same.  Everything up
to `2^-1022` prints as zero; above, this is `core`. -/
theorem reread (x : ℚ) (h0 : 0 ≤ x) (hx : x ≤ (2 : ℚ) ^ (-1022 : ℤ) ∨ (F53 x ∧ x < (2 : ℚ) ^ (1024 : ℤ))) :
    ∃ y, rn64 ((roundHalfEven (x * 100000) : ℚ) / 100000) = some y ∧ IsDouble y ∧
      roundHalfEven (y * 100000) = roundHalfEven (x * 100000) ∧
      |y - (roundHalfEven (x * 100000) : ℚ) / 100000| ≤ |x - (roundHalfEven (x * 100000) : ℚ) / 100000| ∧
      |y - (roundHalfEven (x * 100000) : ℚ) / 100000| ≤ (roundHalfEven (x * 100000) : ℚ) / 100000 / 2 ^ 53 := by
  rcases hx with hs | ⟨hF, hlt⟩
  · rw [small_rounds_to_zero x h0 hs]
    exact ⟨0, by simpa using rn64_zero, isDouble_zero, by rw [zero_mul, rhe_zero], by simp, by simp⟩
  · obtain ⟨hfix, hnear, _, hn0⟩ := core x h0 hF
    obtain ⟨h64, hdbl⟩ := rn64_eq_rn53 _ (units_zero_or_normal _ hn0) (rn53_units_lt x h0 hF hlt)
    exact ⟨_, h64, hdbl, hfix, hnear, rn53_rel_err _ (div_nonneg (by exact_mod_cast hn0) (by norm_num))⟩

/-- the text printed for the count `n` of 1e-5 units (`body5` and `XmlLeaf`'s `dumpsNum` spell the same expression) -/
def numText (n : ℕ) : List Char := decStr (n / 100000) ++ '.' :: decPad 5 (n % 100000)

theorem body5_eq (m : ℚ) : body5 m = numText (roundHalfEven (m * 100000)).toNat := rfl

theorem fmt5_fin (neg : Bool) (m : ℚ) :
    fmt5 (.fin neg m) = if neg then '-' :: numText (roundHalfEven (m * 100000)).toNat
      else numText (roundHalfEven (m * 100000)).toNat := rfl

theorem isDec_props (c : Char) (h : isDec c = true) :
    isSpace c = false ∧ isReSpace c = false ∧ c ≠ '_' ∧ c ≠ '-' ∧ c ≠ '+' ∧ lower c = c ∧ c ≠ 'i' ∧ c ≠ 'n' := by
  simp only [isDec, Bool.or_eq_true, beq_iff_eq, or_assoc] at h
  rcases h with h | h | h | h | h | h | h | h | h | h <;> subst h <;> decide

theorem numText_head (n : ℕ) : ∃ c cs, numText n = c :: cs ∧ isDec c = true := by
  unfold numText
  cases h : decStr (n / 100000) with
  | nil => exact absurd h (decStr_ne_nil _)
  | cons c cs => exact ⟨c, _, rfl, decStr_all_dec (n / 100000) c (by rw [h]; simp)⟩

theorem frac_length (r : ℕ) : (decPad 5 (r % 100000)).length = 5 :=
  decPad_length 5 _ (by omega) (by omega)

theorem numText_span (n : ℕ) :
    (numText n).takeWhile isDec = decStr (n / 100000) ∧
    (numText n).dropWhile isDec = '.' :: decPad 5 (n % 100000) :=
  takeWhile_isDec _ _ (decStr_all_dec _) (Or.inr ⟨'.', _, rfl, by decide⟩)

theorem frac_span (r : ℕ) :
    (decPad 5 r).takeWhile isDec = decPad 5 r ∧ (decPad 5 r).dropWhile isDec = [] := by
  have := takeWhile_isDec (decPad 5 r) [] (decPad_all_dec 5 r) (Or.inl rfl)
  rwa [List.append_nil] at this

theorem strip_eq (s : List Char) (h : ∀ c ∈ s, isSpace c = false) : strip s = s := by
  unfold strip
  rw [dropWhile_none s h, dropWhile_none s.reverse (fun c hc => h c (List.mem_reverse.mp hc)), List.reverse_reverse]

theorem deUnderscore_eq (prev : Option Char) (s : List Char) (hp : prev ≠ some '_') (h : ∀ c ∈ s, c ≠ '_') :
    deUnderscore prev s = some s := by
  induction s generalizing prev with
  | nil =>
    have : (prev == some '_') = false := by simpa using hp
    simp [deUnderscore, this]
  | cons c r ih =>
    have hc : (c == '_') = false := by simpa using h c (by simp)
    have hpb : (prev == some '_') = false := by simpa using hp
    have := ih (some c) (by simpa using h c (by simp)) (fun d hd => h d (by simp [hd]))
    simp [deUnderscore, hc, hpb, this]

theorem signed_clean (neg : Bool) (n : ℕ) :
    ∀ c ∈ (if neg then '-' :: numText n else numText n), isSpace c = false ∧ c ≠ '_' := by
  have hd : ∀ c, isDec c = true → isSpace c = false ∧ c ≠ '_' := fun c h =>
    ⟨(isDec_props c h).1, (isDec_props c h).2.2.1⟩
  have hb : ∀ c ∈ numText n, isSpace c = false ∧ c ≠ '_' := by
    intro c hc
    unfold numText at hc
    rw [List.mem_append, List.mem_cons] at hc
    rcases hc with hc | rfl | hc
    · exact hd c (decStr_all_dec _ c hc)
    · exact ⟨by decide, by decide⟩
    · exact hd c (decPad_all_dec 5 _ c hc)
  cases neg
  · exact hb
  · intro c hc
    rcases List.mem_cons.mp hc with rfl | h
    · exact ⟨by decide, by decide⟩
    · exact hb c h

theorem takeSign_text (neg : Bool) (n : ℕ) :
    takeSign (if neg then '-' :: numText n else numText n) = (neg, numText n) := by
  cases neg
  · obtain ⟨c, cs, hcs, hc⟩ := numText_head n
    obtain ⟨-, -, -, hminus, hplus, -⟩ := isDec_props c hc
    simp only [Bool.false_eq_true, if_false, hcs]
    unfold takeSign
    split
    · rename_i r heq; injection heq with h1 _; exact absurd h1 hminus
    · rename_i r heq; injection heq with h1 _; exact absurd h1 hplus
    · rfl
  · rfl

theorem parseDecimal_numText (n : ℕ) :
    parseDecimal (numText n) = some (decStr (n / 100000), decPad 5 (n % 100000), 0) := by
  have hne : (decStr (n / 100000)).isEmpty = false := by simpa using decStr_ne_nil (n / 100000)
  simp only [parseDecimal, (numText_span n).1, (numText_span n).2, (frac_span _).1, (frac_span _).2, hne,
    Bool.false_and, parseExp, Option.map_some]
  rfl

theorem decNat_numText (n : ℕ) : decNat (decStr (n / 100000) ++ decPad 5 (n % 100000)) = n := by
  rw [decNat_append, decNat_decStr, decNat_decPad, frac_length]
  have := Nat.div_add_mod n 100000
  omega

theorem decimalValue_numText (n : ℕ) :
    decimalValue (decStr (n / 100000)) (decPad 5 (n % 100000)) 0 = (n : ℚ) / 100000 := by
  unfold decimalValue
  rw [decNat_numText, frac_length]
  norm_num
  ring

/-- the value of the printed text: what `float()` makes of the digits.  `10 ^ 314`: at most 309 integer digits, the
digit count beyond which `roundDecimal` answers `inf` without rounding, and the five decimals -/
theorem roundDecimal_numText (neg : Bool) (n : ℕ) (y : ℚ) (hn : n < 10 ^ 314)
    (hy : rn64 ((n : ℚ) / 100000) = some y) :
    roundDecimal neg (decStr (n / 100000)) (decPad 5 (n % 100000)) 0 = .fin neg y := by
  have hlen5 := frac_length n
  unfold roundDecimal
  simp only []
  split_ifs with h1 h2 h3
  · have hz : n = 0 := by
      have := decNat_zero_of_dropWhile _ (List.isEmpty_iff.mp h1)
      rwa [decNat_numText] at this
    subst hz
    rw [Nat.cast_zero, zero_div, rn64_zero] at hy
    rw [Option.some.inj hy]
  · exfalso
    have hq : n / 100000 < 10 ^ 309 := by
      rw [show (10 : ℕ) ^ 314 = 10 ^ 309 * 100000 by rw [show (100000 : ℕ) = 10 ^ 5 by norm_num, ← pow_add]] at hn
      exact Nat.div_lt_of_lt_mul (by rwa [Nat.mul_comm])
    -- for a variable width, so that the two power instances on `ℕ` are identified without evaluating `10 ^ 309`
    have hl := (fun w hw (h : n / 100000 < 10 ^ w) => decStr_length_le w _ hw (by simpa using h)) 309 (by norm_num) hq
    have hd := ((decStr (n / 100000) ++ decPad 5 (n % 100000)).dropWhile_sublist (· == '0')).length_le
    rw [List.length_append, hlen5] at hd
    rw [hlen5] at h2
    omega
  · exfalso
    rw [hlen5] at h3
    omega
  · rw [decimalValue_numText, hy]

theorem special_names (c : Char) (cs : List Char) (hc : isDec c = true) :
    ¬ ((c :: cs).map lower = ['i', 'n', 'f'] ∨ (c :: cs).map lower = ['i', 'n', 'f', 'i', 'n', 'i', 't', 'y']) ∧
    ¬ ((c :: cs).map lower = ['n', 'a', 'n']) := by
  obtain ⟨-, -, -, -, -, hlow, hi, hn⟩ := isDec_props c hc
  simp only [List.map_cons, hlow, List.cons.injEq, hi, hn, false_and,
    or_self, not_false_eq_true, and_self]

theorem parseFloat_text (neg : Bool) (n : ℕ) (y : ℚ) (hn : n < 10 ^ 314)
    (hy : rn64 ((n : ℚ) / 100000) = some y) :
    parseFloat (if neg then '-' :: numText n else numText n) = some (.fin neg y) := by
  have hcl := signed_clean neg n
  unfold parseFloat
  rw [strip_eq _ (fun c hc => (hcl c hc).1), deUnderscore_eq none _ (by simp) (fun c hc => (hcl c hc).2)]
  simp only [takeSign_text]
  obtain ⟨c, cs, hcs, hc⟩ := numText_head n
  have hnm := special_names c cs hc
  rw [← hcs] at hnm
  rw [if_neg hnm.1, if_neg hnm.2, parseDecimal_numText]
  simp only [Option.map_some, roundDecimal_numText neg n y hn hy]

/-- `parseFloat_text` without its bound on the digits, which is implied: only values below `2^1024` are rounded to a
finite number -/
theorem parseFloat_text_of_rn64 (neg : Bool) (n : ℕ) (y : ℚ) (hy : rn64 ((n : ℚ) / 100000) = some y) :
    parseFloat (if neg then '-' :: numText n else numText n) = some (.fin neg y) := by
  refine parseFloat_text neg n y ?_ hy
  have h := rn64_some_lt _ y hy
  rw [show (2 : ℚ) ^ (1024 : ℤ) = ((2 ^ 1024 : ℕ) : ℚ) by norm_num, div_lt_iff₀ (by norm_num)] at h
  exact lt_of_lt_of_le (show n < 2 ^ 1024 * 100000 by exact_mod_cast h) (by decide +kernel)

theorem numText_length (n : ℕ) : 7 ≤ (numText n).length := by
  unfold numText
  rw [List.length_append, List.length_cons, frac_length]
  have := List.length_pos_iff.mpr (decStr_ne_nil (n / 100000))
  omega

/-- `{:07.5f}` never pads a finite number: `0.00000` already has seven characters -/
theorem fmt07_5_fin (neg : Bool) (m : ℚ) : fmt07_5 (.fin neg m) = fmt5 (.fin neg m) := by
  unfold fmt07_5 fmtPad5
  rw [fmt5_fin]
  have hl := numText_length (roundHalfEven (m * 100000)).toNat
  cases neg
  · obtain ⟨c, cs, hcs, hc⟩ := numText_head (roundHalfEven (m * 100000)).toNat
    obtain ⟨-, -, -, hminus, -⟩ := isDec_props c hc
    simp only [Bool.false_eq_true, if_false]
    rw [hcs] at hl ⊢
    split
    · rename_i b heq; injection heq with h1 _; exact absurd h1 hminus
    · exact padLeft_of_le _ _ _ hl
  · simp only [if_true]
    rw [padLeft_of_le _ _ _ (by omega)]

theorem parseFraction_numText (n : ℕ) : parseFraction (numText n) = some ((n : ℚ) / 100000) := by
  obtain ⟨c, cs, hcs, hc⟩ := numText_head n
  obtain ⟨-, hres, -⟩ := isDec_props c hc
  have hts := takeSign_text false n
  simp only [Bool.false_eq_true, if_false] at hts
  have hdw : (numText n).dropWhile isReSpace = numText n := by
    rw [hcs]; simp [hres]
  have hdot : ('.' :: decPad 5 (n % 100000)).dropWhile isReSpace = '.' :: decPad 5 (n % 100000) := by
    have : isReSpace '.' = false := by decide
    simp [this]
  unfold parseFraction
  rw [hdw, hts]
  simp only []
  rw [(numText_span n).1, (numText_span n).2, hdot, hcs]
  simp only [hc, Bool.true_or, Bool.not_true, Bool.false_eq_true, if_false]
  split
  · rename_i r heq; injection heq with h1 _; exact absurd h1 (by decide)
  · simp only [(frac_span _).1, (frac_span _).2, List.dropWhile_nil, List.isEmpty_nil, if_true, decimalValue_numText]

theorem toNat_cast (n : ℤ) (h : 0 ≤ n) : ((n.toNat : ℕ) : ℚ) = (n : ℚ) := by
  exact_mod_cast congrArg (Int.cast (R := ℚ)) (Int.toNat_of_nonneg h)

/-- Everything about one print / parse of a finite binary64 magnitude `m`, any sign.  With `n` the five-decimal
rounding of `m` and `d = n / 10^5`: the printed text is read back as a binary64 number `y` with the same sign, which
prints as the same text again, is at least as close to `d` as `m` was, and within relative 2^-53 of `d`. -/
theorem roundtrip_master (neg : Bool) (m : ℚ) (hm : IsDouble m) :
    ∃ y, IsDouble y ∧ parseFloat (fmt5 (.fin neg m)) = some (.fin neg y) ∧
      roundHalfEven (y * 100000) = roundHalfEven (m * 100000) ∧
      |y - (roundHalfEven (m * 100000) : ℚ) / 100000| ≤ |m - (roundHalfEven (m * 100000) : ℚ) / 100000| ∧
      |m - (roundHalfEven (m * 100000) : ℚ) / 100000| ≤ 1 / 200000 ∧
      |y - (roundHalfEven (m * 100000) : ℚ) / 100000| ≤ (roundHalfEven (m * 100000) : ℚ) / 100000 / 2 ^ 53 := by
  obtain ⟨hn0, hxd⟩ := units_spec m hm.1
  obtain ⟨y, h64, hy, hfix, hnear, hrel⟩ := reread m hm.1 hm.cases
  refine ⟨y, hy, ?_, hfix, hnear, hxd, hrel⟩
  rw [fmt5_fin]
  exact parseFloat_text_of_rn64 neg _ y (by rwa [toNat_cast _ hn0])

theorem fmt5_parse_fmt5 (neg : Bool) (m : ℚ) (hm : IsDouble m) :
    ∃ y, IsDouble y ∧ parseFloat (fmt5 (.fin neg m)) = some (.fin neg y) ∧
      fmt5 (.fin neg y) = fmt5 (.fin neg m) := by
  obtain ⟨y, hy, hp, hfix, _⟩ := roundtrip_master neg m hm
  exact ⟨y, hy, hp, by rw [fmt5_fin, fmt5_fin, hfix]⟩

theorem parse_fmt5_idempotent (neg : Bool) (m : ℚ) (hm : IsDouble m) :
    ∃ y, IsDouble y ∧ parseFloat (fmt5 (.fin neg m)) = some (.fin neg y) ∧
      parseFloat (fmt5 (.fin neg y)) = some (.fin neg y) := by
  obtain ⟨y, hy, hp, hf⟩ := fmt5_parse_fmt5 neg m hm
  exact ⟨y, hy, hp, by rw [hf]; exact hp⟩

theorem val_sub_val (neg : Bool) (y m : ℚ) : |(PyFloat.fin neg y).val - (PyFloat.fin neg m).val| = |y - m| := by
  cases neg
  · rfl
  · show |(-y) - (-m)| = |y - m|
    rw [neg_sub_neg, abs_sub_comm]

theorem parse_fmt5_close (neg : Bool) (m : ℚ) (hm : IsDouble m) :
    ∃ y, parseFloat (fmt5 (.fin neg m)) = some (.fin neg y) ∧
      |(PyFloat.fin neg y).val - (PyFloat.fin neg m).val| ≤ 1 / 200000 + (m + 1 / 200000) / 2 ^ 53 ∧
      |(PyFloat.fin neg y).val - (PyFloat.fin neg m).val| ≤ 1 / 100000 := by
  obtain ⟨y, _, hp, _, hnear, hxd, hrel⟩ := roundtrip_master neg m hm
  refine ⟨y, hp, ?_⟩
  rw [val_sub_val]
  generalize (roundHalfEven (m * 100000) : ℚ) / 100000 = d at *
  -- through the printed decimal `d`
  have htri := abs_sub_le y d m
  rw [abs_sub_comm d m] at htri
  have hd : d / 2 ^ 53 ≤ (m + 1 / 200000) / 2 ^ 53 :=
    div_le_div_of_nonneg_right (neg_le_sub_iff_le_add.mp (abs_le.mp hxd).1) (by positivity)
  exact ⟨(htri.trans (add_le_add (hrel.trans hd) hxd)).trans_eq (add_comm _ _),
    htri.trans ((add_le_add (hnear.trans hxd) hxd).trans_eq (by norm_num))⟩

/-- the five-decimal grid below 2^36: the double nearest to `k / 10^5` is read from and printed as exactly that
decimal, because doubles are less than 1e-5 apart there -/
theorem grid_core (k : ℕ) (hk : k < 2 ^ 36 * 10 ^ 5) :
    rn64 ((k : ℚ) / 100000) = some (rn53 ((k : ℚ) / 100000)) ∧
    roundHalfEven (rn53 ((k : ℚ) / 100000) * 100000) = (k : ℤ) ∧
    IsDouble (rn53 ((k : ℚ) / 100000)) := by
  have hc0 : (0 : ℚ) ≤ (k : ℚ) / 100000 := by positivity
  have hc2 : (k : ℚ) / 100000 < (2 : ℚ) ^ (36 : ℤ) := by
    have hkq : (k : ℚ) < 2 ^ 36 * 10 ^ 5 := by exact_mod_cast hk
    rw [div_lt_iff₀ (by norm_num)]; norm_num at hkq ⊢; exact hkq
  have herr := rn53_err_pow _ 36 (by rw [abs_of_nonneg hc0]; exact hc2.le)
  have h18 : (2 : ℚ) ^ ((36 : ℤ) - 54) = 1 / 262144 := by norm_num
  rw [h18] at herr
  have hlt : rn53 ((k : ℚ) / 100000) < (2 : ℚ) ^ (1024 : ℤ) :=
    calc rn53 ((k : ℚ) / 100000) ≤ (k : ℚ) / 100000 + 1 / 262144 := sub_le_iff_le_add'.mp (abs_le.mp herr).2
      _ < (2 : ℚ) ^ (36 : ℤ) + 1 := add_lt_add hc2 (by norm_num)
      _ ≤ (2 : ℚ) ^ (37 : ℤ) := by norm_num
      _ ≤ (2 : ℚ) ^ (1024 : ℤ) := two_zpow_le.mpr (by norm_num)
  have hz := units_zero_or_normal k (Int.natCast_nonneg k)
  rw [Int.cast_natCast] at hz
  obtain ⟨h64, hdbl⟩ := rn64_eq_rn53 _ hz hlt
  refine ⟨h64, rhe_snap _ _ ?_, hdbl⟩
  rw [Int.cast_natCast, abs_mul_sub (by norm_num)]
  exact lt_of_le_of_lt (mul_le_mul_of_nonneg_right herr (by norm_num)) (by norm_num)

theorem parse_fmt5_exact_of_5dec (neg : Bool) (k : ℕ) (hk : k < 2 ^ 36 * 10 ^ 5) :
    IsDouble (rn53 ((k : ℚ) / 100000)) ∧
    fmt5 (.fin neg (rn53 ((k : ℚ) / 100000))) = (if neg then '-' :: numText k else numText k) ∧
    parseFloat (if neg then '-' :: numText k else numText k) = some (.fin neg (rn53 ((k : ℚ) / 100000))) := by
  obtain ⟨h64, hrhe, hdbl⟩ := grid_core k hk
  refine ⟨hdbl, ?_, parseFloat_text_of_rn64 neg k _ h64⟩
  rw [fmt5_fin, hrhe]; rfl

theorem secondsDumps_of (t x : ℚ) (ht : 0 ≤ t) (hx : rn64 t = some x) :
    secondsDumps t = some (numText (roundHalfEven (x * 100000)).toNat) := by
  unfold secondsDumps floatOfRat
  rw [if_neg (not_lt.mpr ht), hx]
  simp only [Option.map_some, fmt07_5_fin, fmt5_fin, Bool.false_eq_true, if_false]

theorem seconds_roundtrip (t x : ℚ) (ht : 0 ≤ t) (hx : rn64 t = some x) :
    ∃ n : ℕ, secondsDumps t = some (numText n) ∧ parseFraction (numText n) = some ((n : ℚ) / 100000) ∧
      secondsDumps ((n : ℚ) / 100000) = some (numText n) ∧
      |(n : ℚ) / 100000 - t| ≤ 1 / 200000 + t / 2 ^ 53 := by
  obtain ⟨hx0, hc⟩ := rn64_cases t x ht hx
  obtain ⟨hn0, hxd⟩ := units_spec x hx0
  obtain ⟨y, h64, _, hfix, _⟩ := reread x hx0 (hc.imp And.right fun h => h.2.2)
  refine ⟨(roundHalfEven (x * 100000)).toNat, secondsDumps_of t x ht hx, parseFraction_numText _, ?_, ?_⟩ <;>
    rw [toNat_cast _ hn0]
  · rw [secondsDumps_of _ y (div_nonneg (by exact_mod_cast hn0) (by norm_num)) h64, hfix]
  · rcases hc with ⟨hts, hxs⟩ | ⟨hge, rfl, _⟩
    · -- `float(t)` is zero or subnormal: `0.00000` is written
      rw [small_rounds_to_zero x hx0 hxs, Int.cast_zero, zero_div, zero_sub, abs_neg, abs_of_nonneg ht]
      exact le_add_of_le_of_nonneg (hts.le.trans (tiny_lt.le.trans (by norm_num))) (div_nonneg ht (by positivity))
    · -- through `float(t)`
      have htri := abs_sub_le ((roundHalfEven (rn53 t * 100000) : ℚ) / 100000) (rn53 t) t
      rw [abs_sub_comm _ (rn53 t)] at htri
      exact htri.trans (add_le_add hxd (rn53_rel_err t ht))

theorem seconds_exact_of_5dec (k : ℕ) (hk : k < 2 ^ 36 * 10 ^ 5) :
    secondsDumps ((k : ℚ) / 100000) = some (numText k) ∧ parseFraction (numText k) = some ((k : ℚ) / 100000) := by
  obtain ⟨h64, hrhe, _⟩ := grid_core k hk
  refine ⟨?_, parseFraction_numText k⟩
  rw [secondsDumps_of _ _ (div_nonneg (Nat.cast_nonneg k) (by norm_num)) h64, hrhe]; rfl

/-- the bound of `parse_fmt5_exact_of_5dec` cannot be raised past the next grid point: the hypothesis is
`k < 2^36·10^5`, and the conclusion fails at
`k = 2^36·10^5 + 1`: the double nearest to `2^36 + 0.00001` is `2^36 + 2^-16`, whose number of 1e-5 units after
`roundHalfEven` is `…00002` (this is a statement about `roundHalfEven (x·10^5)`, the integer that `fmt5` then prints,
not about the text) — above 2^36 the doubles are more than 1e-5 apart, so not every five-decimal text survives
parse -> print (the VALUE read back still does: `parse_fmt5_idempotent`) -/
theorem grid_bound_sharp :
    roundHalfEven (rn53 (mkRat (2 ^ 36 * 10 ^ 5 + 1) 100000) * 100000) = 2 ^ 36 * 10 ^ 5 + 2 := by decide +kernel

/-- the rounding term of `parse_fmt5_close` is needed: `x = 2^35 + 2^-16` is printed as `34359738368.00002`, which is
read back as `2^35 + 3·2^-17`, 2^-17 ≈ 7.6e-6 > 5e-6 away from `x` (doubles are 2^-17 apart there) -/
theorem close_needs_rounding_term :
    rn53 ((roundHalfEven (mkRat (2 ^ 52 + 2) (2 ^ 17) * 100000) : ℚ) / 100000) - mkRat (2 ^ 52 + 2) (2 ^ 17)
      = mkRat 1 (2 ^ 17) ∧ rn53 (mkRat (2 ^ 52 + 2) (2 ^ 17)) = mkRat (2 ^ 52 + 2) (2 ^ 17) := by decide +kernel

/-- `SecondsType` is NOT a fixed point for a negative value that rounds to zero: `Fraction` has no negative zero, so
`-0.00000` is read as `0` and written as `0.00000` (outside the property: interpolationLength is non-negative and on
the printable grid) -/
theorem seconds_negative_tiny_excluded :
    secondsDumps (mkRat (-1) (10 ^ 9)) = some ['-', '0', '.', '0', '0', '0', '0', '0'] ∧
    parseFraction ['-', '0', '.', '0', '0', '0', '0', '0'] = some 0 ∧
    secondsDumps 0 = some ['0', '.', '0', '0', '0', '0', '0'] := by decide +kernel

/-- the same value through `FloatType` IS stable, because `float` keeps the sign of zero -/
theorem float_negative_tiny_stable :
    parseFloat ['-', '0', '.', '0', '0', '0', '0', '0'] = some (.fin true 0) ∧
    fmt5 (.fin true 0) = ['-', '0', '.', '0', '0', '0', '0', '0'] := by decide +kernel

open Earverif.XmlCodec in
theorem floatCodec_refines (k : ℤ) (hk : k.natAbs < 2 ^ 36 * 10 ^ 5) :
    (dumpsNum k).toList = fmt5 (.fin (decide (k < 0)) (rn53 ((k.natAbs : ℚ) / 100000))) ∧
    parseFloat (dumpsNum k).toList = some (.fin (decide (k < 0)) (rn53 ((k.natAbs : ℚ) / 100000))) ∧
    loadsNum (dumpsNum k) = some k ∧ IsDouble (rn53 ((k.natAbs : ℚ) / 100000)) := by
  obtain ⟨hd, hf, hp⟩ := parse_fmt5_exact_of_5dec (decide (k < 0)) k.natAbs hk
  have htxt : (dumpsNum k).toList = if decide (k < 0) = true then '-' :: numText k.natAbs else numText k.natAbs := by
    unfold dumpsNum numText
    simp only [String.toList_ofList, decide_eq_true_eq]
  exact ⟨by rw [htxt, hf], by rw [htxt]; exact hp, loadsNum_dumpsNum k, hd⟩

open Earverif.XmlCodec in
theorem secondsCodec_refines (k : ℤ) (h0 : 0 ≤ k) (hk : k.natAbs < 2 ^ 36 * 10 ^ 5) :
    secondsDumps ((k : ℚ) / 100000) = some (dumpsNum k).toList ∧
    parseFraction (dumpsNum k).toList = some ((k : ℚ) / 100000) ∧
    loadsNum (dumpsNum k) = some k := by
  obtain ⟨hd, hp⟩ := seconds_exact_of_5dec k.natAbs hk
  have hcast : ((k.natAbs : ℕ) : ℚ) = (k : ℚ) := by
    rw [Nat.cast_natAbs, abs_of_nonneg h0]
  have htxt : (dumpsNum k).toList = numText k.natAbs := by
    unfold dumpsNum numText
    simp only [String.toList_ofList, if_neg (not_lt.mpr h0)]
  rw [hcast] at hd hp
  exact ⟨by rw [htxt]; exact hd, by rw [htxt]; exact hp, loadsNum_dumpsNum k⟩

open Earverif.XmlCodec in
/-- no grid leaf is printed as `-0.00000`: the text the real code writes for `-0.0` and for every negative double
that rounds to zero (gain = -1e-7) has no counterpart `Leaf.num k`, so the class theorems say nothing about it -/
theorem negzero_not_grid (k : ℤ) : (dumpsNum k).toList ≠ ['-', '0', '.', '0', '0', '0', '0', '0'] := by
  intro h
  have h1 := loadsNum_dumpsNum k
  have h2 : loadsNum (dumpsNum k) = some 0 := by
    unfold loadsNum; rw [h]; decide +kernel
  have hk : k = 0 := by rw [h1] at h2; injection h2
  subst hk
  revert h; decide +kernel

open Earverif.XmlCodec in
theorem grid_model_excluded_points :
    (fmt5 (.fin true (rn53 (mkRat 1 (10 ^ 7)))) = ['-', '0', '.', '0', '0', '0', '0', '0'] ∧
     parseFloat ['-', '0', '.', '0', '0', '0', '0', '0'] = some (.fin true 0) ∧
     loadsNum "-0.00000" = some 0 ∧ dumpsNum 0 = "0.00000") ∧
    (loadsNum "0.5" = none ∧ loadsNum "1" = none ∧ loadsNum "1e0" = none ∧
     parseFloat ['0', '.', '5'] = some (.fin false (mkRat 1 2)) ∧ parseFloat ['1'] = some (.fin false 1) ∧
     parseFloat ['1', 'e', '0'] = some (.fin false 1)) ∧
    (dumpsNum (2 ^ 36 * 10 ^ 5 + 1)).toList ≠ fmt5 (.fin false (rn53 (mkRat (2 ^ 36 * 10 ^ 5 + 1) 100000))) := by
  decide +kernel

end Earverif.FloatText
