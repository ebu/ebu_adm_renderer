/-
The loop over a renderer's items (`for track_spec_processor, block_processing in self.block_processing_channels`):
every channel adds its timeline's effect to the shared rows; over any sequence of blocks the rows are a function of
the absolute sample index and the concatenated input only.
-/
import Earverif.Proofs.C03Bpc
import Earverif.Proofs.C02Compose
namespace Earverif.Renderer
open Earverif.Stream Earverif.Timeline

variable {α M S K ι V : Type}

/-- Every channel is in the state `BpcInv` (samples before `S0` consumed) relative to its timeline. -/
def ChansInv (interp : S → M → Except Err (S × List (PBlock K))) (S0 : Int) :
    List (α × Bpc M S K) → List (List (PBlock K)) → Prop
  | [], [] => True
  | (_, b) :: cs, all :: alls => (∃ lb, ChainLB lb all) ∧ BpcInv interp all b S0 ∧ ChansInv interp S0 cs alls
  | _, _ => False

/-- The rows after all channels of a block have run. -/
def chanRows (upd : K → Nat → ι → V → V) (S0 : Int) (get : α → List ι) :
    List α → List (List (PBlock K)) → List V → List V
  | t :: ts, all :: alls, out =>
    chanRows upd S0 get ts alls (mapRows (fun j x o => effAll upd all (S0 + j) x o) (get t) out)
  | _, _, out => out

/-- One channel's effect on one row (`x` = its input sample there, if any). -/
def rowStep (upd : K → Nat → ι → V → V) (s : Int) (x : Option ι) (all : List (PBlock K)) (o : V) : V :=
  match x with
  | some x => effAll upd all s x o
  | none => o

/-- One row after all channels: fold of the per-sample effects. -/
def rowFold (upd : K → Nat → ι → V → V) (s : Int) (xs : α → Option ι) : List α → List (List (PBlock K)) → V → V
  | t :: ts, all :: alls, o =>
    rowFold upd s xs ts alls (rowStep upd s (xs t) all o)
  | _, _, o => o

theorem procChans_spec (interp : S → M → Except Err (S × List (PBlock K)))
    (hy : ∀ st m st' new, interp st m = .ok (st', new) → new.length ≤ 2)
    (upd : K → Nat → ι → V → V) (S0 : Int) (get : α → List ι) (n : Nat) :
    ∀ (chans : List (α × Bpc M S K)) (alls : List (List (PBlock K))) (out : List V),
      ChansInv interp S0 chans alls → (∀ c ∈ chans, (get c.1).length = n) →
      ∃ chans', procChans interp upd S0 get chans out =
          .ok (chans', chanRows upd S0 get (chans.map (·.1)) alls out) ∧
        ChansInv interp (S0 + n) chans' alls ∧ chans'.map (·.1) = chans.map (·.1) := by
  intro chans
  induction chans with
  | nil =>
    intro alls out hinv _
    cases alls with
    | nil => exact ⟨[], rfl, trivial, rfl⟩
    | cons a as => exact absurd hinv (by simp [ChansInv])
  | cons c cs ih =>
    intro alls out hinv hlen
    obtain ⟨t, b⟩ := c
    cases alls with
    | nil => exact absurd hinv (by simp [ChansInv])
    | cons all alls =>
      obtain ⟨⟨lb, hch⟩, hb, hrest⟩ := hinv
      obtain ⟨b', e1, hb'⟩ := bpc_process_spec interp hy upd hch b S0 hb (get t) out
      have hn : (get t).length = n := hlen (t, b) List.mem_cons_self
      rw [hn] at hb'
      obtain ⟨cs', e2, hcs', hts⟩ := ih alls (mapRows (fun j x o => effAll upd all (S0 + j) x o) (get t) out)
        hrest (fun c hc => hlen c (List.mem_cons_of_mem _ hc))
      refine ⟨(t, b') :: cs', ?_, ⟨⟨lb, hch⟩, hb', hcs'⟩, by simp [hts]⟩
      simp only [procChans, e1, bind, Except.bind, e2, pure, Except.pure, List.map_cons, chanRows]

theorem chanRows_length (upd : K → Nat → ι → V → V) (S0 : Int) (get : α → List ι) :
    ∀ (ts : List α) (alls : List (List (PBlock K))) (out : List V),
      (chanRows upd S0 get ts alls out).length = out.length := by
  intro ts
  induction ts with
  | nil => intro alls out; rfl
  | cons t ts ih =>
    intro alls out
    cases alls with
    | nil => rfl
    | cons all alls => simp only [chanRows, ih, mapRows_length]

theorem getElem?_chanRows (upd : K → Nat → ι → V → V) (S0 : Int) (get : α → List ι) (i : Nat) :
    ∀ (ts : List α) (alls : List (List (PBlock K))) (out : List V),
      (chanRows upd S0 get ts alls out)[i]? =
        (out[i]?).map (rowFold upd (S0 + i) (fun t => (get t)[i]?) ts alls) := by
  intro ts
  induction ts with
  | nil => intro alls out; simp [chanRows, rowFold]
  | cons t ts ih =>
    intro alls out
    cases alls with
    | nil => simp [chanRows, rowFold]
    | cons all alls =>
      simp only [chanRows, rowFold, ih, getElem?_mapRows, Option.map_map]
      rfl

/-- For a renderer that consists of the channel loop only (DirectSpeakers, HOA; the gain stage of Objects). `subRun`: a
sub-renderer fed block by block, `Proofs/C02Compose.lean`. -/
theorem chans_subRun_spec [Zero V] (interp : S → M → Except Err (S × List (PBlock K)))
    (hy : ∀ st m st' new, interp st m = .ok (st', new) → new.length ≤ 2)
    (upd : K → Nat → ι → V → V) (getf : List (List Rat) → α → List ι)
    (hgl : ∀ blk t, (getf blk t).length = blk.length)
    (hga : ∀ b1 b2 t, getf (b1 ++ b2) t = getf b1 t ++ getf b2 t) :
    ∀ (blocks : List (List (List Rat))) (chans : List (α × Bpc M S K)) (alls : List (List (PBlock K))) (S0 : Int),
      ChansInv interp S0 chans alls →
      ∃ chans' os,
        subRun (fun ch S1 b => procChans interp upd S1 (getf b) ch (List.replicate b.length (0 : V)))
          chans S0 blocks = .ok (chans', os) ∧
        os.map List.length = blocks.map List.length ∧
        ∀ i, os.flatten[i]? =
          if i < blocks.flatten.length then
            some (rowFold upd (S0 + i) (fun t => (getf blocks.flatten t)[i]?) (chans.map (·.1)) alls 0)
          else none := by
  intro blocks
  induction blocks with
  | nil =>
    intro chans alls S0 _
    exact ⟨chans, [], rfl, rfl, by intro i; simp⟩
  | cons b bs ih =>
    intro chans alls S0 hinv
    obtain ⟨ch1, e1, hinv1, hts⟩ := procChans_spec interp hy upd S0 (getf b) b.length chans alls
      (List.replicate b.length (0 : V)) hinv (fun c _ => hgl b c.1)
    obtain ⟨ch2, os, e2, hl, hrow⟩ := ih ch1 alls (S0 + b.length) hinv1
    refine ⟨ch2, chanRows upd S0 (getf b) (chans.map (·.1)) alls (List.replicate b.length 0) :: os, ?_, ?_, ?_⟩
    · simp only [subRun, e1, e2]
    · simp only [List.map_cons, hl, chanRows_length, List.length_replicate]
    · intro i
      simp only [List.flatten_cons, List.getElem?_append, chanRows_length, List.length_replicate,
        List.length_append]
      by_cases hi : i < b.length
      · rw [if_pos hi, if_pos (by omega), getElem?_chanRows]
        simp only [List.getElem?_replicate, hi, if_true, Option.map_some]
        congr 2
        funext t
        rw [hga, List.getElem?_append_left (by rw [hgl]; exact hi)]
      · rw [if_neg hi, hrow (i - b.length)]
        by_cases h2 : i - b.length < bs.flatten.length
        · rw [if_pos h2, if_pos (by omega), hts]
          have e : S0 + (b.length : Int) + ((i - b.length : Nat) : Int) = S0 + i := by omega
          rw [e]
          congr 2
          funext t
          rw [hga, List.getElem?_append_right (by rw [hgl]; omega), hgl]
        · rw [if_neg h2, if_neg (by omega)]

end Earverif.Renderer
