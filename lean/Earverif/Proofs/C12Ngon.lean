/- C12 — the virtual n-gon inside the pasted panner: what `ngon_handle_continuousOn` and `panner_continuousOn_tri_ngon_partial`
   (Props/C12.lean) need.

   The pasting theorem over triplet cells is `cellPanner_continuousOn` (Proofs/C12Paste.lean): each cell has its own map from
   the three VBAP gains to an output vector — the remap for a Triplet region, remap ∘ centre-downmix ∘ remap for an inner
   triplet of a VirtualNgon.

   * the centre downmix `mix` (coordinate by coordinate in Proofs/C12Paste.lean) is continuous on the cone of an inner triplet
     because the mixed vector never vanishes there (`mixRaw_inner_ne_zero`: non-negative gains, not all zero, positive centre
     downmix);
   * `VirtualNgon.handleE`: the n-gon handler with the acceptance slack as a parameter (`ngon_handleE_eps`: with the code's
     −1e-11 it is `VirtualNgon.handle`), as a loop over cells (`ngon_handleE_cells`);
   * `pannerTNE`: a panner of Triplet and VirtualNgon regions with the slack as a parameter (`pannerTNE_eps`: the model's
     `PointSourcePanner.handle` for the code's slack), as a loop over cells (`pannerTNE_cells`); `Region.tnOk`,
     `MeetInOuterFace` (cells of different regions meet only in shared OUTER faces: the virtual centre of an n-gon is never
     shared with another region), and the output of a cell on an edge of real loudspeakers (`cell_edgeOut`).

   The cells: `Region.tcells R : List TRegion` are the triplet cells of a region with their channels INSIDE the region;
   `Region.cells n R = R.tcells.map fun X => (X.2, R.outMap n X.1)` adds the map to the panner's output vector (`GainCell`);
   `tripletCell n r` (C12Paste) is the one cell of a Triplet region; `ngonCells g` are the cells of an n-gon WITHOUT the outer remap,
   for the stand-alone n-gon theorem only.  `VirtualNgon.handleE ε` / `ngonOut` say with a slack parameter what
   `VirtualNgon.candidate` / `candidate_of_some` (Proofs/PointSourceReal.lean) say for the code's slack. -/
import Earverif.Proofs.C12Paste

namespace Earverif.PointSource

open Set Filter Topology

theorem sumsq_eq_sum_range : ∀ l : List ℝ, sumsq l = ∑ i ∈ Finset.range l.length, l.getD i 0 * l.getD i 0
  | [] => by simp [sumsq]
  | x :: xs => by
    rw [List.length_cons, Finset.sum_range_succ']
    simp only [List.getD_cons_succ, List.getD_cons_zero, ← sumsq_eq_sum_range xs, sumsq, add_comm]

theorem continuousOn_sumsq {Z : Type} [TopologicalSpace Z] (S : Set Z) (m : Nat) (L : Z → List ℝ)
    (hl : ∀ z, (L z).length = m) (hc : ∀ c, ContinuousOn (fun z => (L z).getD c 0) S) :
    ContinuousOn (fun z => sumsq (L z)) S := by
  simp only [sumsq_eq_sum_range, hl]
  exact continuousOn_finsetSum _ fun i _ => (hc i).mul (hc i)

theorem gains_ne_zero_of_cone (P : Mat3 ℝ) (hd : det3 P ≠ 0) (p : Vec3 ℝ) (hp : p ≠ (0, 0, 0)) (ha : Triplet.acceptsE 0 P p) :
    ¬((Triplet.gains P p).1 = 0 ∧ (Triplet.gains P p).2.1 = 0 ∧ (Triplet.gains P p).2.2 = 0) := by
  have hne := pv_ne_zero P hd p hp
  obtain ⟨h0, h1, h2⟩ := ha
  generalize hv : Triplet.pv P p = v at hne h0 h1 h2
  obtain ⟨x, y, z⟩ := v
  rw [triplet_gains_of_nonneg hv h0 h1 h2]
  have hr := (Real.sqrt_pos.mpr (nsq_pos hne)).ne'
  simp only [nsq] at hr
  rintro ⟨e0, e1, e2⟩
  exact hne (by rw [(div_eq_zero_iff.mp e0).resolve_right hr, (div_eq_zero_iff.mp e1).resolve_right hr,
    (div_eq_zero_iff.mp e2).resolve_right hr])

theorem mixRaw_inner_ne_zero (cd : List ℝ) (hcd : ∀ d ∈ cd, 0 < d) (c0 c1 : Nat) (h01 : c0 ≠ c1) (h0 : c0 < cd.length)
    (h1 : c1 < cd.length) (a b u : ℝ) (ha : 0 ≤ a) (hb : 0 ≤ b) (hu : 0 ≤ u) (hne : ¬(a = 0 ∧ b = 0 ∧ u = 0)) :
    sumsq (mixRaw cd (scatter (zeros (cd.length + 1)) [c0, c1, cd.length] [a, b, u])) ≠ 0 := by
  intro hz
  have hcdpos : ∀ c, c < cd.length → 0 < cd.getD c 0 := fun c hc => hcd _ (getD_mem 0 hc)
  have hzero : ∀ c, c < cd.length → (if c = c1 then b else if c = c0 then a else 0) + u * cd.getD c 0 = 0 := by
    intro c hc
    have := mixRaw_inner_getD cd c0 c1 h0 h1 a b u c
    rw [if_pos hc] at this
    rw [← this]
    exact sumsq_eq_zero hz _ (getD_mem 0 (by rw [mixRaw_length _ _ (by rw [scatter_length]; simp [zeros])]; exact hc))
  have z0 := hzero c0 h0
  have z1 := hzero c1 h1
  rw [if_neg h01, if_pos rfl] at z0
  rw [if_pos rfl] at z1
  have p0 := mul_nonneg hu (hcdpos c0 h0).le
  have p1 := mul_nonneg hu (hcdpos c1 h1).le
  exact hne ⟨by linarith, by linarith,
    (mul_eq_zero.mp (by linarith : u * cd.getD c0 0 = 0)).resolve_right (hcdpos c0 h0).ne'⟩

/-- `m`: the local channel of the virtual centre; `c0 ≠ c1`: real vertices of the n-gon -/
def InnerChOk (m : Nat) (r : TRegion) : Prop := ∃ c0 c1, r.1 = [c0, c1, m] ∧ c0 ≠ c1 ∧ c0 < m ∧ c1 < m

theorem InnerChOk.chOk {m : Nat} {r : TRegion} (h : InnerChOk m r) : r.chOk := by
  obtain ⟨c0, c1, hr, h01, h0, h1⟩ := h
  exact ⟨c0, c1, m, hr, h01, by omega, by omega⟩

theorem mix_tripletOut_continuousOn (cd : List ℝ) (hcd : ∀ d ∈ cd, 0 < d) (r : TRegion) (hr : InnerChOk cd.length r)
    (hd : det3 r.2 ≠ 0) (c : Nat) :
    ContinuousOn (fun p => (VirtualNgon.mix cd (tripletOut (cd.length + 1) r p)).getD c 0) r.cone := by
  have hT := fun k => tripletOut_continuousOn (cd.length + 1) k r hd
  have hraw : ∀ k, ContinuousOn (fun p => (mixRaw cd (tripletOut (cd.length + 1) r p)).getD k 0) r.cone := by
    intro k
    simp only [mixRaw_getD, tripletOut_length]
    by_cases hk : k < cd.length
    · simp only [hk, if_true]
      exact (hT k).add ((hT cd.length).mul continuousOn_const)
    · simp only [hk, if_false]; exact continuousOn_const
  have hss : ContinuousOn (fun p => sumsq (mixRaw cd (tripletOut (cd.length + 1) r p))) r.cone :=
    continuousOn_sumsq r.cone cd.length _ (fun p => mixRaw_length cd _ (tripletOut_length _ _ _)) hraw
  simp only [mix_getD]
  refine (hraw c).div (Real.continuous_sqrt.comp_continuousOn hss) fun p hp => ?_
  obtain ⟨c0, c1, hr1, h01, h0, h1⟩ := hr
  obtain ⟨ch, P⟩ := r
  subst hr1
  exact (Real.sqrt_pos.mpr (lt_of_le_of_ne (sumsq_nonneg _) (Ne.symm (mixRaw_inner_ne_zero cd hcd c0 c1 h01 h0 h1 _ _ _
    (clip01_nonneg _) (clip01_nonneg _) (clip01_nonneg _) (gains_ne_zero_of_cone P hd p hp.2 hp.1))))).ne'

noncomputable def VirtualNgon.handleE (ε : ℝ) (g : VirtualNgon ℝ) (p : Vec3 ℝ) : Option (List ℝ) :=
  firstAccept (g.regions.map fun r =>
    (remap r.1 (g.centreDownmix.length + 1) ((Triplet.handleE ε r.2 p).map vecList)).map
      (VirtualNgon.mix g.centreDownmix))

theorem ngon_handleE_eps (g : VirtualNgon ℝ) (p : Vec3 ℝ) : g.handleE tripletEps p = g.handle p := by
  unfold VirtualNgon.handleE VirtualNgon.handle
  simp only [handleE_eps]

noncomputable def ngonOut (cd : List ℝ) (ch : List Nat) (v : Vec3 ℝ) : List ℝ :=
  VirtualNgon.mix cd (scatter (zeros (cd.length + 1)) ch (vecList v))

noncomputable def ngonCells (g : VirtualNgon ℝ) : List GainCell :=
  g.regions.map fun r => (r.2, ngonOut g.centreDownmix r.1)

theorem ngon_handleE_cells (ε : ℝ) (g : VirtualNgon ℝ) (p : Vec3 ℝ) :
    g.handleE ε p = cellPannerE ε (ngonCells g) p :=
  cellPannerE_of_map ε g.regions _ _ p fun r _ => by
    simp only [remap, Option.map_map]
    rfl

theorem ngonOut_eq_of_faces (cd : List ℝ) (r r' : TRegion) (hd : det3 r.2 ≠ 0) (hd' : det3 r'.2 ≠ 0) (hch : r.chOk)
    (hch' : r'.chOk) (h : MeetInSharedFace r r') (p : Vec3 ℝ) (hp : p ∈ r.cone) (hp' : p ∈ r'.cone) :
    ngonOut cd r.1 (Triplet.gains r.2 p) = ngonOut cd r'.1 (Triplet.gains r'.2 p) :=
  congrArg (VirtualNgon.mix cd) (ext_getD 0 (by rw [scatter_length, scatter_length]) fun c =>
    shared_face_agreement r r' hd hd' hch hch' h (cd.length + 1) c p hp.2 hp.1 hp'.1)

/-- a QuadRegion never answers here: see `Region.noQuad` -/
noncomputable def Region.handleE (ε : ℝ) : Region ℝ → Vec3 ℝ → Option (List ℝ)
  | .triplet _ P, p => (Triplet.handleE ε P p).map vecList
  | .ngon _ g, p => g.handleE ε p
  | .quad _ _, _ => none

def Region.noQuad : Region ℝ → Prop
  | .quad _ _ => False
  | _ => True

noncomputable def pannerTNE (ε : ℝ) (regions : List (Region ℝ)) (n : Nat) (p : Vec3 ℝ) : Option (List ℝ) :=
  firstAccept (regions.map fun r => remap r.channels n (r.handleE ε p))

theorem pannerTNE_eps (regions : List (Region ℝ)) (hq : ∀ r ∈ regions, r.noQuad) (n : Nat)
    (roots : Nat → Option ℝ × Option ℝ) (p : Vec3 ℝ) :
    pannerTNE tripletEps regions n p = PointSourcePanner.handle regions n roots p := by
  unfold pannerTNE PointSourcePanner.handle PointSourcePanner.results
  rw [zipWith_eq_map_of_forall _ (fun r : Region ℝ => remap r.channels n (r.handleE tripletEps p))]
  · simp
  · intro k r hr
    cases r with
    | triplet ch P => simp [Region.handle, Region.handleE, handleE_eps]
    | ngon ch g => simp [Region.handle, Region.handleE, ngon_handleE_eps]
    | quad ch q => exact (hq _ hr).elim

noncomputable def Region.tcells : Region ℝ → List TRegion
  | .triplet ch P => [(ch, P)]
  | .ngon _ g => g.regions
  | .quad _ _ => []

noncomputable def Region.outMap (n : Nat) : Region ℝ → List Nat → Vec3 ℝ → List ℝ
  | .triplet _ _, lch, v => scatter (zeros n) lch (vecList v)
  | .ngon ch g, lch, v => scatter (zeros n) ch (ngonOut g.centreDownmix lch v)
  | .quad _ _, _, _ => []

noncomputable def Region.cells (n : Nat) (R : Region ℝ) : List GainCell := R.tcells.map fun X => (X.2, R.outMap n X.1)

theorem region_handleE_cells (ε : ℝ) (n : Nat) (R : Region ℝ) (p : Vec3 ℝ) :
    remap R.channels n (R.handleE ε p) = cellPannerE ε (R.cells n) p := by
  cases R with
  | triplet ch P =>
    simp only [Region.channels, Region.handleE, Region.cells, Region.tcells, cellPannerE, List.map_cons, List.map_nil,
      firstAccept_singleton, remap, Option.map_map]
    rfl
  | ngon ch g =>
    simp only [Region.channels, Region.handleE, Region.cells, Region.tcells, remap]
    rw [VirtualNgon.handleE, firstAccept_map, List.map_map]
    exact cellPannerE_of_map ε g.regions _ _ p fun r _ => by
      simp only [Function.comp, remap, Option.map_map]
      rfl
  | quad ch q => simp [Region.handleE, Region.cells, Region.tcells, cellPannerE, remap, firstAccept]

theorem pannerTNE_cells (ε : ℝ) (regions : List (Region ℝ)) (n : Nat) (p : Vec3 ℝ) :
    pannerTNE ε regions n p = cellPannerE ε (regions.flatMap (Region.cells n)) p := by
  unfold pannerTNE
  conv_rhs => rw [cellPannerE, List.map_flatMap, firstAccept_flatMap]
  congr 1
  apply List.map_congr_left
  intro R _
  exact region_handleE_cells ε n R p

def Region.tnOk : Region ℝ → Prop
  | .triplet ch P => det3 P ≠ 0 ∧ TRegion.chOk (ch, P)
  | .ngon ch g => (∀ r ∈ g.regions, det3 r.2 ≠ 0) ∧ (∀ r ∈ g.regions, InnerChOk g.centreDownmix.length r) ∧
      (∀ d ∈ g.centreDownmix, 0 < d) ∧ (∀ r ∈ g.regions, ∀ r' ∈ g.regions, r ≠ r' → MeetInSharedFace r r') ∧
      ch.length = g.centreDownmix.length ∧ ch.Nodup
  | .quad _ _ => False

/-- the output channel fed by row `a` of a cell; `none` for the virtual centre of an n-gon (row 2 of every inner triplet) -/
def Region.gchan : Region ℝ → List Nat → Fin 3 → Option Nat
  | .triplet _ _, lch, a => some (chanAt lch a)
  | .ngon ch _, lch, a => if a = 2 then none else some (ch.getD (chanAt lch a) 0)
  | .quad _ _, _, _ => none

def MeetInOuterFace (R : Region ℝ) (X : TRegion) (R' : Region ℝ) (Y : TRegion) : Prop :=
  MeetInOuterFaceG (R.gchan X.1) X (R'.gchan Y.1) Y

theorem edgePoint_swap (s t : ℝ) (a b : Vec3 ℝ) : edgePoint s t a b = edgePoint t s b a := by
  obtain ⟨a0, a1, a2⟩ := a
  obtain ⟨b0, b1, b2⟩ := b
  simp only [edgePoint, add3, smul3]
  refine Prod.ext ?_ (Prod.ext ?_ ?_) <;> simp only <;> ring

theorem ngonOut_on_edge (cd : List ℝ) (c0 c1 : Nat) (h01 : c0 ≠ c1) (h0 : c0 < cd.length) (h1 : c1 < cd.length)
    (P : Mat3 ℝ) (hd : det3 P ≠ 0) (s t : ℝ) (hs : 0 ≤ s) (ht : 0 ≤ t) (hne : s * s + t * t ≠ 0) :
    ngonOut cd [c0, c1, cd.length] (Triplet.gains P (edgePoint s t P.1 P.2.1)) =
      ((zeros cd.length).set c0 (s / Real.sqrt (s * s + t * t))).set c1 (t / Real.sqrt (s * s + t * t)) := by
  have hpos : 0 < s * s + t * t := lt_of_le_of_ne (add_nonneg (mul_self_nonneg s) (mul_self_nonneg t)) (Ne.symm hne)
  rw [(triplet_handle_eq_some.mp (handle_outer_edge P hd s t hs ht)).2]
  exact mix_outer_pair cd c0 c1 h01 h0 h1 _ _ (unit_pair hpos)

theorem cell_edgeOut (n : Nat) (R : Region ℝ) (hR : R.tnOk) (X : TRegion) (hX : X ∈ R.tcells) :
    EdgeOut n (R.gchan X.1) X.2 (R.outMap n X.1) := by
  intro i j hij ci cj hci hcj s t hs ht hne c
  cases R with
  | quad ch q => exact hR.elim
  | triplet ch P =>
    simp only [Region.tcells, List.mem_singleton] at hX
    subst hX
    exact tripletOut_edgeOut n (ch, P) hR.1 hR.2 i j hij ci cj hci hcj s t hs ht hne c
  | ngon ch g =>
    obtain ⟨hdet, hch, hcd, _, hlen, hnd⟩ := hR
    simp only [Region.tcells] at hX
    obtain ⟨c0, c1, hX1, h01, h0, h1⟩ := hch X hX
    have hd := hdet X hX
    -- a row with an output channel is not the virtual centre, so `{i, j} = {0, 1}`: the outer edge, in one of its two
    -- orientations; `key` is the statement for that edge
    simp only [Region.gchan] at hci hcj
    have hi2 : i ≠ 2 := fun h => by simp [h] at hci
    have hj2 : j ≠ 2 := fun h => by simp [h] at hcj
    simp only [hi2, hj2, if_false, Option.some.injEq, hX1] at hci hcj
    simp only [Region.outMap, hX1]
    have key : ∀ (a b : ℝ) (hab : a * a + b * b ≠ 0), 0 ≤ a → 0 ≤ b →
        (scatter (zeros n) ch (ngonOut g.centreDownmix [c0, c1, g.centreDownmix.length]
          (Triplet.gains X.2 (edgePoint a b X.2.1 X.2.2.1)))).getD c 0 =
        (if c = ch.getD c0 0 ∧ c < n then a / Real.sqrt (a * a + b * b) else 0) +
          (if c = ch.getD c1 0 ∧ c < n then b / Real.sqrt (a * a + b * b) else 0) := by
      intro a b hab ha hb
      rw [ngonOut_on_edge g.centreDownmix c0 c1 h01 h0 h1 X.2 hd a b ha hb hab]
      exact scatter_two n _ ch hnd hlen c0 c1 h01 h0 h1 _ _ c
    fin_cases i <;> fin_cases j <;> simp only [ne_eq, not_true_eq_false, Fin.zero_eta, Fin.mk_one, Fin.reduceFinMk] at hij hi2 hj2
    · simp only [chanAt, List.getD_cons_zero, List.getD_cons_succ] at hci hcj
      simp only [row]
      rw [key s t hne hs ht]
      rw [hci, hcj]
    · simp only [chanAt, List.getD_cons_zero, List.getD_cons_succ] at hci hcj
      simp only [row]
      rw [edgePoint_swap, key t s (by rw [add_comm]; exact hne) ht hs]
      rw [hci, hcj, add_comm (t * t) (s * s), add_comm]

/-- `hR` only rules out the quad constructor, where `outMap` is `[]` -/
theorem outMap_length (n : Nat) (R : Region ℝ) (hR : R.tnOk) (lch : List Nat) (v : Vec3 ℝ) :
    (R.outMap n lch v).length = n := by
  cases R with
  | quad ch q => exact hR.elim
  | triplet ch P => simp [Region.outMap, scatter_length, zeros]
  | ngon ch g => simp [Region.outMap, scatter_length, zeros]

theorem ngonOut_length (cd : List ℝ) (lch : List Nat) (v : Vec3 ℝ) : (ngonOut cd lch v).length = cd.length := by
  unfold ngonOut
  exact mix_length cd _ (by simp [scatter_length, zeros])

theorem mem_cells_iff (n : Nat) (regions : List (Region ℝ)) (C : GainCell) :
    C ∈ regions.flatMap (Region.cells n) ↔ ∃ R ∈ regions, ∃ X ∈ R.tcells, C = (X.2, R.outMap n X.1) := by
  simp only [List.mem_flatMap, Region.cells, List.mem_map]
  constructor
  · rintro ⟨R, hR, X, hX, rfl⟩; exact ⟨R, hR, X, hX, rfl⟩
  · rintro ⟨R, hR, X, hX, rfl⟩; exact ⟨R, hR, X, hX, rfl⟩

end Earverif.PointSource
