/- C10 (DirectSpeakers), the rational decision structure (`Model/DirectSpeakers.lean`) for arbitrary rule tables and
   layouts satisfying explicit conditions: sums of squares, sign, length and LFE-class support of the gain vectors the
   model builds; what each exit returns (`earlyExit_some`, `lateExit_ok`, `handleNoGain_ok`) and the facts that hold at
   every exit (`ExitFacts`); which blocks the early exits reject (`earlyExit_error`).
   `sumSq` here and `scatter` in the model are DirectSpeakers' own, over ℚ; `GainCalc.sumSq` / `GainCalc.scatter` are other
   functions (Proofs/C10Concrete.lean works with both). -/
import Earverif.Model.DirectSpeakers
import Mathlib.Tactic.Ring
import Mathlib.Tactic.Linarith

namespace Earverif.DS

def sumSq : List Rat → Rat
  | [] => 0
  | x :: xs => x * x + sumSq xs

def gainsSumSq : List (String × Rat) → Rat
  | [] => 0
  | (_, g) :: r => g * g + gainsSumSq r

/-- 1 + 2⁻⁴⁰: room for the float64 rounding of the √ table values and of the panner result.  The regenerated rule table
    uses about 2⁻⁵³ of it (largest Σg² − 1 over its rules). -/
def slack : Rat := 1 + mkRat 1 (2 ^ 40)

theorem slack_ge_one : (1 : Rat) ≤ slack := by decide +kernel

/-- Conditions on one mapping rule (decidable; checked over the regenerated table). -/
def ruleOk (r : MappingRule) : Bool :=
  r.gains.all (fun p => decide (0 ≤ p.2)) && decide (gainsSumSq r.gains ≤ slack)
    && r.gains.all (fun p => isLfeName p.1 == isLfeName r.label)

/-- `layout.is_lfe` is exactly "the channel is named LFE1 or LFE2". -/
def layoutOk (L : Layout) : Bool := L.isLfe == L.names.map isLfeName

/-- `pv` is zero at every position whose LFE flag differs from `v`. -/
def ZeroOff {α : Type} [OfNat α 0] (mask : List Bool) (v : Bool) (pv : List α) : Prop :=
  ∀ i : Nat, mask[i]? = some (!v) → pv[i]? = some 0

/-- What the theorems assume of the captured geometric sub-results. -/
def GeoOk (L : Layout) (b : Block) (g : Geo) : Prop :=
  (∀ c, g.closest = some c → (candidates L (isLfeChannel b) g.withinBounds)[c]? = some true) ∧
  (∀ x ∈ g.psp, 0 ≤ x) ∧ sumSq g.psp ≤ slack

/-- Inside an ITU common-definition pack the LFE-ness of the block is that of its first label
    (the mapping-rule branch never looks at the frequency element). -/
def PackConsistent (ituPacks : List (String × String)) (b : Block) : Prop :=
  ∀ il, ituLayoutOf ituPacks b = .ok (some il) →
    ∀ l, b.labels.head? = some l → isLfeName (nominalSpeakerLabel l) = isLfeChannel b

/-! ### sums of squares -/

theorem sumSq_nonneg : ∀ l, 0 ≤ sumSq l
  | [] => le_refl _
  | x :: xs => by
    have := sumSq_nonneg xs
    have := mul_self_nonneg x
    simp only [sumSq]; linarith

theorem sumSq_zeros : ∀ n, sumSq (zeros n) = 0
  | 0 => rfl
  | n + 1 => by
    have ih := sumSq_zeros n
    simp only [zeros, List.replicate_succ, sumSq, mul_zero, zero_add] at ih ⊢
    exact ih

theorem sumSq_set_le : ∀ (l : List Rat) (i : Nat) (v : Rat), sumSq (l.set i v) ≤ sumSq l + v * v
  | [], _, v => le_add_of_nonneg_right (mul_self_nonneg v)
  | x :: xs, 0, v => by
    show v * v + sumSq xs ≤ x * x + sumSq xs + v * v
    linarith [mul_self_nonneg x]
  | x :: xs, i + 1, v => by
    show x * x + sumSq (xs.set i v) ≤ x * x + sumSq xs + v * v
    linarith [sumSq_set_le xs i v]

theorem sumSq_assign_le (names : List String) :
    ∀ (gs : List (String × Rat)) (pv : List Rat),
      sumSq (assignGains names gs pv) ≤ sumSq pv + gainsSumSq gs
  | [], pv => by simp [assignGains, gainsSumSq]
  | (nm, g) :: rest, pv => by
    simp only [assignGains, gainsSumSq]
    have h1 := sumSq_assign_le names rest (pv.set (names.idxOf nm) g)
    have h2 := sumSq_set_le pv (names.idxOf nm) g
    linarith

theorem sumSq_unitVec_le (n i : Nat) : sumSq (unitVec n i) ≤ 1 :=
  (sumSq_set_le (zeros n) i 1).trans_eq (by rw [sumSq_zeros, zero_add, mul_one])

theorem sumSq_scale (b : Block) : ∀ pv : List Rat,
    sumSq (scale b pv) = sumSq pv * ((b.gain * objectGainOf b) * (b.gain * objectGainOf b))
  | [] => by simp [scale, sumSq]
  | x :: xs => by
    have ih := sumSq_scale b xs
    simp only [scale, List.map_cons, sumSq] at ih ⊢
    rw [ih]; ring

/-- What every assignment `pv[index(name)] = gain` of a rule preserves, `assignGains` preserves. -/
theorem assignGains_ind {names : List String} {Q : List Rat → Prop} :
    ∀ (gs : List (String × Rat)) (pv : List Rat),
      (∀ p ∈ gs, ∀ v, Q v → Q (v.set (names.idxOf p.1) p.2)) → Q pv → Q (assignGains names gs pv)
  | [], _, _, h => h
  | (nm, g) :: rest, pv, hs, h =>
    assignGains_ind rest _ (fun p hp => hs p (List.mem_cons_of_mem _ hp)) (hs (nm, g) List.mem_cons_self pv h)

theorem length_assign (names : List String) (gs : List (String × Rat)) (pv : List Rat) :
    (assignGains names gs pv).length = pv.length :=
  assignGains_ind (Q := fun v => v.length = pv.length) gs pv (fun _ _ _ hv => List.length_set.trans hv) rfl

theorem length_zeros (n : Nat) : (zeros n).length = n := List.length_replicate

theorem length_unitVec (n i : Nat) : (unitVec n i).length = n := by simp [unitVec, zeros]

theorem nonneg_set {l : List Rat} {i : Nat} {v : Rat} (hl : ∀ x ∈ l, 0 ≤ x) (hv : 0 ≤ v) :
    ∀ x ∈ l.set i v, 0 ≤ x := by
  intro x hx
  rcases List.mem_or_eq_of_mem_set hx with h | h
  · exact hl x h
  · exact h ▸ hv

theorem nonneg_zeros (n : Nat) : ∀ x ∈ zeros n, (0 : Rat) ≤ x := by
  intro x hx
  simp only [zeros, List.mem_replicate] at hx
  exact hx.2 ▸ le_refl _

theorem nonneg_unitVec (n i : Nat) : ∀ x ∈ unitVec n i, (0 : Rat) ≤ x :=
  nonneg_set (nonneg_zeros n) (by decide)

theorem nonneg_assign (names : List String) (gs : List (String × Rat)) (pv : List Rat)
    (hgs : ∀ p ∈ gs, 0 ≤ p.2) (hpv : ∀ x ∈ pv, 0 ≤ x) : ∀ x ∈ assignGains names gs pv, 0 ≤ x :=
  assignGains_ind (Q := fun v => ∀ x ∈ v, 0 ≤ x) gs pv (fun p hp _ hv => nonneg_set hv (hgs p hp)) hpv

theorem objectGainOf_nonneg {b : Block} (hog : 0 ≤ b.objectGain) : 0 ≤ objectGainOf b := by
  unfold objectGainOf; split <;> simp [hog]

theorem nonneg_scale {b : Block} {pv : List Rat} (h : ∀ x ∈ pv, 0 ≤ x) (hg : 0 ≤ b.gain) (hog : 0 ≤ b.objectGain) :
    ∀ x ∈ scale b pv, 0 ≤ x :=
  List.forall_mem_map.mpr fun y hy => mul_nonneg (mul_nonneg (h y hy) hg) (objectGainOf_nonneg hog)

/-! ### LFE-class support -/

theorem zeroOff_zeros {mask : List Bool} {n : Nat} (hn : mask.length = n) (v : Bool) :
    ZeroOff mask v (zeros n) := by
  intro i hi
  have hlt : i < n := hn ▸ (List.getElem?_eq_some_iff.mp hi).1
  simp [zeros, hlt]

theorem zeroOff_set {mask : List Bool} {v : Bool} {pv : List Rat} (h : ZeroOff mask v pv) {j : Nat} (x : Rat)
    (hj : mask[j]? = some v) : ZeroOff mask v (pv.set j x) := by
  intro i hi
  by_cases hji : j = i
  · subst hji
    rw [hj] at hi; cases v <;> simp at hi
  · rw [List.getElem?_set_ne hji]; exact h i hi

theorem zeroOff_unitVec {mask : List Bool} {n : Nat} (hn : mask.length = n) {v : Bool} {j : Nat}
    (hj : mask[j]? = some v) : ZeroOff mask v (unitVec n j) :=
  zeroOff_set (zeroOff_zeros hn v) 1 hj

theorem zeroOff_map {α β : Type} [OfNat α 0] [OfNat β 0] {f : α → β} (hf : f 0 = 0) {mask : List Bool} {v : Bool}
    {pv : List α} (h : ZeroOff mask v pv) : ZeroOff mask v (pv.map f) := by
  intro i hi
  rw [List.getElem?_map, h i hi, Option.map_some, hf]

theorem isLfe_at_idxOf {L : Layout} (hL : layoutOk L = true) {nm : String} (h : nm ∈ L.names) :
    L.isLfe[L.names.idxOf nm]? = some (isLfeName nm) := by
  have hlt : L.names.idxOf nm < L.names.length := List.idxOf_lt_length_of_mem h
  rw [eq_of_beq hL, List.getElem?_map, List.getElem?_eq_getElem hlt, List.getElem_idxOf hlt]
  rfl

theorem isLfe_length {L : Layout} (hL : layoutOk L = true) : L.isLfe.length = L.names.length := by
  rw [eq_of_beq hL, List.length_map]

theorem zeroOff_assign {L : Layout} (hL : layoutOk L = true) (v : Bool) (gs : List (String × Rat)) (pv : List Rat)
    (hgs : ∀ p ∈ gs, p.1 ∈ L.names ∧ isLfeName p.1 = v) (hpv : ZeroOff L.isLfe v pv) :
    ZeroOff L.isLfe v (assignGains L.names gs pv) :=
  assignGains_ind (Q := ZeroOff L.isLfe v) gs pv
    (fun p hp _ hw => zeroOff_set hw p.2 (by rw [isLfe_at_idxOf hL (hgs p hp).1, (hgs p hp).2])) hpv

/-- `within_bounds &= is_lfe` / `&= ~is_lfe`: every candidate has the block's LFE class. -/
theorem candidates_same_class {L : Layout} {lfe : Bool} {wb : List Bool} {i : Nat}
    (h : (candidates L lfe wb)[i]? = some true) : L.isLfe[i]? = some lfe ∧ wb[i]? = some true := by
  simp only [candidates, List.getElem?_zipWith] at h
  split at h
  · rename_i w f hw hf
    simp only [Option.some.injEq, Bool.and_eq_true, beq_iff_eq] at h
    exact ⟨by rw [hf, h.2], by rw [hw, h.1]⟩
  · cases h

/-! ### `pv[~is_lfe] = gains` -/

theorem scatter_spec : ∀ (m : List Bool) (ps pv : List Rat), scatter m ps = some pv →
    ((∀ x ∈ ps, 0 ≤ x) → ∀ x ∈ pv, 0 ≤ x) ∧ sumSq pv = sumSq ps ∧ pv.length = m.length ∧ ZeroOff m false pv
  | [], [], pv, h => by
    cases h
    exact ⟨fun h => h, rfl, rfl, fun i hi => nomatch hi⟩
  | [], _ :: _, pv, h => nomatch h
  | true :: m, ps, pv, h => by
    obtain ⟨q, hq, rfl⟩ := Option.map_eq_some_iff.mp h
    obtain ⟨h1, h2, h3, h4⟩ := scatter_spec m ps q hq
    refine ⟨fun hp x hx => ?_, ?_, congrArg (· + 1) h3, fun i hi => ?_⟩
    · rcases List.mem_cons.mp hx with rfl | hx
      · exact le_refl _
      · exact h1 hp x hx
    · rw [sumSq, mul_zero, zero_add, h2]
    · cases i with
      | zero => rfl
      | succ j => exact h4 j hi
  | false :: _, [], pv, h => nomatch h
  | false :: m, p :: ps, pv, h => by
    obtain ⟨q, hq, rfl⟩ := Option.map_eq_some_iff.mp h
    obtain ⟨h1, h2, h3, h4⟩ := scatter_spec m ps q hq
    refine ⟨fun hp x hx => ?_, ?_, congrArg (· + 1) h3, fun i hi => ?_⟩
    · rcases List.mem_cons.mp hx with rfl | hx
      · exact hp x List.mem_cons_self
      · exact h1 (fun y hy => hp y (List.mem_cons_of_mem _ hy)) x hx
    · rw [sumSq, sumSq, h2]
    · cases i with
      | zero => cases hi
      | succ j => exact h4 j hi

/-! ### the rule loop and the label loop -/

theorem mappingRule_apply_some {r : MappingRule} {il l : String} {L : Layout} {gs : List (String × Rat)}
    (h : r.apply il l L = some gs) : r.gains = gs ∧ r.label = l ∧ ∀ p ∈ gs, p.1 ∈ L.names := by
  unfold MappingRule.apply at h
  split_ifs at h with _ _ hl hall
  cases h
  exact ⟨rfl, (by simpa using hl : l = r.label).symm,
    fun p hp => by simpa using List.all_eq_true.mp hall p hp⟩

theorem firstRule_some {il l : String} {L : Layout} {gs : List (String × Rat)} :
    ∀ {R : List MappingRule}, firstRule il l L R = some gs →
      ∃ r ∈ R, r.gains = gs ∧ r.label = l ∧ ∀ p ∈ gs, p.1 ∈ L.names
  | [], h => by simp [firstRule] at h
  | r :: rs, h => by
    simp only [firstRule] at h
    split at h
    · rename_i g hg
      cases h
      exact ⟨r, List.mem_cons_self, mappingRule_apply_some hg⟩
    · obtain ⟨r', hr', h'⟩ := firstRule_some h
      exact ⟨r', List.mem_cons_of_mem _ hr', h'⟩

theorem labelMatch_some {L : Layout} (hL : layoutOk L = true) {lfe : Bool} {idx : Nat} :
    ∀ {ls : List String}, labelMatch L lfe ls = some idx → L.isLfe[idx]? = some lfe
  | [], h => by simp [labelMatch] at h
  | l :: ls, h => by
    simp only [labelMatch] at h
    split at h
    · rename_i hc
      have hi := isLfe_at_idxOf hL (List.contains_iff_mem.mp hc)
      split at h
      · rename_i hf
        cases h
        rw [List.getD_eq_getElem?_getD, hi, Option.getD_some, beq_iff_eq] at hf
        rw [hi, hf]
      · exact labelMatch_some hL h
    · exact labelMatch_some hL h

/-! ### what each exit returns, and what holds there -/

section exits
variable {R : List MappingRule} {P : List (String × String)} {L : Layout} {b : Block} {g : Geo}

/-- Facts established at each exit: non-negative, Σ² ≤ 1 + 2⁻⁴⁰ (both under `pok`, the assumption on the panner
    result), zero outside the block's LFE class (under `cons`, pack consistency).  The two hypotheses are bare `Prop`
    parameters: an exit that needs neither has the facts for any `cons` / `pok`, and the concrete model takes `pok := True`. -/
structure ExitFacts (L : Layout) (lfe : Bool) (pv : List Rat) (cons pok : Prop) : Prop where
  nonneg : pok → ∀ x ∈ pv, 0 ≤ x
  power : pok → sumSq pv ≤ slack
  lfe : cons → ZeroOff L.isLfe lfe pv
  len : pv.length = L.names.length

theorem ExitFacts.unitVec (hL : layoutOk L = true) {lfe : Bool} {i : Nat} (hi : L.isLfe[i]? = some lfe)
    (cons pok : Prop) : ExitFacts L lfe (unitVec L.names.length i) cons pok :=
  ⟨fun _ => nonneg_unitVec _ _, fun _ => le_trans (sumSq_unitVec_le _ _) slack_ge_one,
    fun _ => zeroOff_unitVec (isLfe_length hL) hi, length_unitVec _ _⟩

theorem ExitFacts.zeros (hL : layoutOk L = true) (lfe : Bool) (cons pok : Prop) :
    ExitFacts L lfe (zeros L.names.length) cons pok :=
  ⟨fun _ => nonneg_zeros _, fun _ => (sumSq_zeros _).trans_le (le_trans (by decide) slack_ge_one),
    fun _ => zeroOff_zeros (isLfe_length hL) lfe, length_zeros _⟩

theorem ruleStage_facts (hR : ∀ r ∈ R, ruleOk r = true) (hL : layoutOk L = true) {pv : List Rat}
    (h : ruleStage R P L b = .ok (some pv)) (pok : Prop) :
    ExitFacts L (isLfeChannel b) pv (PackConsistent P b) pok := by
  unfold ruleStage at h
  split at h
  · cases h
  · cases h
  · rename_i il hil
    split at h
    · cases h
    · rename_i l ls hlab
      split at h
      · rename_i gs hgs
        obtain ⟨r, hr, rfl, hlbl, hnames⟩ := firstRule_some hgs
        have hok := hR r hr
        simp only [ruleOk, Bool.and_eq_true, List.all_eq_true, decide_eq_true_eq, beq_iff_eq] at hok
        obtain ⟨⟨hnn, hpow⟩, hsep⟩ := hok
        cases h
        refine ⟨fun _ => nonneg_assign _ _ _ hnn (nonneg_zeros _), fun _ => ?_, fun hc => ?_,
          (length_assign _ _ _).trans (length_zeros _)⟩
        · have := sumSq_assign_le L.names r.gains (zeros L.names.length)
          rw [sumSq_zeros] at this; linarith
        · have hv : isLfeName r.label = isLfeChannel b := by
            rw [hlbl]; exact hc il hil l (by rw [hlab]; rfl)
          exact zeroOff_assign hL _ _ _ (fun p hp => ⟨hnames p hp, by rw [hsep p hp, hv]⟩)
            (zeroOff_zeros (isLfe_length hL) _)
      · cases h

/-- The two early exits: the first applicable mapping rule, else the first label that names a loudspeaker of the
    block's LFE class. -/
theorem earlyExit_some {e : Exit} {pv : List Rat} (h : earlyExit R P L b = .ok (some (e, pv))) :
    (e = .rule ∧ ruleStage R P L b = .ok (some pv)) ∨
    (e = .label ∧ ∃ idx, labelMatch L (isLfeChannel b) b.labels = some idx ∧ pv = unitVec L.names.length idx) := by
  unfold earlyExit at h
  split at h
  · cases h
  · rename_i pv' hrs
    cases h
    exact Or.inl ⟨rfl, hrs⟩
  · split at h
    · rename_i idx hm
      cases h
      exact Or.inr ⟨rfl, idx, hm, rfl⟩
    · cases h

theorem earlyExit_facts (hR : ∀ r ∈ R, ruleOk r = true) (hL : layoutOk L = true) {e : Exit} {pv : List Rat}
    (h : earlyExit R P L b = .ok (some (e, pv))) (pok : Prop) :
    ExitFacts L (isLfeChannel b) pv (PackConsistent P b) pok := by
  rcases earlyExit_some h with ⟨_, hrs⟩ | ⟨_, idx, hm, rfl⟩
  · exact ruleStage_facts hR hL hrs pok
  · exact .unitVec hL (labelMatch_some hL hm) _ _

/-- The exits after the label match that do not consult the panner: the closest loudspeaker within bounds (`cl`:
    `closest_channel_index`, `none` where it is not called), an LFE channel sent to LFE1, an LFE channel discarded. -/
def FixedExit (L : Layout) (lfe : Bool) (cl : Option Nat) (e : Exit) (pv : List Rat) : Prop :=
  (e = .closest ∧ ∃ c, cl = some c ∧ pv = unitVec L.names.length c) ∨
  (e = .lfeToLfe1 ∧ lfe = true ∧ "LFE1" ∈ L.names ∧ pv = unitVec L.names.length (L.names.idxOf "LFE1")) ∨
  (e = .lfeDiscarded ∧ lfe = true ∧ pv = zeros L.names.length)

theorem FixedExit.facts (hL : layoutOk L = true) {lfe : Bool} {cl : Option Nat} {e : Exit} {pv : List Rat}
    (hcl : ∀ c, cl = some c → L.isLfe[c]? = some lfe) (h : FixedExit L lfe cl e pv) (cons pok : Prop) :
    ExitFacts L lfe pv cons pok := by
  rcases h with ⟨_, c, hc, rfl⟩ | ⟨_, rfl, h1, rfl⟩ | ⟨_, _, rfl⟩
  · exact .unitVec hL (hcl c hc) _ _
  · exact .unitVec hL (isLfe_at_idxOf hL h1) _ _
  · exact .zeros hL _ _ _

theorem lateExit_ok {lfe : Bool} {e : Exit} {pv : List Rat} (h : lateExit L lfe g = .ok (e, pv)) :
    FixedExit L lfe (if (candidates L lfe g.withinBounds).any id then g.closest else none) e pv ∨
    (e = .pointSource ∧ lfe = false ∧ scatter L.isLfe g.psp = some pv) := by
  unfold lateExit at h
  simp only at h
  split at h
  · rename_i c hc
    cases h
    exact Or.inl (Or.inl ⟨rfl, c, hc, rfl⟩)
  · split at h
    · rename_i hlfe
      split at h
      · rename_i h1
        cases h
        exact Or.inl (Or.inr (Or.inl ⟨rfl, hlfe, List.contains_iff_mem.mp h1, rfl⟩))
      · cases h
        exact Or.inl (Or.inr (Or.inr ⟨rfl, hlfe, rfl⟩))
    · rename_i hlfe
      split at h
      · rename_i q hq
        cases h
        exact Or.inr ⟨rfl, by simpa using hlfe, hq⟩
      · cases h

theorem handleNoGain_ok {r : Exit × List Rat} (h : handleNoGain R P L b g = .ok r) :
    earlyExit R P L b = .ok (some r) ∨ lateExit L (isLfeChannel b) g = .ok r := by
  unfold handleNoGain at h
  split at h
  · cases h
  · split at h
    · cases h
    · rename_i r' hr
      cases h
      exact Or.inl hr
    · exact Or.inr h

/-- `hcl` and the last argument of `ExitFacts` are the two halves of `GeoOk L b g` -/
theorem handleNoGain_facts (hR : ∀ r ∈ R, ruleOk r = true) (hL : layoutOk L = true)
    (hcl : ∀ c, g.closest = some c → (candidates L (isLfeChannel b) g.withinBounds)[c]? = some true)
    {e : Exit} {pv : List Rat} (h : handleNoGain R P L b g = .ok (e, pv)) :
    ExitFacts L (isLfeChannel b) pv (PackConsistent P b) ((∀ x ∈ g.psp, 0 ≤ x) ∧ sumSq g.psp ≤ slack) := by
  rcases handleNoGain_ok h with he | hl
  · exact earlyExit_facts hR hL he _
  · rcases lateExit_ok hl with hf | ⟨_, hlfe, hq⟩
    · exact hf.facts hL
        (fun c hc => (candidates_same_class (hcl c (Option.ite_none_right_eq_some.mp hc).2)).1) _ _
    · obtain ⟨h1, h2, h3, h4⟩ := scatter_spec _ _ _ hq
      exact ⟨fun hp => h1 hp.1, fun hp => h2 ▸ hp.2, fun _ => hlfe ▸ h4, h3.trans (isLfe_length hL)⟩

theorem handle_ok {e : Exit} {pv : List Rat} (h : handle R P L b g = .ok (e, pv)) :
    ∃ pv0, handleNoGain R P L b g = .ok (e, pv0) ∧ pv = scale b pv0 := by
  unfold handle at h
  split at h
  · cases h
  · rename_i e' pv0 h0
    cases h
    exact ⟨pv0, h0, rfl⟩

end exits

/-! ### which blocks are rejected -/

/-- an error of the early exits: `audioPackFormats` is the empty list, or the block sits in an ITU common-definition
    pack and has no speakerLabel -/
theorem earlyExit_error {R : List MappingRule} {P : List (String × String)} {L : Layout} {b : Block} {e : DsError}
    (h : earlyExit R P L b = .error e) :
    (e = .emptyPackList ∧ b.packs = some []) ∨
    (e = .noLabelInItuPack ∧ b.labels = [] ∧ ∃ il, ituLayoutOf P b = .ok (some il)) := by
  unfold earlyExit at h
  split at h
  · rename_i e' hrs
    cases h
    unfold ruleStage at hrs
    split at hrs
    · rename_i e'' hitu
      cases hrs
      left
      unfold ituLayoutOf at hitu
      split at hitu
      · cases hitu
      · rename_i ps hps
        split at hitu
        · rename_i hlast
          cases hitu
          rw [List.getLast?_eq_none_iff] at hlast
          exact ⟨rfl, by rw [hps, hlast]⟩
        · cases hitu
    · cases hrs
    · rename_i il hil
      split at hrs
      · rename_i hnil
        cases hrs
        exact Or.inr ⟨rfl, hnil, il, hil⟩
      · split at hrs <;> cases hrs
  · cases h
  · split at h <;> cases h

theorem earlyExit_ok {R : List MappingRule} {P : List (String × String)} {L : Layout} {b : Block}
    (hpacks : b.packs ≠ some []) (hlab : ∀ il, ituLayoutOf P b = .ok (some il) → b.labels ≠ []) :
    ∃ o, earlyExit R P L b = .ok o := by
  cases h : earlyExit R P L b with
  | ok o => exact ⟨o, rfl⟩
  | error e =>
    rcases earlyExit_error h with ⟨_, hp⟩ | ⟨_, hl, il, hil⟩
    · exact absurd hp hpacks
    · exact absurd hl (hlab il hil)

end Earverif.DS
