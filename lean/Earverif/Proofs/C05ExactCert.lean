/- C05 — exactness at a loudspeaker position, table side: soundness of the Bool checker `Cover.spkOk`
   (Model/PointSourceCover.lean, scaled integer arithmetic) with respect to the analytic lemmas of
   Proofs/C05Exact.lean / C05ExactList.lean on the real table coordinates.

   The integers of a check are `S = 2^K` times the real table (`castV a = smul3 S a'`: the recurring hypotheses
   `ea eb ec ed ep`).  Determinants and pan quadratics scale by `S³`, dot products by `S²`, so signs survive; every Prop
   twin of a check has its `of_scaled`.  Names: `x_sound` — the Bool check implies its Prop twin, mostly on the CAST
   integers (`tripletRejects_sound`, `noRootIn_sound`, `axisOk_sound`), for whole regions already on the real table
   (`quadRejects_sound`, `regionRejects_sound`, `regionExact_sound`, `spkOk_sound`); `x_real` — pulled back through the
   scaling to the real table (`tripletRejects_real`, `idet_real`, `axisOk_real`, `ipanPoly_real`, `idot_real`) or a plain
   cast equation (`qeval_real`, `clipQ_real`, `bilAt_real`, `winLo_real`). -/
import Earverif.Proofs.C05ExactList
import Earverif.Proofs.C05Exact
import Earverif.Proofs.C05CoverQuadCert
import Earverif.Proofs.ListLemmas

namespace Earverif.PointSource.Cover
open Earverif.PointSource
open Earverif.GainCalc (quadRoot)

theorem tripletRejects_sound (a b c p : IV) (h : tripletRejects a b c p = true) :
    TripletOut (castV a) (castV b) (castV c) (castV p) := by
  unfold tripletRejects at h
  simp only [Bool.and_eq_true, bne_iff_ne, ne_eq, Bool.or_eq_true, decide_eq_true_eq] at h
  obtain ⟨hd, hc⟩ := h
  have hdR : ((idet a b c : ℤ) : ℝ) ≠ 0 := by exact_mod_cast hd
  have key : ∀ N : ℤ, bigTI * (N * idet a b c) < -(idet a b c * idet a b c) →
      (N : ℝ) / (idet a b c : ℝ) < -(1 / 100000000000) := by
    intro N hN
    have hR : (100000000000 : ℝ) * ((N : ℝ) * (idet a b c : ℝ)) < -((idet a b c : ℝ) * (idet a b c : ℝ)) := by
      unfold bigTI at hN
      exact_mod_cast hN
    rw [← mul_div_mul_right _ _ hdR, div_lt_iff₀ (mul_self_pos.mpr hdR)]
    linarith
  refine ⟨by rw [det3_cast]; exact hdR, ?_⟩
  rw [det3_cast, det3_cast, det3_cast, det3_cast]
  rcases hc with (h1 | h1) | h1
  · exact Or.inl (key _ h1)
  · exact Or.inr (Or.inl (key _ h1))
  · exact Or.inr (Or.inr (key _ h1))

theorem qeval_real (A B C n m : ℤ) (hm : (m : ℝ) ≠ 0) :
    ((qeval (A, B, C) (n, m) : ℤ) : ℝ) =
      (m : ℝ) ^ 2 * ((A : ℝ) * ((n : ℝ) / m) ^ 2 + (B : ℝ) * ((n : ℝ) / m) + C) := by
  unfold qeval
  push_cast
  field_simp

theorem sign_of_pos_mul {X : ℤ} {p Y : ℝ} (hp : 0 < p) (h : (X : ℝ) = p * Y) : (0 ≤ X ↔ 0 ≤ Y) ∧ (X ≤ 0 ↔ Y ≤ 0) := by
  rw [← Int.cast_nonneg_iff (R := ℝ), ← Int.cast_nonpos (R := ℝ), h, mul_nonneg_iff_of_pos_left hp]
  exact ⟨Iff.rfl, fun h => nonpos_of_mul_nonpos_right h hp, fun h => mul_nonpos_of_nonneg_of_nonpos hp.le h⟩

theorem qeval_sign (k A B C n m : ℤ) (hm : 0 < m) :
    (0 ≤ k * qeval (A, B, C) (n, m) ↔ 0 ≤ (k : ℝ) * ((A : ℝ) * ((n : ℝ) / m) ^ 2 + B * ((n : ℝ) / m) + C)) ∧
      (k * qeval (A, B, C) (n, m) ≤ 0 ↔ (k : ℝ) * ((A : ℝ) * ((n : ℝ) / m) ^ 2 + B * ((n : ℝ) / m) + C) ≤ 0) := by
  have hmR : (0 : ℝ) < m := by exact_mod_cast hm
  refine sign_of_pos_mul (pow_pos hmR 2) ?_
  rw [Int.cast_mul, qeval_real A B C n m hmR.ne']
  ring

theorem vertex_sign (A B n m : ℤ) (hm : 0 < m) :
    (0 ≤ A * (2 * A * n + B * m) ↔ 0 ≤ (A : ℝ) * (2 * A * ((n : ℝ) / m) + B)) ∧
      (A * (2 * A * n + B * m) ≤ 0 ↔ (A : ℝ) * (2 * A * ((n : ℝ) / m) + B) ≤ 0) := by
  have hmR : (0 : ℝ) < m := by exact_mod_cast hm
  refine sign_of_pos_mul hmR ?_
  push_cast
  field_simp

theorem noRootIn_sound (A B C un um vn vm : ℤ) (h : noRootIn (A, B, C) (un, um) (vn, vm) = true) :
    NoRootIn (A : ℝ) B C ((un : ℝ) / um) ((vn : ℝ) / vm) := by
  unfold noRootIn at h
  simp only [Bool.and_eq_true, decide_eq_true_eq, Bool.or_eq_true] at h
  obtain ⟨⟨hum, hvm⟩, h⟩ := h
  have humR : (0 : ℝ) < um := by exact_mod_cast hum
  have hvmR : (0 : ℝ) < vm := by exact_mod_cast hvm
  rcases h with h | h
  · exact noRootIn_empty _ _ _ ((div_le_div_iff₀ hvmR humR).mpr (by exact_mod_cast h))
  by_cases hA : A = 0
  · subst hA
    have su := qeval_sign 1 0 B C un um hum
    have sv := qeval_sign 1 0 B C vn vm hvm
    simp only [one_mul, Int.cast_one] at su sv
    simp only [beq_self_eq_true, if_true, Bool.and_eq_true, Bool.or_eq_true, decide_eq_true_eq, bne_iff_ne, ne_eq] at h
    refine noRootIn_lin _ _ _ _ _ Int.cast_zero
      (h.1.imp (fun a => ⟨su.1.mp a.1, sv.1.mp a.2⟩) (fun a => ⟨su.2.mp a.1, sv.2.mp a.2⟩))
      (h.2.imp (fun a h0 => a (le_antisymm (su.2.mpr h0.le) (su.1.mpr h0.ge)))
        (fun a h0 => a (le_antisymm (sv.2.mpr h0.le) (sv.1.mpr h0.ge))))
  · have su := qeval_sign A A B C un um hum
    have sv := qeval_sign A A B C vn vm hvm
    have hA' : (A == 0) = false := by simpa using hA
    simp only [hA', Bool.false_eq_true, if_false, Bool.or_eq_true, decide_eq_true_eq, Bool.and_eq_true] at h
    have hAR : (A : ℝ) ≠ 0 := by exact_mod_cast hA
    rcases h with ((h | h) | h) | h
    · exact noRootIn_disc _ _ _ _ _ (by exact_mod_cast h)
    · exact noRootIn_straddle _ _ _ _ _ hAR (su.2.mp h.1) (sv.2.mp h.2)
    · exact noRootIn_left _ _ _ _ _ hAR (su.1.mp h.1) ((vertex_sign A B un um hum).1.mp h.2)
    · exact noRootIn_right _ _ _ _ _ hAR (sv.1.mp h.1) ((vertex_sign A B vn vm hvm).2.mp h.2)

theorem cplxOk_sound (A B C : ℤ) (h : cplxOk (A, B, C) = true) : CplxOk (A : ℝ) B C := by
  unfold cplxOk at h
  simp only [Bool.or_eq_true, beq_iff_eq, decide_eq_true_eq] at h
  rcases h with (h | h) | h
  · left; exact_mod_cast h
  · right; left; exact_mod_cast h
  · right; right
    rw [bigE_cast]
    exact_mod_cast h

/-- the selection for the quadratic `c` only returns clips of roots in `[xl, xh]` -/
def AxisIn (c : ℝ × ℝ × ℝ) (xl xh : ℝ) : Prop :=
  CplxOk c.1 c.2.1 c.2.2 ∧ NoRootIn c.1 c.2.1 c.2.2 (-eps) xl ∧ NoRootIn c.1 c.2.1 c.2.2 xh (1 + eps)

def castC (c : ℤ × ℤ × ℤ) : ℝ × ℝ × ℝ := ((c.1 : ℝ), (c.2.1 : ℝ), (c.2.2 : ℝ))

theorem winLo_real : ((winLo.1 : ℤ) : ℝ) / ((winLo.2 : ℤ) : ℝ) = -eps := by
  unfold winLo bigEI eps; norm_num

theorem winHi_real : ((winHi.1 : ℤ) : ℝ) / ((winHi.2 : ℤ) : ℝ) = 1 + eps := by
  unfold winHi bigEI eps; norm_num

theorem axisOk_sound (c : ℤ × ℤ × ℤ) (xl xh : Q2) (h : axisOk c xl xh = true) :
    AxisIn (castC c) ((xl.1 : ℝ) / xl.2) ((xh.1 : ℝ) / xh.2) := by
  obtain ⟨A, B, C⟩ := c
  unfold axisOk at h
  simp only [Bool.and_eq_true] at h
  obtain ⟨⟨h1, h2⟩, h3⟩ := h
  refine ⟨cplxOk_sound A B C h1, ?_, ?_⟩
  · have := noRootIn_sound A B C winLo.1 winLo.2 xl.1 xl.2 h2
    rw [winLo_real] at this
    exact this
  · have := noRootIn_sound A B C xh.1 xh.2 winHi.1 winHi.2 h3
    rw [winHi_real] at this
    exact this

theorem AxisIn.of_scaled {S : ℝ} (hS : S ≠ 0) {c : ℝ × ℝ × ℝ} {xl xh : ℝ}
    (h : AxisIn (S * c.1, S * c.2.1, S * c.2.2) xl xh) : AxisIn c xl xh :=
  ⟨h.1.of_scaled hS, h.2.1.of_scaled, h.2.2.of_scaled⟩

theorem AxisIn.mem {c : ℝ × ℝ × ℝ} {xl xh : ℝ} (h : AxisIn c xl xh) (x : ℝ) (hx : quadRoot c = some x) :
    clip01 xl ≤ x ∧ x ≤ clip01 xh := by
  obtain ⟨r, h1, h2, rfl⟩ := quadRoot_mem c.1 c.2.1 c.2.2 xl xh h.1 h.2.1 h.2.2 x hx
  exact ⟨clip01_mono h1, clip01_mono h2⟩

theorem AxisIn.none {c : ℝ × ℝ × ℝ} {xl xh : ℝ} (h : AxisIn c xl xh) (hlt : xh < xl) : quadRoot c = none :=
  quadRoot_none c.1 c.2.1 c.2.2 xl xh h.1 h.2.1 h.2.2 hlt

theorem panPoly_cast (a b c d p : IV) :
    QuadRegion.panPoly (castV a) (castV b) (castV c) (castV d) (castV p) = castC (ipanPoly a b c d p) := by
  unfold QuadRegion.panPoly ipanPoly castC
  simp only [sub3_cast, cross3_cast, add3_cast, dot3_cast]

theorem panPoly_smul (S : ℝ) (a b c d p : Vec3 ℝ) :
    QuadRegion.panPoly (smul3 S a) (smul3 S b) (smul3 S c) (smul3 S d) (smul3 S p) =
      (S ^ 3 * (QuadRegion.panPoly a b c d p).1, S ^ 3 * (QuadRegion.panPoly a b c d p).2.1,
        S ^ 3 * (QuadRegion.panPoly a b c d p).2.2) := by
  simp only [QuadRegion.panPoly, dot3, cross3, add3, sub3, smul3]
  refine Prod.ext ?_ (Prod.ext ?_ ?_) <;> simp only <;> ring

theorem ipanPoly_real {S : ℝ} {a b c d p : IV} {a' b' c' d' p' : Vec3 ℝ} (ea : castV a = smul3 S a')
    (eb : castV b = smul3 S b') (ec : castV c = smul3 S c') (ed : castV d = smul3 S d') (ep : castV p = smul3 S p') :
    castC (ipanPoly a b c d p) = (S ^ 3 * (QuadRegion.panPoly a' b' c' d' p').1,
      S ^ 3 * (QuadRegion.panPoly a' b' c' d' p').2.1, S ^ 3 * (QuadRegion.panPoly a' b' c' d' p').2.2) := by
  rw [← panPoly_cast, ea, eb, ec, ed, ep, panPoly_smul]

theorem axisOk_real {T : ℝ} (hT : T ≠ 0) {I : ℤ × ℤ × ℤ} {P : ℝ × ℝ × ℝ} (hI : castC I = (T * P.1, T * P.2.1, T * P.2.2))
    {xl xh : Q2} (h : axisOk I xl xh = true) : AxisIn P ((xl.1 : ℝ) / xl.2) ((xh.1 : ℝ) / xh.2) := by
  have := axisOk_sound _ _ _ h
  rw [hI] at this
  exact this.of_scaled hT

theorem ltQ_real (s t : Q2) (hs : 0 < s.2) (ht : 0 < t.2) (h : ltQ s t = true) : (s.1 : ℝ) / s.2 < (t.1 : ℝ) / t.2 := by
  unfold ltQ at h
  simp only [decide_eq_true_eq] at h
  have hs' : (0 : ℝ) < s.2 := by exact_mod_cast hs
  have ht' : (0 : ℝ) < t.2 := by exact_mod_cast ht
  rw [div_lt_div_iff₀ hs' ht']
  exact_mod_cast h

theorem clipQ_pos (t : Q2) (ht : 0 < t.2) : 0 < (clipQ t).2 := by
  unfold clipQ
  split
  · decide
  · split
    · decide
    · exact ht

theorem clipQ_real (t : Q2) (ht : 0 < t.2) : (((clipQ t).1 : ℤ) : ℝ) / ((clipQ t).2 : ℤ) = clip01 ((t.1 : ℝ) / t.2) := by
  have ht' : (0 : ℝ) < t.2 := by exact_mod_cast ht
  unfold clipQ
  split
  · rename_i h
    rw [clip01_of_nonpos (div_nonpos_of_nonpos_of_nonneg (by exact_mod_cast h.le) ht'.le)]; simp
  · split
    · rename_i h
      rw [clip01_of_one_le ((one_le_div ht').mpr (by exact_mod_cast h.le))]; simp
    · rename_i h0 h1
      rw [clip01_of_mem (div_nonneg (by exact_mod_cast not_lt.mp h0) ht'.le)
        ((div_le_one ht').mpr (by exact_mod_cast not_lt.mp h1))]

theorem bilAt_real (al be ga de : ℤ) (x y : Q2) (hx : 0 < x.2) (hy : 0 < y.2) :
    ((bilAt al be ga de x y : ℤ) : ℝ) =
      (x.2 : ℝ) * y.2 * ((1 - (x.1 : ℝ) / x.2) * (1 - (y.1 : ℝ) / y.2) * al + (x.1 : ℝ) / x.2 * (1 - (y.1 : ℝ) / y.2) * be +
        (x.1 : ℝ) / x.2 * ((y.1 : ℝ) / y.2) * ga + (1 - (x.1 : ℝ) / x.2) * ((y.1 : ℝ) / y.2) * de) := by
  have hx' : (x.2 : ℝ) ≠ 0 := by exact_mod_cast hx.ne'
  have hy' : (y.2 : ℝ) ≠ 0 := by exact_mod_cast hy.ne'
  unfold bilAt
  push_cast
  field_simp

theorem dot3_smul_smul (S : ℝ) (a b : Vec3 ℝ) : dot3 (smul3 S a) (smul3 S b) = S ^ 2 * dot3 a b := by
  simp only [dot3, smul3]; ring

theorem idot_real {S : ℝ} {a p : IV} {a' p' : Vec3 ℝ} (ea : castV a = smul3 S a') (ep : castV p = smul3 S p') :
    ((idot a p : ℤ) : ℝ) = S ^ 2 * dot3 a' p' := by
  rw [← dot3_cast, ea, ep, dot3_smul_smul]

theorem bilAt_corner {T al' be' ga' de' : ℝ} (hT : 0 < T) {al be ga de : ℤ} (ha : (al : ℝ) = T * al') (hb : (be : ℝ) = T * be')
    (hc : (ga : ℝ) = T * ga') (hd : (de : ℝ) = T * de') {x y : Q2} (hx : 0 < x.2) (hy : 0 < y.2)
    (h : bilAt al be ga de (clipQ x) (clipQ y) ≤ 0) :
    (1 - clip01 ((x.1 : ℝ) / x.2)) * (1 - clip01 ((y.1 : ℝ) / y.2)) * al' +
      clip01 ((x.1 : ℝ) / x.2) * (1 - clip01 ((y.1 : ℝ) / y.2)) * be' +
      clip01 ((x.1 : ℝ) / x.2) * clip01 ((y.1 : ℝ) / y.2) * ga' +
      (1 - clip01 ((x.1 : ℝ) / x.2)) * clip01 ((y.1 : ℝ) / y.2) * de' ≤ 0 := by
  have hcx := clipQ_pos x hx
  have hcy := clipQ_pos y hy
  have hcx' : (0 : ℝ) < (clipQ x).2 := by exact_mod_cast hcx
  have hcy' : (0 : ℝ) < (clipQ y).2 := by exact_mod_cast hcy
  refine (sign_of_pos_mul (p := ((clipQ x).2 : ℝ) * (clipQ y).2 * T) (by positivity) ?_).2.mp h
  rw [bilAt_real _ _ _ _ _ _ hcx hcy, clipQ_real x hx, clipQ_real y hy, ha, hb, hc, hd]
  ring

theorem noRootIn_pos {c : ℤ × ℤ × ℤ} {u v : Q2} (h : noRootIn c u v = true) : 0 < u.2 ∧ 0 < v.2 := by
  unfold noRootIn at h
  simp only [Bool.and_eq_true, decide_eq_true_eq] at h
  exact h.1

theorem axisOk_pos {c : ℤ × ℤ × ℤ} {xl xh : Q2} (h : axisOk c xl xh = true) : 0 < xl.2 ∧ 0 < xh.2 := by
  unfold axisOk at h
  simp only [Bool.and_eq_true] at h
  exact ⟨(noRootIn_pos h.1.2).2, (noRootIn_pos h.2).1⟩

/-- **a QuadRegion whose check `quadRejects` passed answers `None`** (with the closed-form root selection) -/
theorem quadRejects_sound (S : ℝ) (hS : 0 < S) (a b c d p : IV) (q0 q1 q2 q3 p' : Vec3 ℝ) (o : List Nat)
    (ho : isPermOfRange o 4 = true)
    (ea : castV a = smul3 S (ocorner q0 q1 q2 q3 o 0)) (eb : castV b = smul3 S (ocorner q0 q1 q2 q3 o 1))
    (ec : castV c = smul3 S (ocorner q0 q1 q2 q3 o 2)) (ed : castV d = smul3 S (ocorner q0 q1 q2 q3 o 3))
    (ep : castV p = smul3 S p') (h : QHint) (hq : quadRejects a b c d p h = true) :
    (⟨[q0, q1, q2, q3], o⟩ : QuadRegion ℝ).handle
      (quadRoot ((⟨[q0, q1, q2, q3], o⟩ : QuadRegion ℝ).polys p').1)
      (quadRoot ((⟨[q0, q1, q2, q3], o⟩ : QuadRegion ℝ).polys p').2) p' = none := by
  rw [polys_eq]
  simp only
  generalize hxr : quadRoot (QuadRegion.panPoly _ _ _ _ p') = X
  generalize hyr : quadRoot (QuadRegion.panPoly _ _ _ _ p') = Y
  unfold quadRejects at hq
  simp only [Bool.or_eq_true, Bool.and_eq_true, decide_eq_true_eq] at hq
  have hS3 : S ^ 3 ≠ 0 := by positivity
  have hIx := ipanPoly_real ea eb ec ed ep
  have hIy := ipanPoly_real eb ec ed ea ep
  rcases hq with (⟨hx, hlt⟩ | ⟨hy, hlt⟩) | hbox
  · have hax := axisOk_real hS3 hIx hx
    have hpos := axisOk_pos hx
    obtain rfl := hxr.symm.trans (hax.none (ltQ_real _ _ hpos.2 hpos.1 hlt))
    rfl
  · have hay := axisOk_real hS3 hIy hy
    have hpos := axisOk_pos hy
    obtain rfl := hyr.symm.trans (hay.none (ltQ_real _ _ hpos.2 hpos.1 hlt))
    cases X <;> rfl
  · obtain ⟨⟨⟨⟨⟨⟨⟨⟨⟨hx, hy⟩, pxl⟩, pxh⟩, pyl⟩, pyh⟩, c00⟩, c01⟩, c10⟩, c11⟩ := hbox
    have hax := axisOk_real hS3 hIx hx
    have hay := axisOk_real hS3 hIy hy
    have hS2 : 0 < S ^ 2 := by positivity
    match X, Y, hxr, hyr with
    | none, _, _, _ => rfl
    | some _, none, _, _ => rfl
    | some x, some y, hxr, hyr =>
      obtain ⟨x0, x1⟩ := hax.mem x hxr
      obtain ⟨y0, y1⟩ := hay.mem y hyr
      apply quad_handle_none_of_box q0 q1 q2 q3 o ho p' x y _ _ _ _ x0 x1 y0 y1
      intro X hX Y hY
      simp only [List.mem_cons, List.mem_nil_iff, or_false] at hX hY
      rcases hX with rfl | rfl <;> rcases hY with rfl | rfl
      · exact bilAt_corner hS2 (idot_real ea ep) (idot_real eb ep) (idot_real ec ep) (idot_real ed ep) pxl pyl c00
      · exact bilAt_corner hS2 (idot_real ea ep) (idot_real eb ep) (idot_real ec ep) (idot_real ed ep) pxl pyh c01
      · exact bilAt_corner hS2 (idot_real ea ep) (idot_real eb ep) (idot_real ec ep) (idot_real ed ep) pxh pyl c10
      · exact bilAt_corner hS2 (idot_real ea ep) (idot_real eb ep) (idot_real ec ep) (idot_real ed ep) pxh pyh c11

theorem rootIs_sound {T : ℝ} (hT : T ≠ 0) {I : ℤ × ℤ × ℤ} {P : ℝ × ℝ × ℝ} (hI : castC I = (T * P.1, T * P.2.1, T * P.2.2))
    (r0 : ℤ) (h : rootIs I r0 = true) : quadRoot P = some (r0 : ℝ) ∧ (r0 = 0 ∨ r0 = 1) := by
  unfold rootIs at h
  simp only [Bool.and_eq_true, Bool.or_eq_true, beq_iff_eq, bne_iff_ne, ne_eq] at h
  obtain ⟨⟨⟨⟨hr01, hroot⟩, hne⟩, hlo⟩, hhi⟩ := h
  refine ⟨?_, hr01⟩
  obtain ⟨A, B, C⟩ := P
  obtain ⟨Ai, Bi, Ci⟩ := I
  simp only [castC, Prod.mk.injEq] at hI
  obtain ⟨hA, hB, hC⟩ := hI
  have hlo' := noRootIn_sound Ai Bi Ci winLo.1 winLo.2 r0 1 hlo
  have hhi' := noRootIn_sound Ai Bi Ci r0 1 winHi.1 winHi.2 hhi
  rw [winLo_real] at hlo'
  rw [winHi_real] at hhi'
  simp only [Int.cast_one, div_one] at hlo' hhi'
  rw [hA, hB, hC] at hlo' hhi'
  have hrootR : ((qeval (Ai, Bi, Ci) (r0, 1) : ℤ) : ℝ) = 0 := by exact_mod_cast hroot
  rw [qeval_real Ai Bi Ci r0 1 (by norm_num)] at hrootR
  simp only [Int.cast_one, div_one, one_pow, one_mul] at hrootR
  rw [hA, hB, hC] at hrootR
  have hrR : A * (r0 : ℝ) ^ 2 + B * (r0 : ℝ) + C = 0 := by
    have : T * (A * (r0 : ℝ) ^ 2 + B * (r0 : ℝ) + C) = 0 := by linear_combination hrootR
    exact (mul_eq_zero.mp this).resolve_left hT
  have h01 : (0 : ℝ) ≤ r0 ∧ (r0 : ℝ) ≤ 1 := by
    rcases hr01 with rfl | rfl <;> norm_num
  apply quadRoot_exact A B C r0 h01.1 h01.2 hrR _ hlo'.of_scaled hhi'.of_scaled
  rintro ⟨rfl, rfl, rfl⟩
  simp only [mul_zero] at hA hB hC
  rcases hne with (h | h) | h
  · exact h (by exact_mod_cast hA)
  · exact h (by exact_mod_cast hB)
  · exact h (by exact_mod_cast hC)

theorem quadExactAt_cases {a b c d p : IV} {kk : Nat} (h : quadExactAt a b c d p kk = true) :
    0 < idot p p ∧ ∃ x0 y0 : ℤ, ((x0 : ℝ), (y0 : ℝ), kk) ∈ [((0 : ℝ), (0 : ℝ), 0), (1, 0, 1), (1, 1, 2), (0, 1, 3)] ∧
      rootIs (ipanPoly a b c d p) x0 = true ∧ rootIs (ipanPoly b c d a p) y0 = true := by
  unfold quadExactAt at h
  simp only [Bool.and_eq_true, decide_eq_true_eq] at h
  refine ⟨h.1, ?_⟩
  match kk, h.2 with
  | 0, he =>
    simp only [Bool.and_eq_true] at he
    exact ⟨0, 0, by simp, he.1.2, he.2⟩
  | 1, he =>
    simp only [Bool.and_eq_true] at he
    exact ⟨1, 0, by simp, he.1.2, he.2⟩
  | 2, he =>
    simp only [Bool.and_eq_true] at he
    exact ⟨1, 1, by simp, he.1.2, he.2⟩
  | 3, he =>
    simp only [Bool.and_eq_true] at he
    exact ⟨0, 1, by simp, he.1.2, he.2⟩
  | n + 4, he => exact absurd he (by simp)

theorem tripletRejects_real {S : ℝ} (hS : 0 < S) {a b c p : IV} {a' b' c' p' : Vec3 ℝ} (ea : castV a = smul3 S a')
    (eb : castV b = smul3 S b') (ec : castV c = smul3 S c') (ep : castV p = smul3 S p')
    (h : tripletRejects a b c p = true) : Triplet.handle (a', b', c') p' = none := by
  have := tripletRejects_sound a b c p h
  rw [ea, eb, ec, ep] at this
  exact triplet_none_of_out (this.of_scaled hS)

theorem idet_real {S : ℝ} {a b c : IV} {a' b' c' : Vec3 ℝ} (ea : castV a = smul3 S a')
    (eb : castV b = smul3 S b') (ec : castV c = smul3 S c') (h : idet a b c ≠ 0) : det3 (a', b', c') ≠ 0 := by
  have : det3 (castV a, castV b, castV c) ≠ 0 := by rw [det3_cast]; exact_mod_cast h
  rw [ea, eb, ec, det3_smul] at this
  intro h0
  exact this (by rw [h0, mul_zero])

/-- the roots handed to a region by `pspHandle` / `handleSel quadRoot` at the direction `p` -/
def RootsFor (reg : Region ℝ) (roots : Option ℝ × Option ℝ) (p : Vec3 ℝ) : Prop :=
  ∀ ch q, reg = .quad ch q → roots = (quadRoot (q.polys p).1, quadRoot (q.polys p).2)

/-- what the checks match on, in real terms: the positions, the model region, the scaled integers as `2^K •` the real ones -/
theorem toRegion_triplet_scaled {K : Nat} {r : RawRegion} {reg : Region ℝ} (hk : r.kind = 0) (hreg : r.toRegion = some reg)
    {a b c : IV} (hm : r.pos.mapM (scaleP3 K) = some [a, b, c]) :
    ∃ x0 x1 x2, r.pos = [x0, x1, x2] ∧ reg = .triplet r.ch (p3 x0, p3 x1, p3 x2) ∧
      castV a = smul3 ((2 : ℝ) ^ K) (p3 x0) ∧ castV b = smul3 ((2 : ℝ) ^ K) (p3 x1) ∧
      castV c = smul3 ((2 : ℝ) ^ K) (p3 x2) := by
  have hget := mapM_scale_getD K r.pos _ hm
  obtain ⟨x0, x1, x2, hpos⟩ := List.length_eq_three.mp (mapM_some_length hm).symm
  simp only [RawRegion.toRegion, hk, hpos, Option.some.injEq] at hreg
  rw [hpos] at hget
  exact ⟨x0, x1, x2, hpos, hreg.symm, hget 0, hget 1, hget 2⟩

theorem toRegion_quad_scaled {K : Nat} {r : RawRegion} {reg : Region ℝ} (hk : r.kind = 2) (hreg : r.toRegion = some reg)
    {w0 w1 w2 w3 : IV} (hm : r.pos.mapM (scaleP3 K) = some [w0, w1, w2, w3]) :
    ∃ x0 x1 x2 x3, r.pos = [x0, x1, x2, x3] ∧ reg = .quad r.ch ⟨[p3 x0, p3 x1, p3 x2, p3 x3], r.order⟩ ∧
      ∀ i, castV ([w0, w1, w2, w3].getD i (0, 0, 0)) =
        smul3 ((2 : ℝ) ^ K) ([(p3 x0 : Vec3 ℝ), p3 x1, p3 x2, p3 x3].getD i zero3) := by
  have hget := mapM_scale_getD K r.pos _ hm
  obtain ⟨x0, x1, x2, x3, hpos⟩ := List.length_eq_four.mp (mapM_some_length hm).symm
  simp only [RawRegion.toRegion, hk, hpos, Option.some.injEq, List.map_cons, List.map_nil] at hreg
  rw [hpos] at hget
  exact ⟨x0, x1, x2, x3, hpos, hreg.symm, hget⟩

/-- **a region whose check `regionRejects` passed answers `None`** at the table position `v` -/
theorem regionRejects_sound (K : Nat) (r : RawRegion) (reg : Region ℝ) (hreg : r.toRegion = some reg) (v : P3) (p : IV)
    (hp : scaleP3 K v = some p) (h : QHint) (hr : regionRejects K r p h = true) (roots : Option ℝ × Option ℝ)
    (hroots : RootsFor reg roots (p3 v)) : reg.handle roots (p3 v) = none := by
  have ep := scaleP3_real K v p hp
  obtain ⟨kind, ch, pos, centre, cdm, order⟩ := r
  unfold regionRejects at hr
  simp only at hr
  split at hr
  · rename_i _ _ a b c hm
    obtain ⟨x0, x1, x2, -, rfl, ea, eb, ec⟩ := toRegion_triplet_scaled rfl hreg hm
    simp only [Region.handle, Option.map_eq_none_iff]
    exact tripletRejects_real (by positivity) ea eb ec ep hr
  · rename_i _ _ ps hm
    simp only [RawRegion.toRegion, Option.some.injEq] at hreg
    subst hreg
    split at hr
    · rename_i ce hce
      simp only [List.all_eq_true, List.mem_range] at hr
      have hlen := mapM_some_length hm
      simp only [Region.handle]
      apply ngon_handle_eq_none_iff_fan.mpr
      intro i hi
      simp only [List.length_map] at hi ⊢
      have := hr i (by rw [hlen]; exact hi)
      simp only [fanTri, hlen] at this
      exact tripletRejects_real (by positivity) (mapM_scale_getD K pos ps hm _) (mapM_scale_getD K pos ps hm _)
        (scaleP3_real K _ _ hce) ep this
    · exact absurd hr (by simp)
  · rename_i _ _ w0 w1 w2 w3 hm
    obtain ⟨x0, x1, x2, x3, -, rfl, hget⟩ := toRegion_quad_scaled rfl hreg hm
    simp only [Bool.and_eq_true] at hr
    obtain ⟨ho, hq⟩ := hr
    have hro := hroots _ _ rfl
    simp only [Region.handle, hro]
    exact quadRejects_sound ((2 : ℝ) ^ K) (by positivity) _ _ _ _ p _ _ _ _ (p3 v) order ho (hget _) (hget _) (hget _)
      (hget _) ep h hq
  · exact absurd hr (by simp)

theorem getD_eq_of_getElem? {β : Type} (l : List β) (i : Nat) (a d : β) (h : l[i]? = some a) : l.getD i d = a :=
  getD_of_getElem? d h

/-- **a region whose check `regionExact` passed answers the unit vector of the slot** at the table position of the slot -/
theorem regionExact_sound (K : Nat) (r : RawRegion) (reg : Region ℝ) (hreg : r.toRegion = some reg) (s : Nat) (v : P3)
    (hv : r.pos[s]? = some v) (p : IV) (hp : scaleP3 K v = some p) (hlen : r.pos.length = r.ch.length)
    (he : regionExact K r s p = true) (roots : Option ℝ × Option ℝ) (hroots : RootsFor reg roots (p3 v)) :
    reg.handle roots (p3 v) = some (unitV r.ch.length s) := by
  have ep := scaleP3_real K v p hp
  obtain ⟨kind, ch, pos, centre, cdm, order⟩ := r
  simp only at hv hlen ⊢
  unfold regionExact at he
  simp only at he
  split at he
  · -- Triplet: `triplet_exact_at_vertex`
    rename_i _ _ a b c hm
    obtain ⟨x0, x1, x2, hpos, rfl, ea, eb, ec⟩ := toRegion_triplet_scaled rfl hreg hm
    simp only at hpos
    subst hpos
    simp only [Bool.and_eq_true, bne_iff_ne, ne_eq] at he
    have hdet : det3 ((p3 x0 : Vec3 ℝ), p3 x1, p3 x2) ≠ 0 := idet_real ea eb ec he.1
    obtain ⟨e1, e2, e3⟩ := triplet_exact_at_vertex _ hdet
    obtain ⟨v1, v2, v3⟩ := vecList_unit
    simp only [List.length_cons, List.length_nil] at hlen
    simp only [Region.handle, ← hlen]
    match s, hv with
    | 0, hv =>
      simp only [List.getElem?_cons_zero, Option.some.injEq] at hv; subst hv
      rw [e1, Option.map_some, v1]
    | 1, hv =>
      simp only [List.getElem?_cons_succ, List.getElem?_cons_zero, Option.some.injEq] at hv; subst hv
      rw [e2, Option.map_some, v2]
    | 2, hv =>
      simp only [List.getElem?_cons_succ, List.getElem?_cons_zero, Option.some.injEq] at hv; subst hv
      rw [e3, Option.map_some, v3]
    | n + 3, hv => simp at hv
  · -- VirtualNgon: earlier fan triangles reject, the first one with the vertex is exact (`ngon_exact`)
    rename_i _ _ ps hm
    simp only [RawRegion.toRegion, Option.some.injEq] at hreg
    subst hreg
    split at he
    · rename_i ce hce
      have hpl := mapM_some_length hm
      simp only [Bool.and_eq_true, beq_iff_eq] at he
      obtain ⟨⟨hcdm, _⟩, he⟩ := he
      split at he
      · rename_i j hfind
        obtain ⟨hpj, hjr, _⟩ := List.find?_range_eq_some.mp hfind
        have hjn : j < pos.length := by rw [← hpl]; exact List.mem_range.mp hjr
        simp only [Bool.and_eq_true, List.all_eq_true, List.mem_range, bne_iff_ne, ne_eq, decide_eq_true_eq] at he
        obtain ⟨⟨⟨⟨hpre, hdet⟩, ho1⟩, ho2⟩, hne⟩ := he
        simp only [fanTri, hpl] at hpre hdet
        rw [hpl] at ho1 ho2 hne hpj hcdm
        have hgv : (pos.map (p3 (α := ℝ))).getD s zero3 = p3 v := getD_map_p3 pos s v hv
        simp only [Region.handle]
        have := ngon_exact ⟨pos.map p3, p3 centre, cdm.map OfF2.ofF2, order⟩ (p3 v) j s (by simpa using hjn)
          (by simpa using hcdm)
          (by
            intro i hi
            simp only [List.length_map]
            exact tripletRejects_real (by positivity) (mapM_scale_getD K pos ps hm _) (mapM_scale_getD K pos ps hm _)
              (scaleP3_real K _ _ hce) ep (hpre i hi))
          (by
            simp only [List.length_map]
            exact idet_real (mapM_scale_getD K pos ps hm _) (mapM_scale_getD K pos ps hm _)
              (scaleP3_real K _ _ hce) hdet)
          (by simpa using ho1) (by simpa using ho2) (by simpa using hne)
          (by
            simp only [List.length_map]
            simp only [Bool.or_eq_true, beq_iff_eq] at hpj
            rcases hpj with h | h
            · left; exact ⟨h, by rw [h, hgv]⟩
            · right; exact ⟨h, by rw [h, hgv]⟩)
        rw [this]
        simp only [List.length_map, hlen]
      · exact absurd he (by simp)
    · exact absurd he (by simp)
  · -- QuadRegion: both selected pan values are the corner's (`rootIs_sound`), then `quad_handle_corner`
    rename_i _ _ w0 w1 w2 w3 hm
    obtain ⟨x0, x1, x2, x3, hpos, rfl, hget⟩ := toRegion_quad_scaled rfl hreg hm
    simp only at hpos
    subst hpos
    simp only [Bool.and_eq_true] at he
    obtain ⟨ho, he⟩ := he
    have hro := hroots _ _ rfl
    have hgv : ([x0, x1, x2, x3].map (p3 (α := ℝ))).getD s zero3 = p3 v := getD_map_p3 _ s v hv
    simp only [List.map_cons, List.map_nil] at hgv
    simp only [List.length_cons, List.length_nil] at hlen
    split at he
    · rename_i kk hfind
      obtain ⟨hpk, hkr, _⟩ := List.find?_range_eq_some.mp hfind
      simp only [beq_iff_eq] at hpk
      obtain ⟨hpp, x0', y0', hmem, hx, hy⟩ := quadExactAt_cases he
      have hppR : 0 < dot3 (p3 v : Vec3 ℝ) (p3 v) := by
        have : (0 : ℝ) < ((idot p p : ℤ) : ℝ) := by exact_mod_cast hpp
        rw [← dot3_cast, ep, dot3_smul_smul] at this
        exact (pos_iff_pos_of_mul_pos this).mp (by positivity)
      have hS3 : ((2 : ℝ) ^ K) ^ 3 ≠ 0 := by positivity
      obtain ⟨rx, _⟩ := rootIs_sound hS3 (ipanPoly_real (hget _) (hget _) (hget _) (hget _) ep) x0' hx
      obtain ⟨ry, _⟩ := rootIs_sound hS3 (ipanPoly_real (hget _) (hget _) (hget _) (hget _) ep) y0' hy
      simp only [Region.handle, hro, polys_eq]
      unfold ocorner
      rw [rx, ry, quad_handle_corner _ _ _ _ order ho kk _ _ hmem (p3 v) (by rw [hpk, hgv]) hppR, hpk, ← hlen]
    · exact absurd he (by simp)
  · exact absurd he (by simp)

theorem toRegion_channels (r : RawRegion) (reg : Region ℝ) (h : r.toRegion = some reg) : reg.channels = r.ch := by
  obtain ⟨kind, ch, pos, centre, cdm, order⟩ := r
  unfold RawRegion.toRegion at h
  split at h <;> first | (simp only [Option.some.injEq] at h; subst h; rfl) | exact absurd h (by simp)

theorem rootsOf_for (regions : List (Region ℝ)) (p : Vec3 ℝ) (i : Nat) (reg : Region ℝ) (h : regions[i]? = some reg) :
    RootsFor reg (rootsOf quadRoot regions p i) p := by
  intro ch q hq
  subst hq
  simp [rootsOf, h]

theorem f2_one : (OfF2.ofF2 ((1 : Int), (0 : Int)) : ℝ) = 1 := by
  simp [OfF2.ofF2, f2Rat]

theorem downmixRows_col (l : RawLayout) (k : Nat) (hk : k < l.nInner) (hc : columnUnit l k = true) (i : Nat)
    (hi : i < l.nReal) : ((l.downmixRows (α := ℝ)).getD i []).getD k 0 = if i = k then 1 else 0 := by
  unfold columnUnit at hc
  simp only [List.all_eq_true, List.mem_range, beq_iff_eq] at hc
  have hci := hc i hi
  unfold RawLayout.downmixRows
  rw [getD_map_range, if_pos hi, getD_map_range, if_pos hk]
  by_cases hik : i = k
  · subst hik
    simp only [if_true, Option.map_eq_some_iff] at hci
    obtain ⟨e, he, he2⟩ := hci
    rw [he]
    simp only [he2, if_true]
    exact f2_one
  · rw [if_neg hik, Option.map_eq_none_iff] at hci
    rw [hci]
    simp [hik]

/-- **A loudspeaker whose check `spkOk` passed**: at its table position the inner panner (first accepting region) followed
    by the downmix answers exactly `e_k`. -/
theorem spkOk_sound (K : Nat) (l : RawLayout) (hwf : l.wellFormed = true) (k : Nat) (c : SpkCert)
    (h : spkOk K l k c = true) :
    k < l.nReal ∧ ∃ v, speakerPos l k = some v ∧ ∃ regions, l.regions.mapM (RawRegion.toRegion (α := ℝ)) = some regions ∧
      PointSourcePannerDownmix.handle (l.downmixRows (α := ℝ))
        (PointSourcePanner.handle regions l.nInner (rootsOf quadRoot regions (p3 v)) (p3 v)) = some (unitV l.nReal k) := by
  obtain ⟨regions, hregs⟩ := mapM_toRegion_of_wf l hwf
  unfold spkOk at h
  split at h
  · exact absurd h (by simp)
  · rename_i r hr
    simp only [Bool.and_eq_true, decide_eq_true_eq, beq_iff_eq, List.all_eq_true] at h
    obtain ⟨⟨⟨⟨⟨⟨⟨⟨hk, hle⟩, hcol⟩, hslot⟩, hdist⟩, hchlt⟩, hlen⟩, hpos⟩, h⟩ := h
    split at h
    · exact absurd h (by simp)
    · rename_i p hp
      cases hv : r.pos[c.slot]? with
      | none => simp [hv] at hp
      | some v =>
        simp only [hv, Option.bind_some] at hp
        simp only [Bool.and_eq_true, List.all_eq_true, List.mem_range] at h
        obtain ⟨hpre, hex⟩ := h
        refine ⟨hk, v, by rw [hpos, hv], regions, hregs, ?_⟩
        obtain ⟨reg, hreg, hto⟩ := mapM_some_getElem? hregs _ _ hr
        obtain ⟨hlt, rfl⟩ := List.getElem?_eq_some_iff.mp hreg
        have hinner : PointSourcePanner.handle regions l.nInner (rootsOf quadRoot regions (p3 v)) (p3 v) =
            some (unitV l.nInner k) := by
          rw [panner_first regions l.nInner _ (p3 v) c.region hlt (unitV r.ch.length c.slot) ?_ ?_]
          · rw [toRegion_channels r _ hto, scatter_unit l.nInner r.ch c.slot k hslot (allDistinct_nodup hdist)]
          · intro j hj
            have hrj : regions[j]? = some regions[j] := List.getElem?_eq_getElem (by omega)
            obtain ⟨rawj, hlj, htoj⟩ := mapM_some_getElem?_rev hregs _ _ hrj
            have := hpre j hj
            simp only [hlj] at this
            exact regionRejects_sound K rawj _ htoj v p hp _ this _ (rootsOf_for regions _ j _ hrj)
          · exact regionExact_sound K r _ hto c.slot v hv p hp hlen hex _ (rootsOf_for regions _ _ _ hreg)
        rw [hinner]
        simp only [PointSourcePannerDownmix.handle, Option.map_some, Option.some.injEq]
        have hkI : k < l.nInner := by omega
        have hm := matVec_unitV (l.downmixRows (α := ℝ)) l.nInner k hkI (by rw [length_downmixRows]; exact hk)
          (fun i hi => downmixRows_col l k hkI hcol i (by rw [length_downmixRows] at hi; exact hi))
        rw [hm, length_downmixRows, normalise_unitV _ _ hk]

/-- **A table whose check `exactLayoutOk` passed**: at the table position of every loudspeaker the modelled
    `configure(layout).handle` (closed-form root selection) answers exactly that loudspeaker's unit vector; for 0+2+0
    (stereo wrapper): M+030 ↦ left only, M-030 ↦ right only. -/
theorem exactLayoutOk_sound (K : Nat) (l : RawLayout) (hwf : l.wellFormed = true) (cs : List SpkCert)
    (h : exactLayoutOk K l cs = true) (k : Nat) (hk : k < nSpeakers l) :
    ∃ v, speakerPos l k = some v ∧ handleSel quadRoot l (p3 v) = some (unitV (nSpeakers l) (speakerOut l k)) := by
  unfold exactLayoutOk at h
  simp only [Bool.and_eq_true, beq_iff_eq, decide_eq_true_eq, List.all_eq_true, List.mem_range] at h
  obtain ⟨⟨⟨hlen, hle⟩, hall⟩, hst⟩ := h
  obtain ⟨hkr, v, hv, regions, hregs, hdm⟩ := spkOk_sound K l hwf k _ (hall k (by rw [hlen]; exact hk))
  refine ⟨v, hv, ?_⟩
  simp only [handleSel, RawLayout.handle, hregs, hdm]
  unfold nSpeakers speakerOut at *
  cases hs : l.stereo with
  | none => simp only
  | some lr =>
    obtain ⟨a, b⟩ := lr
    simp only [hs, Bool.and_eq_true, decide_eq_true_eq, beq_iff_eq, bne_iff_ne, ne_eq] at hst hk ⊢
    obtain ⟨⟨-, hab⟩, h5⟩ := hst
    obtain ⟨s1, s2⟩ := scatter_pair a b hab
    rw [h5]
    have hk' : k = 0 ∨ k = 1 := by omega
    rcases hk' with rfl | rfl
    · rw [stereo_unit0]; simp only [remap, Option.map_some, if_true, s1]
    · rw [stereo_unit1]; simp only [remap, Option.map_some, s2]; rfl

theorem exactTablesOk_layout (K : Nat) (ls : List RawLayout) (cs : List (List SpkCert)) (h : exactTablesOk K ls cs = true)
    (l : RawLayout) (hl : l ∈ ls) : ∃ c ∈ cs, exactLayoutOk K l c = true :=
  exists_of_all_zip h hl

end Earverif.PointSource.Cover
