/-
Module laws for the frame type of the C02/C03 models, and the instances the driver/theorems use.
`LawfulRMod V` is what "row of a numpy float array, computed exactly" satisfies.  At the end: reading cells of a list of
frames with default `0`.
-/
import Earverif.Model.Stream
import Mathlib.Tactic.Ring
namespace Earverif.Stream

class LawfulRMod (V : Type) [RMod V] : Prop where
  add_assoc : ∀ a b c : V, a + b + c = a + (b + c)
  add_comm : ∀ a b : V, a + b = b + a
  zero_add : ∀ a : V, 0 + a = a
  smul_add : ∀ (c : Rat) (a b : V), RMod.smul c (a + b) = RMod.smul c a + RMod.smul c b
  add_smul : ∀ (c d : Rat) (a : V), RMod.smul (c + d) a = RMod.smul c a + RMod.smul d a
  mul_smul : ∀ (c d : Rat) (a : V), RMod.smul (c * d) a = RMod.smul c (RMod.smul d a)
  one_smul : ∀ a : V, RMod.smul 1 a = a
  zero_smul : ∀ a : V, RMod.smul 0 a = 0
  smul_zero : ∀ c : Rat, RMod.smul c (0 : V) = 0
  pmul_add : ∀ a b c : V, RMod.pmul a (b + c) = RMod.pmul a b + RMod.pmul a c
  pmul_zero : ∀ a : V, RMod.pmul a 0 = 0
  pmul_smul : ∀ (c : Rat) (a b : V), RMod.pmul a (RMod.smul c b) = RMod.smul c (RMod.pmul a b)

theorem LawfulRMod.add_zero {V : Type} [RMod V] [LawfulRMod V] (a : V) : a + 0 = a := by
  rw [LawfulRMod.add_comm, LawfulRMod.zero_add]

instance : LawfulRMod Rat where
  add_assoc a b c := by ring
  add_comm a b := by ring
  zero_add a := by ring
  smul_add c a b := by show c * (a + b) = c * a + c * b; ring
  add_smul c d a := by show (c + d) * a = c * a + d * a; ring
  mul_smul c d a := by show (c * d) * a = c * (d * a); ring
  one_smul a := by show 1 * a = a; ring
  zero_smul a := by show 0 * a = 0; ring
  smul_zero c := by show c * 0 = 0; ring
  pmul_add a b c := by show a * (b + c) = a * b + a * c; ring
  pmul_zero a := by show a * 0 = 0; ring
  pmul_smul c a b := by show a * (c * b) = c * (a * b); ring

section Vec
variable {n : Nat}

theorem Frame.ext' {a b : Frame n} (h : ∀ (i : Nat) (hi : i < n), a.v[i] = b.v[i]) : a = b := by
  cases a; cases b; congr; exact Vector.ext h

@[simp] theorem Frame.add_get (a b : Frame n) (i : Nat) (h : i < n) : (a + b).v[i] = a.v[i] + b.v[i] := by
  show (Vector.zipWith (· + ·) a.v b.v)[i] = _; simp
@[simp] theorem Frame.zero_get (i : Nat) (h : i < n) : (0 : Frame n).v[i] = 0 := by
  show (Vector.replicate n (0 : Rat))[i] = 0; simp
@[simp] theorem Frame.smul_get (c : Rat) (a : Frame n) (i : Nat) (h : i < n) :
    (RMod.smul c a).v[i] = c * a.v[i] := by
  show (a.v.map (c * ·))[i] = _; simp
@[simp] theorem Frame.pmul_get (a b : Frame n) (i : Nat) (h : i < n) :
    (RMod.pmul a b).v[i] = a.v[i] * b.v[i] := by
  show (Vector.zipWith (· * ·) a.v b.v)[i] = _; simp

instance : LawfulRMod (Frame n) where
  add_assoc a b c := by apply Frame.ext'; intro i h; simp only [Frame.add_get]; ring
  add_comm a b := by apply Frame.ext'; intro i h; simp only [Frame.add_get]; ring
  zero_add a := by apply Frame.ext'; intro i h; simp only [Frame.add_get, Frame.zero_get]; ring
  smul_add c a b := by apply Frame.ext'; intro i h; simp only [Frame.add_get, Frame.smul_get]; ring
  add_smul c d a := by apply Frame.ext'; intro i h; simp only [Frame.add_get, Frame.smul_get]; ring
  mul_smul c d a := by apply Frame.ext'; intro i h; simp only [Frame.smul_get]; ring
  one_smul a := by apply Frame.ext'; intro i h; simp only [Frame.smul_get]; ring
  zero_smul a := by apply Frame.ext'; intro i h; simp only [Frame.smul_get, Frame.zero_get]; ring
  smul_zero c := by apply Frame.ext'; intro i h; simp only [Frame.smul_get, Frame.zero_get]; ring
  pmul_add a b c := by apply Frame.ext'; intro i h; simp only [Frame.add_get, Frame.pmul_get]; ring
  pmul_zero a := by apply Frame.ext'; intro i h; simp only [Frame.pmul_get, Frame.zero_get]; ring
  pmul_smul c a b := by apply Frame.ext'; intro i h; simp only [Frame.smul_get, Frame.pmul_get]; ring
end Vec

instance {V W : Type} [RMod V] [RMod W] [LawfulRMod V] [LawfulRMod W] : LawfulRMod (V × W) where
  add_assoc a b c := Prod.ext (LawfulRMod.add_assoc a.1 b.1 c.1) (LawfulRMod.add_assoc a.2 b.2 c.2)
  add_comm a b := Prod.ext (LawfulRMod.add_comm a.1 b.1) (LawfulRMod.add_comm a.2 b.2)
  zero_add a := Prod.ext (LawfulRMod.zero_add a.1) (LawfulRMod.zero_add a.2)
  smul_add c a b := Prod.ext (LawfulRMod.smul_add c a.1 b.1) (LawfulRMod.smul_add c a.2 b.2)
  add_smul c d a := Prod.ext (LawfulRMod.add_smul c d a.1) (LawfulRMod.add_smul c d a.2)
  mul_smul c d a := Prod.ext (LawfulRMod.mul_smul c d a.1) (LawfulRMod.mul_smul c d a.2)
  one_smul a := Prod.ext (LawfulRMod.one_smul a.1) (LawfulRMod.one_smul a.2)
  zero_smul a := Prod.ext (LawfulRMod.zero_smul a.1) (LawfulRMod.zero_smul a.2)
  smul_zero c := Prod.ext (LawfulRMod.smul_zero c) (LawfulRMod.smul_zero c)
  pmul_add a b c := Prod.ext (LawfulRMod.pmul_add a.1 b.1 c.1) (LawfulRMod.pmul_add a.2 b.2 c.2)
  pmul_zero a := Prod.ext (LawfulRMod.pmul_zero a.1) (LawfulRMod.pmul_zero a.2)
  pmul_smul c a b := Prod.ext (LawfulRMod.pmul_smul c a.1 b.1) (LawfulRMod.pmul_smul c a.2 b.2)

section GetD
variable {V : Type} [RMod V]

theorem getD_append_len (l r : List V) (p : Nat) :
    (l ++ r).getD p 0 = if p < l.length then l.getD p 0 else r.getD (p - l.length) 0 := by
  simp only [List.getD_eq_getElem?_getD, List.getElem?_append]
  split <;> rfl

theorem getD_append_lt (l r : List V) (p : Nat) (h : p < l.length) : (l ++ r).getD p 0 = l.getD p 0 := by
  rw [getD_append_len, if_pos h]

theorem getD_replicate_zero (k n : Nat) : (List.replicate k (0 : V)).getD n 0 = 0 := by
  rw [List.getD_eq_getElem?_getD, List.getElem?_replicate]
  split <;> rfl

theorem getD_zipWith_add [LawfulRMod V] (a b : List V) (h : a.length = b.length) (n : Nat) :
    (List.zipWith (· + ·) a b).getD n 0 = a.getD n 0 + b.getD n 0 := by
  induction a generalizing b n with
  | nil =>
    obtain rfl := List.eq_nil_of_length_eq_zero h.symm
    exact (LawfulRMod.zero_add (0 : V)).symm
  | cons x a ih =>
    obtain _ | ⟨y, b⟩ := b
    · cases h
    · cases n with
      | zero => rfl
      | succ n => exact ih b (Nat.succ.inj h) n

end GetD

theorem foldl_zeros {V : Type} [RMod V] [LawfulRMod V] (l : List V) (h : ∀ v ∈ l, v = 0) :
    l.foldl (· + ·) (0 : V) = 0 := by
  induction l with
  | nil => rfl
  | cons a l ih =>
    have ha := h a List.mem_cons_self
    subst ha
    simp only [List.foldl_cons, LawfulRMod.zero_add]
    exact ih (fun v hv => h v (List.mem_cons_of_mem _ hv))

end Earverif.Stream
