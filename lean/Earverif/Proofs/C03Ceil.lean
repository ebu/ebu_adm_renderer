/- `renderer_common.ceil` (trunc + correction) and the specification's `ceilQ` are both the ceiling `⌈x⌉` of Mathlib's
   `FloorRing ℚ` (`ceil_eq`, `ceilQ_eq`); their order lemmas are read off `Int.ceil`. -/
import Earverif.Model.RenderSpec
import Mathlib.Tactic.Linarith
import Mathlib.Tactic.Ring
import Mathlib.Data.Rat.Floor
namespace Earverif.Timeline
open Earverif.RenderSpec

theorem ceilQ_eq (x : Rat) : ceilQ x = ⌈x⌉ := by
  show -⌊-x⌋ = ⌈x⌉
  rw [Int.floor_neg, neg_neg]

theorem ceil_eq (x : Rat) : ceil x = ⌈x⌉ := by
  have hfl : ∀ y : Rat, y.floor = ⌊y⌋ := fun _ => rfl
  unfold ceil trunc
  by_cases hx : 0 ≤ x
  · simp only [hx, if_true, hfl]
    -- `⌊x⌋` below `x` is one short of the ceiling; otherwise `x` is the integer `⌊x⌋`
    split
    · rename_i h
      exact (Int.ceil_eq_iff.mpr ⟨by push_cast; linarith, by push_cast; linarith [Int.lt_floor_add_one x]⟩).symm
    · rename_i h
      exact (Int.ceil_eq_iff.mpr ⟨by linarith [Int.floor_le x, not_lt.mp h], not_lt.mp h⟩).symm
  · -- for negative `x`, `trunc x = -⌊-x⌋` is the ceiling already
    simp only [hx, if_false, hfl, Int.floor_neg, neg_neg]
    rw [if_neg (not_lt.mpr (Int.le_ceil x))]

theorem ceilQ_le_iff (x : Rat) (n : Int) : ceilQ x ≤ n ↔ x ≤ (n : Rat) := by
  rw [ceilQ_eq]; exact Int.ceil_le

theorem le_ceilQ (x : Rat) : x ≤ (ceilQ x : Rat) := by
  rw [ceilQ_eq]; exact Int.le_ceil x

theorem ceil_le_iff (x : Rat) (n : Int) : ceil x ≤ n ↔ x ≤ (n : Rat) := by
  rw [ceil_eq]; exact Int.ceil_le

theorem ceil_eq_ceilQ (x : Rat) : ceil x = ceilQ x := (ceil_eq x).trans (ceilQ_eq x).symm

theorem le_ceil (x : Rat) : x ≤ (ceil x : Rat) := by
  rw [ceil_eq]; exact Int.le_ceil x

theorem ceil_zero : ceil 0 = 0 := by
  rw [ceil_eq]; exact Int.ceil_zero

theorem lt_ceil_iff (x : Rat) (n : Int) : n < ceil x ↔ (n : Rat) < x := by
  rw [ceil_eq]; exact Int.lt_ceil

theorem ceil_mono {a b : Rat} (h : a ≤ b) : ceil a ≤ ceil b := by
  rw [ceil_eq, ceil_eq]; exact Int.ceil_le_ceil h

end Earverif.Timeline
