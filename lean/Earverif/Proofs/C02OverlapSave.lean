/-
The partitioned overlap-save convolver (`Model/OverlapSave.lean`, transliteration of
`OverlapSaveConvolver.__init__/filter_block`) equals the direct-form FIR of `Model/Stream.lean`.

Route: an explicit state invariant `OSInv f B X s` ("`s` is the state after the stream prefix `X`"); one `filter_block`
call preserves it and returns the FIR rows (`os_step_spec`); everything else is induction over the block list.

After that: the renderer models with that convolver AND the numpy exceptions (`renderAllOS`, `renderAllTSOS`) against the
totalised FIR models (`renderAll`, `renderAllTS`), call by call, through the relation `ChkRel` of `Proofs/C02Checked.lean`
(`renderAllOS_rel`, `render_refines_spec_os`, `renderAllOS_ok_tracks`, `renderAllOS_ok_first_matrix`, …); the static
conditions of the property theorems are defined there (`IndexOK`, `SessionWF`, `HoaGainsOK`, `SessionWFTS`).
-/
import Earverif.Model.OverlapSave
import Earverif.Proofs.C02Fir
import Earverif.Proofs.C02Render
import Earverif.Proofs.C02RenderTS
import Earverif.Proofs.C02Checked
import Earverif.Proofs.C02Trace
namespace Earverif.Stream

variable {V : Type} [RMod V] [LawfulRMod V]

/-! `S n g` is `RenderSpec.sumV ((List.range n).map g)`, by `rfl`. -/

def S (n : Nat) (g : Nat → V) : V := ((List.range n).map g).foldl (· + ·) 0

omit [LawfulRMod V] in
theorem S_zero (g : Nat → V) : S 0 g = 0 := rfl

omit [LawfulRMod V] in
theorem S_succ (n : Nat) (g : Nat → V) : S (n + 1) g = S n g + g n := by
  simp only [S, List.range_succ, List.map_append, List.foldl_append, List.map_cons, List.map_nil, List.foldl_cons,
    List.foldl_nil]

omit [LawfulRMod V] in
theorem S_congr (n : Nat) (g g' : Nat → V) (h : ∀ i, i < n → g i = g' i) : S n g = S n g' := by
  unfold S
  congr 1
  apply List.map_congr_left
  intro i hi
  exact h i (List.mem_range.mp hi)

theorem S_zeros (n : Nat) (g : Nat → V) (h : ∀ i, i < n → g i = 0) : S n g = 0 := by
  refine foldl_zeros _ fun v hv => ?_
  obtain ⟨i, hi, rfl⟩ := List.mem_map.mp hv
  exact h i (List.mem_range.mp hi)

theorem S_split (a b : Nat) (g : Nat → V) : S (a + b) g = S a g + S b (fun r => g (a + r)) := by
  induction b with
  | zero => rw [Nat.add_zero, S_zero, LawfulRMod.add_zero]
  | succ b ih => rw [← Nat.add_assoc, S_succ, ih, S_succ, LawfulRMod.add_assoc]

/-- One term of the convolution sum: tap `q` times the stream sample `p − q` (zero before the start). -/
def tap (f X : List V) (p q : Nat) : V := RMod.pmul (f.getD q 0) (if q ≤ p then X.getD (p - q) 0 else 0)

theorem fir_at_eq_S (f X : List V) (p : Nat) : Fir.at f X p = S f.length (tap f X p) := by
  unfold Fir.at S
  congr 1
  apply List.map_congr_left
  intro k _
  unfold tap
  split
  · rfl
  · rw [LawfulRMod.pmul_zero]

omit [LawfulRMod V] in
theorem tap_append (f X Y : List V) (p q : Nat) (h : p < X.length + q) : tap f (X ++ Y) p q = tap f X p q := by
  unfold tap
  split
  · rw [getD_append_lt _ _ _ (by omega)]
  · rfl

omit [LawfulRMod V] in
theorem length_circConv (N : Nat) (a b : List V) : (circConv N a b).length = N := by
  rw [circConv, List.length_map, List.length_range]

omit [LawfulRMod V] in
theorem getD_circConv (N : Nat) (a b : List V) (n : Nat) (h : n < N) :
    (circConv N a b).getD n 0 =
      S (min a.length N) (fun m => RMod.pmul (a.getD m 0) (b.getD ((n + N - m) % N) 0)) := by
  simp only [circConv, List.getD_eq_getElem?_getD, List.getElem?_map, List.getElem?_range h, Option.map_some,
    Option.getD_some, S]

omit [LawfulRMod V] in
theorem getD_slice (l : List V) (a b i : Nat) (h : a + i < b) : (slice l a b).getD i 0 = l.getD (a + i) 0 := by
  simp only [List.getD_eq_getElem?_getD, getElem?_slice, if_pos h]

omit [RMod V] [LawfulRMod V] in
/-- The `input_block` after the two slice assignments of `filter_block`: new block in the first half, the old
first half in the second half. -/
theorem input_block_eq (ib blk : List V) (B : Nat) (hib : ib.length = 2 * B) (hblk : blk.length = B) :
    setSlice (setSlice ib B (ib.take B)) 0 blk = blk ++ ib.take B := by
  have ht : (ib.take B).length = B := by rw [List.length_take]; omega
  rw [setSlice_end ib B _ (by omega), setSlice_zero, hblk, List.drop_left' ht]

/-- `s` is the state of the convolver for filter `f` and block size `B` after the stream prefix `X`:
* the first half of `input_block` holds the last `B` samples of `X` (zeros before the start);
* slot `i` of the queue is due `i` blocks from now: row `n < B` of it will be output row `len(X) + i·B + n`, and holds
  the terms of that row's convolution sum for the taps `q ≥ (i+1)·B` (those read samples of `X` only).
Rows `B..2B−1` of the slots (the wrapped-around part of the circular convolutions) are never returned and are left
unconstrained. -/
structure OSInv (f : List V) (B : Nat) (X : List V) (s : OS V) : Prop where
  bs : s.block_size = B
  fb : s.filter_blocks = (OS.init B f).filter_blocks
  iblen : s.input_block.length = 2 * B
  ib : ∀ n, n < B → s.input_block.getD n 0 = if B - n ≤ X.length then X.getD (X.length - (B - n)) 0 else 0
  blen : s.blocks.length = (f.length + B - 1) / B
  slot : ∀ i b, s.blocks[i]? = some b → b.length = 2 * B ∧
    ∀ n, n < B → b.getD n 0 =
      S (f.length - (i + 1) * B) (fun r => tap f X (X.length + i * B + n) ((i + 1) * B + r))

/-- number of partitions: `k < ceil(L/B) ↔ k·B < L` -/
theorem lt_nparts (L B k : Nat) (hB : 1 ≤ B) : k < (L + B - 1) / B ↔ k * B < L := by
  rw [Nat.lt_iff_add_one_le, Nat.le_div_iff_mul_le hB, Nat.succ_mul,
    Nat.le_sub_one_iff_lt (Nat.add_pos_right _ hB), Nat.add_lt_add_iff_right]

theorem osInv_init (f : List V) (B : Nat) : OSInv f B [] (OS.init B f) where
  bs := rfl
  fb := rfl
  iblen := List.length_replicate
  ib := by
    intro n hn
    rw [OS.init, getD_replicate_zero, List.length_nil, if_neg (Nat.not_le.mpr (Nat.sub_pos_of_lt hn))]
  blen := by simp only [OS.init, OS.starts, List.length_map, List.length_range]
  slot := by
    intro i b hb
    obtain ⟨_, _, rfl⟩ := List.mem_map.mp (List.mem_of_getElem? hb)
    refine ⟨List.length_replicate, fun n _ => ?_⟩
    rw [getD_replicate_zero]
    refine (S_zeros _ _ fun r _ => ?_).symm
    unfold tap
    split <;> exact LawfulRMod.pmul_zero _

omit [LawfulRMod V] in
/-- What the circular convolution reads: with the current block `blk` in the FIRST half of `input_block` and the
previous one (`prev`, the end of `X`) in the SECOND half, entry `(n − m) mod 2B` (`n, m < B`) is the stream sample
`len(X) + n − m` (zero before the start) — the wrap-around for `m > n` lands in the previous block. -/
theorem win_row (X blk prev : List V) (B n m : Nat) (hblk : blk.length = B)
    (hX : ∀ n, n < B → prev.getD n 0 = if B - n ≤ X.length then X.getD (X.length - (B - n)) 0 else 0)
    (hn : n < B) (hm : m < B) :
    (blk ++ prev).getD ((n + 2 * B - m) % (2 * B)) 0 =
      if m ≤ X.length + n then (X ++ blk).getD (X.length + n - m) 0 else 0 := by
  rw [getD_append_len, hblk]
  have hB2 : B ≤ 2 * B := Nat.le_mul_of_pos_left B (by decide)
  by_cases hmn : m ≤ n
  · -- no wrap-around: the current block
    obtain ⟨d, rfl⟩ := Nat.exists_eq_add_of_le hmn
    have hd : d < B := Nat.lt_of_le_of_lt (Nat.le_add_left d m) hn
    have hidx : (m + d + 2 * B - m) % (2 * B) = d := by
      rw [Nat.add_assoc, Nat.add_sub_cancel_left, Nat.add_mod_right, Nat.mod_eq_of_lt (Nat.lt_of_lt_of_le hd hB2)]
    rw [hidx, if_pos hd, if_pos (Nat.le_trans (Nat.le_add_right m d) (Nat.le_add_left _ _)), Nat.add_left_comm,
      Nat.add_sub_cancel_left, getD_append_len, if_neg (Nat.not_lt.mpr (Nat.le_add_right _ _)),
      Nat.add_sub_cancel_left]
  · -- wrap-around into the second half: the previous block, i.e. the end of `X`
    obtain ⟨d, rfl⟩ := Nat.exists_eq_add_of_lt (Nat.lt_of_not_le hmn)
    have hdB : d + 1 ≤ B := Nat.le_trans (Nat.le_add_left _ n) (Nat.le_of_lt (Nat.add_assoc n d 1 ▸ hm))
    rw [Nat.add_assoc n d 1]
    have hidx : (n + 2 * B - (n + (d + 1))) % (2 * B) = 2 * B - (d + 1) := by
      rw [Nat.add_sub_add_left, Nat.mod_eq_of_lt
        (Nat.sub_lt (Nat.lt_of_lt_of_le (Nat.succ_pos d) (Nat.le_trans hdB hB2)) (Nat.succ_pos d))]
    have hge : ¬2 * B - (d + 1) < B :=
      Nat.not_lt.mpr (Nat.le_sub_of_add_le (by rw [Nat.two_mul]; exact Nat.add_le_add_left hdB B))
    have hj : 2 * B - (d + 1) - B = B - (d + 1) := by
      rw [Nat.sub_right_comm, Nat.two_mul, Nat.add_sub_cancel]
    rw [hidx, if_neg hge, hj, hX _ (Nat.sub_lt (Nat.lt_of_lt_of_le (Nat.succ_pos d) hdB) (Nat.succ_pos d)),
      Nat.sub_sub_self hdB, Nat.add_comm X.length n]
    simp only [Nat.add_le_add_iff_left, Nat.add_sub_add_left]
    by_cases hc : d + 1 ≤ X.length
    · rw [if_pos hc, if_pos hc, getD_append_lt _ _ _ (Nat.sub_lt (Nat.lt_of_lt_of_le (Nat.succ_pos d) hc)
        (Nat.succ_pos d))]
    · rw [if_neg hc, if_neg hc]

omit [LawfulRMod V] in
/-- Row `n < B` of `irfft(filter_blocks_fd[k] * rfft(input_block))`: the terms of output row `len(X) + k·B + n` for
the taps of partition `k`. -/
theorem circ_row (f X blk prev : List V) (B k n : Nat) (hblk : blk.length = B)
    (hX : ∀ n, n < B → prev.getD n 0 = if B - n ≤ X.length then X.getD (X.length - (B - n)) 0 else 0)
    (hn : n < B) :
    (circConv (2 * B) (slice f (k * B) (min f.length (k * B + B))) (blk ++ prev)).getD n 0 =
      S (min B (f.length - k * B)) (fun m => tap f (X ++ blk) (X.length + k * B + n) (k * B + m)) := by
  rw [getD_circConv _ _ _ _ (Nat.lt_of_lt_of_le hn (Nat.le_mul_of_pos_left B (by decide))),
    slice_length _ _ _ (Nat.min_le_left _ _)]
  generalize k * B = a
  rw [← Nat.sub_min_sub_right, Nat.add_sub_cancel_left, Nat.min_assoc,
    Nat.min_eq_left (Nat.le_mul_of_pos_left B (by decide)), Nat.min_comm]
  apply S_congr
  intro m hm
  obtain ⟨hmB, hmL⟩ := Nat.lt_min.mp hm
  rw [getD_slice _ _ _ _ (Nat.lt_min.mpr ⟨Nat.lt_sub_iff_add_lt'.mp hmL, Nat.add_lt_add_left hmB a⟩), win_row X blk prev B n m hblk hX hn hmB,
    tap, Nat.add_right_comm, Nat.add_comm _ a]
  simp only [Nat.add_le_add_iff_left, Nat.add_sub_add_left]

theorem os_step_spec (f : List V) (B : Nat) (hB : 1 ≤ B) (hf : f ≠ []) (X : List V) (s : OS V) (h : OSInv f B X s)
    (blk : List V) (hblk : blk.length = B) :
    ∃ s', s.filterBlock blk = .ok (s', (List.range B).map fun n => Fir.at f (X ++ blk) (X.length + n)) ∧
      OSInv f B (X ++ blk) s' := by
  obtain ⟨hbs, hfb, hiblen, hib, hblen, hslot⟩ := h
  have hL : 0 < f.length := List.length_pos_iff.mpr hf
  -- the new `input_block`: the block, then the old first half, which holds the end of `X`
  have hibeq := input_block_eq s.input_block blk B hiblen hblk
  have hprev : ∀ n, n < B → (s.input_block.take B).getD n 0 =
      if B - n ≤ X.length then X.getD (X.length - (B - n)) 0 else 0 := fun n hn => by
    rw [List.getD_eq_getElem?_getD, List.getElem?_take, if_pos hn, ← List.getD_eq_getElem?_getD, hib n hn]
  -- `A`: the queue after the accumulation loop and BEFORE the rotation, so slot `k` carries the taps `q ≥ k·B`
  -- (`(i+1)·B` in `OSInv.slot`): the old slot (later partitions) plus this partition's row (`circ_row`), joined by `S_split`
  obtain ⟨A, hAeq⟩ : ∃ A, A = List.zipWith (fun fb b => List.zipWith (· + ·) b
      (circConv (2 * B) fb (blk ++ s.input_block.take B))) s.filter_blocks s.blocks := ⟨_, rfl⟩
  have hAlen : A.length = (f.length + B - 1) / B := by
    rw [hAeq, List.length_zipWith, hfb, hblen]
    simp only [OS.init, OS.starts, List.length_map, List.length_range, Nat.min_self]
  have hA : ∀ k a, A[k]? = some a → a.length = 2 * B ∧ ∀ n, n < B → a.getD n 0 =
      S (f.length - k * B) (fun r => tap f (X ++ blk) (X.length + k * B + n) (k * B + r)) := by
    intro k a hka
    have hk : k < (f.length + B - 1) / B := hAlen ▸ (List.getElem?_eq_some_iff.mp hka).1
    have hb := List.getElem?_eq_getElem (hblen ▸ hk : k < s.blocks.length)
    rw [hAeq, List.getElem?_zipWith, hfb, hb] at hka
    simp only [OS.init, OS.starts, List.getElem?_map, List.map_map, List.getElem?_range hk, Option.map_some,
      Function.comp, Option.some.injEq] at hka
    subst hka
    obtain ⟨hbl, hbn⟩ := hslot k _ hb
    refine ⟨by rw [List.length_zipWith, hbl, length_circConv, Nat.min_self], ?_⟩
    intro n hn
    rw [getD_zipWith_add _ _ (by rw [hbl, length_circConv]), hbn n hn,
      circ_row f X blk (s.input_block.take B) B k n hblk hprev hn, LawfulRMod.add_comm]
    have hsplit : f.length - k * B = min B (f.length - k * B) + (f.length - (k + 1) * B) := by
      rw [Nat.succ_mul, Nat.sub_add_eq, Nat.add_comm, Nat.min_comm, Nat.sub_add_min_cancel]
    have hs := S_split (min B (f.length - k * B)) (f.length - (k + 1) * B)
      (fun r => tap f (X ++ blk) (X.length + k * B + n) (k * B + r))
    rw [← hsplit] at hs
    rw [hs]
    congr 1
    by_cases hlast : f.length - (k + 1) * B = 0
    · rw [hlast, S_zero, S_zero]
    · apply S_congr
      intro r _
      have hmin : min B (f.length - k * B) = B := by
        rw [Nat.succ_mul] at hlast
        exact Nat.min_eq_left (Nat.le_sub_of_add_le' (Nat.le_of_lt (Nat.sub_ne_zero_iff_lt.mp hlast)))
      rw [hmin, tap_append _ _ _ _ _ (by
        rw [Nat.add_assoc]
        exact Nat.add_lt_add_left (Nat.add_lt_add_left (Nat.lt_of_lt_of_le hn (Nat.le_add_right B r)) _) _),
        Nat.succ_mul, Nat.add_assoc (k * B) B r]
  have hK : 0 < (f.length + B - 1) / B := (lt_nparts _ _ _ hB).mpr (by rw [Nat.zero_mul]; exact hL)
  unfold OS.filterBlock
  simp only [hbs]
  rw [if_neg (fun h => h.1 hblk), if_pos hblk, hibeq, ← hAeq]
  clear hAeq hibeq
  cases A with
  | nil => exact absurd hAlen (Nat.ne_of_lt hK)
  | cons b0 rest =>
    simp only [List.length_cons] at hAlen
    obtain ⟨hb0l, hb0⟩ := hA 0 b0 rfl
    refine ⟨⟨B, blk ++ s.input_block.take B, s.filter_blocks,
      rest ++ [List.replicate (2 * B) 0]⟩, ?_, ⟨rfl, hfb, ?_, ?_, ?_, ?_⟩⟩
    · -- the returned rows
      simp only
      rw [take_eq_map_getD b0 0 B (by rw [hb0l]; exact Nat.le_mul_of_pos_left B (by decide))]
      congr 2
      apply List.map_congr_left
      intro n hn
      rw [hb0 n (List.mem_range.mp hn), fir_at_eq_S]
      simp only [Nat.zero_mul, Nat.add_zero, Nat.sub_zero, Nat.zero_add]
    · -- input_block keeps its length
      simp only
      rw [List.length_append, hblk, List.length_take, hiblen, Nat.two_mul,
        Nat.min_eq_left (Nat.le_add_right B B)]
    · -- its first half is the block just processed
      intro n hn
      simp only
      rw [getD_append_lt _ _ _ (hblk ▸ hn), List.length_append, hblk,
        if_pos (Nat.le_trans (Nat.sub_le B n) (Nat.le_add_left B _)), Nat.add_sub_assoc (Nat.sub_le B n),
        Nat.sub_sub_self (Nat.le_of_lt hn), getD_append_len, if_neg (Nat.not_lt.mpr (Nat.le_add_right _ _)),
        Nat.add_sub_cancel_left]
    · rw [List.length_append, List.length_singleton]; exact hAlen
    · -- the rotated queue
      intro i b hib'
      simp only [List.getElem?_append] at hib'
      by_cases hi : i < rest.length
      · rw [if_pos hi] at hib'
        obtain ⟨hl, hrow⟩ := hA (i + 1) b (List.getElem?_cons_succ.trans hib')
        refine ⟨hl, ?_⟩
        intro n hn
        rw [hrow n hn, List.length_append, hblk]
        apply S_congr
        intro r _
        rw [Nat.succ_mul i B, Nat.add_comm (i * B) B, ← Nat.add_assoc X.length]
      · rw [if_neg hi] at hib'
        have hi' : i = rest.length :=
          Nat.le_antisymm (Nat.sub_eq_zero_iff_le.mp (Nat.lt_one_iff.mp (List.getElem?_eq_some_iff.mp hib').1))
            (Nat.le_of_not_lt hi)
        subst hi'
        simp only [Nat.sub_self, List.getElem?_cons_zero, Option.some.injEq] at hib'
        subst hib'
        refine ⟨List.length_replicate, fun n _ => ?_⟩
        have hz : f.length - (rest.length + 1) * B = 0 :=
          Nat.sub_eq_zero_of_le (Nat.le_of_not_lt fun h =>
            absurd ((lt_nparts _ _ _ hB).mpr h) (hAlen ▸ Nat.lt_irrefl _))
        rw [getD_replicate_zero, hz, S_zero]

theorem os_run_from (f : List V) (B : Nat) (hB : 1 ≤ B) (hf : f ≠ []) : ∀ (blocks : List (List V)) (X : List V)
    (s : OS V), OSInv f B X s → (∀ b ∈ blocks, b.length = B) →
    ∃ s' outs, OS.run s blocks = .ok (s', outs) ∧ OSInv f B (X ++ blocks.flatten) s' ∧
      outs.map List.length = blocks.map List.length ∧
      outs.flatten = (List.range blocks.flatten.length).map
        (fun i => Fir.at f (X ++ blocks.flatten) (X.length + i)) := by
  intro blocks
  induction blocks with
  | nil => intro X s h _; exact ⟨s, [], rfl, (List.append_nil X).symm ▸ h, rfl, rfl⟩
  | cons b bs ih =>
    intro X s h hlen
    have hb : b.length = B := hlen b List.mem_cons_self
    obtain ⟨s1, h1, hinv1⟩ := os_step_spec f B hB hf X s h b hb
    obtain ⟨s2, os, h2, hinv2, hl2, hfl2⟩ := ih (X ++ b) s1 hinv1 (fun c hc => hlen c (List.mem_cons_of_mem _ hc))
    refine ⟨s2, ((List.range B).map fun n => Fir.at f (X ++ b) (X.length + n)) :: os, by simp only [OS.run, h1, h2],
      List.append_assoc X b _ ▸ hinv2, ?_, ?_⟩
    · rw [List.map_cons, List.map_cons, hl2, List.length_map, List.length_range, hb]
    · simp only [List.flatten_cons, hfl2, List.length_append, hb, List.range_add, List.map_append, List.map_map,
        List.append_assoc]
      congr 1
      · apply List.map_congr_left
        intro n hn
        have hn' : n < B := List.mem_range.mp hn
        rw [← List.append_assoc]
        exact (fir_at_prefix f (X ++ b) bs.flatten (X.length + n) (by simp only [List.length_append, hb]; omega)).symm
      · apply List.map_congr_left
        intro i _
        simp only [Function.comp, Nat.add_assoc]

/-- For every block size `B ≥ 1`, every non-empty filter `f` (any length: shorter than `B`,
not a multiple of `B`, many partitions) and every sequence of input blocks of `B` rows: no `filter_block` call raises,
every call returns `B` rows, and the concatenated outputs are the first `#blocks·B` samples of the linear convolution
of the concatenated input with `f` (`firAll f x`, row `t` = `Σ_k f[k]·x[t−k]`). -/
theorem overlapSave_eq_fir (f : List V) (B : Nat) (hB : 1 ≤ B) (hf : f ≠ []) (blocks : List (List V))
    (hlen : ∀ b ∈ blocks, b.length = B) :
    ∃ s' outs, OS.run (OS.init B f) blocks = .ok (s', outs) ∧
      outs.map List.length = blocks.map List.length ∧ outs.flatten = firAll f blocks.flatten := by
  obtain ⟨s', outs, h1, _, h3, h4⟩ := os_run_from f B hB hf blocks [] _ (osInv_init f B) hlen
  refine ⟨s', outs, h1, h3, ?_⟩
  rw [h4]
  simp only [firAll, List.nil_append, List.length_nil, Nat.zero_add]

/-! Outside the hypotheses `1 ≤ B`, `f ≠ []` of `overlapSave_eq_fir` the real code raises, and so does the model. -/

-- the statement keeps the section's `[LawfulRMod V]`, which it does not use
set_option linter.unusedSectionVars false in
theorem os_new_zero (f : List V) : OS.new 0 f = .error .blockSizeZero := rfl

-- as for `os_new_zero`
set_option linter.unusedSectionVars false in
theorem os_empty_filter (B : Nat) (blk : List V) (h : blk.length = B) :
    (OS.init B ([] : List V)).filterBlock blk = .error .emptyFilter := by
  have h0 : (B - 1) / B = 0 := by
    rcases B with _ | B
    · rfl
    · exact Nat.div_eq_of_lt (by omega)
  unfold OS.filterBlock
  simp only [OS.init, OS.starts, List.length_nil, Nat.zero_add, h0, List.range_zero, List.map_nil,
    List.zipWith_nil_left]
  rw [if_neg (fun hh => hh.1 h)]

/-- `s` (overlap-save state) and `hist` (the last `len(f)−1` input rows) are the states after the same stream. -/
def OSFirRel (f : List V) (B : Nat) (s : OS V) (hist : List V) : Prop :=
  ∃ X, OSInv f B X s ∧ hist = (List.replicate (f.length - 1) 0 ++ X).drop X.length

theorem osFirRel_init (f : List V) (B : Nat) : OSFirRel f B (OS.init B f) (Fir.init f) :=
  ⟨[], osInv_init f B, by simp [Fir.init]⟩

theorem os_fir_sim (f : List V) (B : Nat) (hB : 1 ≤ B) (hf : f ≠ []) (s : OS V) (hist blk : List V)
    (h : OSFirRel f B s hist) (hblk : blk.length = B) :
    OSFirRel f B (OS.step s blk).1 (Fir.step f hist blk).1 ∧ (OS.step s blk).2 = (Fir.step f hist blk).2 := by
  obtain ⟨X, hinv, rfl⟩ := h
  obtain ⟨s', h1, h2⟩ := os_step_spec f B hB hf X s hinv blk hblk
  rw [fir_step_spec, OS.step, h1, hblk]
  exact ⟨⟨X ++ blk, h2, rfl⟩, rfl⟩

/-! Stated over `Vbs.loop` itself: the closed forms of `Proofs/C02Vbs.lean` need a block function that returns `B` rows from
EVERY state, which `OS.step` does not (`os_empty_filter`). -/

section Sim
variable {σ τ α : Type}

def StepSim (f : σ → List α → σ × List α) (g : τ → List α → τ × List α) (R : σ → τ → Prop) (B : Nat) : Prop :=
  ∀ s t blk, R s t → blk.length = B → R (f s blk).1 (g t blk).1 ∧ (f s blk).2 = (g t blk).2

structure VbsRel (R : σ → τ → Prop) (B : Nat) (a : Vbs σ α) (b : Vbs τ α) : Prop where
  buf : a.buffer = b.buffer
  bi : a.buffer_input = b.buffer_input
  st : R a.fstate b.fstate
  len : b.buffer.length = B
  lt : b.buffer_input < B

variable {f : σ → List α → σ × List α} {g : τ → List α → τ × List α} {R : σ → τ → Prop} {B : Nat}
  (hsim : StepSim f g R B) (hg : ∀ t blk, blk.length = B → (g t blk).2.length = B)
include hsim hg

theorem vbs_loop_sim (inp : List α) :
    ∀ (fuel : Nat) (a : Vbs σ α) (b : Vbs τ α) (nd : Nat) (out : List α), VbsRel R B a b →
      VbsRel R B (Vbs.loop f B inp fuel a nd out).1 (Vbs.loop g B inp fuel b nd out).1 ∧
        (Vbs.loop f B inp fuel a nd out).2 = (Vbs.loop g B inp fuel b nd out).2 := by
  intro fuel
  induction fuel with
  | zero => intro a b nd out h; exact ⟨h, rfl⟩
  | succ fuel ih =>
    intro a b nd out h
    obtain ⟨hbuf, hbi, hst, hlen, hlt⟩ := h
    unfold Vbs.loop
    by_cases hnd : nd < inp.length
    · simp only [hnd, if_true, hbuf, hbi]
      generalize hk : min (inp.length - nd) (B - b.buffer_input) = k
      have hk1 : nd + k ≤ inp.length := Nat.add_le_of_le_sub' (Nat.le_of_lt hnd) (hk ▸ Nat.min_le_left _ _)
      have hk2 : b.buffer_input + k ≤ B := Nat.add_le_of_le_sub' (Nat.le_of_lt hlt) (hk ▸ Nat.min_le_right _ _)
      have hbl : (setSlice b.buffer b.buffer_input (slice inp nd (nd + k))).length = B := by
        rw [setSlice_length _ _ _ (by rw [slice_length _ _ _ hk1, Nat.add_sub_cancel_left, hlen]; exact hk2)]
        exact hlen
      by_cases hfull : b.buffer_input + k = B
      · simp only [hfull, if_true]
        obtain ⟨h1, h2⟩ := hsim a.fstate b.fstate _ hst hbl
        exact ih _ _ _ _ ⟨h2, rfl, h1, hg _ _ hbl, Nat.zero_lt_of_lt hlt⟩
      · simp only [hfull, if_false]
        exact ih _ _ _ _ ⟨rfl, rfl, hst, hbl, Nat.lt_of_le_of_ne hk2 hfull⟩
    · simp only [hnd, if_false]
      exact ⟨⟨hbuf, hbi, hst, hlen, hlt⟩, trivial⟩

theorem vbs_process_sim (z : α)
    (a : Vbs σ α) (b : Vbs τ α) (h : VbsRel R B a b) (inp : List α) :
    VbsRel R B (Vbs.process f B z a inp).1 (Vbs.process g B z b inp).1 ∧
      (Vbs.process f B z a inp).2 = (Vbs.process g B z b inp).2 :=
  vbs_loop_sim hsim hg inp _ a b 0 _ h

theorem vbs_init_sim (hB : 1 ≤ B) (z : α)
    (s0 : σ) (t0 : τ) (h0 : R s0 t0) : VbsRel R B (Vbs.init f B z s0) (Vbs.init g B z t0) := by
  obtain ⟨h1, h2⟩ := hsim s0 t0 (List.replicate B z) h0 (by simp)
  exact ⟨h2, rfl, h1, hg _ _ (by simp), by simp only [Vbs.init]; omega⟩

theorem vbs_run_sim (z : α) :
    ∀ (parts : List (List α)) (a : Vbs σ α) (b : Vbs τ α), VbsRel R B a b →
      (Vbs.run f B z a parts).1 = (Vbs.run g B z b parts).1 ∧
        VbsRel R B (Vbs.run f B z a parts).2 (Vbs.run g B z b parts).2 := by
  intro parts
  induction parts with
  | nil => intro a b h; exact ⟨rfl, h⟩
  | cons p ps ih =>
    intro a b h
    obtain ⟨h1, h2⟩ := vbs_process_sim hsim hg z a b h p
    obtain ⟨h3, h4⟩ := ih _ _ h1
    simp only [Vbs.run, h2, h3]
    exact ⟨trivial, h4⟩

end Sim

theorem os_fir_stepSim (f : List V) (B : Nat) (hB : 1 ≤ B) (hf : f ≠ []) :
    StepSim OS.step (Fir.step f) (OSFirRel f B) B :=
  fun s t blk h hblk => os_fir_sim f B hB hf s t blk h hblk

theorem os_vbs_init_rel (f : List V) (B : Nat) (hB : 1 ≤ B) (hf : f ≠ []) :
    VbsRel (OSFirRel f B) B (Vbs.init OS.step B 0 (OS.init B f)) (Vbs.init (Fir.step f) B 0 (Fir.init f)) :=
  vbs_init_sim (os_fir_stepSim f B hB hf) (fir_step_length f B) hB 0 _ _ (osFirRel_init f B)

/-- What `ObjectRenderer` builds, `VariableBlockSizeAdapter(block_size, n,
OverlapSaveConvolver(block_size, n, f).filter_block)`, fed ANY sequence of blocks (any lengths, empty ones included),
returns call by call exactly the rows the same adapter around the direct-form FIR returns. -/
theorem vbs_overlapSave_run_eq (f : List V) (B : Nat) (hB : 1 ≤ B) (hf : f ≠ []) (parts : List (List V)) :
    (Vbs.run OS.step B 0 (Vbs.init OS.step B 0 (OS.init B f)) parts).1 =
      (Vbs.run (Fir.step f) B 0 (Vbs.init (Fir.step f) B 0 (Fir.init f)) parts).1 :=
  (vbs_run_sim (os_fir_stepSim f B hB hf) (fir_step_length f B) 0 parts _ _ (os_vbs_init_rel f B hB hf)).1

/-- The decorrelation path as the real `ObjectRenderer` builds it (the adapter around the
partitioned overlap-save convolver), over ANY partition of the input: the linear FIR convolution of the concatenated
stream with `f`, delayed by `block_size`; every call returns as many rows as it was given. -/
theorem vbs_overlapSave_eq (f : List V) (B : Nat) (hB : 1 ≤ B) (hf : f ≠ []) (parts : List (List V)) :
    (Vbs.run OS.step B 0 (Vbs.init OS.step B 0 (OS.init B f)) parts).1.flatten =
      (List.replicate B 0 ++ firAll f parts.flatten).take parts.flatten.length ∧
    (Vbs.run OS.step B 0 (Vbs.init OS.step B 0 (OS.init B f)) parts).1.map List.length =
      parts.map List.length := by
  rw [vbs_overlapSave_run_eq f B hB hf parts]
  exact vbs_fir_eq f B hB parts

end Earverif.Stream

namespace Earverif.Renderer
open Earverif.Stream Earverif.Timeline

variable {V : Type} [RMod V] [LawfulRMod V]

/-! A session is `render` on every block and on the tail (`sessionG`, `Proofs/C02Trace.lean`); two `render` functions
that are related call by call (on states in `R`) give related sessions. -/
section Session
variable {σ τ ε W : Type} (strict : Prop) (R : σ → τ → Prop)
  (rA : σ → List (List Rat) → Except (ChkErr ε) (σ × List W)) (rB : τ → List (List Rat) → Except ε (τ × List W))
  (hstep : ∀ a b p, R a b → ChkRel strict (fun r r' => R r.1 r'.1 ∧ r.2 = r'.2) (rA a p) (rB b p))
include hstep

theorem runG_rel : ∀ (parts : List (List (List Rat))) (a : σ) (b : τ), R a b →
    ChkRel strict (fun r r' => R r.1 r'.1 ∧ r.2 = r'.2) (runG rA a parts) (runG rB b parts) := by
  intro parts
  induction parts with
  | nil => intro a b h; exact ⟨h, rfl⟩
  | cons p ps ih =>
    intro a b h
    have h1 := hstep a b p h
    simp only [runG]
    generalize rA a p = ra at h1 ⊢
    generalize rB b p = rb at h1 ⊢
    apply h1.step
    rintro ⟨a1, o⟩ ⟨b1, _⟩ ⟨h2, rfl⟩
    have h4 := ih a1 b1 h2
    simp only
    generalize runG rA a1 ps = ra at h4 ⊢
    generalize runG rB b1 ps = rb at h4 ⊢
    apply h4.step
    rintro ⟨a2, os⟩ ⟨b2, _⟩ ⟨h5, rfl⟩
    exact ⟨h5, rfl⟩

theorem sessionG_rel (tail : List (List Rat)) (parts : List (List (List Rat))) (a : σ) (b : τ) (h : R a b) :
    ChkRel strict (fun r r' => r = r') (sessionG rA tail a parts) (sessionG rB tail b parts) := by
  have h1 := runG_rel strict R rA rB hstep parts a b h
  simp only [sessionG]
  generalize runG rA a parts = ra at h1 ⊢
  generalize runG rB b parts = rb at h1 ⊢
  apply h1.step
  rintro ⟨a1, os⟩ ⟨b1, _⟩ ⟨h2, rfl⟩
  have h4 := hstep a1 b1 tail h2
  simp only
  generalize rA a1 tail = ra at h4 ⊢
  generalize rB b1 tail = rb at h4 ⊢
  apply h4.step
  rintro ⟨a2, t⟩ ⟨b2, _⟩ ⟨-, rfl⟩
  rfl

end Session

/-- The two `ObjectRenderer` states agree on everything but the convolver, whose two states are related. -/
structure ObjRel (c : Cfg V) (a : ObjStateOS V) (b : ObjState V) : Prop where
  chans : a.chans = b.chans
  mem : a.delaymem = b.delaymem
  vbs : VbsRel (OSFirRel c.taps c.block_size) c.block_size a.vbs b.vbs

omit [RMod V] [LawfulRMod V] in
theorem chkTrack_eq_none {ε : Type} (n t : Nat) : chkTrack (ε := ε) n t = none ↔ t < n := by
  unfold chkTrack
  split <;> simp [*]

omit [RMod V] [LawfulRMod V] in
theorem chkTracks_eq_none {ε : Type} (n : Nat) (ts : List Nat) :
    chkTracks (ε := ε) n ts = none ↔ (∀ t ∈ ts, t < n) ∧ ts ≠ [] := by
  simp only [chkTracks, List.all_eq_true, decide_eq_true_eq, List.isEmpty_iff]
  by_cases hall : ∀ t ∈ ts, t < n
  · rw [if_pos hall]
    by_cases he : ts = []
    · simp [he]
    · simp only [if_neg he, true_iff]
      exact ⟨hall, he⟩
  · simp [hall]

omit [LawfulRMod V] in
theorem chkTrack_ne_base (n : Nat) (t : Nat) (e : Err) : chkTrack n t ≠ some (ChkErr.base e) := by
  unfold chkTrack; split <;> simp

omit [LawfulRMod V] in
theorem chkTracks_ne_base (n : Nat) (ts : List Nat) (e : Err) : chkTracks n ts ≠ some (ChkErr.base e) := by
  unfold chkTracks; split
  · split <;> simp
  · simp

/-- The tracks of the Objects / DirectSpeakers channels are columns of the input. -/
def TrackChansOK {B : Type} (n_in : Nat) (chans : List (Nat × B)) : Prop :=
  ∀ p ∈ chans, chkTrack (ε := Err) n_in p.1 = none

/-- The tracks of the HOA channels are columns of the input, every item has one, and every decode matrix still to be
applied has one column per track. -/
def HoaTrackChansOK (n_in : Nat) (chans : List (List Nat × HoaBpc V)) : Prop :=
  ∀ p ∈ chans, chkTracks (ε := Err) n_in p.1 = none ∧
    QOK (fun m : MetaBlock (List V) => okDot p.1.length m.gains) (okDot p.1.length) p.2

omit [LawfulRMod V] in
theorem trackChans_rel {M S K W : Type} (strict : Prop) (n_in : Nat)
    (interp : S → M → Except Err (S × List (PBlock K))) (upd : K → Nat → Rat → W → W) (ss : Int)
    (inp : List (List Rat)) (chans : List (Nat × Bpc M S K)) (out : List W)
    (h : strict → TrackChansOK n_in chans) :
    ChkRel strict (fun r r' => r = r' ∧ (strict → TrackChansOK n_in r.1))
      (procChansC (chkTrack n_in) (fun t b out => liftC (b.process interp upd ss (track inp t) out)) chans out)
      (procChans interp upd ss (track inp) chans out) := by
  have := procChansC_rel strict (chkTrack n_in) (fun t b out => liftC (b.process interp upd ss (track inp t) out))
    interp upd ss (track inp) (fun _ _ => True) (chkTrack_ne_base n_in)
    (fun t b out _ => (chkRel_liftC strict _).mono strict _ (fun a b hab => ⟨hab, fun _ => trivial⟩))
    chans out (fun hs p hp => ⟨h hs p hp, trivial⟩)
  exact this.mono strict _ (fun a b hab => ⟨hab.1, fun hs p hp => (hab.2 hs p hp).1⟩)

omit [LawfulRMod V] in
theorem hoaRenderC_rel (strict : Prop) (c : Cfg V) (chans : List (List Nat × HoaBpc V)) (ss : Int)
    (inp : List (List Rat)) (h : strict → HoaTrackChansOK c.n_in chans) :
    ChkRel strict (fun r r' => r = r' ∧ (strict → HoaTrackChansOK c.n_in r.1))
      (hoaRenderC c chans ss inp) (hoaRender c chans ss inp) :=
  procChansC_rel strict (chkTracks c.n_in)
    (fun ts b out => bpcProcessC (okDot ts.length) (interpFixed c.sr) matUpd ss (tracks inp ts) out b)
    (interpFixed c.sr) matUpd ss (tracks inp)
    (fun ts b => QOK (fun m : MetaBlock (List V) => okDot ts.length m.gains) (okDot ts.length) b)
    (chkTracks_ne_base c.n_in)
    (fun ts b out hb => bpcProcessC_rel strict _ _ (interpFixed c.sr) (Renderer.interpFixed_ok c.sr _) matUpd ss
      (tracks inp ts) out b hb)
    chans _ h

theorem obj_render_sim (strict : Prop) (c : Cfg V) (hB : 1 ≤ c.block_size) (hf : c.taps ≠ []) (a : ObjStateOS V)
    (b : ObjState V) (h : ObjRel c a b) (hs : strict → TrackChansOK c.n_in a.chans) (S0 : Int)
    (inp : List (List Rat)) :
    ChkRel strict (fun r r' => ObjRel c r.1 r'.1 ∧ r.2 = r'.2 ∧ (strict → TrackChansOK c.n_in r.1.chans))
      (a.render c S0 inp) (b.render c S0 inp) := by
  obtain ⟨hch, hmem, hvbs⟩ := h
  have h1 := trackChans_rel strict c.n_in (interpObject c.sr) GainKern.upd S0 inp a.chans
    (List.replicate inp.length (0 : V × V)) hs
  simp only [ObjStateOS.render, ObjState.render, objChansC, bind, Except.bind, ← hch, hmem]
  generalize procChansC (chkTrack c.n_in) _ a.chans _ = ra at h1 ⊢
  generalize procChans (interpObject c.sr) GainKern.upd S0 (track inp) a.chans _ = rb at h1 ⊢
  apply h1.step
  rintro ⟨chans, interpolated⟩ _ ⟨rfl, hinv⟩
  obtain ⟨h2, h3⟩ := vbs_process_sim (os_fir_stepSim c.taps c.block_size hB hf) (fir_step_length c.taps c.block_size)
    0 a.vbs b.vbs hvbs (interpolated.map Prod.snd)
  simp only [pure, Except.pure, chkRel_ok_ok, h3]
  exact ⟨⟨rfl, rfl, h2⟩, trivial, hinv⟩

/-- What `strict` (the static index conditions of the session) guarantees about a `Renderer` state. -/
structure SInv (c : Cfg V) (a : RStateOS V) : Prop where
  obj : TrackChansOK c.n_in a.obj.chans
  ds : TrackChansOK c.n_in a.ds
  hoa : HoaTrackChansOK c.n_in a.hoa

/-- The two `Renderer` states agree on everything but the convolver inside the object renderer. -/
structure RRel (strict : Prop) (c : Cfg V) (a : RStateOS V) (b : RState V) : Prop where
  al : a.aligner = b.aligner
  obj : ObjRel c a.obj b.obj
  ds : a.ds = b.ds
  hoa : a.hoa = b.hoa
  ss : a.start_sample = b.start_sample
  inv : strict → SInv c a

theorem r_render_sim (strict : Prop) (c : Cfg V) (hB : 1 ≤ c.block_size) (hf : c.taps ≠ []) (a : RStateOS V)
    (b : RState V) (h : RRel strict c a b) (samples : List (List Rat)) :
    ChkRel strict (fun r r' => RRel strict c r.1 r'.1 ∧ r.2 = r'.2) (a.render c samples) (b.render c samples) := by
  obtain ⟨hal, hobj, hds, hhoa, hss, hinv⟩ := h
  have ho := obj_render_sim strict c hB hf a.obj b.obj hobj (fun hs => (hinv hs).obj) b.start_sample samples
  have hd := trackChans_rel strict c.n_in (interpFixed c.sr) (fun (g : V) _ x o => o + RMod.smul x g) b.start_sample
    samples a.ds (List.replicate samples.length 0) (fun hs => (hinv hs).ds)
  have hh := hoaRenderC_rel strict c a.hoa b.start_sample samples (fun hs => (hinv hs).hoa)
  simp only [RStateOS.render, RState.render, dsRenderC, dsRender, bind, Except.bind, hal, ← hds, ← hhoa, hss] at hd hh ⊢
  generalize a.obj.render c b.start_sample samples = ra at ho ⊢
  generalize b.obj.render c b.start_sample samples = rb at ho ⊢
  apply ho.step
  rintro ⟨obj, o1⟩ ⟨obj', _⟩ ⟨ho1, rfl, ho3⟩
  simp only
  cases liftA (b.aligner.add (b.start_sample - c.overall_delay) o1) with
  | error e => exact rfl
  | ok al1 =>
    simp only [liftC_ok]
    generalize procChansC (chkTrack c.n_in) _ a.ds _ = ra at hd ⊢
    generalize procChans (interpFixed c.sr) _ b.start_sample (track samples) a.ds _ = rb at hd ⊢
    apply hd.step
    rintro ⟨ds, o2⟩ _ ⟨rfl, hd2⟩
    simp only
    cases liftA (al1.add b.start_sample o2) with
    | error e => exact rfl
    | ok al2 =>
      simp only [liftC_ok]
      generalize hoaRenderC c a.hoa b.start_sample samples = ra at hh ⊢
      generalize hoaRender c a.hoa b.start_sample samples = rb at hh ⊢
      apply hh.step
      rintro ⟨hoa, o3⟩ _ ⟨rfl, hh2⟩
      simp only
      cases liftA (al2.add b.start_sample o3) with
      | error e => exact rfl
      | ok al3 =>
        simp only [liftC_ok]
        cases liftA al3.get with
        | error e => exact rfl
        | ok r4 =>
          obtain ⟨ret, al4⟩ := r4
          simp only [pure, Except.pure, chkRel_ok_ok, liftC_ok]
          exact ⟨⟨rfl, ho1, rfl, rfl, rfl, fun hs => ⟨ho3 hs, hd2 hs, hh2 hs⟩⟩, trivial⟩

/-! * `renderAllOS` returns the numpy exceptions where the real code raises them (`ChkErr`: a track outside the input, an
  HOA item without tracks, a decode matrix whose width is not the number of tracks), so the `…_os` theorems need no
  hypothesis "to stay inside the code": with accepted timelines (`SessionOK`) and a decorrelation filter with at least
  one tap a session either returns the specified audio or raises one of those three exceptions, and under the static
  conditions `IndexOK` it returns the audio.
* The empty filter: an empty filter array makes `ObjectRenderer.__init__` raise (`VariableBlockSizeAdapter.__init__`
  calls `filter_block`, `IndexError`); `Cfg.decorrelator_delay` is then never used — its `Nat` value `(0 − 1)/2 = 0`
  differs from Python's `(0 − 1)//2 = −1` only in that unreachable case.
* The width of the input is `c.n_in` (as in the C20 model an empty block still has a width): a block of the model stands
  for a numpy array of shape `(n, n_in)` when its frames have `n_in` samples (`InputOK`); the theorems do not need that
  as a hypothesis.
* The theorems about `renderAll` (`render_refines_spec`, `C02_block_independent`, …) are statements about the totalised
  model with the FIR. -/

/-- Track indices inside the input, at least one track per HOA item, decode matrices as wide as the item has tracks. -/
structure IndexOK (c : Cfg V) (objs : List (ObjItem V)) (dss : List (DsItem V)) (hoas : List (HoaItem V)) : Prop where
  obj_tracks : ∀ it ∈ objs, it.track < c.n_in
  ds_tracks : ∀ it ∈ dss, it.track < c.n_in
  hoa_tracks : ∀ it ∈ hoas, ∀ t ∈ it.tracks, t < c.n_in
  hoa_nonempty : ∀ it ∈ hoas, it.tracks ≠ []
  hoa_gains : ∀ it ∈ hoas, ∀ b ∈ it.blocks, b.gains.length = it.tracks.length

/-- Every input frame has `n_in` samples (`input_samples` of shape `(n, n_in)`; `get_tail` is called with
`n_channels = n_in`).  No theorem takes it as a hypothesis; Props/C03 shows that it passes to the sum and the scalar
multiples of inputs of one shape (`inputOK_of_shape`, `inputOK_smulX`). -/
def InputOK (c : Cfg V) (x : List (List Rat)) : Prop := ∀ fr ∈ x, fr.length = c.n_in

omit [LawfulRMod V] in
theorem sinv_init (c : Cfg V) (objs : List (ObjItem V)) (dss : List (DsItem V)) (hoas : List (HoaItem V))
    (h : IndexOK c objs dss hoas) : SInv c (RStateOS.init c objs dss hoas) where
  obj := by
    intro p hp
    obtain ⟨it, hit, rfl⟩ := List.mem_map.mp hp
    exact (chkTrack_eq_none _ _).mpr (h.obj_tracks it hit)
  ds := by
    intro p hp
    obtain ⟨it, hit, rfl⟩ := List.mem_map.mp hp
    exact (chkTrack_eq_none _ _).mpr (h.ds_tracks it hit)
  hoa := by
    intro p hp
    obtain ⟨it, hit, rfl⟩ := List.mem_map.mp hp
    exact ⟨(chkTracks_eq_none _ _).mpr ⟨h.hoa_tracks it hit, h.hoa_nonempty it hit⟩,
      fun m hm => by simpa [okDot] using h.hoa_gains it hit m hm, fun pb hpb => nomatch hpb⟩

theorem r_init_rel (strict : Prop) (c : Cfg V) (hB : 1 ≤ c.block_size) (hf : c.taps ≠ []) (objs : List (ObjItem V))
    (dss : List (DsItem V)) (hoas : List (HoaItem V)) (hs : strict → IndexOK c objs dss hoas) :
    RRel strict c (RStateOS.init c objs dss hoas) (RState.init c objs dss hoas) :=
  ⟨rfl, ⟨rfl, rfl, os_vbs_init_rel c.taps c.block_size hB hf⟩, rfl, rfl, rfl, fun h => sinv_init c objs dss hoas (hs h)⟩

/-- A whole session (`render` on every block of ANY partition, then `get_tail`) of the renderer
with the partitioned overlap-save convolver inside `ObjectRenderer` and the numpy exceptions, against the renderer with
the direct-form FIR and totalised indexing — no hypothesis on the items or the timelines: same audio, or the same
exception, or one of the three numpy exceptions, and the latter only when the static index conditions fail. -/
theorem renderAllOS_rel (c : Cfg V) (hB : 1 ≤ c.block_size) (hf : c.taps ≠ []) (objs : List (ObjItem V))
    (dss : List (DsItem V)) (hoas : List (HoaItem V)) (parts : List (List (List Rat))) :
    ChkRel (IndexOK c objs dss hoas) (fun r r' => r = r') (renderAllOS c objs dss hoas parts)
      (renderAll c objs dss hoas parts) := by
  rw [renderAllOS_eq_sessionG, renderAll_eq_sessionG]
  exact sessionG_rel _ (RRel _ c) _ _ (fun a b p h => r_render_sim _ c hB hf a b h p) _ parts _ _
    (r_init_rel _ c hB hf objs dss hoas id)

theorem renderAllOS_eq (c : Cfg V) (hB : 1 ≤ c.block_size) (hf : c.taps ≠ []) (objs : List (ObjItem V))
    (dss : List (DsItem V)) (hoas : List (HoaItem V)) (hidx : IndexOK c objs dss hoas)
    (parts : List (List (List Rat))) :
    renderAllOS c objs dss hoas parts = liftC (renderAll c objs dss hoas parts) :=
  (renderAllOS_rel c hB hf objs dss hoas parts).eq_liftC _ hidx

def RaisesNumpy {ε α : Type} (x : Except (ChkErr ε) α) : Prop :=
  x = .error .trackIndex ∨ x = .error .emptyStack ∨ x = .error .dotShape

/-- `render_refines_spec` with the partitioned overlap-save convolver in place of the FIR
stand-in and with the numpy exceptions in the model instead of index hypotheses: for every configuration with
`block_size ≥ 1` and a non-empty decorrelation filter, every mix of items with accepted timelines (`SessionOK`), every
input and EVERY partition of it into `render` calls, the session EITHER returns all blocks followed by the tail
concatenating to the sample-by-sample specification `RenderSpec.out` of the concatenated input, OR raises `IndexError`
(a track outside the input) / `ValueError` (`np.stack` of no tracks, `np.dot` with a decode matrix of the wrong width) —
and the latter only if the static index conditions `IndexOK` fail. -/
theorem render_refines_spec_os (c : Cfg V) (objs : List (ObjItem V)) (dss : List (DsItem V)) (hoas : List (HoaItem V))
    (hok : SessionOK c objs dss hoas) (hf : c.taps ≠ []) (parts : List (List (List Rat))) :
    renderAllOS c objs dss hoas parts = .ok (RenderSpec.out c objs dss hoas parts.flatten) ∨
      (¬ IndexOK c objs dss hoas ∧ RaisesNumpy (renderAllOS c objs dss hoas parts)) := by
  have h := renderAllOS_rel c hok.block_size_pos hf objs dss hoas parts
  rw [render_refines_spec c objs dss hoas hok parts] at h
  exact h.of_ok.imp (fun ⟨_, h1, e⟩ => e ▸ h1) id

theorem render_refines_spec_os_ok (c : Cfg V) (objs : List (ObjItem V)) (dss : List (DsItem V)) (hoas : List (HoaItem V))
    (hok : SessionOK c objs dss hoas) (hf : c.taps ≠ []) (hidx : IndexOK c objs dss hoas)
    (parts : List (List (List Rat))) :
    renderAllOS c objs dss hoas parts = .ok (RenderSpec.out c objs dss hoas parts.flatten) :=
  (render_refines_spec_os c objs dss hoas hok hf parts).resolve_right fun h => h.1 hidx

structure TracksOK (c : Cfg V) (objs : List (ObjItem V)) (dss : List (DsItem V)) (hoas : List (HoaItem V)) : Prop where
  obj_tracks : ∀ it ∈ objs, it.track < c.n_in
  ds_tracks : ∀ it ∈ dss, it.track < c.n_in
  hoa_tracks : ∀ it ∈ hoas, ∀ t ∈ it.tracks, t < c.n_in
  hoa_nonempty : ∀ it ∈ hoas, it.tracks ≠ []

omit [RMod V] [LawfulRMod V] in
theorem procChansC_ok {α B ε W : Type} (chkT : α → Option (ChkErr ε))
    (proc : α → B → List W → Except (ChkErr ε) (B × List W)) :
    ∀ (chans : List (α × B)) (out : List W) r, procChansC chkT proc chans out = .ok r →
      ∀ p ∈ chans, chkT p.1 = none ∧ ∃ out' r', proc p.1 p.2 out' = .ok r' := by
  intro chans
  induction chans with
  | nil => intro out r _ p hp; cases hp
  | cons q rest ih =>
    intro out r h p hp
    obtain ⟨t, b⟩ := q
    simp only [procChansC] at h
    split at h
    · cases h
    rename_i hc
    split at h
    · cases h
    rename_i b1 out1 h1
    split at h
    · cases h
    rename_i h2
    rcases List.mem_cons.mp hp with rfl | hp
    · exact ⟨hc, out, _, h1⟩
    · exact ih out1 _ h2 p hp

omit [LawfulRMod V] in
theorem render_ok_parts (c : Cfg V) (st : RStateOS V) (blk : List (List Rat)) (r : RStateOS V × List V)
    (h : st.render c blk = .ok r) :
    ∃ r1 r3 r5, objChansC c st.start_sample blk st.obj.chans (List.replicate blk.length (0 : V × V)) = .ok r1 ∧
      dsRenderC c st.ds st.start_sample blk = .ok r3 ∧ hoaRenderC c st.hoa st.start_sample blk = .ok r5 := by
  simp only [RStateOS.render] at h
  split at h
  · cases h
  rename_i obj o1 h1
  split at h
  · cases h
  split at h
  · cases h
  rename_i ds o2 h3
  split at h
  · cases h
  split at h
  · cases h
  rename_i hoa o3 h5
  simp only [ObjStateOS.render] at h1
  split at h1
  · cases h1
  rename_i chans ip h6
  exact ⟨_, _, _, h6, h3, h5⟩

omit [LawfulRMod V] in
theorem renderAllOS_ok_first_call (c : Cfg V) (objs : List (ObjItem V)) (dss : List (DsItem V)) (hoas : List (HoaItem V))
    (parts : List (List (List Rat))) (out : List V) (h : renderAllOS c objs dss hoas parts = .ok out) :
    ∃ blk r, (RStateOS.init c objs dss hoas).render c blk = .ok r :=
  sessionG_ok_first_call (RStateOS.render c) _ _ parts out (renderAllOS_eq_sessionG c objs dss hoas parts ▸ h)

omit [LawfulRMod V] in
/-- If a session returns audio (whatever the timelines), every track of every item is a
column of the input and every HOA item has a track: `input_samples[:, track_index]` / `np.stack` are evaluated for every
channel on the very first call (the first `render`, or `get_tail` when there is none).  Contrapositive: a track outside
the input, or an HOA item without tracks, makes EVERY session raise, for every blocking. -/
theorem renderAllOS_ok_tracks (c : Cfg V) (objs : List (ObjItem V)) (dss : List (DsItem V)) (hoas : List (HoaItem V))
    (parts : List (List (List Rat))) (out : List V) (h : renderAllOS c objs dss hoas parts = .ok out) :
    TracksOK c objs dss hoas := by
  obtain ⟨blk, r, hr⟩ := renderAllOS_ok_first_call c objs dss hoas parts out h
  obtain ⟨r1, r3, r5, h1, h3, h5⟩ := render_ok_parts c _ blk r hr
  have hhoa := fun it hit => (chkTracks_eq_none _ _).mp
    (procChansC_ok _ _ _ _ _ h5 (it.tracks, ⟨it.blocks, {}, []⟩) (List.mem_map.mpr ⟨it, hit, rfl⟩)).1
  exact ⟨fun it hit => (chkTrack_eq_none _ _).mp
      (procChansC_ok _ _ _ _ _ h1 (it.track, ⟨it.blocks, {}, []⟩) (List.mem_map.mpr ⟨it, hit, rfl⟩)).1,
    fun it hit => (chkTrack_eq_none _ _).mp
      (procChansC_ok _ _ _ _ _ h3 (it.track, ⟨it.blocks, {}, []⟩) (List.mem_map.mpr ⟨it, hit, rfl⟩)).1,
    fun it hit => (hhoa it hit).1, fun it hit => (hhoa it hit).2⟩

omit [RMod V] [LawfulRMod V] in
theorem refill_nonempty {M S K : Type} (interp : S → M → Except Err (S × List (PBlock K))) (check : Option Int)
    (src : List M) (st : S) (pb : PBlock K) (q : List (PBlock K)) :
    refill interp check src st (pb :: q) = .ok ⟨src, st, pb :: q⟩ := by
  cases src with
  | nil => rfl
  | cons m ms => simp [refill, pure, Except.pure]

omit [RMod V] [LawfulRMod V] in
/-- A fresh HOA channel: the first decode matrix is checked on the first call. -/
theorem bpcProcessC_first {G ι W : Type} (okK : G → Bool) (sr : Nat) (upd : G → Nat → ι → W → W) (ss : Int)
    (inp : List ι) (out : List W) (m : MetaBlock G) (rest : List (MetaBlock G)) (st : IState G) r
    (h : bpcProcessC okK (interpFixed sr) upd ss inp out ⟨m :: rest, st, []⟩ = .ok r) : okK m.gains = true := by
  simp only [bpcProcessC, refill, ne_eq, not_true_eq_false, if_false, bind, Except.bind, List.nil_append,
    interpFixed] at h
  cases hb : blockStartEnd st.tlast m with
  | error e => rw [hb] at h; cases h
  | ok se =>
    obtain ⟨s, e⟩ := se
    rw [hb] at h
    simp only [refill_nonempty] at h
    split at h
    · cases h
    · rename_i b hb2
      split at hb2
      · simp only [throw, throwThe, MonadExceptOf.throw] at hb2
        cases hb2
      · cases hb2
        simp only [Bpc.fuel, List.length_cons, List.length_nil, bpcLoopC] at h
        by_contra hk
        simp only [Bool.not_eq_true] at hk
        simp only [PBlock.new, hk, if_true] at h
        cases h

omit [LawfulRMod V] in
/-- If a session returns audio, the FIRST decode matrix of every HOA item has one
column per track: the first processing block of a channel is at the head of its queue on the very first call, and
`np.dot` is evaluated on it whether or not any sample overlaps.  Contrapositive: a mis-shaped first matrix makes every
session raise, for every input and blocking.  (A mis-shaped LATER matrix raises exactly when it is reached; that dynamic
condition is not characterised here — tied by correspondence.) -/
theorem renderAllOS_ok_first_matrix (c : Cfg V) (objs : List (ObjItem V)) (dss : List (DsItem V))
    (hoas : List (HoaItem V)) (parts : List (List (List Rat))) (out : List V)
    (h : renderAllOS c objs dss hoas parts = .ok out) :
    ∀ it ∈ hoas, ∀ m rest, it.blocks = m :: rest → m.gains.length = it.tracks.length := by
  intro it hit m rest hm
  obtain ⟨blk, r, hr⟩ := renderAllOS_ok_first_call c objs dss hoas parts out h
  obtain ⟨-, -, r5, -, -, h5⟩ := render_ok_parts c _ blk r hr
  obtain ⟨-, out', r', hp⟩ := procChansC_ok _ _ _ _ _ h5 (it.tracks, ⟨it.blocks, {}, []⟩)
    (List.mem_map.mpr ⟨it, hit, rfl⟩)
  simp only [hm] at hp
  have := bpcProcessC_first _ _ _ _ _ _ _ _ _ _ hp
  simpa [okDot] using this

/-- With accepted timelines, a track outside the input (or an HOA item without
tracks) makes the session raise one of the numpy exceptions, for every input and every blocking. -/
theorem renderAllOS_raises_of_bad_track (c : Cfg V) (objs : List (ObjItem V)) (dss : List (DsItem V))
    (hoas : List (HoaItem V)) (hok : SessionOK c objs dss hoas) (hf : c.taps ≠ []) (parts : List (List (List Rat)))
    (hbad : ¬ TracksOK c objs dss hoas) : RaisesNumpy (renderAllOS c objs dss hoas parts) :=
  (render_refines_spec_os c objs dss hoas hok hf parts).elim
    (fun h => absurd (renderAllOS_ok_tracks c objs dss hoas parts _ h) hbad) And.right

/-- A session inside the static conditions: accepted timelines and `block_size ≥ 1` (`SessionOK`), indices and matrix
shapes that numpy accepts (`IndexOK`), a decorrelation filter with at least one tap. -/
structure SessionWF (c : Cfg V) (objs : List (ObjItem V)) (dss : List (DsItem V)) (hoas : List (HoaItem V)) : Prop where
  ok : SessionOK c objs dss hoas
  index : IndexOK c objs dss hoas
  taps_ne : c.taps ≠ []

end Earverif.Renderer

namespace Earverif.RendererTS
open Earverif.Stream Earverif.Timeline Earverif.Renderer

variable {V : Type} [RMod V] [LawfulRMod V]

structure ObjRelTS (c : Cfg V) (a : ObjStateTSOS V) (b : ObjStateTS V) : Prop where
  chans : a.chans = b.chans
  mem : a.delaymem = b.delaymem
  vbs : VbsRel (OSFirRel c.taps c.block_size) c.block_size a.vbs b.vbs

theorem obj_render_sim_ts (strict : Prop) (c : Cfg V) (hB : 1 ≤ c.block_size) (hf : c.taps ≠ []) (a : ObjStateTSOS V)
    (b : ObjStateTS V) (h : ObjRelTS c a b) (S0 : Int) (inp : List (List Rat)) :
    ChkRel strict (fun r r' => ObjRelTS c r.1 r'.1 ∧ r.2 = r'.2) (a.render c S0 inp) (b.render c S0 inp) := by
  obtain ⟨hch, hmem, hvbs⟩ := h
  simp only [ObjStateTSOS.render, ObjStateTS.render, hch, hmem]
  cases procChansTS (interpObject c.sr) GainKern.upd S0 (fun p => TrackSpec.step c.sr c.n_in p inp) b.chans
      (List.replicate inp.length (0 : V × V)) with
  | error e => exact rfl
  | ok r =>
    obtain ⟨chans, interpolated⟩ := r
    obtain ⟨h1, h2⟩ := vbs_process_sim (os_fir_stepSim c.taps c.block_size hB hf)
      (fir_step_length c.taps c.block_size) 0 a.vbs b.vbs hvbs (interpolated.map Prod.snd)
    simp only [liftC_ok, chkRel_ok_ok, h2]
    exact ⟨⟨rfl, rfl, h1⟩, trivial⟩

structure RRelTS (strict : Prop) (c : Cfg V) (a : RStateTSOS V) (b : RStateTS V) : Prop where
  al : a.aligner = b.aligner
  obj : ObjRelTS c a.obj b.obj
  ds : a.ds = b.ds
  hoa : a.hoa = b.hoa
  ss : a.start_sample = b.start_sample
  inv : strict → ∀ p ∈ a.hoa, HoaChanOK p

/-- Every decode matrix of every HOA item has one column per track spec of the item (`np.dot` raises otherwise). -/
def HoaGainsOK (hoas : List (HoaItemTS V)) : Prop := ∀ it ∈ hoas, ∀ b ∈ it.blocks, b.gains.length = it.specs.length

omit [RMod V] [LawfulRMod V] in
theorem buildMulti_length (ss : List (TrackSpec.Spec Rat)) (ps : List (TrackSpec.Proc Rat))
    (h : TrackSpec.buildMulti ss = .ok ps) : ps.length = ss.length := by
  rw [TrackSpec.buildMulti_eq 0 0, Except.ok.injEq] at h
  subst h
  induction ss with
  | nil => rfl
  | cons t ts ih => simp only [TrackSpec.simplifyList, TrackSpec.afterList, List.length_cons, ih]

omit [RMod V] [LawfulRMod V] in
theorem mem_mkChans {I P M S K : Type} (mk : I → Except TrackSpec.Err P) (blocksOf : I → List M) (st0 : S) :
    ∀ (items : List I) (chans : List (P × Bpc M S K)), mkChans mk blocksOf st0 items = .ok chans →
      ∀ p ∈ chans, ∃ it ∈ items, mk it = .ok p.1 ∧ p.2 = ⟨blocksOf it, st0, []⟩ := by
  intro items
  induction items with
  | nil => intro chans h p hp; simp only [mkChans, Except.ok.injEq] at h; subst h; cases hp
  | cons it rest ih =>
    intro chans h p hp
    simp only [mkChans] at h
    split at h
    · cases h
    rename_i q h1
    split at h
    · cases h
    rename_i cs h2
    cases h
    rcases List.mem_cons.mp hp with rfl | hp
    · exact ⟨it, List.mem_cons_self, h1, rfl⟩
    · obtain ⟨it', hm, e1, e2⟩ := ih cs h2 p hp
      exact ⟨it', List.mem_cons_of_mem _ hm, e1, e2⟩

theorem r_init_rel_ts (strict : Prop) (c : Cfg V) (hB : 1 ≤ c.block_size) (hf : c.taps ≠ [])
    (objs : List (ObjItemTS V)) (dss : List (DsItemTS V)) (hoas : List (HoaItemTS V))
    (hs : strict → HoaGainsOK hoas) :
    (∃ e, RStateTSOS.init c objs dss hoas = .error e ∧ RStateTS.init c objs dss hoas = .error e) ∨
      ∃ a b, RStateTSOS.init c objs dss hoas = .ok a ∧ RStateTS.init c objs dss hoas = .ok b ∧ RRelTS strict c a b := by
  simp only [RStateTSOS.init, RStateTS.init, ObjStateTSOS.init, ObjStateTS.init]
  cases mkChans (fun it : ObjItemTS V => TrackSpec.trackProcessor it.spec) (·.blocks) ({} : IState (V × V)) objs with
  | error e => exact .inl ⟨e, rfl, rfl⟩
  | ok chans =>
    cases mkChans (fun it : DsItemTS V => TrackSpec.trackProcessor it.spec) (·.blocks) ({} : IState V) dss with
    | error e => exact .inl ⟨e, rfl, rfl⟩
    | ok ds =>
      cases hm : mkChans (fun it : HoaItemTS V => TrackSpec.buildMulti it.specs) (·.blocks) ({} : IState (List V))
          hoas with
      | error e => exact .inl ⟨e, rfl, rfl⟩
      | ok hoa =>
        refine .inr ⟨_, _, rfl, rfl, rfl, ⟨rfl, rfl, os_vbs_init_rel c.taps c.block_size hB hf⟩, rfl, rfl, rfl, ?_⟩
        intro hst p hp
        obtain ⟨it, hit, e1, e2⟩ := mem_mkChans _ _ _ hoas hoa hm p hp
        have hl := buildMulti_length it.specs p.1 e1
        rw [HoaChanOK, e2]
        exact ⟨fun m hm' => by simpa [okDot, hl] using hs hst it hit m hm', fun pb hpb => nomatch hpb⟩

theorem r_render_sim_ts (strict : Prop) (c : Cfg V) (hB : 1 ≤ c.block_size) (hf : c.taps ≠ []) (a : RStateTSOS V)
    (b : RStateTS V) (h : RRelTS strict c a b) (samples : List (List Rat)) :
    ChkRel strict (fun r r' => RRelTS strict c r.1 r'.1 ∧ r.2 = r'.2) (a.render c samples) (b.render c samples) := by
  obtain ⟨hal, hobj, hds, hhoa, hss, hinv⟩ := h
  have ho := obj_render_sim_ts strict c hB hf a.obj b.obj hobj b.start_sample samples
  have hh := hoaChansTSC_rel strict c b.start_sample samples a.hoa (List.replicate samples.length 0) hinv
  simp only [RStateTSOS.render, RStateTS.render, hoaRenderTSC, hoaRenderTS, hal, hds, ← hhoa, hss] at hh ⊢
  generalize a.obj.render c b.start_sample samples = ra at ho ⊢
  generalize b.obj.render c b.start_sample samples = rb at ho ⊢
  apply ho.step
  rintro ⟨obj, o1⟩ ⟨obj', _⟩ ⟨ho1, rfl⟩
  simp only
  cases liftR (liftA (b.aligner.add (b.start_sample - c.overall_delay) o1)) with
  | error e => exact rfl
  | ok al1 =>
    simp only [liftC_ok]
    cases dsRenderTS c b.ds b.start_sample samples with
    | error e => exact rfl
    | ok r2 =>
      obtain ⟨ds, o2⟩ := r2
      simp only [liftC_ok]
      cases liftR (liftA (al1.add b.start_sample o2)) with
      | error e => exact rfl
      | ok al2 =>
        simp only [liftC_ok]
        generalize hoaChansTSC c b.start_sample samples a.hoa _ = ra at hh ⊢
        generalize procChansTS (interpFixed c.sr) matUpd b.start_sample _ a.hoa _ = rb at hh ⊢
        apply hh.step
        rintro ⟨hoa, o3⟩ _ ⟨rfl, hh2⟩
        simp only
        cases liftR (liftA (al2.add b.start_sample o3)) with
        | error e => exact rfl
        | ok al3 =>
          simp only [liftC_ok]
          cases liftR (liftA al3.get) with
          | error e => exact rfl
          | ok r4 =>
            obtain ⟨ret, al4⟩ := r4
            simp only [chkRel_ok_ok, liftC_ok]
            exact ⟨⟨rfl, ho1, rfl, rfl, rfl, hh2⟩, trivial⟩

/-- The renderer with track processors: a whole session with the overlap-save
convolver and the `np.dot` exception against the session with the direct-form FIR and the totalised decode-matrix
product: same audio, or the same exception, or a numpy exception — the latter only when some decode matrix does not
have one column per track spec of its item. -/
theorem renderAllTSOS_rel (c : Cfg V) (hB : 1 ≤ c.block_size) (hf : c.taps ≠ []) (objs : List (ObjItemTS V))
    (dss : List (DsItemTS V)) (hoas : List (HoaItemTS V)) (parts : List (List (List Rat))) :
    ChkRel (HoaGainsOK hoas) (fun r r' => r = r') (renderAllTSOS c objs dss hoas parts)
      (renderAllTS c objs dss hoas parts) := by
  rw [renderAllTSOS_eq_sessionG, renderAllTS_eq_sessionG]
  rcases r_init_rel_ts (HoaGainsOK hoas) c hB hf objs dss hoas id with ⟨e, h1, h2⟩ | ⟨a0, b0, h1, h2, h0⟩
  · rw [h1, h2]
    exact rfl
  · rw [h1, h2]
    exact sessionG_rel _ (RRelTS (HoaGainsOK hoas) c) _ _ (fun a b p h => r_render_sim_ts _ c hB hf a b h p) _ parts
      a0 b0 h0

theorem renderAllTSOS_eq (c : Cfg V) (hB : 1 ≤ c.block_size) (hf : c.taps ≠ []) (objs : List (ObjItemTS V))
    (dss : List (DsItemTS V)) (hoas : List (HoaItemTS V)) (hg : HoaGainsOK hoas) (parts : List (List (List Rat))) :
    renderAllTSOS c objs dss hoas parts = liftC (renderAllTS c objs dss hoas parts) :=
  (renderAllTSOS_rel c hB hf objs dss hoas parts).eq_liftC _ hg

/-- `render_eq_outTS` (= `render_refines_spec_ts` written out) with the overlap-save
convolver in place of the FIR stand-in and the `np.dot` exception in the model: for every `SessionOKTS` session
(accepted timelines, `block_size ≥ 1`, C20's `Spec.wf`: direct indices inside the input, delays ≥ 0, every HOA item has
a spec), a non-empty decorrelation filter and EVERY partition, the session EITHER returns the specification `outTS` OR
raises a numpy exception — and the latter only if some decode matrix does not have one column per track spec. -/
theorem render_eq_outTS_os (c : Cfg V) (objs : List (ObjItemTS V)) (dss : List (DsItemTS V))
    (hoas : List (HoaItemTS V)) (hok : SessionOKTS c objs dss hoas) (hf : c.taps ≠ [])
    (parts : List (List (List Rat))) :
    renderAllTSOS c objs dss hoas parts = .ok (outTS c objs dss hoas parts.flatten) ∨
      (¬ HoaGainsOK hoas ∧ RaisesNumpy (renderAllTSOS c objs dss hoas parts)) := by
  have h := renderAllTSOS_rel c hok.block_size_pos hf objs dss hoas parts
  rw [render_eq_outTS c objs dss hoas hok parts] at h
  exact h.of_ok.imp (fun ⟨_, h1, e⟩ => e ▸ h1) id

theorem render_eq_outTS_os_ok (c : Cfg V) (objs : List (ObjItemTS V)) (dss : List (DsItemTS V))
    (hoas : List (HoaItemTS V)) (hok : SessionOKTS c objs dss hoas) (hf : c.taps ≠ []) (hg : HoaGainsOK hoas)
    (parts : List (List (List Rat))) :
    renderAllTSOS c objs dss hoas parts = .ok (outTS c objs dss hoas parts.flatten) :=
  (render_eq_outTS_os c objs dss hoas hok hf parts).resolve_right fun h => h.1 hg

/-- A session with track processors inside the static conditions: `SessionOKTS`, decode matrices as wide as the item has
track specs, a decorrelation filter with at least one tap. -/
structure SessionWFTS (c : Cfg V) (objs : List (ObjItemTS V)) (dss : List (DsItemTS V)) (hoas : List (HoaItemTS V)) :
    Prop where
  ok : SessionOKTS c objs dss hoas
  hoa_gains : HoaGainsOK hoas
  taps_ne : c.taps ≠ []

end Earverif.RendererTS
