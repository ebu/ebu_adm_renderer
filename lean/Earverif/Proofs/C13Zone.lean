/-
C13 — the zone-exclusion model (`Model/Zone.lean`), core Lean only: `mapOpt` is `List.mapM`; lengths of the masks
(`getExcluded_length`, `alloExcluded_length`); `groupRow`, the row of a priority group, and `downmixRow` as the first
usable group (`downmixRow_eq_find?`); what a defined matrix is (`downmixForExcluded_some`, `_rows`); the zero laws and
the exact zeros they give (`ZeroLaws`, `applyDownmix_zero`, `powerSum_zero`, `finishGains_zero`); the row extension of
the Cartesian mask only adds (`alloExtendFrom_mono`).
-/
import Earverif.Model.Zone
import Earverif.Proofs.MapM
import Earverif.Proofs.ListLemmas

namespace Earverif.C13
open Earverif.Zone Earverif.Zone.Scalar Earverif.Zone.ScalarSqrt

@[simp] theorem rat_zero : (Scalar.zero : Rat) = 0 := rfl
@[simp] theorem rat_one : (Scalar.one : Rat) = 1 := rfl
@[simp] theorem rat_ofNat (n : Nat) : (Scalar.ofNat n : Rat) = (n : Rat) := rfl
@[simp] theorem rat_add (a b : Rat) : Scalar.add a b = a + b := rfl
@[simp] theorem rat_sub (a b : Rat) : Scalar.sub a b = a - b := rfl
@[simp] theorem rat_mul (a b : Rat) : Scalar.mul a b = a * b := rfl
@[simp] theorem rat_div (a b : Rat) : Scalar.div a b = a / b := rfl
@[simp] theorem rat_lt (a b : Rat) : Scalar.lt a b = decide (a < b) := rfl
@[simp] theorem rat_le (a b : Rat) : Scalar.le a b = decide (a ≤ b) := rfl
@[simp] theorem rat_eq (a b : Rat) : Scalar.eq a b = (a == b) := rfl

theorem sumList_rat (l : List Rat) : sumList l = l.sum := List.sum_eq_foldl.symm

theorem sumList_rat_nil : sumList ([] : List Rat) = 0 := rfl

/-- (`GainCalc.nodupB` of `Model/GainCalc.lean` is the same recursion over any `BEq` type; this file does not import it) -/
def nodupB : List Nat → Bool
  | [] => true
  | a :: l => !l.contains a && nodupB l

theorem nodupB_filter (l : List Nat) (p : Nat → Bool) (h : nodupB l = true) : nodupB (l.filter p) = true := by
  induction l with
  | nil => rfl
  | cons a l ih =>
    simp only [nodupB, Bool.and_eq_true, Bool.not_eq_true', List.contains_eq_mem, decide_eq_false_iff_not] at h
    by_cases hp : p a = true
    · simp only [List.filter_cons, hp, ↓reduceIte, nodupB, Bool.and_eq_true, Bool.not_eq_true',
        List.contains_eq_mem, decide_eq_false_iff_not, List.mem_filter, not_and]
      exact ⟨fun hm => absurd hm h.1, ih h.2⟩
    · simp only [List.filter_cons, hp]
      exact ih h.2

theorem nodupB_nodup : ∀ l : List Nat, nodupB l = true → l.Nodup
  | [], _ => List.nodup_nil
  | a :: l, h => by
    simp only [nodupB, Bool.and_eq_true, Bool.not_eq_true', List.contains_eq_mem, decide_eq_false_iff_not] at h
    exact List.nodup_cons.mpr ⟨h.1, nodupB_nodup l h.2⟩

theorem mapOpt_eq_mapM {β γ : Type} (f : β → Option γ) : ∀ l : List β, mapOpt f l = l.mapM f
  | [] => rfl
  | x :: xs => by
    rw [List.mapM_cons, mapOpt, mapOpt_eq_mapM f xs]
    cases f x <;> cases xs.mapM f <;> rfl

theorem orMask_length : ∀ (a b : List Bool), a.length = b.length → (orMask a b).length = a.length
  | [], _, _ => rfl
  | _ :: _, [], h => nomatch h
  | _ :: as, _ :: bs, h => congrArg (· + 1) (orMask_length as bs (Nat.succ.inj h))

theorem getExcluded_cons_some {α : Type} [Scalar α] {fuel : Nat} {spks : List (Spk α)} {z : Zone α}
    {zs : List (Zone α)} {m : List Bool} (h : getExcluded fuel spks (z :: zs) = some m) :
    ∃ m1 m2, spks.mapM (zoneMatch fuel z) = some m1 ∧ getExcluded fuel spks zs = some m2 ∧ m = orMask m1 m2 := by
  simp only [getExcluded, Option.bind_eq_some_iff, Option.some.injEq] at h
  obtain ⟨m1, h1, m2, h2, rfl⟩ := h
  exact ⟨m1, m2, mapOpt_eq_mapM _ _ ▸ h1, h2, rfl⟩

theorem getExcluded_length {α : Type} [Scalar α] (fuel : Nat) (spks : List (Spk α)) :
    ∀ (zones : List (Zone α)) (m : List Bool), getExcluded fuel spks zones = some m → m.length = spks.length
  | [], _, h => by cases h; exact List.length_map _
  | _ :: zs, _, h => by
    obtain ⟨m1, m2, h1, h2, rfl⟩ := getExcluded_cons_some h
    have l1 := mapM_some_length h1
    rw [orMask_length m1 m2 (l1.trans (getExcluded_length fuel spks zs m2 h2).symm), l1]

/-- the row `downmix_for_excluded` writes for a group whose non-excluded members are `ne`: `1/|ne|` on them, 0 elsewhere.
Over ℚ and ℝ it is `indRow n ne (1 / |ne|)` of `Proofs/IndRow.lean` by unfolding (`groupRow_real`), and its sums and
signs are proved there. -/
def groupRow {α : Type} [Scalar α] (n : Nat) (ne : List Nat) : List α :=
  (List.range n).map fun j => if ne.contains j then div one (ofNat ne.length) else zero

theorem groupRow_getD_of_not_mem {α : Type} [Scalar α] (n : Nat) (ne : List Nat) (j : Nat) (hj : j ∉ ne) :
    (groupRow n ne : List α).getD j zero = zero := by
  have : ne.contains j = false := by simpa using hj
  simp only [groupRow, getD_map_range, this, Bool.false_eq_true, ↓reduceIte, ite_self]

theorem downmixRow_eq_find? {α : Type} [Scalar α] (n : Nat) (mask : List Bool) : ∀ gs : List (List Nat),
    downmixRow (α := α) n mask gs =
      (gs.find? fun g => !g.all (isExcl mask)).map fun g => groupRow n (notExcluded mask g)
  | [] => rfl
  | g :: rest => by
    rw [downmixRow, List.find?_cons]
    cases g.all (isExcl mask)
    · rfl
    · exact downmixRow_eq_find? n mask rest

theorem downmixRow_some {α : Type} [Scalar α] (n : Nat) (mask : List Bool) (gs : List (List Nat)) (row : List α)
    (h : downmixRow n mask gs = some row) :
    ∃ g ∈ gs, g.all (isExcl mask) = false ∧ row = groupRow n (notExcluded mask g) := by
  rw [downmixRow_eq_find?, Option.map_eq_some_iff] at h
  obtain ⟨g, hg, rfl⟩ := h
  exact ⟨g, List.mem_of_find?_eq_some hg, by simpa using List.find?_some hg, rfl⟩

theorem downmixForExcluded_some {α : Type} [Scalar α] {n : Nat} {gs : List (List (List Nat))} {mask : List Bool}
    {D : List (List α)} (h : downmixForExcluded n gs mask = some D) :
    mask.length = n ∧
      (((mask.all id || mask.all fun b => !b) = true ∧ D = eye n) ∨
       ((mask.all id || mask.all fun b => !b) = false ∧ gs.mapM (downmixRow n mask) = some D)) := by
  unfold downmixForExcluded at h
  split at h
  · cases h
  · rename_i hlen
    split at h
    · rename_i ht; exact ⟨by simpa using hlen, .inl ⟨ht, (Option.some.inj h).symm⟩⟩
    · rename_i ht; exact ⟨by simpa using hlen, .inr ⟨by simpa using ht, mapOpt_eq_mapM _ _ ▸ h⟩⟩

theorem downmixForExcluded_rows {α : Type} [Scalar α] {n : Nat} {gs : List (List (List Nat))} {mask : List Bool}
    {D : List (List α)} (h : downmixForExcluded n gs mask = some D) : ∀ row ∈ D,
    ((mask.all id || mask.all fun b => !b) = true ∧
      ∃ i, i < n ∧ row = (List.range n).map fun j => if i == j then one else zero) ∨
    ((mask.all id || mask.all fun b => !b) = false ∧
      ∃ g ∈ gs, ∃ grp ∈ g, grp.all (isExcl mask) = false ∧ row = groupRow n (notExcluded mask grp)) := by
  intro row hrow
  rcases (downmixForExcluded_some h).2 with ⟨ht, rfl⟩ | ⟨ht, hD⟩
  · obtain ⟨i, hi, rfl⟩ := List.mem_map.mp hrow
    exact .inl ⟨ht, i, List.mem_range.mp hi, rfl⟩
  · obtain ⟨g, hgm, hrowdef⟩ := mapM_some_mem_rev hD row hrow
    obtain ⟨grp, hgrp, hnotall, hr⟩ := downmixRow_some n mask g row hrowdef
    exact .inr ⟨ht, g, hgm, grp, hgrp, hnotall, hr⟩

theorem not_mem_notExcluded (mask : List Bool) (g : List Nat) (j : Nat) (h : isExcl mask j = true) :
    j ∉ notExcluded mask g := by
  simp [notExcluded, h]

theorem notExcluded_pos (mask : List Bool) (g : List Nat) (h : g.all (isExcl mask) = false) :
    0 < (notExcluded mask g).length := by
  obtain ⟨x, hx, hxe⟩ := List.all_eq_false.mp h
  exact List.length_pos_of_mem (List.mem_filter.mpr ⟨hx, by simpa using hxe⟩)

/-- A hypothesis of the zero-gain theorems: the only facts about the scalar operations that they use.  They hold in
every ordered field with a square root (proved for `ℝ`: `zero_laws_real` in `Props/C13.lean`).  For `Float` no
instance is or can be proved: the laws hold for finite `x` in IEEE-754 binary64 with `zero` read as `±0`
(`x·±0 = ±0`, `±0 + ±0 = ±0`, `sqrt ±0 = ±0`, `nan_to_num ±0 = ±0`; numpy compares `-0.0 == 0.0`), but a non-finite `x`
gives `x·0 = nan`, which `nan_to_num` maps back to `0.0` only before the gains leave `render`. -/
structure ZeroLaws (α : Type) [ScalarSqrt α] : Prop where
  mul_zero : ∀ x : α, mul x zero = zero
  zero_mul : ∀ x : α, mul zero x = zero
  add_zero_zero : add (zero : α) zero = zero
  sqrt_zero : sqrt (zero : α) = zero
  nan_zero : nanToNum (zero : α) = zero

theorem sumList_zero {α : Type} [ScalarSqrt α] (h : ZeroLaws α) : ∀ (l : List α),
    (∀ x ∈ l, x = zero) → sumList l = zero
  | [], _ => rfl
  | x :: xs, hz => by
    obtain rfl := hz x List.mem_cons_self
    rw [sumList, List.foldl_cons, h.add_zero_zero]
    exact sumList_zero h xs fun y hy => hz y (List.mem_cons_of_mem _ hy)

theorem zipWith_forall {β γ δ : Type} (f : β → γ → δ) (P : δ → Prop) :
    ∀ (l1 : List β) (l2 : List γ), (∀ a, ∀ b ∈ l2, P (f a b)) → ∀ x ∈ List.zipWith f l1 l2, P x := by
  intro l1
  induction l1 with
  | nil => intro l2 _ x hx; simp at hx
  | cons a as ih =>
    intro l2 hP x hx
    cases l2 with
    | nil => simp at hx
    | cons b bs =>
      simp only [List.zipWith_cons_cons, List.mem_cons] at hx
      rcases hx with rfl | hx
      · exact hP a b (by simp)
      · exact ih bs (fun a' b' hb' => hP a' b' (by simp [hb'])) x hx

theorem applyDownmix_zero {α : Type} [ScalarSqrt α] (h : ZeroLaws α) (n : Nat) (gains : List α)
    (D : List (List α)) (j : Nat) (hj : j < n) (hcol : ∀ row ∈ D, row.getD j zero = zero) :
    (applyDownmix n gains D)[j]? = some zero := by
  unfold applyDownmix
  rw [List.getElem?_map, List.getElem?_range hj, Option.map_some]
  congr 1
  unfold dotCol
  rw [sumList_zero h, h.sqrt_zero]
  apply zipWith_forall _ (fun x => x = zero)
  intro a row hrow
  rw [hcol row hrow, h.mul_zero]

theorem powerSum_zero {α : Type} [ScalarSqrt α] (h : ZeroLaws α) (n : Nat) (dg : List α)
    (G : List (List α)) (j : Nat) (hj : j < n) (hG : ∀ row ∈ G, row.getD j zero = zero) :
    (powerSum n dg G)[j]? = some zero := by
  unfold powerSum
  rw [List.getElem?_map, List.getElem?_range hj, Option.map_some]
  congr 1
  rw [sumList_zero h, h.sqrt_zero]
  apply zipWith_forall _ (fun x => x = zero)
  intro d row hrow
  rw [hG row hrow, h.zero_mul, h.mul_zero]

theorem finishGains_zero {α : Type} [ScalarSqrt α] (h : ZeroLaws α) (gains : List α) (gain diffuse : α)
    (j : Nat) (hz : gains[j]? = some zero) :
    (finishGains gains gain diffuse).1[j]? = some zero ∧ (finishGains gains gain diffuse).2[j]? = some zero := by
  unfold finishGains
  simp only [List.getElem?_map, hz, Option.map_some, h.nan_zero, h.zero_mul, and_self]

theorem renderPolar_eq_some {α : Type} [ScalarSqrt α] {n : Nat} {gs : List (List (List Nat))} {mask : List Bool}
    {pans : List (List α)} {dg : List α} {gain diffuse : α} {out : List α × List α} :
    renderPolar n gs mask pans dg gain diffuse = some out ↔
      ∃ D, downmixForExcluded n gs mask = some D ∧
        out = finishGains (applyDownmix n (powerSum n dg pans) D) gain diffuse := by
  simp only [renderPolar, zoneHandle, Option.bind_eq_some_iff, Option.some.injEq]
  exact ⟨fun ⟨_, ⟨D, hD, hz⟩, ho⟩ => ⟨D, hD, by rw [← ho, ← hz]⟩, fun ⟨D, hD, ho⟩ => ⟨_, ⟨D, hD, rfl⟩, ho.symm⟩⟩

theorem scatter_length {α : Type} [Scalar α] : ∀ (m : List Bool) (g : List α), (scatter m g).length = m.length := by
  intro m
  induction m with
  | nil => intro g; rfl
  | cons b m ih =>
    intro g
    match b, g with
    | true, g => exact congrArg (· + 1) (ih g)
    | false, _ :: g => exact congrArg (· + 1) (ih g)
    | false, [] => exact congrArg (· + 1) (ih [])

/-- `gains_full[excluded]` stays at the `np.zeros` value. -/
theorem scatter_getD {α : Type} [Scalar α] :
    ∀ (m : List Bool) (g : List α) (j : Nat), m[j]? = some true → (scatter m g).getD j zero = zero
  | [], _, _, h => nomatch h
  | true :: _, _, 0, _ => rfl
  | false :: _, _, 0, h => nomatch h
  | true :: m, g, j + 1, h => scatter_getD m g j h
  | false :: m, _ :: g, j + 1, h => scatter_getD m g j h
  | false :: m, [], j + 1, h => scatter_getD m [] j h

theorem extendStep_length {α : Type} [Scalar α] (pos : List (P3 α)) (m : List Bool) (i : Nat) (c : P3 α)
    (h : pos.length = m.length) : (extendStep pos m i c).length = m.length := by
  unfold extendStep
  split
  · simp [h]
  · rfl

theorem isExcl_true_iff {m : List Bool} {j : Nat} : isExcl m j = true ↔ m[j]? = some true := by
  rw [isExcl, List.getD_eq_getElem?_getD]
  cases m[j]? <;> simp

theorem isExcl_false_iff {m : List Bool} {j : Nat} (hj : j < m.length) : isExcl m j = false ↔ m[j]? = some false := by
  rw [isExcl, List.getD_eq_getElem?_getD, List.getElem?_eq_getElem hj]
  simp

theorem extendStep_mono {α : Type} [Scalar α] (pos : List (P3 α)) (m : List Bool) (i : Nat) (c : P3 α)
    (h : pos.length = m.length) (j : Nat) (hj : isExcl m j = true) : isExcl (extendStep pos m i c) j = true := by
  unfold extendStep
  split
  · rw [isExcl_true_iff] at hj ⊢
    have hjp : j < pos.length := h ▸ (List.getElem?_eq_some_iff.mp hj).1
    rw [List.getElem?_zipWith, hj, List.getElem?_eq_getElem hjp]
    rfl
  · exact hj

theorem alloExtendFrom_length {α : Type} [Scalar α] (pos : List (P3 α)) :
    ∀ (cs : List (P3 α)) (i : Nat) (m : List Bool), pos.length = m.length →
      (alloExtendFrom pos cs i m).length = m.length := by
  intro cs
  induction cs with
  | nil => intro i m _; rfl
  | cons c cs ih =>
    intro i m h
    simp only [alloExtendFrom]
    rw [ih (i + 1) _ (by rw [extendStep_length pos m i c h]; exact h), extendStep_length pos m i c h]

theorem alloExtendFrom_mono {α : Type} [Scalar α] (pos : List (P3 α)) :
    ∀ (cs : List (P3 α)) (i : Nat) (m : List Bool), pos.length = m.length →
      ∀ j, isExcl m j = true → isExcl (alloExtendFrom pos cs i m) j = true := by
  intro cs
  induction cs with
  | nil => intro i m _ j hj; exact hj
  | cons c cs ih =>
    intro i m h j hj
    simp only [alloExtendFrom]
    exact ih (i + 1) _ (by rw [extendStep_length pos m i c h]; exact h) j (extendStep_mono pos m i c h j hj)

theorem alloExcluded_of_all {α : Type} [Scalar α] {pos : List (P3 α)} {m : List Bool}
    (h : (alloExtend pos m).all id = true) : alloExcluded pos m = (alloExtend pos m).map fun _ => false :=
  if_pos h

theorem alloExcluded_of_not_all {α : Type} [Scalar α] {pos : List (P3 α)} {m : List Bool}
    (h : (alloExtend pos m).all id = false) : alloExcluded pos m = alloExtend pos m :=
  if_neg (by rw [h]; exact Bool.false_ne_true)

theorem alloExcluded_length {α : Type} [Scalar α] (pos : List (P3 α)) (m : List Bool) (h : pos.length = m.length) :
    (alloExcluded pos m).length = m.length := by
  have this : (alloExtend pos m).length = m.length := alloExtendFrom_length pos pos 0 m h
  cases hall : (alloExtend pos m).all id
  · rw [alloExcluded_of_not_all hall, this]
  · rw [alloExcluded_of_all hall, List.length_map, this]

theorem isExcl_of_all_false {m : List Bool} (h : ∀ b ∈ m, b = false) (j : Nat) : isExcl m j = false := by
  cases hj : isExcl m j
  · rfl
  · exact absurd (h true (List.mem_of_getElem? (isExcl_true_iff.mp hj))) (by decide)

theorem isExcl_map_false {β : Type} (m : List β) (j : Nat) : isExcl (m.map fun _ => false) j = false :=
  isExcl_of_all_false (fun b hb => by obtain ⟨_, _, rfl⟩ := List.mem_map.mp hb; rfl) j

theorem all_id_isExcl (m : List Bool) (h : m.all id = true) (j : Nat) (hj : j < m.length) : isExcl m j = true := by
  rw [List.all_eq_true] at h
  unfold isExcl
  simp only [List.getD, List.getElem?_eq_getElem hj, Option.getD_some]
  exact h _ (List.getElem_mem hj)

end Earverif.C13
