/-
C11 — the model over ℝ: the `Scalar ℝ` instance; bridges from the core-only model (`finSum`, `Mat.ofFn`, `Mat.at`)
to `∑`/functions; closed forms of `allradDesign` / `designW` entry by entry (`allradDesign_at`, `designW_at`, with the
intermediate quantities `d0`, `sc`, `d1`, `dk`, `meanPow`); the hypothesis `NonDegenerate` (every denominator non-zero)
and `nonDegenerate_of_indep`, which derives it from `RowsIndependent Y`; and what a permutation of the pack's channels
(`permV`) does to each of these and to the pack's norm vectors and sampled harmonics (`*_perm`, `NonDegenerate.perm`).
Throughout, `a` stands for the N3D norm vector (`nN3D`) and `b` for the pack's own (`nrm`).
-/
import Earverif.Model.Hoa
import Mathlib.Analysis.Real.Sqrt
import Mathlib.Analysis.SpecialFunctions.Trigonometric.Basic
import Mathlib.Algebra.BigOperators.Fin
import Mathlib.Algebra.BigOperators.Field
import Mathlib.Tactic.Ring

namespace Earverif.Hoa

noncomputable instance : Scalar ℝ where
  ofNat := fun n => (n : ℝ)
  sqrt := Real.sqrt
  sin := Real.sin
  cos := Real.cos

@[simp] theorem scalar_ofNat (n : Nat) : (Scalar.ofNat n : ℝ) = (n : ℝ) := rfl
@[simp] theorem scalar_sqrt (x : ℝ) : Scalar.sqrt x = Real.sqrt x := rfl
@[simp] theorem scalar_sin (x : ℝ) : Scalar.sin x = Real.sin x := rfl
@[simp] theorem scalar_cos (x : ℝ) : Scalar.cos x = Real.cos x := rfl

theorem sumTo_eq {n : Nat} (f : Fin n → ℝ) : ∀ (k : Nat) (h : k ≤ n),
    sumTo n f k h = ∑ i : Fin k, f ⟨i.1, Nat.lt_of_lt_of_le i.2 h⟩
  | 0, _ => by simp [sumTo]
  | k + 1, h => by
    rw [sumTo, sumTo_eq f k (Nat.le_of_succ_le h), Fin.sum_univ_castSucc]
    rfl

@[simp] theorem finSum_eq {n : Nat} (f : Fin n → ℝ) : finSum f = ∑ i, f i := by
  rw [finSum, sumTo_eq]

@[simp] theorem Mat.at_ofFn {α : Type} {n m : Nat} (f : Fin n → Fin m → α) (i : Fin n) (j : Fin m) :
    (Mat.ofFn f).at i j = f i j := by
  simp [Mat.at, Mat.ofFn]

/-- a tabulated vector of a literal length, written out (for evaluating small concrete matrices) -/
theorem ofFn_two {α : Type} (f : Fin 2 → α) : Vector.ofFn f = #v[f 0, f 1] := rfl
theorem ofFn_four {α : Type} (f : Fin 4 → α) : Vector.ofFn f = #v[f 0, f 1, f 2, f 3] := rfl
theorem ofFn_six {α : Type} (f : Fin 6 → α) : Vector.ofFn f = #v[f 0, f 1, f 2, f 3, f 4, f 5] := rfl

section closed
variable {L C P : Nat}

/-- `np.dot(G_virt, Y_virt.T / P)` -/
noncomputable def d0 (G : Mat ℝ L P) (Y : Mat ℝ C P) (l : Fin L) (c : Fin C) : ℝ :=
  ∑ p, G.at l p * (Y.at c p / (P : ℝ))

/-- `‖D·Y‖_F²` -/
noncomputable def froSq (G : Mat ℝ L P) (Y : Mat ℝ C P) : ℝ :=
  ∑ l, ∑ p, (∑ c, d0 G Y l c * Y.at c p) * (∑ c, d0 G Y l c * Y.at c p)

/-- the "compensation" factor `√P / ‖D·Y‖_F` -/
noncomputable def sc (G : Mat ℝ L P) (Y : Mat ℝ C P) : ℝ := Real.sqrt (P : ℝ) / Real.sqrt (froSq G Y)

theorem allradDesign_at (G : Mat ℝ L P) (Y : Mat ℝ C P) (a b : Vector ℝ C) (l : Fin L) (c : Fin C) :
    (allradDesign G Y a b).at l c = d0 G Y l c * sc G Y * (a[c.1] / b[c.1]) := by
  simp only [allradDesign, Mat.at_ofFn, finSum_eq, scalar_ofNat, scalar_sqrt, d0, froSq, sc]

/-- per-channel maxRE weight (1 when the option is off) -/
def wOf (w : Option (Vector ℝ C)) (c : Fin C) : ℝ :=
  match w with
  | none => 1
  | some w => w[c.1]

/-- decoder after the maxRE weighting -/
noncomputable def d1 (G : Mat ℝ L P) (Y : Mat ℝ C P) (a b : Vector ℝ C) (w : Option (Vector ℝ C))
    (l : Fin L) (c : Fin C) : ℝ :=
  d0 G Y l c * sc G Y * (a[c.1] / b[c.1]) * wOf w c

/-- `np.dot(decoder, K_v)` with `K_v = diag(nrm/nN3D)·Y` -/
noncomputable def dk (G : Mat ℝ L P) (Y : Mat ℝ C P) (a b : Vector ℝ C) (w : Option (Vector ℝ C))
    (l : Fin L) (p : Fin P) : ℝ :=
  ∑ c, d1 G Y a b w l c * (b[c.1] / a[c.1] * Y.at c p)

/-- `np.mean(np.sum(np.dot(decoder, K_v) ** 2, axis=0))` for the decoder `d1` the design has reached at that point;
`meanPower` (Props/C11) is the same mean for an arbitrary decoder matrix. -/
noncomputable def meanPow (G : Mat ℝ L P) (Y : Mat ℝ C P) (a b : Vector ℝ C) (w : Option (Vector ℝ C)) : ℝ :=
  (∑ p, ∑ l, dk G Y a b w l p * dk G Y a b w l p) / (P : ℝ)

theorem designW_at (G : Mat ℝ L P) (Y : Mat ℝ C P) (a b : Vector ℝ C) (w : Option (Vector ℝ C)) (nmp : Bool)
    (g : Vector ℝ C) (og : ℝ) (mute : Bool) (l : Fin L) (c : Fin C) :
    (designW G Y a b w nmp g og mute).at l c
      = (if nmp then d1 G Y a b w l c / Real.sqrt (meanPow G Y a b w) else d1 G Y a b w l c)
        * (g[c.1] * (if mute then 0 else og)) := by
  cases w <;> cases nmp <;>
    simp only [designW, allradDesign_at, Mat.at_ofFn, finSum_eq, scalar_ofNat, scalar_sqrt, Nat.cast_zero,
      d1, dk, meanPow, wOf, mul_one, if_true, if_false, Bool.false_eq_true]

theorem meanPow_nonneg (G : Mat ℝ L P) (Y : Mat ℝ C P) (a b : Vector ℝ C) (w : Option (Vector ℝ C)) :
    0 ≤ meanPow G Y a b w := by
  unfold meanPow
  apply div_nonneg _ (Nat.cast_nonneg P)
  exact Finset.sum_nonneg fun p _ => Finset.sum_nonneg fun l _ => mul_self_nonneg _

theorem d1_mul_norm (G : Mat ℝ L P) (Y : Mat ℝ C P) (a b : Vector ℝ C) (w : Option (Vector ℝ C)) (l : Fin L)
    (c : Fin C) (hb : b[c.1] ≠ 0) : d1 G Y a b w l c * b[c.1] = d0 G Y l c * sc G Y * a[c.1] * wOf w c := by
  unfold d1
  rw [mul_right_comm, mul_assoc (d0 G Y l c * sc G Y), div_mul_cancel₀ _ hb]

theorem dk_norm_free (G : Mat ℝ L P) (Y : Mat ℝ C P) (a b : Vector ℝ C) (w : Option (Vector ℝ C))
    (ha : ∀ c : Fin C, a[c.1] ≠ 0) (hb : ∀ c : Fin C, b[c.1] ≠ 0) (l : Fin L) (p : Fin P) :
    dk G Y a b w l p = ∑ c, d0 G Y l c * sc G Y * wOf w c * Y.at c p := by
  unfold dk
  refine Finset.sum_congr rfl fun c _ => ?_
  rw [← mul_assoc, ← mul_div_assoc, d1_mul_norm G Y a b w l c (hb c), mul_right_comm _ a[c.1],
    mul_div_cancel_right₀ _ (ha c)]

theorem meanPow_norm_free (G : Mat ℝ L P) (Y : Mat ℝ C P) (a b₁ b₂ : Vector ℝ C) (w : Option (Vector ℝ C))
    (ha : ∀ c : Fin C, a[c.1] ≠ 0) (h₁ : ∀ c : Fin C, b₁[c.1] ≠ 0) (h₂ : ∀ c : Fin C, b₂[c.1] ≠ 0) :
    meanPow G Y a b₁ w = meanPow G Y a b₂ w := by
  unfold meanPow
  simp only [dk_norm_free G Y a b₁ w ha h₁, dk_norm_free G Y a b₂ w ha h₂]

/-- the maxRE weight option `design` hands to `designW` -/
noncomputable def wOpt {L : Nat} (o : Opts) (coef : Nat → ℝ) (ord : Vector Nat C) : Option (Vector ℝ C) :=
  if o.maxRE then some (maxREWeights coef ord o.maxREScale L) else none

theorem design_eq (o : Opts) (G : Mat ℝ L P) (Y : Mat ℝ C P) (a b : Vector ℝ C) (ord : Vector Nat C)
    (coef : Nat → ℝ) (g : Vector ℝ C) (og : ℝ) (mute : Bool) :
    design o G Y a b ord coef g og mute
      = designW G Y a b (wOpt (L := L) o coef ord) o.normMeanPower g og mute := rfl

/-- **Every denominator the computation divides by is non-zero** — the domain on which the model over ℝ and the same
model over `Float` say the same thing (over ℝ `x/0 = 0`; over binary64 the same expression is `NaN`/`inf`):
`len(points)`, the Frobenius norm `‖D·Y_virt‖`, the per-channel norm factors `norm_N3D`, `norm` (both are divided by:
`norm_N3D/norm` in `allrad_design`, `norm/norm_N3D` inside `K_v`), `Σ a_n[n]²` when the maxRE weights are rescaled,
and the mean power when `norm_mean_power` is on. -/
structure NonDegenerate (o : Opts) (G : Mat ℝ L P) (Y : Mat ℝ C P) (nN3D nrm : Vector ℝ C) (ord : Vector Nat C)
    (coef : Nat → ℝ) : Prop where
  points : P ≠ 0
  fro : froSq G Y ≠ 0
  hn3d : ∀ c : Fin C, nN3D[c.1] ≠ 0
  hnrm : ∀ c : Fin C, nrm[c.1] ≠ 0
  sumsq : o.maxRE = true → o.maxREScale ≠ .none → (∑ c : Fin C, coef ord[c.1] * coef ord[c.1]) ≠ 0
  meanPow : o.normMeanPower = true → meanPow G Y nN3D nrm (wOpt (L := L) o coef ord) ≠ 0

/-- the rows of `Y` (one per channel) are linearly independent as functions of the sample point -/
def RowsIndependent (Y : Mat ℝ C P) : Prop :=
  ∀ a : Fin C → ℝ, (∀ p : Fin P, ∑ c, a c * Y.at c p = 0) → ∀ c, a c = 0

theorem froSq_nonneg (G : Mat ℝ L P) (Y : Mat ℝ C P) : 0 ≤ froSq G Y :=
  Finset.sum_nonneg fun _ _ => Finset.sum_nonneg fun _ _ => mul_self_nonneg _

theorem sum_sum_mul_self_eq_zero {ι κ : Type} [Fintype ι] [Fintype κ] {f : ι → κ → ℝ}
    (h : ∑ i, ∑ j, f i j * f i j = 0) (i : ι) (j : κ) : f i j = 0 := by
  rw [Finset.sum_eq_zero_iff_of_nonneg fun _ _ => Finset.sum_nonneg fun _ _ => mul_self_nonneg _] at h
  have hi := h i (Finset.mem_univ i)
  rw [Finset.sum_eq_zero_iff_of_nonneg fun _ _ => mul_self_nonneg _] at hi
  exact mul_self_eq_zero.mp (hi j (Finset.mem_univ j))

theorem froSq_ne_zero_of_indep (G : Mat ℝ L P) (Y : Mat ℝ C P) (hY : RowsIndependent Y)
    (hD : ∃ l c, d0 G Y l c ≠ 0) : froSq G Y ≠ 0 := by
  obtain ⟨l₀, c₀, h0⟩ := hD
  exact fun hz => h0 (hY _ (fun p => sum_sum_mul_self_eq_zero hz l₀ p) c₀)

theorem sc_ne_zero (G : Mat ℝ L P) (Y : Mat ℝ C P) (hP : P ≠ 0) (hf : froSq G Y ≠ 0) : sc G Y ≠ 0 := by
  unfold sc
  have h1 : (0 : ℝ) < (P : ℝ) := by exact_mod_cast Nat.pos_of_ne_zero hP
  have h2 : 0 < froSq G Y := lt_of_le_of_ne (froSq_nonneg G Y) (Ne.symm hf)
  exact div_ne_zero (Real.sqrt_pos.mpr h1).ne' (Real.sqrt_pos.mpr h2).ne'

theorem meanPow_ne_zero_of_indep (G : Mat ℝ L P) (Y : Mat ℝ C P) (a b : Vector ℝ C) (w : Option (Vector ℝ C))
    (hP : P ≠ 0) (hY : RowsIndependent Y) (ha : ∀ c : Fin C, a[c.1] ≠ 0) (hb : ∀ c : Fin C, b[c.1] ≠ 0)
    (hD : ∃ l c, d0 G Y l c ≠ 0 ∧ wOf w c ≠ 0) : meanPow G Y a b w ≠ 0 := by
  obtain ⟨l₀, c₀, h0, hw0⟩ := hD
  have hs := sc_ne_zero G Y hP (froSq_ne_zero_of_indep G Y hY ⟨l₀, c₀, h0⟩)
  intro hz
  have hz' := (div_eq_zero_iff.mp hz).resolve_right (Nat.cast_ne_zero.mpr hP)
  exact mul_ne_zero (mul_ne_zero h0 hs) hw0 (hY (fun c => d0 G Y l₀ c * sc G Y * wOf w c)
    (fun p => (dk_norm_free G Y a b w ha hb l₀ p).symm.trans (sum_sum_mul_self_eq_zero hz' p l₀)) c₀)

theorem nonDegenerate_of_indep (o : Opts) (G : Mat ℝ L P) (Y : Mat ℝ C P) (nN3D nrm : Vector ℝ C)
    (ord : Vector Nat C) (coef : Nat → ℝ) (hP : P ≠ 0) (hY : RowsIndependent Y)
    (hN : ∀ c : Fin C, nN3D[c.1] ≠ 0) (hn : ∀ c : Fin C, nrm[c.1] ≠ 0)
    (hD : ∃ l c, d0 G Y l c ≠ 0 ∧ wOf (wOpt (L := L) o coef ord) c ≠ 0)
    (hs : o.maxRE = true → o.maxREScale ≠ .none → (∑ c : Fin C, coef ord[c.1] * coef ord[c.1]) ≠ 0) :
    NonDegenerate o G Y nN3D nrm ord coef := by
  obtain ⟨l₀, c₀, h0, hw0⟩ := hD
  exact ⟨hP, froSq_ne_zero_of_indep G Y hY ⟨l₀, c₀, h0⟩, hN, hn, hs,
    fun _ => meanPow_ne_zero_of_indep G Y nN3D nrm _ hP hY hN hn ⟨l₀, c₀, h0, hw0⟩⟩

end closed

section perm
variable {L C P : Nat}

/-- The channel list in another order: entry `c` of the permuted vector is entry `σ c` of the original.
Applied to `Y` (one row per channel), the norm vectors, the orders and the gains. -/
def permV {α : Type} (σ : Equiv.Perm (Fin C)) (v : Vector α C) : Vector α C :=
  Vector.ofFn fun c => v[(σ c).1]

@[simp] theorem permV_get {α : Type} (σ : Equiv.Perm (Fin C)) (v : Vector α C) (c : Fin C) :
    (permV σ v)[c.1] = v[(σ c).1] := by
  simp [permV]

@[simp] theorem permV_at (σ : Equiv.Perm (Fin C)) (Y : Mat ℝ C P) (c : Fin C) (p : Fin P) :
    Mat.at (permV σ Y) c p = Y.at (σ c) p := by
  simp [Mat.at]

theorem permV_ofFn {α : Type} (σ : Equiv.Perm (Fin C)) (f : Fin C → α) :
    permV σ (Vector.ofFn f) = Vector.ofFn fun c => f (σ c) := by
  simp only [permV, Vector.getElem_ofFn, Fin.eta]

theorem d0_perm (σ : Equiv.Perm (Fin C)) (G : Mat ℝ L P) (Y : Mat ℝ C P) (l : Fin L) (c : Fin C) :
    d0 G (permV σ Y) l c = d0 G Y l (σ c) := by
  simp [d0]

theorem froSq_perm (σ : Equiv.Perm (Fin C)) (G : Mat ℝ L P) (Y : Mat ℝ C P) :
    froSq G (permV σ Y) = froSq G Y := by
  unfold froSq
  simp only [d0_perm, permV_at]
  refine Finset.sum_congr rfl fun l _ => Finset.sum_congr rfl fun p _ => ?_
  rw [Equiv.sum_comp σ (fun c => d0 G Y l c * Y.at c p)]

theorem d1_perm (σ : Equiv.Perm (Fin C)) (G : Mat ℝ L P) (Y : Mat ℝ C P) (a b : Vector ℝ C)
    (w : Option (Vector ℝ C)) (l : Fin L) (c : Fin C) :
    d1 G (permV σ Y) (permV σ a) (permV σ b) (w.map (permV σ)) l c = d1 G Y a b w l (σ c) := by
  cases w <;> simp only [d1, d0_perm, sc, froSq_perm, wOf, permV_get, Option.map_none, Option.map_some]

theorem dk_perm (σ : Equiv.Perm (Fin C)) (G : Mat ℝ L P) (Y : Mat ℝ C P) (a b : Vector ℝ C)
    (w : Option (Vector ℝ C)) (l : Fin L) (p : Fin P) :
    dk G (permV σ Y) (permV σ a) (permV σ b) (w.map (permV σ)) l p = dk G Y a b w l p := by
  unfold dk
  simp only [d1_perm, permV_get, permV_at]
  rw [Equiv.sum_comp σ (fun c => d1 G Y a b w l c * (b[c.1] / a[c.1] * Y.at c p))]

theorem meanPow_perm (σ : Equiv.Perm (Fin C)) (G : Mat ℝ L P) (Y : Mat ℝ C P) (a b : Vector ℝ C)
    (w : Option (Vector ℝ C)) :
    meanPow G (permV σ Y) (permV σ a) (permV σ b) (w.map (permV σ)) = meanPow G Y a b w := by
  simp only [meanPow, dk_perm]

theorem maxTo_le_iff {n : Nat} (f : Fin n → Nat) (b : Nat) : ∀ (k : Nat) (h : k ≤ n),
    maxTo n f k h ≤ b ↔ ∀ (i : Nat) (hi : i < k), f ⟨i, Nat.lt_of_lt_of_le hi h⟩ ≤ b
  | 0, _ => by simp [maxTo]
  | k + 1, h => by
    rw [maxTo, Nat.forall_lt_succ_right', ← maxTo_le_iff f b k (Nat.le_of_succ_le h)]
    exact max_le_iff

theorem maxOrd_le_iff (ord : Vector Nat C) (b : Nat) : maxOrd ord ≤ b ↔ ∀ c : Fin C, ord[c.1] ≤ b :=
  (maxTo_le_iff _ b C (Nat.le_refl C)).trans ⟨fun h c => h c.1 c.2, fun h i hi => h ⟨i, hi⟩⟩

theorem maxOrd_perm (σ : Equiv.Perm (Fin C)) (ord : Vector Nat C) : maxOrd (permV σ ord) = maxOrd ord :=
  eq_of_forall_ge_iff fun b => by
    simp only [maxOrd_le_iff, permV_get]
    exact σ.forall_congr_right (q := fun c => ord[c.1] ≤ b)

theorem maxREWeights_perm (σ : Equiv.Perm (Fin C)) (coef : Nat → ℝ) (ord : Vector Nat C) (scale : MaxREScale)
    (L : Nat) : maxREWeights coef (permV σ ord) scale L = permV σ (maxREWeights coef ord scale L) := by
  have hs := Equiv.sum_comp σ fun c => coef ord[c.1] * coef ord[c.1]
  cases scale <;>
    simp only [maxREWeights, finSum_eq, maxOrd_perm, permV_ofFn, permV_get, hs]

theorem wOpt_perm (σ : Equiv.Perm (Fin C)) (o : Opts) (coef : Nat → ℝ) (ord : Vector Nat C) :
    wOpt (L := L) o coef (permV σ ord) = (wOpt (L := L) o coef ord).map (permV σ) := by
  unfold wOpt
  split <;> simp [maxREWeights_perm]

theorem NonDegenerate.perm {o : Opts} {G : Mat ℝ L P} {Y : Mat ℝ C P} {a b : Vector ℝ C} {ord : Vector Nat C}
    {coef : Nat → ℝ} (h : NonDegenerate o G Y a b ord coef) (σ : Equiv.Perm (Fin C)) :
    NonDegenerate o G (permV σ Y) (permV σ a) (permV σ b) (permV σ ord) coef := by
  refine ⟨h.points, by rw [froSq_perm]; exact h.fro, fun c => by rw [permV_get]; exact h.hn3d (σ c),
    fun c => by rw [permV_get]; exact h.hnrm (σ c), fun h1 h2 => ?_, fun h1 => ?_⟩
  · simp only [permV_get]
    rw [Equiv.sum_comp σ (fun c => coef ord[c.1] * coef ord[c.1])]
    exact h.sumsq h1 h2
  · rw [wOpt_perm, meanPow_perm]
    exact h.meanPow h1

theorem finRange_all_perm (σ : Equiv.Perm (Fin C)) (f : Fin C → Bool) :
    (List.finRange C).all (fun c => f (σ c)) = (List.finRange C).all f := by
  rw [Bool.eq_iff_iff]
  simp only [List.all_eq_true, List.mem_finRange, true_imp_iff]
  exact σ.forall_congr_right (q := fun c => f c = true)

theorem normVec_perm (σ : Equiv.Perm (Fin C)) (conv : Nat) (ord : Vector Nat C) (deg : Vector Int C) :
    (normVec conv (permV σ ord) (permV σ deg) : Option (Vector ℝ C)) = (normVec conv ord deg).map (permV σ) := by
  unfold normVec
  simp only [permV_get]
  rw [finRange_all_perm σ (fun c => normDefined conv ord[c.1] deg[c.1].natAbs)]
  split
  · rw [Option.map_some, permV_ofFn]
  · rfl

theorem n3dVec_perm (σ : Equiv.Perm (Fin C)) (ord : Vector Nat C) (deg : Vector Int C) :
    (n3dVec (permV σ ord) (permV σ deg) : Vector ℝ C) = permV σ (n3dVec ord deg) := by
  simp only [n3dVec, permV_ofFn, permV_get]

theorem yVirt_perm (σ : Equiv.Perm (Fin C)) (ord : Vector Nat C) (deg : Vector Int C) (az el : Vector ℝ P) :
    yVirt (permV σ ord) (permV σ deg) az el = permV σ (yVirt ord deg az el) := by
  simp only [yVirt, Mat.ofFn, permV_ofFn, permV_get]

end perm

end Earverif.Hoa
