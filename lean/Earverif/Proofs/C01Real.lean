/- The gain-calculator model over ℝ: `Scalar ℝ` instance, bridge lemmas and the algebra of `sum`, `sumSq`, `Nonneg`,
   `vadd`, `vecMat`, `vsqrt`, `scatter` that every development over `GainCalc.Scalar ℝ` uses (C01, and C05, C10, C12,
   C13 by import). -/
import Earverif.Model.GainCalc
import Mathlib.Analysis.SpecialFunctions.Trigonometric.Basic
import Mathlib.Analysis.SpecialFunctions.Sqrt
import Mathlib.Analysis.SpecialFunctions.Pow.Real
import Mathlib.Analysis.SpecialFunctions.Complex.Arg
import Mathlib.Algebra.BigOperators.Group.Finset.Basic
import Mathlib.Tactic.Ring
import Mathlib.Tactic.FieldSimp
import Mathlib.Tactic.Linarith
import Mathlib.Tactic.Positivity
import Mathlib.Tactic.NormNum

namespace Earverif.GainCalc

noncomputable instance instScalarReal : Scalar ℝ where
  ofRat q := (q : ℝ)
  sqrt := Real.sqrt
  cos := Real.cos
  sin := Real.sin
  pi := Real.pi
  pow := Real.rpow
  atan2 y x := Complex.arg ⟨x, y⟩
  tan := Real.tan
  nanToNum x := x
  decLt _ _ := Classical.propDecidable _
  decLe _ _ := Classical.propDecidable _

@[simp] theorem sqrt_real (x : ℝ) : Scalar.sqrt x = Real.sqrt x := rfl
@[simp] theorem cos_real (x : ℝ) : Scalar.cos x = Real.cos x := rfl
@[simp] theorem sin_real (x : ℝ) : Scalar.sin x = Real.sin x := rfl
@[simp] theorem pi_real : (Scalar.pi : ℝ) = Real.pi := rfl
@[simp] theorem pow_real (x y : ℝ) : Scalar.pow x y = x ^ y := rfl
/-- as `np.arctan2` also on the axes: 0 at the origin, π on the negative real axis -/
theorem atan2_real (y x : ℝ) : Scalar.atan2 y x = Complex.arg ⟨x, y⟩ := rfl
@[simp] theorem nanToNum_real (x : ℝ) : Scalar.nanToNum x = x := rfl
@[simp] theorem ofRat_real (q : Rat) : (Scalar.ofRat q : ℝ) = (q : ℝ) := rfl
@[simp] theorem k_real (q : Rat) : (k q : ℝ) = (q : ℝ) := rfl
/-- the threshold `1e-10` of `calc_pv_spread` over ℝ -/
theorem k_tiny : (k (1 / 10000000000) : ℝ) = 1 / 10000000000 := by rw [k_real]; norm_num

@[simp] theorem zero_real : (zero : ℝ) = 0 := by simp [zero]
@[simp] theorem one_real : (one : ℝ) = 1 := by simp [one]

theorem getObjectGain_real (mute : Bool) (og : ℝ) : getObjectGain mute og = if mute then 0 else og := by
  cases mute <;> simp [getObjectGain]

theorem eqS_real (x y : ℝ) : eqS x y = true ↔ x = y := by
  simp only [eqS, Bool.and_eq_true, decide_eq_true_eq]
  exact ⟨fun h => le_antisymm h.1 h.2, fun h => ⟨h.le, h.ge⟩⟩

theorem eqS_of_ne {x y : ℝ} (h : x ≠ y) : eqS x y = false := by
  rw [Bool.eq_false_iff]; exact fun h' => h ((eqS_real x y).mp h')

theorem eqS_eq_decide (x y : ℝ) : eqS x y = decide (x = y) := by
  by_cases h : x = y
  · simp [h, (eqS_real y y).mpr rfl]
  · simp [h, eqS_of_ne h]

def Nonneg (v : List ℝ) : Prop := ∀ x ∈ v, 0 ≤ x

/-! ### sums -/

@[simp] theorem sum_nil : sum ([] : List ℝ) = 0 := by simp [sum]
@[simp] theorem sum_cons (x : ℝ) (xs : List ℝ) : sum (x :: xs) = x + sum xs := rfl
@[simp] theorem sumSq_nil : sumSq ([] : List ℝ) = 0 := by simp [sumSq, sq]
@[simp] theorem sumSq_cons (x : ℝ) (xs : List ℝ) : sumSq (x :: xs) = x * x + sumSq xs := by
  simp [sumSq, sq]

theorem sum_eq_listSum : ∀ v : List ℝ, sum v = v.sum
  | [] => by simp
  | x :: xs => by simp [sum_eq_listSum xs]

theorem sum_nonneg : ∀ {v : List ℝ}, Nonneg v → 0 ≤ sum v :=
  fun {v} h => sum_eq_listSum v ▸ List.sum_nonneg h

theorem nonneg_map {β : Type} {l : List β} {f : β → ℝ} (h : ∀ b ∈ l, 0 ≤ f b) : Nonneg (l.map f) :=
  List.forall_mem_map.mpr h

theorem nonneg_sq (v : List ℝ) : Nonneg (sq v) := nonneg_map fun y _ => mul_self_nonneg y

theorem sumSq_nonneg (v : List ℝ) : 0 ≤ sumSq v := sum_nonneg (nonneg_sq v)

@[simp] theorem length_sq (v : List ℝ) : (sq v).length = v.length := by simp [sq]

@[simp] theorem length_zeros (n : Nat) : (zeros n : List ℝ).length = n := by simp [zeros]

@[simp] theorem sum_zeros (n : Nat) : sum (zeros n : List ℝ) = 0 := by
  rw [sum_eq_listSum, zeros, zero_real, List.sum_replicate, smul_zero]

theorem zeros_nonneg (n : Nat) : Nonneg (zeros n : List ℝ) := by
  intro x hx
  simp only [zeros, List.mem_replicate, zero_real] at hx
  exact hx.2.ge

theorem sumSq_zeros (n : Nat) : sumSq (zeros n : List ℝ) = 0 := by
  induction n with
  | zero => simp [zeros]
  | succ n ih =>
    simp only [zeros, List.replicate_succ, sumSq_cons, zero_real] at ih ⊢
    linarith

theorem sum_map_mul (w : ℝ) : ∀ r : List ℝ, sum (r.map fun x => w * x) = w * sum r
  | [] => by simp
  | x :: xs => by simp [sum_map_mul w xs]; ring

theorem sum_vadd : ∀ {a b : List ℝ}, a.length = b.length → sum (vadd a b) = sum a + sum b
  | [], [], _ => by simp [vadd]
  | [], _ :: _, h => by simp at h
  | _ :: _, [], h => by simp at h
  | x :: xs, y :: ys, h => by
    have ih := sum_vadd (a := xs) (b := ys) (by simpa using h)
    simp only [vadd, List.zipWith_cons_cons, sum_cons] at ih ⊢
    linarith

theorem length_vadd (a b : List ℝ) : (vadd a b).length = min a.length b.length := by
  simp [vadd]

theorem zipWith_nonneg {β γ : Type} (f : β → γ → ℝ) : ∀ (l1 : List β) (l2 : List γ),
    (∀ a ∈ l1, ∀ b ∈ l2, 0 ≤ f a b) → Nonneg (List.zipWith f l1 l2)
  | [], _, _ => by intro x hx; simp at hx
  | _ :: _, [], _ => by intro x hx; simp at hx
  | a :: as, b :: bs, h => by
    intro x hx
    simp only [List.zipWith_cons_cons, List.mem_cons] at hx
    rcases hx with rfl | hx
    · exact h a (by simp) b (by simp)
    · exact zipWith_nonneg f as bs (fun a' ha b' hb => h a' (by simp [ha]) b' (by simp [hb])) x hx

theorem vadd_nonneg {a b : List ℝ} (ha : Nonneg a) (hb : Nonneg b) : Nonneg (vadd a b) :=
  zipWith_nonneg _ a b fun x hx y hy => add_nonneg (ha x hx) (hb y hy)

/-! ### `np.dot(w, M)` -/

theorem length_vecMat (n : Nat) : ∀ (w : List ℝ) (M : List (List ℝ)), (∀ r ∈ M, r.length = n) →
    (vecMat n w M).length = n
  | [], _, _ => by simp [vecMat]
  | _ :: _, [], _ => by simp [vecMat]
  | w :: ws, r :: rs, h => by
    have ih := length_vecMat n ws rs (fun r' hr => h r' (by simp [hr]))
    have hr := h r (by simp)
    simp [vecMat, length_vadd, ih, hr]

theorem sum_vecMat (n : Nat) : ∀ (w : List ℝ) (M : List (List ℝ)), (∀ r ∈ M, r.length = n) →
    sum (vecMat n w M) = dot w (M.map sum)
  | [], _, _ => by simp [vecMat, dot]
  | _ :: _, [], _ => by simp [vecMat, dot]
  | w :: ws, r :: rs, h => by
    have hr := h r (by simp)
    have hrs : ∀ r' ∈ rs, r'.length = n := fun r' hr' => h r' (by simp [hr'])
    have ih := sum_vecMat n ws rs hrs
    have hl := length_vecMat n ws rs hrs
    simp only [vecMat, List.map_cons, dot]
    rw [sum_vadd (by simp [hl, hr]), sum_map_mul, ih]

theorem vecMat_nonneg (n : Nat) : ∀ (w : List ℝ) (M : List (List ℝ)), Nonneg w → (∀ r ∈ M, Nonneg r) →
    Nonneg (vecMat n w M)
  | [], _, _, _ => by simpa [vecMat] using zeros_nonneg n
  | _ :: _, [], _, _ => by simpa [vecMat] using zeros_nonneg n
  | w :: ws, r :: rs, hw, hM => by
    have ih := vecMat_nonneg n ws rs (fun x hx => hw x (by simp [hx])) (fun r' hr' => hM r' (by simp [hr']))
    simp only [vecMat]
    exact vadd_nonneg (nonneg_map fun y hy => mul_nonneg (hw w (by simp)) (hM r (by simp) y hy)) ih

theorem dot_bounds {lo hi : ℝ} : ∀ {w l : List ℝ}, w.length = l.length → Nonneg w →
    (∀ x ∈ l, lo ≤ x ∧ x ≤ hi) → lo * sum w ≤ dot w l ∧ dot w l ≤ hi * sum w
  | [], [], _, _, _ => by simp [dot]
  | [], _ :: _, h, _, _ => by simp at h
  | _ :: _, [], h, _, _ => by simp at h
  | a :: as, b :: bs, h, hw, hl => by
    have ih := dot_bounds (w := as) (l := bs) (by simpa using h) (fun x hx => hw x (by simp [hx]))
      (fun x hx => hl x (by simp [hx]))
    have ha : 0 ≤ a := hw a (by simp)
    have hb := hl b (by simp)
    simp only [dot, sum_cons]
    constructor
    · linarith [mul_le_mul_of_nonneg_left hb.1 ha]
    · linarith [mul_le_mul_of_nonneg_left hb.2 ha]

/-! ### elementwise square root, scaling, scatter -/

theorem vsqrt_nonneg (v : List ℝ) : Nonneg (vsqrt v) := nonneg_map fun y _ => Real.sqrt_nonneg y

@[simp] theorem length_vsqrt (v : List ℝ) : (vsqrt v).length = v.length := by simp [vsqrt]

theorem sumSq_vsqrt : ∀ {v : List ℝ}, Nonneg v → sumSq (vsqrt v) = sum v
  | [], _ => by simp [vsqrt]
  | x :: xs, h => by
    have ih := sumSq_vsqrt (v := xs) (fun y hy => h y (by simp [hy]))
    have hx : 0 ≤ x := h x (by simp)
    simp only [vsqrt, List.map_cons, sumSq_cons, sqrt_real, sum_cons] at ih ⊢
    rw [ih, Real.mul_self_sqrt hx]

theorem sumSq_map_mul (a : ℝ) : ∀ v : List ℝ, sumSq (v.map fun x => x * a) = sumSq v * (a * a)
  | [] => by simp
  | x :: xs => by
    simp only [List.map_cons, sumSq_cons, sumSq_map_mul a xs]; ring

theorem map_mul_nonneg {a : ℝ} (ha : 0 ≤ a) {v : List ℝ} (hv : Nonneg v) : Nonneg (v.map fun x => x * a) :=
  nonneg_map fun y hy => mul_nonneg (hv y hy) ha

theorem length_scatter : ∀ (m : List Bool) (v : List ℝ), (scatter m v).length = m.length
  | [], _ => by simp [scatter]
  | true :: m, v => by simp [scatter, length_scatter m v]
  | false :: m, x :: v => by simp [scatter, length_scatter m v]
  | false :: m, [] => by simp [scatter, length_scatter m []]

theorem sumSq_scatter : ∀ (m : List Bool) (v : List ℝ), v.length = countFalse m → sumSq (scatter m v) = sumSq v
  | [], [], _ => by simp [scatter]
  | [], _ :: _, h => by simp [countFalse] at h
  | true :: m, v, h => by
    have ih := sumSq_scatter m v (by simpa [countFalse] using h)
    simp [scatter, ih]
  | false :: m, x :: v, h => by
    have ih := sumSq_scatter m v (by simpa [countFalse] using h)
    simp [scatter, ih]
  | false :: m, [], h => by simp [countFalse] at h

theorem mem_scatter {α : Type} [Scalar α] : ∀ (m : List Bool) (v : List α) (x : α), x ∈ scatter m v → x = zero ∨ x ∈ v
  | [], _, _, h => by simp [scatter] at h
  | true :: m, v, x, h => by
    rcases List.mem_cons.mp h with rfl | h
    · exact Or.inl rfl
    · exact mem_scatter m v x h
  | false :: m, y :: v, x, h => by
    rcases List.mem_cons.mp h with rfl | h
    · exact Or.inr List.mem_cons_self
    · exact (mem_scatter m v x h).imp_right (List.mem_cons_of_mem y)
  | false :: m, [], x, h => by
    rcases List.mem_cons.mp h with rfl | h
    · exact Or.inl rfl
    · exact mem_scatter m [] x h

theorem getElem?_scatter_of_true {α : Type} [Scalar α] : ∀ (m : List Bool) (v : List α) (i : Nat), m[i]? = some true →
    (scatter m v)[i]? = some zero
  | [], _, _, h => by simp at h
  | true :: m, v, 0, _ => rfl
  | true :: m, v, i + 1, h => getElem?_scatter_of_true m v i (by simpa using h)
  | false :: m, _, 0, h => by simp at h
  | false :: m, y :: v, i + 1, h => getElem?_scatter_of_true m v i (by simpa using h)
  | false :: m, [], i + 1, h => getElem?_scatter_of_true m [] i (by simpa using h)

theorem scatter_nonneg (m : List Bool) {v : List ℝ} (h : Nonneg v) : Nonneg (scatter m v) := by
  intro x hx
  rcases mem_scatter m v x hx with rfl | hx
  · exact zero_real.ge
  · exact h x hx

end Earverif.GainCalc
