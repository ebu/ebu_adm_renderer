/- C01: from the decidable checks on the regenerated tables (`groupsOk`, `treeOk` in the model file) to the
   hypotheses of the theorems over ℝ (`TreeWF`, duplicate-free groups, totality of the zone downmix); and, for any scalar,
   `AllocentricPanner.handle` raises no IndexError on a tree without empty planes or rows (`alloHandle_total`). -/
import Earverif.Proofs.C01Allo

namespace Earverif.GainCalc

theorem nodupB_nodup {β : Type} [BEq β] [LawfulBEq β] : ∀ l : List β, nodupB l = true → l.Nodup
  | [], _ => List.nodup_nil
  | x :: xs, h => by
    simp only [nodupB, Bool.and_eq_true, Bool.not_eq_eq_eq_not, Bool.not_true] at h
    refine List.nodup_cons.mpr ⟨?_, nodupB_nodup xs h.2⟩
    intro hm
    have : xs.contains x = true := List.contains_iff_mem.mpr hm
    rw [this] at h
    exact Bool.noConfusion h.1

/-! ### the table's tree over ℝ -/

/-- exact rational coordinates read as reals -/
noncomputable def castLeaf (l : Leaf Rat) : Leaf ℝ := ⟨l.idx, (l.x : ℝ), (l.y : ℝ), (l.z : ℝ)⟩

noncomputable def realTree (t : Tree Rat) : Tree ℝ := t.map fun pl => pl.map fun row => row.map castLeaf

theorem rowY_cast (row : List (Leaf Rat)) : rowY (row.map castLeaf) = (rowY row).map fun (q : Rat) => (q : ℝ) := by
  cases row <;> simp [rowY, castLeaf]

theorem planeZ_cast (pl : List (List (Leaf Rat))) :
    planeZ (pl.map fun row => row.map castLeaf) = (planeZ pl).map fun (q : Rat) => (q : ℝ) := by
  cases pl with
  | nil => simp [planeZ]
  | cons row rest => cases row <;> simp [planeZ, castLeaf]

theorem filterMap_cast {β β' : Type} (c : β → β') (f : β → Option Rat) (f' : β' → Option ℝ)
    (hc : ∀ b, f' (c b) = (f b).map fun (q : Rat) => (q : ℝ)) (l : List β) :
    (l.map c).filterMap f' = (l.filterMap f).map fun (q : Rat) => (q : ℝ) := by
  rw [List.filterMap_map, List.map_filterMap]
  exact List.filterMap_congr fun b _ => hc b

theorem nodup_cast {l : List Rat} (h : l.Nodup) : (l.map fun (q : Rat) => (q : ℝ)).Nodup :=
  List.Nodup.map Rat.cast_injective h

theorem disjoint_of_nodup_flatten {L : List (List Nat)} (h : L.flatten.Nodup) {i j : Nat} {a b : List Nat}
    (hij : i ≠ j) (hi : L[i]? = some a) (hj : L[j]? = some b) : ∀ x ∈ a, x ∉ b :=
  (pairwise_getElem?_ne (List.nodup_flatten.mp h).2 hij hi hj).elim (fun d _ hx hx' => d hx hx')
    fun d _ hx hx' => d hx' hx

theorem rowIdx_cast (row : List (Leaf Rat)) : rowIdx (row.map castLeaf) = row.map (·.idx) := by
  simp [rowIdx, castLeaf, List.map_map, Function.comp_def]

theorem planeIdx_cast (pl : List (List (Leaf Rat))) :
    planeIdx (pl.map fun row => row.map castLeaf) = pl.flatten.map (·.idx) := by
  simp only [planeIdx]
  rw [← List.map_flatten, List.map_map]
  simp [castLeaf, Function.comp_def]

/-- `PlaneWF.ys` / `TreeWF.zs` on the cast grid, from the Boolean check on the rational key column -/
theorem keys_nodup_cast {β β' : Type} (c : β → β') (f : β → Option Rat) (f' : β' → Option ℝ)
    (hc : ∀ b, f' (c b) = (f b).map fun (q : Rat) => (q : ℝ)) (l : List β) (h : nodupB (l.filterMap f) = true)
    (kc : List ℝ) (hk : (l.map c).mapM f' = some kc) : kc.Nodup := by
  rw [mapM_some_eq_filterMap hk, filterMap_cast c f f' hc]
  exact nodup_cast (nodupB_nodup _ h)

/-- `PlaneWF.disj` / `TreeWF.disj` on the cast grid, from the Boolean check on the concatenated index lists -/
theorem disjoint_cast {β β' : Type} (c : β → β') (I : β → List Nat) (I' : β' → List Nat) (hI : ∀ b, I' (c b) = I b)
    (l : List β) (h : nodupB ((l.map I).flatten) = true) (i j : Nat) (x y : β') (hij : i ≠ j)
    (hx : (l.map c)[i]? = some x) (hy : (l.map c)[j]? = some y) : ∀ a ∈ I' x, a ∉ I' y := by
  rw [List.getElem?_map] at hx hy
  obtain ⟨q0, hq0, rfl⟩ := Option.map_eq_some_iff.mp hx
  obtain ⟨q1, hq1, rfl⟩ := Option.map_eq_some_iff.mp hy
  rw [hI, hI]
  refine disjoint_of_nodup_flatten (L := l.map I) (nodupB_nodup _ h) hij ?_ ?_
  · rw [List.getElem?_map, hq0]; rfl
  · rw [List.getElem?_map, hq1]; rfl

theorem rowWF_of_ok (n : Nat) (row : List (Leaf Rat)) (hx : nodupB (row.map (·.x)) = true)
    (hi : nodupB (row.map (·.idx)) = true) (hlt : row.all (·.idx < n) = true) : RowWF n (row.map castLeaf) := by
  refine ⟨?_, ?_, ?_⟩
  · have : (row.map castLeaf).map (·.x) = (row.map (·.x)).map fun (q : Rat) => (q : ℝ) := by
      simp [castLeaf, List.map_map, Function.comp_def]
    rw [this]
    exact nodup_cast (nodupB_nodup _ hx)
  · rw [rowIdx_cast]; exact nodupB_nodup _ hi
  · intro l hl
    obtain ⟨l0, hl0, rfl⟩ := List.mem_map.mp hl
    simp only [List.all_eq_true, decide_eq_true_eq] at hlt
    exact hlt l0 hl0

theorem planeWF_of_ok (n : Nat) (pl : List (List (Leaf Rat)))
    (hy : nodupB (pl.filterMap rowY) = true)
    (hrows : pl.all (fun row => nodupB (row.map (·.x)) && row.all (·.idx < n)) = true)
    (hd : nodupB ((pl.map fun row => row.map (·.idx)).flatten) = true)
    (hri : pl.all (fun row => nodupB (row.map (·.idx))) = true) :
    PlaneWF n (pl.map fun row => row.map castLeaf) := by
  simp only [List.all_eq_true, Bool.and_eq_true] at hrows hri
  refine ⟨fun row hr => ?_, keys_nodup_cast _ rowY rowY rowY_cast pl hy,
    disjoint_cast _ (fun row => row.map (·.idx)) rowIdx rowIdx_cast pl hd⟩
  obtain ⟨r0, hr0, rfl⟩ := List.mem_map.mp hr
  exact rowWF_of_ok n r0 (hrows r0 hr0).1 (hri r0 hr0) (by simpa using (hrows r0 hr0).2)

theorem treeWF_of_ok (n : Nat) (st : Tree Rat) (h : treeOk n st = true) : TreeWF n (realTree st) := by
  simp only [treeOk, Bool.and_eq_true] at h
  obtain ⟨⟨⟨⟨⟨_, hz⟩, hpl⟩, hd⟩, hpd⟩, hri⟩ := h
  simp only [List.all_eq_true, Bool.and_eq_true] at hpl hpd hri
  refine ⟨fun pl hp => ?_, keys_nodup_cast _ planeZ planeZ planeZ_cast st hz,
    disjoint_cast _ (fun pl => pl.flatten.map (·.idx)) planeIdx planeIdx_cast st hd⟩
  obtain ⟨p0, hp0, rfl⟩ := List.mem_map.mp hp
  exact planeWF_of_ok n p0 (hpl p0 hp0).1 (by simpa [List.all_eq_true] using (hpl p0 hp0).2) (hpd p0 hp0)
    (by simpa [List.all_eq_true] using hri p0 hp0)

/-! ### zone groups: duplicate-free, and the downmix never hits its `assert False` -/

theorem groups_nodup_of_ok (n : Nat) (groups : List (List (List Nat))) (h : groupsOk n groups = true) :
    ∀ grps ∈ groups, ∀ grp ∈ grps, grp.Nodup := by
  simp only [groupsOk, Bool.and_eq_true, List.all_eq_true] at h
  intro grps hg grp hgrp
  exact nodupB_nodup _ ((h.2 grps hg).1.1.1 grp hgrp)

theorem mem_of_nodup_full {l : List Nat} {n : Nat} (hn : l.Nodup) (hl : l.length = n) (hb : ∀ x ∈ l, x < n)
    {j : Nat} (hj : j < n) : j ∈ l :=
  ((List.subperm_of_subset hn fun i hi => List.mem_range.mpr (hb i hi)).perm_of_length_le
    (by simp [hl])).mem_iff.mpr (List.mem_range.mpr hj)

theorem downmix_total (n : Nat) (groups : List (List (List Nat))) (h : groupsOk n groups = true)
    (excluded : List Bool) (hl : excluded.length = n) : ∃ D : List (List ℝ), downmixForExcluded groups excluded = some D := by
  have hnd := groups_nodup_of_ok n groups h
  simp only [groupsOk, Bool.and_eq_true, List.all_eq_true, beq_iff_eq, decide_eq_true_eq] at h
  obtain ⟨hlen, hg⟩ := h
  simp only [downmixForExcluded]
  rw [if_neg (by simp [hl, hlen])]
  split
  · exact ⟨_, rfl⟩
  · rename_i hne
    simp only [Bool.or_eq_true, List.all_eq_true, not_or, not_forall] at hne
    obtain ⟨⟨e, he, hef⟩, _⟩ := hne
    have hefalse : e = false := by
      cases e
      · rfl
      · exact absurd rfl hef
    subst hefalse
    obtain ⟨j, hjl, hj⟩ := List.getElem_of_mem he
    have hj? : excluded[j]? = some false := by rw [List.getElem?_eq_getElem hjl, hj]
    refine mapM_some_of_forall _ groups ?_
    intro grps hgr
    obtain ⟨⟨⟨_, hnf⟩, hfl⟩, hfb⟩ := hg grps hgr
    have hmem : j ∈ grps.flatten := mem_of_nodup_full (nodupB_nodup _ hnf) hfl hfb (by omega)
    obtain ⟨ne, hne'⟩ := firstUsable_some excluded grps
      (fun grp hgrp x hx => by rw [hl]; exact hfb x (List.mem_flatten.mpr ⟨grp, hgrp, hx⟩)) ⟨j, hmem, hj?⟩
    exact ⟨_, by rw [hne']; rfl⟩

theorem length_downmixRow (n : Nat) (ne : List Nat) : (downmixRow n ne : List ℝ).length = n := by
  simp [downmixRow]

theorem downmix_shape (groups : List (List (List Nat))) (excluded : List Bool) (D : List (List ℝ))
    (h : downmixForExcluded groups excluded = some D) :
    D.length = groups.length ∧ ∀ r ∈ D, r.length = groups.length := by
  refine ⟨?_, fun r hr => ?_⟩
  · obtain ⟨_, rfl | h⟩ := downmix_cases h
    · simp [eye]
    · exact mapM_some_length h
  · rcases (downmix_row h hr).2 with he | ⟨_, _, _, _, rfl, _⟩
    · obtain ⟨i, _, rfl⟩ := List.mem_map.mp he
      simp
    · exact length_downmixRow _ _

/-! ### `AllocentricPanner.handle` raises no IndexError on a tree without empty planes/rows (any scalar) -/

section total
variable {α : Type} [Scalar α]

theorem findLoop_lt (len : Nat) (v : α) : ∀ (cs : List α) (i : Nat), i + cs.length = len → 0 < len →
    (findLoop len v i cs).1 < len ∧ (findLoop len v i cs).2 < len
  | [], _, _, h0 => by simp only [findLoop]; omega
  | c :: cs, i, h, h0 => by
    simp only [List.length_cons] at h
    simp only [findLoop]
    split
    · simp only; omega
    · split
      · simp only; omega
      · exact findLoop_lt len v cs (i + 1) (by omega) h0

theorem findPair_lt (coords : List α) (v : α) (h : coords ≠ []) :
    (findPair coords v).1 < coords.length ∧ (findPair coords v).2 < coords.length := by
  cases coords with
  | nil => exact absurd rfl h
  | cons c cs =>
    simp only [findPair]
    split
    · simp
    · exact findLoop_lt _ v (c :: cs) 0 (by simp) (by simp)

theorem findPair_getElem {β : Type} (keys : List α) (items : List β) (v : α) (hne : keys ≠ [])
    (hlen : keys.length = items.length) :
    ∃ a b x y, keys[(findPair keys v).1]? = some a ∧ keys[(findPair keys v).2]? = some b ∧
      items[(findPair keys v).1]? = some x ∧ items[(findPair keys v).2]? = some y ∧ x ∈ items ∧ y ∈ items := by
  obtain ⟨h1, h2⟩ := findPair_lt keys v hne
  exact ⟨_, _, _, _, List.getElem?_eq_getElem h1, List.getElem?_eq_getElem h2, List.getElem?_eq_getElem (hlen ▸ h1),
    List.getElem?_eq_getElem (hlen ▸ h2), List.getElem_mem _, List.getElem_mem _⟩

theorem rowWrites_total (row : List (Leaf α)) (px c : α) (h : row ≠ []) : ∃ ws, rowWrites row px c = some ws := by
  obtain ⟨a, b, x, y, ha, hb, hx, hy, _⟩ := findPair_getElem (row.map (·.x)) row px (by simpa using h) (by simp)
  simp only [rowWrites, ha, hb, hx, hy]
  exact ⟨_, rfl⟩

theorem planeWrites_total (pl : List (List (Leaf α))) (px py gz : α) (h : pl ≠ []) (hr : ∀ row ∈ pl, row ≠ []) :
    ∃ ws, planeWrites pl px py gz = some ws := by
  obtain ⟨yc, hyc⟩ := mapM_some_of_forall rowY pl (by
    intro row hrow
    cases row with
    | nil => exact absurd rfl (hr _ hrow)
    | cons l ls => exact ⟨l.y, rfl⟩)
  have hlen := mapM_some_length hyc
  obtain ⟨a, b, r0, r1, ha, hb, h0, h1, hm0, hm1⟩ := findPair_getElem yc pl py
    (fun e => h (List.length_eq_zero_iff.mp (by rw [← hlen, e]; rfl))) hlen
  obtain ⟨w0, hw0⟩ := rowWrites_total r0 px (gz * (singleBalancePan a b py).1) (hr _ hm0)
  obtain ⟨w1, hw1⟩ := rowWrites_total r1 px (gz * (singleBalancePan a b py).2) (hr _ hm1)
  simp only [planeWrites, hyc, ha, hb, h0, h1, hw0, hw1]
  exact ⟨_, rfl⟩

theorem alloHandle_total (n : Nat) (st : Tree α) (px py pz : α) (h : treeNonempty st = true) :
    ∃ r, alloHandle n st px py pz = some r := by
  obtain ⟨hst, hpl'⟩ := treeNonempty_iff.mp h
  obtain ⟨zc, hzc⟩ := mapM_some_of_forall planeZ st (by
    intro pl hp
    obtain ⟨hne, hrows⟩ := hpl' pl hp
    cases pl with
    | nil => exact absurd rfl hne
    | cons row rest =>
      cases row with
      | nil => exact absurd rfl (hrows [] (by simp))
      | cons l ls => exact ⟨l.z, rfl⟩)
  have hlen := mapM_some_length hzc
  obtain ⟨a, b, p0, p1, ha, hb, h0, h1, hm0, hm1⟩ := findPair_getElem zc st pz
    (fun e => hst (List.length_eq_zero_iff.mp (by rw [← hlen, e]; rfl))) hlen
  obtain ⟨w0, hw0⟩ := planeWrites_total p0 px py (singleBalancePan a b pz).1 (hpl' _ hm0).1 (hpl' _ hm0).2
  obtain ⟨w1, hw1⟩ := planeWrites_total p1 px py (singleBalancePan a b pz).2 (hpl' _ hm1).1 (hpl' _ hm1).2
  simp only [alloHandle, alloWrites, hzc, ha, hb, h0, h1, hw0, hw1]
  exact ⟨_, rfl⟩

end total

theorem treeNonempty_real (st : Tree Rat) (h : treeNonempty st = true) : treeNonempty (realTree st) = true := by
  rw [treeNonempty_iff] at h ⊢
  refine ⟨by simpa [realTree] using h.1, ?_⟩
  intro pl hp
  simp only [realTree, List.mem_map] at hp
  obtain ⟨p0, hp0, rfl⟩ := hp
  refine ⟨by simpa using (h.2 p0 hp0).1, ?_⟩
  intro row hrow
  simp only [List.mem_map] at hrow
  obtain ⟨r0, hr0, rfl⟩ := hrow
  simpa using (h.2 p0 hp0).2 r0 hr0

end Earverif.GainCalc
