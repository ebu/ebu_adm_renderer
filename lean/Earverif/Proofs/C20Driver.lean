/-
C20 — the function the line-protocol driver executes (`Driver/C20.lean`, modes T/P:
`trackProcessor s` / `build s`, then `runRG delaySamplesF nch p calls` with one sample rate per call)
is the function the theorems of `Props/C20.lean` speak about (`runG delaySamplesF fs` / `runSpecF`)
when all calls carry the same sample rate.  Also here, because `Proofs/C20FloatMargin.lean` builds on it:
`delaySamplesF_eq_of_exact`, the binary64 ms → samples conversion when no operation rounds.  Core Lean only.
-/
import Earverif.Props.C20

namespace Earverif.TrackSpec

variable {α : Type} [Sample α]

/-- `runR_const` with the conversion as a parameter (the driver passes `ds = delaySamplesF`) -/
theorem runRG_const (ds : Int → Rat → Int) (fs : Int) (nch : Nat) (parts : List (List (List α))) :
    ∀ p : Proc α, runRG ds nch p (parts.map fun b => (fs, b)) = runG ds fs nch p parts := by
  induction parts with
  | nil => intro p; rfl
  | cons b rest ih =>
    intro p
    simp only [List.map_cons, runRG, runG]
    cases stepG ds fs nch p b with
    | error e => rfl
    | ok r => simp only [ih]

variable [DecidableEq α]

/-- `runSpecF` (the subject of `processorF_eq_meaningStrict`) is literally what the
driver computes in mode T: `trackProcessor s`, then `runRG delaySamplesF` over the calls `(fs, block)`. -/
theorem runSpecF_eq_driver (fs : Int) (nch : Nat) (s : Spec α) (parts : List (List (List α))) :
    runSpecF fs nch s parts =
      (match trackProcessor s with
       | .error e => .error e
       | .ok p => runRG delaySamplesF nch p (parts.map fun b => (fs, b))) := by
  simp only [runSpecF, trackProcessor]
  cases build (simplify s) with
  | error e => rfl
  | ok p => simp only [runRG_const]

theorem driver_eq_meaningStrict (fs : Int) (nch : Nat) (s : Spec α) (hwf : s.wf fs nch = true)
    (hfe : s.floatExact fs = true) (parts : List (List (List α))) (hrect : ∀ b ∈ parts, Rect nch b) :
    ∃ p v, trackProcessor s = .ok p ∧ meaningStrict fs nch s parts.flatten = some v ∧
      runRG delaySamplesF nch p (parts.map fun b => (fs, b)) = .ok (chunks (parts.map List.length) v) := by
  obtain ⟨v, h1, h2, -⟩ := processorF_eq_meaningStrict fs nch s hwf hfe parts hrect
  rw [runSpecF_eq_driver] at h2
  cases hp : trackProcessor s with
  | error e => rw [hp] at h2; cases h2
  | ok p => rw [hp] at h2; exact ⟨p, v, rfl, h1, h2⟩

/-- If the int → float conversion of the sample rate, the product, the
quotient and the difference are all binary64 numbers (no rounding happens anywhere; four decidable
conditions), the code's conversion is the exact one.  Covers the exactly representable ties, where
`delaySamplesF_eq_of_margin` does not apply (distance 0 from a half sample). -/
theorem delaySamplesF_eq_of_exact (fs : Int) (ms : Rat)
    (h1 : Ieee.rn53 (fs : Rat) = (fs : Rat))
    (h2 : Ieee.rn53 ((fs : Rat) * ms) = (fs : Rat) * ms)
    (h3 : Ieee.rn53 ((fs : Rat) * ms / 1000) = (fs : Rat) * ms / 1000)
    (h4 : Ieee.rn53 ((fs : Rat) * ms / 1000 - 1 / 2) = (fs : Rat) * ms / 1000 - 1 / 2) :
    delaySamplesF fs ms = delaySamples fs ms := by
  simp only [delaySamplesF, delaySamples, h1, h2, h3, h4]

/-- non-vacuity: 0.03125 ms at 48 kHz = exactly 1.5 samples (→ 1), 5 ms at 44.1 kHz = exactly 220.5
samples (→ 220): all four conditions hold -/
example : Ieee.rn53 ((48000 : Int) : Rat) = ((48000 : Int) : Rat) ∧
    Ieee.rn53 (((48000 : Int) : Rat) * (1 / 32)) = ((48000 : Int) : Rat) * (1 / 32) ∧
    Ieee.rn53 (((48000 : Int) : Rat) * (1 / 32) / 1000) = ((48000 : Int) : Rat) * (1 / 32) / 1000 ∧
    Ieee.rn53 (((48000 : Int) : Rat) * (1 / 32) / 1000 - 1 / 2) = ((48000 : Int) : Rat) * (1 / 32) / 1000 - 1 / 2 ∧
    delaySamplesF 48000 (1 / 32) = 1 ∧ delaySamplesF 44100 5 = 220 ∧ delaySamples 44100 5 = 220 := by
  decide +kernel

/-- the hypotheses of `driver_eq_meaningStrict` on `exSpec` (which contains the 1.5-sample tie) -/
example : exSpec.wf 48000 3 = true ∧ exSpec.floatExact 48000 = true := by decide +kernel

end Earverif.TrackSpec
