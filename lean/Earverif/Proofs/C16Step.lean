/-
C16 / C09: the bit-pattern conversion of `Model/Ieee.lean` is faithful (`ofBits_toBits`); the code of
an arbitrary sample (not only of a decoded code) lies within full scale (`encode_range_of`) and decodes
to within one quantisation step of the sample (`encode_within_step_of`), both from `encode_core`.
-/
import Earverif.Proofs.C16Pcm

namespace Earverif.Ieee

theorem ofBits_normal (S E F : ℕ) (hS : S = 0 ∨ S = 1) (hE1 : 1 ≤ E) (hE2 : E ≤ 2046) (hF : F < 2 ^ 52) :
    ofBits (S * 2 ^ 63 + E * 2 ^ 52 + F) =
      some ((if S = 1 then -1 else 1) * (((2 ^ 52 + F : ℕ) : ℕ) : ℚ) * (2 : ℚ) ^ ((E : ℤ) - 1075)) := by
  generalize hw : S * 2 ^ 63 + E * 2 ^ 52 + F = w
  have h1 : w / 2 ^ 63 % 2 = S := by rcases hS with rfl | rfl <;> omega
  have h2 : w / 2 ^ 52 % 2048 = E := by rcases hS with rfl | rfl <;> omega
  have h3 : w % 2 ^ 52 = F := by rcases hS with rfl | rfl <;> omega
  have h4 : ¬ E = 2047 := by omega
  have h5 : ¬ E = 0 := by omega
  simp only [ofBits, h1, h2, h3, h4, h5, ↓reduceIte]

/-- The printed bit pattern denotes the printed value: whenever `toBits` produces a pattern for a
rational, `ofBits` of that pattern is that rational (so `toBits` is injective, and the hex digits
the driver prints for a double identify its exact value). -/
theorem ofBits_toBits (x : ℚ) (w : ℕ) (h : toBits x = some w) : ofBits w = some x := by
  unfold toBits at h
  by_cases hx0 : x = 0
  · rw [if_pos hx0] at h
    obtain rfl := Option.some.inj h
    subst hx0
    simp [ofBits]
  rw [if_neg hx0] at h
  simp only at h
  have ha : (if 0 < x then x else -x) = |x| := by
    split_ifs with hp
    exacts [(abs_of_pos hp).symm, (abs_of_nonpos (not_lt.mp hp)).symm]
  rw [ha] at h
  obtain ⟨s1, s2⟩ := ilog2_spec |x| (abs_pos.mpr hx0)
  generalize ilog2 |x| = e at h s1 s2
  have hP := two_zpow_pos (e - 52)
  by_cases hc : (|x| / 2 ^ (e - 52)).den = 1 ∧ -1022 ≤ e ∧ e ≤ 1023
  swap
  · rw [if_neg hc] at h; cases h
  rw [if_pos hc] at h
  obtain ⟨hden, hlo, hhi⟩ := hc
  -- `|x| = n·2^(e-52)` with an integer significand `n = 2^52 + F` in [2^52, 2^53) and `E = e + 1023`; `ofBits_normal`
  -- then reads the three fields back
  have hval : |x| = (|x| / 2 ^ (e - 52)).num * (2 : ℚ) ^ (e - 52) := by
    rw [Rat.coe_int_num_of_den_eq_one hden, div_mul_cancel₀ _ hP.ne']
  generalize (|x| / 2 ^ (e - 52)).num = n at h hval
  have hn1 : (2 : ℤ) ^ 52 ≤ n := (two_zpow_le_mul 52 (show e - 52 + (52 : ℕ) = e by omega)).mp (by rw [← hval]; exact s1)
  have hn2 : n < (2 : ℤ) ^ 53 := (mul_two_zpow_lt 53 (show e - 52 + (53 : ℕ) = e + 1 by omega)).mp (by rw [← hval]; exact s2)
  obtain ⟨F, rfl⟩ : ∃ F : ℕ, n = (2 : ℤ) ^ 52 + F := ⟨(n - 2 ^ 52).toNat, by omega⟩
  obtain ⟨E, hE⟩ : ∃ E : ℕ, e + 1023 = E := ⟨(e + 1023).toNat, by omega⟩
  rw [show ((2 : ℤ) ^ 52 + F).toNat - 2 ^ 52 = F by omega, show (e + 1023).toNat = E by omega] at h
  have hx : |x| = (((2 ^ 52 + F : ℕ) : ℕ) : ℚ) * (2 : ℚ) ^ ((E : ℤ) - 1075) := by
    rw [hval, show (E : ℤ) - 1075 = e - 52 by omega]; push_cast; rfl
  by_cases hp : 0 < x
  · rw [if_pos hp] at h
    obtain rfl := Option.some.inj h
    have := ofBits_normal 0 E F (Or.inl rfl) (by omega) (by omega) (by omega)
    rw [Nat.zero_mul, if_neg Nat.zero_ne_one, one_mul, ← hx, abs_of_pos hp] at this
    exact this
  · rw [if_neg hp] at h
    obtain rfl := Option.some.inj h
    have := ofBits_normal 1 E F (Or.inr rfl) (by omega) (by omega) (by omega)
    rw [Nat.one_mul, if_pos rfl, mul_assoc, ← hx, abs_of_nonpos (not_lt.mp hp), neg_one_mul, neg_neg] at this
    exact this

theorem toBits_injective (x y : ℚ) (w : ℕ) (hx : toBits x = some w) (hy : toBits y = some w) : x = y := by
  have a := ofBits_toBits x w hx
  have b := ofBits_toBits y w hy
  rw [a] at b; exact Option.some.inj b

end Earverif.Ieee

namespace Earverif.Pcm
open Earverif.Ieee

/-- Round, then truncate, a positive value `z` up to an integer `M < 2^52`: the result lies
between `⌊z⌋` and `⌈z⌉`, hence in `[0, M]` and strictly within one unit of `z`, because `rn53`
does not cross the integers `⌊z⌋` and `⌈z⌉`. -/
theorem encode_core (M : ℤ) (hM52 : M < (2 : ℤ) ^ 52) (z : ℚ) (h0 : 0 < z) (hz : z ≤ M) :
    0 ≤ truncZ (rn53 z) ∧ truncZ (rn53 z) ≤ M ∧
    (truncZ (rn53 z) : ℚ) - 1 < z ∧ z < (truncZ (rn53 z) : ℚ) + 1 := by
  have hM53 : (M : ℚ) < (2 : ℚ) ^ (53 : ℤ) :=
    lt_trans (b := (2 : ℚ) ^ 52) (by exact_mod_cast hM52) (by norm_num)
  have h53 := lt_of_le_of_lt hz hM53
  have y0 : (0 : ℚ) ≤ rn53 z := by simpa using rn53_ge_int z 0 h0 (by simpa using h0.le) h53
  have lo := rn53_ge_int z ⌊z⌋ h0 (Int.floor_le z) h53
  have hc : ⌈z⌉ ≤ M := Int.ceil_le.mpr hz
  have hi := rn53_le_int z ⌈z⌉ h0 (Int.le_ceil z) (lt_of_le_of_lt (Int.cast_le.mpr hc) hM53)
  obtain ⟨t1, t2, t3⟩ := truncZ_nonneg (rn53 z) y0
  generalize truncZ (rn53 z) = c at *
  have c1 : ((⌊z⌋ : ℤ) : ℚ) ≤ c := by
    have : ((⌊z⌋ : ℤ) : ℚ) < ((c + 1 : ℤ) : ℚ) := by push_cast; linarith
    exact_mod_cast Int.lt_add_one_iff.mp (Int.cast_lt.mp this)
  have c2 : c ≤ ⌈z⌉ := Int.cast_le.mp (t1.trans hi)
  have c2q : (c : ℚ) ≤ ⌈z⌉ := t1.trans hi
  have f1 := Int.lt_floor_add_one z
  have f2 := Int.ceil_lt_add_one z
  exact ⟨t3, c2.trans hc, by linarith, by linarith⟩

theorem encode_range_of (b : ℕ) (hM : 0 < scale b) (hM52 : scale b < (2 : ℤ) ^ 52) (x : ℚ) :
    -scale b ≤ encode b x ∧ encode b x ≤ scale b := by
  have hMq : (0 : ℚ) < scale b := by exact_mod_cast hM
  induction x using neg_induction with
  | neg x ih => rw [encode_neg] at ih; omega
  | zero => rw [encode_zero]; omega
  | pos x h0 =>
    obtain ⟨c0, c1⟩ := clip_pos x h0
    obtain ⟨hlo, hhi, -, -⟩ := encode_core (scale b) hM52 (clip x * scale b) (mul_pos c0 hMq)
      (mul_le_of_le_one_left hMq.le c1)
    rw [encode]
    omega

theorem encode_within_step_of (b : ℕ) (hM : 0 < scale b) (hM52 : scale b < (2 : ℤ) ^ 52) (x : ℚ) (hx : |x| ≤ 1) :
    |decode b (encode b x) - x| < 1 / (scale b : ℚ) + (2 : ℚ) ^ (-54 : ℤ) := by
  have hMq : (0 : ℚ) < (scale b : ℚ) := by exact_mod_cast hM
  induction x using neg_induction with
  | neg x ih =>
    have := ih (by rwa [abs_neg])
    rwa [encode_neg, decode_neg, ← neg_sub', abs_neg] at this
  | zero =>
    rw [encode_zero, decode_zero, sub_zero, abs_zero]
    have : (0 : ℚ) < 1 / (scale b : ℚ) := by positivity
    linarith [two_zpow_pos (-54)]
  | pos x h0 =>
    have h1 := (abs_le.mp hx).2
    unfold encode
    rw [clip_id x (by linarith) h1]
    obtain ⟨c0, cM, lo, hi⟩ := encode_core (scale b) hM52 (x * scale b) (mul_pos h0 hMq)
      (mul_le_of_le_one_left hMq.le h1)
    generalize truncZ (rn53 (x * (scale b : ℚ))) = c at *
    -- the rounding error of the division, and the distance of the exact quotient from `x`
    have e1 := rn53_err_unit _ (abs_div_scale_le_one b hM c (abs_le.mpr ⟨by omega, cM⟩))
    have e2 : |(c : ℚ) / (scale b : ℚ) - x| < 1 / (scale b : ℚ) := by
      rw [div_sub' hMq.ne', abs_div, abs_of_pos hMq, div_lt_div_iff_of_pos_right hMq, abs_lt]
      constructor <;> linarith
    rw [decode]
    exact (abs_sub_le _ ((c : ℚ) / (scale b : ℚ)) _).trans_lt (by linarith)

end Earverif.Pcm
