/- C05, Stage 3 — from cone membership (Stage 2) to acceptance by the modelled region handlers, hence totality of the
   modelled panner `RawLayout.handle` on a table with an accepted certificate.

   * Triplet: `p = s a + t b + u c`, `s t u ≥ 0`, `det ≠ 0`  ⇒  `Triplet.handle` accepts (`pv_comb3`).
   * VirtualNgon: the cell is the fan triangle number `f`; its inner triplet accepts, so the first accepting inner
     triplet exists.
   * QuadRegion: `p` is a non-negative combination of the four corners; that the quad then accepts with the roots
     chosen by the selection function `sel` is the hypothesis `QuadAcceptsOnCone sel` (see Proofs/C05CoverQuad.lean
     for what is proved about it). -/
import Earverif.Proofs.C05CoverCert

namespace Earverif.PointSource.Cover
open Earverif.PointSource

/-- the roots handed to region number `i`: `sel` of the two quadratics for a quad, irrelevant otherwise -/
noncomputable def rootsOf (sel : ℝ × ℝ × ℝ → Option ℝ) (regions : List (Region ℝ)) (p : Vec3 ℝ) :
    Nat → Option ℝ × Option ℝ := fun i =>
  match regions[i]? with
  | some (.quad _ q) => let py := q.polys p; (sel py.1, sel py.2)
  | _ => (none, none)

/-- `configure(layout).handle(p)` over the table with the quad roots selected by `sel`: the selection is a parameter so
    that Stage 3 holds for any `sel` under `QuadAcceptsOnCone sel`; `handleSel quadRoot` is `GainCalc.pspHandle`
    (`handleSel_eq_pspHandle`, Props/C05.lean) -/
noncomputable def handleSel (sel : ℝ × ℝ × ℝ → Option ℝ) (l : RawLayout) (p : Vec3 ℝ) : Option (List ℝ) :=
  match l.regions.mapM (RawRegion.toRegion (α := ℝ)) with
  | none => none
  | some regions => l.handle (rootsOf sel regions p) p

/-- **The step that is a hypothesis of `panner_total_of_cert`.**  For every QuadRegion of the table: a non-zero
    direction that is a non-negative combination of its four corners is accepted (both pan values are found by `sel`
    and the final sign test passes). -/
def QuadAcceptsOnCone (sel : ℝ × ℝ × ℝ → Option ℝ) (l : RawLayout) : Prop :=
  ∀ r ∈ l.regions, r.kind = 2 → ∀ (q0 q1 q2 q3 : P3), r.pos = [q0, q1, q2, q3] →
    ∀ (g0 g1 g2 g3 : ℝ) (p : Vec3 ℝ), 0 ≤ g0 → 0 ≤ g1 → 0 ≤ g2 → 0 ≤ g3 → p ≠ (0, 0, 0) →
      p = add3 (add3 (smul3 g0 (p3 q0)) (smul3 g1 (p3 q1))) (add3 (smul3 g2 (p3 q2)) (smul3 g3 (p3 q3))) →
      let q : QuadRegion ℝ := ⟨r.pos.map p3, r.order⟩
      q.handle (sel (q.polys p).1) (sel (q.polys p).2) p ≠ none

theorem region_wf {l : RawLayout} (hwf : l.wellFormed = true) {r : RawRegion} (hr : r ∈ l.regions) :
    r.wellFormed l.nInner = true := by
  simp only [RawLayout.wellFormed, Bool.and_eq_true, List.all_eq_true] at hwf
  exact hwf.1.1.1 r hr

theorem triplet_accepts_of_cone (a b c p : Vec3 ℝ) (hd : det3 (a, b, c) ≠ 0) (h : InCone3 a b c p) :
    Triplet.handle (a, b, c) p ≠ none := by
  obtain ⟨s, t, u, hs, ht, hu, rfl⟩ := h
  rw [triplet_handle_comb (a, b, c) hd s t u hs ht hu]
  exact Option.some_ne_none _

theorem ngon_accepts (g : VirtualNgon ℝ) (f : Nat) (hf : f < g.positions.length) (p : Vec3 ℝ)
    (h : Triplet.handle (g.positions.getD (g.order.getD f 0) zero3,
      g.positions.getD (g.order.getD ((f + 1) % g.positions.length) 0) zero3, g.centre) p ≠ none) :
    g.handle p ≠ none := fun h0 => h (ngon_handle_eq_none_iff_fan.mp h0 f hf)

theorem getD_map_p3 (pos : List P3) (i : Nat) (a : P3) (h : pos[i]? = some a) :
    (pos.map (p3 (α := ℝ))).getD i zero3 = p3 a := by
  rw [List.getD_eq_getElem?_getD, List.getElem?_map, h]; rfl

theorem smul_corner_eq_comb (q0 q1 q2 q3 a : P3) (i : Nat) (h : [q0, q1, q2, q3][i]? = some a) (s : ℝ) (hs : 0 ≤ s) :
    ∃ g0 g1 g2 g3 : ℝ, 0 ≤ g0 ∧ 0 ≤ g1 ∧ 0 ≤ g2 ∧ 0 ≤ g3 ∧
      smul3 s (p3 a) = add3 (add3 (smul3 g0 (p3 q0)) (smul3 g1 (p3 q1))) (add3 (smul3 g2 (p3 q2)) (smul3 g3 (p3 q3))) := by
  match i, h with
  | 0, h =>
    simp only [List.getElem?_cons_zero, Option.some.injEq] at h; subst h
    exact ⟨s, 0, 0, 0, hs, le_refl _, le_refl _, le_refl _, by simp [add3, smul3]⟩
  | 1, h =>
    simp only [List.getElem?_cons_succ, List.getElem?_cons_zero, Option.some.injEq] at h; subst h
    exact ⟨0, s, 0, 0, le_refl _, hs, le_refl _, le_refl _, by simp [add3, smul3]⟩
  | 2, h =>
    simp only [List.getElem?_cons_succ, List.getElem?_cons_zero, Option.some.injEq] at h; subst h
    exact ⟨0, 0, s, 0, le_refl _, le_refl _, hs, le_refl _, by simp [add3, smul3]⟩
  | 3, h =>
    simp only [List.getElem?_cons_succ, List.getElem?_cons_zero, Option.some.injEq] at h; subst h
    exact ⟨0, 0, 0, s, le_refl _, le_refl _, le_refl _, hs, by simp [add3, smul3]⟩
  | n + 4, h => simp at h

theorem comb_four_add (q0 q1 q2 q3 : Vec3 ℝ) (g0 g1 g2 g3 h0 h1 h2 h3 : ℝ) :
    add3 (add3 (add3 (smul3 g0 q0) (smul3 g1 q1)) (add3 (smul3 g2 q2) (smul3 g3 q3)))
      (add3 (add3 (smul3 h0 q0) (smul3 h1 q1)) (add3 (smul3 h2 q2) (smul3 h3 q3))) =
    add3 (add3 (smul3 (g0 + h0) q0) (smul3 (g1 + h1) q1)) (add3 (smul3 (g2 + h2) q2) (smul3 (g3 + h3) q3)) := by
  simp only [add3, smul3]
  refine Prod.ext ?_ (Prod.ext ?_ ?_) <;> simp only <;> ring

theorem cone3_in_quad {r : RawRegion} {q0 q1 q2 q3 : P3} (hv : verts r = [q0, q1, q2, q3]) {i1 i2 i3 : Nat} {p : Vec3 ℝ}
    (h : RegionCone3 r i1 i2 i3 p) :
    ∃ g0 g1 g2 g3 : ℝ, 0 ≤ g0 ∧ 0 ≤ g1 ∧ 0 ≤ g2 ∧ 0 ≤ g3 ∧
      p = add3 (add3 (smul3 g0 (p3 q0)) (smul3 g1 (p3 q1))) (add3 (smul3 g2 (p3 q2)) (smul3 g3 (p3 q3))) := by
  obtain ⟨a, b, c, h1, h2, h3, _, s, t, u, hs, ht, hu, rfl⟩ := h
  rw [hv] at h1 h2 h3
  obtain ⟨a0, a1, a2, a3, ha0, ha1, ha2, ha3, ea⟩ := smul_corner_eq_comb q0 q1 q2 q3 a i1 h1 s hs
  obtain ⟨b0, b1, b2, b3, hb0, hb1, hb2, hb3, eb⟩ := smul_corner_eq_comb q0 q1 q2 q3 b i2 h2 t ht
  obtain ⟨c0, c1, c2, c3, hc0, hc1, hc2, hc3, ec⟩ := smul_corner_eq_comb q0 q1 q2 q3 c i3 h3 u hu
  refine ⟨a0 + b0 + c0, a1 + b1 + c1, a2 + b2 + c2, a3 + b3 + c3, by linarith, by linarith, by linarith, by linarith, ?_⟩
  simp only [comb3]
  rw [ea, eb, ec, comb_four_add, comb_four_add]

theorem toRegion_cases {n : Nat} {r : RawRegion} (h : r.wellFormed n = true) :
    (∃ a b c, r.kind = 0 ∧ r.pos = [a, b, c] ∧ r.toRegion (α := ℝ) = some (.triplet r.ch (p3 a, p3 b, p3 c))) ∨
    (r.kind = 1 ∧ r.toRegion (α := ℝ) = some (.ngon r.ch ⟨r.pos.map p3, p3 r.centre, r.cdm.map OfF2.ofF2, r.order⟩)) ∨
    (r.kind = 2 ∧ r.toRegion (α := ℝ) = some (.quad r.ch ⟨r.pos.map p3, r.order⟩)) := by
  obtain ⟨kind, ch, pos, centre, cdm, order⟩ := r
  simp only [RawRegion.wellFormed, Bool.and_eq_true, beq_iff_eq] at h
  obtain ⟨⟨⟨_, _⟩, hposlen⟩, hk⟩ := h
  rcases kind with _ | _ | _ | kind
  · simp only [beq_iff_eq] at hk
    obtain ⟨a, b, d, rfl⟩ := List.length_eq_three.mp (hposlen.trans hk)
    exact Or.inl ⟨a, b, d, rfl, rfl, rfl⟩
  · exact Or.inr (Or.inl ⟨rfl, rfl⟩)
  · exact Or.inr (Or.inr ⟨rfl, rfl⟩)
  · simp at hk

theorem toRegion_of_wf {n : Nat} (r : RawRegion) (h : r.wellFormed n = true) :
    ∃ reg, r.toRegion (α := ℝ) = some reg := by
  rcases toRegion_cases h with ⟨_, _, _, _, _, ht⟩ | ⟨_, ht⟩ | ⟨_, ht⟩ <;> exact ⟨_, ht⟩

theorem region_accepts (sel : ℝ × ℝ × ℝ → Option ℝ) (l : RawLayout) (hwf : l.wellFormed = true)
    (hq : QuadAcceptsOnCone sel l) (regions : List (Region ℝ))
    (hregs : l.regions.mapM (RawRegion.toRegion (α := ℝ)) = some regions) (c : Cell) (p : Vec3 ℝ) (hp : p ≠ (0, 0, 0))
    (hcov : CellCovers l c p) :
    ∃ reg, regions[c.region]? = some reg ∧ reg.handle (rootsOf sel regions p c.region) p ≠ none := by
  obtain ⟨r, hr, hslots, hcone⟩ := hcov
  obtain ⟨reg, hreg, hto⟩ := mapM_some_getElem? hregs _ _ hr
  refine ⟨reg, hreg, ?_⟩
  have hrmem : r ∈ l.regions := List.mem_of_getElem? hr
  have hrw := region_wf hwf hrmem
  rcases toRegion_cases hrw with ⟨a', b', d', hk, hpos, ht⟩ | ⟨hk, ht⟩ | ⟨hk, ht⟩ <;>
    obtain rfl := Option.some.inj (hto.symm.trans ht) <;>
    simp only [slotsOk, hk] at hslots
  · -- Triplet
    simp only [beq_iff_eq] at hslots
    rw [hslots] at hcone
    obtain ⟨a, b, d, ha, hb, hd, hdet, hin⟩ := hcone
    simp only [verts, hk, hpos, Nat.reduceBEq, Bool.false_eq_true, if_false, List.getElem?_cons_zero,
      List.getElem?_cons_succ, Option.some.injEq] at ha hb hd
    subst ha hb hd
    simp only [Region.handle, ne_eq, Option.map_eq_none_iff]
    exact triplet_accepts_of_cone _ _ _ p hdet hin
  · -- VirtualNgon: fan triangle number `c.fan`
    simp only [Bool.and_eq_true, decide_eq_true_eq, beq_iff_eq] at hslots
    obtain ⟨⟨⟨hf, ho1⟩, ho2⟩, hvs⟩ := hslots
    rw [hvs] at hcone
    obtain ⟨a, b, d, ha, hb, hd, hdet, hin⟩ := hcone
    simp only [verts, hk, beq_self_eq_true, if_true] at ha hb hd
    rw [List.getElem?_append_left ho1] at ha
    rw [List.getElem?_append_left ho2] at hb
    obtain rfl : d = r.centre := by
      rw [List.getElem?_append_right (le_refl _)] at hd
      simpa using hd.symm
    simp only [Region.handle]
    apply ngon_accepts _ c.fan (by simpa using hf)
    simp only [List.length_map]
    rw [getD_map_p3 r.pos _ a ha, getD_map_p3 r.pos _ b hb]
    exact triplet_accepts_of_cone _ _ _ p hdet hin
  · -- QuadRegion: acceptance on the cone of the four corners is the hypothesis `hq`
    have hv : verts r = r.pos := by simp [verts, hk]
    simp only [RawRegion.wellFormed, hk, Bool.and_eq_true, beq_iff_eq] at hrw
    obtain ⟨q0, q1, q2, q3, hpos⟩ := List.length_eq_four.mp (hrw.1.2.trans hrw.2.1)
    rw [hpos] at hv
    have hquad := by
      split at hcone
      · exact cone3_in_quad hv hcone
      · exact hcone.elim (cone3_in_quad hv) (cone3_in_quad hv)
      · exact hcone.elim
    obtain ⟨g0, g1, g2, g3, h0, h1, h2, h3, hpe⟩ := hquad
    have := hq _ hrmem hk q0 q1 q2 q3 hpos g0 g1 g2 g3 p h0 h1 h2 h3 hp hpe
    simp only [Region.handle, rootsOf, hreg]
    exact this

theorem panner_ne_none_of_region (regions : List (Region ℝ)) (n : Nat) (roots : Nat → Option ℝ × Option ℝ)
    (p : Vec3 ℝ) (k : Nat) (hk : k < regions.length) (h : regions[k].handle (roots k) p ≠ none) :
    PointSourcePanner.handle regions n roots p ≠ none := by
  obtain ⟨g, hg⟩ := Option.ne_none_iff_exists'.mp h
  exact firstAccept_ne_none (x := scatter (zeros n) regions[k].channels g)
    (results_mem.mpr ⟨k, hk, by simp [remap, hg]⟩)

theorem length_normalise (v : List ℝ) : (normalise v).length = v.length := by simp [normalise]

theorem length_matVec (D : List (List ℝ)) (v : List ℝ) : (matVec D v).length = D.length := by simp [matVec]

theorem length_downmixRows (l : RawLayout) : (l.downmixRows (α := ℝ)).length = l.nReal := by
  simp [RawLayout.downmixRows]

theorem mapM_toRegion_of_wf (l : RawLayout) (hwf : l.wellFormed = true) :
    ∃ regions, l.regions.mapM (RawRegion.toRegion (α := ℝ)) = some regions :=
  mapM_some_of_forall _ _ fun r hr => toRegion_of_wf r (region_wf hwf hr)

/-- **Stage 3.**  A well-formed table with an accepted certificate: under `QuadAcceptsOnCone`, the modelled panner
    returns a result for every non-zero direction. -/
theorem panner_total_of_cert (sel : ℝ × ℝ × ℝ → Option ℝ) (K : Nat) (l : RawLayout) (cert : CoverCert)
    (hwf : l.wellFormed = true) (hcert : coverCertOk K l cert = true) (hq : QuadAcceptsOnCone sel l) (p : Vec3 ℝ)
    (hp : p ≠ (0, 0, 0)) : handleSel sel l p ≠ none := by
  obtain ⟨c, _, hcov⟩ := cover_of_cert K l cert hcert p hp
  obtain ⟨regions, hregs⟩ := mapM_toRegion_of_wf l hwf
  obtain ⟨reg, hreg, hacc⟩ := region_accepts sel l hwf hq regions hregs c p hp hcov
  obtain ⟨hlt, rfl⟩ := List.getElem?_eq_some_iff.mp hreg
  obtain ⟨pv, hpv⟩ := Option.ne_none_iff_exists'.mp
    (panner_ne_none_of_region regions l.nInner _ p c.region hlt hacc)
  unfold handleSel RawLayout.handle
  simp only [hregs, hpv, PointSourcePannerDownmix.handle, Option.map_some]
  cases hst : l.stereo with
  | none => simp
  | some lr =>
    obtain ⟨left, right⟩ := lr
    simp only
    -- the stereo wrapper needs exactly five inner gains
    have h5 : l.nReal = 5 := by
      simp only [RawLayout.wellFormed, Bool.and_eq_true, hst, beq_iff_eq] at hwf
      exact hwf.2.2
    have hlen : (normalise (matVec (l.downmixRows (α := ℝ)) pv)).length = 5 := by
      rw [length_normalise, length_matVec, length_downmixRows, h5]
    match hv : normalise (matVec (l.downmixRows (α := ℝ)) pv), hlen with
    | [g0, g1, g2, g3, g4], _ => simp [StereoPanDownmix.handle, remap]

end Earverif.PointSource.Cover
