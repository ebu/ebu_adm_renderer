/-
C06 / C07 / C14 link: well-formedness of the allocation problems that item selection hands to
`allocate_packs`, derived from what `validate_structure` establishes about the document.

`multitreeOK f` (Model/SelectItems.lean) is the success condition of
`validate._validate_pack_channel_multitree`: the list of nodes its dfs visits from any audioPackFormat has
no duplicates.  From it: the channel formats of every `AllocationPack` that `get_wrapped_packs` builds are
pairwise distinct (C07 `WF.cf_nodup`).  The identities of the `AllocationPack` objects (`3 * root +
variant`) are distinct by construction (C07 `WF.packs_nodup`).  Core Lean only.
-/
import Earverif.Proofs.C06

namespace Earverif.Adm

/-- the channel formats of all `(pack_formats, channel_format)` slots below `p`, search depth `k`. -/
def chansFrom (f : Formats) (k p : Nat) : List Nat :=
  (pathsFrom f.packSubs k p).flatMap fun path => (f.pack (path.getLastD 0)).channels

theorem slots_map_snd (f : Formats) (p : Nat) : (slots f p).map (·.2) = chansFrom f f.packs.length p := by
  simp only [slots, chansFrom, packPathsFrom, List.map_flatMap, List.map_map]
  refine flatMap_congr' fun path _ => ?_
  simp [Function.comp_def]

theorem getLastD_cons_of_ne_nil {α : Type} (x d : α) : ∀ {q : List α}, q ≠ [] → (x :: q).getLastD d = q.getLastD d
  | [], h => absurd rfl h
  | _ :: _, _ => by simp [List.getLastD]

theorem chansFrom_succ (f : Formats) (k p : Nat) :
    chansFrom f (k + 1) p = (f.pack p).channels ++ (f.pack p).subPacks.flatMap (chansFrom f k) := by
  simp only [chansFrom, pathsFrom, List.flatMap_cons, List.flatMap_assoc, Formats.packSubs]
  refine congrArg (_ ++ ·) ?_
  refine flatMap_congr' fun s _ => ?_
  rw [List.flatMap_map]
  refine flatMap_congr' fun q hq => ?_
  rw [getLastD_cons_of_ne_nil p 0 (chain_of_mem_pathsFrom _ _ _ hq).ne_nil]

theorem count_chan_map (c : Nat) (l : List Nat) : List.count (PNode.chan c) (l.map PNode.chan) = List.count c l := by
  induction l with
  | nil => rfl
  | cons a t ih =>
    simp only [List.map_cons, List.count_cons, ih]
    by_cases h : a = c
    · subst h; simp
    · have : (PNode.chan a == PNode.chan c) = false := by simp [h]
      simp [h, this]

theorem count_mtVisit_succ (f : Formats) (k p c : Nat) :
    List.count (PNode.chan c) (mtVisit f (k + 1) p) =
      (((f.pack p).subPacks.map fun s => List.count (PNode.chan c) (mtVisit f k s))).sum +
        List.count c (f.pack p).channels := by
  have hne : (PNode.pack p == PNode.chan c) = false := by simp
  simp only [mtVisit, List.count_cons, hne, List.count_append, List.count_flatMap, count_chan_map]
  simp [Function.comp_def]

/-- every channel below `p` (with multiplicity) is visited by the multitree dfs from `p`. -/
theorem count_chansFrom_le (f : Formats) : ∀ k p c,
    List.count c (chansFrom f k p) ≤ List.count (PNode.chan c) (mtVisit f (k + 1) p)
  | 0, p, c => by simp [chansFrom, pathsFrom]
  | k + 1, p, c => by
    rw [chansFrom_succ, count_mtVisit_succ, List.count_append, List.count_flatMap]
    have := sum_map_le (f.pack p).subPacks (List.count c ∘ chansFrom f k)
      (fun s => List.count (PNode.chan c) (mtVisit f (k + 1) s)) (fun s _ => count_chansFrom_le f k s c)
    omega

/-- what the multitree check establishes, for every index (an index that is not a pack has no children). -/
theorem mtVisit_nodup_of_ok {f : Formats} (h : multitreeOK f = true) (p : Nat) :
    (mtVisit f (f.packs.length + 1) p).Nodup := by
  by_cases hp : p < f.packs.length
  · unfold multitreeOK at h
    simp only [List.all_eq_true, List.mem_range, decide_eq_true_eq] at h
    exact h p hp
  · have hd : f.pack p = default := getD_ge _ (Nat.le_of_not_lt hp)
    have h1 : (f.pack p).subPacks = [] := by rw [hd]; rfl
    have h2 : (f.pack p).channels = [] := by rw [hd]; rfl
    simp [mtVisit, h1, h2]

/-- in a document that passes `_validate_pack_channel_multitree`, no channel format
occurs in two `(pack_formats, channel_format)` slots below the same pack. -/
theorem slots_cf_nodup {f : Formats} (h : multitreeOK f = true) (p : Nat) : ((slots f p).map (·.2)).Nodup := by
  rw [slots_map_snd, List.nodup_iff_count]
  intro c
  exact Nat.le_trans (count_chansFrom_le f _ p c) (List.nodup_iff_count.1 (mtVisit_nodup_of_ok h p) _)

/-- every `AllocationPack` built for pack `p` has `root_pack = p` and an identity in `{3p, 3p+1, 3p+2}`; its
channels are the slots below some pack `q`, each with its own pack path (`q = p`: a regular pack, or the matrix
already applied) or all with the one-element path `[x]`, `x` being `p` or its encode matrix (the flattened input of
a matrix); the identities of the packs built for `p` are `3p, 3p+1, …` in order (`WPack.id`: `Model/SelectItems.lean`). -/
theorem wrapOne_channels {f : Formats} {p : Nat} {ws : List WPack} (h : wrapOne f p = .ok ws) :
    (∀ w ∈ ws, w.root = p ∧ w.id / 3 = p ∧
      ∃ q pfs, w.channels = (slots f q).map (fun s => (⟨s.2, pfs s⟩ : PackAlloc.Channel)) ∧
        ((q = p ∧ pfs = (·.1)) ∨ ∃ x, (x = p ∨ x ∈ (f.pack p).encodePacks) ∧ pfs = fun _ => [x])) ∧
    ws.map (·.id) = (List.range ws.length).map (3 * p + ·) := by
  have hpre : ∃ q pfs, (slots f p).map (fun s => (⟨s.2, s.1⟩ : PackAlloc.Channel)) =
      (slots f q).map (fun s => (⟨s.2, pfs s⟩ : PackAlloc.Channel)) ∧
      ((q = p ∧ pfs = (·.1)) ∨ ∃ x, (x = p ∨ x ∈ (f.pack p).encodePacks) ∧ pfs = fun _ => [x]) :=
    ⟨p, (·.1), rfl, Or.inl ⟨rfl, rfl⟩⟩
  have hflat : ∀ q' x, (x = p ∨ x ∈ (f.pack p).encodePacks) →
      ∃ q pfs, (slots f q').map (fun s => (⟨s.2, [x]⟩ : PackAlloc.Channel)) =
        (slots f q).map (fun s => (⟨s.2, pfs s⟩ : PackAlloc.Channel)) ∧
        ((q = p ∧ pfs = (·.1)) ∨ ∃ x, (x = p ∨ x ∈ (f.pack p).encodePacks) ∧ pfs = fun _ => [x]) :=
    fun q' x hx => ⟨q', fun _ => [x], rfl, Or.inr ⟨x, hx, rfl⟩⟩
  unfold wrapOne at h
  split at h
  · cases h
    refine ⟨?_, by simp [wrapRegular]⟩
    intro w hw
    simp only [List.mem_singleton] at hw
    subst hw
    exact ⟨rfl, by simp [wrapRegular], hpre⟩
  · unfold wrapMatrix at h
    dsimp only at h
    split at h
    · cases h
      refine ⟨?_, by simp [List.range_succ]⟩
      intro w hw
      simp only [List.mem_cons, List.not_mem_nil, or_false] at hw
      rcases hw with rfl | rfl
      · exact ⟨rfl, by simp, hflat _ p (Or.inl rfl)⟩
      · exact ⟨rfl, by simp only; omega, hpre⟩
    · cases h
      exact ⟨fun w hw => (by cases hw), rfl⟩
    · split at h
      · rename_i e he
        split at h
        · cases h
          refine ⟨?_, by simp [List.range_succ]⟩
          intro w hw
          simp only [List.mem_cons, List.not_mem_nil, or_false] at hw
          rcases hw with rfl | rfl | rfl
          · exact ⟨rfl, by simp, hflat _ p (Or.inl rfl)⟩
          · exact ⟨rfl, by simp only; omega, hpre⟩
          · exact ⟨rfl, by simp only; omega, hflat _ e (Or.inr (by rw [he]; exact List.mem_singleton.2 rfl))⟩
        · cases h
      · cases h
    · cases h

theorem wrapOne_shape {f : Formats} {p : Nat} {ws : List WPack} (h : wrapOne f p = .ok ws) :
    (∀ w ∈ ws, w.root = p ∧ w.id / 3 = p ∧ ∃ q, w.channels.map (·.cf) = (slots f q).map (·.2)) ∧
    ws.map (·.id) = (List.range ws.length).map (3 * p + ·) :=
  ⟨fun w hw => by
    obtain ⟨hr, hid, q, pfs, hq, _⟩ := (wrapOne_channels h).1 w hw
    exact ⟨hr, hid, q, by rw [hq, List.map_map]; rfl⟩, (wrapOne_channels h).2⟩

theorem wrappedPacks_eq_flatMap {f : Formats} {wps : List WPack} (h : wrappedPacks f = .ok wps) :
    (∀ p ∈ List.range f.packs.length, ∃ ws, wrapOne f p = .ok ws) ∧
    wps = (List.range f.packs.length).flatMap (okVal (wrapOne f)) := by
  rw [wrappedPacks_eq] at h
  exact (flatMapE_ok_iff _ _ _).1 h

theorem wrappedPacks_mem {f : Formats} {wps : List WPack} (h : wrappedPacks f = .ok wps) {w : WPack} (hw : w ∈ wps) :
    ∃ p ws, p < f.packs.length ∧ wrapOne f p = .ok ws ∧ w ∈ ws := by
  rw [wrappedPacks_eq] at h
  obtain ⟨p, hp, ws, hws, hmem⟩ := flatMapE_mem h hw
  exact ⟨p, ws, List.mem_range.1 hp, hws, hmem⟩

theorem wrappedPacks_ids_nodup {f : Formats} {wps : List WPack} (h : wrappedPacks f = .ok wps) :
    (wps.map (·.id)).Nodup := by
  obtain ⟨hall, rfl⟩ := wrappedPacks_eq_flatMap h
  rw [List.map_flatMap]
  refine nodup_flatMap_of List.nodup_range (fun p hp => ?_) ?_
  · obtain ⟨ws, hws⟩ := hall p hp
    rw [okVal_of_ok hws, (wrapOne_shape hws).2]
    exact nodup_map_of_inj List.nodup_range (fun x y hxy => by omega)
  · intro p hp q hq hne b hb hb'
    obtain ⟨ws, hws⟩ := hall p hp
    obtain ⟨ws', hws'⟩ := hall q hq
    rw [okVal_of_ok hws] at hb
    rw [okVal_of_ok hws'] at hb'
    obtain ⟨w, hw, rfl⟩ := List.mem_map.1 hb
    obtain ⟨w', hw', he⟩ := List.mem_map.1 hb'
    have h1 := ((wrapOne_shape hws).1 w hw).2.1
    have h2 := ((wrapOne_shape hws').1 w' hw').2.1
    rw [he] at h2
    exact hne (h1.symm.trans h2)

theorem wrappedPacks_cf_nodup {f : Formats} (hmt : multitreeOK f = true) {wps : List WPack}
    (h : wrappedPacks f = .ok wps) : ∀ w ∈ wps, (w.channels.map (·.cf)).Nodup := by
  intro w hw
  obtain ⟨p, ws, _, hws, hmem⟩ := wrappedPacks_mem h hw
  obtain ⟨q, hq⟩ := ((wrapOne_shape hws).1 w hmem).2.2
  rw [hq]
  exact slots_cf_nodup hmt q

theorem wrappedNonempty_iff {f : Formats} {wps : List WPack} (h : wrappedPacks f = .ok wps) :
    wrappedNonempty f = true ↔ ∀ w ∈ wps, w.channels ≠ [] := by
  unfold wrappedNonempty
  rw [h]
  simp [List.all_eq_true]

end Earverif.Adm
