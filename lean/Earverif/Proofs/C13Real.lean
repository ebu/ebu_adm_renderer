/-
C13 — the zone / channel-lock scalar classes over ℝ (used by the theorems that need a square
root or that compose with the C01/C05 models, which are proved over ℝ).
-/
import Earverif.Proofs.C13Zone
import Mathlib.Analysis.Real.Sqrt

namespace Earverif.C13
open Earverif.Zone Earverif.Zone.Scalar Earverif.Zone.ScalarSqrt

/-- `eps6`, `eps5` are the decimal numbers here; over ℚ (`Model/Zone.lean`) they are the exact binary64 values of the
same literals, so a statement over ℚ does not turn into one over ℝ by casting its tolerance, and the `1e-5` of
`lockHandle_spec` is the decimal, not the binary64 number the code compares with. -/
noncomputable instance : ScalarSqrt ℝ where
  zero := 0
  one := 1
  ofNat n := (n : ℝ)
  add := (· + ·)
  sub := (· - ·)
  mul := (· * ·)
  div := (· / ·)
  abs x := |x|
  lt a b := decide (a < b)
  le a b := decide (a ≤ b)
  eq a b := decide (a = b)
  eps6 := 1e-6
  eps5 := 1e-5
  sqrt := Real.sqrt
  nanToNum x := x

@[simp] theorem real_zero : (Scalar.zero : ℝ) = 0 := rfl
@[simp] theorem real_one : (Scalar.one : ℝ) = 1 := rfl
@[simp] theorem real_ofNat (n : Nat) : (Scalar.ofNat n : ℝ) = (n : ℝ) := rfl
@[simp] theorem real_add (a b : ℝ) : Scalar.add a b = a + b := rfl
@[simp] theorem real_sub (a b : ℝ) : Scalar.sub a b = a - b := rfl
@[simp] theorem real_mul (a b : ℝ) : Scalar.mul a b = a * b := rfl
@[simp] theorem real_div (a b : ℝ) : Scalar.div a b = a / b := rfl
@[simp] theorem real_lt (a b : ℝ) : Scalar.lt a b = decide (a < b) := rfl
@[simp] theorem real_le (a b : ℝ) : Scalar.le a b = decide (a ≤ b) := rfl
@[simp] theorem real_eq (a b : ℝ) : Scalar.eq a b = decide (a = b) := rfl
@[simp] theorem real_sqrt (a : ℝ) : ScalarSqrt.sqrt a = Real.sqrt a := rfl
@[simp] theorem real_nanToNum (a : ℝ) : ScalarSqrt.nanToNum a = a := rfl

theorem finishGains_real (g : List ℝ) (gain diffuse : ℝ) :
    finishGains g gain diffuse =
      (g.map fun v => v * gain * Real.sqrt (1 - diffuse), g.map fun v => v * gain * Real.sqrt diffuse) := by
  simp only [finishGains, real_mul, real_nanToNum, real_sqrt, real_sub, real_one, List.map_map]
  rfl

end Earverif.C13
