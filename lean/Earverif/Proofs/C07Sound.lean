/-
C07 — what each nested function of the pack-allocation search does to a partial solution, and the
invariant behind soundness (`allocImpl_sound`; `alloc_sound` in `Props/C07.lean` reads `Valid` off it).

The search only ever fills `_EMPTY` entries in place (`Fills`), and what is filled in plus what is
still pending is conserved (`filled … ++ tracks` up to `~`).  These two facts are proved once per
Python function; soundness, completeness and the absence of duplicates all read them off.
-/
import Earverif.Model.PackAlloc

namespace Earverif.PackAlloc
open List

theorem perm_cons_eraseIdx {α : Type} {l : List α} {i : Nat} {t : α} (h : l[i]? = some t) :
    l ~ t :: l.eraseIdx i := by
  induction l generalizing i with
  | nil => simp at h
  | cons a as ih =>
    cases i with
    | zero =>
      rw [getElem?_cons_zero, Option.some.injEq] at h
      rw [h, eraseIdx_cons_zero]
    | succ i =>
      rw [getElem?_cons_succ] at h
      rw [eraseIdx_cons_succ]
      exact ((ih h).cons a).trans (Perm.swap t a _)

/-- Conservation through two consecutive steps: what the first step leaves pending (`t₁`) is what
the second one starts from. -/
theorem perm_two_steps {α : Type} {A A' B B' t₀ t₁ t₂ : List α} (h₁ : A' ++ t₁ ~ A ++ t₀)
    (h₂ : B' ++ t₂ ~ B ++ t₁) : (A' ++ B') ++ t₂ ~ (A ++ B) ++ t₀ := by
  rw [append_assoc, append_assoc]
  exact ((h₂.append_left _).trans (perm_append_comm_assoc ..)).trans
    ((h₁.append_left _).trans (perm_append_comm_assoc ..))

theorem inById_iff (x : Nat) (l : List Nat) : inById x l = true ↔ x ∈ l := by
  simp only [inById, any_eq_true, beq_iff_eq]
  exact ⟨fun ⟨y, hy, e⟩ => e ▸ hy, fun h => ⟨x, h, rfl⟩⟩

theorem indexById_some (l : List Nat) (x i : Nat) (h : indexById x l = some i) :
    l ~ x :: (l.take i ++ l.drop (i + 1)) := by
  induction l generalizing i with
  | nil => cases h
  | cons y ys ih =>
    rw [indexById] at h
    split at h
    · cases h
      subst_vars
      exact Perm.refl _
    · obtain ⟨j, hj, rfl⟩ := Option.map_eq_some_iff.1 h
      exact ((ih j hj).cons y).trans (Perm.swap x y _)

theorem indexById_of_mem (l : List Nat) (x : Nat) (h : x ∈ l) : ∃ i, indexById x l = some i := by
  induction l with
  | nil => cases h
  | cons y ys ih =>
    rw [indexById]
    split
    · exact ⟨0, rfl⟩
    · rename_i hne
      obtain ⟨i, hi⟩ := ih ((mem_cons.1 h).resolve_left (Ne.symm hne))
      exact ⟨i + 1, by rw [hi]; rfl⟩

/-- `l₂` is `l₁` with every element replaced by an `R`-related one: same length, same order (core Lean
has no such relation, and C07 — model and proofs — imports core Lean only).  Positional on purpose: a filled-in
solution is compared with the partial one entry by entry. -/
inductive Forall₂ {α β : Type} (R : α → β → Prop) : List α → List β → Prop
  | nil : Forall₂ R [] []
  | cons {a b l₁ l₂} : R a b → Forall₂ R l₁ l₂ → Forall₂ R (a :: l₁) (b :: l₂)

namespace Forall₂
variable {α β : Type} {R : α → β → Prop}

theorem refl {R : α → α → Prop} (hR : ∀ a, R a a) (l : List α) : Forall₂ R l l := by
  induction l with
  | nil => exact .nil
  | cons a l ih => exact .cons (hR a) ih

theorem trans {R : α → α → Prop} (hR : ∀ a b c, R a b → R b c → R a c) {l₁ l₂ l₃ : List α}
    (h : Forall₂ R l₁ l₂) (h' : Forall₂ R l₂ l₃) : Forall₂ R l₁ l₃ := by
  induction h generalizing l₃ with
  | nil => exact h'
  | cons h _ ih =>
    cases h' with
    | cons h' t' => exact .cons (hR _ _ _ h h') (ih t')

theorem append {A B : List α} {FA FB : List β} (h : Forall₂ R A FA) (h' : Forall₂ R B FB) :
    Forall₂ R (A ++ B) (FA ++ FB) := by
  induction h with
  | nil => exact h'
  | cons h _ ih => exact .cons h ih

theorem nil_inv {F : List β} (h : Forall₂ R [] F) : F = [] := by
  cases h
  rfl

theorem cons_inv {a : α} {A : List α} {F : List β} (h : Forall₂ R (a :: A) F) :
    ∃ f FA, F = f :: FA ∧ R a f ∧ Forall₂ R A FA := by
  cases h with
  | cons h t => exact ⟨_, _, rfl, h, t⟩

theorem append_inv {A B : List α} {F : List β} (h : Forall₂ R (A ++ B) F) :
    ∃ FA FB, F = FA ++ FB ∧ Forall₂ R A FA ∧ Forall₂ R B FB := by
  induction A generalizing F with
  | nil => exact ⟨[], F, rfl, .nil, h⟩
  | cons a A ih =>
    obtain ⟨f, F', rfl, hd, t⟩ := cons_inv h
    obtain ⟨FA, FB, rfl, h1, h2⟩ := ih t
    exact ⟨f :: FA, FB, rfl, .cons hd h1, h2⟩

theorem exists_of_mem_left {a : α} {l₁ : List α} {l₂ : List β} (h : Forall₂ R l₁ l₂) (ha : a ∈ l₁) :
    ∃ b ∈ l₂, R a b := by
  induction h with
  | nil => cases ha
  | cons h _ ih =>
    rcases mem_cons.1 ha with rfl | ha
    · exact ⟨_, mem_cons_self, h⟩
    · obtain ⟨b, hb, r⟩ := ih ha
      exact ⟨b, mem_cons_of_mem _ hb, r⟩

theorem exists_of_mem_right {b : β} {l₁ : List α} {l₂ : List β} (h : Forall₂ R l₁ l₂) (hb : b ∈ l₂) :
    ∃ a ∈ l₁, R a b := by
  induction h with
  | nil => cases hb
  | cons h _ ih =>
    rcases mem_cons.1 hb with rfl | hb
    · exact ⟨_, mem_cons_self, h⟩
    · obtain ⟨a, ha, r⟩ := ih hb
      exact ⟨a, mem_cons_of_mem _ ha, r⟩

theorem eq_of {R : α → α → Prop} {l₁ l₂ : List α} (h : Forall₂ R l₁ l₂)
    (he : ∀ a ∈ l₁, ∀ b, R a b → b = a) : l₂ = l₁ := by
  induction h with
  | nil => rfl
  | cons h _ ih => rw [he _ mem_cons_self _ h, ih fun a ha => he a (mem_cons_of_mem _ ha)]

end Forall₂

/-- The entry `y` is `x`, with something filled in if `x` was `_EMPTY`. -/
def FillsSlot (x y : Channel × Slot) : Prop := y.1 = x.1 ∧ (x.2 = none ∨ y.2 = x.2)

/-- `fl` is `al` with (some of) its `_EMPTY` entries filled in. -/
abbrev FillsSlots : List (Channel × Slot) → List (Channel × Slot) → Prop := Forall₂ FillsSlot

def FillsAlloc (a f : Allocated) : Prop := f.pack = a.pack ∧ FillsSlots a.allocation f.allocation

/-- `F` is the partial solution `P` with (some of) its `_EMPTY` entries filled in. -/
abbrev Fills : Sol → Sol → Prop := Forall₂ FillsAlloc

theorem FillsSlot.trans {x y z : Channel × Slot} (h₁ : FillsSlot x y) (h₂ : FillsSlot y z) :
    FillsSlot x z :=
  ⟨h₂.1.trans h₁.1, h₁.2.elim Or.inl fun e => e ▸ h₂.2⟩

theorem fillsSlots_refl (al : List (Channel × Slot)) : FillsSlots al al :=
  Forall₂.refl (fun _ => ⟨rfl, Or.inr rfl⟩) al

theorem fills_refl (P : Sol) : Fills P P := Forall₂.refl (fun _ => ⟨rfl, fillsSlots_refl _⟩) P

theorem fills_trans {a b c : Sol} : Fills a b → Fills b c → Fills a c :=
  Forall₂.trans fun _ _ _ h₁ h₂ =>
    ⟨h₂.1.trans h₁.1, Forall₂.trans (fun x y z => @FillsSlot.trans x y z) h₁.2 h₂.2⟩

def Full (al : List (Channel × Slot)) : Prop := ∀ cs ∈ al, cs.2 ≠ none

theorem fillsSlots_of_full {al fl : List (Channel × Slot)} (h : FillsSlots al fl) (hf : Full al) :
    fl = al :=
  h.eq_of fun x hx _ hxy => Prod.ext hxy.1 (hxy.2.resolve_left (hf x hx))

theorem fills_of_full {P F : Sol} (h : Fills P F) (hf : ∀ a ∈ P, Full a.allocation) : F = P :=
  h.eq_of fun a ha f haf => by
    obtain ⟨pa, ala⟩ := a
    obtain ⟨p, al⟩ := f
    have hp : p = pa := haf.1
    have hal : al = ala := fillsSlots_of_full haf.2 (hf _ ha)
    rw [hp, hal]

theorem fillsSlots_map_fst {al fl : List (Channel × Slot)} (h : FillsSlots al fl) :
    fl.map (·.1) = al.map (·.1) := by
  induction h with
  | nil => rfl
  | cons h _ ih => rw [map_cons, map_cons, ih, h.1]

/-- The real tracks in the entries are compatible with their channels. -/
def CompatSlots (al : List (Channel × Slot)) : Prop :=
  ∀ cs ∈ al, ∀ t, cs.2 = some (some t) → isCompatible (some t) cs.1 = true

/-- A (partial) `AllocatedPack` is well-formed w.r.t. the original pack list (the last conjunct is
`CompatSlots a.allocation`). -/
def GoodAlloc (packs0 : List Pack) (a : Allocated) : Prop :=
  a.pack ∈ packs0 ∧ a.allocation.map (·.1) = a.pack.channels ∧
    ∀ cs ∈ a.allocation, ∀ t, cs.2 = some (some t) → isCompatible (some t) cs.1 = true

def Good (packs0 : List Pack) (sol : Sol) : Prop := ∀ a ∈ sol, GoodAlloc packs0 a

def roots (sol : Sol) : List Nat := sol.map (·.pack.root)

def filledSlots (al : List (Channel × Slot)) : List TrackRef := al.filterMap (·.2)

/-- Silent tracks come last (`tracks + [None] * num_silent_tracks`, and the search keeps the order). -/
def SilentLast (tracks : List TrackRef) : Prop := tracks.Pairwise (fun a b => a = none → b = none)

theorem silentLast_all_none {tracks : List TrackRef} (h : SilentLast (none :: tracks)) :
    ∀ x ∈ (none :: tracks), x = none :=
  forall_mem_cons.2 ⟨rfl, fun x hx => (pairwise_cons.1 h).1 x hx rfl⟩

theorem SilentLast.tail {t : TrackRef} {tracks : List TrackRef} (h : SilentLast (t :: tracks)) :
    SilentLast tracks := (pairwise_cons.1 h).2

theorem filled_nil : filled [] = [] := rfl

theorem filled_cons (a : Allocated) (s : Sol) : filled (a :: s) = filledSlots a.allocation ++ filled s := by
  simp [filled, slots, filledSlots]

theorem filled_append (s t : Sol) : filled (s ++ t) = filled s ++ filled t := by
  simp [filled, slots]

theorem slots_cons (a : Allocated) (s : Sol) : slots (a :: s) = a.allocation ++ slots s := by
  simp [slots]

theorem filledSlots_cons (c : Channel) (s : Slot) (rest : List (Channel × Slot)) :
    filledSlots ((c, s) :: rest) = s.toList ++ filledSlots rest := by
  cases s <;> rfl

theorem filledSlots_append (al bl : List (Channel × Slot)) :
    filledSlots (al ++ bl) = filledSlots al ++ filledSlots bl := filterMap_append

theorem filledSlots_mem_iff (al : List (Channel × Slot)) (x : TrackRef) :
    x ∈ filledSlots al ↔ ∃ cs ∈ al, cs.2 = some x := mem_filterMap

theorem mem_filled (S : Sol) (x : TrackRef) :
    x ∈ filled S ↔ ∃ a ∈ S, x ∈ filledSlots a.allocation := by
  induction S with
  | nil => simp [filled_nil]
  | cons a S ih => rw [filled_cons, mem_append, ih]; simp

theorem fillsSlots_filled_sub {al fl : List (Channel × Slot)} (h : FillsSlots al fl) {x : TrackRef}
    (hx : x ∈ filledSlots al) : x ∈ filledSlots fl := by
  obtain ⟨cs, hcs, e⟩ := (filledSlots_mem_iff _ _).1 hx
  obtain ⟨cs', hcs', _, h2⟩ := h.exists_of_mem_left hcs
  exact (filledSlots_mem_iff _ _).2 ⟨cs', hcs', by rw [h2.resolve_left (by rw [e]; nofun), e]⟩

theorem fills_roots {P F : Sol} (h : Fills P F) : roots F = roots P := by
  induction h with
  | nil => rfl
  | cons h _ ih => simp only [roots, map_cons] at ih ⊢; rw [ih, h.1]

theorem tryAllocateSlots_eq_some {t : TrackRef} {al al' : List (Channel × Slot)}
    (h : tryAllocateSlots t al = some al') :
    ∃ pre c post, al = pre ++ (c, none) :: post ∧ al' = pre ++ (c, some t) :: post ∧
      isCompatible t c = true := by
  induction al generalizing al' with
  | nil => cases h
  | cons cs rest ih =>
    obtain ⟨c, s⟩ := cs
    rw [tryAllocateSlots] at h
    split at h
    · rename_i hc
      rw [Bool.and_eq_true, Option.isNone_iff_eq_none] at hc
      obtain ⟨rfl, hc⟩ := hc
      exact ⟨[], c, rest, rfl, (Option.some.inj h).symm, hc⟩
    · obtain ⟨r', hr, rfl⟩ := Option.map_eq_some_iff.1 h
      obtain ⟨pre, c', post, rfl, rfl, hc⟩ := ih hr
      exact ⟨(c, s) :: pre, c', post, rfl, rfl, hc⟩

theorem tryAllocate_eq_some {t : TrackRef} {a a' : Allocated} (h : tryAllocate t a = some a') :
    ∃ pre c post, a = ⟨a.pack, pre ++ (c, none) :: post⟩ ∧
      a' = ⟨a.pack, pre ++ (c, some t) :: post⟩ ∧ isCompatible t c = true := by
  obtain ⟨al, hal, rfl⟩ := Option.map_eq_some_iff.1 h
  obtain ⟨pre, c, post, e, rfl, hc⟩ := tryAllocateSlots_eq_some hal
  exact ⟨pre, c, post, by rw [← e], rfl, hc⟩

theorem tryAllocate_fills {t : TrackRef} {a a' : Allocated} (h : tryAllocate t a = some a') :
    FillsAlloc a a' := by
  obtain ⟨pre, c, post, e, rfl, _⟩ := tryAllocate_eq_some h
  rw [e]
  exact ⟨rfl, (fillsSlots_refl pre).append (.cons ⟨rfl, Or.inl rfl⟩ (fillsSlots_refl post))⟩

theorem tryAllocate_filled {t : TrackRef} {a a' : Allocated} (h : tryAllocate t a = some a') :
    filledSlots a'.allocation ~ t :: filledSlots a.allocation := by
  obtain ⟨pre, c, post, e, rfl, _⟩ := tryAllocate_eq_some h
  rw [e]
  simp only [filledSlots_append, filledSlots_cons, Option.toList_some, Option.toList_none,
    nil_append, singleton_append]
  exact perm_middle

theorem tryAllocate_mem {t : TrackRef} {a a' : Allocated} (h : tryAllocate t a = some a') :
    t ∈ filledSlots a'.allocation := (tryAllocate_filled h).mem_iff.2 mem_cons_self

theorem tryAllocate_good {packs0 : List Pack} {t : TrackRef} {a a' : Allocated}
    (h : tryAllocate t a = some a') (hg : GoodAlloc packs0 a) : GoodAlloc packs0 a' := by
  obtain ⟨g1, g2, g3⟩ := hg
  obtain ⟨pre, c, post, e, rfl, hc⟩ := tryAllocate_eq_some h
  rw [e] at g2 g3
  rw [forall_mem_append, forall_mem_cons] at g3
  refine ⟨g1, by simpa using g2, ?_⟩
  rw [forall_mem_append, forall_mem_cons]
  exact ⟨g3.1, fun u hu => by cases hu; exact hc, g3.2.2⟩

theorem tryAllocate_of_full {t : TrackRef} {a : Allocated} (h : Full a.allocation) :
    tryAllocate t a = none := by
  cases hr : tryAllocate t a with
  | none => rfl
  | some a' =>
    obtain ⟨pre, c, post, e, _, _⟩ := tryAllocate_eq_some hr
    rw [e] at h
    exact absurd rfl (h (c, none) (by simp))

theorem full_of_tryAllocateSlots_none {al : List (Channel × Slot)}
    (h : tryAllocateSlots none al = none) : Full al := by
  induction al with
  | nil => nofun
  | cons cs rest ih =>
    obtain ⟨c, s⟩ := cs
    rw [tryAllocateSlots] at h
    split at h
    · cases h
    · rename_i hs
      exact forall_mem_cons.2 ⟨fun he => hs (by rw [show s = none from he]; rfl),
        ih (Option.map_eq_none_iff.1 h)⟩

theorem emptyAllocation_good {packs0 : List Pack} {p : Pack} (hp : p ∈ packs0) :
    GoodAlloc packs0 (emptyAllocation p) := by
  refine ⟨hp, by simp [emptyAllocation, Function.comp_def], ?_⟩
  intro cs hcs t ht
  obtain ⟨c, _, rfl⟩ := mem_map.1 hcs
  cases ht

theorem filledSlots_empty (p : Pack) : filledSlots (emptyAllocation p).allocation = [] := by
  simp [filledSlots, emptyAllocation]

theorem mem_existingCandidates {t : TrackRef} {post pre : List Allocated} {np : Sol}
    (h : np ∈ existingCandidates t pre post) :
    ∃ A a a' B, post = A ++ a :: B ∧ np = pre ++ A ++ a' :: B ∧ tryAllocate t a = some a' := by
  induction post generalizing pre with
  | nil => cases h
  | cons a post ih =>
    have later : np ∈ existingCandidates t (pre ++ [a]) post →
        ∃ A a0 a' B, a :: post = A ++ a0 :: B ∧ np = pre ++ A ++ a' :: B ∧
          tryAllocate t a0 = some a' := by
      intro h'
      obtain ⟨A, a0, a', B, e1, e2, e3⟩ := ih h'
      exact ⟨a :: A, a0, a', B, by rw [e1]; rfl, by rw [e2]; simp, e3⟩
    rw [existingCandidates] at h
    split at h
    · rename_i a' ha
      rcases mem_cons.1 h with rfl | h
      · exact ⟨[], a, a', post, rfl, by simp, ha⟩
      · exact later h
    · exact later h

theorem existingCandidates_of_full {t : TrackRef} {post pre : List Allocated}
    (h : ∀ a ∈ post, Full a.allocation) : existingCandidates t pre post = [] := by
  induction post generalizing pre with
  | nil => rfl
  | cons a post ih =>
    rw [existingCandidates, tryAllocate_of_full (h a mem_cons_self)]
    exact ih fun x hx => h x (mem_cons_of_mem _ hx)

theorem full_of_existingCandidates_nil {post pre : List Allocated}
    (h : existingCandidates none pre post = []) : ∀ a ∈ post, Full a.allocation := by
  induction post generalizing pre with
  | nil => nofun
  | cons a post ih =>
    rw [existingCandidates] at h
    split at h
    · cases h
    · rename_i hno
      exact forall_mem_cons.2 ⟨full_of_tryAllocateSlots_none (Option.map_eq_none_iff.1 hno), ih h⟩

/-- What one candidate does to the accounting. -/
structure StepOK (packs0 : List Pack) (track : TrackRef) (packs : List Pack)
    (refs : Option (List Nat)) (partialSol : Sol) (c : Sol × List Pack × Option (List Nat)) : Prop where
  good : Good packs0 c.1
  packs_sub : ∀ p ∈ c.2.1, p ∈ packs
  filled : filled c.1 ~ track :: filled partialSol
  refs_none : refs = none → c.2.2 = none
  refs_some : ∀ r, refs = some r → ∃ r', c.2.2 = some r' ∧ roots c.1 ++ r' ~ roots partialSol ++ r

theorem existing_fills {t : TrackRef} {P np : Sol} (h : np ∈ existingCandidates t [] P) :
    Fills P np ∧ filled np ~ t :: filled P ∧ ∀ packs0, Good packs0 P → Good packs0 np := by
  obtain ⟨A, a, a', B, rfl, rfl, e3⟩ := mem_existingCandidates h
  rw [nil_append]
  refine ⟨(fills_refl A).append (.cons (tryAllocate_fills e3) (fills_refl B)), ?_, ?_⟩
  · simp only [filled_append, filled_cons]
    exact (((tryAllocate_filled e3).append_right _).append_left _).trans perm_middle
  · intro packs0 hg
    rw [Good, forall_mem_append, forall_mem_cons] at hg ⊢
    exact ⟨hg.1, tryAllocate_good e3 hg.2.1, hg.2.2⟩

/-- The `pack_refs` left after a pack with root `root` is opened (`remaining_pack_refs`); `none`: `pack_refs` is given
and does not list `root`, the pack is passed over. -/
def useRef (refs : Option (List Nat)) (root : Nat) : Option (Option (List Nat)) :=
  match refs with
  | none => some none
  | some r => (indexById root r).map fun i => some (r.take i ++ r.drop (i + 1))

theorem useRef_eq_some {refs : Option (List Nat)} {root : Nat} {rr : Option (List Nat)} (h : useRef refs root = some rr) :
    (refs = none → rr = none) ∧ ∀ r, refs = some r → ∃ r', rr = some r' ∧ r ~ root :: r' := by
  cases refs with
  | none => cases h; exact ⟨fun _ => rfl, nofun⟩
  | some r =>
    obtain ⟨i, hi, rfl⟩ := Option.map_eq_some_iff.1 h
    exact ⟨nofun, fun r0 hr0 => by cases hr0; exact ⟨_, rfl, indexById_some r root i hi⟩⟩

/-- `c` is what `candidate_new_packs` yields for the pack at some position of `suffix`: for a silent
track only the packs from that position on remain available (`packs[pack_i:]`); one matching pack
reference is used up. -/
def NewPackCand (t : TrackRef) (refs : Option (List Nat)) (all suffix : List Pack)
    (c : Pack × List Pack × Option (List Nat)) : Prop :=
  (∃ pre post, suffix = pre ++ c.1 :: post ∧ c.2.1 = if t.isNone then c.1 :: post else all) ∧
  useRef refs c.1.root = some c.2.2

theorem candidateNewPacksAux_cons (t : TrackRef) (refs : Option (List Nat)) (all : List Pack) (p : Pack)
    (rest : List Pack) :
    candidateNewPacksAux t refs all (p :: rest) =
      ((useRef refs p.root).map fun rr => (p, (if t.isNone then p :: rest else all), rr)).toList ++
        candidateNewPacksAux t refs all rest := by
  cases refs with
  | none => rfl
  | some r => simp only [candidateNewPacksAux, useRef]; cases indexById p.root r <;> rfl

theorem mem_candidateNewPacksAux {t : TrackRef} {refs : Option (List Nat)} {all suffix : List Pack}
    {c : Pack × List Pack × Option (List Nat)} (h : c ∈ candidateNewPacksAux t refs all suffix) :
    NewPackCand t refs all suffix c := by
  induction suffix with
  | nil => cases h
  | cons p rest ih =>
    rw [candidateNewPacksAux_cons, mem_append] at h
    rcases h with h | h
    · obtain ⟨rr, hrr, rfl⟩ := Option.map_eq_some_iff.1 (Option.mem_toList.1 h)
      exact ⟨⟨[], rest, rfl, rfl⟩, hrr⟩
    · obtain ⟨⟨pre, post, e1, e2⟩, r⟩ := ih h
      exact ⟨⟨p :: pre, post, by rw [e1]; rfl, e2⟩, r⟩

theorem mem_candidateNewPacks {t : TrackRef} {refs : Option (List Nat)} {packs : List Pack}
    {c : Pack × List Pack × Option (List Nat)} (h : c ∈ candidateNewPacks t refs packs) :
    NewPackCand t refs packs packs c := by
  unfold candidateNewPacks at h
  split at h
  · cases h
  · exact mem_candidateNewPacksAux h

theorem candidateNewPacks_sublist {t : TrackRef} {refs : Option (List Nat)} {packs : List Pack}
    {c : Pack × List Pack × Option (List Nat)} (h : c ∈ candidateNewPacks t refs packs) :
    c.1 ∈ packs ∧ c.2.1 <+ packs := by
  obtain ⟨⟨pre, post, e1, e2⟩, _⟩ := mem_candidateNewPacks h
  refine ⟨by rw [e1]; simp, ?_⟩
  rw [e2]
  split
  · rw [e1]; exact sublist_append_right _ _
  · exact Sublist.refl _

theorem newCandidates_mem {t : TrackRef} {packs : List Pack} {refs : Option (List Nat)} {P : Sol}
    {c : Sol × List Pack × Option (List Nat)} (h : c ∈ newCandidates t packs refs P) :
    ∃ p rp rr a, (p, rp, rr) ∈ candidateNewPacks t refs packs ∧
      tryAllocate t (emptyAllocation p) = some a ∧ c = (P ++ [a], rp, rr) := by
  obtain ⟨⟨p, rp, rr⟩, hc, hm⟩ := mem_filterMap.1 h
  obtain ⟨a, ha, rfl⟩ := Option.map_eq_some_iff.1 hm
  exact ⟨p, rp, rr, a, hc, ha, rfl⟩

theorem mem_candidatePartialSolutions {t : TrackRef} {packs : List Pack} {refs : Option (List Nat)} {P : Sol}
    {c : Sol × List Pack × Option (List Nat)} (h : c ∈ candidatePartialSolutions t packs refs P) :
    (∃ np ∈ existingCandidates t [] P, c = (np, packs, refs)) ∨ c ∈ newCandidates t packs refs P := by
  simp only [candidatePartialSolutions] at h
  split at h
  · split at h
    · rename_i e tl heq
      rw [mem_singleton] at h
      subst h
      obtain ⟨np, hnp, rfl⟩ := mem_map.1 (heq ▸ mem_cons_self : c ∈ _)
      exact Or.inl ⟨np, hnp, rfl⟩
    · exact Or.inr h
  · rcases mem_append.1 h with h | h
    · obtain ⟨np, hnp, rfl⟩ := mem_map.1 h
      exact Or.inl ⟨np, hnp, rfl⟩
    · exact Or.inr h

theorem candidatePartialSolutions_stepOK {packs0 : List Pack} {track : TrackRef} {packs : List Pack}
    {refs : Option (List Nat)} {partialSol : Sol} {c : Sol × List Pack × Option (List Nat)}
    (hsub : ∀ p ∈ packs, p ∈ packs0) (hg : Good packs0 partialSol)
    (h : c ∈ candidatePartialSolutions track packs refs partialSol) :
    StepOK packs0 track packs refs partialSol c := by
  rcases mem_candidatePartialSolutions h with ⟨np, hnp, rfl⟩ | h
  · obtain ⟨hf, hp, hgood⟩ := existing_fills hnp
    exact ⟨hgood _ hg, fun _ hp => hp, hp, fun h => h, fun r hr => ⟨r, hr, by rw [fills_roots hf]⟩⟩
  · obtain ⟨p, rp, rr, a, hc, ht, rfl⟩ := newCandidates_mem h
    obtain ⟨c3, c4⟩ := useRef_eq_some (mem_candidateNewPacks hc).2
    obtain ⟨hp, hsl⟩ := candidateNewPacks_sublist hc
    have s1 := (tryAllocate_fills ht).1
    refine ⟨?_, fun q hq => hsl.subset hq, ?_, c3, ?_⟩
    · exact forall_mem_append.2 ⟨hg, forall_mem_singleton.2
        (tryAllocate_good ht (emptyAllocation_good (hsub p hp)))⟩
    · have s3 := tryAllocate_filled ht
      rw [filledSlots_empty] at s3
      simp only [filled_append, filled_cons, filled_nil, append_nil]
      exact (s3.append_left _).trans (perm_append_singleton _ _)
    · intro r hr
      obtain ⟨r', e1, e2⟩ := c4 r hr
      refine ⟨r', e1, ?_⟩
      simp only [roots, map_append, map_cons, map_nil, s1, append_assoc, singleton_append]
      exact e2.symm.append_left _

theorem obviousChannel_eq_some {tracks : List TrackRef} {c : Channel} {s s' : Slot}
    {tracks' : List TrackRef} (h : obviousChannel tracks c s = some (s', tracks')) :
    (s = none ∨ s' = s) ∧ s'.toList ++ tracks' ~ s.toList ++ tracks ∧ tracks' <+ tracks ∧
    (∀ t, s' = some (some t) → s = some (some t) ∨ isCompatible (some t) c = true) := by
  unfold obviousChannel at h
  cases s with
  | some x =>
    obtain ⟨rfl, rfl⟩ := Prod.mk.inj (Option.some.inj h)
    exact ⟨Or.inr rfl, Perm.refl _, Sublist.refl _, fun t ht => Or.inl ht⟩
  | none =>
    refine ⟨Or.inl rfl, ?_⟩
    dsimp only at h
    split at h
    · cases h
    · rename_i t i rest heq
      have hmem : (t, i) ∈ tracks.zipIdx.filter (fun ti => isCompatible ti.1 c) :=
        heq ▸ mem_cons_self
      obtain ⟨hz, hcomp⟩ := mem_filter.1 hmem
      have hperm := perm_cons_eraseIdx (mk_mem_zipIdx_iff_getElem?.1 hz)
      split at h
      · obtain ⟨rfl, rfl⟩ := Prod.mk.inj (Option.some.inj h)
        exact ⟨hperm.symm, eraseIdx_sublist _ _, fun t' ht' => by cases ht'; exact Or.inr hcomp⟩
      · obtain ⟨rfl, rfl⟩ := Prod.mk.inj (Option.some.inj h)
        exact ⟨Perm.refl _, Sublist.refl _, nofun⟩

theorem obviousSlots_eq_some {al : List (Channel × Slot)} {tracks : List TrackRef}
    {al' : List (Channel × Slot)} {tracks' : List TrackRef}
    (h : obviousSlots tracks al = some (al', tracks')) :
    FillsSlots al al' ∧ filledSlots al' ++ tracks' ~ filledSlots al ++ tracks ∧ tracks' <+ tracks ∧
    (CompatSlots al → CompatSlots al') := by
  induction al generalizing tracks al' with
  | nil =>
    obtain ⟨rfl, rfl⟩ := Prod.mk.inj (Option.some.inj h)
    exact ⟨.nil, Perm.refl _, Sublist.refl _, fun h => h⟩
  | cons cs rest ih =>
    obtain ⟨c, s⟩ := cs
    rw [obviousSlots] at h
    split at h
    · cases h
    · rename_i s1 t1 h1
      split at h
      · cases h
      · rename_i r2 t2 h2
        obtain ⟨rfl, rfl⟩ := Prod.mk.inj (Option.some.inj h)
        obtain ⟨a1, a2, a3, a4⟩ := obviousChannel_eq_some h1
        obtain ⟨b1, b2, b3, b4⟩ := ih h2
        refine ⟨.cons ⟨rfl, a1⟩ b1, ?_, b3.trans a3, ?_⟩
        · rw [filledSlots_cons, filledSlots_cons]
          exact perm_two_steps a2 b2
        · intro hall
          rw [CompatSlots, forall_mem_cons] at hall ⊢
          exact ⟨fun t ht => (a4 t ht).elim (hall.1 t) id, b4 hall.2⟩

theorem obviousPacks_eq_some {sol : Sol} {tracks : List TrackRef} {sol' : Sol}
    {tracks' : List TrackRef} (h : obviousPacks tracks sol = some (sol', tracks')) :
    Fills sol sol' ∧ filled sol' ++ tracks' ~ filled sol ++ tracks ∧ tracks' <+ tracks ∧
    ∀ packs0, Good packs0 sol → Good packs0 sol' := by
  induction sol generalizing tracks sol' with
  | nil =>
    obtain ⟨rfl, rfl⟩ := Prod.mk.inj (Option.some.inj h)
    exact ⟨.nil, Perm.refl _, Sublist.refl _, fun _ h => h⟩
  | cons a rest ih =>
    rw [obviousPacks] at h
    split at h
    · cases h
    · rename_i al t1 h1
      split at h
      · cases h
      · rename_i r2 t2 h2
        obtain ⟨rfl, rfl⟩ := Prod.mk.inj (Option.some.inj h)
        obtain ⟨a1, a2, a3, a4⟩ := obviousSlots_eq_some h1
        obtain ⟨b1, b2, b3, b4⟩ := ih h2
        refine ⟨.cons ⟨rfl, a1⟩ b1, ?_, b3.trans a3, ?_⟩
        · rw [filled_cons, filled_cons]
          exact perm_two_steps a2 b2
        · intro packs0 hg
          rw [Good, forall_mem_cons] at hg ⊢
          obtain ⟨⟨g1, g2, g3⟩, hg⟩ := hg
          exact ⟨⟨g1, (fillsSlots_map_fst a1).trans g2, a4 g3⟩, b4 packs0 hg⟩

theorem refsDone_iff (refs : Option (List Nat)) : refsDone refs = true ↔ refs = none ∨ refs = some [] := by
  cases refs with
  | none => simp [refsDone]
  | some r => cases r <;> simp [refsDone]

theorem mem_allocObviousWith {k : List Pack → List TrackRef → Option (List Nat) → Sol → List Sol}
    {packs : List Pack} {tracks : List TrackRef} {refs : Option (List Nat)} {P sol : Sol} :
    sol ∈ allocObviousWith k packs tracks refs P ↔
      ∃ P' tracks', obviousPacks tracks P = some (P', tracks') ∧ sol ∈ k packs tracks' refs P' := by
  unfold allocObviousWith
  cases obviousPacks tracks P with
  | none => simp
  | some r => cases r; simp [and_assoc]

theorem mem_allocImpl_nil {fuel : Nat} {packs : List Pack} {refs : Option (List Nat)} {P sol : Sol} :
    sol ∈ allocImpl (fuel + 1) packs [] refs P ↔
      (refsDone refs = true ∧ ∀ cs ∈ slots P, cs.2.isSome = true) ∧ sol = P := by
  rw [allocImpl, ← all_eq_true, ← Bool.and_eq_true]
  split <;> simp [*]

theorem mem_allocImpl_cons {fuel : Nat} {packs : List Pack} {t : TrackRef} {rest : List TrackRef}
    {refs : Option (List Nat)} {P sol : Sol} :
    sol ∈ allocImpl (fuel + 1) packs (t :: rest) refs P ↔
      ¬ (t :: rest).length < countEmpty P ∧
      ∃ c ∈ candidatePartialSolutions t (packs.filter (couldPossiblyAllocate (t :: rest) refs (countEmpty P))) refs P,
        ∃ P' tracks', obviousPacks rest c.1 = some (P', tracks') ∧ sol ∈ allocImpl fuel c.2.1 tracks' c.2.2 P' := by
  rw [allocImpl]
  split
  · exact ⟨nofun, fun e => absurd ‹_› e.1⟩
  · simp only [mem_flatMap, Prod.exists, mem_allocObviousWith, true_and, not_false_eq_true, *]

theorem allocImpl_sound {packs0 : List Pack} {fuel : Nat} {packs : List Pack}
    {tracks : List TrackRef} {refs : Option (List Nat)} {partialSol sol : Sol}
    (hsub : ∀ p ∈ packs, p ∈ packs0) (hg : Good packs0 partialSol)
    (h : sol ∈ allocImpl fuel packs tracks refs partialSol) :
    Good packs0 sol ∧ (∀ cs ∈ slots sol, cs.2 ≠ none) ∧
    filled sol ~ filled partialSol ++ tracks ∧
    ∀ r, refs = some r → roots sol ~ roots partialSol ++ r := by
  induction fuel generalizing packs tracks refs partialSol with
  | zero => cases h
  | succ fuel ih =>
  cases tracks with
  | nil =>
    obtain ⟨⟨hr, hall⟩, rfl⟩ := mem_allocImpl_nil.1 h
    refine ⟨hg, fun cs hcs he => ?_, by rw [append_nil], ?_⟩
    · have := hall cs hcs
      rw [he] at this
      cases this
    · intro r hr0
      rcases (refsDone_iff refs).1 hr with rfl | rfl
      · cases hr0
      · cases hr0
        rw [append_nil]
  | cons track rest =>
    obtain ⟨_, c, hc, np', tracks', hob, hs⟩ := mem_allocImpl_cons.1 h
    have hsub' : ∀ p ∈ packs.filter
        (couldPossiblyAllocate (track :: rest) refs (countEmpty partialSol)), p ∈ packs0 :=
      fun p hp => hsub p (mem_filter.1 hp).1
    have st := candidatePartialSolutions_stepOK hsub' hg hc
    obtain ⟨o1, o2, _, o4⟩ := obviousPacks_eq_some hob
    obtain ⟨i1, i2, i3, i4⟩ := ih (fun p hp => hsub' p (st.packs_sub p hp)) (o4 _ st.good) hs
    refine ⟨i1, i2, ?_, ?_⟩
    · -- filled sol ~ filled np' ++ tracks' ~ filled np ++ rest ~ track :: filled partial ++ rest
      exact i3.trans (o2.trans ((st.filled.append_right _).trans perm_middle.symm))
    · -- what the solution uses = what the candidate used + the references it left open
      intro r hr
      obtain ⟨r', e1, e2⟩ := st.refs_some r hr
      have i4 := i4 r' e1
      rw [fills_roots o1] at i4
      exact i4.trans e2

theorem tracksIncSilent_realTracks (prob : Problem) :
    (tracksIncSilent prob).filterMap id = prob.tracks := by
  simp [tracksIncSilent, filterMap_append, filterMap_map]

theorem tracksIncSilent_count (prob : Problem) :
    (tracksIncSilent prob).count none = prob.numSilent := by
  have : (prob.tracks.map some).count (none : TrackRef) = 0 := by
    rw [count_eq_zero]
    simp
  rw [tracksIncSilent, count_append, count_replicate_self, this, Nat.zero_add]

theorem silentLast_tracksIncSilent (prob : Problem) : SilentLast (tracksIncSilent prob) := by
  simp only [SilentLast, tracksIncSilent, pairwise_append]
  refine ⟨?_, ?_, ?_⟩
  · simp only [pairwise_map]
    exact pairwise_of_forall (fun _ _ h => by cases h)
  · exact pairwise_of_forall_mem_list (fun _ _ _ hb _ => (mem_replicate.1 hb).2)
  · intro a _ b hb _
    exact (mem_replicate.1 hb).2

theorem isCompatible_some (t : Track) (c : Channel) :
    isCompatible (some t) c = true ↔ t.cf = c.cf ∧ t.pf ∈ c.pfs := by
  simp [isCompatible, inById_iff]

end Earverif.PackAlloc
