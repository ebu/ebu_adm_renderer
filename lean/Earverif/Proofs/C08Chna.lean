/-
C08 — lemmas about the CHNA <-> audioTrackUID transfer model (`Model/ChnaTransfer.lean`): the round trip in both
directions, CHNA-only documents, rejection of conflicts, row order, `validate_trackIndex`, the table part of the chunk.
The property-level statements are in `Props/C08.lean`.
-/
import Earverif.Model.ChnaTransfer
import Earverif.Proofs.MapM

namespace Earverif.Chna

theorem fit_exact (n : Nat) (bs : Bytes) (h : bs.length = n) : fit n bs = bs := by
  unfold fit; rw [← h]; simp

theorem ascii_nullPack : ascii nullPack = true := by decide

end Earverif.Chna

namespace Earverif.ChnaTransfer
open Earverif.Chna

theorem upByte_idem (b : UInt8) : upByte (upByte b) = upByte b := by
  have : ∀ n, n < 256 → upByte (upByte (UInt8.ofNat n)) = upByte (UInt8.ofNat n) := by decide +kernel
  simpa using this b.toNat b.toNat_lt

/-- `s.upper().upper() == s.upper()` -/
theorem up_idem (bs : Bytes) : up (up bs) = up bs := by
  unfold up
  rw [List.map_map]
  apply List.map_congr_left
  intro b _
  exact upByte_idem b

theorem mapM_map_ok {α β γ ε} (p : α → β) (f : β → Except ε γ) (g : α → γ) (l : List α)
    (h : ∀ a ∈ l, f (p a) = .ok (g a)) : (l.map p).mapM f = .ok (l.map g) := by
  rw [List.mapM_map]; exact mapM_eq_pure_map (f := f ∘ p) h

/-- a track UID of a document from which `populate_chna_chunk` + `load_chna_chunk` give the same track UID back:
a track index; exactly one of audioTrackFormat / audioChannelFormat, of the kind its id announces (an
audioChannelFormat id starts with `AC_`, an audioTrackFormat id does not) and found again by `lookup_element` under
its upper-cased id; the pack format found under its own id; nothing pending; not the reserved UID -/
structure WFTrack (lookup : Bytes → Option Bytes) (t : TrackUID) : Prop where
  index : ∃ i, t.trackIndex = some i
  noPending : t.audioTrackFormatIDRef = none ∧ t.audioChannelFormatIDRef = none ∧ t.audioPackFormatIDRef = none
  kind : (∃ r, t.audioTrackFormat = some r ∧ t.audioChannelFormat = none ∧ acPrefix.isPrefixOf r = false ∧
            lookup (up r) = some r) ∨
         (∃ r, t.audioChannelFormat = some r ∧ t.audioTrackFormat = none ∧ acPrefix.isPrefixOf r = true ∧
            lookup (up r) = some r)
  /-- no `up` here: `_load_pack_ref` stores the CHNA string as read, `_load_track_or_channel_ref` upper-cases it -/
  pack : ∀ p, t.audioPackFormat = some p → lookup p = some p
  notSilent : up t.id ≠ silentUID

/-- a well-formed document: distinct UIDs (compared as the code compares them, upper-cased), every track UID
well-formed -/
structure WFDoc (lookup : Bytes → Option Bytes) (tracks : List TrackUID) : Prop where
  nodup : (tracks.map fun t => up t.id).Nodup
  each : ∀ t ∈ tracks, WFTrack lookup t

/-- a copy of a track UID without the information that the CHNA chunk carries: never a track index (AXML has none);
the format reference and the pack reference kept (as after parsing the AXML written for the document) or dropped -/
def forget (keepFormat keepPack : Bool) (t : TrackUID) : TrackUID :=
  { t with trackIndex := none,
           audioTrackFormat := if keepFormat then t.audioTrackFormat else none,
           audioChannelFormat := if keepFormat then t.audioChannelFormat else none,
           audioPackFormat := if keepPack then t.audioPackFormat else none }

theorem forget_id (a b : Bool) (t : TrackUID) : (forget a b t).id = t.id := rfl

/-- what the row loop makes of `forget kf kp t` with the row written for `t`: the index is back, what was dropped is
pending (the format reference upper-cased, the pack reference as written) -/
def reloaded (kf kp : Bool) (t : TrackUID) : TrackUID :=
  { forget kf kp t with
    trackIndex := t.trackIndex
    audioTrackFormatIDRef := if kf then none else t.audioTrackFormat.map up
    audioChannelFormatIDRef := if kf then none else t.audioChannelFormat.map up
    audioPackFormatIDRef := if kp then none else t.audioPackFormat }

theorem loadInto_forget (lookup : Bytes → Option Bytes) (t : TrackUID) (h : WFTrack lookup t) :
    ∃ e, entryOf t = .ok e ∧ e.audioTrackUID = t.id ∧ ∀ kf kp, loadInto (forget kf kp t) e = .ok (reloaded kf kp t) ∧
      resolveTrack lookup (reloaded kf kp t) = .ok t := by
  obtain ⟨id, idx, tf, cf, pf, tfr, cfr, pfr⟩ := t
  obtain ⟨⟨i, hi⟩, ⟨h1, h2, h3⟩, hk, hp, _⟩ := h
  simp only at hi h1 h2 h3 hk hp
  subst hi h1 h2 h3
  rcases hk with ⟨r, rfl, rfl, hpre, hl⟩ | ⟨r, rfl, rfl, hpre, hl⟩ <;> cases pf <;>
    (refine ⟨_, rfl, rfl, fun kf kp => ?_⟩
     cases kf <;> cases kp <;> constructor
     all_goals simp only [forget, reloaded, loadInto, loadFormatRef, loadPackRef, resolveTrack, hpre, hl, hp, bind,
       Except.bind, pure, Except.pure, Bool.false_eq_true, ↓reduceIte, and_self, Option.map_some, Option.map_none])

theorem dictGet_none (l : List TrackUID) (k : Bytes) (h : k ∉ l.map fun t => up t.id) : dictGet l k = none := by
  induction l with
  | nil => rfl
  | cons t ts ih =>
    simp only [List.map_cons, List.mem_cons, not_or] at h
    simp only [dictGet, ih h.2]
    simp [Ne.symm h.1]

theorem dictGet_of_nodup (l : List TrackUID) (h : (l.map fun t => up t.id).Nodup) :
    ∀ j t, l[j]? = some t → dictGet l (up t.id) = some j := by
  induction l with
  | nil => intro j t ht; simp at ht
  | cons t0 ts ih =>
    simp only [List.map_cons, List.nodup_cons] at h
    intro j t ht
    cases j with
    | zero =>
      simp only [List.getElem?_cons_zero, Option.some.injEq] at ht
      subst ht
      simp [dictGet, dictGet_none ts _ h.1]
    | succ j =>
      simp only [List.getElem?_cons_succ] at ht
      simp [dictGet, ih h.2 j t ht]

theorem loadRow_at (dict : Bytes → Option Nat) (pre rest : List TrackUID) (t m : TrackUID) (e : Entry)
    (hd : dict (up e.audioTrackUID) = some pre.length) (hl : loadInto t e = .ok m) :
    loadRow dict (pre ++ t :: rest) e = .ok (pre ++ m :: rest) := by
  unfold loadRow
  simp only [hd]
  have : (pre ++ t :: rest)[pre.length]? = some t := by simp
  simp only [this, hl, bind, Except.bind, pure, Except.pure]
  congr 1
  simp

theorem foldlM_loadRow_known (lookup : Bytes → Option Bytes) :
    ∀ ts : List TrackUID, (∀ t ∈ ts, WFTrack lookup t) → ∃ rows, ts.mapM entryOf = .ok rows ∧
      ∀ (kf kp : TrackUID → Bool) (dict : Bytes → Option Nat) (pre : List TrackUID),
        (∀ j t, ts[j]? = some t → dict (up t.id) = some (pre.length + j)) →
        rows.foldlM (loadRow dict) (pre ++ ts.map fun t => forget (kf t) (kp t) t) =
          .ok (pre ++ ts.map fun t => reloaded (kf t) (kp t) t) := by
  intro ts
  induction ts with
  | nil => exact fun _ => ⟨[], rfl, fun _ _ _ pre _ => by simp [pure, Except.pure]⟩
  | cons t ts ih =>
    intro hwf
    obtain ⟨e, he, heu, hm⟩ := loadInto_forget lookup t (hwf t (by simp))
    obtain ⟨rows, hrows, hfold⟩ := ih fun u hu => hwf u (by simp [hu])
    refine ⟨e :: rows, by simp [List.mapM_cons, he, hrows, bind, Except.bind, pure, Except.pure],
      fun kf kp dict pre hd => ?_⟩
    have hd0 := hd 0 t (by simp)
    simp only [List.map_cons, List.foldlM_cons]
    rw [loadRow_at dict pre _ _ _ e (by rw [heu]; simpa using hd0) (hm (kf t) (kp t)).1]
    simp only [bind, Except.bind]
    rw [List.append_cons, hfold kf kp dict (pre ++ [reloaded (kf t) (kp t) t]) (by
      intro j u hu
      have := hd (j + 1) u (by simpa using hu)
      rw [this]
      simp only [List.length_append, List.length_cons, List.length_nil]
      congr 1
      omega), ← List.append_cons]

theorem noDuplicates_of_nodup (l : List TrackUID) (h : (l.map fun t => up t.id).Nodup) : noDuplicates l = true := by
  induction l with
  | nil => rfl
  | cons t ts ih =>
    simp only [List.map_cons, List.nodup_cons] at h
    simp only [noDuplicates, Bool.and_eq_true, Bool.not_eq_eq_eq_not, Bool.not_true, ih h.2, and_true]
    rw [List.any_eq_false]
    intro u hu
    simp only [beq_iff_eq]
    intro heq
    exact h.1 (List.mem_map.mpr ⟨u, hu, heq⟩)

theorem loadRows_ok {tracks cur : List TrackUID} {rows : List Entry}
    (hf : rows.foldlM (loadRow (dictGet tracks)) tracks = .ok cur)
    (hnd : (cur.map fun t => up t.id).Nodup) (hs : ∀ t ∈ cur, up t.id ≠ silentUID) :
    loadRows tracks rows = .ok cur := by
  simpa [loadRows, hf, noDuplicates_of_nodup cur hnd, bind, Except.bind, pure, Except.pure] using hs

theorem transfer_roundtrip_all (lookup : Bytes → Option Bytes) (tracks : List TrackUID) (h : WFDoc lookup tracks) :
    ∃ rows, populateChna tracks = .ok rows ∧ ∀ kf kp : TrackUID → Bool,
      loadChna lookup (tracks.map fun t => forget (kf t) (kp t) t) rows = .ok tracks := by
  obtain ⟨rows, hrows, hfold⟩ := foldlM_loadRow_known lookup tracks h.each
  refine ⟨rows, hrows, fun kf kp => ?_⟩
  have hids : (tracks.map fun t => forget (kf t) (kp t) t).map (fun t => up t.id) = tracks.map fun t => up t.id := by
    simp [List.map_map, Function.comp_def, forget_id]
  have hfold := hfold kf kp (dictGet (tracks.map fun t => forget (kf t) (kp t) t)) [] (by
    intro j t ht
    have := dictGet_of_nodup (tracks.map fun t => forget (kf t) (kp t) t) (by rw [hids]; exact h.nodup) j
      (forget (kf t) (kp t) t) (by simp [ht])
    simpa [forget_id] using this)
  rw [List.nil_append, List.nil_append] at hfold
  have hres : (tracks.map fun t => reloaded (kf t) (kp t) t).mapM (resolveTrack lookup) = .ok tracks := by
    simpa using mapM_map_ok (fun t => reloaded (kf t) (kp t) t) (resolveTrack lookup) id tracks fun t ht =>
      (loadInto_forget lookup t (h.each t ht)).elim fun _ h => (h.2.2 (kf t) (kp t)).2
  unfold loadChna
  rw [loadRows_ok hfold (by simpa [List.map_map, Function.comp_def, reloaded, forget] using h.nodup) fun m hm => by
    obtain ⟨t, ht, rfl⟩ := List.mem_map.mp hm
    exact (h.each t ht).notSilent]
  exact hres

theorem transfer_roundtrip (lookup : Bytes → Option Bytes) (tracks : List TrackUID) (h : WFDoc lookup tracks)
    (kf kp : TrackUID → Bool) :
    ∃ rows, populateChna tracks = .ok rows ∧
      loadChna lookup (tracks.map fun t => forget (kf t) (kp t) t) rows = .ok tracks :=
  (transfer_roundtrip_all lookup tracks h).imp fun _ h => ⟨h.1, h.2 kf kp⟩

/-- what the row loop leaves for a row whose UID the document does not know: a new track UID with the upper-cased
UID, the row's index and the row's references pending -/
def pendOf (e : Entry) : TrackUID :=
  { id := up e.audioTrackUID, trackIndex := some e.trackIndex, audioTrackFormat := none, audioChannelFormat := none,
    audioPackFormat := none,
    audioTrackFormatIDRef := if acPrefix.isPrefixOf e.audioTrackFormatIDRef then none else some (up e.audioTrackFormatIDRef),
    audioChannelFormatIDRef := if acPrefix.isPrefixOf e.audioTrackFormatIDRef then some (up e.audioTrackFormatIDRef) else none,
    audioPackFormatIDRef := e.audioPackFormatIDRef }

/-- the audioTrackUID that a CHNA row alone describes: exactly the row's data — UID (upper-cased), index, the
reference as audioChannelFormat iff it starts with `AC_` (the element found under the upper-cased id), the pack
format found under the id as written -/
def trackOf (lookup : Bytes → Option Bytes) (e : Entry) : TrackUID :=
  { id := up e.audioTrackUID, trackIndex := some e.trackIndex,
    audioTrackFormat := if acPrefix.isPrefixOf e.audioTrackFormatIDRef then none else lookup (up e.audioTrackFormatIDRef),
    audioChannelFormat := if acPrefix.isPrefixOf e.audioTrackFormatIDRef then lookup (up e.audioTrackFormatIDRef) else none,
    audioPackFormat := e.audioPackFormatIDRef.bind lookup,
    audioTrackFormatIDRef := none, audioChannelFormatIDRef := none, audioPackFormatIDRef := none }

theorem loadInto_new (e : Entry) : loadInto (newTrack e.audioTrackUID) e = .ok (pendOf e) := by
  obtain ⟨idx, uid, ref, pack⟩ := e
  cases hp : acPrefix.isPrefixOf ref <;> cases pack <;>
    simp [loadInto, newTrack, loadFormatRef, loadPackRef, pendOf, hp, bind, Except.bind, pure, Except.pure]

theorem foldlM_loadRow_unknown (rows : List Entry) : ∀ pre : List TrackUID,
    rows.foldlM (loadRow (dictGet [])) pre = .ok (pre ++ rows.map pendOf) := by
  induction rows with
  | nil => intro pre; simp [pure, Except.pure]
  | cons e rows ih =>
    intro pre
    simp only [List.foldlM_cons, List.map_cons]
    have : loadRow (dictGet []) pre e = .ok (pre ++ [pendOf e]) := by
      unfold loadRow
      simp only [dictGet]
      have h1 : (pre ++ [newTrack e.audioTrackUID])[pre.length]? = some (newTrack e.audioTrackUID) := by simp
      simp only [h1, loadInto_new, bind, Except.bind, pure, Except.pure]
      congr 1
      simp
    simp only [this, bind, Except.bind, ih]
    simp

/-- a chunk that can be loaded on its own: distinct UIDs (upper-cased), none of them the reserved one, every
reference naming an element of the document (the common definitions) -/
structure WFChunk (lookup : Bytes → Option Bytes) (rows : List Entry) : Prop where
  nodup : (rows.map fun e => up e.audioTrackUID).Nodup
  notSilent : ∀ e ∈ rows, up e.audioTrackUID ≠ silentUID
  ref : ∀ e ∈ rows, ∃ x, lookup (up e.audioTrackFormatIDRef) = some x
  pack : ∀ e ∈ rows, ∀ p, e.audioPackFormatIDRef = some p → ∃ y, lookup p = some y

theorem resolve_pendOf (lookup : Bytes → Option Bytes) (e : Entry)
    (hr : ∃ x, lookup (up e.audioTrackFormatIDRef) = some x)
    (hp : ∀ p, e.audioPackFormatIDRef = some p → ∃ y, lookup p = some y) :
    resolveTrack lookup (pendOf e) = .ok (trackOf lookup e) := by
  obtain ⟨idx, uid, ref, pack⟩ := e
  obtain ⟨x, hx⟩ := hr
  simp only at hx hp
  cases hpre : acPrefix.isPrefixOf ref <;> cases pack with
    | none => simp [resolveTrack, pendOf, trackOf, hpre, hx, bind, Except.bind, pure, Except.pure]
    | some p =>
      obtain ⟨y, hy⟩ := hp p rfl
      simp [resolveTrack, pendOf, trackOf, hpre, hx, hy, bind, Except.bind, pure, Except.pure]

theorem chna_only (lookup : Bytes → Option Bytes) (rows : List Entry) (h : WFChunk lookup rows) :
    loadChna lookup [] rows = .ok (rows.map (trackOf lookup)) := by
  have hids : ((rows.map pendOf).map fun t => up t.id) = rows.map fun e => up e.audioTrackUID := by
    simp [List.map_map, Function.comp_def, pendOf, up_idem]
  unfold loadChna
  rw [loadRows_ok (foldlM_loadRow_unknown rows []) (hids ▸ h.nodup)
    (List.forall_mem_map.mpr fun e he => by simpa [pendOf, up_idem] using h.notSilent e he)]
  exact mapM_map_ok pendOf _ _ rows fun e he => resolve_pendOf lookup e (h.ref e he) (h.pack e he)

theorem populate_chna_only (lookup : Bytes → Option Bytes) (rows : List Entry)
    (huid : ∀ e ∈ rows, up e.audioTrackUID = e.audioTrackUID)
    (href : ∀ e ∈ rows, lookup (up e.audioTrackFormatIDRef) = some e.audioTrackFormatIDRef)
    (hpack : ∀ e ∈ rows, ∀ p, e.audioPackFormatIDRef = some p → lookup p = some p) :
    populateChna (rows.map (trackOf lookup)) = .ok rows := by
  have := mapM_map_ok (trackOf lookup) entryOf id rows fun e he => by
    have hu := huid e he
    have hr := href e he
    have hp := hpack e he
    obtain ⟨idx, uid, ref, pack⟩ := e
    simp only at hu hr hp
    cases hpre : acPrefix.isPrefixOf ref <;> cases pack with
      | none => simp [entryOf, trackOf, hpre, hr, hu]
      | some p => simp [entryOf, trackOf, hpre, hr, hu, hp p rfl]
  rwa [List.map_id] at this

theorem entryOf_ok {t : TrackUID} {e : Entry} (h : entryOf t = .ok e) :
    e.audioTrackUID = t.id ∧ some e.trackIndex = t.trackIndex := by
  unfold entryOf at h
  split at h
  · cases h
  · rename_i hidx
    split at h <;> cases h <;> simp [hidx]

theorem mapM_entryOf_uids (tracks : List TrackUID) (rows : List Entry) (h : tracks.mapM entryOf = .ok rows) :
    rows.map (·.audioTrackUID) = tracks.map (·.id) ∧
    rows.map (fun e => some e.trackIndex) = tracks.map (·.trackIndex) := by
  have hm := (mapM_ok_iff entryOf tracks rows).mp h
  exact ⟨map_eq_map_of_map_eq (fun _ _ he => (entryOf_ok he).1) hm, map_eq_map_of_map_eq (fun _ _ he => (entryOf_ok he).2) hm⟩

theorem load_first_row_error (lookup : Bytes → Option Bytes) (tracks : List TrackUID)
    (hnd : (tracks.map fun t => up t.id).Nodup) (j : Nat) (t : TrackUID) (e : Entry) (rest : List Entry) (x : Err)
    (ht : tracks[j]? = some t) (hu : up e.audioTrackUID = up t.id) (herr : loadInto t e = .error x) :
    loadChna lookup tracks (e :: rest) = .error x := by
  have hd := dictGet_of_nodup tracks hnd j t ht
  unfold loadChna loadRows
  simp only [List.foldlM_cons, bind, Except.bind]
  have : loadRow (dictGet tracks) tracks e = .error x := by
    unfold loadRow
    simp only [hu, hd, ht, herr, bind, Except.bind]
  simp [this]

theorem load_no_rows (lookup : Bytes → Option Bytes) (tracks : List TrackUID)
    (hnd : (tracks.map fun t => up t.id).Nodup) (hs : ∀ t ∈ tracks, up t.id ≠ silentUID)
    (hp : ∀ t ∈ tracks, t.audioTrackFormatIDRef = none ∧ t.audioChannelFormatIDRef = none ∧ t.audioPackFormatIDRef = none) :
    loadChna lookup tracks [] = .ok tracks := by
  unfold loadChna
  rw [loadRows_ok (rows := []) rfl hnd hs]
  have := mapM_map_ok id (resolveTrack lookup) id tracks fun t ht => by
    obtain ⟨h1, h2, h3⟩ := hp t ht
    simp [resolveTrack, h1, h2, h3, bind, Except.bind, pure, Except.pure]
  rwa [List.map_id] at this

theorem loadInto_of_index (t : TrackUID) (e : Entry)
    (h : t.trackIndex = none ∨ t.trackIndex = some e.trackIndex) :
    loadInto t e = loadFormatRef { t with trackIndex := some e.trackIndex } e >>= (loadPackRef · e) := by
  obtain ⟨id, idx, tf, cf, pf, tfr, cfr, pfr⟩ := t
  rcases h with h | h <;> simp only at h <;> subst h <;> simp [loadInto, bind, Except.bind, pure, Except.pure]

theorem loadInto_conflicts (t : TrackUID) (e : Entry) :
    (∀ i, t.trackIndex = some i → i ≠ e.trackIndex → loadInto t e = .error .indexMismatch) ∧
    ((t.trackIndex = none ∨ t.trackIndex = some e.trackIndex) →
      ((∃ a b, t.audioTrackFormat = some a ∧ t.audioChannelFormat = some b) → loadInto t e = .error .bothLinked) ∧
      (∀ c, t.audioChannelFormat = some c → t.audioTrackFormat = none →
        ¬ (acPrefix.isPrefixOf e.audioTrackFormatIDRef = true ∧ up e.audioTrackFormatIDRef = up c) →
        loadInto t e = .error .refConflict) ∧
      (∀ r, t.audioTrackFormat = some r → t.audioChannelFormat = none →
        ¬ (acPrefix.isPrefixOf e.audioTrackFormatIDRef = false ∧ up e.audioTrackFormatIDRef = up r) →
        loadInto t e = .error .refConflict) ∧
      (∀ c p q, t.audioChannelFormat = some c → t.audioTrackFormat = none →
        acPrefix.isPrefixOf e.audioTrackFormatIDRef = true → up e.audioTrackFormatIDRef = up c →
        e.audioPackFormatIDRef = some p → t.audioPackFormat = some q → up q ≠ up p →
        loadInto t e = .error .packConflict) ∧
      (∀ r p q, t.audioTrackFormat = some r → t.audioChannelFormat = none →
        acPrefix.isPrefixOf e.audioTrackFormatIDRef = false → up e.audioTrackFormatIDRef = up r →
        e.audioPackFormatIDRef = some p → t.audioPackFormat = some q → up q ≠ up p →
        loadInto t e = .error .packConflict)) := by
  refine ⟨fun i hi hne => ?_, fun hidx => ?_⟩
  · simp [loadInto, hi, hne, bind, Except.bind]
  · rw [loadInto_of_index t e hidx]
    refine ⟨?_, ?_, ?_, ?_, ?_⟩
    · rintro ⟨a, b, ha, hb⟩
      simp only [loadFormatRef, ha, hb, bind, Except.bind]
    · intro c hc htf hne
      simp only [loadFormatRef, hc, htf, if_neg hne, bind, Except.bind]
    · intro r hr hcf hne
      simp only [loadFormatRef, hr, hcf, if_neg hne, bind, Except.bind]
    · intro c p q hc htf hpre hup hp hq hne
      simp only [loadFormatRef, loadPackRef, hc, htf, hp, hq, if_pos (And.intro hpre hup), if_neg hne, bind, Except.bind]
    · intro r p q hr hcf hpre hup hp hq hne
      simp only [loadFormatRef, loadPackRef, hr, hcf, hp, hq, if_pos (And.intro hpre hup), if_neg hne, bind, Except.bind]

theorem validateTrackIndex_ok_iff (tracks : List TrackUID) (n : Nat) :
    validateTrackIndex tracks n = .ok () ↔ ∀ t ∈ tracks, ∀ i, t.trackIndex = some i → i ≤ n := by
  unfold validateTrackIndex
  cases hany : tracks.any (fun t => match t.trackIndex with | some i => decide (n < i) | none => false) with
  | true =>
    simp only [if_true, reduceCtorEq, false_iff]
    intro h
    rw [List.any_eq_true] at hany
    obtain ⟨t, ht, hb⟩ := hany
    cases hi : t.trackIndex with
    | none => simp [hi] at hb
    | some i =>
      simp only [hi, decide_eq_true_eq] at hb
      have := h t ht i hi
      omega
  | false =>
    simp only [Bool.false_eq_true, if_false, true_iff]
    intro t ht i hi
    rw [List.any_eq_false] at hany
    have := hany t ht
    simp only [hi, decide_eq_true_eq] at this
    omega

theorem distinctCount_le (l : List Nat) : distinctCount l ≤ l.length := by
  induction l with
  | nil => simp [distinctCount]
  | cons x xs ih => simp only [distinctCount, List.length_cons]; split <;> omega

theorem numTracks_le_numUIDs (rows : List Entry) : numTracks rows ≤ numUIDs rows := by
  unfold numTracks numUIDs
  have := distinctCount_le (rows.map (·.trackIndex))
  simpa using this

theorem u16_decode (n : Nat) (h : n < 65536) :
    (UInt8.ofNat (n % 256)).toNat + 256 * (UInt8.ofNat (n / 256)).toNat = n := by
  simp only [UInt8.toNat_ofNat']
  omega

theorem readRows_encode (rows : List Entry)
    (hrow : ∀ e ∈ rows, ∃ bs, encode e = some bs ∧ bs.length = 40 ∧ decode bs = some e) :
    ∃ bss, rows.mapM encode = some bss ∧ ∀ tail, readRows rows.length (bss.flatten ++ tail) = some rows := by
  induction rows with
  | nil => exact ⟨[], rfl, fun _ => rfl⟩
  | cons e rows ih =>
    obtain ⟨bs, he, hlen, hdec⟩ := hrow e (by simp)
    obtain ⟨bss, hb, hread⟩ := ih fun x hx => hrow x (by simp [hx])
    refine ⟨bs :: bss, by simp [List.mapM_cons, he, hb], fun tail => ?_⟩
    simp only [List.length_cons, readRows, List.flatten_cons, List.append_assoc]
    have h1 : (bs ++ (bss.flatten ++ tail)).take 40 = bs := by rw [← hlen]; simp
    have h2 : (bs ++ (bss.flatten ++ tail)).drop 40 = bss.flatten ++ tail := by rw [← hlen]; simp
    rw [h1, h2, hdec, hread tail]
    rfl

theorem chunk_roundtrip (rows : List Entry) (hlen : rows.length < 65536)
    (hrow : ∀ e ∈ rows, ∃ bs, encode e = some bs ∧ bs.length = 40 ∧ decode bs = some e) :
    ∃ bs, encodeChunk rows = some bs ∧ decodeChunk bs = .ok rows := by
  obtain ⟨bss, hbss, hread⟩ := readRows_encode rows hrow
  have hnt : numTracks rows < 65536 := Nat.lt_of_le_of_lt (numTracks_le_numUIDs rows) hlen
  refine ⟨u16 (numTracks rows) ++ u16 (numUIDs rows) ++ bss.flatten, ?_, ?_⟩
  · unfold encodeChunk
    have : ¬ 65536 ≤ numUIDs rows := by unfold numUIDs; omega
    simp [this, hbss]
  · unfold decodeChunk
    have hread := hread []
    rw [List.append_nil] at hread
    simp only [u16, List.cons_append, List.nil_append, List.length_cons, List.getD_cons_zero, List.getD_cons_succ,
      List.drop_succ_cons, List.drop_zero]
    have h0 : ¬ (bss.flatten.length + 1 + 1 + 1 + 1 < 4) := by omega
    simp only [h0, if_false, u16_decode _ hnt, u16_decode _ (show numUIDs rows < 65536 from hlen)]
    unfold numUIDs
    simp [hread]

end Earverif.ChnaTransfer
