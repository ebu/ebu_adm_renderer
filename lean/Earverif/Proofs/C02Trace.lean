/-
The correspondence driver (`Driver/C02.lean`) runs `renderTrace` / `renderTraceTS` (and the `…OS` variants of
`Model/OverlapSave.lean`), which keep the per-call outputs and the exception; the theorems are about `renderAll` /
`renderAllTS`.  Here the link: a session's result is exactly what its trace says.

All four renderer models have the same session shape — `render` on every block, then on the tail block — and are, by
definition, instances of one generic session over any `render` function (`runG`, `sessionG`, `traceG`); what holds of
sessions is proved once, for those.
-/
import Earverif.Model.Renderer
import Earverif.Model.RendererTS
import Earverif.Model.OverlapSave
namespace Earverif.Renderer
open Earverif.Stream Earverif.Timeline

variable {V : Type} [RMod V]

/-- What a trace `(returned blocks incl. tail, exception)` means for the session: all blocks concatenated if nothing
was raised, the exception otherwise. -/
def traceResult {ε : Type} (r : List (List V) × Option ε) : Except ε (List V) :=
  match r.2 with
  | none => .ok r.1.flatten
  | some e => .error e

omit [RMod V] in
theorem traceResult_ok_iff {ε : Type} (r : List (List V) × Option ε) (out : List V) :
    traceResult r = .ok out ↔ r.2 = none ∧ r.1.flatten = out := by
  obtain ⟨os, e⟩ := r
  cases e with
  | none => simp [traceResult]
  | some e => simp [traceResult]

section Generic
variable {σ ε : Type}

def runG (render : σ → List (List Rat) → Except ε (σ × List V)) :
    σ → List (List (List Rat)) → Except ε (σ × List (List V))
  | st, [] => .ok (st, [])
  | st, b :: bs =>
    match render st b with
    | .error e => .error e
    | .ok (st, o) =>
      match runG render st bs with
      | .error e => .error e
      | .ok (st, os) => .ok (st, o :: os)

def traceG (render : σ → List (List Rat) → Except ε (σ × List V)) (tail : List (List Rat)) :
    σ → List (List (List Rat)) → List (List V) × Option ε
  | st, [] =>
    match render st tail with
    | .ok (_, t) => ([t], none)
    | .error e => ([], some e)
  | st, b :: bs =>
    match render st b with
    | .ok (st, o) => ((o :: (traceG render tail st bs).1), (traceG render tail st bs).2)
    | .error e => ([], some e)

def sessionG (render : σ → List (List Rat) → Except ε (σ × List V)) (tail : List (List Rat)) (st : σ)
    (parts : List (List (List Rat))) : Except ε (List V) :=
  match runG render st parts with
  | .error e => .error e
  | .ok (st', os) =>
    match render st' tail with
    | .error e => .error e
    | .ok (_, t) => .ok (os.flatten ++ t)

omit [RMod V] in
theorem sessionG_eq_trace (render : σ → List (List Rat) → Except ε (σ × List V)) (tail : List (List Rat)) :
    ∀ (parts : List (List (List Rat))) (st : σ),
      sessionG render tail st parts = traceResult (traceG render tail st parts) := by
  intro parts
  induction parts with
  | nil =>
    intro st
    simp only [sessionG, runG, traceG, List.flatten_nil, List.nil_append]
    cases render st tail with
    | error e => rfl
    | ok r => simp [traceResult]
  | cons b bs ih =>
    intro st
    have h := ih
    simp only [sessionG, runG, traceG] at h ⊢
    cases render st b with
    | error e => rfl
    | ok r =>
      obtain ⟨st1, o⟩ := r
      have h1 := h st1
      simp only at h1 ⊢
      cases hr : runG render st1 bs with
      | error e =>
        rw [hr] at h1
        simp only at h1
        cases ht : traceG render tail st1 bs with
        | mk os oe =>
          rw [ht] at h1
          cases oe with
          | none => simp [traceResult] at h1
          | some e' => simp only [traceResult] at h1 ⊢; exact h1
      | ok r2 =>
        obtain ⟨st2, os⟩ := r2
        rw [hr] at h1
        simp only at h1 ⊢
        cases ht : traceG render tail st1 bs with
        | mk os' oe =>
          rw [ht] at h1
          cases hg : render st2 tail with
          | error e =>
            rw [hg] at h1
            cases oe with
            | none => simp [traceResult] at h1
            | some e' => simp only [traceResult] at h1 ⊢; exact h1
          | ok r3 =>
            rw [hg] at h1
            cases oe with
            | none =>
              simp only [traceResult, Except.ok.injEq] at h1 ⊢
              simp only [List.flatten_cons, ← h1, List.append_assoc]
            | some e' => simp [traceResult] at h1

omit [RMod V] in
theorem runG_append_single (render : σ → List (List Rat) → Except ε (σ × List V)) (b : List (List Rat)) :
    ∀ (parts : List (List (List Rat))) (st : σ),
      runG render st (parts ++ [b]) =
        match runG render st parts with
        | .error e => .error e
        | .ok (st', os) =>
          match render st' b with
          | .error e => .error e
          | .ok (st'', o) => .ok (st'', os ++ [o]) := by
  intro parts
  induction parts with
  | nil =>
    intro st
    simp only [List.nil_append, runG]
  | cons p ps ih =>
    intro st
    simp only [List.cons_append, runG]
    cases render st p with
    | error e => rfl
    | ok r =>
      obtain ⟨st1, o⟩ := r
      simp only [ih st1]
      cases runG render st1 ps with
      | error e => rfl
      | ok r2 =>
        obtain ⟨st2, os⟩ := r2
        simp only
        cases render st2 b <;> rfl

omit [RMod V] in
theorem sessionG_eq_runG (render : σ → List (List Rat) → Except ε (σ × List V)) (tail : List (List Rat)) (st : σ)
    (parts : List (List (List Rat))) :
    sessionG render tail st parts =
      match runG render st (parts ++ [tail]) with
      | .error e => .error e
      | .ok (_, os) => .ok os.flatten := by
  rw [runG_append_single, sessionG]
  cases runG render st parts with
  | error e => rfl
  | ok r =>
    obtain ⟨st1, os⟩ := r
    simp only
    cases render st1 tail with
    | error e => rfl
    | ok r2 => simp

omit [RMod V] in
theorem sessionG_ok_first_call (render : σ → List (List Rat) → Except ε (σ × List V)) (tail : List (List Rat)) (st : σ)
    (parts : List (List (List Rat))) (out : List V) (h : sessionG render tail st parts = .ok out) :
    ∃ blk r, render st blk = .ok r := by
  unfold sessionG at h
  cases parts with
  | nil =>
    simp only [runG] at h
    cases h1 : render st tail with
    | error e => rw [h1] at h; cases h
    | ok r => exact ⟨_, r, h1⟩
  | cons p ps =>
    simp only [runG] at h
    cases h1 : render st p with
    | error e => rw [h1] at h; cases h
    | ok r => exact ⟨_, r, h1⟩

end Generic

-- Both sides are compiled from `match` expressions of the same shape, but as different definitions with different
-- auxiliary matchers.  Unfolded they are the same term (the kernel checks exactly this `rfl`); the elaborator does not
-- unfold a matcher whose discriminant is not a constructor while smart unfolding is on, hence the option.  The same
-- holds for the other equations between a model function and its generic form below.
set_option smartUnfolding false in
theorem run_eq_runG (c : Cfg V) : ∀ (parts : List (List (List Rat))) (st : RState V),
    RState.run c st parts = runG (RState.render c) st parts := fun _ _ => rfl

set_option smartUnfolding false in
theorem renderAll_eq_sessionG (c : Cfg V) (objs : List (ObjItem V)) (dss : List (DsItem V)) (hoas : List (HoaItem V))
    (parts : List (List (List Rat))) :
    renderAll c objs dss hoas parts =
      sessionG (RState.render c) (List.replicate c.overall_delay (List.replicate c.n_in 0))
        (RState.init c objs dss hoas) parts := rfl

set_option smartUnfolding false in
theorem renderAll_eq_trace (c : Cfg V) (objs : List (ObjItem V)) (dss : List (DsItem V)) (hoas : List (HoaItem V))
    (parts : List (List (List Rat))) :
    renderAll c objs dss hoas parts = traceResult (renderTrace c (RState.init c objs dss hoas) parts) :=
  sessionG_eq_trace (RState.render c) _ parts _

theorem renderTrace_eq (c : Cfg V) (objs : List (ObjItem V)) (dss : List (DsItem V)) (hoas : List (HoaItem V))
    (parts : List (List (List Rat))) (out : List V) :
    renderAll c objs dss hoas parts = .ok out ↔
      (renderTrace c (RState.init c objs dss hoas) parts).2 = none ∧
        (renderTrace c (RState.init c objs dss hoas) parts).1.flatten = out := by
  rw [renderAll_eq_trace, traceResult_ok_iff]

set_option smartUnfolding false in
theorem renderAllOS_eq_sessionG (c : Cfg V) (objs : List (ObjItem V)) (dss : List (DsItem V))
    (hoas : List (HoaItem V)) (parts : List (List (List Rat))) :
    renderAllOS c objs dss hoas parts =
      sessionG (RStateOS.render c) (List.replicate c.overall_delay (List.replicate c.n_in 0))
        (RStateOS.init c objs dss hoas) parts := rfl

set_option smartUnfolding false in
theorem renderAllOS_eq_trace (c : Cfg V) (objs : List (ObjItem V)) (dss : List (DsItem V)) (hoas : List (HoaItem V))
    (parts : List (List (List Rat))) :
    renderAllOS c objs dss hoas parts = traceResult (renderTraceOS c (RStateOS.init c objs dss hoas) parts) :=
  sessionG_eq_trace (RStateOS.render c) _ parts _

/-- Driver op `runos`. -/
theorem renderTraceOS_eq (c : Cfg V) (objs : List (ObjItem V)) (dss : List (DsItem V)) (hoas : List (HoaItem V))
    (parts : List (List (List Rat))) (out : List V) :
    renderAllOS c objs dss hoas parts = .ok out ↔
      (renderTraceOS c (RStateOS.init c objs dss hoas) parts).2 = none ∧
        (renderTraceOS c (RStateOS.init c objs dss hoas) parts).1.flatten = out := by
  rw [renderAllOS_eq_trace, traceResult_ok_iff]

end Earverif.Renderer

namespace Earverif.RendererTS
open Earverif.Stream Earverif.Timeline Earverif.Renderer

variable {V : Type} [RMod V]

set_option smartUnfolding false in
theorem renderAllTS_eq_sessionG (c : Cfg V) (objs : List (ObjItemTS V)) (dss : List (DsItemTS V))
    (hoas : List (HoaItemTS V)) (parts : List (List (List Rat))) :
    renderAllTS c objs dss hoas parts =
      match RStateTS.init c objs dss hoas with
      | .error e => .error (.track e)
      | .ok st0 => sessionG (RStateTS.render c) (tailFrames c) st0 parts := rfl

set_option smartUnfolding false in
theorem renderAllTS_eq_trace (c : Cfg V) (objs : List (ObjItemTS V)) (dss : List (DsItemTS V))
    (hoas : List (HoaItemTS V)) (parts : List (List (List Rat))) :
    renderAllTS c objs dss hoas parts =
      match RStateTS.init c objs dss hoas with
      | .error e => .error (.track e)
      | .ok st0 => traceResult (renderTraceTS c st0 parts) := by
  rw [renderAllTS_eq_sessionG]
  cases RStateTS.init c objs dss hoas with
  | error e => rfl
  | ok st0 => exact sessionG_eq_trace (RStateTS.render c) _ parts st0

/-- Driver op `runts`; the trace starts from the state `set_rendering_items` constructs. -/
theorem renderTraceTS_eq (c : Cfg V) (objs : List (ObjItemTS V)) (dss : List (DsItemTS V))
    (hoas : List (HoaItemTS V)) (parts : List (List (List Rat))) (out : List V) :
    renderAllTS c objs dss hoas parts = .ok out ↔
      ∃ st0, RStateTS.init c objs dss hoas = .ok st0 ∧ (renderTraceTS c st0 parts).2 = none ∧
        (renderTraceTS c st0 parts).1.flatten = out := by
  rw [renderAllTS_eq_trace]
  cases RStateTS.init c objs dss hoas with
  | error e => simp
  | ok st0 => simp only [traceResult_ok_iff, Except.ok.injEq, exists_eq_left']

set_option smartUnfolding false in
theorem renderAllTSOS_eq_sessionG (c : Cfg V) (objs : List (ObjItemTS V)) (dss : List (DsItemTS V))
    (hoas : List (HoaItemTS V)) (parts : List (List (List Rat))) :
    renderAllTSOS c objs dss hoas parts =
      match RStateTSOS.init c objs dss hoas with
      | .error e => .error (.base (.track e))
      | .ok st0 => sessionG (RStateTSOS.render c) (tailFrames c) st0 parts := rfl

set_option smartUnfolding false in
theorem renderAllTSOS_eq_trace (c : Cfg V) (objs : List (ObjItemTS V)) (dss : List (DsItemTS V))
    (hoas : List (HoaItemTS V)) (parts : List (List (List Rat))) :
    renderAllTSOS c objs dss hoas parts =
      match RStateTSOS.init c objs dss hoas with
      | .error e => .error (.base (.track e))
      | .ok st0 => traceResult (renderTraceTSOS c st0 parts) := by
  rw [renderAllTSOS_eq_sessionG]
  cases RStateTSOS.init c objs dss hoas with
  | error e => rfl
  | ok st0 => exact sessionG_eq_trace (RStateTSOS.render c) _ parts st0

/-- Driver op `runtsos`. -/
theorem renderTraceTSOS_eq (c : Cfg V) (objs : List (ObjItemTS V)) (dss : List (DsItemTS V))
    (hoas : List (HoaItemTS V)) (parts : List (List (List Rat))) (out : List V) :
    renderAllTSOS c objs dss hoas parts = .ok out ↔
      ∃ st0, RStateTSOS.init c objs dss hoas = .ok st0 ∧ (renderTraceTSOS c st0 parts).2 = none ∧
        (renderTraceTSOS c st0 parts).1.flatten = out := by
  rw [renderAllTSOS_eq_trace]
  cases RStateTSOS.init c objs dss hoas with
  | error e => simp
  | ok st0 => simp only [traceResult_ok_iff, Except.ok.injEq, exists_eq_left']

end Earverif.RendererTS
