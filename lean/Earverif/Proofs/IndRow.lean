/- A row that holds one value `c` on a set `S` of channels and 0 elsewhere (`indRow n S c`): what it sums to, its sign,
   its entries off `S`.  The rows of `ZoneExclusionDownmix.downmix_for_excluded` are of this form with `c = 1/|S|` (both
   models of it, over ℚ and over ℝ), and so are the rows of `np.eye(n)` (`S = [i]`, `c = 1`). -/
import Mathlib.Algebra.BigOperators.Group.List.Basic
import Mathlib.Algebra.Order.Field.Basic
import Mathlib.Data.List.Perm.Lattice
import Mathlib.Data.Nat.Cast.Order.Field

namespace Earverif

variable {K : Type}

def indRow [Zero K] (n : Nat) (S : List Nat) (c : K) : List K :=
  (List.range n).map fun j => if S.contains j then c else 0

theorem indRow_sum [Semiring K] (n : Nat) (S : List Nat) (c : K) (hn : S.Nodup) (hb : ∀ j ∈ S, j < n) :
    (indRow n S c).sum = S.length * c := by
  -- the indices below `n` that lie in `S` are `S` again, in another order
  have hperm : ((List.range n).filter fun j => S.contains j).Perm S :=
    (List.perm_ext_iff_of_nodup (List.nodup_range.filter _) hn).mpr fun j => by
      simp only [List.mem_filter, List.mem_range, List.contains_iff_mem]
      exact ⟨fun h => h.2, fun h => ⟨hb j h, h⟩⟩
  rw [indRow, List.sum_map_ite]
  simp only [List.map_const', List.sum_replicate, nsmul_eq_mul, mul_zero, add_zero, Bool.decide_eq_true,
    hperm.length_eq]

theorem indRow_inv_sum [DivisionRing K] [CharZero K] (n : Nat) (S : List Nat) (hn : S.Nodup) (hb : ∀ j ∈ S, j < n)
    (h0 : S ≠ []) : (indRow n S (1 / (S.length : K))).sum = 1 := by
  rw [indRow_sum n S _ hn hb, mul_one_div_cancel (Nat.cast_ne_zero.mpr (List.length_pos_iff.mpr h0).ne')]

theorem indRow_nonneg [Zero K] [Preorder K] (n : Nat) (S : List Nat) {c : K} (hc : 0 ≤ c) : ∀ v ∈ indRow n S c, 0 ≤ v := by
  intro v hv
  obtain ⟨j, _, rfl⟩ := List.mem_map.mp hv
  split
  · exact hc
  · exact le_refl 0

theorem indRow_getD [Zero K] (n : Nat) (S : List Nat) (c : K) (j : Nat) (hj : j ∉ S) : (indRow n S c).getD j 0 = 0 := by
  by_cases hjn : j < n
  · simp [indRow, List.getD, hjn, hj]
  · simp [indRow, List.getD, hjn]

/-- row `i` of `np.eye(n)` -/
theorem indRow_singleton [Zero K] (n i : Nat) (c : K) :
    indRow n [i] c = (List.range n).map fun j => if i == j then c else 0 :=
  List.map_congr_left fun j _ => by
    by_cases h : i = j
    · subst h; simp
    · have h' : ¬ j = i := fun e => h e.symm
      simp [h, h']

theorem indRow_singleton_sum [Semiring K] (n i : Nat) (hi : i < n) : (indRow n [i] (1 : K)).sum = 1 := by
  rw [indRow_sum n [i] 1 (List.nodup_singleton i) (by simpa using hi)]
  simp

end Earverif
