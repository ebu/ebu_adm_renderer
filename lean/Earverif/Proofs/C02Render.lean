/-
The three type renderers as functions of the concatenated input, over any list of blocks; the assembly: `render` on
any blocks returns the specification `RenderSpec.out` of their concatenation up to the last `overall_delay` samples
(`run_prefix`); a session, which ends with the tail block of zeros, returns all of it (`render_refines_spec`).
The hypotheses of the property theorems are defined here: `FixedAccepted`, `ObjAccepted'`, `SessionOK`.
-/
import Earverif.Proofs.C03Chans
import Earverif.Proofs.C03Fixed
import Earverif.Proofs.C02Aligner
import Earverif.Proofs.C02Fir
namespace Earverif.Renderer
open Earverif.Stream Earverif.Timeline Earverif.RenderSpec

variable {V : Type} [RMod V] [LawfulRMod V]

/-! ### ObjectRenderer = channel loop, then Delay and the adapter on the two halves of the rows -/

/-- The gain stage of `ObjectRenderer.render` alone. -/
def objChansRender (c : Cfg V) (ch : List (Nat × ObjBpc V)) (S0 : Int) (b : List (List Rat)) :
    Except Err (List (Nat × ObjBpc V) × List (V × V)) :=
  procChans (interpObject c.sr) GainKern.upd S0 (track b) ch (List.replicate b.length 0)

/-- Per-block sums of the direct and the diffuse path. -/
def addBlocks (ds vs : List (List V)) : List (List V) := List.zipWith (List.zipWith (· + ·)) ds vs

omit [LawfulRMod V] in
theorem obj_subRun_factor (c : Cfg V) : ∀ (blocks : List (List (List Rat))) (st : ObjState V) (S0 : Int)
    (ch' : List (Nat × ObjBpc V)) (Is : List (List (V × V))),
    subRun (objChansRender c) st.chans S0 blocks = .ok (ch', Is) →
    subRun (fun s S1 b => ObjState.render c s S1 b) st S0 blocks =
      .ok (⟨ch', (Delay.run 0 st.delaymem (Is.map (·.map Prod.fst))).2,
            (Vbs.run (Fir.step c.taps) c.block_size 0 st.vbs (Is.map (·.map Prod.snd))).2⟩,
           addBlocks (Delay.run 0 st.delaymem (Is.map (·.map Prod.fst))).1
             (Vbs.run (Fir.step c.taps) c.block_size 0 st.vbs (Is.map (·.map Prod.snd))).1) := by
  intro blocks
  induction blocks with
  | nil =>
    intro st S0 ch' Is h
    simp only [subRun] at h
    cases h
    simp [subRun, Delay.run, Vbs.run, addBlocks]
  | cons b bs ih =>
    intro st S0 ch' Is h
    obtain ⟨ch1, I, Is', h1, h2, rfl⟩ := subRun_cons_ok h
    have hr : ObjState.render c st S0 b =
        .ok (⟨ch1, (Delay.process 0 st.delaymem (I.map Prod.fst)).2,
              (Vbs.process (Fir.step c.taps) c.block_size 0 st.vbs (I.map Prod.snd)).1⟩,
             List.zipWith (· + ·) (Delay.process 0 st.delaymem (I.map Prod.fst)).1
               (Vbs.process (Fir.step c.taps) c.block_size 0 st.vbs (I.map Prod.snd)).2) := by
      unfold objChansRender at h1
      simp only [ObjState.render, h1, bind, Except.bind, pure, Except.pure]
    have := ih ⟨ch1, (Delay.process 0 st.delaymem (I.map Prod.fst)).2,
      (Vbs.process (Fir.step c.taps) c.block_size 0 st.vbs (I.map Prod.snd)).1⟩ (S0 + b.length) ch' Is' h2
    simp only [subRun, hr, this, List.map_cons, Delay.run, Vbs.run, addBlocks, List.zipWith_cons_cons]

omit [LawfulRMod V] in
theorem flatten_addBlocks : ∀ (ds vs : List (List V)), ds.map List.length = vs.map List.length →
    (addBlocks ds vs).flatten = List.zipWith (· + ·) ds.flatten vs.flatten := by
  intro ds
  induction ds with
  | nil => intro vs _; simp [addBlocks]
  | cons d ds ih =>
    intro vs h
    cases vs with
    | nil => simp at h
    | cons v vs =>
      simp only [List.map_cons, List.cons.injEq] at h
      simp only [addBlocks, List.zipWith_cons_cons, List.flatten_cons]
      rw [List.zipWith_append h.1]
      congr 1
      exact ih vs h.2

/-- The processing blocks of a timeline (empty if the interpreter rejects it). -/
def allOf {M S K : Type} (interp : S → M → Except Err (S × List (PBlock K))) (st : S) (blocks : List M) :
    List (PBlock K) :=
  match interpAll interp st blocks with
  | .ok a => a
  | .error _ => []

/-- A DirectSpeakers/HOA timeline in the property's quantifier (the fixed-gain counterpart of `ObjAccepted'`). -/
structure FixedAccepted {G : Type} (sr : Nat) (blocks : List (MetaBlock G)) : Prop where
  interp_ok : ∃ all, interpAll (interpFixed sr) {} blocks = .ok all
  nonneg : ∀ m ∈ blocks, NonNegBlock m
  start_nonneg : ∀ m ms, blocks = m :: ms → 0 ≤ (blockTimes m).1

/-- An Objects timeline in the property's quantifier; equivalent to `Earverif.Timeline.ObjAccepted` of `Props/C03.lean`
(`objAccepted_iff` there), which this file does not import. -/
structure ObjAccepted' (sr : Nat) (blocks : List (MetaBlock (V × V))) : Prop where
  interp_ok : ∃ all, interpAll (interpObject sr) {} blocks = .ok all
  nonneg : ∀ m ∈ blocks, NonNegBlock m
  start_nonneg : ∀ m ms, blocks = m :: ms → 0 ≤ (blockTimes m).1

theorem fixed_accepted_spec {G ι : Type} (sr : Nat) (upd : G → Nat → ι → V → V) (hupd : ∀ g k, upd g k = upd g 0)
    (blocks : List (MetaBlock G)) (h : FixedAccepted sr blocks) :
    interpAll (interpFixed sr) {} blocks = .ok (allOf (interpFixed sr) {} blocks) ∧
    ChainLB 0 (allOf (interpFixed sr) {} blocks) ∧
    ∀ t x o, effAll upd (allOf (interpFixed sr) {} blocks) t x o =
      fixedEff upd (gainAt sr (fixedTimeline blocks) t) x o := by
  obtain ⟨all, hall⟩ := h.interp_ok
  have ha : allOf (interpFixed sr) {} blocks = all := by simp only [allOf, hall]
  rw [ha]
  obtain ⟨h1, h2, _⟩ := fixed_all_spec upd hupd blocks {} all hall h.nonneg
  exact ⟨hall, h2 0 (start_lb sr blocks h.start_nonneg), h1⟩

theorem obj_accepted_spec (sr : Nat) (blocks : List (MetaBlock (V × V))) (h : ObjAccepted' sr blocks) :
    interpAll (interpObject sr) {} blocks = .ok (allOf (interpObject sr) {} blocks) ∧
    ChainLB 0 (allOf (interpObject sr) {} blocks) ∧
    ∀ t x o, effAll GainKern.upd (allOf (interpObject sr) {} blocks) t x o =
      o + RMod.smul x (gainAt sr (objTimeline none blocks) t).row := by
  obtain ⟨all, hall⟩ := h.interp_ok
  have ha : allOf (interpObject sr) {} blocks = all := by simp only [allOf, hall]
  rw [ha]
  obtain ⟨h1, h2, _⟩ := obj_all_spec blocks {} all hall ⟨rfl, Or.inl rfl⟩ h.nonneg
  refine ⟨hall, h2 0 (start_lb sr blocks h.start_nonneg), ?_⟩
  intro t x o
  rw [h1]; rfl

theorem chansInv_init {α I M S K : Type} (interp : S → M → Except Err (S × List (PBlock K))) (st0 : S)
    (tOf : I → α) (blocksOf : I → List M) :
    ∀ (items : List I),
      (∀ it ∈ items, interpAll interp st0 (blocksOf it) = .ok (allOf interp st0 (blocksOf it)) ∧
        ChainLB 0 (allOf interp st0 (blocksOf it))) →
      ChansInv interp 0 (items.map fun it => (tOf it, (⟨blocksOf it, st0, []⟩ : Bpc M S K)))
        (items.map fun it => allOf interp st0 (blocksOf it)) := by
  intro items
  induction items with
  | nil => intro _; trivial
  | cons it items ih =>
    intro h
    obtain ⟨h1, h2⟩ := h it List.mem_cons_self
    exact ⟨⟨0, h2⟩, bpcInv_init interp st0 _ h1 h2, ih (fun it' hit => h it' (List.mem_cons_of_mem _ hit))⟩

omit [LawfulRMod V] in
theorem rowFold_sum {α I K ι : Type} (upd : K → Nat → ι → V → V) (s : Int) (xs : α → Option ι)
    (tOf : I → α) (allsOf : I → List (PBlock K)) (contrib : I → V) :
    ∀ (items : List I) (o : V),
      (∀ it ∈ items, ∀ o, rowStep upd s (xs (tOf it)) (allsOf it) o = o + contrib it) →
      rowFold upd s xs (items.map tOf) (items.map allsOf) o = (items.map contrib).foldl (· + ·) o := by
  intro items
  induction items with
  | nil => intro o _; rfl
  | cons it items ih =>
    intro o h
    simp only [List.map_cons, rowFold, List.foldl_cons]
    rw [h it List.mem_cons_self o]
    exact ih _ (fun it' hit => h it' (List.mem_cons_of_mem _ hit))

omit [LawfulRMod V] in
theorem items_stream {α I M S K ι : Type} (interp : S → M → Except Err (S × List (PBlock K)))
    (hy : ∀ st m st' new, interp st m = .ok (st', new) → new.length ≤ 2) (upd : K → Nat → ι → V → V)
    (getf : List (List Rat) → α → List ι) (hgl : ∀ blk t, (getf blk t).length = blk.length)
    (hga : ∀ b1 b2 t, getf (b1 ++ b2) t = getf b1 t ++ getf b2 t) (st0 : S) (tOf : I → α) (blocksOf : I → List M)
    (items : List I) (bl : List (List (List Rat))) (contrib : I → Nat → V) {C : I → Prop}
    (hacc : ∀ it ∈ items, interpAll interp st0 (blocksOf it) = .ok (allOf interp st0 (blocksOf it)) ∧
      ChainLB 0 (allOf interp st0 (blocksOf it)) ∧ C it)
    (hc : ∀ it ∈ items, C it → ∀ i, i < bl.flatten.length → ∀ o,
      rowStep upd ((0 : Int) + i) ((getf bl.flatten (tOf it))[i]?) (allOf interp st0 (blocksOf it)) o =
        o + contrib it i) :
    ∃ ch' os, subRun (fun ch S1 b => procChans interp upd S1 (getf b) ch (List.replicate b.length (0 : V)))
        (items.map fun it => (tOf it, (⟨blocksOf it, st0, []⟩ : Bpc M S K))) 0 bl = .ok (ch', os) ∧
      os.map List.length = bl.map List.length ∧
      ∀ i, i < bl.flatten.length → os.flatten[i]? = some (sumV (items.map fun it => contrib it i)) := by
  obtain ⟨ch', os, e, hl, hrow⟩ := chans_subRun_spec interp hy upd getf hgl hga bl _ _ 0
    (chansInv_init interp st0 tOf blocksOf items fun it hit => ⟨(hacc it hit).1, (hacc it hit).2.1⟩)
  refine ⟨ch', os, e, hl, fun i hi => ?_⟩
  rw [hrow i, if_pos hi]
  congr 1
  simp only [List.map_map, Function.comp_def]
  exact rowFold_sum upd _ _ tOf (fun it => allOf interp st0 (blocksOf it)) (contrib · i) items 0
    (fun it hit o => hc it hit (hacc it hit).2.2 i hi o)

theorem track_length (b : List (List Rat)) (t : Nat) : (track b t).length = b.length := by simp [track]
theorem track_append (b1 b2 : List (List Rat)) (t : Nat) : track (b1 ++ b2) t = track b1 t ++ track b2 t := by
  simp [track]
theorem tracks_length (b : List (List Rat)) (ts : List Nat) : (tracks b ts).length = b.length := by simp [tracks]
theorem tracks_append (b1 b2 : List (List Rat)) (ts : List Nat) :
    tracks (b1 ++ b2) ts = tracks b1 ts ++ tracks b2 ts := by simp [tracks]

theorem getElem?_track (X : List (List Rat)) (tr i : Nat) (hi : i < X.length) :
    (track X tr)[i]? = some ((X.getD i []).getD tr 0) := by
  simp only [track, List.getElem?_map, List.getD_eq_getElem?_getD, List.getElem?_eq_getElem hi, Option.map_some,
    Option.getD_some]

theorem getElem?_tracks (X : List (List Rat)) (ts : List Nat) (i : Nat) (hi : i < X.length) :
    (tracks X ts)[i]? = some (ts.map fun tr => (X.getD i []).getD tr 0) := by
  simp only [tracks, List.getElem?_map, List.getD_eq_getElem?_getD, List.getElem?_eq_getElem hi, Option.map_some,
    Option.getD_some]

theorem xAt_natCast (x : List (List Rat)) (tr i : Nat) : xAt x tr (i : Int) = (x.getD i []).getD tr 0 := by
  unfold xAt
  rw [if_pos (Int.natCast_nonneg i), Int.toNat_natCast]

theorem xAt_append_zeros (x : List (List Rat)) (k n tr : Nat) (t : Int) :
    xAt (x ++ List.replicate k (List.replicate n (0 : Rat))) tr t = xAt x tr t := by
  unfold xAt
  split
  · simp only [List.getD_eq_getElem?_getD, List.getElem?_append]
    by_cases hi : t.toNat < x.length
    · rw [if_pos hi]
    · rw [if_neg hi, List.getElem?_eq_none (Nat.le_of_not_lt hi)]
      simp only [List.getElem?_replicate, Option.getD_none, List.getElem?_nil]
      split
      · simp only [Option.getD_some, List.getElem?_replicate]; split <;> rfl
      · rfl
  · rfl

omit [LawfulRMod V] in
theorem outAt_congr (c : Cfg V) (objs : List (ObjItem V)) (dss : List (DsItem V)) (hoas : List (HoaItem V))
    (x y : List (List Rat)) (h : ∀ tr t, xAt x tr t = xAt y tr t) (s : Nat) :
    outAt c objs dss hoas x s = outAt c objs dss hoas y s := by
  simp only [outAt, objAt, h]

omit [LawfulRMod V] in
theorem out_zero_tail (c : Cfg V) (objs : List (ObjItem V)) (dss : List (DsItem V)) (hoas : List (HoaItem V))
    (x : List (List Rat)) (k n : Nat) :
    (RenderSpec.out c objs dss hoas (x ++ List.replicate k (List.replicate n (0 : Rat)))).take x.length =
      RenderSpec.out c objs dss hoas x := by
  unfold RenderSpec.out
  rw [← List.map_take, List.take_range, List.length_append, Nat.min_eq_left (Nat.le_add_right _ _)]
  exact List.map_congr_left fun s _ => outAt_congr c objs dss hoas _ _ (xAt_append_zeros x k n) s

/-- `DirectSpeakersRenderer`'s kernel (`FixedGains.process`). -/
def dsUpd : V → Nat → Rat → V → V := fun g _ x o => o + RMod.smul x g

theorem gainAt_noramp {G : Type} (sr : Nat) (tl : List (SpecBlock G)) (h : ∀ b ∈ tl, b.prev = none) (t : Int) :
    ∀ p g0 g1, gainAt sr tl t ≠ .ramp p g0 g1 := by
  intro p g0 g1
  unfold gainAt
  cases hf : tl.find? (·.covers sr t) with
  | none => simp
  | some b =>
    simp only
    have hb := h b (List.mem_of_find?_eq_some hf)
    split
    · simp
    · rw [hb]; simp

theorem fixedTimeline_prev {G : Type} (blocks : List (MetaBlock G)) : ∀ b ∈ fixedTimeline blocks, b.prev = none := by
  intro b hb
  simp only [fixedTimeline, List.mem_map] at hb
  obtain ⟨m, _, rfl⟩ := hb
  rfl

theorem fixedEff_ds (sr : Nat) (blocks : List (MetaBlock V)) (t : Int) (x : Rat) (o : V) :
    fixedEff dsUpd (gainAt sr (fixedTimeline blocks) t) x o =
      o + RMod.smul x (gainAt sr (fixedTimeline blocks) t).row := by
  have hn := gainAt_noramp sr (fixedTimeline blocks) (fixedTimeline_prev blocks) t
  cases hg : gainAt sr (fixedTimeline blocks) t with
  | silent => simp only [fixedEff]; exact (silent_row x o).symm
  | const g => rfl
  | ramp p g0 g1 => exact absurd hg (hn p g0 g1)

theorem fixedEff_hoa (sr : Nat) (blocks : List (MetaBlock (List V))) (t : Int) (xs : List Rat) (o : V) :
    fixedEff matUpd (gainAt sr (fixedTimeline blocks) t) xs o =
      o + (gainAt sr (fixedTimeline blocks) t).mat xs := by
  have hn := gainAt_noramp sr (fixedTimeline blocks) (fixedTimeline_prev blocks) t
  cases hg : gainAt sr (fixedTimeline blocks) t with
  | silent => simp only [fixedEff, GainSpec.mat]; exact (LawfulRMod.add_zero o).symm
  | const g => rfl
  | ramp p g0 g1 => exact absurd hg (hn p g0 g1)

def allBlocks (c : Cfg V) (parts : List (List (List Rat))) : List (List (List Rat)) := parts ++ [tailBlock c]

omit [RMod V] [LawfulRMod V] in
theorem allBlocks_flatten (c : Cfg V) (parts : List (List (List Rat))) :
    (allBlocks c parts).flatten =
      parts.flatten ++ List.replicate c.overall_delay (List.replicate c.n_in (0 : Rat)) := by
  simp [allBlocks, tailBlock]

omit [RMod V] [LawfulRMod V] in
theorem allBlocks_length (c : Cfg V) (parts : List (List (List Rat))) :
    (allBlocks c parts).flatten.length = parts.flatten.length + c.overall_delay := by
  rw [allBlocks_flatten]; simp

theorem ds_stream_any (c : Cfg V) (dss : List (DsItem V)) (hacc : ∀ it ∈ dss, FixedAccepted c.sr it.blocks)
    (bl : List (List (List Rat))) :
    ∃ ds' o2s, subRun (dsRender c) (dss.map fun it => (it.track, ⟨it.blocks, {}, []⟩)) 0 bl = .ok (ds', o2s) ∧
      o2s.map List.length = bl.map List.length ∧
      ∀ i, i < bl.flatten.length → o2s.flatten[i]? =
        some (sumV (dss.map fun it =>
          RMod.smul (xAt bl.flatten it.track i) (gainAt c.sr (fixedTimeline it.blocks) i).row)) := by
  exact items_stream (interpFixed c.sr) interpFixed_yield_le_two dsUpd (fun b t => track b t) track_length
    track_append {} (·.track) (·.blocks) dss bl _
    (fun it hit => fixed_accepted_spec c.sr dsUpd (fun _ _ => rfl) it.blocks (hacc it hit))
    fun it _ h i hi o => by
      rw [getElem?_track _ _ _ hi, ← xAt_natCast]
      simp only [rowStep]
      rw [h, fixedEff_ds, Int.zero_add]

/-- `ds_stream_any` for the blocks of a session: the tail's zero frames are not seen by `xAt`. -/
theorem ds_stream (c : Cfg V) (dss : List (DsItem V)) (hacc : ∀ it ∈ dss, FixedAccepted c.sr it.blocks)
    (parts : List (List (List Rat))) :
    ∃ ds' o2s, subRun (dsRender c) (dss.map fun it => (it.track, ⟨it.blocks, {}, []⟩)) 0 (allBlocks c parts) =
        .ok (ds', o2s) ∧
      o2s.map List.length = (allBlocks c parts).map List.length ∧
      ∀ i, i < (allBlocks c parts).flatten.length → o2s.flatten[i]? =
        some (sumV (dss.map fun it =>
          RMod.smul (xAt parts.flatten it.track i) (gainAt c.sr (fixedTimeline it.blocks) i).row)) := by
  obtain ⟨ds', o2s, e, hl, hrow⟩ := ds_stream_any c dss hacc (allBlocks c parts)
  refine ⟨ds', o2s, e, hl, fun i hi => ?_⟩
  rw [hrow i hi]
  simp only [allBlocks_flatten, xAt_append_zeros]

theorem hoa_stream_any (c : Cfg V) (hoas : List (HoaItem V)) (hacc : ∀ it ∈ hoas, FixedAccepted c.sr it.blocks)
    (bl : List (List (List Rat))) :
    ∃ hoa' o3s, subRun (hoaRender c) (hoas.map fun it => (it.tracks, ⟨it.blocks, {}, []⟩)) 0 bl = .ok (hoa', o3s) ∧
      o3s.map List.length = bl.map List.length ∧
      ∀ i, i < bl.flatten.length → o3s.flatten[i]? =
        some (sumV (hoas.map fun it =>
          (gainAt c.sr (fixedTimeline it.blocks) i).mat (it.tracks.map fun tr => xAt bl.flatten tr i))) := by
  exact items_stream (interpFixed c.sr) interpFixed_yield_le_two matUpd (fun b ts => tracks b ts) tracks_length
    tracks_append {} (·.tracks) (·.blocks) hoas bl _
    (fun it hit => fixed_accepted_spec c.sr matUpd (fun _ _ => rfl) it.blocks (hacc it hit))
    fun it _ h i hi o => by
      rw [getElem?_tracks _ _ _ hi]
      simp only [rowStep, ← xAt_natCast]
      rw [h, fixedEff_hoa, Int.zero_add]

theorem hoa_stream (c : Cfg V) (hoas : List (HoaItem V)) (hacc : ∀ it ∈ hoas, FixedAccepted c.sr it.blocks)
    (parts : List (List (List Rat))) :
    ∃ hoa' o3s, subRun (hoaRender c) (hoas.map fun it => (it.tracks, ⟨it.blocks, {}, []⟩)) 0 (allBlocks c parts) =
        .ok (hoa', o3s) ∧
      o3s.map List.length = (allBlocks c parts).map List.length ∧
      ∀ i, i < (allBlocks c parts).flatten.length → o3s.flatten[i]? =
        some (sumV (hoas.map fun it =>
          (gainAt c.sr (fixedTimeline it.blocks) i).mat (it.tracks.map fun tr => xAt parts.flatten tr i))) := by
  obtain ⟨hoa', o3s, e, hl, hrow⟩ := hoa_stream_any c hoas hacc (allBlocks c parts)
  refine ⟨hoa', o3s, e, hl, fun i hi => ?_⟩
  rw [hrow i hi]
  simp only [allBlocks_flatten, xAt_append_zeros]

theorem objI_stream (c : Cfg V) (objs : List (ObjItem V)) (hacc : ∀ it ∈ objs, ObjAccepted' c.sr it.blocks)
    (bl : List (List (List Rat))) :
    ∃ ch' Is, subRun (objChansRender c) (objs.map fun it => (it.track, ⟨it.blocks, {}, []⟩)) 0 bl = .ok (ch', Is) ∧
      Is.map List.length = bl.map List.length ∧
      ∀ i, i < bl.flatten.length → Is.flatten[i]? = some (objAt c.sr objs bl.flatten i) := by
  exact items_stream (V := V × V) (interpObject c.sr) interpObject_yield_le_two GainKern.upd (fun b t => track b t)
    track_length track_append {} (·.track) (·.blocks) objs bl _
    (fun it hit => obj_accepted_spec c.sr it.blocks (hacc it hit))
    fun it _ h i hi o => by
      rw [getElem?_track _ _ _ hi, ← xAt_natCast]
      simp only [rowStep]
      rw [h, Int.zero_add]

theorem objAt_neg (sr : Nat) (objs : List (ObjItem V)) (x : List (List Rat)) (t : Int) (ht : t < 0) :
    objAt sr objs x t = 0 := by
  unfold objAt sumV
  apply foldl_zeros
  intro v hv
  obtain ⟨it, _, rfl⟩ := List.mem_map.mp hv
  have : xAt x it.track t = 0 := by unfold xAt; rw [if_neg (by omega)]
  rw [this, LawfulRMod.zero_smul]

def specDiffuse (c : Cfg V) (objs : List (ObjItem V)) (x : List (List Rat)) (s : Nat) : V :=
  sumV ((List.range c.taps.length).map fun k =>
    RMod.pmul (c.taps.getD k 0) (objAt c.sr objs x ((s : Int) + c.decorrelator_delay - k)).2)

/-- Objects over ANY list of blocks: no exception, as many rows as frames per call, and row `s + overall_delay` of the
concatenation (where there is one) is `direct(s) + Σ_k f[k]·diffuse(s + (N−1)//2 − k)`: the direct path delayed by `overall_delay`, the
diffuse path through the FIR delayed by `block_size`.  Since `overall_delay = block_size + decorrelator_delay`, output
row `s + overall_delay` meets FIR row `s + decorrelator_delay`, whose tap `k` reads diffuse row `s + decorrelator_delay − k`. -/
theorem obj_stream_any (c : Cfg V) (hB : 1 ≤ c.block_size) (objs : List (ObjItem V))
    (hacc : ∀ it ∈ objs, ObjAccepted' c.sr it.blocks) (bl : List (List (List Rat))) :
    ∃ obj' o1s, subRun (fun s S1 b => ObjState.render c s S1 b) (ObjState.init c objs) 0 bl = .ok (obj', o1s) ∧
      o1s.map List.length = bl.map List.length ∧
      ∀ s, s + c.overall_delay < bl.flatten.length → o1s.flatten[s + c.overall_delay]? =
        some ((objAt c.sr objs bl.flatten s).1 + specDiffuse c objs bl.flatten s) := by
  obtain ⟨ch', Is, e, hl, hrow⟩ := objI_stream c objs hacc bl
  have hfac := obj_subRun_factor c bl (ObjState.init c objs) 0 ch' Is e
  obtain ⟨d1, _, d3⟩ := delay_run_eq (0 : V) (Is.map (·.map Prod.fst)) (List.replicate c.overall_delay 0)
  obtain ⟨v1, v3⟩ := vbs_fir_eq c.taps c.block_size hB (Is.map (·.map Prod.snd))
  have hI1 : (Is.map (·.map Prod.fst)).flatten = Is.flatten.map Prod.fst := by rw [List.map_flatten]
  have hI2 : (Is.map (·.map Prod.snd)).flatten = Is.flatten.map Prod.snd := by rw [List.map_flatten]
  have hl1 : (Is.map (·.map Prod.fst)).map List.length = Is.map List.length := by
    simp only [List.map_map]; apply List.map_congr_left; intro l _; simp
  have hl2 : (Is.map (·.map Prod.snd)).map List.length = Is.map List.length := by
    simp only [List.map_map]; apply List.map_congr_left; intro l _; simp
  have hN : Is.flatten.length = bl.flatten.length := by
    rw [List.length_flatten, List.length_flatten, hl]
  simp only [ObjState.init, Delay.init] at hfac
  refine ⟨_, _, hfac, ?_, ?_⟩
  · rw [addBlocks, List.map_zipWith]
    simp only [List.length_zipWith]
    rw [← List.zipWith_map (f := min) (g := List.length) (h := List.length), d3, v3, hl1, hl2, hl, List.zipWith_self]
    simp only [Nat.min_self, List.map_id']
  · intro s hs
    rw [flatten_addBlocks _ _ (by rw [d3, v3, hl1, hl2])]
    rw [d1, v1, hI1, hI2]
    simp only [List.length_map, hN]
    have hD : c.overall_delay = c.block_size + c.decorrelator_delay := rfl
    have hs0 : s < bl.flatten.length := Nat.lt_of_le_of_lt (Nat.le_add_right _ _) hs
    have hs1 : (Is.flatten.map Prod.fst)[s]? = some (objAt c.sr objs bl.flatten s).1 := by
      rw [List.getElem?_map, hrow s hs0]; rfl
    have hsd : s + c.decorrelator_delay < bl.flatten.length :=
      Nat.lt_of_le_of_lt (Nat.add_le_add_left (hD ▸ Nat.le_add_left _ _) s) hs
    have hfir : (firAll c.taps (Is.flatten.map Prod.snd))[s + c.decorrelator_delay]? =
        some (specDiffuse c objs bl.flatten s) := by
      unfold firAll
      rw [List.getElem?_map, List.length_map, List.getElem?_range (hN ▸ hsd)]
      simp only [Option.map_some]
      congr 1
      unfold Fir.at specDiffuse sumV
      congr 1
      apply List.map_congr_left
      intro k hk
      by_cases hks : k ≤ s + c.decorrelator_delay
      · rw [if_pos hks]
        have hidx : s + c.decorrelator_delay - k < bl.flatten.length :=
          Nat.lt_of_le_of_lt (Nat.sub_le _ _) hsd
        have : (Is.flatten.map Prod.snd).getD (s + c.decorrelator_delay - k) 0 =
            (objAt c.sr objs bl.flatten ((s + c.decorrelator_delay - k : Nat) : Int)).2 := by
          apply getD_of_getElem?
          rw [List.getElem?_map, hrow _ hidx]; rfl
        rw [this]
        congr 3
        omega
      · rw [if_neg hks, objAt_neg _ _ _ _ (by omega)]
        exact (LawfulRMod.pmul_zero _).symm
    have hdl : ((List.replicate c.overall_delay (0 : V) ++ Is.flatten.map Prod.fst).take
        bl.flatten.length)[s + c.overall_delay]? = some (objAt c.sr objs bl.flatten s).1 := by
      rw [List.getElem?_take_of_lt hs, List.getElem?_append_right (by simp),
        List.length_replicate, Nat.add_sub_cancel, hs1]
    have hvb : ((List.replicate c.block_size (0 : V) ++ firAll c.taps (Is.flatten.map Prod.snd)).take
        bl.flatten.length)[s + c.overall_delay]? = some (specDiffuse c objs bl.flatten s) := by
      have e2 : s + c.overall_delay - c.block_size = s + c.decorrelator_delay := by
        rw [hD, Nat.add_left_comm, Nat.add_sub_cancel_left]
      rw [List.getElem?_take_of_lt hs,
        List.getElem?_append_right (by rw [List.length_replicate, hD, Nat.add_left_comm]; exact Nat.le_add_right _ _),
        List.length_replicate, e2, hfir]
    rw [List.getElem?_zipWith, hdl, hvb]

theorem obj_stream (c : Cfg V) (hB : 1 ≤ c.block_size) (objs : List (ObjItem V))
    (hacc : ∀ it ∈ objs, ObjAccepted' c.sr it.blocks) (parts : List (List (List Rat))) :
    ∃ obj' o1s, subRun (fun s S1 b => ObjState.render c s S1 b) (ObjState.init c objs) 0 (allBlocks c parts) =
        .ok (obj', o1s) ∧
      o1s.map List.length = (allBlocks c parts).map List.length ∧
      ∀ s, s < parts.flatten.length → o1s.flatten[s + c.overall_delay]? =
        some ((objAt c.sr objs parts.flatten s).1 + specDiffuse c objs parts.flatten s) := by
  obtain ⟨obj', o1s, e, hl, hrow⟩ := obj_stream_any c hB objs hacc (allBlocks c parts)
  refine ⟨obj', o1s, e, hl, fun s hs => ?_⟩
  rw [hrow s (by rw [allBlocks_length]; exact Nat.add_lt_add_right hs _)]
  simp only [specDiffuse, objAt, allBlocks_flatten, xAt_append_zeros]

omit [RMod V] [LawfulRMod V] in
theorem rounds_spec : ∀ (bl : List (List (List Rat))) (o1s o2s o3s : List (List V)),
    o1s.map List.length = bl.map List.length → o2s.map List.length = bl.map List.length →
    o3s.map List.length = bl.map List.length →
    RoundsOK (rounds bl o1s o2s o3s) ∧ (rounds bl o1s o2s o3s).map (·.2.1) = o1s ∧
      (rounds bl o1s o2s o3s).map (·.2.2.1) = o2s ∧ (rounds bl o1s o2s o3s).map (·.2.2.2) = o3s := by
  intro bl
  induction bl with
  | nil =>
    intro o1s o2s o3s h1 h2 h3
    have e1 : o1s = [] := by simpa using h1
    have e2 : o2s = [] := by simpa using h2
    have e3 : o3s = [] := by simpa using h3
    subst e1 e2 e3
    exact ⟨fun r hr => by simp [rounds] at hr, rfl, rfl, rfl⟩
  | cons b bs ih =>
    intro o1s o2s o3s h1 h2 h3
    cases o1s with
    | nil => simp at h1
    | cons o1 o1s =>
      cases o2s with
      | nil => simp at h2
      | cons o2 o2s =>
        cases o3s with
        | nil => simp at h3
        | cons o3 o3s =>
          simp only [List.map_cons, List.cons.injEq] at h1 h2 h3
          obtain ⟨i0, i1, i2, i3⟩ := ih o1s o2s o3s h1.2 h2.2 h3.2
          refine ⟨?_, ?_, ?_, ?_⟩
          · intro r hr
            simp only [rounds, List.mem_cons] at hr
            rcases hr with rfl | hr
            · exact ⟨h1.1, h2.1, h3.1⟩
            · exact i0 r hr
          · simp only [rounds, List.map_cons, i1]
          · simp only [rounds, List.map_cons, i2]
          · simp only [rounds, List.map_cons, i3]

/-- Items in the property's quantifier and a usable block size. -/
structure SessionOK (c : Cfg V) (objs : List (ObjItem V)) (dss : List (DsItem V)) (hoas : List (HoaItem V)) : Prop where
  block_size_pos : 1 ≤ c.block_size
  objs_ok : ∀ it ∈ objs, ObjAccepted' c.sr it.blocks
  dss_ok : ∀ it ∈ dss, FixedAccepted c.sr it.blocks
  hoas_ok : ∀ it ∈ hoas, FixedAccepted c.sr it.blocks

theorem run_of_streams (c : Cfg V) (objs : List (ObjItem V)) (dss : List (DsItem V)) (hoas : List (HoaItem V))
    (bl : List (List (List Rat))) {obj' : ObjState V} {ds' : List (Nat × DsBpc V)} {hoa' : List (List Nat × HoaBpc V)}
    {o1s o2s o3s : List (List V)}
    (hobj : subRun (fun s S0 b => ObjState.render c s S0 b) (ObjState.init c objs) 0 bl = .ok (obj', o1s))
    (hds : subRun (dsRender c) (dss.map fun it => (it.track, ⟨it.blocks, {}, []⟩)) 0 bl = .ok (ds', o2s))
    (hhoa : subRun (hoaRender c) (hoas.map fun it => (it.tracks, ⟨it.blocks, {}, []⟩)) 0 bl = .ok (hoa', o3s))
    (hl1 : o1s.map List.length = bl.map List.length) (hl2 : o2s.map List.length = bl.map List.length)
    (hl3 : o3s.map List.length = bl.map List.length) :
    ∃ st os, RState.run c (RState.init c objs dss hoas) bl = .ok (st, os) ∧ os.flatten =
      List.zipWith (· + ·) (List.zipWith (· + ·) (o1s.flatten.drop c.overall_delay) o2s.flatten) o3s.flatten := by
  obtain ⟨hrok, p1, p2, p3⟩ := rounds_spec bl o1s o2s o3s hl1 hl2 hl3
  obtain ⟨outs, al, hrun, hflat⟩ := aligner_run_eq c.overall_delay _ hrok
  refine ⟨_, outs, run_factor c bl (RState.init c objs dss hoas) obj' ds' hoa' o1s o2s o3s outs al hobj hds hhoa hrun, ?_⟩
  rw [hflat, p1, p2, p3]

theorem run_prefix (c : Cfg V) (objs : List (ObjItem V)) (dss : List (DsItem V)) (hoas : List (HoaItem V))
    (hok : SessionOK c objs dss hoas) (bl : List (List (List Rat))) :
    ∃ st os, RState.run c (RState.init c objs dss hoas) bl = .ok (st, os) ∧
      os.flatten = (RenderSpec.out c objs dss hoas bl.flatten).take (bl.flatten.length - c.overall_delay) := by
  obtain ⟨obj', o1s, e1, l1, r1⟩ := obj_stream_any c hok.block_size_pos objs hok.objs_ok bl
  obtain ⟨ds', o2s, e2, l2, r2⟩ := ds_stream_any c dss hok.dss_ok bl
  obtain ⟨hoa', o3s, e3, l3, r3⟩ := hoa_stream_any c hoas hok.hoas_ok bl
  obtain ⟨st, outs, hrun, hflat⟩ := run_of_streams c objs dss hoas bl e1 e2 e3 l1 l2 l3
  refine ⟨st, outs, hrun, ?_⟩
  rw [hflat]
  have hA : o1s.flatten.length = bl.flatten.length := by rw [List.length_flatten, List.length_flatten, l1]
  apply List.ext_getElem?
  intro i
  unfold RenderSpec.out
  rw [← List.map_take, List.take_range, Nat.min_eq_left (Nat.sub_le _ _), List.getElem?_map]
  simp only [List.getElem?_zipWith, List.getElem?_drop]
  by_cases hi : i < bl.flatten.length - c.overall_delay
  · have hi' : i + c.overall_delay < bl.flatten.length := Nat.add_lt_of_lt_sub hi
    have hi0 : i < bl.flatten.length := Nat.lt_of_le_of_lt (Nat.le_add_right _ _) hi'
    rw [List.getElem?_range hi, Nat.add_comm, r1 i hi', r2 i hi0, r3 i hi0]
    rfl
  · have h1 : (List.range (bl.flatten.length - c.overall_delay))[i]? = none :=
      List.getElem?_eq_none (by rw [List.length_range]; exact Nat.le_of_not_lt hi)
    have h2 : o1s.flatten[c.overall_delay + i]? = none := List.getElem?_eq_none (by rw [hA]; omega)
    rw [h1, h2]
    rfl

/-- For every configuration with `block_size ≥ 1`, every mix of accepted items, every
input and EVERY partition of it into `render` calls (empty blocks included): no call raises, and all returned blocks
followed by the tail concatenate to exactly the sample-by-sample specification `RenderSpec.out` of the concatenated
input. -/
theorem render_refines_spec (c : Cfg V) (objs : List (ObjItem V)) (dss : List (DsItem V)) (hoas : List (HoaItem V))
    (hok : SessionOK c objs dss hoas) (parts : List (List (List Rat))) :
    renderAll c objs dss hoas parts = .ok (RenderSpec.out c objs dss hoas parts.flatten) := by
  -- the session is the run over the blocks followed by the tail block; its zero frames are not seen by the specification
  obtain ⟨st, os, hrun, hflat⟩ := run_prefix c objs dss hoas hok (allBlocks c parts)
  rw [renderAll_eq_run, ← allBlocks, hrun]
  simp only
  rw [hflat, allBlocks_length, Nat.add_sub_cancel, allBlocks_flatten, out_zero_tail]

end Earverif.Renderer
