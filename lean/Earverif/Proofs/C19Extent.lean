/- C19: totality of the point and extent conversions on the table model, the image of a polar position
   with horizontal radius 0 (`polarToCart_axis`: the poles, distance 0), and the extent formulas (`_whd2xyz`, `_xyz2whd`, `local_coordinate_system`,
   `extent_polar_to_cart`, `extent_cart_to_polar`): ranges and zero extent. -/
import Earverif.Proofs.C19Round

namespace Earverif.Conv
open Real

/-- `point_cart_to_polar` never hits the sector `assert`: every Cartesian point converts. -/
theorem pointCartToPolar_total (m : Nat) (x y z : ℝ) :
    ∃ r, pointCartToPolar (RP (m + 1)) x y z = some r := by
  rw [pointCartToPolar_eq]
  split_ifs
  · exact ⟨_, rfl⟩
  · exact ⟨_, rfl⟩
  · obtain ⟨s, hs⟩ := find_cart_total m x y
    rw [hs]; exact ⟨_, rfl⟩

/-- `point_polar_to_cart` never hits the sector `assert` for azimuths in the ADM range (any elevation, any
distance). -/
theorem pointPolarToCart_total (m : Nat) (az el d : ℝ) (h1 : -180 ≤ az) (h2 : az ≤ 180) :
    ∃ r, pointPolarToCart (RP (m + 1)) az el d = some r := by
  obtain ⟨s, hs⟩ := find_polar_total m az h1 h2
  rw [pointPolarToCart_eq, hs]; exact ⟨_, rfl⟩

theorem extentPolarToCart_eq (P : Params ℝ) (az el d w h dp : ℝ) :
    extentPolarToCart P az el d w h dp = (pointPolarToCart P az el d).map fun q =>
      let (fx, fy, fz) := whd2xyz w h dp
      let (r0, r1, r2) := localCoordinateSystem az el
      (q.1, norm3 (r0.1 * fx) (r1.1 * fy) (r2.1 * fz), norm3 (r0.2.1 * fx) (r1.2.1 * fy) (r2.2.1 * fz),
        norm3 (r0.2.2 * fx) (r1.2.2 * fy) (r2.2.2 * fz)) := by
  unfold extentPolarToCart
  cases pointPolarToCart P az el d <;> rfl

theorem extentCartToPolar_eq (P : Params ℝ) (x y z xs ys zs : ℝ) :
    extentCartToPolar P x y z xs ys zs = (pointCartToPolar P x y z).map fun q =>
      let (r0, r1, r2) := localCoordinateSystem q.1.1 q.1.2.1
      (q.1, xyz2whd (norm3 (r0.1 * xs) (r0.2.1 * ys) (r0.2.2 * zs)) (norm3 (r1.1 * xs) (r1.2.1 * ys) (r1.2.2 * zs))
        (norm3 (r2.1 * xs) (r2.2.1 * ys) (r2.2.2 * zs))) := by
  unfold extentCartToPolar
  cases pointCartToPolar P x y z <;> rfl

theorem extentCartToPolar_total (m : Nat) (x y z xs ys zs : ℝ) :
    ∃ r, extentCartToPolar (RP (m + 1)) x y z xs ys zs = some r := by
  obtain ⟨q, h⟩ := pointCartToPolar_total m x y z
  rw [extentCartToPolar_eq, h]; exact ⟨_, rfl⟩

theorem extentPolarToCart_total (m : Nat) (az el d w h dp : ℝ) (h1 : -180 ≤ az) (h2 : az ≤ 180) :
    ∃ r, extentPolarToCart (RP (m + 1)) az el d w h dp = some r := by
  obtain ⟨q, hp⟩ := pointPolarToCart_total m az el d h1 h2
  rw [extentPolarToCart_eq, hp]; exact ⟨_, rfl⟩

theorem polarToCart_axis (m : Nat) (az el d z : ℝ) (h1 : -180 ≤ az) (h2 : az ≤ 180)
    (he : elToCart (RP (m + 1)) el d = (z, 0)) :
    ∃ i, pointPolarToCart (RP (m + 1)) az el d = some ((0, 0, z), i) := by
  obtain ⟨s, hs⟩ := find_polar_total m az h1 h2
  refine ⟨s.idx, ?_⟩
  rw [pointPolarToCart_eq, hs]
  simp only [Option.map_some, polarToCartIn, he, zero_mul]

theorem pmax_real (a b : ℝ) : pmax a b = max a b := by
  unfold pmax
  split_ifs with h
  · exact (max_eq_right h.le).symm
  · exact (max_eq_left (not_lt.mp h)).symm

theorem pmax3_real (a b c : ℝ) : pmax3 a b c = max (max a b) c := by
  simp [pmax3, pmax_real]

theorem whd2xyz_real (w h d : ℝ) :
    whd2xyz w h d =
      (if w < 180 then sin (w / 2 * (π / 180)) else 1,
       max (max ((1 - cos (w / 2 * (π / 180))) / 2) ((1 - cos (h / 2 * (π / 180))) / 2)) d,
       if h < 180 then sin (h / 2 * (π / 180)) else 1) := by
  simp only [whd2xyz, pmax3_real, radians_real, k, Scalar.ofRat, Scalar.sin, Scalar.cos, Rat.cast_ofNat, Rat.cast_one]

theorem pmin_real (a b : ℝ) : pmin a b = min a b := by
  unfold pmin
  split_ifs with h
  · exact (min_eq_right h.le).symm
  · exact (min_eq_left (not_lt.mp h)).symm

/-- `_xyz2whd` over ℝ after its first line, the clip `min(·, 1)`: the rest of the function, as a function of the clipped sizes -/
noncomputable def xyz2whdBody (sx sy sz : ℝ) : ℝ × ℝ × ℝ :=
  let w := 2 * (arcsin sx * (180 / π)) + sx * max (2 * (arccos (1 - 2 * sy) * (180 / π)) - 2 * (arcsin sx * (180 / π))) 0
  let h := 2 * (arcsin sz * (180 / π)) + sz * max (2 * (arccos (1 - 2 * sy) * (180 / π)) - 2 * (arcsin sz * (180 / π))) 0
  (w, h, max 0 (sy - (whd2xyz w h 0).2.1))

theorem xyz2whd_real (sx sy sz : ℝ) :
    xyz2whd sx sy sz = xyz2whdBody (min sx 1) (min sy 1) (min sz 1) := by
  simp only [xyz2whd, xyz2whdBody, pmax_real, pmin_real, degrees_real, k, Scalar.ofRat, Scalar.asin, Scalar.acos,
    Rat.cast_ofNat, Rat.cast_one, Rat.cast_zero]

theorem half_sin_mem {w : ℝ} (h0 : 0 ≤ w) (_h1 : w ≤ 360) :
    0 ≤ (if w < 180 then sin (w / 2 * (π / 180)) else 1) ∧ (if w < 180 then sin (w / 2 * (π / 180)) else 1) ≤ 1 := by
  split_ifs with h
  · refine ⟨sin_nonneg_of_nonneg_of_le_pi (by positivity) ?_, sin_le_one _⟩
    have : w / 2 * (π / 180) ≤ 180 * (π / 180) := mul_le_mul_of_nonneg_right (by linarith) (by positivity)
    calc w / 2 * (π / 180) ≤ 180 * (π / 180) := this
      _ = π := by ring
  · exact ⟨zero_le_one, le_refl _⟩

theorem half_cos_mem (w : ℝ) : 0 ≤ (1 - cos (w / 2 * (π / 180))) / 2 ∧ (1 - cos (w / 2 * (π / 180))) / 2 ≤ 1 := by
  have h1 := cos_le_one (w / 2 * (π / 180))
  have h2 := neg_one_le_cos (w / 2 * (π / 180))
  constructor <;> linarith

/-- The upper bounds on width and height are not needed (`half_sin_mem` does not use its
`_h1`: from 180 on the size is `1`); they are the ADM range, stated for the reader. -/
theorem whd2xyz_range (w h d : ℝ) (hw0 : 0 ≤ w) (hw1 : w ≤ 360) (hh0 : 0 ≤ h) (hh1 : h ≤ 360) (hd0 : 0 ≤ d)
    (hd1 : d ≤ 1) :
    (0 ≤ (whd2xyz w h d).1 ∧ (whd2xyz w h d).1 ≤ 1) ∧ (0 ≤ (whd2xyz w h d).2.1 ∧ (whd2xyz w h d).2.1 ≤ 1) ∧
    (0 ≤ (whd2xyz w h d).2.2 ∧ (whd2xyz w h d).2.2 ≤ 1) := by
  rw [whd2xyz_real]
  refine ⟨half_sin_mem hw0 hw1, ⟨?_, ?_⟩, half_sin_mem hh0 hh1⟩
  · exact le_trans hd0 (le_max_right _ _)
  · exact max_le (max_le (half_cos_mem w).2 (half_cos_mem h).2) hd1

theorem whd2xyz_y_nonneg (w h d : ℝ) (hd0 : 0 ≤ d) : 0 ≤ (whd2xyz w h d).2.1 := by
  rw [whd2xyz_real]; exact le_trans hd0 (le_max_right _ _)

/-- one of the two angle formulas of `_xyz2whd`: `a + s·max(b − a, 0)` with `0 ≤ a ≤ 180`, `b ≤ 360`, `s ∈ [0,1]` -/
theorem blend_range {a b s : ℝ} (ha0 : 0 ≤ a) (ha1 : a ≤ 180) (hb1 : b ≤ 360) (hs0 : 0 ≤ s) (hs1 : s ≤ 1) :
    0 ≤ a + s * max (b - a) 0 ∧ a + s * max (b - a) 0 ≤ 360 := by
  have hm0 : 0 ≤ max (b - a) 0 := le_max_right _ _
  have hm : max (b - a) 0 ≤ 360 - a := max_le (by linarith) (by linarith)
  have := mul_le_mul hs1 hm hm0 zero_le_one
  exact ⟨by linarith only [ha0, mul_nonneg hs0 hm0], by linarith only [this]⟩

/-- an angle `v ≤ c` radians is at most `c * (180 / π)` degrees, doubled as in `_xyz2whd` -/
theorem deg_le {v c : ℝ} (h : v ≤ c) : 2 * (v * (180 / π)) ≤ 2 * (c * (180 / π)) :=
  mul_le_mul_of_nonneg_left (mul_le_mul_of_nonneg_right h (by positivity)) zero_le_two

theorem asin_deg_range {s : ℝ} (hs0 : 0 ≤ s) : 0 ≤ 2 * (arcsin s * (180 / π)) ∧ 2 * (arcsin s * (180 / π)) ≤ 180 := by
  have h0 : 0 ≤ arcsin s := arcsin_nonneg.mpr hs0
  refine ⟨by positivity, (deg_le (arcsin_le_pi_div_two s)).trans_eq ?_⟩
  field_simp

theorem acos_deg_le (t : ℝ) : 2 * (arccos t * (180 / π)) ≤ 360 := by
  refine (deg_le (arccos_le_pi t)).trans_eq ?_
  field_simp
  norm_num

theorem xyz2whdBody_range (sx sy sz : ℝ) (hx0 : 0 ≤ sx) (hx1 : sx ≤ 1) (hy1 : sy ≤ 1) (hz0 : 0 ≤ sz)
    (hz1 : sz ≤ 1) :
    (0 ≤ (xyz2whdBody sx sy sz).1 ∧ (xyz2whdBody sx sy sz).1 ≤ 360) ∧
    (0 ≤ (xyz2whdBody sx sy sz).2.1 ∧ (xyz2whdBody sx sy sz).2.1 ≤ 360) ∧
    (0 ≤ (xyz2whdBody sx sy sz).2.2 ∧ (xyz2whdBody sx sy sz).2.2 ≤ 1) := by
  unfold xyz2whdBody
  simp only
  refine ⟨blend_range (asin_deg_range hx0).1 (asin_deg_range hx0).2 (acos_deg_le _) hx0 hx1,
    blend_range (asin_deg_range hz0).1 (asin_deg_range hz0).2 (acos_deg_le _) hz0 hz1,
    le_max_left _ _, ?_⟩
  exact max_le zero_le_one (sub_le_iff_le_add.mpr (le_add_of_le_of_nonneg hy1 (whd2xyz_y_nonneg _ _ 0 le_rfl)))

/-- ANY non-negative sizes - also sizes above 1, which the
clip `min(·, 1)` brings back - give width and height in `[0, 360]` and depth in `[0, 1]`.  Over ℝ; the binary64
evaluation is tied by the correspondence and searched. -/
theorem xyz2whd_range_clipped (sx sy sz : ℝ) (hx0 : 0 ≤ sx) (hz0 : 0 ≤ sz) :
    (0 ≤ (xyz2whd sx sy sz).1 ∧ (xyz2whd sx sy sz).1 ≤ 360) ∧
    (0 ≤ (xyz2whd sx sy sz).2.1 ∧ (xyz2whd sx sy sz).2.1 ≤ 360) ∧
    (0 ≤ (xyz2whd sx sy sz).2.2 ∧ (xyz2whd sx sy sz).2.2 ≤ 1) := by
  rw [xyz2whd_real]
  exact xyz2whdBody_range _ _ _ (le_min hx0 zero_le_one) (min_le_right _ _) (min_le_right _ _)
    (le_min hz0 zero_le_one) (min_le_right _ _)

/-- With the clip only `0 ≤ sx`, `0 ≤ sz` are used: this is `xyz2whd_range_clipped` with
the ADM range of the sizes spelled out. -/
theorem xyz2whd_range (sx sy sz : ℝ) (hx0 : 0 ≤ sx) (_hx1 : sx ≤ 1) (_hy0 : 0 ≤ sy) (_hy1 : sy ≤ 1) (hz0 : 0 ≤ sz)
    (_hz1 : sz ≤ 1) :
    (0 ≤ (xyz2whd sx sy sz).1 ∧ (xyz2whd sx sy sz).1 ≤ 360) ∧
    (0 ≤ (xyz2whd sx sy sz).2.1 ∧ (xyz2whd sx sy sz).2.1 ≤ 360) ∧
    (0 ≤ (xyz2whd sx sy sz).2.2 ∧ (xyz2whd sx sy sz).2.2 ≤ 1) :=
  xyz2whd_range_clipped sx sy sz hx0 hz0

example : (0 ≤ (xyz2whd (3 / 2 : ℝ) 2 1).1 ∧ (xyz2whd (3 / 2 : ℝ) 2 1).1 ≤ 360) :=
  (xyz2whd_range_clipped (3 / 2) 2 1 (by norm_num) (by norm_num)).1

theorem whd2xyz_zero : whd2xyz (0 : ℝ) 0 0 = (0, 0, 0) := by
  rw [whd2xyz_real]; norm_num

theorem xyz2whd_zero : xyz2whd (0 : ℝ) 0 0 = (0, 0, 0) := by
  rw [xyz2whd_real, min_eq_left zero_le_one]
  unfold xyz2whdBody
  simp only [arcsin_zero, zero_mul, mul_zero, sub_zero, arccos_one, add_zero, max_self]
  rw [whd2xyz_zero]; simp

theorem norm3_real (a b c : ℝ) : norm3 a b c = √(a * a + b * b + c * c) := rfl

theorem extentPolarToCart_zero (P : Params ℝ) (az el d : ℝ) (r : (ℝ × ℝ × ℝ) × (ℝ × ℝ × ℝ))
    (h : extentPolarToCart P az el d 0 0 0 = some r) : r.2 = (0, 0, 0) := by
  rw [extentPolarToCart_eq] at h
  obtain ⟨q, -, rfl⟩ := Option.map_eq_some_iff.mp h
  simp [whd2xyz_zero, norm3_real]

theorem extentCartToPolar_zero (P : Params ℝ) (x y z : ℝ) (r : (ℝ × ℝ × ℝ) × (ℝ × ℝ × ℝ))
    (h : extentCartToPolar P x y z 0 0 0 = some r) : r.2 = (0, 0, 0) := by
  rw [extentCartToPolar_eq] at h
  obtain ⟨q, -, rfl⟩ := Option.map_eq_some_iff.mp h
  simp [norm3_real, xyz2whd_zero]

theorem cart_real (az el d : ℝ) :
    cart az el d = (sin (-az * (π / 180)) * cos (el * (π / 180)) * d, cos (-az * (π / 180)) * cos (el * (π / 180)) * d,
      sin (el * (π / 180)) * d) := by
  simp [cart, radians_real, Scalar.sin, Scalar.cos]

theorem lcs_real (az el : ℝ) :
    localCoordinateSystem az el =
      ((cos (az * (π / 180)), sin (az * (π / 180)), 0),
       (-sin (az * (π / 180)) * cos (el * (π / 180)), cos (az * (π / 180)) * cos (el * (π / 180)), sin (el * (π / 180))),
       (sin (az * (π / 180)) * sin (el * (π / 180)), -cos (az * (π / 180)) * sin (el * (π / 180)), cos (el * (π / 180)))) := by
  have e1 : -(az - 90) * (π / 180) = π / 2 - az * (π / 180) := by ring
  have e2 : (el + 90) * (π / 180) = el * (π / 180) + π / 2 := by ring
  have e3 : -az * (π / 180) = -(az * (π / 180)) := by ring
  simp only [localCoordinateSystem, cart_real, k0, k1, k90, e1, e2, e3, zero_mul, sin_zero, cos_zero, mul_one,
    sin_pi_div_two_sub, cos_pi_div_two_sub, sin_add_pi_div_two, cos_add_pi_div_two, sin_neg, cos_neg, neg_mul, mul_neg,
    neg_neg]

/-- the rows and the columns of `local_coordinate_system` are unit vectors (`sA`, `cA`, `sE`, `cE` the sines and
cosines of azimuth and elevation) -/
theorem lcs_unit {sA cA sE cE : ℝ} (hA : sA ^ 2 + cA ^ 2 = 1) (hE : sE ^ 2 + cE ^ 2 = 1) :
    (cA * cA + sA * sA + 0 * 0 = 1 ∧ -sA * cE * (-sA * cE) + cA * cE * (cA * cE) + sE * sE = 1 ∧
      sA * sE * (sA * sE) + -cA * sE * (-cA * sE) + cE * cE = 1) ∧
    (cA * cA + -sA * cE * (-sA * cE) + sA * sE * (sA * sE) = 1 ∧
      sA * sA + cA * cE * (cA * cE) + -cA * sE * (-cA * sE) = 1 ∧ 0 * 0 + sE * sE + cE * cE = 1) := by
  refine ⟨⟨?_, ?_, ?_⟩, ?_, ?_, ?_⟩
  · linear_combination hA
  · linear_combination cE ^ 2 * hA + hE
  · linear_combination sE ^ 2 * hA + hE
  · linear_combination hA + sA ^ 2 * hE
  · linear_combination hA + cA ^ 2 * hE
  · linear_combination hE

theorem sq_scaled_le (a : ℝ) {f : ℝ} (hf0 : 0 ≤ f) (hf1 : f ≤ 1) : a * f * (a * f) ≤ a * a :=
  calc a * f * (a * f) = a * a * (f * f) := by ring
    _ ≤ a * a * 1 := mul_le_mul_of_nonneg_left (mul_le_one₀ hf1 hf0 hf1) (mul_self_nonneg a)
    _ = a * a := mul_one _

theorem norm3_scaled_mem {a b c f g h : ℝ} (hu : a * a + b * b + c * c = 1) (hf0 : 0 ≤ f) (hf1 : f ≤ 1)
    (hg0 : 0 ≤ g) (hg1 : g ≤ 1) (hh0 : 0 ≤ h) (hh1 : h ≤ 1) :
    0 ≤ norm3 (a * f) (b * g) (c * h) ∧ norm3 (a * f) (b * g) (c * h) ≤ 1 :=
  ⟨sqrt_nonneg _, sqrt_le_one.mpr (by linarith [sq_scaled_le a hf0 hf1, sq_scaled_le b hg0 hg1, sq_scaled_le c hh0 hh1])⟩

theorem extentPolarToCart_range (P : Params ℝ) (az el d w h dp : ℝ) (hw0 : 0 ≤ w) (hw1 : w ≤ 360) (hh0 : 0 ≤ h)
    (hh1 : h ≤ 360) (hd0 : 0 ≤ dp) (hd1 : dp ≤ 1) (r : (ℝ × ℝ × ℝ) × (ℝ × ℝ × ℝ))
    (hr : extentPolarToCart P az el d w h dp = some r) :
    (0 ≤ r.2.1 ∧ r.2.1 ≤ 1) ∧ (0 ≤ r.2.2.1 ∧ r.2.2.1 ≤ 1) ∧ (0 ≤ r.2.2.2 ∧ r.2.2.2 ≤ 1) := by
  rw [extentPolarToCart_eq] at hr
  obtain ⟨q, -, rfl⟩ := Option.map_eq_some_iff.mp hr
  obtain ⟨⟨x0, x1⟩, ⟨y0, y1⟩, ⟨z0, z1⟩⟩ := whd2xyz_range w h dp hw0 hw1 hh0 hh1 hd0 hd1
  obtain ⟨-, c0, c1, c2⟩ := lcs_unit (sin_sq_add_cos_sq (az * (π / 180))) (sin_sq_add_cos_sq (el * (π / 180)))
  simp only [lcs_real]
  exact ⟨norm3_scaled_mem c0 x0 x1 y0 y1 z0 z1, norm3_scaled_mem c1 x0 x1 y0 y1 z0 z1,
    norm3_scaled_mem c2 x0 x1 y0 y1 z0 z1⟩

/-- The size norms are `≥ 0` whatever the sizes, so with the clip of `_xyz2whd` the conclusion
holds of all sizes; the hypotheses are the ADM range and feed `xyz2whd_range`. -/
theorem extentCartToPolar_range (P : Params ℝ) (x y z xs ys zs : ℝ) (hx0 : 0 ≤ xs) (hx1 : xs ≤ 1) (hy0 : 0 ≤ ys)
    (hy1 : ys ≤ 1) (hz0 : 0 ≤ zs) (hz1 : zs ≤ 1) (r : (ℝ × ℝ × ℝ) × (ℝ × ℝ × ℝ))
    (hr : extentCartToPolar P x y z xs ys zs = some r) :
    (0 ≤ r.2.1 ∧ r.2.1 ≤ 360) ∧ (0 ≤ r.2.2.1 ∧ r.2.2.1 ≤ 360) ∧ (0 ≤ r.2.2.2 ∧ r.2.2.2 ≤ 1) := by
  rw [extentCartToPolar_eq] at hr
  obtain ⟨⟨⟨az, el, dist⟩, i⟩, -, rfl⟩ := Option.map_eq_some_iff.mp hr
  obtain ⟨⟨r0, r1, r2⟩, -⟩ := lcs_unit (sin_sq_add_cos_sq (az * (π / 180))) (sin_sq_add_cos_sq (el * (π / 180)))
  have n0 := norm3_scaled_mem r0 hx0 hx1 hy0 hy1 hz0 hz1
  have n1 := norm3_scaled_mem r1 hx0 hx1 hy0 hy1 hz0 hz1
  have n2 := norm3_scaled_mem r2 hx0 hx1 hy0 hy1 hz0 hz1
  simp only [lcs_real]
  exact xyz2whd_range _ _ _ n0.1 n0.2 n1.1 n1.2 n2.1 n2.2

end Earverif.Conv
