/-
`VariableBlockSizeAdapter.process` over any partition = delay by `block_size` + the block function on
aligned blocks.  Route: the loop = a per-sample machine (`step1`) folded over the block; the fold over
the concatenated stream has a closed form in terms of `blockwise`.
The hypothesis `hf` (a block of `B` rows comes back as `B` rows) is over ALL states of the block function; the
Python writes the result back in place (`self.buffer[:] = self.process_func(self.buffer)`), which raises otherwise.
-/
import Earverif.Proofs.C02Delay
namespace Earverif.Stream

variable {σ α : Type}

/-- One sample through the adapter: emit `buffer[buffer_input]`, store the input there, flush through
`f` when the buffer is full of input. -/
def Vbs.step1 (f : σ → List α → σ × List α) (B : Nat) (st : Vbs σ α) (x : α) : Vbs σ α × List α :=
  let out := slice st.buffer st.buffer_input (st.buffer_input + 1)
  let buffer := setSlice st.buffer st.buffer_input [x]
  let bi := st.buffer_input + 1
  if bi = B then
    let r := f st.fstate buffer
    (⟨r.2, 0, r.1⟩, out)
  else (⟨buffer, bi, st.fstate⟩, out)

def Vbs.fold (f : σ → List α → σ × List α) (B : Nat) : Vbs σ α → List α → Vbs σ α × List α
  | st, [] => (st, [])
  | st, x :: xs =>
    let r := Vbs.step1 f B st x
    let r2 := Vbs.fold f B r.1 xs
    (r2.1, r.2 ++ r2.2)

def Vbs.WF (B : Nat) (st : Vbs σ α) : Prop := st.buffer.length = B ∧ st.buffer_input < B

theorem Vbs.fold_append (f : σ → List α → σ × List α) (B : Nat) : ∀ (a b : List α) (st : Vbs σ α),
    Vbs.fold f B st (a ++ b) =
      ((Vbs.fold f B (Vbs.fold f B st a).1 b).1, (Vbs.fold f B st a).2 ++ (Vbs.fold f B (Vbs.fold f B st a).1 b).2) := by
  intro a
  induction a with
  | nil => intro b st; simp [Vbs.fold]
  | cons x a ih => intro b st; simp only [List.cons_append, Vbs.fold, ih, List.append_assoc]

/-- A run of samples that fits into the free part of the buffer = one slice transfer (one iteration
of the Python loop). -/
theorem Vbs.fold_chunk (f : σ → List α → σ × List α) (B : Nat) : ∀ (l : List α) (st : Vbs σ α),
    Vbs.WF B st → st.buffer_input + l.length ≤ B → l ≠ [] →
    Vbs.fold f B st l =
      (if st.buffer_input + l.length = B then
          ⟨(f st.fstate (setSlice st.buffer st.buffer_input l)).2, 0,
            (f st.fstate (setSlice st.buffer st.buffer_input l)).1⟩
        else ⟨setSlice st.buffer st.buffer_input l, st.buffer_input + l.length, st.fstate⟩,
       slice st.buffer st.buffer_input (st.buffer_input + l.length)) := by
  intro l
  induction l with
  | nil => intro st _ _ h; exact absurd rfl h
  | cons x l ih =>
    intro st hwf hfit _
    obtain ⟨hlen, hbi⟩ := hwf
    cases l with
    | nil =>
      simp only [Vbs.fold, Vbs.step1, List.length_singleton, List.append_nil]
      split <;> rfl
    | cons y l' =>
      simp only [List.length_cons] at hfit
      have hne : st.buffer_input + 1 ≠ B := by omega
      have hwf1 : Vbs.WF B (⟨setSlice st.buffer st.buffer_input [x], st.buffer_input + 1, st.fstate⟩ : Vbs σ α) :=
        ⟨(setSlice_length _ _ _ (by simp only [List.length_singleton]; omega)).trans hlen, by simp only; omega⟩
      -- the first sample is stored and the rest is a chunk from the next position; the two slice copies
      -- (into the buffer, out of the buffer) are adjacent and merge
      rw [Vbs.fold, Vbs.step1, if_neg hne, ih _ hwf1 (by simp only [List.length_cons]; omega) (List.cons_ne_nil _ _)]
      simp only [List.length_cons]
      have hadj := setSlice_setSlice_adj st.buffer st.buffer_input [x] (y :: l') (by omega)
      rw [List.length_singleton, List.singleton_append] at hadj
      rw [hadj, slice_setSlice_after st.buffer st.buffer_input [x] (st.buffer_input + 1) _ (by omega) (Nat.le_refl _),
        slice_append_slice _ _ _ _ (Nat.le_add_right _ _) (by omega), Nat.add_assoc st.buffer_input 1,
        Nat.add_comm 1]

section
variable {f : σ → List α → σ × List α} {B : Nat} (hf : ∀ s blk, blk.length = B → (f s blk).2.length = B)
include hf

theorem Vbs.step1_wf (st : Vbs σ α) (x : α) (h : Vbs.WF B st) :
    Vbs.WF B (Vbs.step1 f B st x).1 ∧ (Vbs.step1 f B st x).2.length = 1 := by
  obtain ⟨hlen, hbi⟩ := h
  have hl : (setSlice st.buffer st.buffer_input [x]).length = B := by
    rw [setSlice_length _ _ _ (by simp; omega)]; exact hlen
  constructor
  · unfold Vbs.step1
    by_cases hc : st.buffer_input + 1 = B
    · simp only [hc, if_true]
      exact ⟨hf _ _ hl, by simp only; omega⟩
    · simp only [hc, if_false]
      exact ⟨hl, by simp only; omega⟩
  · have : (slice st.buffer st.buffer_input (st.buffer_input + 1)).length = 1 := by
      rw [slice_length _ _ _ (by omega)]; omega
    simp only [Vbs.step1]
    split <;> exact this

theorem Vbs.fold_wf : ∀ (l : List α) (st : Vbs σ α), Vbs.WF B st →
    Vbs.WF B (Vbs.fold f B st l).1 ∧ (Vbs.fold f B st l).2.length = l.length := by
  intro l
  induction l with
  | nil => intro st h; exact ⟨h, rfl⟩
  | cons x l ih =>
    intro st h
    obtain ⟨h1, h2⟩ := Vbs.step1_wf hf st x h
    obtain ⟨h3, h4⟩ := ih _ h1
    simp only [Vbs.fold, List.length_append, List.length_cons]
    exact ⟨h3, by omega⟩

theorem Vbs.loop_eq_fold (inp : List α) :
    ∀ (fuel : Nat) (st : Vbs σ α) (nd : Nat) (out : List α), Vbs.WF B st → nd ≤ inp.length →
      inp.length - nd < fuel → out.length = inp.length →
      Vbs.loop f B inp fuel st nd out =
        ((Vbs.fold f B st (inp.drop nd)).1, setSlice out nd (Vbs.fold f B st (inp.drop nd)).2) := by
  intro fuel
  induction fuel with
  | zero => intro st nd out _ _ h; omega
  | succ fuel ih =>
    intro st nd out hwf hnd hfuel hout
    unfold Vbs.loop
    by_cases hlt : nd < inp.length
    · rw [if_pos hlt]
      simp only []
      generalize hk : min (inp.length - nd) (B - st.buffer_input) = k
      obtain ⟨hk1, hkn, hkb⟩ : 1 ≤ k ∧ nd + k ≤ inp.length ∧ st.buffer_input + k ≤ B := by
        have := hwf.2; omega
      have hsl : slice inp nd (nd + k) = (inp.drop nd).take k := by
        rw [slice_eq_drop_take, Nat.add_sub_cancel_left]
      have hcl : ((inp.drop nd).take k).length = k := by
        rw [List.length_take, List.length_drop, Nat.min_eq_left (Nat.le_sub_of_add_le' hkn)]
      have hchunk := Vbs.fold_chunk f B _ st hwf (by rw [hcl]; exact hkb) (List.ne_nil_of_length_pos (by rw [hcl]; exact hk1))
      rw [hcl] at hchunk
      have hwf1 := (Vbs.fold_wf hf ((inp.drop nd).take k) st hwf).1
      have hsplit : inp.drop nd = (inp.drop nd).take k ++ inp.drop (nd + k) := by
        rw [← List.drop_drop, List.take_append_drop]
      have hsk : (slice st.buffer st.buffer_input (st.buffer_input + k)).length = k := by
        rw [slice_length _ _ _ (by rw [hwf.1]; exact hkb), Nat.add_sub_cancel_left]
      have hol : (setSlice out nd (slice st.buffer st.buffer_input (st.buffer_input + k))).length = inp.length := by
        rw [setSlice_length _ _ _ (by rw [hsk, hout]; exact hkn)]; exact hout
      -- both branches of the `if` continue from the state the fold reaches after the chunk
      have hnext := ih (Vbs.fold f B st ((inp.drop nd).take k)).1 (nd + k)
        (setSlice out nd (slice st.buffer st.buffer_input (st.buffer_input + k))) hwf1 hkn (by omega) hol
      rw [hsplit, Vbs.fold_append, ← setSlice_setSlice_adj out nd _ _ (hout ▸ hnd), hsl]
      rw [hchunk] at hnext ⊢
      simp only [hsk] at hnext ⊢
      by_cases hc : st.buffer_input + k = B
      · simp only [if_pos hc] at hnext ⊢; exact hnext
      · simp only [if_neg hc] at hnext ⊢; exact hnext
    · rw [if_neg hlt, List.drop_eq_nil_of_le (Nat.le_of_not_lt hlt)]
      simp only [Vbs.fold, setSlice_nil]

theorem Vbs.process_eq_fold (z : α) (st : Vbs σ α) (hwf : Vbs.WF B st) (inp : List α) :
    Vbs.process f B z st inp = Vbs.fold f B st inp := by
  unfold Vbs.process
  rw [Vbs.loop_eq_fold hf inp _ st 0 _ hwf (Nat.zero_le _) (by omega) (by simp)]
  simp only [List.drop_zero]
  have hl := (Vbs.fold_wf hf inp st hwf).2
  apply Prod.ext
  · rfl
  · simp only [setSlice, List.take_zero, List.nil_append, Nat.zero_add, hl]
    rw [List.drop_eq_nil_of_le (by simp)]; simp

theorem Vbs.run_eq_fold (z : α) : ∀ (parts : List (List α)) (st : Vbs σ α),
    Vbs.WF B st →
    (Vbs.run f B z st parts).1.flatten = (Vbs.fold f B st parts.flatten).2 ∧
    (Vbs.run f B z st parts).2 = (Vbs.fold f B st parts.flatten).1 ∧
    (Vbs.run f B z st parts).1.map List.length = parts.map List.length := by
  intro parts
  induction parts with
  | nil => intro st _; simp [Vbs.run, Vbs.fold]
  | cons b bs ih =>
    intro st hwf
    have hw := Vbs.fold_wf hf b st hwf
    obtain ⟨h1, h2, h3⟩ := ih _ hw.1
    simp only [Vbs.run, Vbs.process_eq_fold hf z st hwf, List.flatten_cons, Vbs.fold_append,
      List.map_cons, h1, h2, h3, hw.2]
    exact ⟨trivial, trivial, trivial⟩

end

/-- `f` applied to the consecutive full `B`-blocks of `x`, threading its state; a trailing partial
block is not processed.  Final state and concatenated outputs.  The `Nat` argument is fuel (one unit per block):
`x.length + 1` is enough, and the theorems instantiate it so. -/
def blockwise (f : σ → List α → σ × List α) (B : Nat) : Nat → σ → List α → σ × List α
  | 0, s, _ => (s, [])
  | fuel + 1, s, x =>
    if B ≤ x.length then
      let r := f s (x.take B)
      let r2 := blockwise f B fuel r.1 (x.drop B)
      (r2.1, r.2 ++ r2.2)
    else (s, [])

theorem Vbs.fold_eq_blockwise (f : σ → List α → σ × List α) (B : Nat) (hB : 1 ≤ B)
    (hf : ∀ s blk, blk.length = B → (f s blk).2.length = B) :
    ∀ (fuel : Nat) (x : List α) (st : Vbs σ α), Vbs.WF B st → st.buffer_input = 0 → x.length < fuel →
      (Vbs.fold f B st x).2 = (st.buffer ++ (blockwise f B fuel st.fstate x).2).take x.length := by
  intro fuel
  induction fuel with
  | zero => intro x st _ _ h; omega
  | succ fuel ih =>
    intro x st hwf h0 hfuel
    obtain ⟨hlen, hbi⟩ := hwf
    unfold blockwise
    by_cases hx : B ≤ x.length
    · simp only [hx, if_true]
      have hsplit : x = x.take B ++ x.drop B := (List.take_append_drop B x).symm
      have htl : (x.take B).length = B := by rw [List.length_take, Nat.min_eq_left hx]
      have hchunk := Vbs.fold_chunk f B (x.take B) st ⟨hlen, hbi⟩ (by rw [h0, htl, Nat.zero_add]; exact Nat.le_refl B)
        (List.ne_nil_of_length_pos (by rw [htl]; exact hB))
      rw [h0, htl] at hchunk
      simp only [Nat.zero_add, if_true] at hchunk
      have hss : setSlice st.buffer 0 (x.take B) = x.take B := by
        rw [setSlice_zero, htl, List.drop_eq_nil_of_le (Nat.le_of_eq hlen), List.append_nil]
      have hsl : slice st.buffer 0 B = st.buffer := by
        simp only [slice, List.drop_zero]; exact List.take_of_length_le (Nat.le_of_eq hlen)
      rw [hss, hsl] at hchunk
      conv => lhs; rw [hsplit, Vbs.fold_append, hchunk]
      simp only
      have hwf' : Vbs.WF B (⟨(f st.fstate (x.take B)).2, 0, (f st.fstate (x.take B)).1⟩ : Vbs σ α) :=
        ⟨hf _ _ htl, hB⟩
      rw [ih (x.drop B) _ hwf' rfl (by rw [List.length_drop]; omega)]
      simp only [List.length_drop]
      rw [List.take_append (l₁ := st.buffer), hlen]
      have : List.take x.length st.buffer = st.buffer := List.take_of_length_le (hlen ▸ hx)
      rw [this]
    · simp only [hx, if_false, List.append_nil]
      by_cases hnil : x = []
      · subst hnil; simp [Vbs.fold]
      · have hchunk := Vbs.fold_chunk f B x st ⟨hlen, hbi⟩ (by rw [h0, Nat.zero_add]; exact Nat.le_of_not_le hx) hnil
        rw [hchunk]
        simp only [h0, Nat.zero_add, slice, List.drop_zero]

/-- The delay by `block_size` is the buffer produced by the constructor's call on a zero block. -/
theorem vbs_eq (f : σ → List α → σ × List α) (B : Nat) (z : α) (s0 : σ) (hB : 1 ≤ B)
    (hf : ∀ s blk, blk.length = B → (f s blk).2.length = B) (parts : List (List α)) :
    (Vbs.run f B z (Vbs.init f B z s0) parts).1.flatten =
      ((Vbs.init f B z s0).buffer ++
        (blockwise f B (parts.flatten.length + 1) (Vbs.init f B z s0).fstate parts.flatten).2).take
          parts.flatten.length ∧
    (Vbs.run f B z (Vbs.init f B z s0) parts).1.map List.length = parts.map List.length := by
  have hwf : Vbs.WF B (Vbs.init f B z s0) := by
    refine ⟨?_, by simp only [Vbs.init]; omega⟩
    simp only [Vbs.init]
    exact hf _ _ (by simp)
  obtain ⟨h1, _, h3⟩ := Vbs.run_eq_fold hf z parts _ hwf
  refine ⟨?_, h3⟩
  rw [h1]
  exact Vbs.fold_eq_blockwise f B hB hf _ _ _ hwf rfl (Nat.lt_succ_self _)

end Earverif.Stream
