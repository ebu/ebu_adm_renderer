/- `scatter out idx vals`, numpy's `out[idx] = vals` (`RegionHandler.handle_remap`, `QuadRegion.handle`), over ℝ.

   What the write does is said once, by reading the result: its length (`scatter_length`), an index that is not written
   (`scatter_getD_not_mem`), the `k`-th index of a list of DISTINCT indices (`scatter_getD_nodup`; `scatter_zeros_getD` on
   `zeros n`; the same two in `[i]?` form: `scatter_getElem?_not_mem`, `scatter_getElem?_nodup`).  From these: sums over the result (`sumsq_scatter`; `comb_scatter`: scatter the weights, then combine with the
   positions = combine the weights with the gathered positions), the vertex order of a quad as a permutation of `range 4`
   (`perm_range_of_isPerm`), and the unit vectors `unitV` (`scatter_unit`: a unit vector written to distinct channels is the
   unit vector of the channel). -/
import Earverif.Proofs.PointSourceReal
import Earverif.Proofs.ListLemmas

namespace Earverif.PointSource

theorem allDistinct_cons {x : Nat} {xs : List Nat} (h : allDistinct (x :: xs) = true) :
    x ∉ xs ∧ allDistinct xs = true := by
  simp only [allDistinct, Bool.and_eq_true, Bool.not_eq_true', List.contains_eq_mem, decide_eq_false_iff_not] at h
  exact h

theorem allDistinct_nodup : ∀ {l : List Nat}, allDistinct l = true → l.Nodup
  | [], _ => List.nodup_nil
  | _ :: _, h => List.nodup_cons.mpr ⟨(allDistinct_cons h).1, allDistinct_nodup (allDistinct_cons h).2⟩

theorem isPermOfRange_parts {o : List Nat} {n : Nat} (h : isPermOfRange o n = true) :
    o.length = n ∧ (∀ x ∈ o, x < n) ∧ o.Nodup := by
  simp only [isPermOfRange, Bool.and_eq_true, beq_iff_eq, List.all_eq_true, decide_eq_true_eq] at h
  exact ⟨h.1.1, h.1.2, allDistinct_nodup h.2⟩

/-- a vertex order (`ngon_vertex_order`) lists `0 … n-1` in some order -/
theorem perm_range_of_isPerm {o : List Nat} {n : Nat} (h : isPermOfRange o n = true) : o.Perm (List.range n) := by
  obtain ⟨hlen, hlt, hnd⟩ := isPermOfRange_parts h
  exact (List.subperm_of_subset hnd fun i hi => List.mem_range.mpr (hlt i hi)).perm_of_length_le (by simp [hlen])

theorem zeros_eq (n : Nat) : (zeros n : List ℝ) = List.replicate n 0 := by simp [zeros]

theorem getD_zeros (n c : Nat) : (zeros n : List ℝ).getD c 0 = 0 := by
  simp only [zeros, zero_real, List.getD_eq_getElem?_getD, List.getElem?_replicate]
  split <;> simp

theorem sumsq_replicate_zero (n : Nat) : sumsq (List.replicate n (0 : ℝ)) = 0 := by
  induction n with
  | zero => simp [sumsq]
  | succ k ih => simp [List.replicate_succ, sumsq, ih]

theorem sumsq_set : ∀ (l : List ℝ) (i : Nat) (x : ℝ), i < l.length →
    sumsq (l.set i x) = sumsq l - l.getD i 0 * l.getD i 0 + x * x
  | [], i, x, h => by simp at h
  | y :: ys, 0, x, _ => by simp [sumsq]; ring
  | y :: ys, i + 1, x, h => by
    have := sumsq_set ys i x (by simpa using h)
    simp only [List.set_cons_succ, sumsq, this, List.getD_cons_succ]
    ring

theorem scatter_length : ∀ (is : List Nat) (vs out : List ℝ), (scatter out is vs).length = out.length
  | [], _, _ => by simp [scatter]
  | _ :: _, [], _ => by simp [scatter]
  | i :: is, v :: vs, out => by simp [scatter, scatter_length is vs]

theorem scatter_map (f : ℝ → ℝ) : ∀ (idx : List Nat) (vals out : List ℝ),
    (scatter out idx vals).map f = scatter (out.map f) idx (vals.map f)
  | [], _, _ => by simp [scatter]
  | _ :: _, [], _ => by simp [scatter]
  | i :: is, v :: vs, out => by simp only [scatter, List.map_cons, scatter_map f is vs, List.map_set]

theorem scatter_nonneg : ∀ (idx : List Nat) (vals out : List ℝ), (∀ x ∈ out, 0 ≤ x) → (∀ x ∈ vals, 0 ≤ x) →
    ∀ x ∈ scatter out idx vals, 0 ≤ x
  | [], _, out, ho, _ => by simpa [scatter] using ho
  | _ :: _, [], out, ho, _ => by simpa [scatter] using ho
  | i :: is, v :: vs, out, ho, hv => by
    simp only [scatter]
    apply scatter_nonneg is vs
    · intro x hx
      rcases List.mem_or_eq_of_mem_set hx with h | h
      · exact ho x h
      · rw [h]; exact hv v (by simp)
    · intro x hx; exact hv x (by simp [hx])

theorem scatter_getD_not_mem : ∀ (idx : List Nat) (vals out : List ℝ) (c : Nat), c ∉ idx →
    (scatter out idx vals).getD c 0 = out.getD c 0
  | [], _, _, _, _ => by simp [scatter]
  | _ :: _, [], _, _, _ => by simp [scatter]
  | i :: is, v :: vs, out, c, h => by
    simp only [scatter]
    rw [scatter_getD_not_mem is vs _ c (fun hm => h (List.mem_cons_of_mem _ hm)), getD_set]
    have : ¬ (c = i ∧ i < out.length) := fun hh => h (by simp [hh.1])
    rw [if_neg this]

theorem scatter_getD_zero : ∀ (is : List Nat) (vs out : List ℝ) (c : Nat), out.getD c 0 = 0 →
    (∀ j, is[j]? = some c → vs.getD j 0 = 0) → (scatter out is vs).getD c 0 = 0
  | [], _, out, c, h, _ => by simpa [scatter] using h
  | _ :: _, [], out, c, h, _ => by simpa [scatter] using h
  | i :: is, v :: vs, out, c, h, hz => by
    rw [scatter]
    apply scatter_getD_zero is vs _ c
    · by_cases hic : i = c
      · subst hic
        have hv : v = 0 := by simpa using hz 0 (by simp)
        subst hv
        rw [List.getD_eq_getElem?_getD, List.getElem?_set]
        simp only [if_true]
        split <;> rfl
      · rw [List.getD_eq_getElem?_getD, List.getElem?_set_ne hic, ← List.getD_eq_getElem?_getD]; exact h
    · intro j hj
      simpa using hz (j + 1) (by simpa using hj)

theorem scatter_getD_nodup : ∀ (idx : List Nat) (vals out : List ℝ) (k : Nat), idx.Nodup → k < idx.length →
    k < vals.length →
    (scatter out idx vals).getD (idx.getD k 0) 0 = if idx.getD k 0 < out.length then vals.getD k 0 else 0
  | [], _, _, _, _, hk, _ => by simp at hk
  | _ :: _, [], _, _, _, _, hk => by simp at hk
  | i :: is, v :: vs, out, 0, hnd, _, _ => by
    have hi : i ∉ is := (List.nodup_cons.mp hnd).1
    simp only [scatter, List.getD_cons_zero]
    rw [scatter_getD_not_mem is vs _ i hi, getD_set]
    by_cases h : i < out.length
    · simp [h]
    · simp only [h, and_false, if_false]
      rw [List.getD_eq_getElem?_getD, List.getElem?_eq_none (by omega)]; rfl
  | i :: is, v :: vs, out, k + 1, hnd, hk, hk' => by
    simp only [scatter, List.getD_cons_succ]
    have := scatter_getD_nodup is vs (out.set i v) k (List.nodup_cons.mp hnd).2 (by simpa using hk) (by simpa using hk')
    rw [this, List.length_set]

theorem scatter_getElem?_not_mem (idx : List Nat) (vals out : List ℝ) (j : Nat) (h : j ∉ idx) :
    (scatter out idx vals)[j]? = out[j]? := by
  by_cases hj : j < out.length
  · rw [List.getElem?_eq_getElem hj]
    refine getElem?_of_getD (d := 0) (by rw [scatter_length]; exact hj) ?_
    rw [scatter_getD_not_mem idx vals out j h, List.getD_eq_getElem?_getD, List.getElem?_eq_getElem hj]; rfl
  · rw [List.getElem?_eq_none (by rw [scatter_length]; omega), List.getElem?_eq_none (by omega)]

theorem scatter_getElem?_nodup (idx : List Nat) (vals out : List ℝ) (hnd : idx.Nodup) (hr : ∀ i ∈ idx, i < out.length)
    (k i : Nat) (x : ℝ) (hi : idx[k]? = some i) (hx : vals[k]? = some x) : (scatter out idx vals)[i]? = some x := by
  obtain ⟨hk, rfl⟩ := List.getElem?_eq_some_iff.mp hi
  obtain ⟨hk', rfl⟩ := List.getElem?_eq_some_iff.mp hx
  have hlt := hr _ (List.getElem_mem hk)
  have := scatter_getD_nodup idx vals out k hnd hk hk'
  simp only [List.getD_eq_getElem?_getD, List.getElem?_eq_getElem hk, List.getElem?_eq_getElem hk', Option.getD_some,
    if_pos hlt] at this
  exact getElem?_of_getD (d := 0) (by rw [scatter_length]; exact hlt) (by rw [List.getD_eq_getElem?_getD]; exact this)

theorem scatter_zeros_getD (n : Nat) (ch : List Nat) (vals : List ℝ) (hnd : ch.Nodup) (hlen : ch.length = vals.length)
    (c : Nat) :
    (scatter (zeros n) ch vals).getD c 0 = if c ∈ ch ∧ c < n then vals.getD (ch.idxOf c) 0 else 0 := by
  by_cases hc : c ∈ ch
  · have hk := List.idxOf_lt_length_of_mem hc
    have := scatter_getD_nodup ch vals (zeros n) (ch.idxOf c) hnd hk (hlen ▸ hk)
    rw [getD_idxOf 0 hc] at this
    rw [this]
    simp [hc, zeros]
  · rw [scatter_getD_not_mem ch vals _ c hc, getD_zeros]
    simp [hc]

theorem scatter3_getD (n c0 c1 c2 c : Nat) (v0 v1 v2 : ℝ) :
    (scatter (zeros n) [c0, c1, c2] [v0, v1, v2]).getD c 0 =
      if c = c2 ∧ c2 < n then v2 else if c = c1 ∧ c1 < n then v1 else if c = c0 ∧ c0 < n then v0 else 0 := by
  simp only [scatter, getD_set, getD_zeros, List.length_set]
  simp [zeros]

theorem scatter_two (n m : Nat) (ch : List Nat) (hnd : ch.Nodup) (hlen : ch.length = m) (c0 c1 : Nat) (h01 : c0 ≠ c1)
    (h0 : c0 < m) (h1 : c1 < m) (a b : ℝ) (c : Nat) :
    (scatter (zeros n) ch (((zeros m).set c0 a).set c1 b)).getD c 0 =
      (if c = ch.getD c0 0 ∧ c < n then a else 0) + (if c = ch.getD c1 0 ∧ c < n then b else 0) := by
  -- entry `c` is read by `scatter_zeros_getD`, the written vector by `hW`; `hiff` matches positions through `idxOf`
  have hW : ∀ k, ((((zeros m : List ℝ).set c0 a).set c1 b)).getD k 0 =
      if k = c1 then b else if k = c0 then a else 0 := by
    intro k
    rw [getD_set, getD_set, getD_zeros]
    simp only [List.length_set, zeros, List.length_replicate]
    by_cases e1 : k = c1
    · simp [e1, h1]
    · by_cases e0 : k = c0
      · simp [e0, h0, h01]
      · simp [e1, e0]
  -- `c` is the entry of `ch` at position `k` iff it occurs in `ch`, at position `k`
  have hiff : ∀ k, k < m → (c = ch.getD k 0 ↔ c ∈ ch ∧ ch.idxOf c = k) := by
    intro k hk
    have hk' : k < ch.length := by omega
    constructor
    · rintro rfl
      rw [List.getD_eq_getElem?_getD, List.getElem?_eq_getElem hk']
      exact ⟨List.getElem_mem hk', hnd.idxOf_getElem k hk'⟩
    · rintro ⟨hc, rfl⟩
      exact (getD_idxOf 0 hc).symm
  rw [scatter_zeros_getD n ch _ hnd (by simp [zeros, hlen]) c, hW]
  simp only [hiff c0 h0, hiff c1 h1]
  by_cases hc : c ∈ ch ∧ c < n
  · by_cases e1 : ch.idxOf c = c1
    · simp [hc, e1, h01.symm]
    · by_cases e0 : ch.idxOf c = c0 <;> simp [hc, e1, e0, h01]
  · by_cases hm : c ∈ ch
    · have hn : ¬ c < n := fun h => hc ⟨hm, h⟩
      simp [hm, hn]
    · simp [hm]

theorem sumsq_scatter : ∀ (idx : List Nat) (vals out : List ℝ), idx.Nodup → idx.length = vals.length →
    (∀ i ∈ idx, i < out.length ∧ out.getD i 0 = 0) → sumsq (scatter out idx vals) = sumsq out + sumsq vals
  | [], [], out, _, _, _ => by simp [scatter, sumsq]
  | [], _ :: _, _, _, hl, _ => by simp at hl
  | _ :: _, [], _, _, hl, _ => by simp at hl
  | i :: is, v :: vs, out, hnd, hl, h => by
    obtain ⟨hi, hnd⟩ := List.nodup_cons.mp hnd
    have h0 := h i (by simp)
    rw [scatter, sumsq_scatter is vs _ hnd (by simpa using hl), sumsq_set _ _ _ h0.1, h0.2, sumsq]
    · ring
    · intro j hj
      have hji : ¬(j = i ∧ i < out.length) := fun e => hi (by rw [← e.1]; exact hj)
      rw [List.length_set, getD_set, if_neg hji]
      exact h j (by simp [hj])

theorem scatter4_sumsq {o : List Nat} (h : isPermOfRange o 4 = true) (a b c d : ℝ) :
    sumsq (scatter (zeros 4) o [a, b, c, d]) = a * a + b * b + c * c + d * d := by
  obtain ⟨hlen, hlt, hnd⟩ := isPermOfRange_parts h
  rw [sumsq_scatter o [a, b, c, d] _ hnd hlen fun i hi => ⟨by simpa [zeros] using hlt i hi, getD_zeros 4 i⟩, zeros_eq,
    sumsq_replicate_zero]
  simp only [sumsq, zero_real]; ring

theorem add3_eq_add (a b : Vec3 ℝ) : add3 a b = a + b := by rfl

theorem zero3_real : (zero3 : Vec3 ℝ) = 0 := by
  simp only [zero3, zero_real]; rfl

theorem comb_set : ∀ (l : List ℝ) (qs : List (Vec3 ℝ)) (i : Nat) (x : ℝ), i < l.length → i < qs.length →
    l.getD i 0 = 0 → comb (l.set i x) qs = comb l qs + smul3 x (qs.getD i zero3)
  | [], _, i, x, h, _, _ => by simp at h
  | _ :: _, [], i, x, _, h, _ => by simp at h
  | y :: ys, q :: qs, 0, x, _, _, h0 => by
    simp only [List.getD_cons_zero] at h0
    subst h0
    have : smul3 (0 : ℝ) q = 0 := by simp [smul3]
    simp only [List.set_cons_zero, comb, List.getD_cons_zero, add3_eq_add]
    rw [this, zero_add, add_comm]
  | y :: ys, q :: qs, i + 1, x, h, h', h0 => by
    have := comb_set ys qs i x (by simpa using h) (by simpa using h') (by simpa using h0)
    simp only [List.set_cons_succ, comb, this, List.getD_cons_succ, add3_eq_add, add_assoc]

theorem comb_zeros : ∀ (n : Nat) (qs : List (Vec3 ℝ)), comb (zeros n : List ℝ) qs = 0
  | 0, _ => by simp [zeros, comb, zero3_real]
  | n + 1, [] => by simp [zeros, comb, List.replicate_succ, zero3_real]
  | n + 1, q :: qs => by
    have := comb_zeros n qs
    simp only [zeros, zero_real] at this
    simp only [zeros, zero_real, List.replicate_succ, comb, this, add3_eq_add]
    simp [smul3]

theorem comb_scatter (qs : List (Vec3 ℝ)) : ∀ (idx : List Nat) (ws out : List ℝ), idx.Nodup → idx.length = ws.length →
    (∀ i ∈ idx, i < out.length ∧ i < qs.length ∧ out.getD i 0 = 0) →
    comb (scatter out idx ws) qs = comb out qs + comb ws (idx.map fun i => qs.getD i zero3)
  | [], [], out, _, _, _ => by simp [scatter, comb, zero3_real]
  | [], _ :: _, _, _, hl, _ => by simp at hl
  | _ :: _, [], _, _, hl, _ => by simp at hl
  | i :: is, w :: ws, out, hnd, hl, h => by
    obtain ⟨hi, hnd⟩ := List.nodup_cons.mp hnd
    have h0 := h i (by simp)
    rw [scatter, comb_scatter qs is ws _ hnd (by simpa using hl), comb_set _ _ _ _ h0.1 h0.2.1 h0.2.2,
      List.map_cons, comb, add3_eq_add, add_assoc]
    intro j hj
    have hji : ¬(j = i ∧ i < out.length) := fun e => hi (by rw [← e.1]; exact hj)
    rw [List.length_set, getD_set, if_neg hji]
    exact h j (by simp [hj])

namespace Cover

/-- the unit vector `e_k` of length `n` (all zeros if `k ≥ n`) -/
noncomputable def unitV (n k : Nat) : List ℝ := (List.replicate n (0 : ℝ)).set k 1

theorem unitV_zero (n : Nat) : unitV (n + 1) 0 = 1 :: List.replicate n 0 := by
  simp [unitV, List.replicate_succ]

theorem unitV_succ (n k : Nat) : unitV (n + 1) (k + 1) = 0 :: unitV n k := by
  simp [unitV, List.replicate_succ]

theorem length_unitV (n k : Nat) : (unitV n k).length = n := by simp [unitV]

theorem sumsq_unitV (n k : Nat) (h : k < n) : sumsq (unitV n k) = 1 := by
  rw [unitV, sumsq_set _ _ _ (by simpa using h), sumsq_replicate_zero, ← zeros_eq, getD_zeros]
  ring

theorem normalise_unitV (n k : Nat) (h : k < n) : normalise (unitV n k) = unitV n k := by
  unfold normalise norm
  rw [sumsq_unitV n k h, sqrt_real, Real.sqrt_one]
  simp

theorem vecList_unit :
    vecList ((1 : ℝ), (0 : ℝ), (0 : ℝ)) = unitV 3 0 ∧ vecList ((0 : ℝ), (1 : ℝ), (0 : ℝ)) = unitV 3 1 ∧
      vecList ((0 : ℝ), (0 : ℝ), (1 : ℝ)) = unitV 3 2 := by
  simp [vecList, unitV, List.replicate]

theorem getD_unitV (n k c : Nat) : (unitV n k).getD c 0 = if c = k ∧ k < n then 1 else 0 := by
  unfold unitV
  rw [getD_set, List.length_replicate, ← zeros_eq, getD_zeros]

theorem scatter_unit (n : Nat) (is : List Nat) (s c : Nat) (h : is[s]? = some c) (hd : is.Nodup) :
    scatter (zeros n) is (unitV is.length s) = unitV n c := by
  obtain ⟨hs, rfl⟩ := List.getElem?_eq_some_iff.mp h
  refine ext_getD 0 (by rw [scatter_length, length_unitV]; simp [zeros]) fun k => ?_
  rw [scatter_zeros_getD n is _ hd (length_unitV _ _).symm k, getD_unitV, getD_unitV]
  -- entry `k` is written from position `idxOf k`, which is `s` exactly when `k = is[s]`
  by_cases hks : k = is[s]
  · subst hks
    simp [hd.idxOf_getElem s hs, hs, List.getElem_mem hs]
  · have : ¬ is.idxOf k = s := fun e => hks (by subst e; exact (List.getElem_idxOf _).symm)
    simp [hks, this]

end Cover

end Earverif.PointSource
