/-
Transliteration of `ear.core.select_items.select_items.select_rendering_items`
(+ `utils.py`, `hoa.py`) over the index-based document of `Model/Adm.lean`.

Generators become lists in yield order, exceptions become `Except Err`.
`validate_structure` is NOT modelled: the model describes selection on documents
that pass validation (no object loops, pack/channel multitree, object parameters
only in leaves, consistent alternativeValueSet references, ...).

The track allocation is `pack_allocation.allocate_packs` as modelled for C07
(`Model/PackAlloc.lean`, imported): `selectPackMapping` builds the `AllocationPack`s
(`get_wrapped_packs`, including the three usages of Matrix packs), the `AllocationTrackUID`s
and calls `PackAlloc.selectPackMapping`; `outputOf` is `output_pack` /
`output_channel_allocation` (nested track specs for matrix packs, type from `Model/TrackSpec.lean`).
Not modelled: `validate_selected_audioTrackUID` (tracks always have a track index, a pack and a
channel format here).
Core Lean only.
-/
import Earverif.Model.Adm
import Earverif.Model.PackAlloc
import Earverif.Model.TrackSpec
import Earverif.Model.AdmV
namespace Earverif.Adm

inductive Err where
  | notComplementary   -- AdmError "selected audioObject .. is not part of any complementary audioObject group"
  | multipleSelected   -- AdmError "multiple audioObjects selected from complementary object group"
  | conflicting        -- AdmFormatRefError "Conflicting format references"
  | ambiguous          -- AdmFormatRefError "Ambiguous format references"
  | pathParamConflict  -- AdmError "Conflicting .. values in path" (get_path_param)
  | paramMismatch      -- AdmError "All audioChannelFormats in a single audioPackFormat must share .." (get_single_param)
  | notImplemented     -- NotImplementedError in _get_rendering_items
  | internal           -- cannot happen on validated documents (ValueError/IndexError in Python)
  deriving DecidableEq, Repr

/-- `for x in xs: ... f(x)` with exceptions: first error in iteration order wins. -/
def mapE {α β : Type} (f : α → Except Err β) : List α → Except Err (List β)
  | [] => .ok []
  | x :: xs =>
    match f x with
    | .error e => .error e
    | .ok y =>
      match mapE f xs with
      | .error e => .error e
      | .ok ys => .ok (y :: ys)

/-- nested generator loops: `for x in xs: for y in f(x): yield y`. -/
def flatMapE {α β : Type} (f : α → Except Err (List β)) (xs : List α) : Except Err (List β) :=
  match mapE f xs with
  | .error e => .error e
  | .ok ys => .ok ys.flatten

/-- `_ItemSelectionState` after `_select_programme_content_objects`. -/
structure State where
  programme : Option Nat
  content : Option Nat
  objPath : Option (List Nat)
  deriving DecidableEq, Inhabited

/-! ### programme / content / object paths -/

/-- `min(programmes, key=id)`: position of the first programme with the lowest id. -/
def minByIdGo : List Programme → Nat → Option (Nat × Nat) → Option (Nat × Nat)
  | [], _, best => best
  | p :: rest, i, none => minByIdGo rest (i + 1) (some (i, p.idKey))
  | p :: rest, i, some (bi, bk) =>
    if p.idKey < bk then minByIdGo rest (i + 1) (some (i, p.idKey))
    else minByIdGo rest (i + 1) (some (bi, bk))

def minById (ps : List Programme) : Option Nat := (minByIdGo ps 0 none).map (·.1)

/-- `_select_programme` (the `assert in_by_id` on a given programme is the
driver's range check). -/
def selectProgramme (a : Adm) (given : Option Nat) : Option Nat :=
  match given with
  | some p => some p
  | none =>
    match a.programmes with
    | [] => none
    | [_] => some 0
    | ps => minById ps

/-- `_select_content`. -/
def selectContent (a : Adm) (st : State) : List State :=
  match st.programme with
  | some p => (a.prog p).contents.map fun c => { st with content := some c }
  | none => [st]

/-- `_root_objects`. -/
def rootObjects (a : Adm) : List Nat :=
  let nonRoot := a.objects.flatMap (·.subObjects)
  (List.range a.objects.length).filter fun i => !nonRoot.contains i

/-- `_select_root_objects`. -/
def selectRootObjects (a : Adm) (st : State) : List Nat :=
  match st.content with
  | some c => (a.cont c).objects
  | none => rootObjects a

/-- `utils._paths_from` (recursive generator) with fuel. -/
def pathsFrom (children : Nat → List Nat) : Nat → Nat → List (List Nat)
  | 0, _ => []
  | fuel + 1, r => [r] :: (children r).flatMap fun s => (pathsFrom children fuel s).map (r :: ·)

def Adm.subs (a : Adm) (i : Nat) : List Nat := (a.obj i).subObjects

/-- `utils.object_paths_from`; fuel = number of objects (loops are rejected by
validation first). -/
def objectPathsFrom (a : Adm) (r : Nat) : List (List Nat) :=
  pathsFrom a.subs a.objects.length r

/-- `_select_object_paths`. -/
def selectObjectPaths (a : Adm) (st : State) : List State :=
  (selectRootObjects a st).flatMap fun r =>
    (objectPathsFrom a r).map fun p => { st with objPath := some p }

/-- `_select_programme_content_objects`. -/
def selectPCO (a : Adm) (given : Option Nat) : List State :=
  if a.programmes ≠ [] ∨ a.objects ≠ [] then
    let st : State := { programme := selectProgramme a given, content := none, objPath := none }
    (selectContent a st).flatMap (selectObjectPaths a)
  else [{ programme := none, content := none, objPath := none }]

/-! ### complementary objects -/

def compRoots (a : Adm) : List Nat :=
  (List.range a.objects.length).filter fun i => (a.obj i).complementary ≠ []

/-- `objects_in_group`. -/
def compGroup (a : Adm) (r : Nat) : List Nat := r :: (a.obj r).complementary

/-- `all_selected` of `_select_complementary_objects`. -/
def compAllSelected (a : Adm) (sel : List Nat) : List Nat :=
  sel ++ (compRoots a).filter fun r => !(compGroup a r).any (sel.contains ·)

/-- `_select_complementary_objects`: the objects to ignore. -/
def selectComplementary (a : Adm) (sel : List Nat) : Except Err (List Nat) :=
  let roots := compRoots a
  let allComp := roots.flatMap (compGroup a)
  if sel.any (fun s => !allComp.contains s) then .error .notComplementary
  else
    let allSel := compAllSelected a sel
    if roots.any (fun r => ((compGroup a r).filter (allSel.contains ·)).length > 1) then
      .error .multipleSelected
    else .ok (roots.flatMap fun r => (compGroup a r).filter (fun o => !allSel.contains o))

/-- `_select_only_selected_complementary`. -/
def onlySelected (ign : List Nat) (st : State) : List State :=
  match st.objPath with
  | none => [st]
  | some p => if p.any (ign.contains ·) then [] else [st]

/-! ### pack / track allocation: `_PackAllocator` on top of `pack_allocation.allocate_packs` (C07 model) -/

def Formats.packSubs (f : Formats) (i : Nat) : List Nat := (f.pack i).subPacks

/-- `utils.pack_format_paths_from`. -/
def packPathsFrom (f : Formats) (p : Nat) : List (List Nat) :=
  pathsFrom f.packSubs f.packs.length p

/-- `(pack_formats, channel_format) for pack_formats in pack_format_paths_from(p)
for channel_format in pack_formats[-1].audioChannelFormats`. -/
def slots (f : Formats) (p : Nat) : List (List Nat × Nat) :=
  (packPathsFrom f p).flatMap fun path => (f.pack (path.getLastD 0)).channels.map fun ch => (path, ch)

/-- `_PackAllocator.channel_format_for_track_uid`. -/
def trackChannel (f : Formats) (u : Nat) : Nat :=
  match (f.uid u).ref with
  | .trackFormat tf => f.streamFormats.getD (f.trackFormats.getD tf 0) 0
  | .channel c => c

/-- `RegularAllocationPack` / `MatrixAllocationPack`. -/
inductive WKind where
  | regular
  | matrix
  deriving DecidableEq, Inhabited

/-- an `OutputAllocationPack`: `root_pack` and the `AllocationChannel`s to match.  `id` stands for
the identity of the Python object: `3 * root + variant` (variant 0: regular pack or direct/decode
matrix use, 1: pre-applied matrix use, 2: encode-then-decode use), distinct for distinct objects. -/
structure WPack where
  id : Nat
  kind : WKind
  root : Nat
  channels : List PackAlloc.Channel
  deriving DecidableEq, Inhabited

/-- `wrap_non_matrix_pack`. -/
def wrapRegular (f : Formats) (p : Nat) : WPack :=
  ⟨3 * p, .regular, p, (slots f p).map fun s => ⟨s.2, s.1⟩⟩

/-- `wrap_matrix_pack` (`matrix.type_of`, `matrix.input_pack_format`): direct / decode use,
pre-applied use, and for decode matrices encode-then-decode use; encode matrices are not wrapped. -/
def wrapMatrix (f : Formats) (p : Nat) : Except Err (List WPack) :=
  let pk := f.pack p
  let flat (q fixed : Nat) : List PackAlloc.Channel := (slots f q).map fun s => ⟨s.2, [fixed]⟩
  let preApplied : WPack := ⟨3 * p + 1, .matrix, p, (slots f p).map fun s => ⟨s.2, s.1⟩⟩
  match pk.inputPack, pk.outputPack with
  | some i, some _ => .ok [⟨3 * p, .matrix, p, flat i p⟩, preApplied]     -- DIRECT
  | some _, none => .ok []                                                -- ENCODE
  | none, some _ =>                                                       -- DECODE
    match pk.encodePacks with
    | [e] =>
      match (f.pack e).inputPack with
      | some ei => .ok [⟨3 * p, .matrix, p, flat e p⟩, preApplied, ⟨3 * p + 2, .matrix, p, flat ei e⟩]
      | none => .error .internal
    | _ => .error .internal
  | none, none => .error .internal

/-- `_PackAllocator.get_wrapped_packs` (= `self.packs`). -/
def wrappedPacks (f : Formats) : Except Err (List WPack) :=
  flatMapE (fun p => if (f.pack p).type ≠ 2 then .ok [wrapRegular f p] else wrapMatrix f p)
    (List.range f.packs.length)

/-- a track specification (`metadata_input.TrackSpec` subclasses; the C20 model's type). -/
abbrev TSpec := Earverif.TrackSpec.Spec Rat

instance : Inhabited TSpec := ⟨.silent⟩

/-- one allocated *output* pack: `output_pack` and `output_channel_allocation`. -/
structure AllocPack where
  pack : Nat
  alloc : List (Nat × TSpec)
  deriving Inhabited

/-- `_PackAllocator.get_track_spec` on an allocation entry (`uids` are the selected track UIDs,
an `AllocationTrackUID` is identified by its position among them). -/
def slotSpec (f : Formats) (uids : List Nat) (s : PackAlloc.Slot) : Except Err TSpec :=
  match s with
  | none => .error .internal                       -- `_EMPTY` never escapes a solution
  | some none => .ok .silent
  | some (some t) =>
    match uids[t.id]? with
    | some u => .ok (.direct (((f.uid u).trackIndex : Int) - 1))
    | none => .error .internal

/-- `get_track_spec(channel_format)` inside `MatrixAllocationPack.output_channel_allocation`:
a channel of the input allocation gives its track; otherwise the channel must be a matrix channel
and its coefficients are applied to the specs of their input channels. -/
def matrixSpec (f : Formats) (inputs : List (Nat × TSpec)) : Nat → Nat → Except Err TSpec
  | 0, _ => .error .internal
  | fuel + 1, ch =>
    match inputs.find? (·.1 == ch) with
    | some s => .ok s.2
    | none =>
      if (f.chan ch).type ≠ 2 then .error .internal
      else
        match mapE (fun (c : Coeff) =>
            match matrixSpec f inputs fuel c.input with
            | .error e => .error e
            | .ok s => .ok (Earverif.TrackSpec.Spec.matrix s c.gain c.delay)) (f.chan ch).matrix.coeffs with
        | .error e => .error e
        | .ok specs => .ok (.gain (.mix specs) (f.chan ch).matrix.gain)

/-- `RegularAllocationPack.output_channel_allocation`: `(channel.channel_format, get_track_spec(track))`. -/
def slotEntry (f : Formats) (uids : List Nat) (cs : PackAlloc.Channel × PackAlloc.Slot) : Except Err (Nat × TSpec) :=
  match slotSpec f uids cs.2 with
  | .error e => .error e
  | .ok s => .ok (cs.1.cf, s)

/-- `get_channel_allocation(matrix_channel)`: `(block_format.outputChannelFormat, get_track_spec(matrix_channel))`. -/
def matrixEntry (f : Formats) (inputs : List (Nat × TSpec)) (mc : Nat) : Except Err (Nat × TSpec) :=
  match (f.chan mc).matrix.outputChannel with
  | none => .error .internal
  | some oc =>
    match matrixSpec f inputs (f.channels.length + 1) mc with
    | .error e => .error e
    | .ok s => .ok (oc, s)

/-- `pack.pack.output_pack`, `pack.pack.output_channel_allocation(pack.allocation)`.  The class of
the `OutputAllocationPack` (`RegularAllocationPack` / `MatrixAllocationPack`) was fixed in
`get_wrapped_packs` by the type of its `root_pack`, so it is read off the root pack here. -/
def outputOf (f : Formats) (uids : List Nat) (al : PackAlloc.Allocated) : Except Err AllocPack :=
  let root := al.pack.root
  match mapE (slotEntry f uids) al.allocation with
  | .error e => .error e
  | .ok inputs =>
    if (f.pack root).type ≠ 2 then .ok ⟨root, inputs⟩
    else
      match (f.pack root).outputPack with
      | none => .error .internal
      | some out =>
        match mapE (matrixEntry f inputs) (f.pack root).channels with
        | .error e => .error e
        | .ok al' => .ok ⟨out, al'⟩

/-- the `allocate_packs` problem of a state: `get_selected_packs_tracks_silent` and the
`AllocationTrackUID`s; also returns the selected track UIDs. -/
def allocProblem (a : Adm) (st : State) (wps : List WPack) : PackAlloc.Problem × List Nat :=
  let f := a.fmt
  let packs : List PackAlloc.Pack := wps.map fun w => ⟨w.id, w.root, w.channels⟩
  let sel : List Nat × Option (List Nat) × Nat :=
    match st.objPath with
    | some p =>
      let o := a.obj (p.getLastD 0)
      let real := o.tracks.filterMap id
      (real, some o.packs, o.tracks.length - real.length)
    | none => (List.range f.trackUIDs.length, none, 0)
  let tracks : List PackAlloc.Track := sel.1.zipIdx.map fun ui => ⟨ui.2, trackChannel f ui.1, (f.uid ui.1).pack⟩
  (⟨packs, tracks, sel.2.1, sel.2.2⟩, sel.1)

/-- `select_pack_mapping`: exactly one solution of `allocate_packs`, else
"Conflicting"/"Ambiguous format references". -/
def selectPackMapping (a : Adm) (st : State) : Except Err (List AllocPack) :=
  match wrappedPacks a.fmt with
  | .error e => .error e
  | .ok wps =>
    let pu := allocProblem a st wps
    match PackAlloc.selectPackMapping pu.1 with
    | .conflicting => .error .conflicting
    | .ambiguous => .error .ambiguous
    | .accepted sol => mapE (outputOf a.fmt pu.2) sol

/-! ### per-channel data -/

/-- `ExtraData` (`screen = some 0` is `default_screen`). -/
structure Extra where
  objectStart : Option Rat := none
  objectDuration : Option Rat := none
  screen : Option Nat := some 0
  lowPass : Option Rat := none
  highPass : Option Rat := none
  absDist : Option Rat := none
  gain : Rat := 1
  mute : Bool := false
  posOff : Option Nat := none
  deriving DecidableEq, Inhabited

/-- `HOATypeMetadata` without its extra data. -/
structure HoaMeta where
  rtime : Option Rat
  duration : Option Rat
  orders : List Int
  degrees : List Int
  gains : List Rat
  importances : List Int
  normalization : Nat
  nfcRefDist : Option Rat
  screenRef : Bool
  deriving DecidableEq, Inhabited

/-- A rendering item; non-HOA items have singleton `tracks`/`channels`/`packPaths`/`importances`. -/
structure Item where
  kind : Nat
  tracks : List TSpec               -- track specs (DirectTrackSpec / SilentTrackSpec / matrix trees)
  channels : List Nat
  programme : Option Nat
  content : Option Nat
  objPath : Option (List Nat)
  packPaths : List (List Nat)
  extra : Extra
  importances : List (Option Int × Option Int)
  blocks : List Nat
  hoa : Option HoaMeta
  deriving Inhabited

/-- `_get_pack_format_path`. -/
def getPackFormatPath (f : Formats) (p ch : Nat) : Except Err (List Nat) :=
  match (packPathsFrom f p).filter fun path => (f.pack (path.getLastD 0)).channels.contains ch with
  | [path] => .ok path
  | _ => .error .internal

/-- `utils.get_path_param` on the list of attribute values along a path. -/
def getPathParam {β : Type} [DecidableEq β] (vals : List (Option β)) : Except Err (Option β) :=
  match vals.filterMap id with
  | [] => .ok none
  | x :: rest => if rest.any (· != x) then .error .pathParamConflict else .ok (some x)

def checkPairs {α β : Type} [DecidableEq β] (f : α → Except Err β) : List α → Except Err Unit
  | a :: b :: rest =>
    match f a with
    | .error e => .error e
    | .ok x =>
      match f b with
      | .error e => .error e
      | .ok y => if x ≠ y then .error .paramMismatch else checkPairs f (b :: rest)
  | _ => .ok ()

/-- `utils.get_single_param`. -/
def getSingleParam {α β : Type} [DecidableEq β] (ppc : List α) (f : α → Except Err β) : Except Err β :=
  match checkPairs f ppc with
  | .error e => .error e
  | .ok () =>
    match ppc with
    | [] => .error .internal
    | a :: _ => f a

/-- the leaf object of a state (`state.audioObject`). -/
def State.leaf (a : Adm) (st : State) : Option Obj := st.objPath.map fun p => a.obj (p.getLastD 0)

/-- `_get_alternativeValueSet`: the last alternativeValueSet referenced from
the programme, then the content, that belongs to the leaf object. -/
def getAvs (a : Adm) (st : State) : Option Avs :=
  match st.leaf a with
  | none => none
  | some o =>
    let refs := (match st.programme with | some q => (a.prog q).avs | none => []) ++
                (match st.content with | some c => (a.cont c).avs | none => [])
    (refs.filterMap fun l => o.avs.find? (·.label == l)).getLast?

/-- the part of `_get_extra_data` that cannot fail. -/
def extraOf (a : Adm) (st : State) (chan : Option Nat) (absDist : Option Rat) : Extra :=
  let e : Extra := {}
  let e := match st.programme with | some p => { e with screen := (a.prog p).screen } | none => e
  let e := match chan with
    | some c => { e with lowPass := (a.fmt.chan c).lowPass, highPass := (a.fmt.chan c).highPass }
    | none => e
  let e := { e with absDist := absDist }
  let e := match st.leaf a with
    | some o => { e with objectStart := o.start, objectDuration := o.duration, gain := o.gain,
                         mute := o.mute, posOff := o.posOff }
    | none => e
  match getAvs a st with
  | none => e
  | some v =>
    let e := match v.gain with | some g => { e with gain := g } | none => e
    let e := match v.mute with | some m => { e with mute := m } | none => e
    match v.posOff with | some o => { e with posOff := some o } | none => e

/-- `_get_extra_data`. -/
def getExtraData (a : Adm) (st : State) (ppc : List (List Nat × Nat)) (chan : Option Nat) :
    Except Err Extra :=
  match getSingleParam ppc (fun pc => getPathParam (pc.1.map fun p => (a.fmt.pack p).absDist)) with
  | .error e => .error e
  | .ok ad => .ok (extraOf a st chan ad)

def impLt : Option Int → Option Int → Bool
  | some x, some y => x < y
  | some _, none => true
  | none, _ => false

/-- `min(values, key=None -> inf)`: first minimal element. -/
def minImp : List (Option Int) → Option Int
  | [] => none
  | x :: xs => xs.foldl (fun best y => if impLt y best then y else best) x

/-- `_get_importance`. -/
def getImportance (a : Adm) (st : State) (packPath : List Nat) : Option Int × Option Int :=
  ((match st.objPath with
    | some p => minImp (p.map fun o => (a.obj o).importance)
    | none => none),
   minImp (packPath.map fun p => (a.fmt.pack p).importance))

/-- `_get_RenderingItems_Objects` / `_DirectSpeakers`: one item per allocated channel. -/
def singleItem (a : Adm) (st : State) (ty p : Nat) (ct : Nat × TSpec) : Except Err Item :=
  match getPackFormatPath a.fmt p ct.1 with
  | .error e => .error e
  | .ok pp =>
    match getExtraData a st [(pp, ct.1)] (some ct.1) with
    | .error e => .error e
    | .ok ex => .ok {
        kind := ty, tracks := [ct.2], channels := [ct.1],
        programme := st.programme, content := st.content, objPath := st.objPath,
        packPaths := [pp], extra := ex, importances := [getImportance a st pp],
        blocks := (a.fmt.chan ct.1).blocks, hoa := none }

/-- `hoa._get_pack_param`: a parameter that may sit on any pack of the path or on the block. -/
def hoaPackParam {β : Type} [DecidableEq β] (f : Formats) (ps : Pack → Option β) (bs : HoaBlock → Option β)
    (pc : List Nat × Nat) : Except Err (Option β) :=
  getPathParam (pc.1.map (fun p => ps (f.pack p)) ++ [bs (f.chan pc.2).hoa])

/-- `_select_single_channel` for the HOA case: `(audioPackFormat_path, audioChannelFormat)`. -/
def hoaPathOf (f : Formats) (p : Nat) (ct : Nat × TSpec) : Except Err (List Nat × Nat) :=
  match getPackFormatPath f p ct.1 with
  | .error e => .error e
  | .ok pp => .ok (pp, ct.1)

/-- `hoa.get_normalization` (default "SN3D" = label 0). -/
def hoaNorm (f : Formats) (pc : List Nat × Nat) : Except Err Nat :=
  match hoaPackParam f (·.normalization) (·.normalization) pc with
  | .error e => .error e
  | .ok v => .ok (v.getD 0)

/-- `hoa.get_nfcRefDist` (0.0 means "not set"). -/
def hoaNfc (f : Formats) (pc : List Nat × Nat) : Except Err (Option Rat) :=
  match hoaPackParam f (·.nfcRefDist) (·.nfcRefDist) pc with
  | .error e => .error e
  | .ok v => .ok (if v = some 0 then none else v)

/-- `hoa.get_screenRef` (default False). -/
def hoaSref (f : Formats) (pc : List Nat × Nat) : Except Err Bool :=
  match hoaPackParam f (·.screenRef) (·.screenRef) pc with
  | .error e => .error e
  | .ok v => .ok (v.getD false)

/-- the `HOATypeMetadata` parameters of `_get_RenderingItems_HOA`, in evaluation order. -/
def hoaMetaOf (f : Formats) (ppc : List (List Nat × Nat)) : Except Err HoaMeta :=
  let blk (c : Nat) := (f.chan c).hoa
  match getSingleParam ppc (fun pc => (.ok (blk pc.2).rtime : Except Err (Option Rat))) with
  | .error e => .error e
  | .ok rtime =>
  match getSingleParam ppc (fun pc => (.ok (blk pc.2).duration : Except Err (Option Rat))) with
  | .error e => .error e
  | .ok duration =>
  match getSingleParam ppc (hoaNorm f) with
  | .error e => .error e
  | .ok norm =>
  match getSingleParam ppc (hoaNfc f) with
  | .error e => .error e
  | .ok nfc =>
  match getSingleParam ppc (hoaSref f) with
  | .error e => .error e
  | .ok sref => .ok {
      rtime := rtime, duration := duration,
      orders := ppc.map fun pc => (blk pc.2).order,
      degrees := ppc.map fun pc => (blk pc.2).degree,
      gains := ppc.map fun pc => (blk pc.2).gain,
      importances := ppc.map fun pc => (blk pc.2).importance,
      normalization := norm, nfcRefDist := nfc, screenRef := sref }

/-- `_get_RenderingItems_HOA`: one item per allocated pack. -/
def hoaItem (a : Adm) (st : State) (ap : AllocPack) : Except Err Item :=
  match mapE (hoaPathOf a.fmt ap.pack) ap.alloc with
  | .error e => .error e
  | .ok ppc =>
    match hoaMetaOf a.fmt ppc with
    | .error e => .error e
    | .ok hm =>
      match getExtraData a st ppc none with
      | .error e => .error e
      | .ok ex => .ok {
          kind := 4, tracks := ap.alloc.map (·.2), channels := ppc.map (·.2),
          programme := st.programme, content := st.content, objPath := st.objPath,
          packPaths := ppc.map (·.1), extra := ex,
          importances := ppc.map fun pc => getImportance a st pc.1,
          blocks := [], hoa := some hm }

/-- `_get_rendering_items`. -/
def itemsOfPack (a : Adm) (st : State) (ap : AllocPack) : Except Err (List Item) :=
  let ty := (a.fmt.pack ap.pack).type
  if ty = 3 ∨ ty = 1 then mapE (singleItem a st ty ap.pack) ap.alloc
  else if ty = 4 then
    match hoaItem a st ap with
    | .error e => .error e
    | .ok it => .ok [it]
  else .error .notImplemented

/-- items of one selected state: `select_pack_mapping` then `_get_rendering_items`. -/
def itemsOfState (a : Adm) (st : State) : Except Err (List Item) :=
  match selectPackMapping a st with
  | .error e => .error e
  | .ok packs => flatMapE (itemsOfPack a st) packs

/-- the selected states: `_select_programme_content_objects` filtered by
`_select_only_selected_complementary`. -/
def selectStates (a : Adm) (given : Option Nat) (ign : List Nat) : List State :=
  (selectPCO a given).flatMap (onlySelected ign)

/-- `select_rendering_items(adm, audio_programme, selected_complementary_objects)`
on a document that passed `validate_structure`. -/
def selectRenderingItems (a : Adm) (given : Option Nat) (sel : List Nat) : Except Err (List Item) :=
  match wrappedPacks a.fmt with          -- `_PackAllocator(adm)` is built first
  | .error e => .error e
  | .ok _ =>
    match selectComplementary a sel with
    | .error e => .error e
    | .ok ign => flatMapE (itemsOfState a) (selectStates a given ign)

/-! ### what `validate_structure` establishes about the pack/channel graph

Decidable predicates on the document, evaluated by the C06 driver (`W` request) on the documents the
harness generates and compared there with the real `_validate_pack_channel_multitree`; the C06 theorems
take them as hypotheses (`Proofs/C06Decl.lean`: `allocWF_of_multitree`). -/

/-- a node of the audioPackFormat → audioPackFormat / audioChannelFormat reference graph. -/
inductive PNode where
  | pack (i : Nat)
  | chan (i : Nat)
  deriving DecidableEq, Repr

/-- the nodes that `dfs(audioPackFormat p, {}, ())` of `validate._validate_pack_channel_multitree` visits,
in visiting order (`get_children(node)` = `node.audioPackFormats + node.audioChannelFormats`), cut below
depth `fuel`. -/
def mtVisit (f : Formats) : Nat → Nat → List PNode
  | 0, _ => []
  | fuel + 1, p =>
    .pack p :: ((f.pack p).subPacks.flatMap (mtVisit f fuel) ++ (f.pack p).channels.map .chan)

/-- `_validate_pack_channel_multitree` passes: starting from no audioPackFormat is a node visited twice
(the `paths` dict of the dfs holds the nodes visited so far; a second visit raises the loop or the
"included more than once" exception).  Depth `len(audioPackFormats) + 1` shows every loop. -/
def multitreeOK (f : Formats) : Bool :=
  (List.range f.packs.length).all fun p => decide (mtVisit f (f.packs.length + 1) p).Nodup

/-- every `AllocationPack` built by `get_wrapped_packs` has at least one channel.  NOT established by
`validate_structure` (an audioPackFormat without channels and sub-packs passes it); `allocate_packs` never
allocates such a pack. -/
def wrappedNonempty (f : Formats) : Bool :=
  match wrappedPacks f with
  | .ok wps => wps.all fun w => !w.channels.isEmpty
  | .error _ => true

/-! ### the document as `validate_structure` sees it (link to the C14 model)

`toDoc a` is the document graph of the C14 model (`Model/AdmV.lean`, `Model/Validate.lean`) that the same real
ADM document serialises to, on the part of the document both models carry: all references, element types,
which object parameters are set, the HOA / Matrix block attributes validation reads.  Values that the C14 model
only compares for equality are tokens there; rationals are mapped to tokens by an injective encoding
(`ratTok`, 0 ↦ 0).  What the selection model does not carry is filled with the value a valid document has
(`cartMismatch`, `equation`, `badVar` = false; `v2Allowed` = true; every audioTrackUID has a track index). -/

/-- `TypeDefinition` of a numeric type code (1 DirectSpeakers, 2 Matrix, 3 Objects, 4 HOA, 5 Binaural). -/
def tdType : Nat → AdmV.TypeDef
  | 2 => .matrix
  | 3 => .objects
  | 4 => .hoa
  | 5 => .binaural
  | _ => .directSpeakers

/-- injective token of a rational (0 ↦ 0): Cantor pairing of the zig-zag numerator and the denominator. -/
def ratTok (q : Rat) : Nat :=
  if q = 0 then 0
  else
    let n : Nat := if q.num < 0 then 2 * q.num.natAbs - 1 else 2 * q.num.natAbs
    (n + q.den) * (n + q.den + 1) / 2 + q.den + 1

def boolTok (b : Bool) : Nat := if b then 1 else 0

def tdPack (p : Pack) : AdmV.Pack :=
  { type := tdType p.type, channels := p.channels, packs := p.subPacks, encodePacks := p.encodePacks,
    input := p.inputPack, output := p.outputPack, norm := p.normalization, scr := p.screenRef.map boolTok,
    nfc := p.nfcRefDist.map ratTok, absDist := p.absDist.map ratTok }

/-- the audioBlockFormats of a channel: the single HOA / Matrix block with the attributes validation reads, else
one attribute-less block per block label. -/
def tdBlocks (c : Channel) : List AdmV.Block :=
  if c.type = 4 ∧ c.blocks.length = 1 then
    [{ order := some c.hoa.order, degree := some c.hoa.degree, norm := c.hoa.normalization,
       scr := c.hoa.screenRef.map boolTok, rtime := c.hoa.rtime.map ratTok,
       duration := c.hoa.duration.map ratTok, nfc := c.hoa.nfcRefDist.map ratTok }]
  else if c.type = 2 ∧ c.blocks.length = 1 then
    [{ outCh := c.matrix.outputChannel,
       coeffs := c.matrix.coeffs.map fun k =>
         { input := some k.input, negDelay := match k.delay with | some d => decide (d < 0) | none => false } }]
  else c.blocks.map fun _ => {}

def tdChan (c : Channel) : AdmV.Channel :=
  { type := tdType c.type, freq := c.lowPass.isSome || c.highPass.isSome, blocks := tdBlocks c }

def tdObj (o : Obj) : AdmV.Obj :=
  { objects := o.subObjects, packs := o.packs, tracks := o.tracks, comps := o.complementary,
    pstart := o.start.isSome, pdur := o.duration.isSome, pgain := o.gain != 1, pmute := o.mute,
    poffset := o.posOff.isSome, avs := o.avs.map (·.label) }

def tdUid (u : TrackUID) : AdmV.TrackUID :=
  match u.ref with
  | .trackFormat t => { trackIndex := some u.trackIndex, pack := some u.pack, trackFormat := some t }
  | .channel c => { trackIndex := some u.trackIndex, pack := some u.pack, channel := some c }

/-- the C14 document graph of an index-based document. -/
def toDoc (a : Adm) : AdmV.Doc :=
  { v2Allowed := true,
    programmes := a.programmes.map fun p => { contents := p.contents, avs := p.avs },
    contents := a.contents.map fun c => { objects := c.objects, avs := c.avs },
    objects := a.objects.map tdObj,
    packs := a.fmt.packs.map tdPack,
    channels := a.fmt.channels.map tdChan,
    streams := a.fmt.streamFormats.map fun c => { channel := some c },
    trackFormats := a.fmt.trackFormats.map fun s => { stream := some s },
    trackUIDs := a.fmt.trackUIDs.map tdUid }

end Earverif.Adm
